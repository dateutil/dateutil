/-
  Properties/TzGen.lean — obligations that tie C04 / C05 / C06 / C08 to the CURRENT source of the time-zone lookup
  code: every function of tz/tz.py (`tzfile` lookups, `_datetime_to_timestamp`) and tz/_common.py (`tzrangebase`)
  that the hand model Model/Zones.lean mirrors is re-translated from /repo on every run (harness/translate_dt.py →
  Generated/TzKernels.lean, `Gen.*`) and proved EQUAL to the model function here (`gen_eq_model_<function>`), for all
  zones and all datetimes WITH microseconds (`TzGen.D s f fold att`: naive reading `s` seconds + `f` µs, `0 ≤ f < 10^6`);
  the central property theorems are restated about the translated functions (`…_gen`).  A behaviour-changing edit of
  one of these functions breaks the translation (named construct) or the obligation named after it.
-/
import DateutilVerif.Properties.C04
import DateutilVerif.Properties.C05
import DateutilVerif.Properties.C06
import DateutilVerif.Proofs.TzGenEq
import DateutilVerif.Proofs.TzGenEqRange
import DateutilVerif.Proofs.TzGenEqGeneric
import DateutilVerif.Proofs.ZonesBuild

open TZ Spec Py DtPy TzGen

namespace C04

theorem gen_eq_model_datetime_to_timestamp (d : Dt) : Gen.datetimeToTimestamp d = .ok d.us := ts_eq d

theorem gen_eq_model_find_last_transition (z : TzFile) (s f : Int) (fold att : Bool) (h0 : 0 ≤ f) (h1 : f < M) :
    Gen.tzfile_findLastTransition z (D s f fold att) true = .ok (findLastUtc z s) ∧
    Gen.tzfile_findLastTransition z (D s f fold att) false = .ok (findLastWall z ⟨s, fold⟩) :=
  ⟨findLast_utc_eq z s f fold att h0 h1, findLast_wall_eq z s f fold att h0 h1⟩

theorem gen_eq_model_get_ttinfo (r : Raw) (hwf : Spec.wf r = true) (hne : r.trans ≠ []) (c : Nat)
    (hc : c ≤ (build r).utc.length) :
    Gen.tzfile_getTtinfo (build r) (some ((c : Int) - 1)) = .ok (getTtinfo (build r) (some ((c : Int) - 1))) ∧
    Gen.tzfile_getTtinfo (build r) none = .ok (getTtinfo (build r) none) := by
  obtain ⟨b, s, _, _, _, hco, _⟩ := build_coherent r hwf hne
  exact ⟨getTtinfo_some_eq hco c hc, getTtinfo_none_eq⟩

theorem gen_eq_model_fromutc (r : Raw) (hwf : Spec.wf r = true) (hne : r.trans ≠ []) (t f : Int)
    (h0 : 0 ≤ f) (h1 : f < M) :
    Gen.tzfile_fromutc (build r) (D t f false true) = (TZ.fromutc (build r) t).map fun w => D w.wall f w.fold true := by
  obtain ⟨b, s, _, _, _, hco, _⟩ := build_coherent r hwf hne
  exact fromutc_eq hco t f h0 h1

theorem gen_eq_model_utcoffset (r : Raw) (hwf : Spec.wf r = true) (hne : r.trans ≠ []) (s f : Int) (fold att : Bool)
    (h0 : 0 ≤ f) (h1 : f < M) :
    Gen.tzfile_utcoffset (build r) (D s f fold att) = (TZ.utcoffset (build r) ⟨s, fold⟩).map (· * M) := by
  obtain ⟨b, s0, _, _, _, hco, _⟩ := build_coherent r hwf hne
  exact utcoffset_eq hco s f fold att h0 h1

theorem gen_eq_model_range_fromutc (z : RangeZone) (t f : Int) (h0 : 0 ≤ f) (h1 : f < M) :
    Gen.tzrange_fromutc z (D t f false true) = (z.fromutc t).map fun w => D w.wall f w.fold true :=
  range_fromutc_eq z t f h0 h1

theorem gen_eq_model_range_utcoffset (z : RangeZone) (x f : Int) (fold att : Bool) (h0 : 0 ≤ f) (h1 : f < M) :
    Gen.tzrange_utcoffset z (D x f fold att) = (z.utcoffset ⟨x, fold⟩).map (· * M) :=
  range_utcoffset_eq z x f fold att h0 h1

theorem gen_eq_model_tzinfo_fromutc (z : GenericZone) (t f : Int) (att : Bool) (h0 : 0 ≤ f) (h1 : f < M) :
    Gen.tzinfo_fromutcWall z (D t f false att) = .ok (D (z.fromutcWall t) f false att) ∧
    Gen.tzinfo_fromutc z (D t f false att) = .ok (D (z.fromutc t).wall f (z.fromutc t).fold att) :=
  ⟨generic_fromutcWall_eq z t f att h0 h1, generic_fromutc_eq z t f att h0 h1⟩

/-- C04.roundtrip about the TRANSLATED `tzfile.fromutc` / `tzfile.utcoffset`, for instants with microseconds: the
    conversion keeps the microseconds, reports `wall − utc` as the offset, hence converts back to the instant -/
theorem roundtrip_gen (r : Raw) (hwf : Spec.wf r = true) (hne : r.trans ≠ []) (t f : Int) (h0 : 0 ≤ f) (h1 : f < M)
    (hcov : (∃ u, lastTime r = some u ∧ t < u) ∨ LastStd (build r)) :
    ∃ w : Wall, Gen.tzfile_fromutc (build r) (D t f false true) = .ok (D w.wall f w.fold true) ∧
      Gen.tzfile_utcoffset (build r) (D w.wall f w.fold true) = .ok ((w.wall - t) * M) := by
  obtain ⟨w, hf, ho, _⟩ := roundtrip r hwf hne t hcov
  refine ⟨w, ?_, ?_⟩
  · rw [gen_eq_model_fromutc r hwf hne t f h0 h1, hf]; rfl
  · rw [gen_eq_model_utcoffset r hwf hne w.wall f w.fold true h0 h1, ho]; rfl

end C04

namespace C05

theorem gen_eq_model_is_ambiguous (r : Raw) (hwf : Spec.wf r = true) (hne : r.trans ≠ []) (s f : Int) (fold att : Bool)
    (h0 : 0 ≤ f) (h1 : f < M) :
    Gen.tzfile_isAmbiguous (build r) (D s f fold att) none = .ok (TZ.isAmbiguous (build r) s) := by
  obtain ⟨b, s0, _, _, _, hco, _⟩ := build_coherent r hwf hne
  exact isAmb_none hco s f fold att h0 h1

theorem gen_eq_model_is_ambiguous_idx (r : Raw) (hwf : Spec.wf r = true) (hne : r.trans ≠ []) (s f : Int)
    (fold att : Bool) (h0 : 0 ≤ f) (h1 : f < M) (c : Nat) (hc : c ≤ (build r).utc.length) :
    Gen.tzfile_isAmbiguous (build r) (D s f fold att) (some ((c : Int) - 1)) =
      .ok (isAmbiguousIdx (build r) s (some ((c : Int) - 1))) := by
  obtain ⟨b, s0, _, _, _, hco, _⟩ := build_coherent r hwf hne
  exact isAmb_at hco s f fold att h0 h1 c hc

theorem gen_eq_model_offset_before (r : Raw) (hwf : Spec.wf r = true) (hne : r.trans ≠ []) (i : Nat)
    (hi : i < (build r).utc.length) :
    ∃ v, offsetBefore (build r) (i : Int) = some v ∧ Gen.tzfile_offsetBefore (build r) (i : Int) = .ok v := by
  obtain ⟨b, s0, _, _, _, hco, _⟩ := build_coherent r hwf hne
  exact ⟨_, hco.offsetBefore_eq i hi, offsetBefore_eq hco i hi⟩

theorem gen_eq_model_range_is_ambiguous (z : RangeZone) (x f : Int) (fold att : Bool) (h0 : 0 ≤ f) (h1 : f < M) :
    Gen.tzrange_isAmbiguous z (D x f fold att) = z.isAmbiguous x := range_isAmbiguous_eq z x f fold att h0 h1

theorem gen_eq_model_range_isdst (z : RangeZone) (x f : Int) (fold att : Bool) (h0 : 0 ≤ f) (h1 : f < M) :
    Gen.tzrange_isdst z (D x f fold att) = z.isdst ⟨x, fold⟩ := range_isdst_eq z x f fold att h0 h1

theorem gen_eq_model_naive_isdst (z : RangeZone) (x f : Int) (fold att : Bool) (a b : Int) (h0 : 0 ≤ f) (h1 : f < M) :
    Gen.tzrange_naiveIsdst z (D x f fold att) (Dn a, Dn b) = .ok (RangeZone.naiveIsdst x (a, b)) :=
  naiveIsdst_eq z x f fold att a b h0 h1

theorem gen_eq_model_tzinfo_is_ambiguous (z : GenericZone) (w f : Int) (fold att : Bool) (h0 : 0 ≤ f) (h1 : f < M) :
    Gen.tzinfo_isAmbiguous z (D w f fold att) = .ok (z.utcoffset ⟨w, false⟩ != z.utcoffset ⟨w, true⟩) ∧
    DtPy.dispatchAmbiguous z (Gen.tzinfo_isAmbiguous z) (D w f fold att) = .ok (z.isAmbiguous w) :=
  ⟨generic_isAmbiguous_eq z w f fold att h0 h1, dispatch_eq z w f fold att h0 h1⟩

theorem gen_eq_model_tzinfo_fold_status (z : GenericZone) (t w f : Int) (fw aw au : Bool) (h0 : 0 ≤ f) (h1 : f < M) :
    Gen.tzinfo_foldStatus z (D t f false au) (D w f fw aw) = .ok (DtPy.b2i (z.foldStatus t w)) :=
  generic_foldStatus_eq z t w f fw aw au h0 h1

/-- C05.ambiguous_iff about the TRANSLATED `tzfile.is_ambiguous`: it answers True exactly for wall times with two
    pre-images, whatever the microseconds -/
theorem ambiguous_iff_gen (r : Raw) (hwf : Spec.wf r = true) (hne : r.trans ≠ []) (w f : Int) (fold att : Bool)
    (h0 : 0 ≤ f) (h1 : f < M) :
    Gen.tzfile_isAmbiguous (build r) (D w f fold att) none = .ok true ↔ (Spec.pre r w).length = 2 := by
  rw [gen_eq_model_is_ambiguous r hwf hne w f fold att h0 h1, ← ambiguous_iff r hwf hne w]
  constructor
  · intro h; injection h
  · intro h; rw [h]

end C05

namespace C06

theorem gen_eq_model_find_ttinfo (r : Raw) (hwf : Spec.wf r = true) (hne : r.trans ≠ []) (s f : Int) (fold att : Bool)
    (h0 : 0 ≤ f) (h1 : f < M) :
    Gen.tzfile_findTtinfo (build r) (D s f fold att) = .ok (findTtinfo (build r) ⟨s, fold⟩) := by
  obtain ⟨b, s0, _, _, _, hco, _⟩ := build_coherent r hwf hne
  exact findTtinfo_eq hco s f fold att h0 h1

theorem gen_eq_model_utcoffset (r : Raw) (hwf : Spec.wf r = true) (hne : r.trans ≠ []) (s f : Int) (fold att : Bool)
    (h0 : 0 ≤ f) (h1 : f < M) :
    Gen.tzfile_utcoffset (build r) (D s f fold att) = (TZ.utcoffset (build r) ⟨s, fold⟩).map (· * M) :=
  C04.gen_eq_model_utcoffset r hwf hne s f fold att h0 h1

theorem gen_eq_model_dst (r : Raw) (hwf : Spec.wf r = true) (hne : r.trans ≠ []) (s f : Int) (fold att : Bool)
    (h0 : 0 ≤ f) (h1 : f < M) :
    Gen.tzfile_dst (build r) (D s f fold att) = (TZ.dst (build r) ⟨s, fold⟩).map (· * M) := by
  obtain ⟨b, s0, _, _, _, hco, _⟩ := build_coherent r hwf hne
  exact dst_eq hco s f fold att h0 h1

theorem gen_eq_model_tzname (r : Raw) (hwf : Spec.wf r = true) (hne : r.trans ≠ []) (s f : Int) (fold att : Bool)
    (h0 : 0 ≤ f) (h1 : f < M) :
    Gen.tzfile_tzname (build r) (D s f fold att) = TZ.tzname (build r) ⟨s, fold⟩ := by
  obtain ⟨b, s0, _, _, _, hco, _⟩ := build_coherent r hwf hne
  exact tzname_eq hco s f fold att h0 h1

theorem gen_eq_model_fromutc (r : Raw) (hwf : Spec.wf r = true) (hne : r.trans ≠ []) (t f : Int)
    (h0 : 0 ≤ f) (h1 : f < M) :
    Gen.tzfile_fromutc (build r) (D t f false true) = (TZ.fromutc (build r) t).map fun w => D w.wall f w.fold true :=
  C04.gen_eq_model_fromutc r hwf hne t f h0 h1

/-- C06.lookup_exact about the TRANSLATED functions: the converted instant shows the offset and abbreviation of the
    type the TZif data puts in force at that instant -/
theorem lookup_exact_gen (r : Raw) (hwf : Spec.wf r = true) (hne : r.trans ≠ []) (t u f : Int) (h0 : 0 ≤ f) (h1 : f < M)
    (hlast : lastTime r = some u) (h2 : t < u) :
    ∃ (w : Wall) (ty : TType), Gen.tzfile_fromutc (build r) (D t f false true) = .ok (D w.wall f w.fold true) ∧
      Spec.typeAt r t = some ty ∧ w.wall = t + ty.off ∧
      Gen.tzfile_utcoffset (build r) (D w.wall f w.fold true) = .ok (ty.off * M) ∧
      Gen.tzfile_tzname (build r) (D w.wall f w.fold true) = .ok (some ty.abbr) := by
  obtain ⟨w, ty, hf, hty, hw, ho, hn⟩ := lookup_exact r hwf t u hlast h2
  refine ⟨w, ty, ?_, hty, hw, ?_, ?_⟩
  · rw [gen_eq_model_fromutc r hwf hne t f h0 h1, hf]; rfl
  · rw [gen_eq_model_utcoffset r hwf hne w.wall f w.fold true h0 h1, ho]; rfl
  · rw [gen_eq_model_tzname r hwf hne w.wall f w.fold true h0 h1, hn]

end C06

namespace C08

theorem gen_eq_model_naive_isdst (z : RangeZone) (x f : Int) (fold att : Bool) (a b : Int) (h0 : 0 ≤ f) (h1 : f < M) :
    Gen.tzrange_naiveIsdst z (D x f fold att) (Dn a, Dn b) = .ok (RangeZone.naiveIsdst x (a, b)) :=
  naiveIsdst_eq z x f fold att a b h0 h1

theorem gen_eq_model_isdst (z : RangeZone) (x f : Int) (fold att : Bool) (h0 : 0 ≤ f) (h1 : f < M) :
    Gen.tzrange_isdst z (D x f fold att) = z.isdst ⟨x, fold⟩ := range_isdst_eq z x f fold att h0 h1

theorem gen_eq_model_is_ambiguous (z : RangeZone) (x f : Int) (fold att : Bool) (h0 : 0 ≤ f) (h1 : f < M) :
    Gen.tzrange_isAmbiguous z (D x f fold att) = z.isAmbiguous x := range_isAmbiguous_eq z x f fold att h0 h1

theorem gen_eq_model_utcoffset (z : RangeZone) (x f : Int) (fold att : Bool) (h0 : 0 ≤ f) (h1 : f < M) :
    Gen.tzrange_utcoffset z (D x f fold att) = (z.utcoffset ⟨x, fold⟩).map (· * M) :=
  range_utcoffset_eq z x f fold att h0 h1

theorem gen_eq_model_dst (z : RangeZone) (x f : Int) (fold att : Bool) (h0 : 0 ≤ f) (h1 : f < M) :
    Gen.tzrange_dst z (D x f fold att) = (z.dst ⟨x, fold⟩).map (· * M) := range_dst_eq z x f fold att h0 h1

theorem gen_eq_model_tzname (z : RangeZone) (x f : Int) (fold att : Bool) (h0 : 0 ≤ f) (h1 : f < M) :
    Gen.tzrange_tzname z (D x f fold att) = z.tzname ⟨x, fold⟩ := range_tzname_eq z x f fold att h0 h1

theorem gen_eq_model_fromutc (z : RangeZone) (t f : Int) (h0 : 0 ≤ f) (h1 : f < M) :
    Gen.tzrange_fromutc z (D t f false true) = (z.fromutc t).map fun w => D w.wall f w.fold true :=
  range_fromutc_eq z t f h0 h1

theorem gen_eq_model_dst_base_offset (z : RangeZone) : Gen.tzrange_dstBaseOffset z = .ok (z.saving * M) :=
  dstBase_eq z

end C08
