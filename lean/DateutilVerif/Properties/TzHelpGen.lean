/-
  Properties/TzHelpGen.lean — obligations that tie C05 to the CURRENT source of the module-level PEP 495 helpers:
  `datetime_exists`, `datetime_ambiguous` (all argument forms: aware dt; naive dt + tz; aware dt + tz) and `resolve_imaginary`
  (the text after the D-C05g repair) are re-translated from tz/tz.py on every run (harness/translate_tzhelp.py →
  Generated/TzHelpKernels.lean) and proved EQUAL to the helper models of Model/Zones.lean (`datetimeExistsArgs`,
  `datetimeAmbiguousArgs`, `resolveImaginaryArgs`), for every zone object other than the constant `UTC` itself (for which
  `astimezone` short-cuts by identity; separate lemma).  `exists_iff`, `ambiguous_iff`, `resolve_imaginary_of_exists` and
  `resolve_imaginary_gap` are restated about the translated helpers.
-/
import DateutilVerif.Properties.C05
import DateutilVerif.Generated.TzHelpKernels

set_option linter.unusedSimpArgs false
set_option linter.unusedVariables false

open TZ Spec Py HelpPy

namespace C05

/-- the datetime the helpers receive: wall reading, fold, tzinfo -/
def hdt (w : Wall) (dz : Option HelpPy.Zone) : HDt := { wall := w.wall, fold := w.fold, tz := dz }

/-- a zone object that is not the constant `UTC` -/
def NotUTC (z : Option HelpPy.Zone) : Prop := ∀ x, z = some x → x.id ≠ 0

theorem beq_comm_int (a b : Int) : (a == b) = (b == a) := by
  by_cases h : a = b
  · subst h; rfl
  · have h' : ¬ b = a := fun x => h x.symm
    rw [beq_eq_false_iff_ne.mpr h, beq_eq_false_iff_ne.mpr h']

theorem roundtrip_eq (Z : HelpPy.Zone) (hz : Z.id ≠ 0) (w : Wall) :
    (do let t1 ← astimezone (replaceTz (replaceTz (hdt w none) none) (some Z)) HelpPy.UTC
        let t3 ← astimezone t1 Z
        pure t3 : R HDt) =
    (do let o ← Z.ops.utcoffset w
        let rt ← Z.ops.fromutc (w.wall - o)
        pure ({ wall := rt.wall, fold := rt.fold, tz := some Z } : HDt)) := by
  have h0 : ¬ (0 = Z.id) := fun h => hz h.symm
  simp only [astimezone, replaceTz, hdt, HelpPy.UTC, hz, h0, ↓reduceIte, bind, Except.bind, pure, Except.pure]
  cases ho : Z.ops.utcoffset w with
  | error e => simp [ho]
  | ok o =>
      have : Z.ops.utcoffset { wall := w.wall, fold := w.fold } = .ok o := ho
      simp only [this, h0, ↓reduceIte, Int.sub_zero]
      cases Z.ops.fromutc (w.wall - o) <;> rfl

/-- **gen_datetime_exists_eq_model.** The translated `datetime_exists(dt, tz)` is the helper model, for every argument form:
    an explicit `tz` wins over the datetime's own zone, a naive datetime without `tz` is a ValueError. -/
theorem gen_datetime_exists_eq_model (w : Wall) (dz tz : Option HelpPy.Zone) (hd : NotUTC dz) (ht : NotUTC tz) :
    Gen.datetimeExists (hdt w dz) tz = datetimeExistsArgs (dz.map (·.ops)) (tz.map (·.ops)) w := by
  have key : ∀ Z : HelpPy.Zone, Z.id ≠ 0 → ∀ d0 : Option HelpPy.Zone,
      (do let t1 ← astimezone (replaceTz (replaceTz (hdt w d0) none) (some Z)) HelpPy.UTC
          let t2 ← (pure Z : R HelpPy.Zone)
          let t3 ← astimezone t1 t2
          pure ((replaceTz (hdt w d0) none).wall == (replaceTz t3 none).wall) : R Bool) = datetimeExists Z.ops w := by
    intro Z hz d0
    have h0 : ¬ (0 = Z.id) := fun h => hz h.symm
    have hw : ({ wall := w.wall, fold := w.fold } : Wall) = w := rfl
    unfold datetimeExists
    simp only [astimezone, replaceTz, hdt, HelpPy.UTC, hz, h0, ↓reduceIte, bind, Except.bind, pure, Except.pure, hw]
    cases ho : Z.ops.utcoffset w with
    | error e => rfl
    | ok o =>
        simp only [h0, ↓reduceIte, Int.sub_zero]
        cases hf : Z.ops.fromutc (w.wall - o) with
        | error e => rfl
        | ok rt =>
            simp only [Except.ok.injEq]
            exact beq_comm_int _ _
  unfold Gen.datetimeExists
  cases tz with
  | some Z =>
      have hz := ht Z rfl
      simp only [Option.isNone_some, Bool.false_eq_true, ↓reduceIte, datetimeExistsArgs, resolveZoneArg, Option.map_some,
        bind, Except.bind]
      have := key Z hz dz
      simp only [bind, Except.bind, pure, Except.pure] at this ⊢
      exact this
  | none =>
      cases dz with
      | none => simp [hdt, datetimeExistsArgs, resolveZoneArg, bind, Except.bind, throw, throwThe, MonadExceptOf.throw]
      | some Z =>
          have hz := hd Z rfl
          simp only [Option.isNone_none, ↓reduceIte, hdt, Option.isNone_some, Bool.false_eq_true, datetimeExistsArgs,
            resolveZoneArg, Option.map_some, Option.map_none, bind, Except.bind]
          have := key Z hz (some Z)
          simp only [hdt, bind, Except.bind, pure, Except.pure] at this ⊢
          exact this

/-- **gen_datetime_ambiguous_eq_model.** The translated `datetime_ambiguous(dt, tz)` is the helper model for every argument
    form, for zones that define `is_ambiguous` and whose `is_ambiguous` does not raise at this wall time (all dateutil zones). -/
theorem gen_datetime_ambiguous_eq_model (w : Wall) (dz tz : Option HelpPy.Zone)
    (hZ : ∀ Z, (tz.or dz) = some Z → Z.hasIsAmbiguous = true ∧ ∃ b, Z.ops.isAmbiguous w.wall = .ok b) :
    Gen.datetimeAmbiguous (hdt w dz) tz = datetimeAmbiguousArgs (dz.map (·.ops)) (tz.map (·.ops)) w := by
  unfold Gen.datetimeAmbiguous
  cases tz with
  | some Z =>
      obtain ⟨h1, b, h2⟩ := hZ Z (by simp)
      simp [hdt, datetimeAmbiguousArgs, datetimeAmbiguous, resolveZoneArg, HelpPy.hasIsAmbiguous, callIsAmbiguous, h1, h2,
        bind, Except.bind, pure, Except.pure]
  | none =>
      cases dz with
      | none => simp [hdt, datetimeAmbiguousArgs, resolveZoneArg, bind, Except.bind, throw, throwThe, MonadExceptOf.throw]
      | some Z =>
          obtain ⟨h1, b, h2⟩ := hZ Z (by simp)
          simp [hdt, datetimeAmbiguousArgs, datetimeAmbiguous, resolveZoneArg, HelpPy.hasIsAmbiguous, callIsAmbiguous, h1, h2,
            bind, Except.bind, pure, Except.pure]

/-- the fallback of `datetime_ambiguous` for a tzinfo WITHOUT `is_ambiguous`: fold changes the offset or the dst -/
theorem gen_datetime_ambiguous_fallback (w : Wall) (Z : HelpPy.Zone) (h : Z.hasIsAmbiguous = false) :
    Gen.datetimeAmbiguous (hdt w none) (some Z) =
      (do let o0 ← Z.ops.utcoffset ⟨w.wall, false⟩
          let o1 ← Z.ops.utcoffset ⟨w.wall, true⟩
          let d0 ← Z.dst ⟨w.wall, false⟩
          let d1 ← Z.dst ⟨w.wall, true⟩
          pure (!(o0 == o1 && d0 == d1))) := by
  unfold Gen.datetimeAmbiguous
  simp only [hdt, HelpPy.hasIsAmbiguous, h, replaceTz, enfold, HelpPy.utcoffset, HelpPy.dst, bind, Except.bind, pure,
    Except.pure, Option.isNone_some, Bool.false_eq_true, ↓reduceIte, Except.map]
  have f0 : decide ((0 : Int) ≠ 0) = false := by decide
  have f1 : decide ((1 : Int) ≠ 0) = true := by decide
  simp only [f0, f1]
  cases Z.ops.utcoffset ⟨w.wall, false⟩ with
  | error e => rfl
  | ok o0 =>
    cases Z.ops.utcoffset ⟨w.wall, true⟩ with
    | error e => rfl
    | ok o1 =>
      cases Z.dst ⟨w.wall, false⟩ with
      | error e => rfl
      | ok d0 =>
        cases Z.dst ⟨w.wall, true⟩ with
        | error e => rfl
        | ok d1 => simp

/-- **gen_resolve_imaginary_eq_model.** The translated `resolve_imaginary(dt)` (repaired text) is the helper model:
    a naive datetime and an existing time come back unchanged, a skipped time is moved by the UTC round trip's distance,
    fold reset, tzinfo kept. -/
theorem gen_resolve_imaginary_eq_model (w : Wall) (dz : Option HelpPy.Zone) (hd : NotUTC dz) :
    Gen.resolveImaginary (hdt w dz) =
      (resolveImaginaryArgs (dz.map (·.ops)) w).map (fun r => ({ wall := r.wall, fold := r.fold, tz := dz } : HDt)) := by
  unfold Gen.resolveImaginary
  cases dz with
  | none => simp [hdt, resolveImaginaryArgs, Except.map, bind, Except.bind, pure, Except.pure]
  | some Z =>
      have hz := hd Z rfl
      have hex := gen_datetime_exists_eq_model w (some Z) none hd (by intro x hx; cases hx)
      simp only [datetimeExistsArgs, resolveZoneArg, Option.map_some, Option.map_none, bind, Except.bind] at hex
      simp only [hdt, Option.isSome_some, ↓reduceIte, bind, Except.bind, pure, Except.pure, resolveImaginaryArgs,
        Option.map_some, TZ.resolveImaginary] at hex ⊢
      rw [hex]
      cases he : datetimeExists Z.ops w with
      | error e => simp [Except.map]
      | ok b =>
          cases b with
          | true => simp [Except.map]
          | false =>
              have h0 : ¬ (0 = Z.id) := fun h => hz h.symm
              have hw : ({ wall := w.wall, fold := w.fold } : Wall) = w := rfl
              simp only [Bool.not_false, ↓reduceIte, Bool.false_eq_true, astimezone, HelpPy.UTC, hz, h0, hw, addTd, replaceTz,
                Except.map]
              cases ho : Z.ops.utcoffset w with
              | error e => rfl
              | ok o =>
                  simp only [h0, ↓reduceIte, Int.sub_zero]
                  cases hf : Z.ops.fromutc (w.wall - o) with
                  | error e => rfl
                  | ok rt => rfl

/-- a tzfile zone object built from the table `r`, with identity `id` -/
def fileZone (r : Raw) (id : Nat) : HelpPy.Zone :=
  { id := id, ops := (build r).ops, dst := fun w => TZ.dst (build r) w, hasIsAmbiguous := true }

/-- **exists_iff_helper.** `datetime_exists(dt, tz)` as written, `tz` a tzfile zone, `dt` naive or attached to any zone:
    true exactly when the wall time has a pre-image. -/
theorem exists_iff_helper (r : Raw) (hwf : Spec.wf r = true) (hne : r.trans ≠ []) (w : Int) (f : Bool) (hcov : CovWall r w)
    (id : Nat) (hid : id ≠ 0) (dz : Option HelpPy.Zone) (hd : NotUTC dz) :
    Gen.datetimeExists (hdt ⟨w, f⟩ dz) (some (fileZone r id)) = .ok (decide (pre r w ≠ [])) := by
  rw [gen_datetime_exists_eq_model ⟨w, f⟩ dz _ hd (by intro x hx; cases hx; exact hid)]
  simp only [datetimeExistsArgs, resolveZoneArg, Option.map_some, bind, Except.bind]
  exact exists_iff r hwf hne w f hcov

/-- the same for the one-argument form `datetime_exists(aware_dt)` -/
theorem exists_iff_helper_aware (r : Raw) (hwf : Spec.wf r = true) (hne : r.trans ≠ []) (w : Int) (f : Bool) (hcov : CovWall r w)
    (id : Nat) (hid : id ≠ 0) :
    Gen.datetimeExists (hdt ⟨w, f⟩ (some (fileZone r id))) none = .ok (decide (pre r w ≠ [])) := by
  rw [gen_datetime_exists_eq_model ⟨w, f⟩ _ none (by intro x hx; cases hx; exact hid) (by intro x hx; cases hx)]
  simp only [datetimeExistsArgs, resolveZoneArg, Option.map_some, Option.map_none, bind, Except.bind]
  exact exists_iff r hwf hne w f hcov

/-- **ambiguous_iff_helper.** `datetime_ambiguous(dt, tz)` as written answers true exactly when two instants read `w`. -/
theorem ambiguous_iff_helper (r : Raw) (hwf : Spec.wf r = true) (hne : r.trans ≠ []) (w : Int) (f : Bool)
    (id : Nat) (dz : Option HelpPy.Zone) :
    ∃ b, Gen.datetimeAmbiguous (hdt ⟨w, f⟩ dz) (some (fileZone r id)) = .ok b ∧ (b = true ↔ (pre r w).length = 2) := by
  refine ⟨isAmbiguous (build r) w, ?_, ambiguous_iff r hwf hne w⟩
  rw [gen_datetime_ambiguous_eq_model ⟨w, f⟩ dz (some (fileZone r id))
    (by intro Z hZ; simp at hZ; subst hZ; exact ⟨rfl, _, rfl⟩)]
  rfl

/-- **resolve_imaginary_gap_helper.** `resolve_imaginary(dt)` as written (repaired text), `dt` attached to a tzfile zone
    and inside a gap of ANY width whose neighbouring transitions are at least one gap width away: moved forward by exactly
    the gap width, fold 0, same tzinfo, and the result exists. -/
theorem resolve_imaginary_gap_helper (r : Raw) (hwf : Spec.wf r = true) (w : Int) (f : Bool) (u ob oa : Int)
    (hu : u ∈ r.trans.map (fun p => p.1))
    (hob : offsetAt r (u - 1) = some ob) (hoa : offsetAt r u = some oa)
    (hgap : u + ob ≤ w ∧ w < u + oa)
    (hnext : ∀ u' ∈ r.trans.map (fun p => p.1), u < u' → u + (oa - ob) ≤ u')
    (hprev : ∀ u' ∈ r.trans.map (fun p => p.1), u' < u → u' + (oa - ob) ≤ u)
    (hcov : LastStd (build r) ∨ ∃ u' ∈ r.trans.map (fun p => p.1), u < u')
    (id : Nat) (hid : id ≠ 0) :
    Gen.resolveImaginary (hdt ⟨w, f⟩ (some (fileZone r id))) =
      .ok { wall := w + (oa - ob), fold := false, tz := some (fileZone r id) } ∧ pre r (w + (oa - ob)) ≠ [] := by
  obtain ⟨_, h2, h3⟩ := resolve_imaginary_gap r hwf w f u ob oa hu hob hoa hgap hnext hprev hcov
  refine ⟨?_, h3⟩
  rw [gen_resolve_imaginary_eq_model ⟨w, f⟩ _ (by intro x hx; cases hx; exact hid)]
  simp only [resolveImaginaryArgs, Option.map_some]
  have : (fileZone r id).ops = (build r).ops := rfl
  rw [this, h2]; rfl

/-- existing times come back unchanged (`resolve_imaginary_of_exists` about the helper as written) -/
theorem resolve_imaginary_of_exists_helper (w : Wall) (Z : HelpPy.Zone) (hz : Z.id ≠ 0)
    (h : datetimeExists Z.ops w = .ok true) :
    Gen.resolveImaginary (hdt w (some Z)) = .ok (hdt w (some Z)) := by
  rw [gen_resolve_imaginary_eq_model w _ (by intro x hx; cases hx; exact hz)]
  simp only [resolveImaginaryArgs, Option.map_some, resolve_imaginary_of_exists Z.ops w h]
  rfl

/-- `datetime_exists(dt, UTC)` with the constant `UTC` itself: `astimezone` short-cuts by identity and the answer is True -/
theorem gen_datetime_exists_utc (w : Wall) (dz : Option HelpPy.Zone) :
    Gen.datetimeExists (hdt w dz) (some HelpPy.UTC) = .ok true := by
  unfold Gen.datetimeExists
  simp [hdt, astimezone, replaceTz, HelpPy.UTC, bind, Except.bind, pure, Except.pure]

/-! non-vacuity on `exR` (+0 / +1 h): 1001800 is skipped, 2000100 is read twice -/
example : Gen.datetimeExists (hdt ⟨1001800, false⟩ none) (some (fileZone exR 1)) = .ok false := by decide
example : Gen.datetimeExists (hdt ⟨1001800, true⟩ (some (fileZone exR 1))) none = .ok false := by decide
example : Gen.datetimeAmbiguous (hdt ⟨2000100, false⟩ (some (fileZone exR 2))) (some (fileZone exR 1)) = .ok true := by decide
example : (Gen.resolveImaginary (hdt ⟨1001800, true⟩ (some (fileZone exR 1)))).map (fun d => (d.wall, d.fold)) = .ok (1005400, false) := by
  decide
example : (Gen.datetimeExists (hdt ⟨5, false⟩ none) none) = .error .ValueError := by decide

end C05
