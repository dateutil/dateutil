/-
  Properties/C13.lean — rrulestr and str(rrule) are inverse; RFC text means the same as keywords.

  Everything is about the model `Model/RRuleStr.lean` (tied to the code by the `rrs.str` / `rrs.parse`
  correspondence): `toStr` = `rrule.__str__`, `parseRfc` = `_rrulestr._parse_rfc` up to the keyword
  arguments `RArgs` handed to `rrule()` / the members handed to `rruleset`.  All theorems quantify over
  ALL inputs (every text, every Int, every rule in printable normal form).

  Not covered here (oracle / correspondence only): what `ignoretz` / `tzinfos` do inside `parser.parse` and what the `tzids`
  lookup returns (§8 and §11 follow the options and the zone NAME up to those calls; `str_variants_partial` of the design is
  not a theorem), date values in spellings other than the compact form `__str__` emits (they go through `parser.parse`,
  C02), and `rrule(**kwargs)` itself (C01; §6 composes with its model).
-/
import DateutilVerif.Proofs.RRuleStrMalformed
import DateutilVerif.Proofs.RRuleStrOrder
import DateutilVerif.Proofs.RRuleStrSet
import DateutilVerif.Proofs.RRuleStrOpts
import DateutilVerif.Proofs.RRuleStrRule
import DateutilVerif.Proofs.RRuleStrFold
import DateutilVerif.Proofs.RRuleStrTzid
import DateutilVerif.Proofs.RRuleStrDate
import DateutilVerif.Proofs.RRuleStrGenStr
import DateutilVerif.Proofs.RRuleStrGenRule

namespace C13
open RRuleStr
open ICal (upper splitOnChar pyInt isDigit)

variable {po : ParseOpts}

/-! ## 1. decimal numbers -/

/-- reading the decimal print of a natural number gives it back -/
theorem showNat_roundtrip (n : Nat) : nat? (showNat n) = some n := nat?_showNat n

/-- `str(n)` consists of digits only — in particular none of the separators `, ; = :` -/
theorem showNat_digits_only (n : Nat) :
    ∀ c ∈ showNat n, isDigit c = true ∧ c ≠ ',' ∧ c ≠ ';' ∧ c ≠ '=' ∧ c ≠ ':' := by
  intro c hc
  have h := showNat_digits n c hc
  refine ⟨h, ?_, ?_, ?_, ?_⟩ <;> (rintro rfl; revert h; decide)

/-- `int(str(i)) == i` -/
theorem pyInt_showInt (i : Int) : pyInt (showInt i) = some i := RRuleStr.pyInt_showInt i

/-- `int('%+d' % i) == i` -/
theorem pyInt_showIntSigned (i : Int) : pyInt (showIntSigned i) = some i := RRuleStr.pyInt_showIntSigned i

example : showNat_roundtrip 1997 = nat?_showNat 1997 := rfl
example : (-366 : Int) < 0 ∧ pyInt (showInt (-366)) = some (-366) := ⟨by decide, pyInt_showInt _⟩

/-! ## 2. every failure is a ValueError -/

/-- whatever the text and the options, the only exception kind `rrulestr` (as modelled: line splitting, property and
    parameter dispatch, part handlers, the FREQ and no-RRULE checks) ends in is ValueError -/
theorem errors_are_ValueError (s : List Char) (o : Opts) (kw : Bool) (e : Py.PyErr)
    (h : parseRfc s o kw = .error e) : e = .ValueError := (parseRfc_sat s o kw).of_err h

/-- a part `NAME=VALUE` whose upper-cased name has no `_handle_NAME` method (the sixteen handled names are INTERVAL, COUNT,
    BYSETPOS, BYMONTH, BYMONTHDAY, BYYEARDAY, BYEASTER, BYWEEKNO, BYHOUR, BYMINUTE, BYSECOND, FREQ, UNTIL, WKST,
    BYWEEKDAY, BYDAY) makes `_parse_rfc_rrule` fail with ValueError, wherever it stands in the line -/
theorem unknown_part_ValueError {line value p name v : List Char} (hv : lineValue line = .ok value)
    (hp : p ∈ splitOnChar ';' value) (hs : splitOnChar '=' p = [name, v]) (hn : upper name ∉ handledNames) :
    parseRRuleLine po line = .error .ValueError :=
  parseRRuleLine_fails hv hp (badPart_fails (.unknown p name v hs hn))

/-- a malformed part (`BadPart`: not exactly one `=`; a non-integer for INTERVAL / COUNT; a non-integer or empty item in an
    integer list; an unknown FREQ or WKST name; a BYDAY / BYWEEKDAY item that `parseWDay` rejects) makes
    `_parse_rfc_rrule` fail with ValueError, wherever it stands in the line -/
theorem malformed_value_ValueError {line value p : List Char} (hv : lineValue line = .ok value)
    (hp : p ∈ splitOnChar ';' value) (hbad : BadPart p) : parseRRuleLine po line = .error .ValueError :=
  parseRRuleLine_fails hv hp (badPart_fails hbad)

/-- the BYDAY items that are rejected: the empty item, `n = 0` in either spelling (any weekday, any spelling of zero),
    a name that is not a weekday -/
theorem malformed_byday_items :
    parseWDay [] = .error .ValueError ∧
    (∀ (pre w : List Char) (k : Int), IsWD w k → pre ≠ [] → (∀ c ∈ pre, isSignDigit c = true) → pyInt pre = some 0 →
      parseWDay (pre ++ w) = .error .ValueError) ∧
    (∀ (inner w : List Char) (k : Int) (last : Char), IsWD w k → '(' ∉ inner → last ≠ '(' → pyInt inner = some 0 →
      parseWDay (w ++ '(' :: (inner ++ [last])) = .error .ValueError) ∧
    (∀ w : List Char, w ≠ [] → '(' ∉ w → (∀ c ∈ w, isSignDigit c = false) → lookup weekdayMap w = none →
      parseWDay w = .error .KeyError) :=
  ⟨parseWDay_empty, fun _ _ _ hw hne hp hn => parseWDay_zero_prefix hw hne hp hn,
   fun _ _ _ last hw hin hl hn => parseWDay_zero_paren last hw hin hl hn,
   fun _ hne hp hsd hl => parseWDay_unknown_name hne hp hsd hl⟩

-- non-vacuity: an unknown name, a bad integer, a pair without `=`, in the middle of a line
example : parseRRuleLine po (lit "RRULE:FREQ=DAILY;FOO=1;COUNT=2") = .error .ValueError :=
  unknown_part_ValueError (value := lit "FREQ=DAILY;FOO=1;COUNT=2") (p := lit "FOO=1") (name := lit "FOO") (v := lit "1")
    (by decide +kernel) (by decide +kernel) (by decide +kernel) (by decide +kernel)
example : parseRRuleLine po (lit "FREQ=DAILY;interval=x") = .error .ValueError :=
  malformed_value_ValueError (value := lit "FREQ=DAILY;interval=x") (p := lit "interval=x") (by decide +kernel) (by decide +kernel)
    (.badInt _ (lit "interval") (lit "x") (by decide +kernel) (by decide +kernel) (by decide +kernel))
example : parseRRuleLine po (lit "FREQ=DAILY;COUNT") = .error .ValueError :=
  malformed_value_ValueError (value := lit "FREQ=DAILY;COUNT") (p := lit "COUNT") (by decide +kernel) (by decide +kernel)
    (.notPair _ (by decide +kernel))
example : parseRRuleLine po (lit "FREQ=DAILY;BYDAY=MO,,TU") = .error .ValueError :=
  malformed_value_ValueError (value := lit "FREQ=DAILY;BYDAY=MO,,TU") (p := lit "BYDAY=MO,,TU") (by decide +kernel) (by decide +kernel)
    (.badDay _ (lit "BYDAY") (lit "MO,,TU") [] .ValueError (by decide +kernel) (by decide +kernel) (by decide +kernel) (by decide +kernel))
example : parseRfc (lit "DTSTART:19970902T090000") {} = .error .ValueError := by decide +kernel   -- no RRULE at all
example : parseRfc (lit "INTERVAL=2") {} = .error .ValueError := by decide +kernel                 -- missing FREQ

/-! ## 3. letter case -/

/-- the text is upper-cased as a whole before anything else: for everything `parseRfc` returns — the RRULE / EXRULE parts,
    the property names, the parameters and the date texts — the letter case of the input is irrelevant.
    Scope, honestly: this covers the RRULE parts and the line dispatch ONLY.  (1) The UNTIL / DTSTART / RDATE / EXDATE date
    texts and TZID parameter values reach `parser.parse` / the parameter loop upper-cased.  (2) The zone NAME handed to the
    `tzids` lookup is NOT part of `parseRfc`'s result: it is `tzidOf text opts parms` (`Model/RRuleStr.lean`), taken from the
    text AS WRITTEN through the case-insensitive name table, so `dtstart;tzid=Foo/Bar:` looks up `Foo/Bar` while the
    upper-cased text looks up `FOO/BAR` — the same name only up to letter case.  What `tzidOf` finds is §11 (`tzid_found`). -/
theorem case_irrelevant (s : List Char) (o : Opts) (kw : Bool) : parseRfc (upper s) o kw = parseRfc s o kw := by
  unfold parseRfc; rw [upper_idem]

example : upper (lit "rrule:freq=Daily;byday=+1mo") = lit "RRULE:FREQ=DAILY;BYDAY=+1MO" := by decide +kernel

/-! ## 4. BYDAY spellings -/

/-- for every weekday and every n ≠ 0 the spellings `+nWD` (`-nWD`), `nWD`, `WD(+n)`, `WD(n)` of a BYDAY item all parse to
    `weekday(wd, n)`, and the bare `WD` to `weekday(wd)` — for ALL n, not a sample (for n > 0 `showIntSigned n` is `+n`
    and `showInt n` is `n`; for n < 0 both are `-n`) -/
theorem byday_spellings (k : Int) (h0 : 0 ≤ k) (h6 : k ≤ 6) (n : Int) (hn : n ≠ 0) :
    parseWDay (showIntSigned n ++ wdName k) = .ok (k, some n) ∧
    parseWDay (showInt n ++ wdName k) = .ok (k, some n) ∧
    parseWDay (wdName k ++ '(' :: (showIntSigned n ++ [')'])) = .ok (k, some n) ∧
    parseWDay (wdName k ++ '(' :: (showInt n ++ [')'])) = .ok (k, some n) ∧
    parseWDay (wdName k) = .ok (k, none) := by
  have hw := isWD_wdName k h0 h6
  refine ⟨?_, ?_, ?_, ?_, parseWDay_bare hw⟩
  · exact parseWDay_prefix hw (showIntSigned_ne_nil n) (showIntSigned_signDigit n) (RRuleStr.pyInt_showIntSigned n) hn
  · exact parseWDay_prefix hw (showInt_ne_nil n) (showInt_signDigit n) (RRuleStr.pyInt_showInt n) hn
  · exact parseWDay_paren ')' hw (isSignDigit_not_paren (showIntSigned_signDigit n)) (by decide)
      (RRuleStr.pyInt_showIntSigned n) hn
  · exact parseWDay_paren ')' hw (isSignDigit_not_paren (showInt_signDigit n)) (by decide) (RRuleStr.pyInt_showInt n) hn

/-- `BYDAY=` and `BYWEEKDAY=` are the same handler -/
theorem byday_eq_byweekday (value : List Char) : handleU po (lit "BYDAY") value = handleU po (lit "BYWEEKDAY") value :=
  handleU_byday_eq_byweekday value

example : parseWDay (lit "+1MO") = .ok (0, some 1) ∧ parseWDay (lit "1MO") = .ok (0, some 1) ∧
    parseWDay (lit "MO(+1)") = .ok (0, some 1) ∧ parseWDay (lit "-2FR") = .ok (4, some (-2)) := by decide +kernel

/-! ## 5. order of the parts -/

/-- for `NAME=VALUE` parts that set pairwise different keywords (judged by their names; BYDAY and BYWEEKDAY are the same
    keyword), the loop of `_parse_rfc_rrule` gives the same result over any permutation: the same arguments when all
    parts parse, and (with `errors_are_ValueError`) ValueError in every order otherwise -/
theorem parts_order_irrelevant {ps qs : List (List Char)} (hperm : ps.Perm qs) (hd : ps.Pairwise Distinct) (a : RArgs) :
    ps.foldlM (stepPair po) a = qs.foldlM (stepPair po) a := foldlM_stepPair_perm hperm hd a

/-- the same at the level of the RRULE value -/
theorem parts_order_irrelevant_line {v1 v2 : List Char} (h1 : ':' ∉ v1) (h2 : ':' ∉ v2)
    (hperm : (splitOnChar ';' v1).Perm (splitOnChar ';' v2)) (hd : (splitOnChar ';' v1).Pairwise Distinct) :
    parseRRuleLine po v1 = parseRRuleLine po v2 := by
  rw [parseRRuleLine_of_lineValue (lineValue_noColon h1), parseRRuleLine_of_lineValue (lineValue_noColon h2)]
  exact foldlM_stepPair_perm hperm hd {}

example : parseRRuleLine po (lit "COUNT=3;BYDAY=MO;FREQ=WEEKLY") = parseRRuleLine po (lit "FREQ=WEEKLY;COUNT=3;BYDAY=MO") :=
  parts_order_irrelevant_line (by decide +kernel) (by decide +kernel) (by decide +kernel) (by decide +kernel)

/-! ## 6. str / rrulestr round trip -/

/-- the `RRULE:` line of `str(rule)` parses back to exactly the printed arguments `argsOf x`, for EVERY rule in printable
    form (`Printable`: freq < 7, wkst in 0..6, recorded weekday numbers 0..6 with n ≠ 0 when present; interval, count, all
    BY-lists and their members arbitrary — BY-lists may be empty).
    NOTE (known finding D-C13-empty-by-list): `argsOf x` holds the NON-EMPTY recorded BY-lists only (`normL`).  A rule
    built with an empty BY sequence, e.g. `rrule(YEARLY, bymonthday=())`, records `()`, prints nothing for it, and the
    reparsed rule gets the argument as ABSENT, so `rrule()` re-derives the default from the start: the text round trip
    below holds, "same occurrences" does not (see `empty_by_list_is_lost`). -/
theorem str_roundtrip_line (x : StrIn) (hx : Printable x) : parseRRuleLine po (rruleLineOf x) = .ok (argsOf po x) :=
  parseRRuleLine_rruleLineOf x hx

/-- the compact date form `YYYYMMDDTHHMMSS` that `__str__` emits for DTSTART and UNTIL reads back field by field with
    `parseCompact`.  NOTE: `parseCompact` is the DISPLAY helper the driver uses to print date values in the correspondence
    (`Ops/RRuleStr.lean`), not a model of `parser.parse`; the real reader of these texts is `parser.parse`, and that C02's
    model of it reads this form as these fields is `date_text_read_back` (§12). -/
theorem compact_roundtrip (y m d hh mm ss : Nat) (hy : y < 10000) (hm : m < 100) (hd : d < 100) (hh' : hh < 100)
    (hmm : mm < 100) (hss : ss < 100) : parseCompact (showDT (y, m, d, hh, mm, ss)) = .compact y m d hh mm ss false :=
  parseCompact_showDT y m d hh mm ss hy hm hd hh' hmm hss

/-- `rrulestr(str(rule), ignoretz=…, tzinfos=…, cache=…)` (no unfold / forceset / compatible) for every printable rule with a
    start: a single rule with exactly the printed arguments and the printed DTSTART text, the UNTIL and DTSTART values
    carrying the options that were passed, the rule built with `cache`.  "Same occurrences" follows with C01 (`rrule()` is
    a function of these arguments and the start) and `date_text_read_back` for the two date texts. -/
theorem str_roundtrip (x : StrIn) (hx : Printable x) (t : Nat × Nat × Nat × Nat × Nat × Nat) (ht : x.dtstart = some t)
    (o : Opts) (hu : o.unfold = false) (hf : o.forceset = false) (hc : o.compatible = false) (kw : Bool) :
    parseRfc (toStr x) o kw = .ok (.rule (argsOf o.po x) (some (showDT t, [], o.po)) o.cache) := by
  rw [parseRfc_toStr x hx o hu hf hc kw, ht]; rfl

/-- a rule printed without a DTSTART line (cannot happen for a constructed rule): the single-line fast path -/
theorem str_roundtrip_nostart (x : StrIn) (hx : Printable x) (ht : x.dtstart = none)
    (o : Opts) (hu : o.unfold = false) (hf : o.forceset = false) (hc : o.compatible = false) (kw : Bool) :
    parseRfc (toStr x) o kw = .ok (.rule (argsOf o.po x) none o.cache) := by
  rw [parseRfc_toStr x hx o hu hf hc kw, ht]; rfl

/-- items 3, 5 and 6 together — "every spelling": take the parts of `str(rule)` in ANY order (`List.Perm`), join them with
    `;`, write the text in ANY letter case: the RRULE value still parses to exactly the printed arguments.  (The parts of
    `str(rule)` set pairwise different keywords: `partsOf_distinct`.) -/
theorem str_roundtrip_any_order_any_case (x : StrIn) (hx : Printable x) (qs : List (List Char))
    (hperm : (partsOf x).Perm qs) (txt : List Char) (hcase : upper txt = intercalate [';'] qs) :
    parseRRuleLine po (upper txt) = .ok (argsOf po x) ∧
    parseRfc txt {} = parseRfc (intercalate [';'] qs) {} := by
  refine ⟨by rw [hcase]; exact parseRRuleLine_perm x hx qs hperm, ?_⟩
  rw [← case_irrelevant txt, hcase]

/-- what D-C13-empty-by-list looks like in the model: an empty recorded BY-list is not printed and comes back as absent
    (`none`), whatever the rest of the rule; the original arguments had `some []` there -/
theorem empty_by_list_is_lost (x : StrIn) (h : x.orig.bymonthday = some []) :
    (argsOf po x).bymonthday = none ∧ x.orig.bymonthday ≠ none := by
  constructor
  · simp [argsOf, normL, h]
  · rw [h]; simp

/-- **the printed arguments lead back to the rule** (C13 ∘ C01): for a rule `r = rrule(**a)`, `rrulestr(str(r))` hands the
    constructor arguments that build exactly `r` again, hence the same occurrences.  All hypotheses are explicit; the
    first is the class of the known finding D-C13-empty-by-list (there the statement is false on the real code), and the
    date values are taken over unchanged (`backArgs`): that `parser.parse` reads the compact text back is C02, tied here
    by the correspondence and the oracle only.  (`strInOf 0`: `calendar.firstweekday()` is 0, the interpreter's default;
    `str_roundtrip_rule_ambient` is the statement for every ambient value.) -/
theorem str_roundtrip_rule (a : RRule.Args) (r : RRule.Rule) (h : RRule.construct a = .ok r) (hsp : a.bysetpos ≠ some [])
    (hne : NoEmptyBy (RRule.origArgs a r)) (hpr : Printable (strInOf 0 (RRule.origArgs a r)))
    (hf : 0 ≤ (RRule.origArgs a r).freq)
    (o : Opts) (hu : o.unfold = false) (hfs : o.forceset = false) (hc : o.compatible = false) (kw : Bool) :
    ∃ pa dt, parseRfc (toStr (strInOf 0 (RRule.origArgs a r))) o kw = .ok (.rule pa (some dt) o.cache) ∧
      RRule.construct (backArgs (RRule.origArgs a r) pa) = .ok r :=
  parse_toStr_constructs_same_rule a r h hsp hne hpr hf o hu hfs hc kw

/-- **the same with the process-wide `calendar.firstweekday()` as an explicit input** (`constructW k`, C01; `strInOf k`:
    `__str__` reads it too: `if self._wkst or calendar.firstweekday():`).
    `str_roundtrip*` and `str_roundtrip_rule` above are the case `k = 0` (the interpreter's default).  Under
    `calendar.setfirstweekday(k)` the rule comes back for EVERY `k` and every week start: a Monday-week rule printed under `k ≠ 0`
    carries `WKST=MO`, so it is not rebuilt with the ambient week start (the case of the known finding D-C13-ambient-wkst). -/
theorem str_roundtrip_rule_ambient (k : Int) (a : RRule.Args) (r : RRule.Rule) (h : RRule.constructW k a = .ok r)
    (hsp : a.bysetpos ≠ some [])
    (hne : NoEmptyBy (RRule.origArgs (RRule.resolveW k a) r)) (hpr : Printable (strInOf k (RRule.origArgs (RRule.resolveW k a) r)))
    (hf : 0 ≤ (RRule.origArgs (RRule.resolveW k a) r).freq)
    (o : Opts) (hu : o.unfold = false) (hfs : o.forceset = false) (hc : o.compatible = false) (kw : Bool) :
    ∃ pa dt, parseRfc (toStr (strInOf k (RRule.origArgs (RRule.resolveW k a) r))) o kw = .ok (.rule pa (some dt) o.cache) ∧
      RRule.constructW k (backArgs (RRule.origArgs (RRule.resolveW k a) r) pa) = .ok r :=
  parse_toStr_constructs_same_rule_ambient k a r h hsp hne hpr hf o hu hfs hc kw

/-- **written under ambient `k`, read under ambient `k'`**: the rule comes back whenever the text carries WKST
    (`r.wkst ≠ 0 ∨ k ≠ 0`: then the reader's `calendar.firstweekday()` is irrelevant) or the reader's week starts on Monday
    (`k' = 0`).  The remaining case — a Monday-week rule printed under the default first weekday and read under another one —
    is `cross_ambient_counterexample`: there the text has no WKST (RFC 5545's default is MO; `rrule()` documents
    `calendar.firstweekday()` as its default), and the property's "rrulestr(str(rule))" is read as one process state. -/
theorem str_roundtrip_rule_cross_ambient (k k' : Int) (a : RRule.Args) (r : RRule.Rule) (h : RRule.constructW k a = .ok r)
    (hsp : a.bysetpos ≠ some [])
    (hne : NoEmptyBy (RRule.origArgs (RRule.resolveW k a) r)) (hpr : Printable (strInOf k (RRule.origArgs (RRule.resolveW k a) r)))
    (hf : 0 ≤ (RRule.origArgs (RRule.resolveW k a) r).freq) (hw : r.wkst ≠ 0 ∨ k ≠ 0 ∨ k' = 0)
    (o : Opts) (hu : o.unfold = false) (hfs : o.forceset = false) (hc : o.compatible = false) (kw : Bool) :
    ∃ pa dt, parseRfc (toStr (strInOf k (RRule.origArgs (RRule.resolveW k a) r))) o kw = .ok (.rule pa (some dt) o.cache) ∧
      RRule.constructW k' (backArgs (RRule.origArgs (RRule.resolveW k a) r) pa) = .ok r :=
  parse_toStr_constructs_same_rule_cross k k' a r h hsp hne hpr hf hw o hu hfs hc kw

/-- **the property's first sentence at the level of occurrences** (C13 ∘ C01's iteration model): for every rule with a NAIVE
    start (`a.tz = 0`), built under any ambient first weekday `k`, `rrulestr(str(rule))` is a single rule whose DTSTART value
    is the printed start WITHOUT any zone parameter, and the arguments it hands to the constructor (`backArgsNaive`: naive
    start) build a rule whose iteration equals the rule's for EVERY fuel — the same occurrences, in the same order, ending
    the same way (`RRule.iter`: the values yielded during the first `fuel` periods and the generator's status).
    Hypotheses as in `str_roundtrip_rule_ambient` (NoEmptyBy = the known finding D-C13-empty-by-list; the two date texts are
    read back by `parser.parse`: `date_text_read_back`, through C02's `PM.parse_compact` for the form `YYYYMMDDTHHMMSS`). -/
theorem str_roundtrip_occurrences (k : Int) (a : RRule.Args) (r : RRule.Rule) (h : RRule.constructW k a = .ok r) (hnaive : a.tz = 0)
    (hsp : a.bysetpos ≠ some [])
    (hne : NoEmptyBy (RRule.origArgs (RRule.resolveW k a) r)) (hpr : Printable (strInOf k (RRule.origArgs (RRule.resolveW k a) r)))
    (hf : 0 ≤ (RRule.origArgs (RRule.resolveW k a) r).freq)
    (o : Opts) (hu : o.unfold = false) (hfs : o.forceset = false) (hc : o.compatible = false) (kw : Bool) :
    ∃ pa r', parseRfc (toStr (strInOf k (RRule.origArgs (RRule.resolveW k a) r))) o kw =
        .ok (.rule pa (some (showDT (sixOf r.dtstart), [], o.po)) o.cache) ∧
      RRule.constructW k (backArgsNaive (RRule.origArgs (RRule.resolveW k a) r) pa) = .ok r' ∧
      ∀ fuel, RRule.iter r' fuel = RRule.iter r fuel ∧ RRule.iterDT r' fuel = RRule.iterDT r fuel :=
  same_occurrences_ambient k a r h hnaive hsp hne hpr hf o hu hfs hc kw

-- non-vacuity: the witness rule (naive start) under ambient 6 really yields its four occurrences Aug 5, 10, 19, 24 1997
example : ambientWitness.tz = 0 ∧
    (do let r ← RRule.constructW 6 ambientWitness
        pure ((RRule.iterDT r 6).1.map (fun (d : DT) => (d.m, d.d)))) = .ok [(8, 5), (8, 10), (8, 19), (8, 24)] := by
  decide +kernel

/-- the witness of D-C13-ambient-wkst: WEEKLY, interval 2, BYDAY=TU,SU, explicit wkst=MO, ambient 6: the text carries `WKST=MO`
    (`some 0`), the rebuilt rule has week start 0 and is the same rule -/
theorem ambient_wkst_witness_roundtrips :
    (do let r ← RRule.constructW 6 ambientWitness
        let o := RRule.origArgs (RRule.resolveW 6 ambientWitness) r
        let r' ← RRule.constructW 6 (backArgs o (argsOf {} (strInOf 6 o)))
        pure (r.wkst, r'.wkst, (argsOf {} (strInOf 6 o)).wkst, decide (r' = r))) = .ok (0, 0, some 0, true) :=
  RRuleStr.ambient_wkst_witness_roundtrips

/-- the case `str_roundtrip_rule_cross_ambient` excludes is real: the same rule printed under ambient 0 and read under ambient 6 -/
theorem cross_ambient_counterexample :
    (do let r ← RRule.constructW 0 ambientWitness
        let o := RRule.origArgs (RRule.resolveW 0 ambientWitness) r
        let r' ← RRule.constructW 6 (backArgs o (argsOf {} (strInOf 0 o)))
        pure (r.wkst, r'.wkst, decide (r' = r))) = .ok (0, 6, false) := RRuleStr.cross_ambient_counterexample

-- non-vacuity of the ambient statement in the case `_wkst = 0`, `k = 6`: every hypothesis holds
example : ∃ r, RRule.constructW 6 ambientWitness = .ok r ∧ r.wkst = 0 ∧
    NoEmptyBy (RRule.origArgs (RRule.resolveW 6 ambientWitness) r) ∧
    0 ≤ (RRule.origArgs (RRule.resolveW 6 ambientWitness) r).freq := by
  refine ⟨_, rfl, by decide +kernel, ?_, by decide +kernel⟩
  constructor <;> decide +kernel

/-- a rule with most things in it: nth weekdays of both signs, negative list members, WKST, INTERVAL, UNTIL, year < 1000 -/
def sample : StrIn :=
  { dtstart := some (999, 1, 2, 3, 4, 5), freq := 1, interval := 2, wkst := 6, count := none,
    untilV := some (2000, 12, 31, 23, 59, 59),
    orig := { bymonthday := some [-1, 15], byweekday := some [(0, some 1), (4, some (-2)), (6, none)], byeaster := some [0, -2],
              byyearday := some [] } }

theorem sample_printable : Printable sample := by
  constructor <;> first | decide | (intro l h; cases h; decide)

example : Printable sample := sample_printable
example : (argsOf {} sample).byweekday = some [(0, some 1), (4, some (-2)), (6, none)] ∧ (argsOf {} sample).wkst = some 6 := by decide +kernel

example : (partsOf sample).Perm (partsOf sample).reverse ∧ upper (lit "byeaster=0,-2") = lit "BYEASTER=0,-2" :=
  ⟨(List.reverse_perm _).symm, by decide +kernel⟩

/-! ## 7. sets, forceset, compatible -/

/-- structured lines (no parameters) joined by newlines: with two or more RRULE lines, or any RDATE / EXRULE / EXDATE
    line, or `forceset`, the result is the set with exactly those members in order — every RRULE and every EXRULE value
    parsed (`ruleOf`; the first failure is the result), RDATE values split at `,`, EXDATE values, the last DTSTART -/
theorem multi_line_builds_set (ls : List Line) (hok : ∀ l ∈ ls, l.ok)
    (htext : ∀ l ∈ ls, ∀ c ∈ l.render, isLower c = false ∧ ICal.isSpace c = false)
    (o : Opts) (hu : o.unfold = false) (hc : o.compatible = false) (kw : Bool)
    (hne : ls ≠ []) (hmany : 2 ≤ ls.length ∨ o.forceset = true)
    (hset : o.forceset = true ∨ 2 ≤ (rruleVals ls).length ∨ rdateVals ls ≠ [] ∨ exruleVals ls ≠ [] ∨ exdateVals o.po ls ≠ []) :
    parseRfc (intercalate ['\n'] (ls.map Line.render)) o kw = setOf o.po ls false kw o.cache := by
  rw [parseRfc_lines ls hne htext o hu hc kw]
  refine parseLines_builds_set _ ls hok _ _ _ _ ?_ hset
  rcases hmany with h | h
  · exact shortcut_two _ _ _ (by simp; omega)
  · rw [h]; rfl

/-- the same lines without a reason for a set: one RRULE, DTSTART lines besides it — a single rule with the last DTSTART -/
theorem multi_line_single_rule (ls : List Line) (hok : ∀ l ∈ ls, l.ok)
    (htext : ∀ l ∈ ls, ∀ c ∈ l.render, isLower c = false ∧ ICal.isSpace c = false)
    (o : Opts) (hu : o.unfold = false) (hc : o.compatible = false) (hf : o.forceset = false) (kw : Bool) (v : List Char)
    (hmany : 2 ≤ ls.length) (hr : rruleVals ls = [v]) (h1 : rdateVals ls = []) (h2 : exruleVals ls = [])
    (h3 : exdateVals o.po ls = []) :
    parseRfc (intercalate ['\n'] (ls.map Line.render)) o kw = buildRule o.po v (dtstartOf o.po ls) o.cache := by
  have hne : ls ≠ [] := by rintro rfl; simp at hmany
  rw [parseRfc_lines ls hne htext o hu hc kw, hf]
  exact parseLines_builds_rule _ ls hok _ _ _ v (shortcut_two _ _ _ (by simp; omega)) hr h1 h2 h3

/-- `forceset=True` (or `compatible=True`) never yields a bare rule: every successful result is a set, and its DTSTART-as-RDATE
    flag is `compatible ∧ (a DTSTART line was seen ∨ dtstart= was passed)` -/
theorem forceset {s : List Char} {o : Opts} {kw : Bool} {r : Parsed} (ho : o.forceset = true ∨ o.compatible = true)
    (h : parseRfc s o kw = .ok r) :
    ∃ rr ex rd exd dt, r = .set rr ex rd exd dt (o.compatible && (dt.isSome || kw)) o.cache := parseRfc_forceset ho h

/-- `compatible=True` is `forceset=True` and `unfold=True` … -/
theorem compatible (s : List Char) (o : Opts) (kw : Bool) (hc : o.compatible = true) :
    parseRfc s o kw = parseRfc s { o with unfold := true, forceset := true } kw := parseRfc_compatible s o kw hc

/-- … and sets the flag that adds DTSTART as an RDATE exactly when a start is known (on the collected lines) -/
theorem compatible_adds_dtstart (s : List Char) (ls : List Line) (hok : ∀ l ∈ ls, l.ok) (kw cache : Bool) :
    parseLines po cache s (ls.map Line.render) true true kw = (do
      let rr ← (rruleVals ls).mapM (ruleOf po)
      let ex ← (exruleVals ls).mapM (ruleOf po)
      .ok (.set rr ex (((rdateVals ls).map (splitOnChar ',')).flatten.map (fun d => (d, po))) (exdateVals po ls) (dtstartOf po ls)
            ((dtstartOf po ls).isSome || kw) cache)) := by
  rw [parseLines_builds_set s ls hok true true kw cache (shortcut_forceset _ _) (Or.inl rfl)]   -- = `setOf po ls true kw cache`
  simp [setOf]

/-! ## 8. option plumbing -/

/-- `options_reach_every_path`: on ALL paths of `_parse_rfc` — the single-line fast path, several lines with one rule, and
    the set path (forceset / compatible / two RRULEs / RDATE / EXRULE / EXDATE) — every date value in a successful result
    (UNTIL of every rule and exrule, every RDATE and EXDATE value, DTSTART) was handed to `parser.parse` with exactly the
    `ignoretz` / `tzinfos` the caller passed, and the rule or the set was built with exactly the caller's `cache`
    (`Parsed.optsOK`).  The per-path statements are `buildRule_sat` (both single-rule paths) and `buildSet_sat`.
    The model hands the options on at each call site separately, as the code does; the `rrs.parse` correspondence records
    the keyword arguments of every `parser.parse`, `rrule()` and `rruleset()` call of the implementation against it. -/
theorem options_reach_every_path {s : List Char} {o : Opts} {kw : Bool} {r : Parsed} (h : parseRfc s o kw = .ok r) :
    r.optsOK o.po o.cache := (parseRfc_sat s o kw).of_ok h

-- non-vacuity: the seeded-fault input, through the fast path, carries ignoretz to the UNTIL value
example : parseRfc (lit "RRULE:FREQ=DAILY;UNTIL=19970905T090000Z") { ignoretz := true, cache := true } true =
    .ok (.rule { freq := some 3, untilV := some (lit "19970905T090000Z", { ignoretz := true }) } none true) := by decide +kernel

def sampleLines : List Line :=
  [.dtstart (lit "19970902T090000"), .rrule (lit "FREQ=DAILY;COUNT=3"), .rdate (lit "19970910T090000,19970911T090000"),
   .exrule (lit "FREQ=WEEKLY;COUNT=2"), .exdate (lit "19970902T090000")]

example : (∀ l ∈ sampleLines, l.ok) ∧ 2 ≤ sampleLines.length ∧ rdateVals sampleLines ≠ [] := by decide +kernel
example : ∃ rr ex, setOf {} sampleLines false false false =
    .ok (.set rr ex [(lit "19970910T090000", {}), (lit "19970911T090000", {})] [(lit "19970902T090000", [], {})]
          (some (lit "19970902T090000", [], {})) false false) :=
  ⟨[{ freq := some 3, count := some 3 }], [{ freq := some 2, count := some 2 }], by decide +kernel⟩
example : ∃ r, parseRfc (lit "FREQ=DAILY;COUNT=2") { forceset := true } = .ok r :=
  ⟨.set [{ freq := some 3, count := some 2 }] [] [] [] none false false, by decide +kernel⟩

/-! ## 9. the source translation: prefix of `_parse_rfc`, unfold loop, parameter loop (`Generated/RRuleStrKernels.lean`)

`harness/translate_str.py` re-translates `_rrulestr` and `rrule.__str__` on every run.  This section is about three pieces of
it: the statements of `_parse_rfc` up to and including `if unfold: … else: lines = s.split()` (`Gen.rrsPrefix`, with the `while`
loop as `Gen.rrsPrefixLoop`), the statements of `_parse_date_value` up to and including `for parm in parms:`
(`Gen.rrsDateParms`), and the statement that attaches the looked-up zone to a parsed date (`Gen.rrsAttach`); the rest of the
two methods is §14.  The obligations tie each piece to the hand model, so a behavioural edit of those statements breaks a
named obligation (or the translation) on the next run. -/

/-- the translated `while i < len(lines):` loop, given `len(lines) + 1` units of fuel, never runs out of fuel and leaves
    exactly `ICal.unfold lines` — for EVERY list of lines -/
theorem gen_unfold_loop_eq_model (lines : List (List Char)) :
    ∃ n, Gen.rrsPrefixLoop (lines.length + 1) 0 lines = .ok (n, ICal.unfold lines) := unfoldLoop_eq_unfold lines

/-- the translated prefix of `_parse_rfc` = the model's: flags, name table of the text as written, upper-cased text,
    ValueError for a blank text, `lines` = `linesOf` — for every text and all flags -/
theorem gen_prefix_eq_model (s0 : List Char) (u f c : Bool) :
    Gen.rrsPrefix s0 u f c =
      if (ICal.strip (upper s0)).isEmpty then .error .ValueError
      else .ok (f || c, u || c, tzidTable s0 (u || c), upper s0, linesOf (upper s0) (u || c)) :=
  RRuleStr.gen_prefix_eq_model s0 u f c

/-- the translated parameter loop of `_parse_date_value` = the model's `dateParmsOk` / `resolveTzid`, for every parameter
    list, every name table and `tzids` None / callable / mapping (`lk` = which function does the lookup) -/
theorem gen_dateParms_eq_model (parms : List (List Char)) (t : StrPy.Dict) (k : StrPy.TzidsKind) (lk : StrPy.Lookup)
    (hk : lookupOf k = some lk) :
    Gen.rrsDateParms parms t k =
      match dateParmsOk parms with
      | .error _ => .error .ValueError
      | .ok _ => .ok ((resolveTzid t parms).map (StrPy.Zone.looked lk), !(restParms parms).isEmpty) :=
  RRuleStr.gen_dateParms_eq_model parms t k lk hk

/-- a `tzids` argument that is neither None, callable nor a mapping is a ValueError at the first TZID parameter found in the table -/
example : Gen.rrsDateParms [lit "TZID=X"] [(lit "X", lit "x")] .other = .error .ValueError := by decide +kernel
example : Gen.rrsDateParms [lit "VALUE=DATE-TIME", lit "TZID=X"] [(lit "X", lit "x")] .callable =
    .ok (some (.looked .call (lit "x")), true) := by decide +kernel

/-! ## 10. folding: unfold ∘ fold = id -/

/-- **`unfold (fold s) = s`.**  Take any logical lines, cut each into a first piece and ANY number of continuation pieces at
    ANY positions (`Folded`: pieces may be empty or one character long, so consecutive continuation lines, folds right
    after `;` `,` `=` `:`, inside `TZID=`, inside a name, and right after a space at the end of the FIRST piece are all
    covered), write every piece on its own physical line (continuations behind one space), end every physical line with
    `\n` or `\r\n` chosen line by line: `linesOf text true` — `splitlines()` followed by the unfold loop — gives exactly the
    logical lines back.  Hypotheses (`Folded.ok`): the first piece has a visible character and does not begin with a space;
    NO CONTINUATION PIECE ENDS IN WHITESPACE.  That last restriction is the code's, not the proof's: see
    `fold_after_space_in_continuation_loses_it` (known finding D-C13-fold-after-space). -/
theorem unfold_fold (fs : List Folded) (hok : ∀ f ∈ fs, f.ok) (ph : List (List Char × Bool))
    (hph : ph.map (·.1) = (fs.map Folded.physical).flatten)
    (hnb : ∀ p ∈ ph, ∀ c ∈ p.1, ICal.isLineBreak c = false) :
    linesOf (ph.map (fun p => p.1 ++ brk p.2)).flatten true = fs.map Folded.logical := by
  unfold linesOf unfoldLines ICal.splitLines
  simp only [if_true]
  rw [splitLines_terminated ph hnb, List.reverse_nil, List.nil_append, hph, unfold_physical fs hok]

/-- the same about the SOURCE translation: on a text whose upper-cased form is such a folded text, with `unfold` or
    `compatible` set, the translated prefix of `_parse_rfc` ends with `lines` = the (upper-cased) logical lines -/
theorem unfold_fold_source (s0 : List Char) (fs : List Folded) (hok : ∀ f ∈ fs, f.ok) (ph : List (List Char × Bool))
    (hph : ph.map (·.1) = (fs.map Folded.physical).flatten)
    (hnb : ∀ p ∈ ph, ∀ c ∈ p.1, ICal.isLineBreak c = false)
    (hs : upper s0 = (ph.map (fun p => p.1 ++ brk p.2)).flatten) (hne : (ICal.strip (upper s0)).isEmpty = false)
    (u f c : Bool) (hu : (u || c) = true) :
    Gen.rrsPrefix s0 u f c = .ok (f || c, true, tzidTable s0 true, upper s0, fs.map Folded.logical) := by
  rw [RRuleStr.gen_prefix_eq_model, hne, hu, hs, unfold_fold fs hok ph hph hnb]
  simp

/-- a DTSTART line folded three times: after `;`, inside `TZID=`, right after the space that ends the first piece … -/
def foldedSample : Folded := { first := lit "DTSTART ", conts := [lit ";TZ", lit "ID=A", lit "", lit "B:19970902T090000"] }

example : foldedSample.ok := ⟨⟨'D', lit "TSTART", by decide +kernel, by decide +kernel⟩, by decide +kernel⟩
example : linesOf (lit "DTSTART \n ;TZ\r\n ID=A\n \n B:19970902T090000\nRRULE:FREQ=DAILY\n") true =
    [lit "DTSTART ;TZID=AB:19970902T090000", lit "RRULE:FREQ=DAILY"] := by decide +kernel

/-- **the excluded case is real** (known finding D-C13-fold-after-space): a fold right after a space that ENDS A CONTINUATION
    piece loses the space — the loop appends the `rstrip()`ped continuation line.  `DTSTART;` / ` TZID=EASTERN ` /
    ` STANDARD TIME:…` unfolds to `…TZID=EASTERNSTANDARD TIME…`, while the TZID pre-scan (which uses `re.sub`) records
    `EASTERN STANDARD TIME`: the parameter is not found in the table and the zone is silently dropped. -/
theorem fold_after_space_in_continuation_loses_it :
    ICal.unfold [lit "DTSTART;", lit " TZID=EASTERN ", lit " STANDARD TIME:19970902T090000"] =
      [lit "DTSTART;TZID=EASTERNSTANDARD TIME:19970902T090000"] ∧
    stripFolds (lit "DTSTART;\n TZID=EASTERN \n STANDARD TIME:19970902T090000") =
      lit "DTSTART;TZID=EASTERN STANDARD TIME:19970902T090000" ∧
    tzidOf (lit "DTSTART;\n TZID=Eastern \n Standard Time:19970902T090000") { unfold := true }
      [lit "TZID=EASTERNSTANDARD TIME"] = none := by decide +kernel

/-! ## 11. TZID: the name handed to the lookup, the zone of the start -/

/-- **the TZID found is the parameter value as written, regardless of letter case and parameter order.**
    The text searched (`s0`, or `re.sub(r'\r?\n ', '', s0)` when unfolding — so the parameter may be folded anywhere, inside
    `TZID=` too) has the form `pre ++ kw ++ name ++ d :: post`: `kw` is `TZID=` in ANY letter case, `name` is non-empty and
    free of `:` `;` (ANY letter case), `d` is `:` or `;`, no earlier occurrence of the pattern starts inside `pre`, and every
    later occurrence of the same name up to letter case is spelled the same way (a later table entry overwrites an earlier
    one).  The line's (upper-cased) parameters are ANY list `l1 ++ [TZID=NAME] ++ l2` in which no other parameter begins with
    `TZID=` — the TZID parameter may stand before or after `VALUE=…`.  Then the name handed to the `tzids` lookup is `name`,
    exactly as written.  (`hafter`: the upper-cased name does not itself contain `TZID=`.) -/
theorem tzid_found (s0 pre kw name post : List Char) (d : Char) (o : Opts)
    (htxt : (if o.unfold || o.compatible then stripFolds s0 else s0) = pre ++ (kw ++ name ++ d :: post))
    (hkw : upper kw = lit "TZID=") (hne : name ≠ []) (hname : ∀ c ∈ name, c ≠ ':' ∧ c ≠ ';') (hd : d = ':' ∨ d = ';')
    (hpre : NoMatchBefore pre.length (pre ++ (kw ++ name ++ d :: post)))
    (hlater : ∀ n ∈ findTzids post, upper n = upper name → n = name)
    (l1 l2 : List (List Char)) (h1 : ∀ q ∈ l1, startsWith q (lit "TZID=") = false)
    (h2 : ∀ q ∈ l2, startsWith q (lit "TZID=") = false)
    (hafter : afterLastTzid (lit "TZID=" ++ upper name) = upper name) :
    tzidOf s0 o (l1 ++ (lit "TZID=" ++ upper name) :: l2) = some name := by
  unfold tzidOf tzidTable
  rw [htxt, findTzids_found pre kw name post d hkw hne hname hd hpre,
    resolveTzid_one _ l1 l2 _ h1 h2 (by simp [startsWith, lit]), hafter]
  exact tzidLookup_first name _ hlater

/-- … and on the SOURCE translation: with that table, the translated parameter loop ends with the zone
    `<lookup>(name)` — `tz.gettz(name)`, `tzids(name)` or `tzids.get(name)` — when the other parameters are acceptable -/
theorem tzid_found_source (s0 pre kw name post : List Char) (d : Char) (o : Opts)
    (htxt : (if o.unfold || o.compatible then stripFolds s0 else s0) = pre ++ (kw ++ name ++ d :: post))
    (hkw : upper kw = lit "TZID=") (hne : name ≠ []) (hname : ∀ c ∈ name, c ≠ ':' ∧ c ≠ ';') (hd : d = ':' ∨ d = ';')
    (hpre : NoMatchBefore pre.length (pre ++ (kw ++ name ++ d :: post)))
    (hlater : ∀ n ∈ findTzids post, upper n = upper name → n = name)
    (l1 l2 : List (List Char)) (h1 : ∀ q ∈ l1, startsWith q (lit "TZID=") = false)
    (h2 : ∀ q ∈ l2, startsWith q (lit "TZID=") = false)
    (hafter : afterLastTzid (lit "TZID=" ++ upper name) = upper name)
    (hparms : dateParmsOk (l1 ++ (lit "TZID=" ++ upper name) :: l2) = .ok ())
    (k : StrPy.TzidsKind) (lk : StrPy.Lookup) (hk : lookupOf k = some lk) :
    ∃ vf, Gen.rrsDateParms (l1 ++ (lit "TZID=" ++ upper name) :: l2) (tzidTable s0 (o.unfold || o.compatible)) k =
      .ok (some (.looked lk name), vf) := by
  have h := tzid_found s0 pre kw name post d o htxt hkw hne hname hd hpre hlater l1 l2 h1 h2 hafter
  unfold tzidOf at h
  rw [RRuleStr.gen_dateParms_eq_model _ _ k lk hk, hparms, h]
  exact ⟨_, rfl⟩

-- non-vacuity: lower-case `tzid=`, mixed-case name, TZID after VALUE, folded inside `TZID=` and inside the name
example : tzidOf (lit "dtstart;value=date-time;tz\n id=America/New\r\n _York:19970902T090000\nrrule:freq=daily") { unfold := true }
    [lit "VALUE=DATE-TIME", lit "TZID=AMERICA/NEW_YORK"] = some (lit "America/New_York") :=
  tzid_found _ (lit "dtstart;value=date-time;") (lit "tzid=") (lit "America/New_York") (lit "19970902T090000\nrrule:freq=daily") ':'
    _ (by decide +kernel) (by decide +kernel) (by decide +kernel) (by decide +kernel) (Or.inl rfl) (by decide +kernel) (by decide +kernel) [lit "VALUE=DATE-TIME"] []
    (by decide +kernel) (by decide +kernel) (by decide +kernel)

/-- **the zone of a date value** (the statement translated into `Gen.rrsAttach`, for DTSTART and EXDATE alike):
    * a `TZID` zone and a date text WITHOUT a zone of its own (the naive compact form): the date gets the looked-up zone —
      for `DTSTART;TZID=name:…` that is `tzids(name)`, the zone `rrule(dtstart=datetime(…, tzinfo=tzids(name)))` has;
    * no `TZID`: the zone is whatever `parser.parse` gave the text — none for the naive form (the keyword construction with a
      naive start), the text's own zone for `…Z` (UTC; what `ignoretz` / `tzinfos` do inside `parser.parse` is C02/C15);
    * a `TZID` zone AND a zone in the text: ValueError ("DTSTART/EXDATE specifies multiple timezone"). -/
theorem date_zone (z z' : StrPy.Zone) (dz : Option StrPy.Zone) :
    Gen.rrsAttach (some z) none = .ok (some z) ∧
    Gen.rrsAttach none dz = .ok dz ∧
    Gen.rrsAttach (some z) (some z') = .error .ValueError := ⟨rfl, by cases dz <;> rfl, rfl⟩

/-- `DTSTART;TZID=name:<naive>` end to end on the source translation: the parameter loop hands `name` as written to the lookup
    and the attach statement puts that zone on the naive date -/
theorem dtstart_tzid_zone (parms : List (List Char)) (t : StrPy.Dict) (k : StrPy.TzidsKind) (lk : StrPy.Lookup) (name : List Char)
    (vf : Bool) (h : Gen.rrsDateParms parms t k = .ok (some (.looked lk name), vf)) :
    (Gen.rrsDateParms parms t k >>= fun r => Gen.rrsAttach r.1 none) = .ok (some (.looked lk name)) := by
  rw [h]; rfl

example : Gen.rrsAttach none (some .fromText) = .ok (some .fromText) := (date_zone .fromText .fromText _).2.1

/-! ## 12. the date texts of `str(rule)` are read back (C13 ∘ C02) -/

/-- **`parser.parse` reads the DTSTART / UNTIL text of `str(rule)` back as the naive datetime it was printed from.**
    `showDT (sixOf t)` — what `__str__` prints, `'%04d' % year + strftime('%m%dT%H%M%S')` — IS C02's compact template
    `YYYYMMDDTHHMMSS` (`showDT_eq_renderCompact`, every valid datetime, years 1..9999 zero-padded), and C02's `parse_compact`
    (the parser model, any character classifier / two-digit-year pivot / default / `ignoretz` / plain `tzinfos`) gives that
    datetime with microsecond 0 and NO zone.  This discharges, on the models, the assumption `backArgs` / `backArgsNaive`
    make about the two date values in `str_roundtrip_rule*` and `str_roundtrip_occurrences` (a rule's `dtstart` and `until`
    have microsecond 0: C01's constructor). -/
theorem date_text_read_back (cls : Char → PM.CClass) [PM.AsciiOK cls] (yf : Bool) (year century : Int) (o : PM.Opts)
    (tznames : List PM.Token) (tzi : PM.TzInfos) (ho : PM.PlainOpts o tzi) (dflt : DT) (hdv : dflt.Valid)
    (t : DT) (ht : t.Valid) :
    PM.parse cls (PM.Info.default false yf year century) o tznames tzi dflt (showDT (sixOf t)) =
      .ok { dt := { t with us := 0 }, tz := .naive, tokens := none } := by
  rw [showDT_eq_renderCompact t ht]
  exact PM.parse_compact cls yf year century o tznames tzi ho dflt hdv t ht .tHMS

example : showDT (sixOf ⟨999, 1, 2, 3, 4, 5, 0⟩) = lit "09990102T030405" := by
  rw [showDT_eq_renderCompact _ (by decide +kernel)]; decide +kernel

/-! ## 13. the printer as written: `rrule.__str__` translated from source -/

/-- **`Gen.rruleStr` — the WHOLE method `rrule.__str__` re-translated from source on every run (DTSTART with the zero-padded year,
    FREQ from the dumped `FREQNAMES`, INTERVAL unless 1, WKST under the condition `self._wkst or calendar.firstweekday()`,
    COUNT, the zero-padded UNTIL, the weekday conversion loop, the BY parts of `_original_rule` in the order of the method's table)
    — equals the model's `toStr`** on every rule in printable form. -/
theorem gen_str_eq_model (x : StrIn) (hx : Printable x) : Gen.rruleStr x = toStr x := gen_rruleStr_eq_toStr x hx

/-- hence the round trip holds of the printer AS WRITTEN: `str_roundtrip` with the source translation in place of `toStr` -/
theorem str_roundtrip_source (x : StrIn) (hx : Printable x) (t : Nat × Nat × Nat × Nat × Nat × Nat) (ht : x.dtstart = some t)
    (o : Opts) (hu : o.unfold = false) (hf : o.forceset = false) (hc : o.compatible = false) (kw : Bool) :
    parseRfc (Gen.rruleStr x) o kw = .ok (.rule (argsOf o.po x) (some (showDT t, [], o.po)) o.cache) := by
  rw [gen_str_eq_model x hx]; exact str_roundtrip x hx t ht o hu hf hc kw

example : Gen.rruleStr sample = toStr sample := gen_str_eq_model sample sample_printable

/-! ## 14. the part parser as written: `_parse_rfc_rrule` and the `_handle_*` dispatch translated from source -/

/-- the item splitter of `_handle_BYWEEKDAY` as translated from source — `if '(' in wday:` (`splt = wday.split('(')`, `splt[0]`,
    `int(splt[1][:-1])`), `elif len(wday):` with the scan `for i in range(len(wday)): if wday[i] not in '+-0123456789': break`,
    `n = wday[:i] or None`, `w = wday[i:]`, `if n: n = int(n)`, else ValueError; then `weekdays[self._weekday_map[w]](n)` — equals the
    model's `parseWDay` on EVERY text (so `byday_spellings` and `malformed_byday_items` hold of the code as written) -/
theorem gen_wday_eq_model (w : List Char) : Gen.rrsWDay w = parseWDay w := gen_wday_eq w

example : Gen.rrsWDay (lit "MO(+1)") = .ok (0, some 1) ∧ Gen.rrsWDay (lit "-2FR") = .ok (4, some (-2)) ∧
    Gen.rrsWDay (lit "12") = .error .KeyError ∧ Gen.rrsWDay (lit "0MO") = .error .ValueError := by decide +kernel

/-- `getattr(self, "_handle_" + name)(…)` resolved against the class body as written — `_handle_int` (INTERVAL, COUNT),
    `_handle_int_list` (the nine integer BY parts), `_handle_FREQ` / `_handle_WKST` with the dumped `_freq_map` / `_weekday_map`,
    `_handle_UNTIL` (text and options kept for `parser.parse`), `_handle_BYWEEKDAY` = BYDAY with its translated item splitter
    (`gen_wday_eq_model`) — equals the model's `handleU`, for every name and value. -/
theorem gen_handle_eq_model (name value : List Char) : Gen.rrsHandle po name value = handleU po name value :=
  gen_handle_eq po name value

/-- **the WHOLE method `_parse_rfc_rrule` as translated from source** (optional `RRULE:` head, the loop over the `;` parts with
    `split('=')`, upper-casing, the handler call and the `try` statement's exception mapping, the FREQ check) **equals the model's
    `ruleOf`**: the keyword arguments handed to `rrule()`, or ValueError — for every line and all options.  The `try` statement maps
    only AttributeError / KeyError / ValueError to ValueError; that this is "every failure" is `handleU_errIn`. -/
theorem gen_parse_rfc_rrule_eq_model (line : List Char) : Gen.rrsParseRule po line = ruleOf po line := gen_parseRule_eq po line

/-- the text round trip through the two translated methods: `_parse_rfc_rrule(RRULE line of __str__)` gives the printed arguments -/
theorem str_roundtrip_line_source (x : StrIn) (hx : Printable x) :
    Gen.rrsParseRule po (rruleLineOf x) = .ok (argsOf po x) := by
  rw [gen_parse_rfc_rrule_eq_model]
  unfold ruleOf
  rw [str_roundtrip_line x hx]
  rfl

example : Gen.rrsParseRule {} (lit "RRULE:FREQ=WEEKLY;COUNT=3;BYDAY=+1MO,TU") =
    .ok { freq := some 2, count := some 3, byweekday := some [(0, some 1), (1, none)] } := by decide +kernel
example : Gen.rrsParseRule {} (lit "FREQ=DAILY;FOO=1") = .error .ValueError := by decide +kernel

/-- `_rrulestr.__call__` as translated from source is a pure delegation: `rrulestr(s, **kwargs)` IS `_parse_rfc(s, **kwargs)` (any edit of
    that one-line method — a cache, a changed default, a dropped keyword — makes the translation fail or this obligation break) -/
theorem gen_call_eq_model (s : List Char) (o : Opts) (kw : Bool) : Gen.rrsCall s o kw = parseRfc s o kw := gen_parseRfc_eq s o kw

/-- **the WHOLE of `_parse_date_value` as translated from source** (`Gen.rrsParseDateValue`: the parameter loop, then for every
    `,`-separated value `parser.parse` — a given function, C02 — with OverflowError turned into ValueError, the attach statement, the
    append): ValueError exactly when `dateParmsOk` fails, otherwise every value parsed and given the zone `<lookup>(resolveTzid …)` -/
theorem gen_parse_date_value_eq_model {D : Type} (parse : List Char → Py.R (D × Option StrPy.Zone)) (value : List Char)
    (parms : List (List Char)) (t : StrPy.Dict) (k : StrPy.TzidsKind) (lk : StrPy.Lookup) (hk : lookupOf k = some lk) :
    Gen.rrsParseDateValue parse value parms t k =
      match dateParmsOk parms with
      | .error _ => .error .ValueError
      | .ok _ => (splitOnChar ',' value).mapM (fun d =>
          (match parse d with | .error .OverflowError => .error .ValueError | r => r) >>= fun date =>
          (Gen.rrsAttach ((resolveTzid t parms).map (StrPy.Zone.looked lk)) date.2) >>= fun z => .ok (date.1, z)) :=
  gen_parseDateValue_eq parse value parms t k lk hk

/-- for values `parser.parse` reads as naive datetimes (`date_text_read_back`: the texts `__str__` prints), every value of the line gets the
    zone of the line's TZID parameter, none without one — what the model's `stepLine` records as `(value, parms)` and `tzidOf` resolves -/
theorem gen_parse_date_value_naive {D : Type} (f : List Char → D) (value : List Char) (parms : List (List Char))
    (t : StrPy.Dict) (k : StrPy.TzidsKind) (lk : StrPy.Lookup) (hk : lookupOf k = some lk) (hp : dateParmsOk parms = .ok ()) :
    Gen.rrsParseDateValue (fun d => .ok (f d, none)) value parms t k =
      .ok ((splitOnChar ',' value).map (fun d => (f d, (resolveTzid t parms).map (StrPy.Zone.looked lk)))) :=
  gen_parseDateValue_naive f value parms t k lk hk hp

/-- **the line dispatch of `_parse_rfc` as translated from source** (`Gen.rrsStepLine`: the body of `for line in lines:` — empty lines
    skipped, `name[;parms]:value` split, RRULE / EXRULE without parameters, RDATE with `VALUE=DATE-TIME` only, EXDATE / DTSTART through the
    parameter check of `_parse_date_value`, exactly one DTSTART value, anything else ValueError) **equals the model's `stepLine`**, hence
    the whole loop: `multi_line_builds_set` / `multi_line_single_rule` / `options_reach_every_path` speak of the dispatch as written -/
theorem gen_dispatch_eq_model (acc : Acc) (line : List Char) : Gen.rrsStepLine po acc line = stepLine po acc line :=
  gen_stepLine_eq po acc line

theorem gen_dispatch_loop_eq_model (lines : List (List Char)) (acc : Acc) :
    lines.foldlM (Gen.rrsStepLine po) acc = lines.foldlM (stepLine po) acc := by
  have : Gen.rrsStepLine po = stepLine po := by funext a l; exact gen_stepLine_eq po a l
  rw [this]

/-- **the WHOLE of `_rrulestr._parse_rfc` as translated from source** — the prefix (`Gen.rrsPrefix`), the single-line fast path, the line
    dispatch loop (`Gen.rrsStepLine`), the decision for a set, the set building with its four member kinds and the `compatible` DTSTART,
    the single-rule exit; rule lines through the translated `_parse_rfc_rrule` — **equals the model's `parseRfc`** for every text and all
    options: every theorem of this file about `parseRfc` (`errors_are_ValueError`, `case_irrelevant`, `str_roundtrip*`,
    `multi_line_builds_set`, `forceset`, `compatible*`, `options_reach_every_path`) holds of the parser AS WRITTEN -/
theorem gen_parse_rfc_eq_model (s0 : List Char) (o : Opts) (kw : Bool) : Gen.rrsParseRfc s0 o kw = parseRfc s0 o kw :=
  gen_parseRfc_eq s0 o kw

/-- the round trip through the two translated functions: `rrulestr(str(rule))`, both as written -/
theorem str_roundtrip_source_both (x : StrIn) (hx : Printable x) (t : Nat × Nat × Nat × Nat × Nat × Nat) (ht : x.dtstart = some t)
    (o : Opts) (hu : o.unfold = false) (hf : o.forceset = false) (hc : o.compatible = false) (kw : Bool) :
    Gen.rrsCall (Gen.rruleStr x) o kw = .ok (.rule (argsOf o.po x) (some (showDT t, [], o.po)) o.cache) := by
  rw [gen_call_eq_model]; exact str_roundtrip_source x hx t ht o hu hf hc kw

end C13
