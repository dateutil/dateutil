/-
  Properties/C20.lean — isoparse never misreads.  Theorems about the model `Iso.*` of
  isoparser.py (as of commits 6121d7a, 17b546f, b75c1b5, 4bf5835), for ALL byte strings, ALL
  separator configurations, ALL input kinds.  `IsoSpec.render / WFields / denote` are the printer,
  field validity (strict ISO weeks) and meaning of the supported ISO-8601 forms (Spec/IsoForms.lean).
  Soundness is proved by inverting every accepting path of `_parse_isodate_common`, `_parse_isodate_uncommon`,
  `_calculate_weekdate`, the `_parse_isotime` loop and `_parse_tzstr`; the error theorems say that every other input is
  rejected with ValueError and nothing else.
-/
import DateutilVerif.Proofs.IsoErrors
import DateutilVerif.Proofs.IsoTzSound
import DateutilVerif.Proofs.IsoSound
import DateutilVerif.Proofs.IsoGenEq
import DateutilVerif.Proofs.IsoGenLoop
namespace C20
open Iso Py

/-- soundness: accepted ⇒ the input is the rendering of well-formed fields in a
    supported form, with the configured separator, and the value is its denotation -/
theorem isoparse_sound (cfg : Option Nat) (s : Bytes) (v : Result) (h : isoparse cfg s = .ok v) :
    ∃ f x, IsoSpec.WFields f x ∧ (f.time ≠ .none → (cfg = none ∨ cfg = some f.sep)) ∧
      s = IsoSpec.render f x ∧ v = IsoSpec.denote f x :=
  isoparse_sound_core cfg s v h

/-- the same through the public entry (`sep` constructor check, ASCII gate, str or bytes) -/
theorem isoparse_entry_sound (sep : Option (List Nat)) (isStr : Bool) (s : Bytes) (v : Result)
    (h : isoparseFull sep isStr s = .ok v) :
    ∃ f x, IsoSpec.WFields f x ∧ s = IsoSpec.render f x ∧ v = IsoSpec.denote f x ∧
      (f.time ≠ .none → (sep = none ∨ sep = some [f.sep])) ∧
      (isStr = true → ∀ b ∈ s, b < 128) := by
  unfold isoparseFull at h
  cases hs : mkSep sep with
  | error e => simp [hs, bind, Except.bind] at h
  | ok sp =>
    simp only [hs, bind, Except.bind, asciiGate] at h
    have hsp : sp = none → sep = none := by
      intro e; subst e
      unfold mkSep at hs
      split at hs
      · rfl
      · split at hs <;> cases hs
      · cases hs
    have hsp' : ∀ c, sp = some c → sep = some [c] := by
      intro c e; subst e
      unfold mkSep at hs
      split at hs
      · cases hs
      · rename_i c'
        split at hs
        · cases hs
        · cases hs; rfl
      · cases hs
    split at h
    · cases h
    · rename_i hg
      obtain ⟨f, x, hW, hcf, er, ev⟩ := isoparse_sound_core sp s v h
      refine ⟨f, x, hW, er, ev, ?_, fun hstr b hb => ?_⟩
      · intro ht
        rcases hcf ht with h0 | h0
        · exact Or.inl (hsp h0)
        · exact Or.inr (hsp' _ h0)
      · by_cases hlt : b < 128
        · exact hlt
        · exact absurd ⟨hstr, List.any_eq_true.mpr ⟨b, hb, by simpa using hlt⟩⟩ hg

/-- with a configured separator the accepted strings are EXACTLY the renderings of well-formed
    fields with that separator (C20 soundness + C07 inverse law) -/
theorem isoparse_accepts_iff (c : Nat) (hc : isDigit c = false) (s : Bytes) (v : Result) :
    isoparse (some c) s = .ok v ↔
      ∃ f x, IsoSpec.WFields f x ∧ f.sep = c ∧ s = IsoSpec.render f x ∧ v = IsoSpec.denote f x :=
  Iso.isoparse_accepts_iff c hc s v

/-- soundness of `parse_isodate`, the final `date(...)` included -/
theorem parse_isodate_sound (s : Bytes) (y m d : Int) (h : parseIsodateEntry s = .ok (y, m, d)) :
    ∃ df x, s = IsoSpec.renderDate df x ∧ IsoSpec.dateWF true df x = true ∧
      1 ≤ IsoSpec.dateOrdinal df x ∧ IsoSpec.dateOrdinal df x ≤ Cal.maxOrdinal ∧
      (y, m, d) = Cal.fromOrdinal (IsoSpec.dateOrdinal df x) :=
  parseIsodateEntry_sound s y m d h

/-- soundness of `parse_isotime`, the range checks of `time(...)` included (hour 24 is returned as 0) -/
theorem parse_isotime_sound (s : Bytes) (c : TComps) (h : parseIsotimeEntry s = .ok c) :
    ∃ (tf : IsoSpec.TimeForm) (o : IsoSpec.OffForm) (x : IsoSpec.Fields), tf ≠ .none ∧
      IsoSpec.timeWF tf x = true ∧ IsoSpec.offWF o x = true ∧
      s = IsoSpec.renderTime tf x ++ IsoSpec.renderOff o x ∧
      c = { h := if (IsoSpec.timeShown tf x).1 = 24 then 0 else ((IsoSpec.timeShown tf x).1 : Int),
            m := (IsoSpec.timeShown tf x).2.1, s := (IsoSpec.timeShown tf x).2.2.1,
            us := (IsoSpec.timeShown tf x).2.2.2, tz := IsoSpec.offDenote o x } :=
  parseIsotimeEntry_sound s c h

/-- soundness of `parse_tzstr`, both `zero_as_utc` modes -/
theorem parse_tzstr_sound (s : Bytes) (z : Bool) (v : Off) (h : parseTzstr s z = .ok v) :
    ∃ o x, o ≠ IsoSpec.OffForm.naive ∧ IsoSpec.offWF o x = true ∧ s = IsoSpec.renderOff o x ∧
      v = offValue z o x :=
  parseTzstr_sound s z v h

/-- the only exception `isoparse` can raise is ValueError (all strings, all separator configs) -/
theorem isoparse_errors_ValueError (cfg : Option Nat) (s : Bytes) (e : PyErr)
    (h : isoparse cfg s = .error e) : e = .ValueError :=
  onlyVE_isoparse cfg s e h

/-- the same through `isoparser(sep).isoparse(x)`: invalid `sep`, non-ASCII text at the gate,
    str or bytes input -/
theorem isoparse_entry_errors_ValueError (sep : Option (List Nat)) (isStr : Bool) (s : Bytes) (e : PyErr)
    (h : isoparseFull sep isStr s = .error e) : e = .ValueError :=
  onlyVE_isoparseFull sep isStr s e h

/-- non-ASCII text is rejected (with ValueError) before any parsing -/
theorem non_ascii_rejected (sep : Option (List Nat)) (s : Bytes) (b : Nat) (hb : b ∈ s) (h128 : b ≥ 128) :
    ∃ e, isoparseFull sep true s = .error e ∧ e = .ValueError := by
  have hany : s.any (fun b => decide (b ≥ 128)) = true := by
    simp only [List.any_eq_true, decide_eq_true_eq]; exact ⟨b, hb, h128⟩
  unfold isoparseFull
  cases hs : mkSep sep with
  | error e => exact ⟨e, by simp [bind, Except.bind], onlyVE_mkSep sep e hs⟩
  | ok sp => exact ⟨.ValueError, by simp [bind, Except.bind, asciiGate, hany], rfl⟩

theorem parse_isodate_errors_ValueError (s : Bytes) (e : PyErr)
    (h : parseIsodateEntry s = .error e) : e = .ValueError := onlyVE_parseIsodateEntry s e h

theorem parse_isotime_errors_ValueError (s : Bytes) (e : PyErr)
    (h : parseIsotimeEntry s = .error e) : e = .ValueError := onlyVE_parseIsotimeEntry s e h

theorem parse_tzstr_errors_ValueError (s : Bytes) (z : Bool) (e : PyErr)
    (h : parseTzstr s z = .error e) : e = .ValueError := onlyVE_parseTzstr s z e h

/-- with a configured separator no other byte is accepted between date and time -/
theorem sep_exact (c : Nat) (s : Bytes) (v : Result) (h : isoparse (some c) s = .ok v) :
    ∃ ymd rest, parseIsodate s = .ok (ymd, rest) ∧ (rest = [] ∨ ∃ r, rest = c :: r) :=
  sep_exact_core c s v h

/-- every numeric field converted by `_parse_digits` is exactly `width` ASCII digits, read in
    decimal — no sign, space or underscore can be part of an accepted field -/
theorem fields_are_digits (f : Bytes) (w : Nat) (v : Int) (hw : 0 < w) :
    parseDigits f w = .ok v ↔ (f.length = w ∧ f.all isDigit = true ∧ v = (digitsVal f : Nat)) :=
  parseDigits_ok_iff f w v hw

/-! ### the same facts about the functions TRANSLATED from isoparser.py on every run
(`Gen.*`, Generated/IsoKernels.lean, produced by harness/translate_bytes.py): an edit to the source that
changes the behaviour of `_parse_digits`, `_parse_tzstr`, `_calculate_weekdate`, `_parse_isodate_common`,
`_parse_isodate_uncommon` or `_parse_isodate` breaks the equality lemmas of Proofs/IsoGenEq.lean and with them
these obligations. -/

/-- the translated `_parse_digits` accepts exactly `width` ASCII digits, read in decimal -/
theorem fields_are_digits_gen (f : Bytes) (w : Nat) (v : Int) (hw : 0 < w) :
    Gen.parseDigits f (w : Int) = .ok v ↔ (f.length = w ∧ f.all isDigit = true ∧ v = (digitsVal f : Nat)) := by
  rw [IsoGen.parseDigits_eq]; exact parseDigits_ok_iff f w v hw

/-- complete soundness of the translated `_parse_tzstr` -/
theorem parse_tzstr_sound_gen (s : Bytes) (z : Bool) (v : Off) (h : Gen.parseTzstr s z = .ok v) :
    ∃ o x, o ≠ IsoSpec.OffForm.naive ∧ IsoSpec.offWF o x = true ∧ s = IsoSpec.renderOff o x ∧
      v = offValue z o x := by
  rw [IsoGen.parseTzstr_eq] at h; exact parseTzstr_sound s z v h

theorem parse_tzstr_errors_ValueError_gen (s : Bytes) (z : Bool) (e : PyErr)
    (h : Gen.parseTzstr s z = .error e) : e = .ValueError := by
  rw [IsoGen.parseTzstr_eq] at h; exact onlyVE_parseTzstr s z e h

/-- soundness of the translated date scanner `_parse_isodate` (common, falling back to uncommon): what it accepts
    is the rendering of a date form followed by the unread suffix, the returned position is the length of that
    rendering, and the components are the ones the form denotes -/
theorem parse_isodate_scan_sound_gen (s : Bytes) (comps : List BytesPy.Comp) (pos : Int)
    (h : Gen.parseIsodate s = .ok (comps, pos)) :
    ∃ df x y m d rest, s = IsoSpec.renderDate df x ++ rest ∧ pos = ((IsoSpec.renderDate df x).length : Int) ∧
      comps = [.int y, .int m, .int d] ∧ DateScan df x (y, m, d) rest := by
  rw [IsoGen.parseIsodate_eq] at h
  obtain ⟨⟨⟨y, m, d⟩, rest⟩, hp, h⟩ := IsoGen.map_eq_ok h
  cases h
  obtain ⟨df, x, es, hsc⟩ := parseIsodate_inv s _ _ hp
  refine ⟨df, x, y, m, d, rest, es, ?_, rfl, hsc⟩
  rw [es]; simp

theorem parse_isodate_scan_errors_ValueError_gen (s : Bytes) (e : PyErr)
    (h : Gen.parseIsodate s = .error e) : e = .ValueError := by
  rw [IsoGen.parseIsodate_eq] at h
  exact onlyVE_parseIsodate s e (IsoGen.map_eq_error h)

/-- soundness of the translated `isoparse` -/
theorem isoparse_sound_gen (cfg : Option Nat) (s : Bytes) (v : Result)
    (h : Gen.isoparse (cfg.map fun c => [c]) s = .ok v) :
    ∃ f x, IsoSpec.WFields f x ∧ (f.time ≠ .none → (cfg = none ∨ cfg = some f.sep)) ∧
      s = IsoSpec.render f x ∧ v = IsoSpec.denote f x := by
  rw [IsoGen.isoparse_eq] at h; exact isoparse_sound_core cfg s v h

/-- the translated `isoparse` with a configured separator accepts EXACTLY the renderings -/
theorem isoparse_accepts_iff_gen (c : Nat) (hc : isDigit c = false) (s : Bytes) (v : Result) :
    Gen.isoparse (some [c]) s = .ok v ↔
      ∃ f x, IsoSpec.WFields f x ∧ f.sep = c ∧ s = IsoSpec.render f x ∧ v = IsoSpec.denote f x := by
  have := IsoGen.isoparse_eq (some c) s
  simp only [Option.map_some] at this
  rw [this]; exact Iso.isoparse_accepts_iff c hc s v

/-- the only exception kind of the translated `isoparse` is ValueError — in particular the loop never runs out of
    fuel (`NotImplemented`) and no `OverflowError`/`TypeError` of the primitives escapes -/
theorem isoparse_errors_ValueError_gen (cfg : Option Nat) (s : Bytes) (e : PyErr)
    (h : Gen.isoparse (cfg.map fun c => [c]) s = .error e) : e = .ValueError := by
  rw [IsoGen.isoparse_eq] at h; exact onlyVE_isoparse cfg s e h

theorem sep_exact_gen (c : Nat) (s : Bytes) (v : Result) (h : Gen.isoparse (some [c]) s = .ok v) :
    ∃ ymd rest, parseIsodate s = .ok (ymd, rest) ∧ (rest = [] ∨ ∃ r, rest = c :: r) := by
  have := IsoGen.isoparse_eq (some c) s
  simp only [Option.map_some] at this
  rw [this] at h; exact sep_exact_core c s v h

/-- soundness of the translated `_parse_isotime`: what it accepts is the rendering of a time form followed by an
    offset form, and the raw components are the ones the rendering shows -/
theorem parse_isotime_scan_sound_gen (s : Bytes) (comps : List BytesPy.Comp) (h : Gen.parseIsotime s = .ok comps) :
    ∃ (tf : IsoSpec.TimeForm) (xt : IsoSpec.Fields) (o : IsoSpec.OffForm) (xo : IsoSpec.Fields),
      TimeScan tf xt ∧ IsoSpec.offWF o xo = true ∧
      s = IsoSpec.renderTime tf xt ++ IsoSpec.renderOff o xo ∧
      comps = IsoGen.compsOf { shownComps tf xt with tz := IsoSpec.offDenote o xo } := by
  rw [IsoGen.parseIsotime_eq] at h
  obtain ⟨c, hp, rfl⟩ := IsoGen.map_eq_ok h
  obtain ⟨tf, xt, o, xo, hscan, how, es, hc, _⟩ := parseIsotime_inv s c hp
  exact ⟨tf, xt, o, xo, hscan, how, es, by rw [hc]⟩

theorem parse_isotime_scan_errors_ValueError_gen (s : Bytes) (e : PyErr)
    (h : Gen.parseIsotime s = .error e) : e = .ValueError := by
  rw [IsoGen.parseIsotime_eq] at h
  exact onlyVE_parseIsotime s e (IsoGen.map_eq_error h)

/-- soundness of the translated body of `parse_isodate` (the value is the date's ordinal) -/
theorem parse_isodate_sound_gen (s : Bytes) (o : Int) (h : Gen.parseIsodateEntry s = .ok o) :
    ∃ df x, s = IsoSpec.renderDate df x ∧ IsoSpec.dateWF true df x = true ∧
      1 ≤ IsoSpec.dateOrdinal df x ∧ IsoSpec.dateOrdinal df x ≤ Cal.maxOrdinal ∧ o = IsoSpec.dateOrdinal df x := by
  rw [IsoGen.parseIsodateEntry_eq] at h
  obtain ⟨⟨y, m, d⟩, hp, rfl⟩ := IsoGen.map_eq_ok h
  obtain ⟨df, x, es, hwf, h1, h2, he⟩ := parseIsodateEntry_sound s y m d hp
  refine ⟨df, x, es, hwf, h1, h2, ?_⟩
  have := (Cal.toOrdinal_fromOrdinal _ h1).1
  rw [← he] at this; exact this

theorem parse_isodate_errors_ValueError_gen (s : Bytes) (e : PyErr)
    (h : Gen.parseIsodateEntry s = .error e) : e = .ValueError := by
  rw [IsoGen.parseIsodateEntry_eq] at h
  exact onlyVE_parseIsodateEntry s e (IsoGen.map_eq_error h)

/-- soundness of the translated body of `parse_isotime` (hour 24 is returned as 0) -/
theorem parse_isotime_sound_gen (s : Bytes) (comps : List BytesPy.Comp) (h : Gen.parseIsotimeEntry s = .ok comps) :
    ∃ (tf : IsoSpec.TimeForm) (o : IsoSpec.OffForm) (x : IsoSpec.Fields), tf ≠ .none ∧
      IsoSpec.timeWF tf x = true ∧ IsoSpec.offWF o x = true ∧
      s = IsoSpec.renderTime tf x ++ IsoSpec.renderOff o x ∧
      comps = IsoGen.compsOf
        { h := if (IsoSpec.timeShown tf x).1 = 24 then 0 else ((IsoSpec.timeShown tf x).1 : Int),
          m := (IsoSpec.timeShown tf x).2.1, s := (IsoSpec.timeShown tf x).2.2.1,
          us := (IsoSpec.timeShown tf x).2.2.2, tz := IsoSpec.offDenote o x } := by
  rw [IsoGen.parseIsotimeEntry_eq] at h
  obtain ⟨c, hp, rfl⟩ := IsoGen.map_eq_ok h
  obtain ⟨tf, o, x, h1, h2, h3, h4, h5⟩ := parseIsotimeEntry_sound s c hp
  exact ⟨tf, o, x, h1, h2, h3, h4, by rw [h5]⟩

theorem parse_isotime_errors_ValueError_gen (s : Bytes) (e : PyErr)
    (h : Gen.parseIsotimeEntry s = .error e) : e = .ValueError := by
  rw [IsoGen.parseIsotimeEntry_eq] at h
  exact onlyVE_parseIsotimeEntry s e (IsoGen.map_eq_error h)

/-- the translated body of `parse_tzstr` is the translated `_parse_tzstr` (sound and ValueError-only, above) -/
theorem parse_tzstr_entry_sound_gen (s : Bytes) (z : Bool) (v : Off) (h : Gen.parseTzstrEntry s z = .ok v) :
    ∃ o x, o ≠ IsoSpec.OffForm.naive ∧ IsoSpec.offWF o x = true ∧ s = IsoSpec.renderOff o x ∧
      v = offValue z o x := by
  rw [IsoGen.parseTzstrEntry_eq] at h; exact parseTzstr_sound s z v h

/-- the translated `_takes_ascii` rejects non-ASCII TEXT (str or text stream) with ValueError before the wrapped
    method runs, and adds no exception kind of its own -/
theorem non_ascii_rejected_gen {α} (f : Bytes → R α) (t : List Nat) (b : Nat) (hb : b ∈ t) (h128 : b ≥ 128) :
    Gen.takesAscii f (.str t) = .error .ValueError ∧ Gen.takesAscii f (.streamStr t) = .error .ValueError := by
  have hany : t.any (fun c => decide (c ≥ 128)) = true := by
    simp only [List.any_eq_true, decide_eq_true_eq]; exact ⟨b, hb, h128⟩
  have e1 := IsoGen.takesAscii_eq f (.str t)
  have e2 := IsoGen.takesAscii_eq f (.streamStr t)
  simp only [IsoGen.toVal] at e1 e2
  rw [e1, e2]; simp [takesAscii, hany]

theorem takes_ascii_errors_ValueError_gen {α} (f : Bytes → R α) (hf : ∀ s, OnlyVE (f s)) (i : PyInput) (e : PyErr)
    (h : Gen.takesAscii f (IsoGen.toVal i) = .error e) : e = .ValueError := by
  rw [IsoGen.takesAscii_eq] at h
  cases i <;> simp only [takesAscii] at h
  · split at h
    · cases h; rfl
    · exact hf _ e h
  · exact hf _ e h
  · split at h
    · cases h; rfl
    · exact hf _ e h
  · exact hf _ e h

/-! non-vacuity -/
example : isoparse none [50,48,49,52,45,48,49,45,48,49,84,50,53] = .error .ValueError := by decide +kernel
example : parseTzstr [43,48,49,58,51,48] true = .ok (.fixed 5400) := by decide +kernel
example : isoparse (some 84) [50,48,49,52,45,48,49,45,48,49,32,49,48] = .error .ValueError := by decide +kernel
-- an accepted string (hypothesis of `isoparse_sound` is satisfiable): 2020-W53-4T24:00:00,000-00:00
example : isoparse none (("2020-W53-4T24:00:00,000-00:00".toList.map Char.toNat))
    = .ok ⟨{ y := 2021, m := 1, d := 1 }, some .utc⟩ := by decide +kernel
-- the witnesses of D-C20b/c/d/e: the model rejects all four with ValueError
example : isoparse none (("9999-12-31T24:00".toList.map Char.toNat)) = .error .ValueError := by decide +kernel
example : isoparse none (("2014-W53-1".toList.map Char.toNat)) = .error .ValueError := by decide +kernel
example : isoparse none (("9999-W52-6".toList.map Char.toNat)) = .error .ValueError := by decide +kernel
example : isoparse none (("2014-01-01T+01:00".toList.map Char.toNat)) = .error .ValueError := by decide +kernel

end C20
