/- Properties/TzObjGen.lean — the translator tie for the zone-construction / component-selection code of tz/tz.py:
   `gen_eq_model_*` obligations stating that the functions RE-TRANSLATED from the source on every run
   (Generated/TzObjKernels.lean, harness/translate_obj.py) equal the hand models of Model/ICal.lean (C17) and
   Model/TzStr.lean / Model/TzRange.lean (C08).  Listed in Audit/C17.lean and Audit/C08.lean. -/
import DateutilVerif.Proofs.TzObjEqICal
import DateutilVerif.Proofs.TzObjEqStr
import DateutilVerif.Proofs.TzStrWk
import DateutilVerif.Proofs.TzObjEqLocal
import DateutilVerif.Properties.TzGen

open Py DtPy ObjPy TzGen

namespace C17
open ICal

/-- `tzical._parse_offset` -/
theorem gen_eq_model_parse_offset (s : List Char) : Gen.tzical_parseOffset s = ICal.parseOffset s :=
  parseOffset_eq s

/-- `_tzicalvtz._find_compdt` (datetimes with microseconds; the result is the onset as a naive datetime) -/
theorem gen_eq_model_find_compdt (comps : List ZComp) (c : ZComp) (w f : Int) (fold att : Bool) (h0 : 0 ≤ f) (h1 : f < M) :
    Gen.tzicalvtz_findCompdt comps c (D w f fold att) = .ok ((ICal.findCompdt c w fold).map Dn0) :=
  findCompdt_eq comps c w f fold att h0 h1

/-- `_tzicalvtz._find_comp`, result AND both cache lists: from the images `cdOf/ccOf` of any model cache the
    translated function returns the component `findCompCached` selects and leaves the images of its new cache
    (`_cachedate` / `_cachecomp` entry by entry, most recent first, at most ten).  `f` is the microsecond part
    shared by the query and the cached keys (0 for the model's whole-second domain). -/
theorem gen_eq_model_find_comp (comps : List ZComp) (hne : comps ≠ []) (cache : Cache) (w f : Int) (fold att : Bool)
    (h0 : 0 ≤ f) (h1 : f < M) :
    Gen.tzicalvtz_findComp comps (cdOf f cache) (ccOf comps cache) (D w f fold att) =
      .ok (some (comps.getD (findCompCached comps cache w fold).1 default),
           cdOf f (findCompCached comps cache w fold).2, ccOf comps (findCompCached comps cache w fold).2) :=
  findComp_eq comps hne cache w f fold att h0 h1

/-- the uncached selection (`findCompIdx` = `selStep` fold + first-STANDARD fallback) is what the translated
    function computes from empty cache lists -/
theorem gen_eq_model_find_comp_idx (comps : List ZComp) (hne : comps ≠ []) (w f : Int) (fold att : Bool)
    (h0 : 0 ≤ f) (h1 : f < M) :
    (Gen.tzicalvtz_findComp comps [] [] (D w f fold att)).map (·.1) =
      .ok (some (comps.getD (findCompIdx comps w fold) default)) := by
  have h := findComp_eq comps hne [] w f fold att h0 h1
  have hs := (findCompCached_spec comps [] w fold (by intro e he; cases he)).1
  simp only [cdOf, ccOf, List.map_nil] at h
  rw [h, hs]; rfl

/-- `_tzicalvtz.utcoffset` / `dst` through a cache satisfying the model's invariant -/
theorem gen_eq_model_utcoffset (comps : List ZComp) (hne : comps ≠ []) (cache : Cache) (hinv : CacheInv comps cache)
    (w f : Int) (fold att : Bool) (h0 : 0 ≤ f) (h1 : f < M) :
    Gen.tzicalvtz_utcoffset comps (cdOf f cache) (ccOf comps cache) (D w f fold att) =
      .ok (tdSeconds (ICal.utcoffset comps w fold),
           cdOf f (findCompCached comps cache w fold).2, ccOf comps (findCompCached comps cache w fold).2) :=
  ical_utcoffset_eq comps hne cache hinv w f fold att h0 h1

theorem gen_eq_model_dst (comps : List ZComp) (hne : comps ≠ []) (cache : Cache) (hinv : CacheInv comps cache)
    (w f : Int) (fold att : Bool) (h0 : 0 ≤ f) (h1 : f < M) :
    Gen.tzicalvtz_dst comps (cdOf f cache) (ccOf comps cache) (D w f fold att) =
      .ok (tdSeconds (ICal.dst comps w fold),
           cdOf f (findCompCached comps cache w fold).2, ccOf comps (findCompCached comps cache w fold).2) :=
  ical_dst_eq comps hne cache hinv w f fold att h0 h1

/-- `_tzicalvtz.tzname`: tzname is the selected component's TZNAME (`names`: the TZNAME field of the component objects,
    which `ICal.ZComp` does not carry); the selection is `findCompIdx` -/
theorem gen_eq_model_tzname (comps : List ZComp) (names : ZComp → Option (List Char)) (hne : comps ≠ []) (cache : Cache)
    (hinv : CacheInv comps cache) (w f : Int) (fold att : Bool) (h0 : 0 ≤ f) (h1 : f < M) :
    Gen.tzicalvtz_tzname comps names (cdOf f cache) (ccOf comps cache) (D w f fold att) =
      .ok (names (comps.getD (findCompIdx comps w fold) default),
           cdOf f (findCompCached comps cache w fold).2, ccOf comps (findCompCached comps cache w fold).2) :=
  ical_tzname_eq comps names hne cache hinv w f fold att h0 h1

/-- C17.cache_transparent's step about the TRANSLATED function: with the model's invariant the translated `_find_comp`
    answers like the uncached selection -/
theorem cache_step_gen (comps : List ZComp) (hne : comps ≠ []) (cache : Cache) (hinv : CacheInv comps cache)
    (w f : Int) (fold att : Bool) (h0 : 0 ≤ f) (h1 : f < M) :
    (Gen.tzicalvtz_findComp comps (cdOf f cache) (ccOf comps cache) (D w f fold att)).map (·.1) =
      .ok (some (comps.getD (findCompIdx comps w fold) default)) := by
  rw [findComp_eq comps hne cache w f fold att h0 h1, (findCompCached_spec comps cache w fold hinv).1]; rfl

end C17

namespace C08
open TzStr

/-- `tzrange.__init__` (int-or-None offsets, relativedelta-or-None rules); the object is read by `ObjPy.zoneOf` -/
theorem gen_eq_model_tzrange_init (sa : Option String) (so : Option Int) (da : Option String) (d : Option Int)
    (st en : Option Delta) :
    (Gen.tzrange_init sa so da d (DArg.ofOpt st) (DArg.ofOpt en)).map zoneOf = TzStr.tzrange sa so da d st en :=
  tzrange_init_eq sa so da d st en

/-- `tzstr._delta` (kwargs dictionary and `relativedelta(**kwargs)`); `hwk`: a rule with a weekday has a week, as
    the parser guarantees (otherwise the implementation raises TypeError on `None > 0`, the model does not) -/
theorem gen_eq_model_tzstr_delta (x : Attr) (isend : Bool) (stdOff dstOff : Int)
    (hwk : x.month.isSome → x.weekday.isSome → x.week.isSome) :
    Gen.tzstr_delta (stdOff * M) (dstOff * M) x (b2i isend) = TzStr.delta x isend stdOff dstOff :=
  tzstr_delta_eq x isend stdOff dstOff hwk

/-- `tzrange.transitions`; `hz`: a zone with DST has both rules (otherwise the implementation raises TypeError on
    `datetime + None`, the model answers None) -/
theorem gen_eq_model_transitions (z : Zone) (year : Int) (hz : z.hasdst = true → z.start.isSome ∧ z.«end».isSome) :
    Gen.tzrange_transitions z year = TzStr.transitions z year :=
  tzrange_transitions_eq z year hz

/-- `tzstr.__init__`: the GMT/UTC sign flip, the base-class constructor called with `start=False, end=False`, `_delta`
    for both rules, the falsy-start-delta corner and `hasdst`; `parser._parsetz` is the model's parser.  No residual
    hypothesis: `parse_weekday_has_week` shows the parser's rules with a weekday have a week. -/
theorem gen_eq_model_tzstr_init (s : String) (posix : Bool) :
    (Gen.tzstr_init s posix).map zoneOf = TzStr.tzstr s posix :=
  tzstr_init_eq s posix (fun res h => parse_W s res h)

/-- the parser invariant used above: every rule record `TzStr.parse` returns with a weekday has a week -/
theorem parse_weekday_has_week (s : String) (res : Res) (h : TzStr.parse s = .ok (some res)) :
    (res.start.weekday.isSome → res.start.week.isSome) ∧ (res.«end».weekday.isSome → res.«end».week.isSome) :=
  parseTokens_W _ _ h

/-- `tzrange.__eq__` -/
theorem gen_eq_model_zone_eq (a b : Zone) : Gen.tzrange_eq a b = .ok (zoneEq a b) := tzrange_eq_eq a b

end C08

namespace C08
open TZ

theorem gen_eq_model_tzlocal_naive_is_dst (z : RangeZone) (w f : Int) (fold att : Bool) (h0 : 0 ≤ f) (h1 : f < M) :
    Gen.tzlocal_naiveIsDst z (D w f fold att) = .ok (b2i (localNaiveIsdst z w)) :=
  local_naive_eq z w f fold att h0 h1

theorem gen_eq_model_tzlocal_isdst (z : RangeZone) (w f : Int) (fold att fn : Bool) (h0 : 0 ≤ f) (h1 : f < M) :
    Gen.tzlocal_isdst z (D w f fold att) fn = .ok (b2i (localIsdst z ⟨w, fold⟩)) :=
  local_isdst_eq z w f fold att fn h0 h1

theorem gen_eq_model_tzlocal_utcoffset (z : RangeZone) (w f : Int) (fold att : Bool) (h0 : 0 ≤ f) (h1 : f < M) :
    Gen.tzlocal_utcoffset z (D w f fold att) = .ok (tdSeconds ((localZone z).utcoffset ⟨w, fold⟩)) ∧
    Gen.tzlocal_dst z (D w f fold att) = .ok (tdSeconds ((localZone z).dst ⟨w, fold⟩)) :=
  ⟨local_utcoffset_eq z w f fold att h0 h1, local_dst_eq z w f fold att h0 h1⟩

/-- `tzlocal.tzname`: `time.tzname[isdst]` (the model carries no names for tzlocal) -/
theorem gen_eq_model_tzlocal_tzname (z : RangeZone) (w f : Int) (fold att : Bool) (h0 : 0 ≤ f) (h1 : f < M) :
    Gen.tzlocal_tzname z (D w f fold att) = .ok (if localIsdst z ⟨w, fold⟩ then z.dstAbbr else z.stdAbbr) :=
  local_tzname_eq z w f fold att h0 h1

end C08

namespace C05
open TZ

theorem gen_eq_model_tzlocal_is_ambiguous (z : RangeZone) (w f : Int) (fold att : Bool) (h0 : 0 ≤ f) (h1 : f < M) :
    Gen.tzlocal_isAmbiguous z (D w f fold att) = .ok (localIsAmbiguous z w) ∧
    Gen.tzlocal_isAmbiguous z (D w f fold att) = .ok ((localZone z).isAmbiguous w) :=
  ⟨local_isAmbiguous_eq z w f fold att h0 h1, local_isAmbiguous_eq z w f fold att h0 h1⟩

theorem gen_eq_model_tzlocal_isdst (z : RangeZone) (w f : Int) (fold att fn : Bool) (h0 : 0 ≤ f) (h1 : f < M) :
    Gen.tzlocal_isdst z (D w f fold att) fn = .ok (b2i (localIsdst z ⟨w, fold⟩)) :=
  local_isdst_eq z w f fold att fn h0 h1

end C05

namespace C04
open TZ

/-- `@_validate_fromutc_inputs`: ValueError unless the datetime is attached to the zone, otherwise the wrapped method -/
theorem gen_eq_model_validate_fromutc_inputs (g : Dt → R Dt) (d : Dt) :
    Gen.validateFromutcInputs g d = if d.attached then g d else .error .ValueError :=
  validate_eq g d

/-- the PUBLIC `fromutc` of the three zone families = decorator ∘ translated body: equal to the model on attached
    datetimes, ValueError on a datetime of another zone (or naive) -/
theorem gen_eq_model_fromutc_decorated (zr : RangeZone) (zg : GenericZone) (t f : Int) (h0 : 0 ≤ f) (h1 : f < M) :
    Gen.validateFromutcInputs (Gen.tzrange_fromutc zr) (D t f false true) =
      ((zr.fromutc t).map fun w => D w.wall f w.fold true) ∧
    Gen.validateFromutcInputs (Gen.tzinfo_fromutc zg) (D t f false true) =
      .ok (D (zg.fromutc t).wall f (zg.fromutc t).fold true) ∧
    (∀ g fold, Gen.validateFromutcInputs g (D t f fold false) = .error .ValueError) := by
  refine ⟨?_, ?_, fun g fold => validate_detached g t f fold⟩
  · rw [validate_attached]; exact range_fromutc_eq zr t f h0 h1
  · rw [validate_attached]; exact generic_fromutc_eq zg t f true h0 h1

theorem gen_eq_model_tzfile_fromutc_decorated (r : TZ.Raw) (hwf : Spec.wf r = true) (hne : r.trans ≠ []) (t f : Int)
    (h0 : 0 ≤ f) (h1 : f < M) :
    Gen.validateFromutcInputs (Gen.tzfile_fromutc (build r)) (D t f false true) =
      (TZ.fromutc (build r) t).map fun w => D w.wall f w.fold true := by
  rw [validate_attached]; exact C04.gen_eq_model_fromutc r hwf hne t f h0 h1

/-- the offsets the generic `_tzinfo.fromutc` (C04.gen_eq_model_tzinfo_fromutc) reads for a tzlocal -/
theorem gen_eq_model_tzlocal_utcoffset (z : RangeZone) (w f : Int) (fold att : Bool) (h0 : 0 ≤ f) (h1 : f < M) :
    Gen.tzlocal_utcoffset z (D w f fold att) = .ok (tdSeconds ((localZone z).utcoffset ⟨w, fold⟩)) ∧
    Gen.tzlocal_dst z (D w f fold att) = .ok (tdSeconds ((localZone z).dst ⟨w, fold⟩)) :=
  ⟨local_utcoffset_eq z w f fold att h0 h1, local_dst_eq z w f fold att h0 h1⟩

end C04
