/-
  Properties/TzLoadGen.lean — the LOAD PATHS of C06 ("zones loaded through a path, a stream or an archive incl. link entries are
  equal"), about the CURRENT source: `tz.tzfile.__init__` and `zoneinfo.ZoneInfoFile.__init__` / `get` are re-translated on
  every run (harness/translate_load.py → Generated/TzLoadKernels.lean) and call the TRANSLATED reader `Gen.readTzfile`.
  `load_paths_equal`: every load path hands the same bytes to `_read_tzfile` and therefore builds the same zone data — a file
  name, an open stream (whatever its name / the `filename=` argument), a regular member of an archive that loads, and a link
  member (hard or symbolic) pointing to it.
-/
import DateutilVerif.Properties.TzifGen
import DateutilVerif.Generated.TzLoadKernels

set_option linter.unusedSimpArgs false
set_option linter.unusedVariables false

open Py LoadPy

namespace C06

/-- the zone a tzfile object carries, read through its references (None when no file was read) -/
def zoneOf (x : R TzObj) : R (Option TZ.TzFile) := x.map fun o => o.data.map TzifPy.Out.view

/-- **gen_tzfile_init_stream.** An open stream: its bytes go to the reader; `_filename` is the `filename=` argument, else the
    stream's `.name`, else its repr. -/
theorem gen_tzfile_init_stream (fs : FS) (d : Bytes) (nm : Option String) (rp : String) (fn : Option String) :
    Gen.tzfile_init fs (.stream d nm rp) fn =
      (Gen.readTzfile d).map fun o => { filename := fn.getD (nm.getD rp), data := some o } := by
  unfold Gen.tzfile_init
  cases fn <;> cases nm <;>
    simp [isStr, LoadPy.isNone, hasName, nameOf, reprOf, streamBytes, bind, Except.bind, pure, Except.pure, Except.map] <;>
    cases Gen.readTzfile d <;> rfl

/-- **gen_tzfile_init_path.** A file name: `open(name, 'rb')`, the bytes go to the reader, `_filename` is the name. -/
theorem gen_tzfile_init_path (fs : FS) (p : String) (d : Bytes) (h : fs p = some d) (fn : Option String) :
    Gen.tzfile_init fs (.path p) fn = (Gen.readTzfile d).map fun o => { filename := p, data := some o } := by
  unfold Gen.tzfile_init
  simp [isStr, strOf, openRb, h, LoadPy.isNone, streamBytes, bind, Except.bind, pure, Except.pure, Except.map]
  cases Gen.readTzfile d <;> rfl

/-- `tzfile(None, filename)` (the reconstruction path of `tzfile.__reduce_ex__`, Model/Reduce.lean): nothing is read -/
theorem gen_tzfile_init_none (fs : FS) (fn : Option String) :
    Gen.tzfile_init fs .none_ fn = .ok { filename := fn.getD "None", data := none } := by
  unfold Gen.tzfile_init
  cases fn <;> simp [isStr, LoadPy.isNone, hasName, reprOf, bind, Except.bind, pure, Except.pure]

theorem dget_of_mem (L : Dict) (k : String) (v : TzObj) (hm : (k, v) ∈ L)
    (hu : ∀ p ∈ L, p.1 = k → p.2 = v) : dget L k = some v := by
  unfold dget
  cases hf : L.reverse.find? (fun p => p.1 == k) with
  | none =>
      have := List.find?_eq_none.mp hf (k, v) (by simpa using hm)
      simp at this
  | some p =>
      have hp := List.mem_of_find?_eq_some hf
      have hk := List.find?_some hf
      simp only [beq_iff_eq] at hk
      simp [hu p (by simpa using hp) hk]

theorem dget_append_left (A B : Dict) (k : String) (h : ∀ p ∈ B, p.1 ≠ k) : dget (A ++ B) k = dget A k := by
  unfold dget
  rw [List.reverse_append, List.find?_append]
  have : B.reverse.find? (fun p => p.1 == k) = none := by
    apply List.find?_eq_none.mpr
    intro p hp
    simpa using h p (by simpa using hp)
  simp [this]

theorem dget_append_right (A B : Dict) (k : String) (v : TzObj) (h : dget B k = some v) : dget (A ++ B) k = some v := by
  unfold dget at h ⊢
  rw [List.reverse_append, List.find?_append]
  cases hf : B.reverse.find? (fun p => p.1 == k) with
  | none => simp [hf] at h
  | some p => simpa [hf] using h

/-- the value a comprehension computed for an element (meaningful where the computation succeeded) -/
def okOr {α} (val : α → R TzObj) (x : α) : TzObj :=
  match val x with
  | .ok o => o
  | .error _ => { filename := "", data := none }

/-- a comprehension that succeeds: every selected element's value was computed, and the dictionary lists them in order -/
theorem dictCompM_ok {α} (cond : α → Bool) (key : α → String) (val : α → R TzObj) :
    ∀ (xs : List α) (acc D : Dict),
      xs.foldlM (fun acc x => if cond x then (val x).map (fun v => acc ++ [(key x, v)]) else .ok acc) acc = .ok D →
      (∀ x ∈ xs, cond x = true → val x = .ok (okOr val x)) ∧
        D = acc ++ (xs.filter cond).map (fun x => (key x, okOr val x))
  | [], acc, D, h => by
      simp [List.foldlM, pure, Except.pure] at h
      exact ⟨by simp, by simp [h]⟩
  | x :: xs, acc, D, h => by
      simp only [List.foldlM, bind, Except.bind] at h
      by_cases hc : cond x = true
      · simp only [hc, ↓reduceIte] at h
        cases hv : val x with
        | error e => simp [hv, Except.map] at h
        | ok v =>
            simp only [hv, Except.map] at h
            obtain ⟨h1, h2⟩ := dictCompM_ok cond key val xs _ D h
            have hx : okOr val x = v := by simp [okOr, hv]
            refine ⟨?_, ?_⟩
            · intro y hy hcy
              rcases List.mem_cons.mp hy with e | e
              · subst e; rw [hx, hv]
              · exact h1 y e hcy
            · rw [h2]; simp [List.filter_cons, hc, hx]
      · simp only [hc, Bool.false_eq_true, ↓reduceIte] at h
        obtain ⟨h1, h2⟩ := dictCompM_ok cond key val xs _ D h
        refine ⟨?_, ?_⟩
        · intro y hy hcy
          rcases List.mem_cons.mp hy with e | e
          · subst e; exact absurd hcy hc
          · exact h1 y e hcy
        · rw [h2]; simp [List.filter_cons, hc]

theorem dictCompM_eq {α} (xs : List α) (cond : α → Bool) (key : α → String) (val : α → R TzObj) (D : Dict)
    (h : dictCompM xs cond key val = .ok D) :
    (∀ x ∈ xs, cond x = true → val x = .ok (okOr val x)) ∧ D = (xs.filter cond).map (fun x => (key x, okOr val x)) := by
  have := dictCompM_ok cond key val xs [] D h
  simpa using this

theorem except_eta {α} (x : R α) : (match x with | .error e => .error e | .ok v => .ok v) = x := by cases x <;> rfl

/-- an archive that loads: its zone dictionary is the regular members (except METADATA) read by `tzfile(stream, filename=name)`,
    followed by the link members bound to their targets' objects -/
theorem archive_zones (fs : FS) (ms : List Member) (z : ZIF) (hinit : Gen.zoneInfoFile_init fs (some ms) = .ok z) :
    ∃ Z1 L, z.zones = Z1 ++ L ∧
      dictCompM ms (fun zf => zf.isfile && (zf.name != "METADATA")) (fun zf => zf.name)
        (fun zf => Gen.tzfile_init fs (extractfile zf) (some zf.name)) = .ok Z1 ∧
      dictCompM ms (fun zl => zl.islnk || zl.issym) (fun zl => zl.name) (fun zl => dgetR Z1 zl.linkname) = .ok L := by
  unfold Gen.zoneInfoFile_init at hinit
  simp only [Option.isNone_some, Bool.not_false, ↓reduceIte, tarOpen, bind, Except.bind, pure, Except.pure, except_eta] at hinit
  cases h1 : dictCompM ms (fun zf => zf.isfile && (zf.name != "METADATA")) (fun zf => zf.name)
      (fun zf => Gen.tzfile_init fs (extractfile zf) (some zf.name)) with
  | error e =>
      exfalso
      simp [h1] at hinit
  | ok Z1 =>
      simp only [h1] at hinit
      cases h2 : dictCompM ms (fun zl => zl.islnk || zl.issym) (fun zl => zl.name) (fun zl => dgetR Z1 zl.linkname) with
      | error e =>
          exfalso
          simp [h2] at hinit
      | ok L =>
          simp only [h2] at hinit
          refine ⟨Z1, L, ?_, rfl, h2⟩
          split at hinit
          · cases hinit
          · rename_i v hv
            split at hv
            · cases hv
            · simp only [Except.ok.injEq] at hv hinit
              rw [← hinit, ← hv]

/-- the object an archive holds for a regular member, and for a link member pointing to it -/
theorem archive_members (fs : FS) (ms : List Member) (z : ZIF) (hinit : Gen.zoneInfoFile_init fs (some ms) = .ok z)
    (m : Member) (hm : m ∈ ms) (d : Bytes) (hk : m.kind = .file d) (hmeta : m.name ≠ "METADATA")
    (hsame : ∀ m' ∈ ms, m'.isfile = true → m'.name = m.name → m'.kind = .file d)
    (hnolink : ∀ l ∈ ms, (l.islnk || l.issym) = true → l.name ≠ m.name) :
    ∃ o, Gen.readTzfile d = .ok o ∧
      Gen.zoneInfoFile_get z m.name none = .ok (some { filename := m.name, data := some o }) ∧
      ∀ l ∈ ms, (l.islnk || l.issym) = true → l.linkname = m.name →
        (∀ l' ∈ ms, (l'.islnk || l'.issym) = true → l'.name = l.name → l'.linkname = m.name) →
        Gen.zoneInfoFile_get z l.name none = .ok (some { filename := m.name, data := some o }) := by
  obtain ⟨Z1, L, hz, h1, h2⟩ := archive_zones fs ms z hinit
  obtain ⟨hv1, hZ1⟩ := dictCompM_eq _ _ _ _ _ h1
  obtain ⟨hv2, hL⟩ := dictCompM_eq _ _ _ _ _ h2
  have hc1 : (m.isfile && (m.name != "METADATA")) = true := by simp [Member.isfile, hk, hmeta]
  have hext : ∀ x : Member, x.kind = .file d → x.name = m.name →
      Gen.tzfile_init fs (extractfile x) (some x.name) =
        (Gen.readTzfile d).map fun o => { filename := m.name, data := some o } := by
    intro x hx hn
    simp only [extractfile, hx, gen_tzfile_init_stream, hn, Option.getD_some]
  have hvm := hv1 m hm hc1
  rw [hext m hk rfl] at hvm
  cases hr : Gen.readTzfile d with
  | error e => rw [hr] at hvm; simp [Except.map] at hvm
  | ok o =>
    have hval : ∀ x ∈ ms, (x.isfile && (x.name != "METADATA")) = true → x.name = m.name →
        okOr (fun zf => Gen.tzfile_init fs (extractfile zf) (some zf.name)) x = { filename := m.name, data := some o } := by
      intro x hx hcx hn
      have hxf : x.isfile = true := by simp only [Bool.and_eq_true] at hcx; exact hcx.1
      simp only [okOr, hext x (hsame x hx hxf hn) hn, hr, Except.map]
    have hg1 : dget Z1 m.name = some { filename := m.name, data := some o } := by
      apply dget_of_mem
      · rw [hZ1]; simp only [List.mem_map, List.mem_filter]
        exact ⟨m, ⟨hm, hc1⟩, by rw [hval m hm hc1 rfl]⟩
      · intro p hp hpk
        rw [hZ1] at hp; simp only [List.mem_map, List.mem_filter] at hp
        obtain ⟨x, ⟨hx, hcx⟩, rfl⟩ := hp
        exact hval x hx hcx hpk
    have hLkeys : ∀ p ∈ L, ∃ x ∈ ms, (x.islnk || x.issym) = true ∧ p = (x.name, okOr (fun zl => dgetR Z1 zl.linkname) x) := by
      intro p hp
      rw [hL] at hp; simp only [List.mem_map, List.mem_filter] at hp
      obtain ⟨x, ⟨hx, hcx⟩, rfl⟩ := hp
      exact ⟨x, hx, hcx, rfl⟩
    refine ⟨o, rfl, ?_, ?_⟩
    · unfold Gen.zoneInfoFile_get
      simp only [pure, Except.pure, hz, Option.or_none]
      rw [dget_append_left _ _ _ (by
        intro p hp; obtain ⟨x, hx, hcx, rfl⟩ := hLkeys p hp; exact hnolink x hx hcx), hg1]
    · intro l hl hcl hln huniq
      unfold Gen.zoneInfoFile_get
      simp only [pure, Except.pure, hz, Option.or_none]
      have hlval : ∀ x : Member, x.linkname = m.name →
          okOr (fun zl => dgetR Z1 zl.linkname) x = { filename := m.name, data := some o } := by
        intro x hx; simp only [okOr, dgetR, hx, hg1]
      rw [dget_append_right _ _ _ { filename := m.name, data := some o }]
      apply dget_of_mem
      · rw [hL]; simp only [List.mem_map, List.mem_filter]
        exact ⟨l, ⟨hl, hcl⟩, by rw [hlval l hln]⟩
      · intro p hp hpk
        obtain ⟨x, hx, hcx, rfl⟩ := hLkeys p hp
        exact hlval x (huniq x hx hcx hpk)

/-- **load_paths_equal.** Whatever the load path — a file name, an open stream (any name, any `filename=` argument), a regular
    member of an archive that loads, a hard or symbolic link member pointing to it — the bytes `d` reach `_read_tzfile`
    unchanged and the zone object carries the SAME data: the model's `build r` whenever `decode d = r`. -/
theorem load_paths_equal (fs : FS) (d : Bytes) (r : TZ.Raw) (hd : TZ.decode d = .ok r)
    (p : String) (hp : fs p = some d) (nm fn fn' : Option String) (rp : String)
    (ms : List Member) (z : ZIF) (hinit : Gen.zoneInfoFile_init fs (some ms) = .ok z)
    (m : Member) (hm : m ∈ ms) (hk : m.kind = .file d) (hmeta : m.name ≠ "METADATA")
    (hsame : ∀ m' ∈ ms, m'.isfile = true → m'.name = m.name → m'.kind = .file d)
    (hnolink : ∀ l ∈ ms, (l.islnk || l.issym) = true → l.name ≠ m.name)
    (l : Member) (hl : l ∈ ms) (hcl : (l.islnk || l.issym) = true) (hln : l.linkname = m.name)
    (hluniq : ∀ l' ∈ ms, (l'.islnk || l'.issym) = true → l'.name = l.name → l'.linkname = m.name) :
    zoneOf (Gen.tzfile_init fs (.path p) fn) = .ok (some (TZ.build r)) ∧
    zoneOf (Gen.tzfile_init fs (.stream d nm rp) fn') = .ok (some (TZ.build r)) ∧
    zoneOf ((Gen.zoneInfoFile_get z m.name none).map (·.getD { filename := "", data := none })) = .ok (some (TZ.build r)) ∧
    zoneOf ((Gen.zoneInfoFile_get z l.name none).map (·.getD { filename := "", data := none })) = .ok (some (TZ.build r)) := by
  obtain ⟨o, ho, hv, _⟩ := read_tzfile_ok d r hd
  obtain ⟨o', ho', hg, hlk⟩ := archive_members fs ms z hinit m hm d hk hmeta hsame hnolink
  have : o' = o := by rw [ho] at ho'; exact (Except.ok.inj ho').symm
  subst this
  refine ⟨?_, ?_, ?_, ?_⟩
  · rw [gen_tzfile_init_path fs p d hp, ho]; simp [zoneOf, Except.map, hv]
  · rw [gen_tzfile_init_stream, ho]; simp [zoneOf, Except.map, hv]
  · rw [hg]; simp [zoneOf, Except.map, hv]
  · rw [hlk l hl hcl hln hluniq]; simp [zoneOf, Except.map, hv]

end C06
