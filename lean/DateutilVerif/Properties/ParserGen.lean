/-
  Properties/ParserGen.lean — obligations that tie C02 / C14 / C15 to the CURRENT source of parser/_parser.py: every
  function listed here is re-translated from /repo on every run (harness/translate_parser.py → Generated/ParserOps.lean,
  `Gen.P.*`, primitives Model/ParserPy.lean) and proved EQUAL to the function of the hand model Model/Parser.lean that
  the property theorems are stated about (`gen_eq_model_<function>`), for ALL arguments.  A behaviour-changing edit of one
  of these functions breaks the translation (a named construct) or the obligation named after it; the driver ops
  `pgen.*` (Ops/ParserGen.lean, harness/pgenlib.py) run the translated functions against the implementation on every run.
-/
import DateutilVerif.Proofs.ParserGenYmd
import DateutilVerif.Proofs.ParserGenStrids
import DateutilVerif.Proofs.ParserGenSmall
import DateutilVerif.Proofs.ParserGenHms
import DateutilVerif.Proofs.ParserGenNum
import DateutilVerif.Proofs.ParserGenStep
import DateutilVerif.Proofs.ParserGenNaive
import DateutilVerif.Proofs.ParserGenLoop
import DateutilVerif.Proofs.ParserGenParse
import DateutilVerif.Proofs.ParserGenTail
import DateutilVerif.Proofs.ParserGenInit
import DateutilVerif.Proofs.ParserGenTzinfo

namespace ParserGen
open PM Py

/-! ### `_ymd` -/

/-- `_ymd.append(str, label)`: the century rule (a digit string longer than two characters is a year, whatever label
    was passed — except that a label other than None/'Y' is then a ValueError), `int(val)`, the three label slots -/
theorem gen_eq_model_ymd_append_str (cls : Char → CClass) (self : Ymd) (val : Token) (label : Label) :
    Gen.P.ymd_appendTok cls self val label = self.appendTok cls val label := PGen.appendTok_eq cls self val label

/-- `_ymd.append(Decimal, label)`: a value above 100 is a year -/
theorem gen_eq_model_ymd_append_decimal (cls : Char → CClass) (self : Ymd) (val : Dec) (label : Label) :
    Gen.P.ymd_appendDec cls self val label = self.appendDec val label := PGen.appendDec_eq cls self val label

/-- `_ymd.append(int, label)` -/
theorem gen_eq_model_ymd_append_int (cls : Char → CClass) (self : Ymd) (val : Nat) (label : Label) :
    Gen.P.ymd_appendNat cls self val label = self.appendNat val label := PGen.appendNat_eq cls self val label

/-- `_ymd.append(str(n), label)` for the text of a non-negative int (what `_parse` appends for `Jan of 01`): the century
    rule looks at the length of the decimal text -/
theorem gen_eq_model_ymd_append_intstr (cls : Char → CClass) (self : Ymd) (n : Int) (label : Label) (hn : 0 ≤ n) :
    Gen.P.ymd_appendIntStr cls self n label = self.appendCore (PPy.intStrLen n > 2) (.ok n.toNat) label :=
  PGen.appendIntStr_eq cls self n label hn

/-- `_ymd.could_be_day(value)` with the three properties `has_day / has_month / has_year` inlined -/
theorem gen_eq_model_ymd_could_be_day (self : Ymd) (value : Dec) :
    Gen.P.ymd_couldBeDay self value = self.couldBeDay value := PGen.couldBeDay_eq self value

/-- `_ymd._resolve_from_stridxs(strids)` on the dict `resolve_ymd` builds from the three label slots -/
theorem gen_eq_model_ymd_resolve_from_stridxs (self : Ymd) :
    Gen.P.ymd_resolveFromStridxs self self.strids = self.resolveFromStridxs := PGen.resolveFromStridxs_eq self

/-- `_ymd.resolve_ymd(yearfirst, dayfirst)`: every branch (1, 2, 3 members × position of the month string × flags) -/
theorem gen_eq_model_ymd_resolve_ymd (self : Ymd) (yearfirst dayfirst : Bool) :
    Gen.P.ymd_resolveYmd self yearfirst dayfirst = self.resolve yearfirst dayfirst :=
  PGen.resolveYmd_eq_of self yearfirst dayfirst (PGen.resolveFromStridxs_eq self)

-- non-vacuity: the translated functions compute on concrete inputs
example : Gen.P.ymd_appendTok asciiCls {} (tk "2003") .none = .ok { vals := [2003], century := true, yIdx := some 0 } := by
  decide +kernel
example : Gen.P.ymd_appendNat asciiCls { vals := [25] } 9 .M = .ok { vals := [25, 9], mIdx := some 1 } := by decide +kernel
example : Gen.P.ymd_couldBeDay { vals := [2], mIdx := some 0 } ⟨30, 0⟩ = .ok false := by decide +kernel
example : Gen.P.ymd_resolveYmd { vals := [10, 11, 12] } false true = .ok (some 12, some 11, some 10) := by decide +kernel
example : Gen.P.ymd_resolveYmd { vals := [13, 12] } false true = .ok (none, some 12, some 13) := by decide +kernel
example : Gen.P.ymd_resolveYmd { vals := [1, 2, 3, 4] } false false = .error .ValueError := by decide +kernel
example : Gen.P.ymd_resolveFromStridxs { vals := [5, 2003, 7], yIdx := some 1, mIdx := some 2 } [('y', 1), ('m', 2)]
    = .ok (some 2003, some 7, some 5) := by decide +kernel

/-! ### `parserinfo` -/

theorem gen_eq_model_info_jump (i : Info) (t : Token) : Gen.P.info_jump i t = .ok (i.isJump t) := PGen.info_jump_eq i t
theorem gen_eq_model_info_weekday (i : Info) (t : Token) : Gen.P.info_weekday i t = .ok (i.weekdayOf t) :=
  PGen.info_weekday_eq i t
theorem gen_eq_model_info_month (i : Info) (t : Token) : Gen.P.info_month i t = .ok (i.monthOf t) := PGen.info_month_eq i t
theorem gen_eq_model_info_hms (i : Info) (t : Token) : Gen.P.info_hms i t = .ok (i.hmsOf t) := PGen.info_hms_eq i t
theorem gen_eq_model_info_ampm (i : Info) (t : Token) : Gen.P.info_ampm i t = .ok (i.ampmOf t) := PGen.info_ampm_eq i t
theorem gen_eq_model_info_pertain (i : Info) (t : Token) : Gen.P.info_pertain i t = .ok (i.isPertain t) :=
  PGen.info_pertain_eq i t
theorem gen_eq_model_info_utczone (i : Info) (t : Token) : Gen.P.info_utczone i t = .ok (i.isUtczone t) :=
  PGen.info_utczone_eq i t
/-- `parserinfo.tzoffset(name)`: `name in self._utczone` is tested WITHOUT lower-casing, then `TZOFFSET.get(name)` -/
theorem gen_eq_model_info_tzoffset (i : Info) (t : Token) : Gen.P.info_tzoffset i t = .ok (i.tzoffsetOf t) :=
  PGen.info_tzoffset_eq i t

/- Full statement: `∀ i res, Gen.P.info_validate i res = PM.validate i res`.  It is FALSE for a parserinfo whose `_century`
   is below 100: there `convertyear` can return a negative year (`_year = 30`, year 90 ↦ −10), which Python stores and the
   model clamps to 0 (`Int.toNat`); the translation says NotImplemented for it.  Proved for every parserinfo with
   `_century ≥ 100`, i.e. every `_year = time.localtime().tm_year ≥ 100`. -/
/-- `parserinfo.validate(res)`: the year conversion and the three UTC rewrites of `tzname` / `tzoffset` -/
theorem gen_eq_model_info_validate_partial (i : Info) (res : Res) (hc : 100 ≤ i.century) :
    Gen.P.info_validate i res = PM.validate i res := PGen.validate_eq i res hc

/-! ### the small methods of `parser` -/

theorem gen_eq_model_could_be_tzname (i : Info) (hour : Option Nat) (tzname : Option Token) (tzoffset : Option Int)
    (t : Token) : Gen.P.couldBeTzname i hour tzname tzoffset t = .ok (PM.couldBeTzname i hour tzname tzoffset t) :=
  PGen.couldBeTzname_eq i hour tzname tzoffset t

/-- `_ampm_valid`: True exactly where the model hands back the hour to adjust; the same two ValueErrors -/
theorem gen_eq_model_ampm_valid (i : Info) (hour ampm : Option Nat) (fuzzy : Bool) :
    Gen.P.ampmValid i hour ampm fuzzy = (PM.ampmValid hour ampm fuzzy).map Option.isSome :=
  PGen.ampmValid_eq i hour ampm fuzzy

/-- `_to_decimal`: `Decimal(val)` (a named primitive: the value of a lexer token, or one of the specials, or
    InvalidOperation), `is_finite()`, every exception re-raised as ValueError -/
theorem gen_eq_model_to_decimal (cls : Char → CClass) (i : Info) (t : Token) :
    Gen.P.toDecimal cls i t = PM.toDecimal cls t := PGen.toDecimal_eq cls i t

/-- `_parse_min_sec`: `int(value)`, `value % 1` and `60 * r` in the 28-digit context (named primitives) -/
theorem gen_eq_model_parse_min_sec (i : Info) (v : Dec) : Gen.P.parseMinSec i v = PM.parseMinSec v :=
  PGen.parseMinSec_eq i v

/-- `_parsems`: the `.` test, the two-piece split, the `ljust(6, "0")[:6]` padding -/
theorem gen_eq_model_parsems (cls : Char → CClass) (i : Info) (t : Token) : Gen.P.parsems cls i t = PM.parsems cls t :=
  PGen.parsems_eq cls i t

/-- `_assign_hms`: hour (+ minutes from the fraction) / minute+second / second+microsecond by the unit index -/
theorem gen_eq_model_assign_hms (cls : Char → CClass) (i : Info) (res : Res) (t : Token) (hms : Nat) :
    Gen.P.assignHms cls i res t hms = PM.assignHms cls res t hms := PGen.assignHms_eq cls i res t hms

/-- `_find_hms_idx`, for a token index inside the list (where `_parse_numeric_token` calls it): the four look-arounds
    in order (next; next-but-one over a blank when jumps are allowed; previous; previous-but-one over a blank when
    the token is the last one) -/
theorem gen_eq_model_find_hms_idx (i : Info) (idx : Nat) (l : List Token) (aj : Bool) (hidx : idx < l.length) :
    Gen.P.findHmsIdx i idx l aj = .ok ((PM.findHmsIdx i idx l aj).map (·.1)) := PGen.findHmsIdx_eq i idx l aj hidx

/-- `_parse_hms` on what `_find_hms_idx` found: the new index and the unit the model's `numHms` uses (a label BEHIND
    the number means the next unit) -/
theorem gen_eq_model_parse_hms (i : Info) (idx : Nat) (l : List Token) (aj : Bool) (j h0 : Nat)
    (h : PM.findHmsIdx i idx l aj = some (j, h0)) :
    Gen.P.parseHms i idx l (some j) = .ok (if j > idx then j else idx, some (if j > idx then h0 else h0 + 1)) ∧
    Gen.P.parseHms i idx l none = .ok (idx, none) :=
  PGen.parseHms_eq i idx l j h0 (PGen.findHmsIdx_spec i idx l aj j h0 h)

/-- `_assign_tzname` on a fold-0 datetime whose zone is called `n0` / `n1` at fold 0 / 1 -/
theorem gen_eq_model_assign_tzname (i : Info) (n0 n1 tzname : Option Token) :
    Gen.P.assignTzname i { n0 := n0, n1 := n1, fold := 0 } tzname =
      .ok { n0 := n0, n1 := n1, fold := PM.assignFold n0 n1 tzname } := PGen.assignTzname_eq i n0 n1 tzname

/-! ### `_parse_numeric_token` -/

/-- `parser._parse_numeric_token(tokens, idx, info, ymd, res, fuzzy)`: all eleven arms — `19990101T23[59]`, `YYMMDD` /
    `HHMMSS[.ss]`, `YYYYMMDD[hhmm[ss]]`, `HH[ ]h`, `HH:MM[:SS[.ss]]`, `01-01[-01]` / `01-Jan[-01]`, a number before a jump
    word (incl. `12 am`), `12am`, a possible day, the non-fuzzy ValueError, the fuzzy skip — for every token list, every
    index (inside the list or not), every `_ymd` state and result record.  The model returns how far `idx` moved. -/
theorem gen_eq_model_parse_numeric_token (cls : Char → CClass) (info : Info) (fuzzy : Bool) (tokens : List Token)
    (idx : Nat) (ymd : Ymd) (res : Res) :
    Gen.P.parseNumericToken cls info tokens idx ymd res fuzzy =
      (PM.parseNumericToken cls info fuzzy tokens idx ymd res).map (fun r => (idx + r.1, r.2.1, r.2.2)) :=
  PGen.parseNumericToken_eq cls info fuzzy tokens idx ymd res

/-! ### `_build_naive` -/

/-- `parser._build_naive(res, default)`: the `repl` dict (loop over the seven field names), the default's day clipped to
    the length of the resulting month when the text has no day, `default.replace(**repl)`, and the forward shift to a bare
    weekday (`res.weekday is not None and not res.day`) — for every result record and default.  `datetime.replace` and
    `+ relativedelta(weekday=k)` are named primitives (`PM.dtReplace`, `PM.weekdayShift`; the latter is C03's subject). -/
theorem gen_eq_model_build_naive (info : Info) (res : Res) (dflt : DT) :
    Gen.P.buildNaive info res dflt = PM.buildNaive res dflt := PGen.buildNaive_eq info res dflt

example : Gen.P.buildNaive (Info.default false false 2026 2000) { month := some 2 } ⟨2003, 1, 31, 0, 0, 0, 0⟩
    = .ok ⟨2003, 2, 28, 0, 0, 0, 0⟩ := by decide +kernel
example : Gen.P.buildNaive (Info.default false false 2026 2000) { weekday := some 0 } ⟨2003, 9, 25, 0, 0, 0, 0⟩
    = .ok ⟨2003, 9, 29, 0, 0, 0, 0⟩ := by decide +kernel

/-! ### the token loop of `parser._parse` -/

/- Full statement: the same without `hc`.  It is FALSE for a parserinfo whose `_century` is below 100 (see
   `gen_eq_model_info_validate_partial`): in the `Jan of 01` arm `str(info.convertyear(value))` can then be the text of a
   negative number, which Python appends (`int('-10')`) and the model clamps. -/
/-- one iteration of `while i < len_l:` in `parser._parse` — the number arm (→ `_parse_numeric_token`), weekday name, month
    name (`Jan-01[-99]`, `Jan of 01`, bare), AM/PM word (valid / fuzzy skip / ValueError), time-zone name with the
    `GMT+3` sign flip written into the token list, numeric offset `-0300` / `-03:00` / `-3` with the parenthesised name,
    jump word / fuzzy skip / ValueError — for every token list, index, result record, `_ymd` state and skip list.
    The model returns how many FURTHER tokens were consumed (`i` ends at `i + adv + 1`). -/
theorem gen_eq_model_parse_step_partial (cls : Char → CClass) (info : Info) (fuzzy : Bool) (l : List Token) (i : Nat)
    (res : Res) (ymd : Ymd) (skipped : List Nat) (hc : 100 ≤ info.century) :
    Gen.P.parseStep cls info l i l.length res ymd skipped fuzzy =
      (PM.parseStep cls info fuzzy l.length i { l := l, res := res, ymd := ymd, skipped := skipped }).map
        (fun r => (r.2.l, i + r.1 + 1, r.2.res, r.2.ymd, r.2.skipped)) :=
  PGen.parseStep_eq cls info fuzzy l i res ymd skipped hc

/-- the `while i < len_l:` loop of `parser._parse` (a fuel-bounded recursion over the translated body), started
    the way `_parse` starts it (`i = 0`, empty result, empty `_ymd`, no skipped tokens) with at least as much fuel as there
    are tokens: never out of fuel, and the token list / result record / `_ymd` / skip list (or the exception) are those of the
    model's loop `PM.parseLoop` as `parseTry` calls it.  Same `_century ≥ 100` hypothesis as the body. -/
theorem gen_eq_model_parse_loop_partial (cls : Char → CClass) (info : Info) (fuzzy : Bool) (l : List Token) (fuel : Nat)
    (hc : 100 ≤ info.century) (hf : l.length ≤ fuel) :
    (Gen.P.parseLoop fuel cls info l 0 l.length {} {} [] fuzzy).map PGen.loopOut =
      PM.parseLoop cls info fuzzy l.length l.length 0 0 { l := l } :=
  PGen.parseLoop_eq cls info fuzzy hc fuel { l := l } 0 (by simpa using hf)

/-- `parser._recombine_skipped(tokens, skipped_idxs)`: the loop over `enumerate(sorted(skipped_idxs))` gluing neighbouring
    skipped tokens — for every token list and every index list (any order, repeats, out of range) -/
theorem gen_eq_model_recombine_skipped (info : Info) (tokens : List Token) (skipped : List Nat) :
    Gen.P.recombineSkipped info tokens skipped = PM.recombineSkipped tokens skipped :=
  PGen.recombineSkipped_eq info tokens skipped

example : Gen.P.recombineSkipped_loop (Info.default false false 2026 2000) [0, 1, 2, 5]
    [tk "foo", tk " ", tk "bar", tk " ", tk "19", tk "baz"] [0, 1, 2, 5] 0 [] = .ok [tk "foo bar", tk "baz"] := by decide +kernel

/-- the whole of `parser._parse(timestr, dayfirst, yearfirst, fuzzy, fuzzy_with_tokens)`: the flag defaults,
    lexing, the token loop, `resolve_ymd` and the result fields, the `except (IndexError, ValueError, InvalidOperation)`
    boundary, `info.validate(res)` (whose AST is checked at translation time to return True only), the fuzzy token
    recombination — equal to the model's `parseTokens` on the lexed text, for every text and flag combination, given at
    least as much fuel as there are tokens.  One named primitive on both sides: the lexer (`_timelex.split` ↦ `PM.lex`);
    `_recombine_skipped` is the translated one; same `_century ≥ 100` hypothesis as `validate`. -/
theorem gen_eq_model_parse_partial (cls : Char → CClass) (info : Info) (fuel : Nat) (timestr : List Char)
    (dayfirst yearfirst : Option Bool) (fuzzy fuzzyWithTokens : Bool) (hc : 100 ≤ info.century)
    (hf : (PM.lex cls timestr).length ≤ fuel) :
    Gen.P.parse fuel cls info timestr dayfirst yearfirst fuzzy fuzzyWithTokens =
      PM.parseTokens cls info { dayfirst := dayfirst, yearfirst := yearfirst, fuzzy := fuzzy,
                                fuzzyWithTokens := fuzzyWithTokens } (PM.lex cls timestr) :=
  PGen.parse_eq cls info fuel timestr dayfirst yearfirst fuzzy fuzzyWithTokens hc hf

/-- `parser.parse(timestr, default, ignoretz, tzinfos, **kwargs)` from the `_parse` call to the return (/repo at
    ce40246 / fef6cad): "Unknown string format" / "String does not contain a date" ParserErrors,
    `_build_naive` and `_build_tzaware` each inside `except ValueError → ParserError`, `ret.replace(tzinfo=None)` for
    `ignoretz`, the `fuzzy_with_tokens` return — equal to the model's `parseA` (any default: its tzinfo kept / dropped as
    `FinalTz` says).  `_build_tzaware` itself is a named stand-in for the hand model's cascade (not translated);
    same `_century ≥ 100` and fuel hypotheses as `_parse`. -/
theorem gen_eq_model_parse_tail_partial (cls : Char → CClass) (info : Info) (fuel : Nat) (tznames : List Token)
    (timestr : List Char) (dflt : DT) (ignoretz : Bool) (tzi : TzInfos) (dayfirst yearfirst : Option Bool)
    (fuzzy fuzzyWithTokens : Bool) (hc : 100 ≤ info.century) (hf : (PM.lex cls timestr).length ≤ fuel) :
    Gen.P.parseTail fuel cls tznames info timestr dflt ignoretz tzi dayfirst yearfirst fuzzy fuzzyWithTokens =
      PM.parseA cls info { dayfirst := dayfirst, yearfirst := yearfirst, fuzzy := fuzzy, fuzzyWithTokens := fuzzyWithTokens,
                           ignoretz := ignoretz } tznames tzi dflt timestr :=
  PGen.parseTail_eq cls info fuel tznames timestr dflt ignoretz tzi dayfirst yearfirst fuzzy fuzzyWithTokens hc hf

-- the hypotheses are satisfiable (the stock parserinfo of any year from 100 on; fuel = number of tokens)
example : (100 : Int) ≤ (Info.default false false 2026 2000).century ∧ ([tk "10", tk " ", tk "pm"] : List Token).length ≤ 3 := by
  decide +kernel

example : Gen.P.parseStep asciiCls (Info.default false false 2026 2000) [tk "GMT", tk "+", tk "3"] 0 3 { hour := some 10 } {} [] false
    = .ok ([tk "GMT", tk "-", tk "3"], 1, { hour := some 10 }, {}, []) := by decide +kernel
set_option maxRecDepth 8192 in
example : Gen.P.parseStep asciiCls (Info.default false false 2026 2000) [tk "-", tk "0300", tk " ", tk "(", tk "BRST", tk ")"] 0 6
    { hour := some 10 } {} [] false
    = .ok ([tk "-", tk "0300", tk " ", tk "(", tk "BRST", tk ")"], 6,
           { hour := some 10, tzoffset := some (-10800), tzname := some (tk "BRST") }, {}, []) := by decide +kernel

example : Gen.P.parseNumericToken asciiCls (Info.default false false 2026 2000)
    [tk "10", tk ":", tk "41", tk ":", tk "59.5"] 0 {} {} false
    = .ok (4, {}, { hour := some 10, minute := some 41, second := some 59, microsecond := some 500000 }) := by decide +kernel
example : Gen.P.parseNumericToken asciiCls (Info.default false false 2026 2000)
    [tk "2003", tk "-", tk "09", tk "-", tk "25"] 0 {} {} false
    = .ok (4, { vals := [2003, 9, 25], century := true, yIdx := some 0 }, {}) := by decide +kernel

example : Gen.P.info_month (Info.default false false 2026 2000) (tk "SEPT") = .ok (some 9) := by decide +kernel
example : Gen.P.info_validate (Info.default false false 2026 2000) { year := some 99, tzname := some (tk "z") }
    = .ok { year := some 1999, tzname := some (tk "UTC"), tzoffset := some 0 } := by decide +kernel
example : (100 : Int) ≤ (Info.default false false 2026 2000).century := by decide +kernel
example : Gen.P.ampmValid (Info.default false false 2026 2000) (some 13) none false = .error .ValueError := by decide +kernel
example : Gen.P.parsems asciiCls (Info.default false false 2026 2000) (tk "59.5") = .ok (59, 500000) := by decide +kernel
example : Gen.P.findHmsIdx (Info.default false false 2026 2000) 0 [tk "12", tk " ", tk "h"] true = .ok (some 2) := by
  decide +kernel
example : PM.findHmsIdx (Info.default false false 2026 2000) 2 [tk "h", tk "04"] true = none := by decide +kernel
example : PM.findHmsIdx (Info.default false false 2026 2000) 1 [tk "h", tk "04"] true = some (0, 0) := by decide +kernel
example : Gen.P.assignTzname (Info.default false false 2026 2000) { n0 := some (tk "EDT"), n1 := some (tk "EST") }
    (some (tk "EST")) = .ok { n0 := some (tk "EDT"), n1 := some (tk "EST"), fold := 1 } := by decide +kernel

/-! ### `_build_tzinfo` -/

/-- `parser._build_tzinfo(tzinfos, tzname, tzoffset)`, for a `tzinfos` that is a callable or a mapping (the only
    way `_build_tzaware` calls it): callable → its answer, else `.get(tzname)`; then tzinfo-instance-or-None kept / text →
    `tz.tzstr` (may raise) / int → `tz.tzoffset(tzname, n)` (OverflowError beyond timedelta) / anything else TypeError.
    The zone descriptor of `naive.replace(tzinfo=<that object>)`, or the exception, is the model's `PM.buildTzinfo`.
    Named primitives: the user's `tzinfos` (`PPy.tziCall/tziGet`), the isinstance tests, the two constructors. -/
theorem gen_eq_model_build_tzinfo (info : Info) (tzi : TzInfos) (name : Option Token) (off : Option Int) (h : tzi ≠ .absent) :
    (Gen.P.buildTzinfo info tzi name off).map (PPy.descrOf name) = PM.buildTzinfo tzi name off :=
  PGen.buildTzinfo_eq info tzi name off h

example : Gen.P.buildTzinfo (Info.default false false 2026 2000) (.mapping [(some (tk "BRST"), .int (-10800))]) (some (tk "BRST")) none
    = .ok (.fixed (some (tk "BRST")) (-10800)) := by decide +kernel

/-! ### `parserinfo.__init__`: where `_century ≥ 100` comes from -/

/-- `parserinfo.__init__(dayfirst, yearfirst)`, for ANY class tables (a subclass's word lists) and current year
    `now_year = time.localtime().tm_year`: `_year = now_year`, `_century = now_year // 100 * 100`, the flags, the converted
    tables (`_convert` is the named primitive `PM.convertGroups`) -/
theorem gen_eq_model_info_init (t : PPy.InfoTables) (y : Int) (df yf : Bool) :
    ∃ I, Gen.P.info_init t y df yf = .ok I ∧ I.year = y ∧ I.century = y / 100 * 100 ∧ I.dayfirst = df ∧ I.yearfirst = yf ∧
      I.weekdays = PM.convertGroups t.WEEKDAYS ∧ I.months = PM.convertGroups t.MONTHS ∧ I.hms = PM.convertGroups t.HMS ∧
      I.ampm = PM.convertGroups t.AMPM ∧ I.tzoffsets = t.TZOFFSET := PGen.info_init_ok t y df yf

/-- for the stock class it is the model's `Info.default` -/
theorem gen_eq_model_info_init_stock (y : Int) (df yf : Bool) :
    Gen.P.info_init PPy.stockTables y df yf = .ok (Info.default df yf y (y / 100 * 100)) := PGen.info_init_stock y df yf

/-- the hypothesis of the `…_partial` obligations, discharged: an instance built by `__init__` in any year from 100 on has
    `_century ≥ 100` (what remains assumed is that the clock says a year ≥ 100 and that nobody overwrites `_century`) -/
theorem century_ge_100_of_init (t : PPy.InfoTables) (y : Int) (df yf : Bool) (I : Info)
    (h : Gen.P.info_init t y df yf = .ok I) (hy : 100 ≤ y) : 100 ≤ I.century := PGen.info_init_century t y df yf I h hy

/-- `parse()` (from the `_parse` call on) for an instance built by `__init__`: no hypothesis on `_century` left -/
theorem gen_eq_model_parse_tail_of_init (cls : Char → CClass) (t : PPy.InfoTables) (y : Int) (df0 yf0 : Bool) (info : Info)
    (hi : Gen.P.info_init t y df0 yf0 = .ok info) (hy : 100 ≤ y) (fuel : Nat) (tznames : List Token)
    (timestr : List Char) (dflt : DT) (ignoretz : Bool) (tzi : TzInfos) (dayfirst yearfirst : Option Bool)
    (fuzzy fuzzyWithTokens : Bool) (hf : (PM.lex cls timestr).length ≤ fuel) :
    Gen.P.parseTail fuel cls tznames info timestr dflt ignoretz tzi dayfirst yearfirst fuzzy fuzzyWithTokens =
      PM.parseA cls info { dayfirst := dayfirst, yearfirst := yearfirst, fuzzy := fuzzy, fuzzyWithTokens := fuzzyWithTokens,
                           ignoretz := ignoretz } tznames tzi dflt timestr :=
  gen_eq_model_parse_tail_partial cls info fuel tznames timestr dflt ignoretz tzi dayfirst yearfirst fuzzy fuzzyWithTokens
    (century_ge_100_of_init t y df0 yf0 info hi hy) hf

/-- likewise `validate`, the loop body, the loop and `_parse` -/
theorem gen_eq_model_info_validate_of_init (t : PPy.InfoTables) (y : Int) (df0 yf0 : Bool) (info : Info)
    (hi : Gen.P.info_init t y df0 yf0 = .ok info) (hy : 100 ≤ y) (res : Res) :
    Gen.P.info_validate info res = PM.validate info res :=
  gen_eq_model_info_validate_partial info res (century_ge_100_of_init t y df0 yf0 info hi hy)

theorem gen_eq_model_parse_of_init (cls : Char → CClass) (t : PPy.InfoTables) (y : Int) (df0 yf0 : Bool) (info : Info)
    (hi : Gen.P.info_init t y df0 yf0 = .ok info) (hy : 100 ≤ y) (fuel : Nat) (timestr : List Char)
    (dayfirst yearfirst : Option Bool) (fuzzy fuzzyWithTokens : Bool) (hf : (PM.lex cls timestr).length ≤ fuel) :
    Gen.P.parse fuel cls info timestr dayfirst yearfirst fuzzy fuzzyWithTokens =
      PM.parseTokens cls info { dayfirst := dayfirst, yearfirst := yearfirst, fuzzy := fuzzy,
                                fuzzyWithTokens := fuzzyWithTokens } (PM.lex cls timestr) :=
  gen_eq_model_parse_partial cls info fuel timestr dayfirst yearfirst fuzzy fuzzyWithTokens
    (century_ge_100_of_init t y df0 yf0 info hi hy) hf

example : ∃ I, Gen.P.info_init PPy.stockTables 2026 false false = .ok I ∧ (100 : Int) ≤ I.century :=
  ⟨_, gen_eq_model_info_init_stock 2026 false false, by decide⟩

end ParserGen
