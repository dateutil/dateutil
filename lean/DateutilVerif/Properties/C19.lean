/-
  Properties/C19.lean — easter() returns the canonical Easter Sunday for each method.

  `Gen.easter` is the translation of /repo's `easter.easter` made on this run
  (harness/gen.py); the statements are about that translation.
  The ranged statements are the documented ranges; Proofs/Easter.lean proves them by arithmetic,
  methods 1 and 3 for every year and method 2 on 1500..4999.
-/
import DateutilVerif.Proofs.EasterDefs
import DateutilVerif.Proofs.Easter

namespace C19
open Gen Spec

/-- **C19 (western).** For every year of the documented range 1583..4099: `easter y 3` is a valid
    Gregorian date equal to the Meeus/Jones/Butcher computation, a Sunday, in 22 March..25 April. -/
theorem western_eq_mjb (y : Int) (h1 : 1583 ≤ y) (h2 : y ≤ 4099) : westernOK y = true :=
  westernOK_all y

/-- **C19 (julian).** For every year of the documented range 326..9999: `easter y 1` equals Meeus'
    Julian Easter and is a Sunday of the Julian calendar. -/
theorem julian_eq_meeus (y : Int) (h1 : 326 ≤ y) (h2 : y ≤ 9999) : julianOK y = true :=
  julianOK_all y

/-- **C19 (orthodox).** For every year of the documented range 1583..4099: `easter y 2` is a valid
    Gregorian date, the same day as Meeus' Julian Easter, and a Sunday. -/
theorem orthodox_eq (y : Int) (h1 : 1583 ≤ y) (h2 : y ≤ 4099) : orthodoxOK y = true :=
  orthodoxOK_of_range (by omega) (by omega)

/-- **C19 (bad method).** Any integer method other than 1, 2, 3 raises ValueError — all years, all
    integer methods.  (Non-integer method values — 2.5, None, '3' — are outside the integer model; since the
    fix of the membership test they also raise ValueError, which the oracle checks on the implementation.) -/
theorem bad_method (y m : Int) (h : ¬ (m = 1 ∨ m = 2 ∨ m = 3)) : easter y m = .error .ValueError := by
  unfold easter
  rw [if_pos h]

/-- and methods 1..3 never raise — all years -/
theorem good_method_ok (y m : Int) (h : m = 1 ∨ m = 2 ∨ m = 3) : ∃ r, easter y m = .ok r := by
  unfold easter
  rw [if_neg (fun hn => hn h)]
  exact ⟨_, rfl⟩

-- non-vacuity / sanity: concrete values
example : easter 2024 3 = .ok (2024, 3, 31) := by decide
example : easter 2024 2 = .ok (2024, 5, 5) := by decide
example : easter 2024 1 = .ok (2024, 4, 22) := by decide
example : julianToGregorian 1582 10 5 = (1582, 10, 15) := by decide

end C19
