/-
  Properties/C08.lean — tzstr / tzrange implement POSIX TZ rule semantics.

  The model (`Model/TzStr.lean`) mirrors `_tzparser.parse`, `tzstr.__init__/_delta`,
  `tzrange.__init__/transitions`; the spec (`Spec/Posix.lean`) is written from POSIX.

  Full-strength statement of the transition part of C08:
      for every rule triple, every year: transitions y = (POSIX start, POSIX end) on the
      standard-time side.
  What is proved (`…_partial`): exactly that, for ALL years 2..9998, ALL valid rules of the three
  forms and ALL offsets, under `InRangeTime`: for an `Mm.w.d` rule the time of day added before the
  weekday search (start: the rule time; end: rule time − saving) lies in [0, 24 h).
  The complement is the known finding D-C08 (the negation is exhibited below by `decide`).
  Years 1 and 9999 are excluded only because the weekday search may leave datetime's range there.

  Further sections: the lookup theorems on top of the range zone (`tzstr_posix_partial`, `tzstr_posix_midyear_partial`),
  from the STRING to the zone (`tzstr_render`, `tzstr_string_posix`), strings without a daylight part
  (`no_dst_part_is_fixed`, `tzstr_std_offset`, `gmt_plus_h`), the tokenizer, the canonical-spelling families
  (`parse_M_rule` …), and the non-vacuity examples.
-/
import DateutilVerif.Proofs.TzStr
import DateutilVerif.Proofs.TzStrRange
import DateutilVerif.Proofs.TzStrCanon
import DateutilVerif.Proofs.TzStrNoRule
import DateutilVerif.Proofs.TzStrBounds
import DateutilVerif.Model.TzRange

namespace C08
open TzStr Posix

/-- rule numbers in POSIX range (`n = 365` of the zero-based form is at the year boundary and
    excluded by the property's own quantifier) -/
def ValidRule : Rule → Prop
  | .M m w d => 1 ≤ m ∧ m ≤ 12 ∧ 1 ≤ w ∧ w ≤ 5 ∧ 0 ≤ d ∧ d ≤ 6
  | .J n => 1 ≤ n ∧ n ≤ 365
  | .N n => 0 ≤ n ∧ n ≤ 364

/-- seconds added to the rule date before the weekday search (for `Jn` / `n`: any bound below the 365 days that
    `TzStr.ordinal_margin` keeps from both ends of datetime's range; 300 days is one) -/
def InRangeTime : Rule → Int → Prop
  | .M _ _ _, secs => 0 ≤ secs ∧ secs < 86400
  | _, secs => -86400 * 300 ≤ secs ∧ secs < 86400 * 300

/-- the heart: `datetime(y,1,1) + _delta(rule)` is the POSIX rule date plus the seconds -/
theorem rule_instant (y : Int) (r : Rule) (time : Int) (isend : Bool) (std dst : Int)
    (hy1 : 2 ≤ y) (hy2 : y ≤ 9998) (hr : ValidRule r)
    (ht : InRangeTime r (time - (if isend then dst - std else 0))) :
    ∃ D, delta (attrOf r (some time)) isend std dst = .ok D ∧
      applyDelta y D = .ok (ruleOrdinal y r * 86400 + (time - (if isend then dst - std else 0))) := by
  cases r with
  | M m w d =>
    obtain ⟨m1, m12, w1, w5, d0, d6⟩ := hr
    obtain ⟨t0, t1⟩ := ht
    refine ⟨_, rfl, ?_⟩
    simp only [attrOf, Option.getD]
    exact apply_M y m w d _ hy1 hy2 m1 m12 w1 w5 t0 t1
  | J n =>
    obtain ⟨n1, n2⟩ := hr
    obtain ⟨t0, t1⟩ := ht
    obtain ⟨m, dd, he, ha⟩ := apply_J y n (time - (if isend then dst - std else 0)) hy1 hy2 n1 n2 t0 t1
    have hn0 : (n == 0) = false := by simp; omega
    refine ⟨{ month := some m, day := some dd, seconds := time - (if isend then dst - std else 0) }, ?_, ha⟩
    simp [delta, attrOf, hn0, he, bind, Except.bind, pure, Except.pure]
  | N n =>
    obtain ⟨n1, n2⟩ := hr
    obtain ⟨t0, t1⟩ := ht
    obtain ⟨m, dd, he, ha⟩ := apply_N y n (time - (if isend then dst - std else 0)) hy1 hy2 n1 n2 t0 t1
    have hn0 : (n + 1 == 0) = false := by simp; omega
    refine ⟨{ month := some m, day := some dd, leapdays := (if 59 < n + 1 ∧ n + 1 < 366 then -1 else 0),
              seconds := time - (if isend then dst - std else 0) }, ?_, ha⟩
    simp [delta, attrOf, hn0, he, bind, Except.bind, pure, Except.pure]

/-- a POSIX spec as the parser result that its canonical spelling produces -/
def resOf (s : Spec) : Res :=
  { stdabbr := some "AAA", stdoffset := some s.stdOff, dstabbr := some "BBB", dstoffset := some s.dstOff,
    start := attrOf s.startRule (some s.startTime), «end» := attrOf s.endRule (some s.endTime) }

def InRangeTimes (s : Spec) : Prop :=
  InRangeTime s.startRule s.startTime ∧ InRangeTime s.endRule (s.endTime - (s.dstOff - s.stdOff))

/-- **C08 (transitions), partial.** For every spec with valid rules and in-range times, every year
    2..9998: the zone's yearly transitions are the POSIX start and end instants, both on the
    standard-time side (`startUtc = dston − std`, `endUtc = dstoff − std`, which is how
    `tzrangebase.fromutc` converts them). Missing for full strength: M-rules with out-of-range
    times (known finding D-C08) and years 1 / 9999. -/
theorem transitions_eq_posix_partial (s : Spec) (y : Int) (hy1 : 2 ≤ y) (hy2 : y ≤ 9998)
    (hs : ValidRule s.startRule) (he : ValidRule s.endRule) (ht : InRangeTimes s) :
    ∃ sd ed, delta (resOf s).start false s.stdOff s.dstOff = .ok sd ∧
             delta (resOf s).«end» true s.stdOff s.dstOff = .ok ed ∧
      ∃ a b, applyDelta y sd = .ok a ∧ applyDelta y ed = .ok b ∧
        a - s.stdOff = startUtc s y ∧ b - s.stdOff = endUtc s y := by
  obtain ⟨sd, hsd, hsa⟩ := rule_instant y s.startRule s.startTime false s.stdOff s.dstOff hy1 hy2 hs (by simpa using ht.1)
  obtain ⟨ed, hed, hea⟩ := rule_instant y s.endRule s.endTime true s.stdOff s.dstOff hy1 hy2 he (by simpa using ht.2)
  refine ⟨sd, ed, hsd, hed, _, _, hsa, hea, ?_, ?_⟩
  · unfold startUtc; simp
  · unfold endUtc; simp; omega

/-- the zone object `tzstr.__init__` builds for the canonical spelling of `s` -/
def IsZoneOf (s : Spec) (z : Zone) : Prop :=
  z.hasdst = true ∧ z.stdOff = s.stdOff ∧ z.dstOff = s.dstOff ∧
  ∃ sd ed, z.start = some sd ∧ z.«end» = some ed ∧
    delta (resOf s).start false s.stdOff s.dstOff = .ok sd ∧
    delta (resOf s).«end» true s.stdOff s.dstOff = .ok ed

/-- the model's yearly transitions of such a zone, in the `RangeZone` (epoch) convention -/
theorem range_transitions (s : Spec) (z : Zone) (hz : IsZoneOf s z) (y : Int) (hy1 : 2 ≤ y) (hy2 : y ≤ 9998)
    (hs : ValidRule s.startRule) (he : ValidRule s.endRule) (ht : InRangeTimes s) :
    (TZ.ofTzStr z).transitions y =
      some (startUtc s y + s.stdOff - TZ.epochShift, endUtc s y + s.stdOff - TZ.epochShift) := by
  obtain ⟨h1, h2, h3, sd, ed, h4, h5, h6, h7⟩ := hz
  obtain ⟨sd', ed', e1, e2, a, b, e3, e4, e5, e6⟩ := transitions_eq_posix_partial s y hy1 hy2 hs he ht
  rw [h6] at e1; rw [h7] at e2
  cases Except.ok.inj e1; cases Except.ok.inj e2
  have : TzStr.transitions z y = .ok (some (a, b)) := by
    unfold TzStr.transitions
    simp only [h1, h4, h5, e3, e4, bind, Except.bind]
  simp only [TZ.ofTzStr, this]
  congr 2 <;> omega

/-- an instant of a year ≥ 2 is at least one day after ordinal 0 -/
theorem epoch_margin (t Y : Int) (hY : TZ.yearOf t = Y) (hY1 : 2 ≤ Y) : 86400 ≤ t + TZ.epochShift := by
  by_cases c : 86400 ≤ t + TZ.epochShift
  · exact c
  · exfalso
    have h1 := TZ.fromOrdinal_year_nonpos _ (by omega : (t + TZ.epochShift) / 86400 ≤ 0)
    rw [← TZ.yearOf_shift] at h1
    omega

/-- the common end of the two lookup theorems: once `fromutc t` is decided by the pair of the UTC year `Y` and that pair
    decides like POSIX (`TZ.naive_eq_posix`), the three answers are POSIX's -/
theorem posix_answers (s : Spec) (z : Zone) (hz : IsZoneOf s z) (t Y : Int) (w : TZ.Wall)
    (hi : (TZ.ofTzStr z).isdst w = .ok (TZ.RangeZone.naiveIsdst t
      (startUtc s Y + s.stdOff - TZ.epochShift - (TZ.ofTzStr z).stdOff,
       endUtc s Y + s.stdOff - TZ.epochShift - (TZ.ofTzStr z).stdOff)))
    (hposix : TZ.RangeZone.naiveIsdst (t + TZ.epochShift) (startUtc s Y, endUtc s Y) = Posix.isDstAt s (t + TZ.epochShift)) :
    (TZ.ofTzStr z).utcoffset w = .ok (Posix.offsetAt s (t + TZ.epochShift)) ∧
    (TZ.ofTzStr z).dst w = .ok (if Posix.isDstAt s (t + TZ.epochShift) then s.dstOff - s.stdOff else 0) ∧
    (TZ.ofTzStr z).tzname w = .ok (if Posix.isDstAt s (t + TZ.epochShift)
      then TZ.abbrBytes z.dstAbbr else TZ.abbrBytes z.stdAbbr) := by
  have hstd : (TZ.ofTzStr z).stdOff = s.stdOff := hz.2.1
  have hdst : (TZ.ofTzStr z).dstOff = s.dstOff := hz.2.2.1
  have hsv : (TZ.ofTzStr z).saving = s.dstOff - s.stdOff := by unfold TZ.RangeZone.saving; rw [hstd, hdst]
  have e : t = (t + TZ.epochShift) - TZ.epochShift := by omega
  have e1 : startUtc s Y + s.stdOff - TZ.epochShift - s.stdOff = startUtc s Y - TZ.epochShift := by omega
  have e2 : endUtc s Y + s.stdOff - TZ.epochShift - s.stdOff = endUtc s Y - TZ.epochShift := by omega
  rw [hstd, e1, e2, e, TZ.naiveIsdst_shift, hposix] at hi
  obtain ⟨r1, r2, r3⟩ := TZ.RangeZone.answers_of_isdst _ w _ hi
  refine ⟨?_, ?_, ?_⟩
  · rw [r1, hstd, hdst]; rfl
  · rw [r2, hsv]
  · rw [r3]; rfl

/-- **C08 (main statement), mid-year form** (no margin needed, but the instant must not be within an offset of New Year).
    `z` is the zone of the spec `s` (positive saving), viewed as a `tzrangebase`
    (`TZ.ofTzStr z`, whose `transitions` are the model's `TzStr.transitions`).  `t` is a UTC instant
    (seconds since the epoch) of a year `Y` in 3..9997 such that
    * in `Y−1`, `Y`, `Y+1` both transitions lie inside their own UTC year and come in the same order
      (either hemisphere), and
    * the wall-clock year of `t` under either offset is `Y` (the instant is not within an offset of
      New Year — `tzrangebase` looks the rule up by the UTC year in `fromutc` and by the wall-clock
      year in `utcoffset`; where the two differ is D-C04y's class).
    Then the converted datetime reports POSIX's offset, `dst() = saving` exactly when POSIX says
    daylight time, and the matching abbreviation. -/
theorem tzstr_posix_midyear_partial (s : Spec) (z : Zone) (hz : IsZoneOf s z)
    (hs : ValidRule s.startRule) (he : ValidRule s.endRule) (ht : InRangeTimes s)
    (hsav : s.stdOff < s.dstOff) (t Y : Int) (hY : TZ.yearOf t = Y) (hY1 : 3 ≤ Y) (hY2 : Y ≤ 9997)
    (i0 : TZ.Inside s (Y - 1)) (i1 : TZ.Inside s Y) (i2 : TZ.Inside s (Y + 1))
    (o0 : startUtc s (Y - 1) < endUtc s (Y - 1) ↔ startUtc s Y < endUtc s Y)
    (o2 : startUtc s (Y + 1) < endUtc s (Y + 1) ↔ startUtc s Y < endUtc s Y)
    (hw1 : TZ.yearOf (t + s.stdOff) = Y) (hw2 : TZ.yearOf (t + s.dstOff) = Y) :
    ∃ w, (TZ.ofTzStr z).fromutc t = .ok w ∧
      (TZ.ofTzStr z).utcoffset w = .ok (Posix.offsetAt s (t + TZ.epochShift)) ∧
      (TZ.ofTzStr z).dst w = .ok (if Posix.isDstAt s (t + TZ.epochShift) then s.dstOff - s.stdOff else 0) ∧
      (TZ.ofTzStr z).tzname w = .ok (if Posix.isDstAt s (t + TZ.epochShift)
        then TZ.abbrBytes z.dstAbbr else TZ.abbrBytes z.stdAbbr) := by
  have htr := range_transitions s z hz Y (by omega) (by omega) hs he ht
  have hstd : (TZ.ofTzStr z).stdOff = s.stdOff := hz.2.1
  have hdst : (TZ.ofTzStr z).dstOff = s.dstOff := hz.2.2.1
  have hsv : (TZ.ofTzStr z).saving = s.dstOff - s.stdOff := by unfold TZ.RangeZone.saving; rw [hstd, hdst]
  obtain ⟨w, hf, _, hi⟩ := TZ.RangeZone.isdst_fromutc (TZ.ofTzStr z) t _ _ _ _ _ _
    (by rw [hsv]; omega) hz.1 (by rw [hY]; exact htr) (by rw [hstd, hw1]; exact htr) (by rw [hdst, hw2]; exact htr)
    rfl rfl rfl rfl
  obtain ⟨b1, b2⟩ := (TZ.yearOf_iff t Y (epoch_margin t Y hY (by omega))).mp hY
  have hposix := TZ.naive_eq_posix s Y (t + TZ.epochShift) b1 b2 (by rw [← TZ.yearOf_shift]; exact hY)
    i0 i1 i2 o0 o2
  exact ⟨w, hf, posix_answers s z hz t Y w hi hposix⟩

/-- **C08 (main statement), partial: string → transitions → lookup = POSIX.**
    `z` is the zone of the spec `s` (positive saving) viewed as a `tzrangebase` (`TZ.ofTzStr z`,
    whose `transitions` are the model's `TzStr.transitions`).  For EVERY UTC instant `t` (seconds
    since the epoch) of a year `Y` in 3..9997 such that the rule pair is away from the year
    boundary — in `Y−1`, `Y`, `Y+1` both transitions keep a margin `m` from both ends of their own
    UTC year, where `m` bounds `|stdOff|`, `|dstOff|` and the saving, and come in the same order
    (either hemisphere) — the converted datetime reports POSIX's offset, `dst() = saving` exactly
    when POSIX says daylight time, and the matching abbreviation.  Instants next to New Year are
    included: there `fromutc` and `utcoffset` consult different years' pairs, which the margin
    makes agree (`TZ.decisions_cohere`); without the margin that is D-C04y. -/
theorem tzstr_posix_partial (s : Spec) (z : Zone) (hz : IsZoneOf s z)
    (hs : ValidRule s.startRule) (he : ValidRule s.endRule) (ht : InRangeTimes s)
    (hsav : s.stdOff < s.dstOff) (t Y m : Int) (hY : TZ.yearOf t = Y) (hY1 : 3 ≤ Y) (hY2 : Y ≤ 9997)
    (m1 : -m ≤ s.stdOff) (m2 : s.stdOff ≤ m) (m3 : -m ≤ s.dstOff) (m4 : s.dstOff ≤ m)
    (m5 : s.dstOff - s.stdOff ≤ m)
    (i0 : TZ.InsideM s (Y - 1) m) (i1 : TZ.InsideM s Y m) (i2 : TZ.InsideM s (Y + 1) m)
    (o0 : startUtc s (Y - 1) < endUtc s (Y - 1) ↔ startUtc s Y < endUtc s Y)
    (o2 : startUtc s (Y + 1) < endUtc s (Y + 1) ↔ startUtc s Y < endUtc s Y) :
    ∃ w, (TZ.ofTzStr z).fromutc t = .ok w ∧
      (TZ.ofTzStr z).utcoffset w = .ok (Posix.offsetAt s (t + TZ.epochShift)) ∧
      (TZ.ofTzStr z).dst w = .ok (if Posix.isDstAt s (t + TZ.epochShift) then s.dstOff - s.stdOff else 0) ∧
      (TZ.ofTzStr z).tzname w = .ok (if Posix.isDstAt s (t + TZ.epochShift)
        then TZ.abbrBytes z.dstAbbr else TZ.abbrBytes z.stdAbbr) := by
  have hm : 0 < m := by omega
  have htr := range_transitions s z hz Y (by omega) (by omega) hs he ht
  have hstd : (TZ.ofTzStr z).stdOff = s.stdOff := hz.2.1
  have hdst : (TZ.ofTzStr z).dstOff = s.dstOff := hz.2.2.1
  have hsv : (TZ.ofTzStr z).saving = s.dstOff - s.stdOff := by unfold TZ.RangeZone.saving; rw [hstd, hdst]
  have hyT := epoch_margin t Y hY (by omega)
  obtain ⟨b1, b2⟩ := (TZ.yearOf_iff t Y hyT).mp hY
  -- the wall-clock years' pairs
  have wall : ∀ o, (o = s.stdOff ∨ o = s.dstOff) → ∃ on' off',
      (TZ.ofTzStr z).transitions (TZ.yearOf (t + o)) = some (on', off') ∧
      TZ.RangeZone.naiveIsdst (t + o) (on', off') = TZ.RangeZone.naiveIsdst (t + o)
        (startUtc s Y + s.stdOff - TZ.epochShift, endUtc s Y + s.stdOff - TZ.epochShift) ∧
      (decide (off' ≤ t + o) && decide (t + o < off' + (s.dstOff - s.stdOff))) =
      (decide (endUtc s Y + s.stdOff - TZ.epochShift ≤ t + o) &&
        decide (t + o < endUtc s Y + s.stdOff - TZ.epochShift + (s.dstOff - s.stdOff))) := by
    intro o ho
    obtain ⟨y', ⟨p1, p2⟩, hy', hn, ha⟩ := TZ.decisions_cohere s m Y (t + TZ.epochShift) o b1 b2 hsav ho
      m1 m4 m5 i0 i1 i2 o0 o2
    have hy'1 : 2 ≤ y' := by omega
    have hy'2 : y' ≤ 9998 := by omega
    have hge := TZ.ys_ge y' (by omega)
    have hyo : TZ.yearOf (t + o) = y' := by
      rw [TZ.yearOf_iff (t + o) y' (by omega)]
      exact ⟨by omega, by omega⟩
    refine ⟨_, _, by rw [hyo]; exact range_transitions s z hz y' hy'1 hy'2 hs he ht, ?_, ?_⟩
    · have e : t + o = (t + TZ.epochShift + o) - TZ.epochShift := by omega
      rw [e, TZ.naiveIsdst_shift, TZ.naiveIsdst_shift]; exact hn
    · have e : t + o = (t + TZ.epochShift + o) - TZ.epochShift := by omega
      rw [e, TZ.amb_shift, TZ.amb_shift]; exact ha
  obtain ⟨on₁, off₁, t₁, n₁, a₁⟩ := wall s.stdOff (Or.inl rfl)
  obtain ⟨on₂, off₂, t₂, n₂, a₂⟩ := wall s.dstOff (Or.inr rfl)
  obtain ⟨w, hf, _, hi⟩ := TZ.RangeZone.isdst_fromutc (TZ.ofTzStr z) t _ _ on₁ off₁ on₂ off₂
    (by rw [hsv]; omega) hz.1 (by rw [hY]; exact htr) (by rw [hstd]; exact t₁) (by rw [hdst]; exact t₂)
    (by rw [hstd]; exact n₁) (by rw [hstd, hsv]; exact a₁) (by rw [hdst]; exact n₂) (by rw [hdst, hsv]; exact a₂)
  have hposix := TZ.naive_eq_posix s Y (t + TZ.epochShift) b1 b2 (by rw [← TZ.yearOf_shift]; exact hY)
    (i0.inside hm) (i1.inside hm) (i2.inside hm) o0 o2
  exact ⟨w, hf, posix_answers s z hz t Y w hi hposix⟩

/-- **tzrange_eq_tzstr.** A `tzrange` built from a daylight-saving tzstr zone's abbreviations,
    offsets and the two relativedeltas (`tzrange.__init__`, Model/TzRange.lean) is the same zone
    record — hence equal under `tzrange.__eq__` (six fields), the same `tzrangebase` view and the
    same answers to every query.  (`tdCheck`: the offsets are representable timedeltas, which
    `tzstr.__init__` has already required; `truthy`: `hasdst = bool(start_delta)`.) -/
theorem tzrange_eq_tzstr (z : Zone) (sd ed : Delta) (hd : z.hasdst = true)
    (h1 : z.start = some sd) (h2 : z.«end» = some ed) (ht : sd.truthy = true)
    (hc1 : tdCheck z.stdOff = .ok ()) (hc2 : tdCheck z.dstOff = .ok ()) :
    tzrange z.stdAbbr (some z.stdOff) z.dstAbbr (some z.dstOff) z.start z.«end» = .ok z ∧
    zoneEq z z = true ∧
    ∀ z', tzrange z.stdAbbr (some z.stdOff) z.dstAbbr (some z.dstOff) z.start z.«end» = .ok z' →
      zoneEq z' z = true ∧ TZ.ofTzStr z' = TZ.ofTzStr z := by
  have hb : tzrange z.stdAbbr (some z.stdOff) z.dstAbbr (some z.dstOff) z.start z.«end» = .ok z := by
    unfold tzrange
    simp only [hc1, hc2, h1, h2, bind, Except.bind, pure, Except.pure, Option.isNone_some,
      Bool.and_false, Bool.false_eq_true, if_false, ht]
    cases z; simp_all
  have hrefl : zoneEq z z = true := by
    unfold zoneEq optDeltaEq deltaEq
    rw [h1, h2]; simp
  refine ⟨hb, hrefl, ?_⟩
  intro z' hz'
  rw [hb] at hz'
  cases Except.ok.inj hz'
  exact ⟨hrefl, rfl⟩

/-- **tzstr_render (partial): from the STRING to the zone.**  `render sp` is the TZ string of the
    spelling `sp`: arbitrary non-empty ASCII-letter abbreviations, optional sign, the standard and
    the optional daylight offset each in any of the spellings `h`/`hh`, `hhmm`, `hh:mm`, both rules in
    any of the forms `Mm.w.d` / `Jn` / `n` with ARBITRARY digit tokens (values through `pyInt`),
    optional `/time` as `h`, `hhmm`, `hh:mm` or `hh:mm:ss`.  Then `tzstr (render sp) posix` succeeds
    and its zone is the zone of the POSIX spec `specOf sp posix` (GMT/UTC sign flip included) with the
    given abbreviations.  Proved through: the tokenizer on class-homogeneous chunks
    (`tokens_render`), compositional specifications of `parseOffset`, `ruleTime`, `stdRule`, the
    abbreviation loop and the gate conditions over an abstract token array (`parse_render`).
    Partial in that the `_delta` constructions are hypotheses (`hsd`, `htr`, `hed`; discharged for
    `Mm.w.d` rules by `TzStr.delta_M`, for `Jn`/`n` they require the day number to pass the `ydayidx`
    scan) and the offsets must be representable timedeltas (`hb1`, `hb2`). -/
theorem tzstr_render_partial (sp : Spelling) (posix : Bool) (wf : WellFormed sp)
    (hb1 : tdCheck (sp.stdVal posix) = .ok ()) (hb2 : tdCheck (sp.dstVal posix) = .ok ())
    (sd ed : Delta)
    (hsd : delta (sp.startRule.attr (sp.startTime.map TimeSp.val)) false (sp.stdVal posix) (sp.dstVal posix) = .ok sd)
    (htr : sd.truthy = true)
    (hed : delta (sp.endRule.attr (sp.endTime.map TimeSp.val)) true (sp.stdVal posix) (sp.dstVal posix) = .ok ed) :
    ∃ z, tzstr (render sp) posix = .ok z ∧ IsZoneOf (specOf sp posix) z ∧
      z.stdAbbr = some sp.std ∧ z.dstAbbr = some sp.dst := by
  obtain ⟨z, h1, h2, h3, h4, h5, h6, h7, h8, h9, h10⟩ := TzStr.tzstr_render_partial sp posix wf hb1 hb2 sd ed hsd htr hed
  exact ⟨z, h1, ⟨h2, h3, h4, sd, ed, h5, h6, h7, h8⟩, h9, h10⟩

/-- **tzstr_string_posix_partial: string → transitions → lookup = POSIX.**  The composition of
    `tzstr_render_partial` with `tzstr_posix_partial`: the statement starts from the string. -/
theorem tzstr_string_posix_partial (sp : Spelling) (posix : Bool) (wf : WellFormed sp)
    (hb1 : tdCheck (sp.stdVal posix) = .ok ()) (hb2 : tdCheck (sp.dstVal posix) = .ok ())
    (sd ed : Delta)
    (hsd : delta (sp.startRule.attr (sp.startTime.map TimeSp.val)) false (sp.stdVal posix) (sp.dstVal posix) = .ok sd)
    (htr : sd.truthy = true)
    (hed : delta (sp.endRule.attr (sp.endTime.map TimeSp.val)) true (sp.stdVal posix) (sp.dstVal posix) = .ok ed)
    (hs : ValidRule (specOf sp posix).startRule) (he : ValidRule (specOf sp posix).endRule)
    (ht : InRangeTimes (specOf sp posix)) (hsav : (specOf sp posix).stdOff < (specOf sp posix).dstOff)
    (t Y m : Int) (hY : TZ.yearOf t = Y) (hY1 : 3 ≤ Y) (hY2 : Y ≤ 9997)
    (m1 : -m ≤ (specOf sp posix).stdOff) (m2 : (specOf sp posix).stdOff ≤ m)
    (m3 : -m ≤ (specOf sp posix).dstOff) (m4 : (specOf sp posix).dstOff ≤ m)
    (m5 : (specOf sp posix).dstOff - (specOf sp posix).stdOff ≤ m)
    (i0 : TZ.InsideM (specOf sp posix) (Y - 1) m) (i1 : TZ.InsideM (specOf sp posix) Y m)
    (i2 : TZ.InsideM (specOf sp posix) (Y + 1) m)
    (o0 : startUtc (specOf sp posix) (Y - 1) < endUtc (specOf sp posix) (Y - 1) ↔
          startUtc (specOf sp posix) Y < endUtc (specOf sp posix) Y)
    (o2 : startUtc (specOf sp posix) (Y + 1) < endUtc (specOf sp posix) (Y + 1) ↔
          startUtc (specOf sp posix) Y < endUtc (specOf sp posix) Y) :
    ∃ z w, tzstr (render sp) posix = .ok z ∧ (TZ.ofTzStr z).fromutc t = .ok w ∧
      (TZ.ofTzStr z).utcoffset w = .ok (Posix.offsetAt (specOf sp posix) (t + TZ.epochShift)) ∧
      (TZ.ofTzStr z).dst w = .ok (if Posix.isDstAt (specOf sp posix) (t + TZ.epochShift)
        then (specOf sp posix).dstOff - (specOf sp posix).stdOff else 0) ∧
      (TZ.ofTzStr z).tzname w = .ok (if Posix.isDstAt (specOf sp posix) (t + TZ.epochShift)
        then TZ.abbrBytes (some sp.dst) else TZ.abbrBytes (some sp.std)) := by
  obtain ⟨z, hz1, hz2, hz3, hz4⟩ := tzstr_render_partial sp posix wf hb1 hb2 sd ed hsd htr hed
  obtain ⟨w, w1, w2, w3, w4⟩ := tzstr_posix_partial (specOf sp posix) z hz2 hs he ht hsav t Y m hY hY1 hY2
    m1 m2 m3 m4 m5 i0 i1 i2 o0 o2
  rw [hz3, hz4] at w4
  exact ⟨z, w, hz1, w1, w2, w3, w4⟩

/-- **tzstr_render: from the STRING to the zone, no residual hypotheses.**  For every well-formed
    spelling (`WellFormed`: letter abbreviations; offsets as `h`/`hh`, `hhmm` or `hh:mm` with optional
    sign; rules `Mm.w.d` with arbitrary digit tokens, `Jn` with 1 ≤ n ≤ 366, `n` with n ≤ 365; optional
    `/time` in its four spellings), `tzstr (render sp) posix` succeeds and its zone is the zone of the
    POSIX spec `specOf sp posix` with the given abbreviations.  (`tdCheck` follows from the values of
    ≤ 2-digit tokens, the `_delta` constructions from the whole `ydayidx` table 1..366.) -/
theorem tzstr_render (sp : Spelling) (posix : Bool) (wf : WellFormed sp) :
    ∃ z, tzstr (render sp) posix = .ok z ∧ IsZoneOf (specOf sp posix) z ∧
      z.stdAbbr = some sp.std ∧ z.dstAbbr = some sp.dst := by
  have b1 := off_bound sp.stdOff wf.stdOff
  have hs : -362340 ≤ sp.stdVal posix ∧ sp.stdVal posix ≤ 362340 := by
    unfold Spelling.stdVal; split <;> omega
  have hd : -400000 ≤ sp.dstVal posix ∧ sp.dstVal posix ≤ 400000 := by
    unfold Spelling.dstVal
    cases hdo : sp.dstOff with
    | none => simp only; omega
    | some o =>
        have hok : o.sp.Ok := by have := wf.dstOff; rw [hdo] at this; exact this
        have := off_bound o hok
        simp only; omega
  obtain ⟨sd, hsd, htr⟩ := delta_ok sp.startRule wf.startRule (sp.startTime.map TimeSp.val) false
    (sp.stdVal posix) (sp.dstVal posix)
  obtain ⟨ed, hed, _⟩ := delta_ok sp.endRule wf.endRule (sp.endTime.map TimeSp.val) true
    (sp.stdVal posix) (sp.dstVal posix)
  exact tzstr_render_partial sp posix wf (tdCheck_small _ (by omega)) (tdCheck_small _ hd) sd ed hsd htr hed

/-- **tzstr_string_posix: string → transitions → lookup = POSIX**, with exactly the residual
    hypotheses of `tzstr_posix_partial`: rule numbers in POSIX range and `Mm.w.d` times inside the day
    (the complement is D-C08), positive saving, and the New-Year margin (the complement is D-C04y). -/
theorem tzstr_string_posix (sp : Spelling) (posix : Bool) (wf : WellFormed sp)
    (hs : ValidRule (specOf sp posix).startRule) (he : ValidRule (specOf sp posix).endRule)
    (ht : InRangeTimes (specOf sp posix)) (hsav : (specOf sp posix).stdOff < (specOf sp posix).dstOff)
    (t Y m : Int) (hY : TZ.yearOf t = Y) (hY1 : 3 ≤ Y) (hY2 : Y ≤ 9997)
    (m1 : -m ≤ (specOf sp posix).stdOff) (m2 : (specOf sp posix).stdOff ≤ m)
    (m3 : -m ≤ (specOf sp posix).dstOff) (m4 : (specOf sp posix).dstOff ≤ m)
    (m5 : (specOf sp posix).dstOff - (specOf sp posix).stdOff ≤ m)
    (i0 : TZ.InsideM (specOf sp posix) (Y - 1) m) (i1 : TZ.InsideM (specOf sp posix) Y m)
    (i2 : TZ.InsideM (specOf sp posix) (Y + 1) m)
    (o0 : startUtc (specOf sp posix) (Y - 1) < endUtc (specOf sp posix) (Y - 1) ↔
          startUtc (specOf sp posix) Y < endUtc (specOf sp posix) Y)
    (o2 : startUtc (specOf sp posix) (Y + 1) < endUtc (specOf sp posix) (Y + 1) ↔
          startUtc (specOf sp posix) Y < endUtc (specOf sp posix) Y) :
    ∃ z w, tzstr (render sp) posix = .ok z ∧ (TZ.ofTzStr z).fromutc t = .ok w ∧
      (TZ.ofTzStr z).utcoffset w = .ok (Posix.offsetAt (specOf sp posix) (t + TZ.epochShift)) ∧
      (TZ.ofTzStr z).dst w = .ok (if Posix.isDstAt (specOf sp posix) (t + TZ.epochShift)
        then (specOf sp posix).dstOff - (specOf sp posix).stdOff else 0) ∧
      (TZ.ofTzStr z).tzname w = .ok (if Posix.isDstAt (specOf sp posix) (t + TZ.epochShift)
        then TZ.abbrBytes (some sp.dst) else TZ.abbrBytes (some sp.std)) := by
  obtain ⟨z, hz1, hz2, hz3, hz4⟩ := tzstr_render sp posix wf
  obtain ⟨w, w1, w2, w3, w4⟩ := tzstr_posix_partial (specOf sp posix) z hz2 hs he ht hsav t Y m hY hY1 hY2
    m1 m2 m3 m4 m5 i0 i1 i2 o0 o2
  rw [hz3, hz4] at w4
  exact ⟨z, w, hz1, w1, w2, w3, w4⟩

/-- **C08 (no daylight part).** A string without a daylight abbreviation is a fixed-offset zone:
    no DST, no transitions in any year — for every string and either `posix_offset` setting. -/
theorem no_dst_part_is_fixed (s : String) (posix : Bool) (z : Zone) (h : tzstr s posix = .ok z)
    (hd : z.dstAbbr = none) : z.hasdst = false ∧ ∀ y, transitions z y = .ok none := by
  obtain ⟨res, _, _, e, hdst⟩ := tzstr_ok_inv s posix z h
  have hf : z.hasdst = false := by
    cases hh : z.hasdst with
    | false => rfl
    | true => obtain ⟨a, ha⟩ := hdst hh; rw [hd, ha] at e; cases e
  exact ⟨hf, fun y => by unfold transitions; rw [hf]⟩

/-- **C08 (tokenizer).** `re.split` with the TZ pattern loses nothing and yields no empty token:
    for every string the tokens concatenate back to the input. -/
theorem tokens_partition (s : String) :
    ((tokens s).map String.toList).flatten = s.toList ∧ ∀ t ∈ tokens s, t ≠ "" :=
  ⟨tokens_flatten s, tokens_nonempty s⟩

/-- **`STD offset` is a fixed zone**: letter abbreviation, optional sign, any offset spelling; the sign is flipped for
    `GMT` / `UTC` unless POSIX interpretation is requested -/
theorem tzstr_std_offset (std : String) (so : Off) (hstd : IsAlpha std) (hso : so.sp.Ok) (s : String)
    (hs : s.toList = std.toList ++ (so.chunks.map (·.2)).flatten) (posix : Bool) :
    tzstr s posix = .ok
      { stdAbbr := some std, dstAbbr := none,
        stdOff := if (std == "GMT" || std == "UTC") && !posix then so.val * (-1) else so.val,
        dstOff := 0, start := none, «end» := none, hasdst := false } := by
  have hb := off_bound so hso
  have hflip : ((some std == some "GMT" || some std == some "UTC") && !posix) = ((std == "GMT" || std == "UTC") && !posix) := by
    simp
  have hoff : (if ((std == "GMT" || std == "UTC") && !posix) = true then (some so.val).map (· * (-1)) else some so.val) =
      some (if ((std == "GMT" || std == "UTC") && !posix) = true then so.val * (-1) else so.val) := by split <;> rfl
  have hck : tdCheck (if ((std == "GMT" || std == "UTC") && !posix) = true then so.val * (-1) else so.val) = .ok () :=
    tdCheck_small _ (by split <;> omega)
  unfold tzstr
  rw [parse_stdOnly std so hstd hso s hs]
  simp only [bind, Except.bind, Bool.false_eq_true, if_false, hflip, hoff, Option.getD_some, hck, pure, Except.pure,
    Bool.false_and, Bool.not_false, if_true]

/-- one row of the `GMT+h` / `UTC+h` table -/
def gmtRow (utc plus posix : Bool) (h : Nat) : Bool :=
  match tzstr ((if utc then "UTC" else "GMT") ++ (if plus then "+" else "-") ++ toString h) posix with
  | .ok z => !z.hasdst && z.stdOff == (if plus == posix then -1 else 1) * (h : Int) * 3600 && z.dstAbbr.isNone
  | .error _ => false

/-- **C08 (GMT+h).** `GMT+h` / `UTC+h` (h = 0..24, either sign) are fixed zones h hours AHEAD of UTC,
    and h hours BEHIND when POSIX interpretation is requested: `tzstr_std_offset` with the numeral `str(h)`. -/
theorem gmt_plus_h : ∀ utc plus posix : Bool, ∀ h : Fin 25, gmtRow utc plus posix h.val = true := by
  intro utc plus posix h
  unfold gmtRow
  rw [tzstr_std_offset (if utc then "UTC" else "GMT") ⟨some plus, .h ⟨toString h.val, h.val⟩⟩
    (by unfold IsAlpha; cases utc <;> decide) ⟨pyInt_toString _, (Nat.length_repr_le_iff (by decide)).mpr (by omega)⟩ _
    (by cases utc <;> cases plus <;> simp [Off.chunks, signChunks, OffSp.chunks, numC])]
  cases utc <;> cases plus <;> cases posix <;> simp [Off.val, OffSp.val, Int.neg_mul]


/-! ### the string level: canonical spellings parse to the attributes `attrOf` names.
    Each string below is `AAA5BBB,<rule>[/<time>],M10.5.0` with `str(n)` numerals, an instance of
    `TzStr.parse_render` through `parsesTo_canon` (`int(str(n)) == n` is `pyInt_toString`). -/

/-- every `Mm.w.d` start rule (12 × 5 × 7 spellings) -/
theorem parse_M_rule : ∀ m : Fin 12, ∀ w : Fin 5, ∀ d : Fin 7,
    parsesTo ("AAA5BBB,M" ++ toString (m.val + 1) ++ "." ++ toString (w.val + 1) ++ "." ++ toString d.val ++ ",M10.5.0")
      (attrOf (.M (m.val + 1) (w.val + 1) d.val) none) = true :=
  fun m w d => parsesTo_canon _
    (.M ⟨toString (m.val + 1), m.val + 1⟩ ⟨toString (w.val + 1), w.val + 1⟩ ⟨toString d.val, d.val⟩) none
    ⟨pyInt_toString _, pyInt_toString _, pyInt_toString _⟩ trivial (by simp [RuleSp.chunks, numC, pC, timeChunks])

/-- every `Jn` start rule, n = 1..365 -/
theorem parse_J_rule : ∀ n : Fin 365,
    parsesTo ("AAA5BBB,J" ++ toString (n.val + 1) ++ ",M10.5.0") (attrOf (.J (n.val + 1)) none) = true :=
  fun n => parsesTo_canon _ (.J ⟨toString (n.val + 1), n.val + 1⟩) none
    ⟨pyInt_toString _, by simp; omega, by simp; omega⟩ trivial (by simp [RuleSp.chunks, numC, timeChunks])

/-- every zero-based `n` start rule, n = 0..365 -/
theorem parse_N_rule : ∀ n : Fin 366,
    parsesTo ("AAA5BBB," ++ toString n.val ++ ",M10.5.0") (attrOf (.N n.val) none) = true :=
  fun n => parsesTo_canon _ (.N ⟨toString n.val, n.val⟩) none
    ⟨pyInt_toString _, by simp; omega⟩ trivial (by simp [RuleSp.chunks, numC, timeChunks])

/-- every whole-hour `/h` and `/hh` time of day, h = 0..24 -/
theorem parse_rule_hour : ∀ h : Fin 25,
    parsesTo ("AAA5BBB,M3.2.0/" ++ toString h.val ++ ",M10.5.0") (attrOf (.M 3 2 0) (some (h.val * 3600))) = true ∧
    parsesTo ("AAA5BBB,M3.2.0/" ++ (if h.val < 10 then "0" else "") ++ toString h.val ++ ",M10.5.0")
      (attrOf (.M 3 2 0) (some (h.val * 3600))) = true := by
  intro h
  have hr : (RuleSp.M ⟨"3", 3⟩ ⟨"2", 2⟩ ⟨"0", 0⟩).Ok :=
    (by decide : pyInt "3" = some 3 ∧ pyInt "2" = some 2 ∧ pyInt "0" = some 0)
  have h1 := parsesTo_canon ("AAA5BBB,M3.2.0/" ++ toString h.val ++ ",M10.5.0") _ (some (.h ⟨toString h.val, h.val⟩)) hr
    ⟨pyInt_toString _, (Nat.length_repr_le_iff (by decide)).mpr (by omega)⟩
    (by simp [RuleSp.chunks, numC, pC, timeChunks, TimeSp.body])
  refine ⟨h1, ?_⟩
  by_cases h10 : h.val < 10
  · have hlen : ("0" ++ toString h.val).length ≤ 2 := by
      have e : "0".length = 1 := rfl
      have : (toString h.val).length ≤ 1 := (Nat.length_repr_le_iff (by decide)).mpr (by omega)
      rw [String.length_append, e]
      omega
    have h2 := parsesTo_canon ("AAA5BBB,M3.2.0/" ++ "0" ++ toString h.val ++ ",M10.5.0") _
      (some (.h ⟨"0" ++ toString h.val, h.val⟩)) hr ⟨pyInt_zero_append _ _ (pyInt_toString _), hlen⟩
      (by simp [RuleSp.chunks, numC, pC, timeChunks, TimeSp.body])
    rw [if_pos h10]
    exact h2
  · rw [if_neg h10, String.append_empty]
    exact h1

/-- the weekday search never moves by more than six days per step -/
theorem weekdayJump_first_bounds (cur wd : Int) (hc : 0 ≤ cur ∧ cur < 7) (hw : 0 ≤ wd ∧ wd < 7) :
    0 ≤ weekdayJump cur wd 1 ∧ weekdayJump cur wd 1 ≤ 6 ∧
    Cal.weekdayOfOrd (0 + cur + weekdayJump cur wd 1 + 1) = Cal.weekdayOfOrd (0 + wd + 1) := by
  rw [weekdayJump_pos cur wd 1 (by omega)]
  unfold Cal.weekdayOfOrd
  omega

/-! ### D-C08: the excluded class really fails (model and POSIX disagree), so the hypothesis of
    `transitions_eq_posix_partial` cannot be dropped -/

/-- `AAA10BBB,M5.4.1/24,M10.5.2` in 2019: POSIX starts DST on Monday 2019-05-27 + 24 h; the code
    adds the 24 h first and then searches the 4th Monday from May 2nd. -/
example :
    (do let D ← delta (attrOf (.M 5 4 1) (some 86400)) false (-36000) (-32400); applyDelta 2019 D)
      ≠ .ok (ruleOrdinal 2019 (.M 5 4 1) * 86400 + 86400) := by decide

-- non-vacuity: a concrete spec satisfying every hypothesis
example : ValidRule (.M 3 2 0) ∧ ValidRule (.M 11 1 0) ∧
    InRangeTimes { stdOff := -18000, dstOff := -14400, startRule := .M 3 2 0, endRule := .M 11 1 0 } := by
  simp [ValidRule, InRangeTimes, InRangeTime]

/-- US rules 2024: DST from 2024-03-10 02:00 EST (07:00Z) to 2024-11-03 02:00 EDT (06:00Z) -/
example : startUtc { stdOff := -18000, dstOff := -14400, startRule := .M 3 2 0, endRule := .M 11 1 0 } 2024
    = Cal.toOrdinal 2024 3 10 * 86400 + 7 * 3600 := by decide
example : endUtc { stdOff := -18000, dstOff := -14400, startRule := .M 3 2 0, endRule := .M 11 1 0 } 2024
    = Cal.toOrdinal 2024 11 3 * 86400 + 6 * 3600 := by decide

/-! non-vacuity of `tzstr_posix_partial`: US rules (EST5EDT,M3.2.0,M11.1.0), 2024-07-01T12:00Z -/
def usSpec : Spec := { stdOff := -18000, dstOff := -14400, startRule := .M 3 2 0, endRule := .M 11 1 0 }
def usZone : Zone :=
  match delta (resOf usSpec).start false usSpec.stdOff usSpec.dstOff,
        delta (resOf usSpec).«end» true usSpec.stdOff usSpec.dstOff with
  | .ok a, .ok b => { stdAbbr := some "EST", dstAbbr := some "EDT", stdOff := -18000, dstOff := -14400,
                      start := some a, «end» := some b, hasdst := true }
  | _, _ => default
example : IsZoneOf usSpec usZone := ⟨rfl, rfl, rfl, _, _, rfl, rfl, rfl, rfl⟩
example : TZ.InsideM usSpec 2023 18000 ∧ TZ.InsideM usSpec 2024 18000 ∧ TZ.InsideM usSpec 2025 18000 := by
  unfold TZ.InsideM TZ.ys; decide
/-- an instant whose UTC year and wall year differ (2025-01-01T02:00Z reads 2024-12-31 21:00 EST) and a mid-year one
    (2024-07-01T12:00Z: all three readings in 2024) -/
example : TZ.yearOf 1735696800 = 2025 ∧ TZ.yearOf (1735696800 + usSpec.stdOff) = 2024 := by decide
example : TZ.yearOf 1719835200 = 2024 ∧ TZ.yearOf (1719835200 + usSpec.stdOff) = 2024 ∧
    TZ.yearOf (1719835200 + usSpec.dstOff) = 2024 := by decide
example : Posix.isDstAt usSpec (1719835200 + TZ.epochShift) = true := by decide
example : (TZ.ofTzStr usZone).fromutc 1719835200 = .ok ⟨1719835200 - 14400, false⟩ := by decide

example : ∃ sd ed, usZone.start = some sd ∧ usZone.«end» = some ed ∧ sd.truthy = true ∧
    tdCheck usZone.stdOff = .ok () ∧ tdCheck usZone.dstOff = .ok () := ⟨_, _, rfl, rfl, by decide, by decide, by decide⟩

/-! non-vacuity of `tzstr_render_partial`: three spellings -/
def n (t : String) (v : Int) : Num := ⟨t, v⟩
def spUS : Spelling :=
  { std := "EST", stdOff := ⟨none, .h (n "5" 5)⟩, dst := "EDT", dstOff := none,
    startRule := .M (n "3" 3) (n "2" 2) (n "0" 0), startTime := none,
    endRule := .M (n "11" 11) (n "1" 1) (n "0" 0), endTime := none }
def spCET : Spelling :=
  { std := "CET", stdOff := ⟨some false, .h (n "1" 1)⟩, dst := "CEST", dstOff := none,
    startRule := .M (n "3" 3) (n "5" 5) (n "0" 0), startTime := none,
    endRule := .M (n "10" 10) (n "5" 5) (n "0" 0), endTime := some (.h (n "3" 3)) }
def spNST : Spelling :=
  { std := "NST", stdOff := ⟨none, .colon (n "3" 3) (n "30" 30)⟩, dst := "NDT", dstOff := none,
    startRule := .M (n "3" 3) (n "2" 2) (n "0" 0), startTime := some (.hm (n "0" 0) (n "01" 1)),
    endRule := .M (n "11" 11) (n "1" 1) (n "0" 0), endTime := some (.hm (n "0" 0) (n "01" 1)) }
example : render spUS = "EST5EDT,M3.2.0,M11.1.0" ∧ render spCET = "CET-1CEST,M3.5.0,M10.5.0/3" ∧
    render spNST = "NST3:30NDT,M3.2.0/0:01,M11.1.0/0:01" := ⟨rfl, rfl, rfl⟩
example : (specOf spUS false).stdOff = -18000 ∧ (specOf spUS false).dstOff = -14400 ∧
    (specOf spCET false).stdOff = 3600 ∧ (specOf spNST false).stdOff = -12600 ∧
    (specOf spNST false).startTime = 60 := by decide

theorem nOk (t : String) (v : Int) (h : pyInt t = some v) : (n t v).Ok := h
/-- the three named spellings are well-formed, so `tzstr_render` applies to them -/
theorem wf_spUS : WellFormed spUS :=
  ⟨⟨by decide, by decide⟩, ⟨by decide, by decide⟩, ⟨nOk _ _ (by decide), by decide⟩, trivial,
   ⟨nOk _ _ (by decide), nOk _ _ (by decide), nOk _ _ (by decide)⟩, trivial,
   ⟨nOk _ _ (by decide), nOk _ _ (by decide), nOk _ _ (by decide)⟩, trivial⟩
theorem wf_spCET : WellFormed spCET :=
  ⟨⟨by decide, by decide⟩, ⟨by decide, by decide⟩, ⟨nOk _ _ (by decide), by decide⟩, trivial,
   ⟨nOk _ _ (by decide), nOk _ _ (by decide), nOk _ _ (by decide)⟩, trivial,
   ⟨nOk _ _ (by decide), nOk _ _ (by decide), nOk _ _ (by decide)⟩, ⟨nOk _ _ (by decide), by decide⟩⟩
theorem wf_spNST : WellFormed spNST :=
  ⟨⟨by decide, by decide⟩, ⟨by decide, by decide⟩,
   ⟨nOk _ _ (by decide), nOk _ _ (by decide), by decide, by decide, by decide⟩, trivial,
   ⟨nOk _ _ (by decide), nOk _ _ (by decide), nOk _ _ (by decide)⟩,
   ⟨nOk _ _ (by decide), nOk _ _ (by decide), by decide⟩,
   ⟨nOk _ _ (by decide), nOk _ _ (by decide), nOk _ _ (by decide)⟩,
   ⟨nOk _ _ (by decide), nOk _ _ (by decide), by decide⟩⟩
example : parse (render spNST) = .ok (some spNST.res) := parse_render spNST wf_spNST
example : ∃ z, tzstr "EST5EDT,M3.2.0,M11.1.0" false = .ok z ∧ IsZoneOf (specOf spUS false) z ∧
    z.stdAbbr = some "EST" ∧ z.dstAbbr = some "EDT" := tzstr_render spUS false wf_spUS
example : ∃ z, tzstr "CET-1CEST,M3.5.0,M10.5.0/3" false = .ok z ∧ IsZoneOf (specOf spCET false) z ∧
    z.stdAbbr = some "CET" ∧ z.dstAbbr = some "CEST" := tzstr_render spCET false wf_spCET
example : ∃ z, tzstr "NST3:30NDT,M3.2.0/0:01,M11.1.0/0:01" true = .ok z ∧ IsZoneOf (specOf spNST true) z ∧
    z.stdAbbr = some "NST" ∧ z.dstAbbr = some "NDT" := tzstr_render spNST true wf_spNST

end C08
