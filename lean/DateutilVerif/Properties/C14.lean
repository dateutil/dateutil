/-
  C14 — parse() is total: a datetime, ParserError or OverflowError, always terminating.

  The model (`Model/Lexer.lean`, `Model/Parser.lean`) is a total function by construction:
  `lex` is structural recursion on the input, the `while i < len_l` loop is structural
  recursion on the number of indices still to visit, so termination is part of the
  definitions being accepted (`lex_terminates`, `parse_terminates` record it as equations
  that hold for EVERY input, and `lex_output_bounded` bounds the work).
  `parse_total` is the exception-flow theorem: for any character classification (so all of
  Unicode), any options, any default, any string, the outcome is a value, `ParserError` or
  `OverflowError`.  Its proof (Proofs/ParserTotal.lean) goes through every raising site of
  the model: the `(IndexError, ValueError, InvalidOperation)` net of `_parse`, the three
  `assert`s (shown never to fire), `tokens[idx]` in `_recombine_skipped` (shown in range),
  `_build_naive` (ValueError → ParserError, OverflowError propagates), `_build_tzaware`.
-/
import DateutilVerif.Proofs.ParserTotal
import DateutilVerif.Proofs.LexerBound
import DateutilVerif.Proofs.ParserWrites

namespace C14
open PM Py

/-- the three outcomes the property allows -/
def Allowed (r : R Result) : Prop :=
  (∃ x, r = .ok x) ∨ r = .error .ParserError ∨ r = .error .OverflowError

/-- `parser.parse` on an already lexed text -/
theorem parseResult_total (cls : Char → CClass) (info : Info) (hinfo : info.WF) (o : Opts)
    (tznames : List Token) (tzi : TzInfos) (htz : tzi.NoBad) (dflt : DT) (l : List Token) :
    Allowed (parseResult cls info o tznames tzi dflt l) := by
  unfold parseResult
  obtain ⟨r, hr, hwd⟩ := parseTokens_ok cls info hinfo o l
  simp only [bind, Except.bind, hr]
  cases r with
  | none => exact Or.inr (Or.inl rfl)
  | some p =>
    obtain ⟨res, skipped⟩ := p
    dsimp only
    split
    · exact Or.inr (Or.inl rfl)
    · have hb := buildNaive_kinds res dflt (hwd res skipped rfl)
      cases hbn : buildNaive res dflt with
      | error e =>
        rcases hb e hbn with rfl | rfl
        · exact Or.inr (Or.inl rfl)
        · exact Or.inr (Or.inr rfl)
      | ok naive =>
        dsimp only [pure, Except.pure]
        split
        · exact Or.inl ⟨_, rfl⟩
        · have ht := buildTzaware_kinds tznames tzi htz res
          cases htz' : buildTzaware tznames tzi res with
          | error e =>
            rcases ht e htz' with rfl | rfl
            · exact Or.inr (Or.inl rfl)           -- ValueError of `_build_tzaware` is wrapped as ParserError
            · exact Or.inr (Or.inr rfl)
          | ok z => exact Or.inl ⟨_, rfl⟩

/-- **C14 (exception totality)** — for every character classification `cls` (Python's Unicode one in
    particular), every `parserinfo` whose weekday table maps into 0..6, every option combination, every
    `tzinfos` whose values are tzinfo / TZ string / int / None or a callable returning those or raising ValueError
    (`NoBad`: a value of any other type is the designed TypeError) — **malformed TZ strings included** —, every default
    and EVERY string, the model of `parser.parse` returns a value or raises `ParserError` or `OverflowError`: nothing else.
    No hypothesis on the TZ strings is needed: `parse()` wraps `_build_tzaware` (/repo 950345d; `tz.tzstr`'s ValueError becomes
    ParserError; `tzstr_kinds`: C08's model of `tz.tzstr` raises only ValueError or OverflowError).  What the theorem
    covers ends where `parse` (the model) ends: the result descriptor.  `_assign_tzname`'s calls of `tzname()` on the
    zone object are outside it; for a TZ string they are `PM.strNames` (month 13 passes the constructor and raises
    ValueError at that point — inside the same `try`, so ParserError as well), for a tzinfo object they are the caller's. -/
theorem parse_total (cls : Char → CClass) (info : Info) (hinfo : info.WF) (o : Opts)
    (tznames : List Token) (tzi : TzInfos) (htz : tzi.NoBad) (dflt : DT) (s : List Char) :
    Allowed (parse cls info o tznames tzi dflt s) :=
  parseResult_total cls info hinfo o tznames tzi htz dflt (lex cls s)

/-- a malformed TZ string in `tzinfos` is a ParserError: `tz.tzstr('5')` raises ValueError "unknown string format" inside
    `_build_tzaware`, and `parse()` wraps that call (/repo 950345d) -/
theorem parse_bad_tzstring_is_ParserError :
    parse asciiCls (Info.default false false 2024 2000) {} [] (.mapping [(some ['X'], .str ['5'])])
      ⟨2003, 9, 25, 0, 0, 0, 0⟩ "10:00 X".toList = .error .ParserError := by decide +kernel

/-- the unwrapped cascade: `_build_tzaware` itself raises ValueError on that TZ string -/
theorem build_tzaware_bad_tzstring_ValueError :
    buildTzaware [] (.mapping [(some ['X'], .str ['5'])]) { tzname := some ['X'] } = .error .ValueError := by decide +kernel

/-- … and a TZ string the constructor accepts can still raise when `_assign_tzname` asks for `tzname()`: month 13 in a
    rule is only looked at by `transitions(year)` (`calendar.IllegalMonthError`, a ValueError; ParserError after the wrap) -/
theorem tzstring_query_raises :
    tzstrCtor "EST5EDT,M13.1.0,M11.1.0".toList = .ok () ∧
    strNames "EST5EDT,M13.1.0,M11.1.0".toList ⟨2003, 9, 25, 10, 0, 0, 0⟩ = .error .ValueError := by decide +kernel

/-- a tzinfos callable that itself raises ValueError is reported as ParserError too -/
theorem parse_raising_callable_is_ParserError :
    parse asciiCls (Info.default false false 2024 2000) {} [] (.callable [(some ['X'], .raises)] (.data .noneVal))
      ⟨2003, 9, 25, 0, 0, 0, 0⟩ "10:00 X".toList = .error .ParserError := by decide +kernel

/-- the stock `parserinfo` (tables dumped from /repo on every run) satisfies the hypothesis on `info` -/
theorem default_info_wf (df yf : Bool) (year century : Int) : (Info.default df yf year century).WF := by
  unfold Info.WF Info.default
  dsimp only
  decide

/-- `parse_total` for the stock parserinfo: no hypothesis left on `info` -/
theorem parse_total_default (cls : Char → CClass) (df yf : Bool) (year century : Int) (o : Opts)
    (tznames : List Token) (tzi : TzInfos) (htz : tzi.NoBad) (dflt : DT) (s : List Char) :
    Allowed (parse cls (Info.default df yf year century) o tznames tzi dflt s) :=
  parse_total cls _ (default_info_wf df yf year century) o tznames tzi htz dflt s

/-- `_parse` itself never raises (what `parse_total` rests on): the scan's IndexError / ValueError /
    InvalidOperation all become the `(None, None)` return -/
theorem inner_parse_never_raises (cls : Char → CClass) (info : Info) (hinfo : info.WF) (o : Opts) (l : List Token) :
    ∃ r, parseTokens cls info o l = .ok r :=
  let ⟨r, h, _⟩ := parseTokens_ok cls info hinfo o l
  ⟨r, h⟩

/-- (definitional/structural — no content beyond "the model is a total Lean function") termination of the lexer:
    `lex` is defined for every input, one machine step per character (the equations are the definition; nothing
    is assumed about `cls`).  The quantitative statement is `lex_output_bounded`. -/
theorem lex_terminates (cls : Char → CClass) :
    lex cls [] = [] ∧
    ∀ (c : Char) (cs : List Char),
      scan cls LexSt.init (c :: cs) = (step cls LexSt.init c).1 ++ scan cls (step cls LexSt.init c).2 cs :=
  ⟨rfl, fun _ _ => rfl⟩

/-- prompt termination, quantitatively: the tokens contain at most `len(s)` characters in total (every input
    character lands in at most one token, nothing is duplicated), so the token list — over which the scan
    makes one visit per index — is never longer than the input -/
theorem lex_output_bounded (cls : Char → CClass) (s : List Char) :
    ((lex cls s).map List.length).sum ≤ s.length := lex_total_length cls s

/-- (definitional/structural) termination of the scan over tokens: after `len_l` indices the loop has returned
    (`fuel = 0` is reached by structural recursion whatever the steps did).  That the fuel given is enough — every
    step moves the index forward and `i + fuel = len_l` — is in the proof of `parse_total`, not here. -/
theorem parse_terminates (cls : Char → CClass) (info : Info) (fuzzy : Bool) (lenL i skip : Nat) (st : PState) :
    parseLoop cls info fuzzy lenL 0 i skip st = .ok st := rfl

/-- **where state could leak**: `_parse` writes into its token list (the object `_timelex.split` returned) in exactly
    one situation — a token that can be a zone name (upper-case ≤ 5 letters / UTC alias, after an hour, no zone yet)
    followed by `+` or `-`: that sign token is replaced by the opposite sign.  Every other iteration leaves the list
    as it was.  (So a token list shared between calls — a cache, an interned default — changes the second call's
    result exactly for texts of the shape `… NAME±…`; the harness parses that family repeatedly, as the same and as an
    equal str object, and compares every answer with the first one and with this model.) -/
theorem token_list_written_only_by_sign_flip (cls : Char → CClass) (info : Info) (fuzzy : Bool) (lenL i : Nat)
    (st : PState) (r : Nat × PState) (h : parseStep cls info fuzzy lenL i st = .ok r) :
    r.2.l = st.l ∨
    ∃ name sign, st.l[i]? = some name ∧ couldBeTzname info st.res.hour st.res.tzname st.res.tzoffset name = true ∧
      st.l[i + 1]? = some sign ∧ (sign = ['+'] ∨ sign = ['-']) ∧
      r.2.l = st.l.set (i + 1) (if sign = ['+'] then ['-'] else ['+']) :=
  parseStep_writes cls info fuzzy lenL i st r h

/-- (definitional/structural: every Lean function is one) the outcome is a function of the arguments; the "no state left
    behind" clause of the property is NOT this statement but the oracle's statefulness streams (aliasing family,
    same-text-twice, process-zone switches) and `token_list_written_only_by_sign_flip` -/
theorem parse_pure (cls : Char → CClass) (info : Info) (o : Opts) (tznames : List Token) (tzi : TzInfos)
    (dflt : DT) (s₁ s₂ : List Char) (h : s₁ = s₂) :
    parse cls info o tznames tzi dflt s₁ = parse cls info o tznames tzi dflt s₂ := by rw [h]

/-- without the hypothesis on `tzinfos` the only further kind is the designed `TypeError`
    ("Offset must be tzinfo subclass, tz string, or int offset") — so the hypothesis is needed -/
example : parse asciiCls (Info.default false false 2024 2000) {} [] (.mapping [(some ['X'], .bad)])
    ⟨2003, 9, 25, 0, 0, 0, 0⟩ "10:00 X".toList = .error .TypeError := by decide +kernel

/-- a parse that succeeds, one that fails in the scan, one that fails in `_build_naive`, one that overflows -/
example : parse asciiCls (Info.default false false 2024 2000) {} [] .absent ⟨2003, 9, 25, 0, 0, 0, 0⟩
    "2003-09-25T10:49:41".toList = .ok ⟨⟨2003, 9, 25, 10, 49, 41, 0⟩, .naive, none⟩ := by decide +kernel
example : parse asciiCls (Info.default false false 2024 2000) {} [] .absent ⟨2003, 9, 25, 0, 0, 0, 0⟩
    "10:111111111111111111111111111111".toList = .error .ParserError := by decide +kernel
example : parse asciiCls (Info.default false false 2024 2000) {} [] .absent ⟨2003, 9, 25, 0, 0, 0, 0⟩
    "Feb 30".toList = .error .ParserError := by decide +kernel
example : parse asciiCls (Info.default false false 2024 2000) {} [] .absent ⟨9999, 12, 31, 0, 0, 0, 0⟩
    "Monday".toList = .error .OverflowError := by decide +kernel

/- non-vacuity: the hypotheses are met by the stock configuration and a mapping with all four value kinds -/
example : (Info.default false true 2024 2000).WF := default_info_wf _ _ _ _
example : (TzInfos.mapping [(some ['B'], .int (-10800)), (some ['E'], .obj 0), (none, .noneVal), (some ['C'], .str ['X'])]).NoBad := by
  intro p hp; simp at hp; rcases hp with rfl | rfl | rfl | rfl <;> simp
example : TzInfos.absent.NoBad := trivial

end C14
