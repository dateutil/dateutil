/-
  Properties/C17Get.lean — C17: "several zones are addressable by TZID, a single zone is returned without naming it", over the source
  translations of `tzical.get` / `tzical.keys` (Generated/TzRfcKernels.lean, harness/translate_rfc.py) and of the constructors
  `_tzicalvtzcomp.__init__` / `_tzicalvtz.__init__`; plus `tzrangebase.__ne__`, `tzrangebase.__init__`, `_tzinfo._fold`.

  * `tzical_get_spec` — exactly the sentence, for the dict `_parse_rfc` leaves behind (keys pairwise distinct: `parse_keys_nodup`):
    every zone is returned under its own TZID; an unknown TZID gives None; without a TZID a single zone is returned, and no zone or
    more than one zone raise ValueError — nothing else is ever raised;
  * `parse_keys_nodup` — for every text and library, the TZIDs of the zones the translated/modelled parser registers are pairwise
    distinct (a later VTIMEZONE with the same TZID replaces the earlier one);
  * `gen_eq_model_get` — the translated `get` equals the hand model `ICal.get` (which answers with the index of the zone);
  * `get_after_parse` — `keys()` lists exactly the TZIDs, and each of them gets its zone;
  * `comp_init_spec` — the component object: offsets as timedeltas, `tzoffsetdiff = tzoffsetto - tzoffsetfrom` (what `ICal.ZComp.diff` is),
    OverflowError exactly outside the timedelta range; `vtz_init_cache_empty` — a new zone starts with both cache lists empty (the
    initial state of `cache_transparent` / `cache_step_gen`);
  * `tzrange_ne_spec` — `a != b` is the negation of `a == b` for range zones; `tzrangebase_is_abstract`; `fold_is_fold`.
-/
import DateutilVerif.Properties.C17Malformed

namespace C17
open ICal ICalRfc Py

theorem find_of_findIdx (l : List VTz) (p : VTz → Bool) : (l.findIdx? p).bind (fun i => l[i]?) = l.find? p := by
  induction l with
  | nil => rfl
  | cons a t ih =>
    simp only [List.findIdx?_cons, List.find?_cons]
    cases h : p a
    · simp only [Bool.false_eq_true, if_false]
      rw [← ih]
      cases t.findIdx? p <;> simp
    · simp

/-- the translated `tzical.get` is the model's `get` (which names the zone by its index) -/
theorem gen_eq_model_get (vtz : List VTz) (tzid : Option (List Char)) :
    Gen.tzical_get vtz tzid = (ICal.get vtz tzid).map (fun o => o.bind (fun i => vtz[i]?)) := by
  unfold Gen.tzical_get ICal.get
  cases tzid with
  | some t =>
    simp only [reduceCtorEq, if_false, bind_ok, RfcPy.dictGet, Except.map, Option.bind]
    rw [← find_of_findIdx]; rfl
  | none =>
    cases vtz with
    | nil => simp [Except.bind, Except.map]
    | cons a rest =>
      cases rest with
      | nil => simp [Except.bind, Except.map, RfcPy.firstKey, RfcPy.dictGet]
      | cons b r =>
        have : ((a :: b :: r).length : Int) > 1 := by simp; omega
        have h0 : ¬ (((a :: b :: r).length : Int) = 0) := by simp; omega
        simp only [if_true, this, h0, if_false, Except.bind, Except.map]
        simp

theorem find_self_of_nodup (l : List VTz) (h : (l.map (·.tzid)).Nodup) (v : VTz) (hv : v ∈ l) :
    l.find? (fun w => w.tzid == v.tzid) = some v := by
  induction l with
  | nil => cases hv
  | cons a t ih =>
    simp only [List.map_cons, List.nodup_cons] at h
    rcases List.mem_cons.mp hv with rfl | hm
    · simp
    · have hne : a.tzid ≠ v.tzid := by
        intro e; exact h.1 (by rw [e]; exact List.mem_map_of_mem hm)
      simp only [List.find?_cons, beq_iff_eq, hne, ↓reduceIte]
      have : (a.tzid == v.tzid) = false := by simpa using hne
      simp only [this]
      exact ih h.2 hm

/-- **the property's sentence**, for a zone dict with pairwise distinct TZIDs (which is what the parser leaves: `parse_keys_nodup`):
    several zones are addressable by TZID, a single zone is returned without naming it; an unknown TZID gives `None`; asking without a
    TZID when there is no zone or more than one raises ValueError -/
theorem tzical_get_spec (vtz : List VTz) (hk : (vtz.map (·.tzid)).Nodup) :
    (∀ v ∈ vtz, Gen.tzical_get vtz (some v.tzid) = .ok (some v)) ∧
    (∀ t, (∀ v ∈ vtz, v.tzid ≠ t) → Gen.tzical_get vtz (some t) = .ok none) ∧
    (∀ v, vtz = [v] → Gen.tzical_get vtz none = .ok (some v)) ∧
    (vtz = [] → Gen.tzical_get vtz none = .error .ValueError) ∧
    (vtz.length > 1 → Gen.tzical_get vtz none = .error .ValueError) := by
  refine ⟨?_, ?_, ?_, ?_, ?_⟩
  · intro v hv
    simp only [Gen.tzical_get, reduceCtorEq, if_false, bind_ok, RfcPy.dictGet]
    rw [find_self_of_nodup vtz hk v hv]
  · intro t ht
    simp only [Gen.tzical_get, reduceCtorEq, if_false, bind_ok, RfcPy.dictGet]
    congr 1
    rw [List.find?_eq_none]
    intro w hw
    simpa using ht w hw
  · intro v e; subst e
    simp [Gen.tzical_get, Except.bind, RfcPy.firstKey, RfcPy.dictGet]
  · intro e; subst e
    simp [Gen.tzical_get, Except.bind]
  · intro hl
    have h1 : ((vtz.length : Nat) : Int) > 1 := by omega
    have h0 : ¬ (((vtz.length : Nat) : Int) = 0) := by omega
    simp [Gen.tzical_get, Except.bind, h1, h0]

/-- `get` raises nothing but ValueError -/
theorem get_errors_ValueError (vtz : List VTz) (tzid : Option (List Char)) (e : PyErr)
    (h : Gen.tzical_get vtz tzid = .error e) : e = .ValueError := by
  cases tzid with
  | some t => simp [Gen.tzical_get, Except.bind] at h
  | none =>
    cases vtz with
    | nil => simp [Gen.tzical_get, Except.bind] at h; exact h.symm
    | cons a rest =>
      cases rest with
      | nil => simp [Gen.tzical_get, Except.bind, RfcPy.firstKey] at h
      | cons b r =>
        have h1 : ((a :: b :: r).length : Int) > 1 := by simp; omega
        have h0 : ¬ (((a :: b :: r).length : Int) = 0) := by simp; omega
        simp only [Gen.tzical_get, if_true, h1, h0, if_false, Except.bind] at h
        cases h; rfl

theorem putVtz_keys_nodup (vs : List VTz) (v : VTz) (h : (vs.map (·.tzid)).Nodup) : ((putVtz vs v).map (·.tzid)).Nodup := by
  unfold putVtz
  split
  · have : (vs.map (fun w => if (w.tzid == v.tzid) = true then v else w)).map (·.tzid) = vs.map (·.tzid) := by
      rw [List.map_map]
      apply List.map_congr_left
      intro w _
      by_cases hw : (w.tzid == v.tzid) = true
      · simp only [Function.comp, hw, if_true]; exact (beq_iff_eq.mp hw).symm
      · simp [Function.comp, hw]
    rw [this]; exact h
  · rename_i hn
    simp only [List.map_append, List.map_cons, List.map_nil]
    rw [List.nodup_append]
    refine ⟨h, by simp, ?_⟩
    intro a ha b hb
    simp only [List.mem_singleton] at hb
    subst hb
    intro e
    apply hn
    simp only [List.any_eq_true, beq_iff_eq]
    obtain ⟨w, hw, hwe⟩ := List.mem_map.mp ha
    exact ⟨w, hw, by rw [hwe, e]⟩

def KeysOK (st : PState) : Prop := (st.vtz.map (·.tzid)).Nodup

theorem vtzStep_keys {st st' : PState} (h : VtzStep st st') (h0 : KeysOK st) : KeysOK st' := by
  unfold KeysOK
  rcases h with h | ⟨v, h⟩ <;> rw [h]
  · exact h0
  · exact putVtz_keys_nodup _ _ h0

/-- **the zones the parser registers have pairwise distinct TZIDs**, for every text and recurrence library -/
theorem parse_keys_nodup (lib : RRuleLib) (text : List Char) (vtz : List VTz) (h : parseRfcW lib text = .ok vtz) :
    (vtz.map (·.tzid)).Nodup := by
  unfold parseRfcW at h
  dsimp only at h
  split at h
  · cases h
  · split at h
    · rename_i st hs
      cases h
      exact (Sat.foldlM (P := KeysOK) (Q := fun _ => True) _ _ _ (by simp [KeysOK]) fun s a _ hs =>
        (stepLineW_sat lib s a).mono (fun _ h => vtzStep_keys h hs) fun _ _ => trivial).of_ok hs
    · cases h

/-- after loading ANY text through the translated `_parse_rfc`: every registered zone is returned under its own TZID, `keys()` lists
    exactly those TZIDs, and a lone zone is returned without naming it -/
theorem get_after_parse (lib : RRuleLib) (text : List Char) (st : PState) (h : Gen.tzical_parseRfc lib text = .ok st) :
    (∀ v ∈ st.vtz, Gen.tzical_get st.vtz (some v.tzid) = .ok (some v)) ∧
    Gen.tzical_keys st.vtz = .ok (st.vtz.map (·.tzid)) ∧ (st.vtz.map (·.tzid)).Nodup ∧
    (∀ v, st.vtz = [v] → Gen.tzical_get st.vtz none = .ok (some v)) := by
  have hm := gen_eq_model_parse_rfc lib text
  rw [h] at hm
  have hk := parse_keys_nodup lib text st.vtz hm.symm
  have sp := tzical_get_spec st.vtz hk
  exact ⟨sp.1, rfl, hk, sp.2.2.1⟩

/-- `_tzicalvtzcomp.__init__`: when both offsets and their difference are inside the timedelta range the component carries the two
    offsets and `tzoffsetdiff = tzoffsetto - tzoffsetfrom` (`ICal.ZComp.diff`); the only exception the constructor raises is
    OverflowError (an offset, or the difference of two huge offsets, outside ±999999999 days) -/
theorem comp_init_spec (f t : Int) (isdst : Bool) (name : Option (List Char)) (rr : Option RfcPy.RR) :
    (TzStr.tdCheck f = .ok () → TzStr.tdCheck t = .ok () → RfcPy.tdRange (t * DtPy.M - f * DtPy.M) = .ok (t * DtPy.M - f * DtPy.M) →
      Gen.tzicalvtzcomp_init f t isdst name rr = .ok (RfcPy.CompObj.mk (f * DtPy.M) (t * DtPy.M)
        (t * DtPy.M - f * DtPy.M) isdst name rr)) ∧
    (∀ e, Gen.tzicalvtzcomp_init f t isdst name rr = .error e → e = .OverflowError) := by
  have tdErr : ∀ x e, TzStr.tdCheck x = .error e → e = .OverflowError := by
    intro x e h; unfold TzStr.tdCheck at h; split at h <;> cases h; rfl
  have rgErr : ∀ x e, RfcPy.tdRange x = .error e → e = .OverflowError := by
    intro x e h; unfold RfcPy.tdRange at h; split at h <;> cases h; rfl
  unfold Gen.tzicalvtzcomp_init ObjPy.tdOfSeconds RfcPy.tdSub
  constructor
  · intro h1 h2 h3; simp [h1, h2, h3, Except.bind]
  · intro e h
    cases h1 : TzStr.tdCheck f with
    | error e1 => simp [h1, Except.bind] at h; subst h; exact tdErr _ _ h1
    | ok _ =>
      cases h2 : TzStr.tdCheck t with
      | error e2 => simp [h1, h2, Except.bind] at h; subst h; exact tdErr _ _ h2
      | ok _ =>
        cases h3 : RfcPy.tdRange (t * DtPy.M - f * DtPy.M) with
        | error e3 => simp [h1, h2, h3, Except.bind] at h; subst h; exact rgErr _ _ h3
        | ok _ => simp [h1, h2, h3, Except.bind] at h

/-- for offsets a VTIMEZONE can state (`±hhmm[ss]`: below 100 h) nothing overflows -/
theorem comp_init_ok_small (f t : Int) (isdst : Bool) (name : Option (List Char)) (rr : Option RfcPy.RR)
    (hf : -360000 < f ∧ f < 360000) (ht : -360000 < t ∧ t < 360000) :
    ∃ c, Gen.tzicalvtzcomp_init f t isdst name rr = .ok c ∧ c.tzoffsetdiff = c.tzoffsetto - c.tzoffsetfrom ∧
      c.tzoffsetfrom = f * DtPy.M ∧ c.tzoffsetto = t * DtPy.M := by
  have h1 : TzStr.tdCheck f = .ok () := by unfold TzStr.tdCheck TzStr.tdLimit; rw [if_neg]; omega
  have h2 : TzStr.tdCheck t = .ok () := by unfold TzStr.tdCheck TzStr.tdLimit; rw [if_neg]; omega
  have h3 : RfcPy.tdRange (t * DtPy.M - f * DtPy.M) = .ok (t * DtPy.M - f * DtPy.M) := by
    unfold RfcPy.tdRange TzStr.tdLimit DtPy.M; rw [if_neg]; omega
  exact ⟨_, (comp_init_spec f t isdst name rr).1 h1 h2 h3, rfl, rfl, rfl⟩

/-- a new zone object starts with both cache lists empty — the initial state of `cache_transparent` / `cache_step_gen` -/
theorem vtz_init_cache_empty (tzid : Option (List Char)) (comps : List Comp) :
    ∃ z, Gen.tzicalvtz_init tzid comps = .ok z ∧ z.cachedate = [] ∧ z.cachecomp = [] ∧ z.tzid = tzid ∧ z.comps = comps :=
  ⟨_, rfl, rfl, rfl, rfl, rfl⟩

/-- `a != b` is `not (a == b)` for range zones -/
theorem tzrange_ne_spec (a b : TzStr.Zone) : Gen.tzrange_ne a b = (Gen.tzrange_eq a b).map (fun r => !r) := by
  unfold Gen.tzrange_ne Gen.tzrange_eq
  simp [Except.bind, Except.map]

theorem tzrangebase_is_abstract : Gen.tzrangebase_init = .error .NotImplemented := rfl

theorem fold_is_fold (dt : DtPy.Dt) : Gen.tzinfo_fold dt = .ok (DtPy.foldOf dt) := rfl

/-- the translated `enfold` is the primitive `DtPy.enfold` the translated lookups (tzrangebase.fromutc, tzfile.fromutc,
    _tzinfo.fromutc, resolve_imaginary) call, for the two legal fold values; any other value is a ValueError; default fold = 1 -/
theorem enfold_spec (dt : DtPy.Dt) :
    Gen.enfold dt 0 = .ok (DtPy.enfold dt 0) ∧ Gen.enfold dt 1 = .ok (DtPy.enfold dt 1) ∧ Gen.enfold dt = .ok (DtPy.enfold dt 1) ∧
    (∀ f, f ≠ 0 → f ≠ 1 → Gen.enfold dt f = .error .ValueError) ∧
    (∀ f r, Gen.enfold dt f = .ok r → DtPy.foldOf r = f ∧ r.us = dt.us) := by
  refine ⟨rfl, rfl, rfl, ?_, ?_⟩
  · intro f h0 h1; simp [Gen.enfold, RfcPy.replaceFold, h0, h1]
  · intro f r h
    unfold Gen.enfold RfcPy.replaceFold at h
    split at h
    · rename_i hf
      cases h
      rcases hf with rfl | rfl <;> simp [DtPy.foldOf]
    · cases h

/-- on Python 3 the `@tzname_in_python2` decorator is the identity: a decorated `tzname` IS the method as written -/
theorem tzname_decorator_identity {α : Type} (f : α) : Gen.tznameInPython2 f = f := rfl

/-- **`tzical(fileobj)` then `get`**: constructing from a path or a stream whose text is `text` is parsing that text from an empty
    `_vtz`; what open/read raise is raised unchanged; and on the object so built every registered zone is returned under its TZID,
    `keys()` lists exactly the TZIDs, a lone zone is returned without naming it -/
theorem tzical_load_get (lib : RRuleLib) (isPath : Bool) (text : List Char) :
    Gen.tzical_init lib ⟨isPath, .ok text⟩ = Gen.tzical_parseRfc lib text ∧
    (∀ e, Gen.tzical_init lib ⟨isPath, .error e⟩ = .error e) ∧
    (∀ st, Gen.tzical_init lib ⟨isPath, .ok text⟩ = .ok st →
      (∀ v ∈ st.vtz, Gen.tzical_get st.vtz (some v.tzid) = .ok (some v)) ∧
      Gen.tzical_keys st.vtz = .ok (st.vtz.map (·.tzid)) ∧
      (∀ v, st.vtz = [v] → Gen.tzical_get st.vtz none = .ok (some v))) := by
  refine ⟨rfl, fun _ => rfl, ?_⟩
  intro st h
  have := get_after_parse lib text st h
  exact ⟨this.1, this.2.1, this.2.2.2⟩

/-- `tzrange._dst_base_offset` (the attribute set by `__init__`, read back by the property) is `dst − std`, the saving the
    `tzrangebase` lookups use (`TZ.RangeZone.saving`), for offsets within a day of UTC -/
theorem tzrange_dst_base_offset_spec (d s : Int) (hd : -86400 < d ∧ d < 86400) (hs : -86400 < s ∧ s < 86400) :
    (Gen.tzrange_initDstBaseOffset (d * DtPy.M) (s * DtPy.M)).bind Gen.tzrange_dstBaseOffsetProp = .ok ((d - s) * DtPy.M) := by
  unfold Gen.tzrange_initDstBaseOffset RfcPy.tdSub RfcPy.tdRange TzStr.tdLimit DtPy.M
  rw [if_neg (by omega)]
  simp only [Except.bind, Gen.tzrange_dstBaseOffsetProp]
  congr 1; omega

example : (Gen.tzical_parseRfc okLib (goodText ++ goodText)).map (fun st => st.vtz.length) = .ok 1 := by
  rw [goodText, lit, String.toList_ofList]; decide +kernel
example : Gen.tzical_get [⟨lit "A", []⟩, ⟨lit "B", []⟩] (some (lit "B")) = .ok (some ⟨lit "B", []⟩) := by decide
example : Gen.tzical_get [⟨lit "A", []⟩, ⟨lit "B", []⟩] none = .error .ValueError := by decide

end C17
