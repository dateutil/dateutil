/-
  Properties/C03.lean — date + relativedelta follows the documented replace / shift / clip /
  weekday order.

  `RDM.applyTo` is the line-by-line model of `relativedelta.__add__` (tied to /repo by the
  correspondence run), `RDSpec.apply` the semantics written from the documentation.  The domain of
  the theorems is `RDP.InDomain d`: `d` is what the constructor produces (`Normalised`, i.e. the
  post-condition of the generated `_fix`, theorem C16.fix_bounds), absolute year/month/day are not 0
  (falsy ⇒ ignored by the code; outside the property), an absolute month is a month, the weekday is
  0..6 — and `x.Valid`: any date / naive / aware datetime of years 1..9999.

  The yearday table of the constructor (D-C03-yearday366, /repo e9d4d8a): leapdays = −1 is set only for
  59 < yearday < 366, so that yearday = 366 (month 12, day 32, clipped to Dec 31) is day 366 of a leap year;
  with `if yearday > 59` the correction would apply after the clip and give Dec 30.  `yearday_spec` is
      ∀ y ∈ 1..9999, n ∈ 1..(365|366): date(y,·,·) + relativedelta(yearday=n) = day n of year y
  at full strength, `yearday366_nonleap_clips` what yearday = 366 gives in a year without a day 366; the
  harness stream `yearday_366` and `gen_initKw_eq_mk` (which the other condition breaks) guard the table.
-/
import DateutilVerif.Proofs.RDApply
import DateutilVerif.Proofs.RDYearday
import DateutilVerif.Proofs.RDGenEq
import DateutilVerif.Model.RDHistory
import DateutilVerif.Proofs.TzStrBridge
import DateutilVerif.Proofs.TzStr

namespace C03
open RDM RDP

/-- **applyTo_eq_spec.** For every delta of the domain and every valid operand, `x + d` is exactly
    the documented result — same value, or the same exception. -/
theorem applyTo_eq_spec (d : RD) (x : Temporal) (hd : InDomain d) (hx : x.Valid) :
    applyTo d x = RDSpec.apply d x := RDP.applyTo_eq_spec d x hd hx

/-- **monthShift_facts** (the formula behind `month_shift_never_spills`). The documented month shift lands in a real month, keeps
    the month count, never exceeds the month's length and keeps the day when it fits. -/
theorem monthShift_facts (y m d k : Int) (hm : 1 ≤ m ∧ m ≤ 12) :
    1 ≤ (RDSpec.monthShift y m d k).2.1 ∧ (RDSpec.monthShift y m d k).2.1 ≤ 12 ∧
    12 * (RDSpec.monthShift y m d k).1 + ((RDSpec.monthShift y m d k).2.1 - 1) = 12 * y + (m - 1) + k ∧
    (RDSpec.monthShift y m d k).2.2 ≤ Cal.daysInMonth (RDSpec.monthShift y m d k).1 (RDSpec.monthShift y m d k).2.1 ∧
    (RDSpec.monthShift y m d k).2.2 ≤ d ∧
    (d ≤ Cal.daysInMonth (RDSpec.monthShift y m d k).1 (RDSpec.monthShift y m d k).2.1 →
      (RDSpec.monthShift y m d k).2.2 = d) := by
  unfold RDSpec.monthShift
  simp only []
  omega

/-- **month_shift_never_spills.** A delta of years/months only, applied to any operand, gives the operand
    with year/month set by the total-month formula, the day clipped to that month's length, and the
    time of day (and kind / zone) untouched — whenever the target year is in 1..9999. -/
theorem month_shift_never_spills (r : RD) (x : Temporal) (hr : MonthsOnly r) (hx : x.Valid)
    (hy : 1 ≤ (12 * x.t.y + (x.t.m - 1) + (12 * r.years + r.months)) / 12 ∧
          (12 * x.t.y + (x.t.m - 1) + (12 * r.years + r.months)) / 12 ≤ 9999) :
    applyTo r x = .ok { kind := x.kind, t := shiftDT x.t (12 * r.years + r.months) } ∧
    (shiftDT x.t (12 * r.years + r.months)).hh = x.t.hh ∧ (shiftDT x.t (12 * r.years + r.months)).mm = x.t.mm ∧
    (shiftDT x.t (12 * r.years + r.months)).ss = x.t.ss ∧ (shiftDT x.t (12 * r.years + r.months)).us = x.t.us ∧
    (shiftDT x.t (12 * r.years + r.months)).Valid :=
  ⟨applyTo_months_only r x hr hx hy, rfl, rfl, rfl, rfl, shiftDT_valid _ _ hx.1 hy⟩

/-- **weekday_fixed_point.** `weekday(±1)` (or a bare weekday, or n = 0) leaves a date that already
    falls on that weekday unchanged. -/
theorem weekday_fixed_point (w : Int) (n : Option Int) (ret : DT) (hv : ret.Valid)
    (hn : orInt n 1 = 1 ∨ orInt n 1 = -1) (hw : ret.weekday = w) :
    applyWeekday (some (w, n)) ret = .ok ret := by
  have hj : jumpDays w n ret.weekday = 0 := by
    unfold jumpDays Py.iabs; rw [hw]
    rcases hn with h | h <;> rw [h] <;> simp
  unfold applyWeekday
  simp only [hj]
  unfold DT.addDays DT.addMicros
  have hr := toMicros_range ret hv
  simp only [Int.zero_mul, Int.add_zero]
  rw [if_neg (by omega), DT.ofMicros_toMicros ret hv]

/-- **weekday_minimal.** When the weekday step succeeds the result has that weekday and the same time of
    day; for nth > 0 it is `j0 + 7·(nth−1)` days later where `j0 ∈ 0..6` is the *first* offset with that
    weekday (no day with that weekday in `[ret, ret + j0)`, hence exactly nth−1 of them strictly
    between `ret + j0` and the result… i.e. the nth on or after); mirrored for nth < 0. -/
theorem weekday_minimal (w : Int) (n : Option Int) (ret r : DT) (hv : ret.Valid) (hw : 0 ≤ w ∧ w ≤ 6)
    (h : applyWeekday (some (w, n)) ret = .ok r) :
    r.Valid ∧ r.weekday = w ∧ r.hh = ret.hh ∧ r.mm = ret.mm ∧ r.ss = ret.ss ∧ r.us = ret.us ∧
    (orInt n 1 > 0 → ∃ j0, 0 ≤ j0 ∧ j0 < 7 ∧ Cal.weekdayOfOrd (ret.ordinal + j0) = w ∧
        (∀ i, 0 ≤ i → i < j0 → Cal.weekdayOfOrd (ret.ordinal + i) ≠ w) ∧
        r.ordinal = ret.ordinal + j0 + 7 * (orInt n 1 - 1)) ∧
    (orInt n 1 < 0 → ∃ j0, 0 ≤ j0 ∧ j0 < 7 ∧ Cal.weekdayOfOrd (ret.ordinal - j0) = w ∧
        (∀ i, 0 ≤ i → i < j0 → Cal.weekdayOfOrd (ret.ordinal - i) ≠ w) ∧
        r.ordinal = ret.ordinal - j0 - 7 * (-(orInt n 1) - 1)) := by
  unfold applyWeekday at h
  simp only [] at h
  obtain ⟨hrv, hord, _, h1, h2, h3, h4⟩ := addDays_ok ret r _ hv h
  have hwr := Cal.weekdayOfOrd_range ret.ordinal
  refine ⟨hrv, ?_, h1, h2, h3, h4, ?_, ?_⟩
  · unfold DT.weekday at *
    rw [hord]
    unfold jumpDays Py.iabs Cal.weekdayOfOrd at *
    generalize orInt n 1 = k at *
    split <;> split <;> omega
  · intro hk
    refine ⟨(7 - ret.weekday + w) % 7, by omega, by omega, ?_, ?_, ?_⟩
    · unfold DT.weekday Cal.weekdayOfOrd at *; omega
    · intro i hi0 hi; unfold DT.weekday Cal.weekdayOfOrd at *; omega
    · rw [hord]; unfold jumpDays Py.iabs
      generalize orInt n 1 = k at *
      rw [if_pos hk]; split <;> omega
  · intro hk
    refine ⟨(ret.weekday - w) % 7, by omega, by omega, ?_, ?_, ?_⟩
    · unfold DT.weekday Cal.weekdayOfOrd at *; omega
    · intro i hi0 hi; unfold DT.weekday Cal.weekdayOfOrd at *; omega
    · rw [hord]; unfold jumpDays Py.iabs
      generalize orInt n 1 = k at *
      rw [if_neg (by omega)]; split <;> omega

/-- **sub_eq_add_neg.** `x - d` is `x + (-d)` (this is how `__rsub__` is written), and on a normalised
    delta `-d` negates exactly the relative fields. -/
theorem sub_eq_add_neg (d : RD) (x : Temporal) (hd : Normalised d) :
    rsub d x = applyTo (neg d) x ∧
    neg d = { d with years := -d.years, months := -d.months, days := -d.days, hours := -d.hours,
                     minutes := -d.minutes, seconds := -d.seconds, microseconds := -d.microseconds } :=
  ⟨rfl, neg_of_normalised d hd⟩

/-- **radd_eq_add.** `d + x` and `x + d` are the same computation. -/
theorem radd_eq_add (d : RD) (x : Temporal) : radd d x = applyTo d x := rfl

/-- **promotion_iff_hasTime.** Whenever `x + d` returns, the result is a date iff the operand is a date
    and the delta carries no time information; a datetime operand keeps its kind and zone. -/
theorem promotion_iff_hasTime (d : RD) (x r : Temporal) (hd : Normalised d) (h : applyTo d x = .ok r) :
    r.kind = (if x.kind = .date ∧ RDSpec.hasTimeInfo d = true then .naive else x.kind) ∧
    (x.kind = .date → (r.kind = .naive ↔ RDSpec.hasTimeInfo d = true)) ∧
    (x.kind ≠ .date → r.kind = x.kind) := by
  have hk := applyTo_kind d x r h
  rw [promote_kind d x hd] at hk
  refine ⟨hk, ?_, ?_⟩
  · intro hx
    rw [hk]
    by_cases ht : RDSpec.hasTimeInfo d = true <;> simp [hx, ht]
  · intro hx; rw [hk]; simp [hx]

/-- **errors_only_out_of_range.** On the domain the only failures are: a replaced / shifted field out
    of its range (ValueError; OverflowError if it does not even fit a C int), or the duration / weekday
    step leaving years 1..9999 (OverflowError). No AssertionError, TypeError or any other kind. -/
theorem errors_only_out_of_range (d : RD) (x : Temporal) (hd : InDomain d) (hx : x.Valid)
    (e : Py.PyErr) (h : applyTo d x = .error e) :
    let s := RDSpec.monthShift (d.year.getD x.t.y) (d.month.getD x.t.m) (d.day.getD x.t.d) (12 * d.years + d.months)
    let t1 := RDSpec.shiftedDT d x.t s.1 s.2.1 s.2.2
    let x2 := RDSpec.afterDuration d x.t s.1 s.2.1 s.2.2
    (e = .ValueError ∧ ¬ t1.Valid) ∨
    (e = .OverflowError ∧ (fitsCInt t1 = false ∨ x2 < DT.minMicros ∨ x2 > DT.maxMicros ∨
       ∃ w n, d.weekday = some (w, n) ∧
         (RDSpec.afterWeekday x2 w n < DT.minMicros ∨ RDSpec.afterWeekday x2 w n > DT.maxMicros))) := by
  rw [RDP.applyTo_eq_spec d x hd hx] at h
  unfold RDSpec.apply RDSpec.applyShifted at h
  simp only [] at h ⊢
  split at h
  · injection h with h; right; refine ⟨h.symm, Or.inl ?_⟩; simp_all
  · split at h
    · rename_i hv; injection h with h; left; exact ⟨h.symm, hv⟩
    · split at h
      · rename_i hr; injection h with h; right; refine ⟨h.symm, Or.inr ?_⟩
        rcases hr with hr | hr
        · exact Or.inl hr
        · exact Or.inr (Or.inl hr)
      · unfold RDSpec.weekdayStep at h
        split at h
        · contradiction
        · rename_i w n hwd
          split at h
          · rename_i hr; injection h with h; right
            exact ⟨h.symm, Or.inr (Or.inr (Or.inr ⟨w, n, hwd, hr⟩))⟩
          · contradiction


/-- **yearday_spec (full strength).** `x + relativedelta(yearday=y)` is day `y` of `x`'s year (Feb 29 counted), for
    every `y ∈ 1..daysInYear Y` — `y = 366` in leap years included — and every valid operand of any year 1..9999:
    same kind, same time of day, same year, ordinal = Jan 1 + (y − 1). -/
theorem yearday_spec (y : Int) (x : Temporal) (hx : x.Valid) (h1 : 1 ≤ y) (h2 : y ≤ Cal.daysInYear x.t.y) :
    ∃ d res, mk { yearday := some y } = .ok d ∧ applyTo d x = .ok res ∧
      res.kind = x.kind ∧ res.t.Valid ∧ res.t.y = x.t.y ∧
      res.t.ordinal = Cal.toOrdinal x.t.y 1 1 + (y - 1) ∧
      res.t.hh = x.t.hh ∧ res.t.mm = x.t.mm ∧ res.t.ss = x.t.ss ∧ res.t.us = x.t.us := by
  have hinyear : ∀ res : Temporal, res.t.Valid → res.t.ordinal = Cal.toOrdinal x.t.y 1 1 + (y - 1) → res.t.y = x.t.y := by
    intro res hv hord'
    exact year_of_ordinal_in_year res.t x.t.y hv (by rw [hord']; omega) (by
      rw [hord']
      have hs := Cal.daysBeforeYear_succ x.t.y
      have e1 := Cal.daysBeforeMonth_1 x.t.y
      have e2 := Cal.daysBeforeMonth_1 (x.t.y + 1)
      unfold Cal.toOrdinal
      rw [e1, e2, hs]
      unfold Cal.daysInYear at h2 ⊢; split at h2 <;> simp_all <;> omega)
  by_cases h365 : y ≤ 365
  · obtain ⟨m, dd, hl, m1, m12, d1, d2, hsum, hiff⟩ := ydayLookup_spec y h1 h365
    have hmk := mk_yearday y m dd (by omega) hl
    obtain ⟨res, ha, hk, hv, hord, t1, t2, t3, t4⟩ :=
      applyTo_monthDayDelta m dd (if 59 < y ∧ y < 366 then -1 else 0) x hx ⟨m1, m12⟩ d1 (by split <;> simp)
    have hle := nlDim_le x.t.y m
    have hmin : min dd (Cal.daysInMonth x.t.y m) = dd := by omega
    rw [hmin] at hord
    -- the leap-day correction −1 (set for 60 ≤ y, i.e. from March on) undoes the leap year's extra day
    have hord' : res.t.ordinal = Cal.toOrdinal x.t.y 1 1 + (y - 1) := by
      rw [hord, toOrdinal_of_yday x.t.y m dd y hsum]
      by_cases hm : m > 2 <;> cases Cal.isLeap x.t.y <;> simp [hm] <;> omega
    exact ⟨_, res, hmk, ha, hk, hv, hinyear res hv hord', hord', t1, t2, t3, t4⟩
  · -- y = 366, hence a leap year: month=12, day=32, NO leap-day correction; the day clips to Dec 31 = day 366
    have hleap : Cal.isLeap x.t.y = true := by
      unfold Cal.daysInYear at h2; split at h2
      · assumption
      · omega
    have hy : y = 366 := by unfold Cal.daysInYear at h2; rw [if_pos hleap] at h2; omega
    subst hy
    have hmk : mk { yearday := some 366 } = .ok (monthDayDelta 12 32 0) :=
      mk_yearday 366 12 32 (by decide) (by decide)
    obtain ⟨res, ha, hk, hv, hord, t1, t2, t3, t4⟩ :=
      applyTo_monthDayDelta 12 32 0 x hx (by decide) (by decide) (Or.inl rfl)
    have hd : Cal.daysInMonth x.t.y 12 = 31 := by unfold Cal.daysInMonth; simp
    have hord' : res.t.ordinal = Cal.toOrdinal x.t.y 1 1 + (366 - 1) := by
      rw [hord, hd, show min (32 : Int) 31 = 31 from by decide, toOrdinal_of_yday x.t.y 12 31 365 (by decide), hleap]
      simp; omega
    exact ⟨_, res, hmk, ha, hk, hv, hinyear res hv hord', hord', t1, t2, t3, t4⟩

/-- **yearday366_nonleap_clips.** What `yearday=366` gives in a NON-leap year (which has no day 366; the
    documentation is silent): the constructor stores month=12, day=32 and `__add__` clips the day to the end of
    the month, so the result is December 31 = day 365 of that year — the same clipping as `day=31` in a 30-day
    month and as `nlyearday=366`; kind and time of day unchanged. -/
theorem yearday366_nonleap_clips (x : Temporal) (hx : x.Valid) (hl : Cal.isLeap x.t.y = false) :
    ∃ d res, mk { yearday := some 366 } = .ok d ∧ applyTo d x = .ok res ∧
      res.kind = x.kind ∧ res.t.Valid ∧ res.t.y = x.t.y ∧ res.t.m = 12 ∧ res.t.d = 31 ∧
      res.t.hh = x.t.hh ∧ res.t.mm = x.t.mm ∧ res.t.ss = x.t.ss ∧ res.t.us = x.t.us := by
  have hmk : mk { yearday := some 366 } = .ok (monthDayDelta 12 32 0) :=
    mk_yearday 366 12 32 (by decide) (by decide)
  obtain ⟨res, ha, hk, hv, hord, t1, t2, t3, t4⟩ :=
    applyTo_monthDayDelta 12 32 0 x hx (by decide) (by decide) (Or.inl rfl)
  have hd : Cal.daysInMonth x.t.y 12 = 31 := by unfold Cal.daysInMonth; simp
  rw [hd] at hord
  simp only [ne_eq, not_true_eq_false, false_and, ↓reduceIte, Int.add_zero] at hord
  have h31 : min (32 : Int) 31 = 31 := by decide
  rw [h31] at hord
  have hinj := Cal.toOrdinal_inj res.t.y res.t.m res.t.d x.t.y 12 31 hv.1.2.2
    ⟨by decide, by decide, by decide, by rw [hd]; decide⟩ hord
  exact ⟨_, res, hmk, ha, hk, hv, hinj.1, hinj.2.1, hinj.2.2, t1, t2, t3, t4⟩

/-- **nlyearday_spec.** `x + relativedelta(nlyearday=n)`, `n ∈ 1..365`: the month and day that are day `n`
    of a NON-leap year (Feb 29 is jumped), in `x`'s year — for leap and non-leap years alike.
    Full strength (no exclusion). -/
theorem nlyearday_spec (n : Int) (x : Temporal) (hx : x.Valid) (h1 : 1 ≤ n) (h2 : n ≤ 365) :
    ∃ d res m dd, mk { nlyearday := some n } = .ok d ∧ applyTo d x = .ok res ∧
      res.kind = x.kind ∧ res.t.Valid ∧
      Cal.dbmTable m + dd = n ∧ 1 ≤ m ∧ m ≤ 12 ∧ 1 ≤ dd ∧ dd ≤ nlDim m ∧
      res.t.y = x.t.y ∧ res.t.m = m ∧ res.t.d = dd ∧
      res.t.ordinal = Cal.toOrdinal x.t.y 1 1 + (n - 1) + (if n ≥ 60 ∧ Cal.isLeap x.t.y = true then 1 else 0) ∧
      res.t.hh = x.t.hh ∧ res.t.mm = x.t.mm ∧ res.t.ss = x.t.ss ∧ res.t.us = x.t.us := by
  obtain ⟨m, dd, hl, m1, m12, d1, d2, hsum, hiff⟩ := ydayLookup_spec n h1 h2
  have hmk := mk_nlyearday n m dd (by omega) hl
  obtain ⟨res, ha, hk, hv, hord, t1, t2, t3, t4⟩ := applyTo_monthDayDelta m dd 0 x hx ⟨m1, m12⟩ d1 (Or.inl rfl)
  have hle := nlDim_le x.t.y m
  have hmin : min dd (Cal.daysInMonth x.t.y m) = dd := by omega
  rw [hmin] at hord
  simp only [ne_eq, not_true_eq_false, false_and, ↓reduceIte, Int.add_zero] at hord
  have hinj := Cal.toOrdinal_inj res.t.y res.t.m res.t.d x.t.y m dd hv.1.2.2 ⟨m1, m12, d1, by omega⟩ hord
  refine ⟨_, res, m, dd, hmk, ha, hk, hv, hsum, m1, m12, d1, d2, hinj.1, hinj.2.1, hinj.2.2, ?_, t1, t2, t3, t4⟩
  rw [hord, toOrdinal_of_yday x.t.y m dd n hsum]
  by_cases hm : m > 2 <;> cases Cal.isLeap x.t.y <;> simp [hm] <;> omega

/-! ## Bridge to C08: `tzrange.transitions` runs on this model -/

/-- **C08bridge_applyDelta.** C08's `TzStr.applyDelta year D` (its own copy of the fragment of `__add__` used by
    `tzrange.transitions`) equals the C03 model applied to `datetime(year, 1, 1)` and the relativedelta
    `tzstr._delta` builds (`relativedelta(month=, day=, weekday=wd(n), leapdays=, seconds=)`, constructor
    included): the same instant in seconds since ordinal 0, or the same exception — for every year
    1..9999 and every Delta (any month, weekday, n, leapdays, seconds; `day` only has to fit a C int). -/
theorem C08bridge_applyDelta (year : Int) (D : TzStr.Delta) (hy : 1 ≤ year ∧ year ≤ 9999)
    (hday : ∀ v, D.day = some v → -2147483648 ≤ v) :
    TzStr.applyDelta year D = (applyTo (rdOfDelta D) (jan1 year)).map secondsOf :=
  applyDelta_bridge year D hy hday

/-- **C08bridge_J.** Hence C08's `Jn` rule date is a fact about the C03 model: `datetime(y,1,1) +
    relativedelta(nlyearday=n, seconds=s)` is the POSIX `Jn` day of year `y` plus `s` seconds. -/
theorem C08bridge_J (y n secs : Int) (hy1 : 2 ≤ y) (hy2 : y ≤ 9998) (hn1 : 1 ≤ n) (hn2 : n ≤ 365)
    (hs1 : -86400 * 300 ≤ secs) (hs2 : secs < 86400 * 300) :
    ∃ m dd, TzStr.ydayToMonthDay n = .ok (m, dd) ∧
      (applyTo (rdOfDelta { month := some m, day := some dd, seconds := secs }) (jan1 y)).map secondsOf
        = .ok (Posix.ruleOrdinal y (Posix.Rule.J n) * 86400 + secs) := by
  obtain ⟨m, dd, he, ha⟩ := TzStr.apply_J y n secs hy1 hy2 hn1 hn2 hs1 hs2
  obtain ⟨m', dd', he', _, _, d1, _⟩ := TzStr.yday_spec n hn1 hn2
  have e : (m, dd) = (m', dd') := by rw [he] at he'; injection he'
  have edd : dd = dd' := by injection e
  refine ⟨m, dd, he, ?_⟩
  rw [← C08bridge_applyDelta y _ ⟨by omega, by omega⟩ (by intro v hv; simp only [Option.some.injEq] at hv; omega)]
  exact ha

/-- **C08bridge_N.** The same for the zero-based POSIX `n` rule (`relativedelta(yearday=n+1, seconds=s)`),
    `n ∈ 0..364` (n = 365 exists only in leap years and is outside C08's year-independent `ValidRule`; since the
    repair of D-C03-yearday366 it is December 31 there — `yearday_spec` with y = 366). -/
theorem C08bridge_N (y n secs : Int) (hy1 : 2 ≤ y) (hy2 : y ≤ 9998) (hn1 : 0 ≤ n) (hn2 : n ≤ 364)
    (hs1 : -86400 * 300 ≤ secs) (hs2 : secs < 86400 * 300) :
    ∃ m dd, TzStr.ydayToMonthDay (n + 1) = .ok (m, dd) ∧
      (applyTo (rdOfDelta { month := some m, day := some dd, leapdays := (if 59 < n + 1 ∧ n + 1 < 366 then -1 else 0),
                            seconds := secs }) (jan1 y)).map secondsOf
        = .ok (Posix.ruleOrdinal y (Posix.Rule.N n) * 86400 + secs) := by
  obtain ⟨m, dd, he, ha⟩ := TzStr.apply_N y n secs hy1 hy2 hn1 hn2 hs1 hs2
  obtain ⟨m', dd', he', _, _, d1, _⟩ := TzStr.yday_spec (n + 1) (by omega) (by omega)
  have e : (m, dd) = (m', dd') := by rw [he] at he'; injection he'
  have edd : dd = dd' := by injection e
  refine ⟨m, dd, he, ?_⟩
  rw [← C08bridge_applyDelta y _ ⟨by omega, by omega⟩ (by intro v hv; simp only [Option.some.injEq] at hv; omega)]
  exact ha

/-- **C08bridge_N365.** The last zero-based POSIX day, `n = 365`, exists only in leap years.  Since the repair of
    D-C03-yearday366 `tzstr._delta` builds `relativedelta(yearday=366)` = month 12, day 32, NO leap-day correction, and in
    every leap year 2..9998 `datetime(y,1,1) +` that delta `+ s` seconds is the POSIX day `n = 365` (December 31) plus `s`
    — on C08's copy of the `__add__` fragment and (by `C08bridge_applyDelta`) on the C03 model. -/
theorem C08bridge_N365 (y secs : Int) (hy1 : 2 ≤ y) (hy2 : y ≤ 9998) (hl : Cal.isLeap y = true)
    (hs1 : -86400 * 300 ≤ secs) (hs2 : secs < 86400 * 300) :
    TzStr.delta { yday := some 366, time := some secs } false 0 0
      = .ok { month := some 12, day := some 32, leapdays := 0, seconds := secs } ∧
    (applyTo (rdOfDelta { month := some 12, day := some 32, leapdays := 0, seconds := secs }) (jan1 y)).map secondsOf
      = .ok (Posix.ruleOrdinal y (Posix.Rule.N 365) * 86400 + secs) := by
  have he : TzStr.ydayToMonthDay 366 = .ok (12, 32) := by decide
  refine ⟨by simp [TzStr.delta, he, bind, Except.bind, pure, Except.pure], ?_⟩
  rw [← C08bridge_applyDelta y _ ⟨by omega, by omega⟩ (by intro v hv; simp only [Option.some.injEq] at hv; omega)]
  have hd : Cal.daysInMonth y 12 = 31 := by unfold Cal.daysInMonth; simp
  have hv : Cal.ValidYMD y 12 31 := ⟨by omega, by omega, by omega, by rw [hd]; omega⟩
  have mg := TzStr.ordinal_margin y 12 31 hy1 hy2 hv
  have hord : Cal.toOrdinal y 12 31 = Cal.toOrdinal y 1 1 + 365 := by
    rw [toOrdinal_of_yday y 12 31 365 (by decide), hl]; simp; omega
  unfold TzStr.applyDelta TzStr.baseInstant
  have h31 : min (31 : Int) 32 = 31 := by decide
  rw [if_neg (by omega)]
  simp only [show ((12 : Int) != 0) = true from rfl, show ((32 : Int) != 0) = true from rfl, if_true,
    show ((0 : Int) != 0) = false from rfl, Bool.false_and, Bool.false_eq_true, if_false, Int.add_zero]
  rw [if_neg (by omega)]
  simp only [hd, h31]
  rw [if_neg (by omega)]
  have hin : TzStr.inRange (Cal.toOrdinal y 12 31 * 86400 + secs) = true := by
    unfold TzStr.inRange Cal.maxOrdinal at *
    simp only [decide_eq_true_eq]; omega
  rw [if_pos hin]
  simp only [TzStr.weekdayStep]
  unfold Posix.ruleOrdinal
  rw [hord]

/-! ## `_gen` twins: the same statements about the definitions RE-TRANSLATED from /repo on this run

`Gen.addDt / Gen.raddDt / Gen.rsubDt / Gen.neg` (Generated/RDOps.lean) are produced by harness/translate_rd.py from
the working tree's `__add__` (date/datetime branch), `__radd__`, `__rsub__`, `__neg__` on every run; the primitives
they call are the named CPython operations of Model/RDPy.lean.  `RDG.addDt_eq` proves the translation EQUAL to the
hand model, so every theorem above transfers; an edit of `__add__` that changes behaviour breaks `gen_addDt_eq_model`
(or the translation). -/

/-- **gen_addDt_eq_model.** The translated `__add__` (operand a date / datetime) is the model `applyTo`. -/
theorem gen_addDt_eq_model (d : RD) (x : Temporal) : Gen.addDt d x = applyTo d x := RDG.addDt_eq d x

/-- **applyTo_eq_spec_gen.** The translated `__add__` gives exactly the documented result. -/
theorem applyTo_eq_spec_gen (d : RD) (x : Temporal) (hd : InDomain d) (hx : x.Valid) :
    Gen.addDt d x = RDSpec.apply d x := by
  rw [RDG.addDt_eq]; exact RDP.applyTo_eq_spec d x hd hx

theorem month_shift_never_spills_gen (r : RD) (x : Temporal) (hr : MonthsOnly r) (hx : x.Valid)
    (hy : 1 ≤ (12 * x.t.y + (x.t.m - 1) + (12 * r.years + r.months)) / 12 ∧
          (12 * x.t.y + (x.t.m - 1) + (12 * r.years + r.months)) / 12 ≤ 9999) :
    Gen.addDt r x = .ok { kind := x.kind, t := shiftDT x.t (12 * r.years + r.months) } := by
  rw [RDG.addDt_eq]; exact applyTo_months_only r x hr hx hy

/-- **sub_eq_add_neg_gen.** The translated `__rsub__` is the translated `__add__` of the translated `__neg__`
    (read off the source, not assumed), and the translated `__neg__` negates exactly the relative fields. -/
theorem sub_eq_add_neg_gen (d : RD) (x : Temporal) (hd : Normalised d) :
    Gen.rsubDt d x = (Gen.neg d).bind (fun nd => Gen.addDt nd x) ∧
    Gen.neg d = .ok { d with years := -d.years, months := -d.months, days := -d.days, hours := -d.hours,
                             minutes := -d.minutes, seconds := -d.seconds, microseconds := -d.microseconds } := by
  constructor
  · rw [RDG.rsubDt_eq, RDG.neg_eq]
    show rsub d x = Gen.addDt (neg d) x
    rw [RDG.addDt_eq]; rfl
  · rw [RDG.neg_eq, neg_of_normalised d hd]

/-- **radd_eq_add_gen.** The translated `__radd__` is the translated `__add__`. -/
theorem radd_eq_add_gen (d : RD) (x : Temporal) : Gen.raddDt d x = Gen.addDt d x := by
  rw [RDG.raddDt_eq, RDG.addDt_eq]; rfl

theorem promotion_iff_hasTime_gen (d : RD) (x r : Temporal) (hd : Normalised d) (h : Gen.addDt d x = .ok r) :
    r.kind = (if x.kind = .date ∧ RDSpec.hasTimeInfo d = true then .naive else x.kind) := by
  rw [RDG.addDt_eq] at h
  exact (promotion_iff_hasTime d x r hd h).1

/-- **promotion_follows_flag.** For ANY record (normal form or not, e.g. after `d.hours = 5`): when `x + d` returns on a date
    operand, the result is a datetime exactly when the FLAG `_has_time` is set — the code never looks at the fields here.
    With `promotion_iff_hasTime` (flag = fields for every constructor-built delta) this is the property's promotion clause;
    for a record whose flag is stale it is the known finding D-C03-stale-has-time (`stale_has_time_witness`). -/
theorem promotion_follows_flag (d : RD) (x r : Temporal) (h : Gen.addDt d x = .ok r) (hx : x.kind = .date) :
    (r.kind = .naive ↔ d.hasTime ≠ 0) ∧ (r.kind = .date ↔ d.hasTime = 0) := by
  rw [RDG.addDt_eq] at h
  rw [applyTo_kind d x r h]
  unfold promote
  by_cases hf : d.hasTime = 0 <;> simp [hf, hx]

/-- the known finding D-C03-stale-has-time on the history model over the translated methods: `relativedelta(days=1)`, then
    `d.hours = 5`; the record now carries time information, its flag says 0, and `date(2000,1,1) + d` is the DATE 2000-01-02
    (a fresh `relativedelta(days=1, hours=5)` gives the datetime 2000-01-02 05:00) -/
theorem stale_has_time_witness :
    (RDH.run { days := 1 } [.set (.hours 5), .use (.addDt ⟨.date, { y := 2000, m := 1, d := 1 }⟩)]).2
      = [.temporal (.ok ⟨.date, { y := 2000, m := 1, d := 2 }⟩)] ∧
    RDSpec.hasTimeInfo (RDH.run { days := 1 } [.set (.hours 5)]).1 = true ∧
    (mk { days := 1, hours := 5 }).bind (fun d => Gen.addDt d ⟨.date, { y := 2000, m := 1, d := 1 }⟩)
      = .ok ⟨.naive, { y := 2000, m := 1, d := 2, hh := 5 }⟩ := by decide +kernel

theorem errors_only_out_of_range_gen (d : RD) (x : Temporal) (hd : InDomain d) (hx : x.Valid)
    (e : Py.PyErr) (h : Gen.addDt d x = .error e) : e = .ValueError ∨ e = .OverflowError := by
  rw [RDG.addDt_eq] at h
  rcases errors_only_out_of_range d x hd hx e h with h' | h'
  · exact Or.inl h'.1
  · exact Or.inr h'.1

/-- **gen_initKw_eq_mk.** The keyword constructor re-translated from `__init__` on this run (yearday / nlyearday
    scan, weekday coercion, `_fix`) IS the model `mk`, for every keyword set and every outcome (value, ValueError,
    IndexError). -/
theorem gen_initKw_eq_mk (kw : Kw) : Gen.initKw kw = mk kw := RDG.initKw_eq kw

/-- **yearday_spec_gen.** `yearday_spec` (full strength) about the translated constructor and the translated `__add__`. -/
theorem yearday_spec_gen (y : Int) (x : Temporal) (hx : x.Valid) (h1 : 1 ≤ y) (h2 : y ≤ Cal.daysInYear x.t.y) :
    ∃ d res, Gen.initKw { yearday := some y } = .ok d ∧ Gen.addDt d x = .ok res ∧
      res.kind = x.kind ∧ res.t.Valid ∧ res.t.y = x.t.y ∧
      res.t.ordinal = Cal.toOrdinal x.t.y 1 1 + (y - 1) ∧
      res.t.hh = x.t.hh ∧ res.t.mm = x.t.mm ∧ res.t.ss = x.t.ss ∧ res.t.us = x.t.us := by
  simpa only [RDG.initKw_eq, RDG.addDt_eq] using yearday_spec y x hx h1 h2

/-- `yearday366_nonleap_clips` over the translated constructor and the translated `__add__` -/
theorem yearday366_nonleap_clips_gen (x : Temporal) (hx : x.Valid) (hl : Cal.isLeap x.t.y = false) :
    ∃ d res, Gen.initKw { yearday := some 366 } = .ok d ∧ Gen.addDt d x = .ok res ∧
      res.kind = x.kind ∧ res.t.Valid ∧ res.t.y = x.t.y ∧ res.t.m = 12 ∧ res.t.d = 31 ∧
      res.t.hh = x.t.hh ∧ res.t.mm = x.t.mm ∧ res.t.ss = x.t.ss ∧ res.t.us = x.t.us := by
  simpa only [RDG.initKw_eq, RDG.addDt_eq] using yearday366_nonleap_clips x hx hl

/-- `nlyearday_spec` over the translated constructor and the translated `__add__` -/
theorem nlyearday_spec_gen (n : Int) (x : Temporal) (hx : x.Valid) (h1 : 1 ≤ n) (h2 : n ≤ 365) :
    ∃ d res m dd, Gen.initKw { nlyearday := some n } = .ok d ∧ Gen.addDt d x = .ok res ∧
      res.kind = x.kind ∧ res.t.Valid ∧
      Cal.dbmTable m + dd = n ∧ 1 ≤ m ∧ m ≤ 12 ∧ 1 ≤ dd ∧ dd ≤ nlDim m ∧
      res.t.y = x.t.y ∧ res.t.m = m ∧ res.t.d = dd ∧
      res.t.ordinal = Cal.toOrdinal x.t.y 1 1 + (n - 1) + (if n ≥ 60 ∧ Cal.isLeap x.t.y = true then 1 else 0) ∧
      res.t.hh = x.t.hh ∧ res.t.mm = x.t.mm ∧ res.t.ss = x.t.ss ∧ res.t.us = x.t.us := by
  simpa only [RDG.initKw_eq, RDG.addDt_eq] using nlyearday_spec n x hx h1 h2

-- non-vacuity / sanity
example : applyTo { months := 1 } ⟨.date, { y := 2000, m := 1, d := 31 }⟩
    = .ok ⟨.date, { y := 2000, m := 2, d := 29 }⟩ := by decide +kernel
example : applyTo { months := -11, years := -1, hasTime := 0 } ⟨.naive, { y := 2001, m := 1, d := 31, hh := 5 }⟩
    = .ok ⟨.naive, { y := 1999, m := 2, d := 28, hh := 5 }⟩ := by decide +kernel
example : RDSpec.apply { hours := 25, day := some 1, weekday := some (0, some 1), hasTime := 1 }
    ⟨.naive, { y := 2018, m := 4, d := 9, hh := 13, mm := 37 }⟩
    = .ok ⟨.naive, { y := 2018, m := 4, d := 2, hh := 14, mm := 37 }⟩ := by decide +kernel
example : (mk { yearday := some 60 }).bind (fun d => applyTo d ⟨.date, { y := 2001, m := 7, d := 4 }⟩)
    = .ok ⟨.date, { y := 2001, m := 3, d := 1 }⟩ := by decide +kernel
example : (mk { nlyearday := some 60 }).bind (fun d => applyTo d ⟨.naive, { y := 2000, m := 7, d := 4, hh := 9 }⟩)
    = .ok ⟨.naive, { y := 2000, m := 3, d := 1, hh := 9 }⟩ := by decide +kernel
example : TzStr.applyDelta 2024 { month := some 3, day := some 1, weekday := some (6, 2), seconds := 7200 }
    = (applyTo (rdOfDelta { month := some 3, day := some 1, weekday := some (6, 2), seconds := 7200 }) (jan1 2024)).map secondsOf :=
  C08bridge_applyDelta 2024 _ (by decide) (by intro v hv; simp only [Option.some.injEq] at hv; omega)
/-- yearday=366 in leap year 2000 is Dec 31 (Dec 30 if the leap-day correction applied to it), in 2001 it clips to Dec 31 -/
theorem yearday366_witness :
    (mk { yearday := some 366 }).bind (fun d => applyTo d ⟨.date, { y := 2000, m := 1, d := 1 }⟩)
      = .ok ⟨.date, { y := 2000, m := 12, d := 31 }⟩ ∧
    (mk { yearday := some 366 }).bind (fun d => applyTo d ⟨.naive, { y := 2001, m := 5, d := 9, hh := 7 }⟩)
      = .ok ⟨.naive, { y := 2001, m := 12, d := 31, hh := 7 }⟩ ∧
    (mk { yearday := some 365 }).bind (fun d => applyTo d ⟨.date, { y := 2000, m := 1, d := 1 }⟩)
      = .ok ⟨.date, { y := 2000, m := 12, d := 30 }⟩ := by decide +kernel
example : (1:Int) ≤ 366 ∧ (366:Int) ≤ Cal.daysInYear 2000 := by decide

end C03
