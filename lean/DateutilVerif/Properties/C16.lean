/-
  Properties/C16.lean — relativedelta is a well-behaved value: normalised, comparable, hashable.

  `Gen.fix` is the translation of /repo's `relativedelta._fix` made on this run; the normalisation
  theorems are about that translation, for ALL integer field values (any size, any sign).
  The operators (`RDM.add/sub/neg/abs/mulInt/addTimedelta/mk/eq/hashKey/bool/applyTo`) are the
  hand model of Model/RelativeDelta.lean; `gen_ops_eq_model` and the `_gen` theorems show the methods
  re-translated from the source equal to it.  Further sections: the history of one mutable object,
  exact scaling by dyadic factors and `normalized()`, the `weekday` objects of `_common.py`, `repr` and `weeks`.
  Not covered by any theorem (executable-only, harness oracle): float-valued fields, `*` `/` by a
  float that is not dyadic, `normalized()` of fractional fields, and the ValueError for non-integer
  years/months.
-/
import DateutilVerif.Proofs.RDAlgebra
import DateutilVerif.Proofs.RDGenEq
import DateutilVerif.Model.RDHistory
import DateutilVerif.Proofs.RDScale
import DateutilVerif.Generated.WdOps

namespace C16
open RDM RDP

/-- **fix_bounds.** After `_fix`, whatever the input: |µs| ≤ 999999, |s| ≤ 59, |min| ≤ 59, |h| ≤ 23,
    |months| ≤ 11 and `_has_time` says exactly whether a time field is set. -/
theorem fix_bounds (d : RD) : Normalised (Gen.fix d) := fix_normalised d

/-- **fix_preserves_total.** The carries preserve the duration in µs and the month count, and touch
    no other field. -/
theorem fix_preserves_total (d : RD) :
    usTotal (Gen.fix d) = usTotal d ∧ monthTotal (Gen.fix d) = monthTotal d ∧
    (Gen.fix d).leapdays = d.leapdays ∧ (Gen.fix d).year = d.year ∧ (Gen.fix d).month = d.month ∧
    (Gen.fix d).day = d.day ∧ (Gen.fix d).weekday = d.weekday ∧ (Gen.fix d).hour = d.hour ∧
    (Gen.fix d).minute = d.minute ∧ (Gen.fix d).second = d.second ∧
    (Gen.fix d).microsecond = d.microsecond :=
  ⟨fix_usTotal d, fix_monthTotal d, fix_leapdays d, fix_year d, fix_month d, fix_day d, fix_weekday d, fix_hour d,
   fix_minute d, fix_second d, fix_microsecond d⟩

/-- **fix_sign_preserving.** Carries never flip a sign: if every relative field is ≥ 0 (resp. ≤ 0) so is
    every field of the result; and the lowest field of each chain (µs, months) keeps its own sign
    whatever the others are. -/
theorem fix_sign_preserving (d : RD) :
    ((0 ≤ d.microseconds ∧ 0 ≤ d.seconds ∧ 0 ≤ d.minutes ∧ 0 ≤ d.hours ∧ 0 ≤ d.days) →
       0 ≤ (Gen.fix d).microseconds ∧ 0 ≤ (Gen.fix d).seconds ∧ 0 ≤ (Gen.fix d).minutes ∧
       0 ≤ (Gen.fix d).hours ∧ 0 ≤ (Gen.fix d).days) ∧
    ((d.microseconds ≤ 0 ∧ d.seconds ≤ 0 ∧ d.minutes ≤ 0 ∧ d.hours ≤ 0 ∧ d.days ≤ 0) →
       (Gen.fix d).microseconds ≤ 0 ∧ (Gen.fix d).seconds ≤ 0 ∧ (Gen.fix d).minutes ≤ 0 ∧
       (Gen.fix d).hours ≤ 0 ∧ (Gen.fix d).days ≤ 0) ∧
    (0 ≤ d.microseconds → 0 ≤ (Gen.fix d).microseconds) ∧
    (d.microseconds ≤ 0 → (Gen.fix d).microseconds ≤ 0) ∧
    (0 ≤ d.months → 0 ≤ (Gen.fix d).months ∧ d.years ≤ (Gen.fix d).years) ∧
    (d.months ≤ 0 → (Gen.fix d).months ≤ 0 ∧ (Gen.fix d).years ≤ d.years) := by
  rw [fix_us, fix_s, fix_m, fix_h, fix_d, fix_mo, fix_y]
  have f1 := carry_facts d.microseconds 999999 1000000 (by simp) (by decide)
  have f2 := carry_facts (d.seconds + (cU d).2) 59 60 (by simp) (by decide)
  have f3 := carry_facts (d.minutes + (cS d).2) 59 60 (by simp) (by decide)
  have f4 := carry_facts (d.hours + (cM d).2) 23 24 (by simp) (by decide)
  have f5 := carry_facts d.months 11 12 (by simp) (by decide)
  refine ⟨?_, ?_, ?_, ?_, ?_, ?_⟩
  · rintro ⟨h1, h2, h3, h4, h5⟩
    have g1 := f1.2.2.1 h1
    have g2 := f2.2.2.1 (by unfold cU; omega)
    have g3 := f3.2.2.1 (by unfold cS; omega)
    have g4 := f4.2.2.1 (by unfold cM; omega)
    unfold cH cM cS cU at *
    omega
  · rintro ⟨h1, h2, h3, h4, h5⟩
    have g1 := f1.2.2.2 h1
    have g2 := f2.2.2.2 (by unfold cU; omega)
    have g3 := f3.2.2.2 (by unfold cS; omega)
    have g4 := f4.2.2.2 (by unfold cM; omega)
    unfold cH cM cS cU at *
    omega
  · intro h; exact (f1.2.2.1 h).1
  · intro h; exact (f1.2.2.2 h).1
  · intro h; have := f5.2.2.1 h; unfold cMo; omega
  · intro h; have := f5.2.2.2 h; unfold cMo; omega

/-- a normalised value is a fixed point of `_fix` … -/
theorem fix_of_normalised (d : RD) (h : Normalised d) : Gen.fix d = d := RDP.fix_of_normalised d h

/-- **fix_idempotent.** … hence `_fix` is idempotent. -/
theorem fix_idempotent (d : RD) : Gen.fix (Gen.fix d) = Gen.fix d :=
  RDP.fix_of_normalised _ (fix_bounds d)

/-- **every_op_normalised.** Every constructor and operator ends in `_fix`, so every value is normalised. -/
theorem every_op_normalised (a b : RD) (k : Int) (kw : Kw) (td1 td2 td3 : Int) :
    Normalised (add a b) ∧ Normalised (sub a b) ∧ Normalised (neg a) ∧ Normalised (RDM.abs a) ∧
    Normalised (mulInt a k) ∧ Normalised (addTimedelta a td1 td2 td3) ∧
    (∀ r, mk kw = .ok r → Normalised r) := by
  refine ⟨fix_bounds _, fix_bounds _, fix_bounds _, fix_bounds _, fix_bounds _, fix_bounds _, ?_⟩
  intro r h
  unfold mk at h
  simp only [bind, Except.bind, pure, Except.pure] at h
  repeat' split at h
  all_goals first | contradiction | (injection h with h; rw [← h]; exact fix_bounds _)

/-- **mk_fields_id.** Constructing a relativedelta from a value's own fields reproduces it. -/
theorem mk_fields_id (d : RD) (h : Normalised d) : mk (fieldsOf d) = .ok d := by
  have e : Gen.fix { d with days := d.days + 0 * 7, hasTime := 0 } = d := by
    rw [fix_of_bounded]
    · apply rd_ext <;> try rfl
      · show d.days + 0 * 7 = d.days
        omega
      · show hasTimeOf _ = d.hasTime
        rw [h.2.2.2.2.2]; rfl
    · have hb : Bounded d := bounded_of_normalised h
      exact hb
  unfold mk fieldsOf
  cases hw : d.weekday <;>
  · simp only [hw, Option.map, weekdayOfArg, Except.map, bind, Except.bind, pure, Except.pure, orInt,
      ne_eq, not_true_eq_false, ↓reduceIte, false_and, and_false]
    rw [← hw]
    exact congrArg Except.ok e

/-- `==` is an equivalence (`eq_refl`, `eq_symm`, `eq_trans`; together over the translation: `eq_equivalence_gen`). -/
theorem eq_refl (a : RD) : RDM.eq a a = true := by
  unfold RDM.eq wdEq
  cases a.weekday with
  | none => simp
  | some w => obtain ⟨w, n⟩ := w; simp

theorem wdEq_symm (a b : Option (Int × Option Int)) (h : wdEq a b = true) : wdEq b a = true := by
  unfold wdEq at *
  cases a with
  | none => cases b <;> simp_all
  | some x =>
    cases b with
    | none => simp_all
    | some y =>
      obtain ⟨w1, n1⟩ := x; obtain ⟨w2, n2⟩ := y
      simp only [ne_eq, ite_not, Bool.if_false_right, Bool.and_true, Bool.if_true_left] at *
      grind

theorem eq_symm (a b : RD) (h : RDM.eq a b = true) : RDM.eq b a = true := by
  unfold RDM.eq at *
  simp only [Bool.and_eq_true, beq_iff_eq] at *
  obtain ⟨hw, h1, h2⟩ := h
  refine ⟨wdEq_symm _ _ hw, ?_⟩
  grind

theorem wdEq_trans (a b c : Option (Int × Option Int)) (h1 : wdEq a b = true) (h2 : wdEq b c = true) :
    wdEq a c = true := by
  unfold wdEq at *
  cases a with
  | none => cases b <;> cases c <;> simp_all
  | some x =>
    cases b with
    | none => simp_all
    | some y =>
      cases c with
      | none => simp_all
      | some z =>
        obtain ⟨w1, n1⟩ := x; obtain ⟨w2, n2⟩ := y; obtain ⟨w3, n3⟩ := z
        simp only [ne_eq, ite_not, Bool.if_false_right, Bool.and_true, Bool.if_true_left] at *
        grind

theorem eq_trans (a b c : RD) (h1 : RDM.eq a b = true) (h2 : RDM.eq b c = true) : RDM.eq a c = true := by
  unfold RDM.eq at *
  simp only [Bool.and_eq_true, beq_iff_eq] at *
  refine ⟨wdEq_trans _ _ _ h1.1 h2.1, ?_⟩
  grind

/-- **eq_hash.** Equal values hash the same tuple (weekday `n` absent, 0 and 1 are identified
    by `==` and by the hashed tuple alike). -/
theorem eq_hash (a b : RD) (h : RDM.eq a b = true) : hashKey a = hashKey b := by
  unfold RDM.eq at h
  simp only [Bool.and_eq_true, beq_iff_eq] at h
  obtain ⟨hw, h⟩ := h
  unfold hashKey
  have e : a.weekday.map (fun w => (w.1, orInt w.2 1)) = b.weekday.map (fun w => (w.1, orInt w.2 1)) := by
    unfold wdEq at hw
    cases ha : a.weekday with
    | none => cases hb : b.weekday <;> simp_all
    | some x =>
      cases hb : b.weekday with
      | none => simp_all
      | some y =>
        obtain ⟨w1, n1⟩ := x; obtain ⟨w2, n2⟩ := y
        rw [ha, hb] at hw
        simp only [Option.map]
        by_cases hww : w1 = w2
        · subst hww
          by_cases hn : n1 = n2
          · subst hn; rfl
          · simp only [ne_eq, not_true_eq_false, ↓reduceIte, hn, not_false_eq_true, true_and,
              Bool.and_eq_true, ite_not] at hw
            split at hw
            · rename_i ht
              rw [nTrivial_orInt n1 ht.1, nTrivial_orInt n2 ht.2]
            · contradiction
        · simp [hww] at hw
  rw [e]
  grind

/-- **neg_neg.** `-(-d)` is `d` itself (not merely `==`) for every normalised value. -/
theorem neg_neg (d : RD) (h : Normalised d) : neg (neg d) = d := by
  have h' : Normalised (neg d) := fix_bounds _
  rw [neg_of_normalised (neg d) h', neg_of_normalised d h]
  apply rd_ext <;> first | rfl | exact Int.neg_neg _

/-- **add_neg_no_relative.** `d + (-d)` has no relative part (years … microseconds all 0). -/
theorem add_neg_no_relative (d : RD) (h : Normalised d) :
    (add d (neg d)).years = 0 ∧ (add d (neg d)).months = 0 ∧ (add d (neg d)).days = 0 ∧
    (add d (neg d)).hours = 0 ∧ (add d (neg d)).minutes = 0 ∧ (add d (neg d)).seconds = 0 ∧
    (add d (neg d)).microseconds = 0 := by
  rw [neg_of_normalised d h]
  unfold add
  rw [fix_of_bounded]
  · simp only []
    omega
  · unfold Bounded; simp only []; omega

/-- **bool_iff_no_field.** `bool(d)` is False exactly when no field is set. -/
theorem bool_iff_no_field (d : RD) :
    RDM.bool d = false ↔
      (d.years = 0 ∧ d.months = 0 ∧ d.days = 0 ∧ d.hours = 0 ∧ d.minutes = 0 ∧ d.seconds = 0 ∧
       d.microseconds = 0 ∧ d.leapdays = 0 ∧ d.year = none ∧ d.month = none ∧ d.day = none ∧
       d.weekday = none ∧ d.hour = none ∧ d.minute = none ∧ d.second = none ∧ d.microsecond = none) := by
  unfold RDM.bool
  simp only [Bool.not_eq_false', Bool.and_eq_true, beq_iff_eq, Option.isNone_iff_eq_none]
  constructor
  · intro h; simp only [and_assoc] at h; exact h
  · intro h; simp only [and_assoc]; exact h

theorem applyWeekday_of_wdEq (a b : Option (Int × Option Int)) (h : wdEq a b = true) (ret : DT) :
    applyWeekday a ret = applyWeekday b ret := by
  unfold wdEq at h
  cases a with
  | none => cases b <;> simp_all
  | some x =>
    cases b with
    | none => simp_all
    | some y =>
      obtain ⟨w1, n1⟩ := x; obtain ⟨w2, n2⟩ := y
      by_cases hww : w1 = w2
      · subst hww
        by_cases hn : n1 = n2
        · subst hn; rfl
        · simp only [ne_eq, not_true_eq_false, ↓reduceIte, hn, not_false_eq_true, true_and,
            Bool.and_eq_true, ite_not] at h
          split at h
          · rename_i ht
            unfold applyWeekday jumpDays
            simp only [nTrivial_orInt n1 ht.1, nTrivial_orInt n2 ht.2]
          · contradiction
      · simp [hww] at h

/-- **eq_applyTo.** Two equal (`==`) normalised deltas added to any date / datetime give the same result
    (same value or same exception). -/
theorem eq_applyTo (a b : RD) (ha : Normalised a) (hb : Normalised b) (h : RDM.eq a b = true)
    (x : Temporal) : applyTo a x = applyTo b x := by
  unfold RDM.eq at h
  simp only [Bool.and_eq_true, beq_iff_eq, and_assoc] at h
  obtain ⟨hw, h1, h2, h3, h4, h5, h6, h7, h8, h9, h10, h11, h12, h13, h14, h15⟩ := h
  have ht : a.hasTime = b.hasTime := by
    rw [ha.2.2.2.2.2, hb.2.2.2.2.2]; unfold hasTimeOf; rw [h4, h5, h6, h7, h12, h13, h14, h15]
  have e : b = { a with weekday := b.weekday } :=
    rd_ext _ _ h1.symm h2.symm h3.symm h8.symm h4.symm h5.symm h6.symm h7.symm h9.symm h10.symm h11.symm rfl
      h12.symm h13.symm h14.symm h15.symm ht.symm
  rw [e]
  have hw' : ∀ ret, applyWeekday a.weekday ret = applyWeekday b.weekday ret :=
    applyWeekday_of_wdEq _ _ hw
  unfold applyTo applyTail
  simp only [hw']
  rfl

/-- **mulInt_total.** Multiplying by an integer multiplies the duration and the month count
    (the implementation's `int(field * float(k))` is this exact product while |field·k| < 2^53;
    beyond that, and for non-integer scalars, only the harness oracle applies;
    dyadic factors: `mulDyadic_spec`). -/
theorem mulInt_total (d : RD) (k : Int) :
    usTotal (mulInt d k) = usTotal d * k ∧ monthTotal (mulInt d k) = monthTotal d * k := by
  unfold mulInt
  obtain ⟨h1, h2, _⟩ := fix_preserves_total
    { d with years := d.years * k, months := d.months * k, days := d.days * k, hours := d.hours * k,
             minutes := d.minutes * k, seconds := d.seconds * k,
             microseconds := d.microseconds * k, hasTime := 0 }
  rw [h1, h2]
  unfold usTotal monthTotal
  simp only []
  constructor <;> grind

/-! ## `_gen` twins: the operators RE-TRANSLATED from /repo on this run (Generated/RDOps.lean)

`Gen.neg / abs / addRd / subRd / addTd / mulInt / bool / eq / hashKey` are translated from `__neg__`, `__abs__`,
`__add__` (relativedelta and timedelta operands), `__sub__`, `__mul__` (integer scalar), `__bool__`, `__eq__`,
`__hash__`; each calls the translated keyword constructor `Gen.initKw`, which ends in the translated `_fix`. -/

/-- **gen_ops_eq_model.** Every translated operator equals the hand model (and never raises). -/
theorem gen_ops_eq_model (a b : RD) (k d s u : Int) :
    Gen.neg a = .ok (neg a) ∧ Gen.abs a = .ok (RDM.abs a) ∧ Gen.addRd a b = .ok (add a b) ∧
    Gen.subRd a b = .ok (sub a b) ∧ Gen.addTd a d s u = .ok (addTimedelta a d s u) ∧
    Gen.mulInt a k = .ok (mulInt a k) ∧ Gen.bool a = .ok (RDM.bool a) ∧ Gen.eq a b = .ok (RDM.eq a b) ∧
    Gen.hashKey a = .ok (hashList a) :=
  ⟨RDG.neg_eq a, RDG.abs_eq a, RDG.addRd_eq a b, RDG.subRd_eq a b, RDG.addTd_rd_eq a d s u, RDG.mulInt_eq a k,
   RDG.bool_eq a, RDG.eq_eq a b, RDG.hashKey_eq a⟩

/-- whatever a translated operator returns is in normal form -/
theorem every_op_normalised_gen (a b r : RD) (k d s u : Int)
    (h : Gen.neg a = .ok r ∨ Gen.abs a = .ok r ∨ Gen.addRd a b = .ok r ∨ Gen.subRd a b = .ok r ∨
         Gen.addTd a d s u = .ok r ∨ Gen.mulInt a k = .ok r) : Normalised r := by
  rw [RDG.neg_eq, RDG.abs_eq, RDG.addRd_eq, RDG.subRd_eq, RDG.addTd_rd_eq, RDG.mulInt_eq] at h
  rcases h with h | h | h | h | h | h <;> (injection h with h; rw [← h]; exact fix_bounds _)

/-- **eq_equivalence_gen / eq_hash_gen.** The translated `__eq__` is an equivalence and implies equality of the
    translated `__hash__` tuples. -/
theorem eq_equivalence_gen (a b c : RD) :
    Gen.eq a a = .ok true ∧ (Gen.eq a b = .ok true → Gen.eq b a = .ok true) ∧
    (Gen.eq a b = .ok true → Gen.eq b c = .ok true → Gen.eq a c = .ok true) := by
  simp only [RDG.eq_eq, Except.ok.injEq]
  exact ⟨eq_refl a, eq_symm a b, eq_trans a b c⟩

/-- the translated `__hash__` tuple is compared ELEMENT BY ELEMENT in source order (`hashList`) -/
theorem eq_hash_gen (a b : RD) (h : Gen.eq a b = .ok true) : Gen.hashKey a = Gen.hashKey b := by
  rw [RDG.eq_eq] at h; injection h with h
  rw [RDG.hashKey_eq, RDG.hashKey_eq, (RDG.hashList_eq_iff a b).2 (eq_hash a b h)]

theorem neg_neg_gen (d : RD) (h : Normalised d) : (Gen.neg d).bind Gen.neg = .ok d := by
  rw [RDG.neg_eq]
  show Gen.neg (neg d) = .ok d
  rw [RDG.neg_eq, neg_neg d h]

theorem bool_iff_no_field_gen (d : RD) :
    Gen.bool d = .ok false ↔
      (d.years = 0 ∧ d.months = 0 ∧ d.days = 0 ∧ d.hours = 0 ∧ d.minutes = 0 ∧ d.seconds = 0 ∧
       d.microseconds = 0 ∧ d.leapdays = 0 ∧ d.year = none ∧ d.month = none ∧ d.day = none ∧
       d.weekday = none ∧ d.hour = none ∧ d.minute = none ∧ d.second = none ∧ d.microsecond = none) := by
  rw [RDG.bool_eq, Except.ok.injEq]; exact bool_iff_no_field d

theorem eq_applyTo_gen (a b : RD) (ha : Normalised a) (hb : Normalised b) (h : Gen.eq a b = .ok true)
    (x : Temporal) : Gen.addDt a x = Gen.addDt b x := by
  rw [RDG.eq_eq] at h; injection h with h
  rw [RDG.addDt_eq, RDG.addDt_eq]; exact eq_applyTo a b ha hb h x

theorem mulInt_total_gen (d r : RD) (k : Int) (h : Gen.mulInt d k = .ok r) :
    usTotal r = usTotal d * k ∧ monthTotal r = monthTotal d * k := by
  rw [RDG.mulInt_eq] at h; injection h with h; rw [← h]; exact mulInt_total d k

/-- **constructor_gen.** The translated keyword constructor is `mk` (C03.gen_initKw_eq_mk); hence whatever it
    returns is normalised, and constructing from a value's own fields reproduces the value. -/
theorem constructor_gen (kw : Kw) (d : RD) :
    Gen.initKw kw = mk kw ∧ (∀ r, Gen.initKw kw = .ok r → Normalised r) ∧
    (Normalised d → Gen.initKw (fieldsOf d) = .ok d) := by
  refine ⟨RDG.initKw_eq kw, ?_, ?_⟩
  · intro r h; rw [RDG.initKw_eq] at h
    exact (every_op_normalised d d 0 kw 0 0 0).2.2.2.2.2.2 r h
  · intro h; rw [RDG.initKw_eq]; exact mk_fields_id d h

/-! ## the history of ONE object (a relativedelta is mutable: `weeks` setter, attribute assignment)

The property quantifies over values "however constructed or combined".  An object that was used (added to a date, hashed,
compared …), then mutated, then used again must answer like the value its CURRENT fields denote: nothing that a use
computed may survive into the next use.  `RDH.run` (Model/RDHistory.lean) is the life of one object over the methods
re-translated from /repo on this run; that a use leaves the record alone is read off the source on every run (AST audit
`rdlib.write_audit`: no method writes an attribute outside `__init__` / `_fix` / `_set_months` / the `weeks` setter). -/

open RDH in
/-- the record after a history is the record after its mutations alone: uses leave no trace in the state -/
theorem history_state (d : RD) (h : List Step) : (run d h).1 = stateAfter d (muts h) := by
  induction h generalizing d with
  | nil => rfl
  | cons s rest ih =>
    cases s with
    | use u => simp only [run, step, muts]; exact ih d
    | set m => simp only [run, step, muts, stateAfter, List.foldl]; exact ih (applyMut d m)

open RDH in
theorem history_append (d : RD) (h1 h2 : List Step) :
    run d (h1 ++ h2) = ((run (run d h1).1 h2).1, (run d h1).2 ++ (run (run d h1).1 h2).2) := by
  induction h1 generalizing d with
  | nil => simp [run]
  | cons s rest ih =>
    simp only [List.cons_append, run]
    rw [ih]
    simp only [List.append_assoc]

open RDH in
/-- **use_after_set_eq_fresh.** After ANY history `h` (uses and mutations in any order, any length) from any record, the
    next use of the object returns exactly what the same use returns on a fresh record holding the current field
    values (`stateAfter d0 (muts h)`: the start record with the history's mutations applied, and nothing else) — the
    earlier uses, their arguments and their results have no influence; the record itself is unchanged by the use. -/
theorem use_after_set_eq_fresh (d0 : RD) (h : List Step) (u : Use) :
    (run d0 (h ++ [.use u])).2 = (run d0 h).2 ++ [observe (stateAfter d0 (muts h)) u] ∧
    (run d0 (h ++ [.use u])).1 = stateAfter d0 (muts h) := by
  rw [history_append]
  simp only [run, step, List.append_nil]
  rw [history_state]
  exact ⟨rfl, rfl⟩

open RDH in
/-- **same_mutations_same_answer.** Two lives of an object that differ only in HOW it was used in between (which uses,
    how many, on what arguments) give the same answer to the next use. -/
theorem same_mutations_same_answer (d0 : RD) (h1 h2 : List Step) (u : Use) (hm : muts h1 = muts h2) :
    (run d0 (h1 ++ [.use u])).2.getLast? = (run d0 (h2 ++ [.use u])).2.getLast? ∧
    (run d0 (h1 ++ [.use u])).1 = (run d0 (h2 ++ [.use u])).1 := by
  rw [(use_after_set_eq_fresh d0 h1 u).1, (use_after_set_eq_fresh d0 h2 u).1,
      (use_after_set_eq_fresh d0 h1 u).2, (use_after_set_eq_fresh d0 h2 u).2, hm]
  simp

open RDH in
/-- every observation through the translated methods is the hand model's function of the record -/
theorem observe_eq_model (d : RD) (u : Use) :
    observe d u = (match u with
      | .addDt x => .temporal (applyTo d x)
      | .raddDt x => .temporal (radd d x)
      | .rsubDt x => .temporal (rsub d x)
      | .hash => .hash (.ok (hashList d))
      | .bool => .bool (.ok (RDM.bool d))
      | .eq o => .bool (.ok (RDM.eq d o))
      | .eqRev o => .bool (.ok (RDM.eq o d))
      | .neg => .rd (.ok (neg d))
      | .abs => .rd (.ok (RDM.abs d))
      | .addRd o => .rd (.ok (add d o))
      | .raddRd o => .rd (.ok (add o d))
      | .subRd o => .rd (.ok (sub d o))
      | .mulInt k => .rd (.ok (mulInt d k))
      | .addTd dd s us => .rd (.ok (addTimedelta d dd s us))
      | .weeks => .int (weeksOf d)
      | .normalized => .rd (.ok (normalizedInt d))
      | .mulDy f => .rd (.ok (mulDyadic d f.m f.k))
      | .divPow2 p => .rd (.ok (divPow2 d p.neg p.k))) := by
  cases u <;> simp only [observe, RDG.addDt_eq, RDG.raddDt_eq, RDG.rsubDt_eq, RDG.hashKey_eq, RDG.bool_eq, RDG.eq_eq,
    RDG.neg_eq, RDG.abs_eq, RDG.addRd_eq, RDG.subRd_eq, RDG.mulInt_eq, RDG.addTd_rd_eq, RDG.normalized_eq, RDG.mulDy_eq,
    RDG.divPow2_eq]

open RDH in
/-- **reachable_state_is_constructed.** When the current record is in normal form (what the constructor and the operators
    return, `every_op_normalised`), the fresh record of `use_after_set_eq_fresh` IS the object the translated
    constructor builds from the current field values: `relativedelta(**fields)`. -/
theorem reachable_state_is_constructed (d0 : RD) (h : List Step) (hn : Normalised (stateAfter d0 (muts h))) :
    Gen.initKw (fieldsOf (stateAfter d0 (muts h))) = .ok (run d0 h).1 := by
  rw [history_state]; exact (constructor_gen {} _).2.2 hn

open RDH in
/-- **setWeeks_normalised.** The public `weeks` setter keeps a value a value: only `days` (unbounded in the normal form,
    not a source of `_has_time`) changes, by a multiple of 7 plus the old remainder. -/
theorem setWeeks_normalised (d : RD) (v : Int) (h : Normalised d) :
    Normalised (setWeeks d v) ∧ (setWeeks d v).days = d.days - weeksOf d * 7 + v * 7 ∧
    { setWeeks d v with days := d.days } = d := by
  refine ⟨?_, rfl, rfl⟩
  unfold Normalised setWeeks hasTimeOf at *
  exact h

open RDH in
/-- **weeks_setWeeks.** Reading `weeks` back after setting it returns the value set whenever the remainder of the old
    days and the new weeks do not pull in opposite directions (e.g. `days=-3; weeks=2` gives days = 11, weeks = 1:
    the code as it is; outside this hypothesis the getter is still `tdiv days 7` of the new days). -/
theorem weeks_setWeeks (d : RD) (v : Int)
    (h : (0 ≤ d.days ∧ 0 ≤ v) ∨ (d.days ≤ 0 ∧ v ≤ 0) ∨ d.days % 7 = 0) : weeksOf (setWeeks d v) = v := by
  unfold setWeeks weeksOf
  simp only []
  split <;> split <;> omega

/-! ## exact scaling (`*` / `/` by dyadic factors) and `normalized()` on integer-valued fields

`Gen.mulDy / divPow2 / normalized` are translated from `__mul__` (the float factor `m / 2^k`: `int(field * f)` is the
quotient `field·m / 2^k` truncated toward zero — exact float arithmetic while |field·m| < 2^53), `__div__` (`1 / float(other)`
is exact for a power of two) and `normalized()` (on integers `round` / `int` are the identity and every remainder is 0).
Fractional FIELDS, other float factors (`/ 3`, `* 0.1`) and `normalized()` of fractional fields are NOT covered here: they
stay with the executable oracle. -/

/-- **gen_scale_eq_model.** The translated `__mul__` (dyadic factor), `__div__` (power of two) and `normalized()` equal the
    hand model and never raise. -/
theorem gen_scale_eq_model (d : RD) (f : RDPy.Dy) (p : RDPy.Pow2) :
    Gen.mulDy d f = .ok (mulDyadic d f.m f.k) ∧ Gen.divPow2 d p = .ok (divPow2 d p.neg p.k) ∧
    Gen.normalized d = .ok (normalizedInt d) :=
  ⟨RDG.mulDy_eq d f, RDG.divPow2_eq d p, RDG.normalized_eq d⟩

/-- **normalized_spec.** `normalized()` of ANY integer-valued record (normal form or not, e.g. after `d.hours = 100`): the
    result is in normal form with integer fields, keeps the duration in µs and the month count, touches no absolute field /
    weekday / leapdays — and is the identity on values (records in normal form). -/
theorem normalized_spec (d : RD) :
    Normalised (normalizedInt d) ∧ usTotal (normalizedInt d) = usTotal d ∧ monthTotal (normalizedInt d) = monthTotal d ∧
    (normalizedInt d).leapdays = d.leapdays ∧ (normalizedInt d).year = d.year ∧ (normalizedInt d).month = d.month ∧
    (normalizedInt d).day = d.day ∧ (normalizedInt d).weekday = d.weekday ∧ (normalizedInt d).hour = d.hour ∧
    (normalizedInt d).minute = d.minute ∧ (normalizedInt d).second = d.second ∧
    (normalizedInt d).microsecond = d.microsecond ∧ (Normalised d → normalizedInt d = d) := by
  obtain ⟨t1, t2, t3⟩ := fix_preserves_total { d with hasTime := 0 }
  refine ⟨fix_bounds _, t1, t2, t3.1, t3.2.1, t3.2.2.1, t3.2.2.2.1, t3.2.2.2.2.1, t3.2.2.2.2.2.1, t3.2.2.2.2.2.2.1,
    t3.2.2.2.2.2.2.2.1, t3.2.2.2.2.2.2.2.2, ?_⟩
  intro h
  unfold normalizedInt
  have hb : Bounded { d with hasTime := 0 } := (bounded_of_normalised h : Bounded d)
  rw [fix_of_bounded _ hb]
  apply rd_ext <;> try rfl
  show hasTimeOf _ = d.hasTime
  rw [h.2.2.2.2.2]; rfl

theorem normalized_spec_gen (d r : RD) (h : Gen.normalized d = .ok r) :
    Normalised r ∧ usTotal r = usTotal d ∧ monthTotal r = monthTotal d ∧ (Normalised d → r = d) := by
  rw [RDG.normalized_eq] at h; injection h with h; rw [← h]
  have := normalized_spec d
  exact ⟨this.1, this.2.1, this.2.2.1, this.2.2.2.2.2.2.2.2.2.2.2.2⟩

/-- **mulDyadic_int.** For an integer factor (`k = 0`) the dyadic model is `mulInt`: `d * 3`, `d * 3.0`. -/
theorem mulDyadic_int (d : RD) (m : Int) : mulDyadic d m 0 = mulInt d m := by
  unfold mulDyadic mulInt scaleField
  simp only [Int.pow_zero, RDG.tquot_one]

/-- **mulDyadic_spec.** `d * (m / 2^k)` for every integer record, every `m`, every `k`: the result is in normal form
    (integer fields); absolute fields, weekday and leapdays are untouched; and the totals are within ONE unit per field of the
    exact rational product (each field loses less than one of its own units to the truncation toward zero):
    |µs-total · 2^k − µs-total(d) · m| < 2^k · (1 day + 1 h + 1 min + 1 s + 1 µs),  |months · 2^k − months(d) · m| < 2^k · 13. -/
theorem mulDyadic_spec (d : RD) (m : Int) (k : Nat) :
    Normalised (mulDyadic d m k) ∧
    (mulDyadic d m k).leapdays = d.leapdays ∧ (mulDyadic d m k).year = d.year ∧ (mulDyadic d m k).month = d.month ∧
    (mulDyadic d m k).day = d.day ∧ (mulDyadic d m k).weekday = d.weekday ∧ (mulDyadic d m k).hour = d.hour ∧
    (mulDyadic d m k).minute = d.minute ∧ (mulDyadic d m k).second = d.second ∧
    (mulDyadic d m k).microsecond = d.microsecond ∧
    (usTotal (mulDyadic d m k) * 2 ^ k - usTotal d * m < 2 ^ k * 90061000001 ∧
     usTotal d * m - usTotal (mulDyadic d m k) * 2 ^ k < 2 ^ k * 90061000001) ∧
    (monthTotal (mulDyadic d m k) * 2 ^ k - monthTotal d * m < 2 ^ k * 13 ∧
     monthTotal d * m - monthTotal (mulDyadic d m k) * 2 ^ k < 2 ^ k * 13) := by
  have hP : (0 : Int) < 2 ^ k := Int.pow_pos (by decide)
  unfold mulDyadic
  obtain ⟨t1, t2, t3⟩ := fix_preserves_total
    { d with years := scaleField d.years m k, months := scaleField d.months m k, days := scaleField d.days m k,
             hours := scaleField d.hours m k, minutes := scaleField d.minutes m k,
             seconds := scaleField d.seconds m k, microseconds := scaleField d.microseconds m k, hasTime := 0 }
  refine ⟨fix_bounds _, t3.1, t3.2.1, t3.2.2.1, t3.2.2.2.1, t3.2.2.2.2.1, t3.2.2.2.2.2.1, t3.2.2.2.2.2.2.1,
    t3.2.2.2.2.2.2.2.1, t3.2.2.2.2.2.2.2.2, ?_, ?_⟩
  · rw [t1]
    unfold usTotal scaleField
    simp only []
    have a1 := RDG.tquot_near (d.days * m) (2 ^ k) hP
    have a2 := RDG.tquot_near (d.hours * m) (2 ^ k) hP
    have a3 := RDG.tquot_near (d.minutes * m) (2 ^ k) hP
    have a4 := RDG.tquot_near (d.seconds * m) (2 ^ k) hP
    have a5 := RDG.tquot_near (d.microseconds * m) (2 ^ k) hP
    generalize RDPy.tquot (d.days * m) (2 ^ k) = q1 at *
    generalize RDPy.tquot (d.hours * m) (2 ^ k) = q2 at *
    generalize RDPy.tquot (d.minutes * m) (2 ^ k) = q3 at *
    generalize RDPy.tquot (d.seconds * m) (2 ^ k) = q4 at *
    generalize RDPy.tquot (d.microseconds * m) (2 ^ k) = q5 at *
    have e : ((((q1 * 24 + q2) * 60 + q3) * 60 + q4) * 1000000 + q5) * 2 ^ k =
        (((q1 * 2 ^ k * 24 + q2 * 2 ^ k) * 60 + q3 * 2 ^ k) * 60 + q4 * 2 ^ k) * 1000000 + q5 * 2 ^ k := by grind
    have e' : ((((d.days * 24 + d.hours) * 60 + d.minutes) * 60 + d.seconds) * 1000000 + d.microseconds) * m =
        (((d.days * m * 24 + d.hours * m) * 60 + d.minutes * m) * 60 + d.seconds * m) * 1000000 + d.microseconds * m := by
      grind
    rw [e, e']
    generalize q1 * 2 ^ k = p1 at *
    generalize q2 * 2 ^ k = p2 at *
    generalize q3 * 2 ^ k = p3 at *
    generalize q4 * 2 ^ k = p4 at *
    generalize q5 * 2 ^ k = p5 at *
    generalize d.days * m = x1 at *
    generalize d.hours * m = x2 at *
    generalize d.minutes * m = x3 at *
    generalize d.seconds * m = x4 at *
    generalize d.microseconds * m = x5 at *
    generalize (2 : Int) ^ k = P at *
    omega
  · rw [t2]
    unfold monthTotal scaleField
    simp only []
    have a1 := RDG.tquot_near (d.years * m) (2 ^ k) hP
    have a2 := RDG.tquot_near (d.months * m) (2 ^ k) hP
    generalize RDPy.tquot (d.years * m) (2 ^ k) = q1 at *
    generalize RDPy.tquot (d.months * m) (2 ^ k) = q2 at *
    have e : (q1 * 12 + q2) * 2 ^ k = q1 * 2 ^ k * 12 + q2 * 2 ^ k := by grind
    have e' : (d.years * 12 + d.months) * m = d.years * m * 12 + d.months * m := by grind
    rw [e, e']
    generalize q1 * 2 ^ k = p1 at *
    generalize q2 * 2 ^ k = p2 at *
    generalize d.years * m = x1 at *
    generalize d.months * m = x2 at *
    generalize (2 : Int) ^ k = P at *
    omega

/-- **mulDyadic_exact.** When every scaled field is an integer (`2^k ∣ field·m`: e.g. halving even fields, `* 1.5` of
    even fields, `/ 4` of multiples of 4) nothing is lost: the totals are exactly `m / 2^k` times the old ones. -/
theorem mulDyadic_exact (d : RD) (m : Int) (k : Nat)
    (h : d.years * m % 2 ^ k = 0 ∧ d.months * m % 2 ^ k = 0 ∧ d.days * m % 2 ^ k = 0 ∧ d.hours * m % 2 ^ k = 0 ∧
         d.minutes * m % 2 ^ k = 0 ∧ d.seconds * m % 2 ^ k = 0 ∧ d.microseconds * m % 2 ^ k = 0) :
    usTotal (mulDyadic d m k) * 2 ^ k = usTotal d * m ∧ monthTotal (mulDyadic d m k) * 2 ^ k = monthTotal d * m := by
  have hP : (0 : Int) < 2 ^ k := Int.pow_pos (by decide)
  unfold mulDyadic
  obtain ⟨t1, t2, _⟩ := fix_preserves_total
    { d with years := scaleField d.years m k, months := scaleField d.months m k, days := scaleField d.days m k,
             hours := scaleField d.hours m k, minutes := scaleField d.minutes m k,
             seconds := scaleField d.seconds m k, microseconds := scaleField d.microseconds m k, hasTime := 0 }
  rw [t1, t2]
  unfold usTotal monthTotal scaleField
  simp only []
  have b1 := RDG.tquot_exact _ _ hP h.1
  have b2 := RDG.tquot_exact _ _ hP h.2.1
  have b3 := RDG.tquot_exact _ _ hP h.2.2.1
  have b4 := RDG.tquot_exact _ _ hP h.2.2.2.1
  have b5 := RDG.tquot_exact _ _ hP h.2.2.2.2.1
  have b6 := RDG.tquot_exact _ _ hP h.2.2.2.2.2.1
  have b7 := RDG.tquot_exact _ _ hP h.2.2.2.2.2.2
  constructor <;> grind

/-- `mulDyadic_spec` about the translated `__mul__` / `__div__` -/
theorem mulDyadic_spec_gen (d r : RD) (f : RDPy.Dy) (p : RDPy.Pow2)
    (h : Gen.mulDy d f = .ok r ∨ (Gen.divPow2 d p = .ok r ∧ f = RDPy.recipPow2 p)) :
    Normalised r ∧
    (usTotal r * 2 ^ f.k - usTotal d * f.m < 2 ^ f.k * 90061000001 ∧
     usTotal d * f.m - usTotal r * 2 ^ f.k < 2 ^ f.k * 90061000001) ∧
    (monthTotal r * 2 ^ f.k - monthTotal d * f.m < 2 ^ f.k * 13 ∧
     monthTotal d * f.m - monthTotal r * 2 ^ f.k < 2 ^ f.k * 13) := by
  have hr : r = mulDyadic d f.m f.k := by
    rcases h with h | ⟨h, hf⟩
    · rw [RDG.mulDy_eq] at h; injection h with h; exact h.symm
    · rw [RDG.divPow2_eq] at h; injection h with h; rw [← h, hf]; rfl
  rw [hr]
  have := mulDyadic_spec d f.m f.k
  exact ⟨this.1, this.2.2.2.2.2.2.2.2.2.2.1, this.2.2.2.2.2.2.2.2.2.2.2⟩

/-! ## `dateutil._common.weekday` — the objects in relativedelta's `weekday` field (and rrule's BYDAY)

`Gen.wdInit / wdCall / wdEq / wdNe / wdHash / wdReduce / wdRepr` are translated from `_common.py` (`Gen.wdInitRR` from
`rrule.weekday.__init__`) on every run; `WdPy.Wd = Int × Option Int` is the type of `RD.weekday`'s payload. -/

/-- `("MO", …, "SU")[w]`: IndexError outside −7..6, negative indices wrap -/
theorem getIdx_names (w : Int) :
    Py.getIdx WdPy.names w = if w < -7 ∨ w ≥ 7 then .error .IndexError
      else .ok (WdPy.names.getD (if w < 0 then w + 7 else w).toNat "") := by
  by_cases hr : w < -7 ∨ w ≥ 7
  · rw [if_pos hr]
    unfold Py.getIdx
    have hl : ((WdPy.names.length : Nat) : Int) = 7 := by decide
    simp only [hl]
    rw [if_pos (by split <;> omega)]
  · rw [if_neg hr]
    have : w = -7 ∨ w = -6 ∨ w = -5 ∨ w = -4 ∨ w = -3 ∨ w = -2 ∨ w = -1 ∨ w = 0 ∨ w = 1 ∨ w = 2 ∨ w = 3 ∨ w = 4 ∨
        w = 5 ∨ w = 6 := by omega
    rcases this with h | h | h | h | h | h | h | h | h | h | h | h | h | h <;> subst h <;> decide +kernel

/-- **gen_weekday_eq_model.** Every translated method of `weekday` equals the hand model. -/
theorem gen_weekday_eq_model (w : WdPy.Wd) (n : Option Int) (o : WdPy.Other) (a : Int) :
    Gen.wdInit a n = .ok (a, n) ∧ Gen.wdCall Gen.wdInit w n = .ok (WdPy.call w n) ∧ Gen.wdEq w o = .ok (WdPy.eq w o) ∧
    Gen.wdNe w o = .ok (WdPy.ne w o) ∧ Gen.wdHash w = .ok (WdPy.hashKey w) ∧ Gen.wdReduce w = .ok w ∧
    Gen.wdRepr w = WdPy.repr w ∧ Gen.wdInitRR a n = WdPy.initRR a n ∧
    Gen.wdCall Gen.wdInitRR w n = WdPy.callRR w n := by
  have hEq : Gen.wdEq w o = .ok (WdPy.eq w o) := by
    unfold Gen.wdEq WdPy.eq
    cases o with
    | noAttr => rfl
    | wd v =>
      obtain ⟨w1, w2⟩ := w; obtain ⟨v1, v2⟩ := v
      by_cases h1 : w1 = v1 <;> by_cases h2 : w2 = v2 <;> simp [h1, h2]
  refine ⟨rfl, ?_, hEq, ?_, rfl, rfl, ?_, ?_, ?_⟩
  · unfold Gen.wdCall WdPy.call Gen.wdInit
    by_cases h : n = w.2
    · simp [h, Except.bind]
    · simp [h, Except.bind]
  · unfold Gen.wdNe; rw [hEq]; simp [Except.bind, WdPy.ne]
  · unfold Gen.wdRepr
    rw [show (["MO", "TU", "WE", "TH", "FR", "SA", "SU"] : List String) = WdPy.names from rfl, getIdx_names]
    unfold WdPy.repr
    obtain ⟨w1, w2⟩ := w
    by_cases hr : w1 < -7 ∨ w1 ≥ 7
    · simp [hr, Except.bind]
    · cases w2 with
      | none => simp [hr, Except.bind, WdPy.truthy]
      | some v => by_cases hv : v = 0 <;> simp [hr, Except.bind, WdPy.truthy, WdPy.fmtNth, hv]
  · unfold Gen.wdInitRR WdPy.initRR Gen.wdInit; rfl
  · unfold Gen.wdCall WdPy.callRR Gen.wdInitRR Gen.wdInit
    by_cases h : n = w.2
    · simp [h]
    · by_cases h0 : n = some 0 <;> simp [h, h0, Except.bind]

/-- **weekday_eq_hash.** On weekday objects `==` is an equivalence (it is equality of the two slots), `!=` its negation,
    equal objects hash equal (the hashed tuple is the pair of slots), and nothing without the attributes is equal to one. -/
theorem weekday_eq_hash (a b c : WdPy.Wd) :
    Gen.wdEq a (.wd a) = .ok true ∧
    (Gen.wdEq a (.wd b) = .ok true ↔ a = b) ∧
    (Gen.wdEq a (.wd b) = .ok true → Gen.wdEq b (.wd a) = .ok true) ∧
    (Gen.wdEq a (.wd b) = .ok true → Gen.wdEq b (.wd c) = .ok true → Gen.wdEq a (.wd c) = .ok true) ∧
    (Gen.wdEq a (.wd b) = .ok true → Gen.wdHash a = Gen.wdHash b) ∧
    Gen.wdEq a .noAttr = .ok false ∧ Gen.wdNe a .noAttr = .ok true := by
  have h : ∀ x y : WdPy.Wd, Gen.wdEq x (.wd y) = .ok true ↔ x = y := by
    intro x y
    rw [(gen_weekday_eq_model x none (.wd y) 0).2.2.1]
    simp [WdPy.eq]
  refine ⟨(h a a).2 rfl, h a b, fun e => (h b a).2 ((h a b).1 e).symm,
    fun e1 e2 => (h a c).2 (((h a b).1 e1).trans ((h b c).1 e2)), fun e => by rw [(h a b).1 e], ?_, ?_⟩
  · rw [(gen_weekday_eq_model a none .noAttr 0).2.2.1]; rfl
  · rw [(gen_weekday_eq_model a none .noAttr 0).2.2.2.1]; rfl

/-- **weekday_n_strict_here.** At the level of the weekday class `n` absent, 0 and 1 are THREE different objects (`MO != MO(+1)`,
    different hashed tuples); it is `relativedelta.__eq__` / `__hash__` (`RDM.wdEq`, `hashKey`) that identify them — the C16
    law "equal deltas hash equal, including weekdays whose n is absent, 0 or 1" lives there, and the two levels agree
    wherever the weekday class says equal. -/
theorem weekday_n_strict_here (w : Int) :
    Gen.wdEq (w, none) (.wd (w, some 1)) = .ok false ∧ Gen.wdEq (w, some 0) (.wd (w, some 1)) = .ok false ∧
    Gen.wdHash (w, none) ≠ Gen.wdHash (w, some 1) ∧
    RDM.wdEq (some (w, none)) (some (w, some 1)) = true ∧ RDM.wdEq (some (w, some 0)) (some (w, some 1)) = true ∧
    (∀ a b : WdPy.Wd, Gen.wdEq a (.wd b) = .ok true → RDM.wdEq (some a) (some b) = true) := by
  refine ⟨?_, ?_, ?_, ?_, ?_, ?_⟩
  · rw [(gen_weekday_eq_model _ none _ 0).2.2.1]; simp [WdPy.eq]
  · rw [(gen_weekday_eq_model _ none _ 0).2.2.1]; simp [WdPy.eq]
  · simp [Gen.wdHash]
  · simp [RDM.wdEq, RDM.nTrivial]
  · simp [RDM.wdEq, RDM.nTrivial]
  · intro a b h
    rw [(weekday_eq_hash a b a).2.1] at h
    subst h
    obtain ⟨x, n⟩ := a
    simp [RDM.wdEq]

/-- **weekday_call_spec.** `wd(n)` is the weekday `wd.weekday` with the new `n`; it is the SAME object exactly when `n` equals
    the object's own `n` (so `MO(None) is MO`, `MO(+1)(+1)` is itself, and `MO(+1)` builds a new object on every call). -/
theorem weekday_call_spec (w r : WdPy.Wd) (n : Option Int) (same : Bool) (h : Gen.wdCall Gen.wdInit w n = .ok (r, same)) :
    r = (w.1, n) ∧ (same = true ↔ n = w.2) ∧ (same = true → r = w) := by
  rw [(gen_weekday_eq_model w n .noAttr 0).2.1] at h
  injection h with h
  unfold WdPy.call at h
  injection h with h1 h2
  refine ⟨h1.symm, ?_, ?_⟩
  · rw [← h2]; simp
  · intro hs; rw [← h2] at hs; simp at hs; rw [← h1, hs]

/-- **weekday_call_rrule.** For an object of class `rrule.weekday` the new object is built by THAT class: `MO(0)` raises ValueError,
    every other `n` behaves as in the base class. -/
theorem weekday_call_rrule (w : WdPy.Wd) (n : Option Int) :
    (n ≠ some 0 ∨ n = w.2 → Gen.wdCall Gen.wdInitRR w n = Gen.wdCall Gen.wdInit w n) ∧
    (n = some 0 → w.2 ≠ some 0 → Gen.wdCall Gen.wdInitRR w n = .error .ValueError) := by
  rw [(gen_weekday_eq_model w n .noAttr 0).2.2.2.2.2.2.2.2, (gen_weekday_eq_model w n .noAttr 0).2.1]
  unfold WdPy.callRR WdPy.call
  constructor
  · intro h
    by_cases e : n = w.2
    · simp [e]
    · have h0 : n ≠ some 0 := by rcases h with h | h; exact h; exact absurd h e
      simp [e, h0]
  · intro h0 hw
    subst h0
    have e : ¬ (some (0 : Int) = w.2) := fun x => hw x.symm
    simp [e]

/-- **weekday_repr_spec.** `repr`: the bare two-letter name when `n` is None or 0 (so `repr` does not distinguish them), the name
    followed by the signed `n` in parentheses otherwise; IndexError exactly outside −7..6. -/
theorem weekday_repr_spec (w : Int) (n : Option Int) :
    (w < -7 ∨ w ≥ 7 → Gen.wdRepr (w, n) = .error .IndexError) ∧
    (0 ≤ w → w < 7 → Gen.wdRepr (w, none) = .ok (WdPy.names.getD w.toNat "") ∧
                      Gen.wdRepr (w, some 0) = Gen.wdRepr (w, none) ∧
                      (∀ v, v ≠ 0 → Gen.wdRepr (w, some v) =
                         .ok (WdPy.names.getD w.toNat "" ++ "(" ++ WdPy.fmtSigned v ++ ")"))) := by
  simp only [(gen_weekday_eq_model _ none .noAttr 0).2.2.2.2.2.2.1, WdPy.repr]
  refine ⟨fun h => by simp [h], fun h0 h7 => ?_⟩
  have hn : ¬ (w < -7 ∨ w ≥ 7) := by omega
  have hw : ¬ w < 0 := by omega
  simp [hn, hw]
  intro v hv; simp [hv]

/-- **gen_ne_eq_model.** The translated `__ne__` is the negation of the translated `__eq__` (hence of the model's `eq`). -/
theorem gen_ne_eq_model (a b : RD) : Gen.ne a b = .ok (!RDM.eq a b) := by
  unfold Gen.ne
  rw [RDG.eq_eq]
  cases RDM.eq a b <;> simp [Except.bind]

/-! ## `repr` and the `weeks` property, translated -/

theorem rel_step (l : List String) (name : String) (v : Int) :
    (if v ≠ 0 then l ++ [name ++ "=" ++ RDPy.fmtPlusG v] else l) = l ++ RDH.relPart name v := by
  unfold RDH.relPart; split <;> simp

theorem rel_first (name : String) (v : Int) :
    (if v ≠ 0 then [name ++ "=" ++ RDPy.fmtPlusG v] else []) = RDH.relPart name v := rfl

theorem abs_step (l : List String) (name : String) (v : Option Int) :
    (if v ≠ none then l ++ [name ++ "=" ++ RDPy.reprOptInt v] else l) = l ++ RDH.absPart name v := by
  cases v <;> simp [RDH.absPart, RDPy.reprOptInt]

/-- **gen_repr_weeks_eq_model.** The translated `weeks` getter and setter and `__repr__` ARE the history model's `weeksOf`,
    `setWeeks` and `reprOf` (over the translated `weekday.__repr__`). -/
theorem gen_repr_weeks_eq_model (d : RD) (v : Int) :
    Gen.weeks d = .ok (RDH.weeksOf d) ∧ Gen.setWeeks d v = .ok (RDH.setWeeks d v) ∧
    Gen.repr d = RDH.reprOf Gen.wdRepr d := by
  refine ⟨rfl, rfl, ?_⟩
  unfold Gen.repr RDH.reprOf
  simp only [rel_step, abs_step, List.nil_append]
  cases hw : d.weekday with
  | none => simp only [Except.bind, List.append_assoc, rel_first]
  | some w =>
    simp only [Except.bind]
    cases Gen.wdRepr w with
    | error e => rfl
    | ok s => simp only [rel_step, abs_step, List.append_assoc, List.cons_append, List.nil_append, rel_first]

/-- **repr_spec.** A delta with no field set prints `relativedelta()`, and without a weekday `repr` never raises.  That equal
    reprs mean equal deltas is NOT claimed: `+g` keeps six significant digits (`years=1234567` prints `+1.23457e+06`), and
    `weekday=MO` and `weekday=MO(0)` print alike. -/
theorem repr_spec (d : RD) :
    (RDM.bool d = false → Gen.repr d = .ok "relativedelta()") ∧
    (d.weekday = none → ∃ s, Gen.repr d = .ok s) := by
  rw [(gen_repr_weeks_eq_model d 0).2.2]
  constructor
  · intro h
    have hb := (bool_iff_no_field d).1 h
    obtain ⟨h1, h2, h3, h4, h5, h6, h7, h8, h9, h10, h11, h12, h13, h14, h15, h16⟩ := hb
    unfold RDH.reprOf
    simp [h1, h2, h3, h4, h5, h6, h7, h8, h9, h10, h11, h12, h13, h14, h15, h16, RDH.relPart, RDH.absPart]
  · intro h
    unfold RDH.reprOf
    rw [h]
    exact ⟨_, rfl⟩

-- non-vacuity / sanity
example : Gen.fix { seconds := -3661, microseconds := 2500000 } =
    { hours := -1, minutes := 0, seconds := -59, microseconds := 500000, hasTime := 1 } := by decide
example : Normalised (Gen.fix { seconds := 10 ^ 30, months := -25 }) := fix_bounds _
example : mk { weekday := some (.int 0) } = .ok { weekday := some (0, none) } := by decide
example : RDM.eq { weekday := some (0, none) } { weekday := some (0, some 1) } = true := by decide
example : hashKey { weekday := some (0, none) } = hashKey ({ weekday := some (0, some 1) } : RD) := by decide
example : RDM.eq { weekday := some (0, some 2) } { weekday := some (0, none) } = false := by decide
example : mk { yearday := some 367 } = .error .ValueError := by decide
example : mk { yearday := some 60 } = .ok { leapdays := -1, month := some 3, day := some 1 } := by decide
example : Normalised (neg { days := 3, hours := -5, hasTime := 1 }) := (every_op_normalised _ {} 0 {} 0 0 0).2.2.1

example : (RDH.run { days := 10 } [.use (.addDt ⟨.date, { y := 2000, m := 1, d := 1 }⟩), .set (.weeks 3), .use .hash,
    .set (.hours 5), .use (.addDt ⟨.date, { y := 2000, m := 1, d := 1 }⟩)]).1 = { days := 24, hours := 5 } := by decide +kernel
example : (RDH.run { days := 10 } [.use (.addDt ⟨.date, { y := 2000, m := 1, d := 1 }⟩), .set (.weeks 3),
    .use (.addDt ⟨.date, { y := 2000, m := 1, d := 1 }⟩)]).2 =
    [.temporal (.ok ⟨.date, { y := 2000, m := 1, d := 11 }⟩), .temporal (.ok ⟨.date, { y := 2000, m := 1, d := 25 }⟩)] := by
  decide +kernel
example : mulDyadic { days := 3, hours := 5, years := 1, months := 2 } 1 1 = { days := 1, hours := 2, months := 1, hasTime := 1 } := by
  decide +kernel     -- relativedelta(years=1, months=2, days=3, hours=5) * 0.5 (every field truncated toward zero)
example : divPow2 { days := -7, minutes := 90 } true 1 = { days := 3, minutes := -45, hasTime := 1 } := by decide +kernel
example : normalizedInt { hours := 100, minutes := -61, hasTime := 0 } = { days := 4, hours := 3, minutes := -1, hasTime := 1 } := by
  decide +kernel
example : Gen.wdRepr (0, some (-2)) = .ok "MO(-2)" ∧ Gen.wdRepr (6, some 1) = .ok "SU(+1)" ∧ Gen.wdRepr (-1, none) = .ok "SU" := by
  decide +kernel
example : Gen.wdCall Gen.wdInit (0, some 1) (some 1) = .ok ((0, some 1), true) ∧ Gen.wdCall Gen.wdInit (0, none) (some 1) = .ok ((0, some 1), false) ∧
    Gen.wdCall Gen.wdInitRR (0, none) (some 0) = .error .ValueError := by
  decide +kernel
example : Gen.repr { years := -7620747, days := 3, month := some 3, weekday := some (2, some 5), hasTime := 0 } =
    .ok "relativedelta(years=-7.62075e+06, days=+3, month=3, weekday=WE(+5))" := by decide +kernel
example : RDPy.fmtPlusG 1000000 = "+1e+06" ∧ RDPy.fmtPlusG (-999999) = "-999999" ∧ RDPy.fmtPlusG 1234565 = "+1.23456e+06" ∧
    RDPy.fmtPlusG 9999995 = "+1e+07" := by decide +kernel
end C16
