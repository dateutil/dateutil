/-
  Properties/C18.lean — zone factories: one shared object per key, safely under threads; zone
  equality, copies and pickles.  The factory theorems rest on Proofs/Factory*.lean, the resolution order on
  Proofs/GettzResolve.lean; the zone-equality table and the reduce model are small enough to be decided by cases here.
-/
import DateutilVerif.Model.Factory
import DateutilVerif.Proofs.FactoryLive
import DateutilVerif.Proofs.FactorySingle
import DateutilVerif.Proofs.FactoryRank
import DateutilVerif.Proofs.FactoryTerm
import DateutilVerif.Proofs.GettzResolve
import DateutilVerif.Proofs.FactorySim
import DateutilVerif.Model.Reduce

namespace C18
open Fact

theorem eqMethod_refl (z : Zone) : eqMethod z z = .t := by
  cases z <;> simp [eqMethod, Tri.ofBool, Zone.rangeP?]

/-- `z == z` for every zone, and a *distinct* object with the same recorded state (`same = false`)
is equal too: no zone falls back to identity for itself. -/
theorem eq_refl (z : Zone) (same : Bool) : pyEq z z same = true := by
  cases z <;> simp [pyEq, eqMethod, properSubclass, Tri.ofBool, Zone.rangeP?]

/-- `(a == b) = (b == a)` for all zones of the six kinds (identity is symmetric, so `same` is shared) -/
theorem eq_symm (a b : Zone) (same : Bool) : pyEq a b same = pyEq b a same := by
  cases a <;> cases b <;>
    simp [pyEq, eqMethod, properSubclass, Tri.ofBool, Zone.rangeP?] <;>
    (repeat' split) <;> simp_all [eq_comm]

example : pyEq .utc (.offset "X" 0) false = true ∧ pyEq (.offset "X" 0) .utc false = true := by decide
example : pyEq (.loc 0 0 false "UTC") .utc false = true ∧ pyEq .utc (.loc 0 0 false "UTC") false = true := by decide
example : pyEq (.file 1) .utc false = false ∧ pyEq (.file 1) (.file 1) false = true := by decide

/- Copies and pickles (`copy.copy`, `copy.deepcopy`, `pickle` protocols 0..5): Model/Reduce.lean and
`reduce_roundtrip_dict` / `reduce_roundtrip_eq` / `reduce_total` at the end of this file (every attribute survives, so the
copy compares equal); that a copy also behaves like the original (identical utcoffset/dst/tzname/fromutc on a grid) is checked
on the implementation only (oracle `zone_laws`).  The equality table adds `eq_refl … false`: a DISTINCT object whose compared
attributes are equal is `==` to the original. -/

/-- equal fixed-offset zones (tzutc, tzoffset, tzlocal without DST) have the same UTC offset.
Full statement `pyEq a b s → ∀ t, utcoffset a t = utcoffset b t` for tzfile / tzrange / tzstr needs the
C04/C06/C08 zone models (not in this property's files); it is checked on the implementation by the oracle. -/
theorem eq_same_offsets_fixed_partial (a b : Zone) (oa ob : Int)
    (ha : fixedOffset? a = some oa) (hb : fixedOffset? b = some ob) (h : pyEq a b false = true) : oa = ob := by
  cases a <;> cases b <;> simp_all [fixedOffset?, pyEq, eqMethod, properSubclass, Tri.ofBool] <;>
    (repeat' split at h) <;> simp_all <;> omega


/-! ### The factories: arbitrary schedules, any number of threads, keys and scripts

`Reachable kd res (initState cap scripts) s`: `s` is reached from the empty factory of kind `kd`
(lru = tzoffset/tzstr, gettz) with ANY strong-cache size, ANY list of thread scripts, by ANY
sequence of steps — one statement of some thread, a caller dropping a reference, or the
collection of an unreferenced weak entry.  `res` (how gettz.nocache resolves each name) is arbitrary.

What is trusted about the standard library in these theorems: one read or one write of the weak
dictionary is a step (`WeakValueDictionary.setdefault` is NOT assumed atomic: it is the two steps
lSdRead / lSdWrite, and another thread may run between them), a dead entry disappears in one
step, and the lock gives mutual exclusion.  The OrderedDict is only touched under the lock
(`lock_discipline`), so nothing is assumed about the atomicity of its methods. -/

variable {kd : Kind} {res : Key → Res} {cap : Nat} {scripts : List (List Op)} {s : State}

/-- FULL STATEMENT (fails on the code, D-C18-clear): among the references callers hold, one key
has one object.  PROVED: … within one epoch (= between two `gettz.cache_clear()`s; tzoffset/tzstr
have no `cache_clear`, their epoch is always 0). -/
theorem unique_live_partial (hk : kd ≠ .single) (h : Reachable kd res (initState cap scripts) s)
    {r r' : Ref} (hr : r ∈ s.g.held) (hr' : r' ∈ s.g.held) (hkey : r.key = r'.key) (hep : r.ep = r'.ep) :
    r.id = r'.id :=
  (reachable_inv (init_inv cap scripts) h).gi.heldUniq hk r hr r' hr' hkey hep

/-- full strength for the factories that have no `cache_clear` (tzoffset, tzstr): among ALL the
references callers hold, whenever they were handed out, one key has one object -/
theorem unique_live_lru (h : Reachable .lru res (initState cap scripts) s)
    {r r' : Ref} (hr : r ∈ s.g.held) (hr' : r' ∈ s.g.held) (hkey : r.key = r'.key) : r.id = r'.id := by
  have hI := reachable_inv (init_inv (kd := .lru) (res := res) cap scripts) h
  have h0 := epoch_zero (kd := .lru) (by decide) h
  have e1 := hI.gi.heldEp r hr
  have e2 := hI.gi.heldEp r' hr'
  rw [h0] at e1 e2
  exact hI.gi.heldUniq (by decide) r hr r' hr' hkey (by omega)

/-- non-vacuity: a reachable state (two threads, one key, drops and a collection in between) in
which two references to one key are held — and they are the same id -/
example :
    let ls : List Label := [.thr 0, .thr 0, .thr 0, .thr 0, .thr 0, .thr 1, .thr 0, .thr 0, .thr 0, .thr 0, .thr 0, .thr 0,
                            .thr 1, .thr 1, .thr 1, .thr 1, .thr 1, .thr 1, .thr 1, .thr 1]
    let s := ls.foldl (fun s l => (step .lru (fun _ => .zone) s l).getD s) (initState 1 [[.call 7], [.call 7]])
    s.g.held.map (fun r => (r.key, r.id, r.owner)) = [(7, 0, 0), (7, 0, 1)] ∧ s.g.strong = [(7, 0)] := by decide

/-- the negation at the excluded class, in the model: `a = gettz(k0); cache_clear(); b = gettz(k0)`
with `a` still held gives two live ids for `k0` -/
example :
    let s := (List.replicate 3 (0 : Nat)).foldl
      (fun s _ => (runOp .gettz (fun _ => .zone) 0 100 s).getD s) (initState 8 [[.call 0, .clear, .call 0]])
    s.g.held.map (fun r => (r.key, r.id, r.ep)) = [(0, 0, 0), (0, 1, 1)] := by decide

/-- identity while referenced: when a call for `th.key` is about to hand out its result `i`
(the `with` exit after the LRU touch), every reference to that key a caller still holds from this
epoch is to the very same object -/
theorem identity_while_referenced (hk : kd ≠ .single) (h : Reachable kd res (initState cap scripts) s)
    {t : Tid} {th : Thread} (hth : s.ths[t]? = some th) (hpc : th.pc = .xRel)
    {r : Ref} (hr : r ∈ s.g.held) (hkey : r.key = th.key) (hep : r.ep = s.g.epoch) :
    th.inst = some r.id := by
  have hI := reachable_inv (init_inv (kd := kd) (res := res) cap scripts) h
  have hp := (hI.ti t th hth).pc
  simp only [pcInv, hpc] at hp
  obtain ⟨⟨i, hi, hw⟩, _⟩ := hp
  have := hI.gi.heldWeak hk r hr hep
  rw [hkey, hw] at this
  cases this
  exact hi

/-- nothing half-built is ever visible: an id is in the weak map only after its construction finished -/
theorem no_half_built (h : Reachable kd res (initState cap scripts) s) {k : Key} {i : Id}
    (hw : s.g.weak k = some i) : i ∈ s.g.inited :=
  (reachable_inv (init_inv cap scripts) h).gi.weakInited k i hw

/-- FULL STATEMENT (false on the code for two classes of gettz names, see `shared_constructor`):
`instance` / `nocache` always return a new object.
PROVED: they never touch the weak map, the strong cache, its size, the lock, callers' references,
the epoch or the singleton slot — for every key; and for every key that does not resolve to a
shared object (all tzoffset / tzstr keys; gettz names resolving to a file, a TZ string, tzlocal)
the object they build is new: its id is none of the ids in the weak map, the strong cache, callers'
hands, or any thread's local variables. -/
theorem fresh_constructors_partial (h : Reachable kd res (initState cap scripts) s)
    {t : Tid} {th th' : Thread} {g' : Glob} (hth : s.ths[t]? = some th)
    (hpc : th.pc = .fAlloc ∨ th.pc = .fInit ∨ th.pc = .fRet) (hs : tstep kd res t s.g th = some (g', th')) :
    (g'.weak = s.g.weak ∧ g'.strong = s.g.strong ∧ g'.cap = s.g.cap ∧ g'.lock = s.g.lock ∧
      g'.held = s.g.held ∧ g'.epoch = s.g.epoch ∧ g'.single = s.g.single) ∧
    (th.pc = .fAlloc → (kd = .gettz → (res th.key).slot? = none) → ∀ i, th'.tmp = some i →
      (∀ k, s.g.weak k ≠ some i) ∧ (∀ e ∈ s.g.strong, e.2 ≠ i) ∧ (∀ r ∈ s.g.held, r.id ≠ i) ∧
      (∀ (t2 : Tid) (th2 : Thread), s.ths[t2]? = some th2 → th2.inst ≠ some i ∧ th2.tmp ≠ some i ∧ th2.seen ≠ some i)) := by
  have hI := reachable_inv (init_inv (kd := kd) (res := res) cap scripts) h
  obtain ⟨hw, hst, hc, hl, hh, he, hsg, -, -⟩ := tstep_frame hs
  refine ⟨by rcases hpc with hpc | hpc | hpc <;> rw [hpc] at hw hst hc hl hh he hsg <;>
            exact ⟨hw (by decide), hst (by decide), hc (by decide), hl (by decide), hh (by decide), he (by decide),
                   hsg (by decide)⟩, ?_⟩
  intro hA hns i hi
  rcases fresh_alloc hA hns hs with h0 | h0
  · rw [h0] at hi; cases hi
  · rw [h0] at hi; cases hi
    refine ⟨?_, ?_, ?_, ?_⟩
    · intro k hk; exact Nat.lt_irrefl _ (hI.gi.weakLt k _ hk)
    · intro e he hk; have := hI.gi.strongLt e he; rw [hk] at this; exact Nat.lt_irrefl _ this
    · intro r hr hk; have := hI.gi.heldLt r hr; rw [hk] at this; exact Nat.lt_irrefl _ this
    · intro t2 th2 h2
      exact ⟨fun hk => Nat.lt_irrefl _ ((hI.ti t2 th2 h2).instLt _ hk),
             fun hk => Nat.lt_irrefl _ ((hI.ti t2 th2 h2).tmpLt _ hk),
             fun hk => Nat.lt_irrefl _ ((hI.ti t2 th2 h2).seenLt _ hk)⟩

/-- the excluded classes, stated positively: for a gettz name that resolves to an existing shared
object — slot 0 = the module constant `tz.UTC` (`GMT` / `UTC` without a file: tzutc() IS one object by
the property itself), the other slots = the entries of the vendored ZoneInfoFile — `nocache` returns
that very object (the same for every name of the slot, e.g. `nocache('UTC') is nocache('GMT')`) and
changes nothing; the shared object is constructed and immortal (a GC root) -/
theorem shared_constructor (h : Reachable .gettz res (initState cap scripts) s)
    {t : Tid} {th th' : Thread} {g' : Glob} {sl : Nat} {i : Id} (hpc : th.pc = .fAlloc)
    (hsl : res th.key = .shared sl) (hl : s.g.shared.lookup sl = some i)
    (hs : tstep .gettz res t s.g th = some (g', th')) :
    th'.tmp = some i ∧ g' = s.g ∧ i ∈ s.g.inited := by
  have hI := reachable_inv (init_inv (kd := .gettz) (res := res) cap scripts) h
  obtain ⟨h1, _, h3⟩ := shared_alloc hpc hsl hl hs
  exact ⟨h1, h3, hI.gi.sharedInited _ (lookup_mem hl)⟩

/-- in the model: `nocache('UTC')`, then `nocache('GMT')` (both slot 0) return the same id; `nocache`
of a file name returns a new one each time -/
example :
    let res : Key → Res := fun k => if k < 2 then .shared 0 else .zone
    let s := (List.replicate 4 (0 : Nat)).foldl (fun s _ => (runOp .gettz res 0 100 s).getD s)
              (initState 8 [[.fresh 0, .fresh 1, .fresh 2, .fresh 2]])
    s.g.log.map (fun e => e.val) = [some 0, some 0, some 1, some 2] := by decide

/-- `set_cache_size` only affects retention: every statement of it leaves the weak map, callers'
references, the epoch and the set of objects unchanged (it changes the strong cache, its size, the lock) -/
theorem set_size_only_retention {t : Tid} {g g' : Glob} {th th' : Thread}
    (hpc : th.pc = .sAcq ∨ th.pc = .sSet ∨ th.pc = .sLoop ∨ th.pc = .sPop ∨ th.pc = .sRel)
    (hs : tstep kd res t g th = some (g', th')) :
    g'.weak = g.weak ∧ g'.held = g.held ∧ g'.epoch = g.epoch ∧ g'.single = g.single ∧ g'.next = g.next ∧
    g'.inited = g.inited := by
  obtain ⟨hw, -, -, -, hh, he, hsg, hn, hi⟩ := tstep_frame hs
  rcases hpc with hpc | hpc | hpc | hpc | hpc <;> rw [hpc] at hw hh he hsg hn hi <;>
    exact ⟨hw (by decide), hh (by decide), he (by decide), hsg (by decide), hn (by decide), hi (by decide)⟩

/-- FULL STATEMENT (fails on the code, D-C18-clear): `cache_clear` leaves the weak map unchanged.
PROVED: it keeps every reference callers hold, creates and destroys no object and keeps the cache
size; every statement of it other than `self.__instances = WeakValueDictionary()` keeps the weak
map and the epoch. -/
theorem clear_only_retention_partial {t : Tid} {g g' : Glob} {th th' : Thread}
    (hpc : th.pc = .cAcq ∨ th.pc = .cWeak ∨ th.pc = .cStrong ∨ th.pc = .cRel)
    (hs : tstep kd res t g th = some (g', th')) :
    g'.held = g.held ∧ g'.single = g.single ∧ g'.next = g.next ∧ g'.inited = g.inited ∧ g'.cap = g.cap ∧
    (th.pc ≠ .cWeak → g'.weak = g.weak ∧ g'.epoch = g.epoch) := by
  obtain ⟨hw, -, hc, -, hh, he, hsg, hn, hi⟩ := tstep_frame hs
  rcases hpc with hpc | hpc | hpc | hpc <;> rw [hpc] at hw hc hh he hsg hn hi ⊢ <;>
    refine ⟨hh (by decide), hsg (by decide), hn (by decide), hi (by decide), hc (by decide), fun hne => ?_⟩ <;>
    first | exact absurd rfl hne | exact ⟨hw (by decide), he hne⟩

/-- the strong cache never exceeds its size while the lock is free (inside the critical section
it is at most one over, between the insertion and the eviction — `pcInv` at xLen / xEvict) -/
theorem strong_within_capacity (h : Reachable kd res (initState cap scripts) s) (hl : s.g.lock = none) :
    s.g.strong.length ≤ s.g.cap :=
  (reachable_inv (init_inv cap scripts) h).gi.lenFree hl

/-- retention is of the right object: whenever the lock is free, every entry `(k, i)` of the strong
cache is the live object of its key — `weak k = some i` — so the next request for `k` finds `i`
even if no caller references it any more (the strong reference also keeps the GC step away from it) -/
theorem strong_retains (h : Reachable kd res (initState cap scripts) s) (hl : s.g.lock = none) :
    ∀ e ∈ s.g.strong, s.g.weak e.1 = some e.2 :=
  (reachable_inv (init_inv cap scripts) h).swFree hl

/-- lock discipline: the lock is held exactly by a thread that is inside a `with` block
(acquire / release balanced on every path); in particular nobody holds it once all have finished -/
theorem lock_discipline (h : Reachable kd res (initState cap scripts) s) :
    (∀ t th, s.ths[t]? = some th → (inLocked th.pc = true ↔ s.g.lock = some t)) ∧
    (∀ t, s.g.lock = some t → ∃ th, s.ths[t]? = some th ∧ inLocked th.pc = true) := by
  have hI := reachable_inv (init_inv (kd := kd) (res := res) cap scripts) h
  refine ⟨fun t th hth => (hI.ti t th hth).lockIff, ?_⟩
  intro t hl
  have hlt := hI.owner t hl
  refine ⟨s.ths[t], by simp [hlt], ?_⟩
  exact ((hI.ti t s.ths[t] (by simp [hlt])).lockIff).mpr hl

/-- no statement of the model gets stuck: in every reachable state, every thread that has not finished
its script can execute its next statement, unless that statement is a lock acquisition and the lock
is taken.  In the model a statement whose Python original would raise an exception the code does not
expect (`popitem` on an empty OrderedDict: KeyError; a local that must be bound being None) is a
DISABLED step, so this is the audited form of "no modelled statement raises"; the exceptions the code
does let through — a constructor raising under the lock (`Res.raises`) — are ordinary steps
(`exception_releases_lock`). -/
theorem no_raising_statement (h : Reachable kd res (initState cap scripts) s)
    {t : Tid} {th : Thread} (hth : s.ths[t]? = some th) (hf : th.finished = false) :
    (isAcq th.pc = true ∧ s.g.lock ≠ none) ∨ (tstep kd res t s.g th).isSome = true :=
  tstep_enabled ((reachable_inv (init_inv (kd := kd) (res := res) cap scripts) h).ti t th hth) hf

/-- exceptional exit of the critical section: when the constructor raises under the lock
(`tzoffset('A', 'x')`, `tzstr('1')`, `gettz(b'x')`), the next statement of that thread is the `with`
exit: it releases the lock, records the exception as the outcome of the call, touches neither map
nor callers' references, and the thread is back at the top of its script — so `lock_discipline`,
`no_deadlock` and `always_returns` cover the raising paths too -/
theorem exception_releases_lock {t : Tid} {g g' : Glob} {th th' : Thread} (hpc : th.pc = .xRelX)
    (hs : tstep kd res t g th = some (g', th')) :
    g'.lock = none ∧ th'.pc = .idle ∧ g'.weak = g.weak ∧ g'.strong = g.strong ∧ g'.held = g.held ∧
    g'.log = g.log ++ [{ tid := t, key := th.key, val := none, cached := false, exc := true }] := by
  simp only [tstep, hpc, Option.some.injEq, Prod.mk.injEq] at hs
  obtain ⟨rfl, rfl⟩ := hs
  simp

/-- in the model: thread 0's constructor raises under the lock while thread 1 waits; thread 1 then
gets the lock and its call returns -/
example :
    let res : Key → Res := fun k => if k = 0 then .raises else .zone
    let sched : List Tid := [0, 0, 0, 0, 0, 1, 1, 0, 1, 1, 1, 1, 1, 1, 1, 1, 1, 1, 1]
    let s := sched.foldl (fun s t => (step .lru res s (.thr t)).getD s) (initState 8 [[.call 0], [.call 1]])
    s.g.log.map (fun e => (e.tid, e.exc, e.val)) = [(0, true, none), (1, false, some 0)] ∧ s.g.lock = none := by decide

/-- no deadlock: in every reachable state either every thread has finished its script or some
thread can execute its next statement -/
theorem no_deadlock (h : Reachable kd res (initState cap scripts) s) :
    (∀ th ∈ s.ths, th.finished = true) ∨ ∃ t, (step kd res s (.thr t)).isSome = true := by
  have hI := reachable_inv (init_inv (kd := kd) (res := res) cap scripts) h
  cases hall : s.ths.all Thread.finished with
  | true => exact .inl (List.all_eq_true.mp hall)
  | false =>
    right
    obtain ⟨th, hm, hf⟩ := List.all_eq_false.mp hall
    obtain ⟨t, hlt, rfl⟩ := List.getElem_of_mem hm
    have run : ∀ t2 th2, s.ths[t2]? = some th2 → (tstep kd res t2 s.g th2).isSome = true →
        (step kd res s (.thr t2)).isSome = true := by
      intro t2 th2 h2 hsome
      obtain ⟨p, hp⟩ := Option.isSome_iff_exists.mp hsome
      simp only [step, h2, hp, Option.isSome_some]
    rcases tstep_enabled (hI.ti t _ (List.getElem?_eq_getElem hlt)) (Bool.eq_false_iff.mpr hf) with ⟨_, hlk⟩ | hen
    · -- blocked on the lock: its holder is inside a critical section, so neither finished nor at an acquisition
      obtain ⟨t2, hl⟩ := Option.ne_none_iff_exists'.mp hlk
      have h2 := List.getElem?_eq_getElem (hI.owner t2 hl)
      have hT2 := hI.ti t2 _ h2
      have hin := hT2.lockIff.mpr hl
      rcases tstep_enabled hT2 (not_finished_of_inLocked hin) with ⟨ha, _⟩ | hen2
      · rw [not_isAcq_of_inLocked hin] at ha; cases ha
      · exact ⟨t2, run t2 _ h2 hen2⟩
    · exact ⟨t, run t _ (List.getElem?_eq_getElem hlt) hen⟩


/-- every call returns, under ANY schedule: from a reachable state, any continuation (thread
statements, reference drops and collections in any order, every label enabled when chosen) executes
at most `measure s` thread statements (`measure` = 2·|strong cache| + Σ over threads of a pc rank
plus a fixed cost per remaining script operation) — so a scheduler that keeps choosing enabled
threads must stop — and when it stops because no thread is enabled, every thread has finished its
script, i.e. every call has returned (no thread is left waiting for the lock or stuck at a statement
that would raise). -/
theorem always_returns (h : Reachable kd res (initState cap scripts) s) {ls : List Label} {s' : State}
    (hrun : runLabels kd res s ls = some s') :
    (ls.filter isThr).length ≤ measure s ∧
    ((∀ t, step kd res s' (.thr t) = none) → ∀ th ∈ s'.ths, th.finished = true) := by
  refine ⟨by have := run_bounded hrun; omega, ?_⟩
  intro hnone
  rcases no_deadlock (run_reachable h hrun) with hall | ⟨t, ht⟩
  · exact hall
  · rw [hnone t] at ht; cases ht

/-- each thread statement strictly decreases the measure (the lemma behind `always_returns`), and the
per-call variant `rank` decreases with every statement of that call and is untouched by other
threads while the call holds the lock (so a critical section lasts at most `rank` steps of its owner) -/
theorem variant_decreases :
    (∀ {s s' : State} {t : Tid}, step kd res s (.thr t) = some s' → measure s' < measure s) ∧
    (∀ (t : Tid) (g g' : Glob) (th th' : Thread), th.pc ≠ .idle → tstep kd res t g th = some (g', th') →
        rank g' th' < rank g th) ∧
    (∀ {s s' : State} {t t' : Tid} {th2 : Thread}, Reachable kd res (initState cap scripts) s →
        step kd res s (.thr t) = some s' → t ≠ t' → s.g.lock = some t' → rank s'.g th2 = rank s.g th2) := by
  refine ⟨fun h => step_thr_decreases h, fun t g g' th th' hpc h => rank_decreases hpc h, ?_⟩
  intro s s' t t' th2 hr hs hne hl
  have hI := reachable_inv (init_inv (kd := kd) (res := res) cap scripts) hr
  obtain ⟨th, g', th', hth, hstep, rfl⟩ := step_thr hs
  exact rank_stable hne hl (tstep_guar (hI.ti t th hth) hstep)

example : measure (initState 8 [[.call 0, .setSize 2], [.call 0, .clear]]) = 45 := by decide

example : rank { strong := [(0, 0), (1, 1)] } { pc := .sLoop } = 7 := by decide

/-! ### The state machine is what the source says

`harness/translate_factory.py` translates, on every run, the bodies of `_TzSingleton.__call__`,
`_TzFactory.instance`, `_TzOffsetFactory.__call__`, `_TzStrFactory.__call__`, `GettzFunc.__call__`,
`GettzFunc.set_cache_size` and `GettzFunc.cache_clear` from /repo's working tree into the statement IR of
Model/FactoryIR.lean (Generated/FactoryPrograms.lean).  `stepIR` flattens a program into instructions with
program counters and executes the instruction at the thread's pc. -/

/-- for the GENERATED programs (tzoffset and tzstr flavours), interpreting the translated source is the
hand-written `tstep`, at every pc, for every factory kind, on every state — so every theorem above, stated
about `tstep` / `step` / `Reachable`, is a theorem about the source as translated on this run.  An edit of a translated
method makes the translation fail (`Untranslatable`) or makes this theorem (or the layout lemma `IR.code_offset` it
rests on) fail to check. -/
theorem program_sim (kd : Kind) (res : Key → Res) (t : Tid) (g : Glob) (th : Thread) :
    IR.stepIR Gen.offsetPrograms kd res t g th = tstep kd res t g th ∧
    IR.stepIR Gen.strPrograms kd res t g th = tstep kd res t g th :=
  ⟨IR.program_sim_offset kd res t g th, IR.program_sim_str kd res t g th⟩

/-- the same for the whole machine (thread statements, drops, collections) -/
theorem program_sim_machine (kd : Kind) (res : Key → Res) (s : State) (l : Label) :
    IR.stepState Gen.offsetPrograms kd res s l = step kd res s l ∧
    IR.stepState Gen.strPrograms kd res s l = step kd res s l :=
  ⟨IR.stepState_eq IR.program_sim_offset kd res s l, IR.stepState_eq IR.program_sim_str kd res s l⟩

/-- the reachable states of the machine that runs the translated programs are exactly the `Reachable`
states the theorems quantify over -/
theorem reachable_translated {s0 : State} :
    (IR.ReachableIR Gen.offsetPrograms kd res s0 s ↔ Reachable kd res s0 s) ∧
    (IR.ReachableIR Gen.strPrograms kd res s0 s ↔ Reachable kd res s0 s) :=
  ⟨IR.reachableIR_iff IR.program_sim_offset, IR.reachableIR_iff IR.program_sim_str⟩

/-- the headline property restated directly over the translated source: in every state the tzstr (resp.
tzoffset) factory, as translated from its source on this run, can reach — any threads, scripts, schedule, drops, collections —
one key has one object among all the references callers hold -/
theorem unique_live_lru_source
    (h : IR.ReachableIR Gen.strPrograms .lru res (initState cap scripts) s ∨
         IR.ReachableIR Gen.offsetPrograms .lru res (initState cap scripts) s)
    {r r' : Ref} (hr : r ∈ s.g.held) (hr' : r' ∈ s.g.held) (hkey : r.key = r'.key) : r.id = r'.id := by
  rcases h with h | h
  · exact unique_live_lru ((IR.reachableIR_iff IR.program_sim_str).mp h) hr hr' hkey
  · exact unique_live_lru ((IR.reachableIR_iff IR.program_sim_offset).mp h) hr hr' hkey

/-- non-vacuity: the generated tzoffset program has 14 instructions, its 4th constructs the object and
jumps to the exceptional `with` exit (index 13) if the constructor raises -/
example : (IR.code Gen.offsetPrograms .lruCall).length = 14 ∧
    (IR.code Gen.offsetPrograms .lruCall)[3]? = some ⟨.alloc, 4, 13⟩ := by decide

/-- FULL STATEMENT (fails for a `_TzSingleton` class whose slot is still empty when threads start:
the unlocked test-then-store can build two objects — see the example below): every `tzutc()` returns
one object.  PROVED for the initial state tz.py creates: `UTC = tzutc()` runs while the module is
imported (the oracle checks `tzutc._TzSingleton__instance is tz.UTC`), after which, for arbitrary
schedules / threads / scripts, the slot never changes and every reference handed out is that object. -/
theorem singleton_unique_partial {scripts : List (List Op)} {s : State}
    (h : Reachable .single res (initSingleton scripts) s) :
    s.g.single = some 0 ∧ ∀ r ∈ s.g.held, r.id = 0 :=
  ⟨(sinv_reachable h).slot, (sinv_reachable h).held⟩

/-- the latent race of an un-initialised `_TzSingleton` class at statement granularity: both threads
pass `if cls.__instance is None`, thread 0 stores and returns object 0, thread 1 stores and returns object 1 -/
example :
    let sched : List Tid := [0, 0, 1, 1, 0, 0, 0, 0, 1, 1, 1, 1]
    let s := sched.foldl (fun s t => (step .single (fun _ => .zone) s (.thr t)).getD s)
              (initState 8 [[.call 0], [.call 0]])
    s.g.held.map (fun r => r.id) = [0, 1] := by decide

example : (initSingleton [[.call 0], [.call 0]]).ths.length = 2 := by decide

/-! ### Name resolution order of `gettz` (`GettzFunc.nocache`), for every environment

`Gettz.resolve e name` mirrors `nocache` statement by statement over an abstract environment `e`
(TZ variable, TZFILES, TZPATHS, `os.path.isfile`, the outcome of `tzfile(path)`, `time.tzname`, the
vendored database, whether `tzstr` accepts a string).  The theorems state the decision logic outright. -/

section Resolve
open Gettz

variable {e : Env}

/-- (definitional: an unfolding of `Gettz.resolve`; a readable restatement of the model, tied to the code
by `gettz.resolve`, not a deep fact) no name, `''` or `':'` (after `TZ` has been substituted for a missing / empty name): the local
zone — the unnamed loop over TZFILES; neither TZ strings, nor the vendored database, nor the
search for a key are consulted -/
theorem resolve_unnamed {name : Option String}
    (h : effectiveName e name = none ∨ effectiveName e name = some "" ∨ effectiveName e name = some ":") :
    resolve e name = localLoop e e.tzfiles := by
  rcases h with h | h | h <;> simp [resolve, h]

/-- (definitional: an unfolding of `Gettz.resolve`; a readable restatement of the model, tied to the code
by `gettz.resolve`, not a deep fact) `gettz()` / `gettz('')` read the TZ variable first: with `TZ` set to a non-empty value other
than `:` they resolve exactly like `gettz(TZ)` -/
theorem resolve_uses_TZ {v : String} (hv : e.tzVar = some v) (h1 : v ≠ "") :
    resolve e none = resolve e (some v) ∧ resolve e (some "") = resolve e (some v) := by
  have hne : v.isEmpty = false := by
    cases hb : v.isEmpty
    · rfl
    · exact absurd (by simpa using hb) h1
  constructor <;> simp [resolve, effectiveName, hv, hne]

/-- the local zone is the first TZFILES entry that exists and loads; entries standing for no
existing file, or for a file tzfile rejects with IOError/OSError/ValueError, are passed over -/
theorem resolve_local_first_wins {pre post : List String} {fp p : String}
    (hpre : ∀ q ∈ pre, LocalSkip e q) (hc : localCand e fp = some p) (hf : e.isfile p = true)
    (hl : e.load p = .ok) : localLoop e (pre ++ fp :: post) = .ok (.file p) :=
  localLoop_first_wins hpre hc hf hl

/-- … and when no entry does: `tzlocal()` — the unnamed branch never yields `None`, a TZ string,
the UTC constant or a vendored zone -/
theorem resolve_local_fallback {l : List String} (h : ∀ q ∈ l, LocalSkip e q) : localLoop e l = .ok .localZone :=
  localLoop_all_skipped h

theorem resolve_local_results {l : List String} {r : Resolution} (h : localLoop e l = .ok r) :
    r = .localZone ∨ ∃ p, r = .file p ∧ e.isfile p = true ∧ e.load p = .ok :=
  localLoop_ok_cases h

/-- (definitional: an unfolding of `Gettz.resolve`; a readable restatement of the model, tied to the code
by `gettz.resolve`, not a deep fact) a named request (anything else; one leading `:` is dropped) -/
theorem resolve_named {name : Option String} {s : String} (h : effectiveName e name = some s)
    (h1 : s ≠ "") (h2 : s ≠ ":") : resolve e name = resolveNamed e s := by
  simp [resolve, h, h1, h2]

/-- (definitional: an unfolding of `Gettz.resolve`; a readable restatement of the model, tied to the code
by `gettz.resolve`, not a deep fact) an absolute path is only ever that file: a loadable file gives `tzfile(path)`, anything that
is not a regular file gives `None` — TZPATHS, the vendored database, TZ strings and tzname are not consulted -/
theorem resolve_absolute {s : String} (ha : isabs (stripColon s) = true) :
    (e.isfile (stripColon s) = true → e.load (stripColon s) = .ok → resolveNamed e s = .ok (.file (stripColon s))) ∧
    (e.isfile (stripColon s) = false → resolveNamed e s = .ok .none) := by
  constructor
  · intro hf hl; simp [resolveNamed, ha, hf, hl]
  · intro hf; simp [resolveNamed, ha, hf]

/-- search-path priority: the first TZPATHS entry whose candidate (`join(path, name)`, or its
spelling with `_` for spaces when that does not exist) loads wins — over every later entry, the
vendored database, the TZ-string reading, the GMT/UTC constants and tzname; earlier entries that
offer nothing, or only a file tzfile rejects with a handled exception, are passed over -/
theorem resolve_search_path_wins {s p c : String} {pre post : List String}
    (hrel : isabs (stripColon s) = false) (hpaths : e.tzpaths = pre ++ p :: post)
    (hpre : ∀ q ∈ pre, SearchSkip e (stripColon s) q)
    (hc : candidate e p (stripColon s) = some c) (hl : e.load c = .ok) :
    resolveNamed e s = .ok (.file c) := by
  simp [resolveNamed, hrel, hpaths, searchLoop_first_wins hpre hc hl]

/-- (definitional: an unfolding of `Gettz.resolve`; a readable restatement of the model, tied to the code
by `gettz.resolve`, not a deep fact) the candidate of a search directory: the joined path when it is a file, else its underscore spelling -/
theorem candidate_direct {path name : String} (h : e.isfile (join path name) = true) :
    candidate e path name = some (join path name) := by simp [candidate, h]

theorem candidate_underscore {path name : String} (h : e.isfile (join path name) = false)
    (h2 : e.isfile (underscore (join path name)) = true) :
    candidate e path name = some (underscore (join path name)) := by simp [candidate, h, h2]

/-- (definitional: an unfolding of `Gettz.resolve`; a readable restatement of the model, tied to the code
by `gettz.resolve`, not a deep fact) when no search directory yields a loadable file, the fall-back chain decides -/
theorem resolve_fallthrough {s : String} (hrel : isabs (stripColon s) = false)
    (hall : ∀ q ∈ e.tzpaths, SearchSkip e (stripColon s) q) :
    resolveNamed e s = .ok (fallback e (stripColon s)) := by
  simp [resolveNamed, hrel, searchLoop_all_skipped hall]

/-- (definitional: an unfolding of `Gettz.resolve`; a readable restatement of the model, tied to the code
by `gettz.resolve`, not a deep fact) the fall-back chain, in order: vendored database; else, for a name containing an ASCII digit,
`tzstr` if it parses and `None` if it raises ValueError (never GMT/UTC/tzname); else the constant
UTC for `GMT` / `UTC`; else `tzlocal()` for a name in `time.tzname`; else `None` -/
theorem fallback_order (n : String) :
    (e.vendored n = true → fallback e n = .vendored n) ∧
    (e.vendored n = false → hasDigit n = true → e.tzstrOk n = true → fallback e n = .tzstr n) ∧
    (e.vendored n = false → hasDigit n = true → e.tzstrOk n = false → fallback e n = .none) ∧
    (e.vendored n = false → hasDigit n = false → (n = "GMT" ∨ n = "UTC") → fallback e n = .utc) ∧
    (e.vendored n = false → hasDigit n = false → n ≠ "GMT" → n ≠ "UTC" → n ∈ e.tzname → fallback e n = .localZone) ∧
    (e.vendored n = false → hasDigit n = false → n ≠ "GMT" → n ≠ "UTC" → n ∉ e.tzname → fallback e n = .none) := by
  refine ⟨?_, ?_, ?_, ?_, ?_, ?_⟩ <;> intros <;> simp_all [fallback]

/-- a name with a digit that is no loadable file under any search directory, is not in the vendored
database and parses as a TZ string gives `tzstr(name)` -/
theorem resolve_tzstr {name : Option String} {s : String} (h : effectiveName e name = some s)
    (h1 : s ≠ "") (h2 : s ≠ ":") (hrel : isabs (stripColon s) = false)
    (hall : ∀ q ∈ e.tzpaths, SearchSkip e (stripColon s) q) (hv : e.vendored (stripColon s) = false)
    (hd : hasDigit (stripColon s) = true) (hok : e.tzstrOk (stripColon s) = true) :
    resolve e name = .ok (.tzstr (stripColon s)) := by
  rw [resolve_named h h1 h2, resolve_fallthrough hrel hall, (fallback_order (stripColon s)).2.1 hv hd hok]

/-- `GMT` / `UTC` without a loadable file of that name and without a vendored entry give the constant `tz.UTC` -/
theorem resolve_utc_constant {name : Option String} {s : String} (h : effectiveName e name = some s)
    (h1 : s ≠ "") (h2 : s ≠ ":") (hn : stripColon s = "GMT" ∨ stripColon s = "UTC")
    (hall : ∀ q ∈ e.tzpaths, SearchSkip e (stripColon s) q) (hv : e.vendored (stripColon s) = false) :
    resolve e name = .ok .utc := by
  have hrel : isabs (stripColon s) = false := by rcases hn with hn | hn <;> rw [hn] <;> decide
  have hd : hasDigit (stripColon s) = false := by rcases hn with hn | hn <;> rw [hn] <;> decide
  rw [resolve_named h h1 h2, resolve_fallthrough hrel hall, (fallback_order (stripColon s)).2.2.2.1 hv hd hn]

/-- what yields `None`: an absolute path that is not a file; or a relative name found (loadable)
under no search directory, not vendored, and either containing a digit but not a valid TZ string,
or containing none and being neither GMT/UTC nor in `time.tzname` -/
theorem resolve_none_iff {s : String} (h : ∃ r, resolveNamed e s = .ok r) :
    resolveNamed e s = .ok .none ↔
      (isabs (stripColon s) = true ∧ e.isfile (stripColon s) = false) ∨
      (isabs (stripColon s) = false ∧ searchLoop e (stripColon s) e.tzpaths = .ok none ∧
        fallback e (stripColon s) = .none) := by
  obtain ⟨r, hr⟩ := h
  simp only [resolveNamed] at hr ⊢
  cases ha : isabs (stripColon s) <;> simp only [ha, if_true, if_false, Bool.false_eq_true] at hr ⊢
  · cases hs : searchLoop e (stripColon s) e.tzpaths with
    | error err => simp [hs] at hr
    | ok o => cases o <;> simp
  · cases hf : e.isfile (stripColon s) <;> simp only [hf, if_true, if_false, Bool.false_eq_true] at hr ⊢
    · simp
    · cases hl : e.load (stripColon s) <;> simp

/-- when `nocache` raises for a `str` name.  (The property does not demand that gettz never raises on an
unreadable file, so this is a description of the code, not a finding; the statement "never raises for
any name" is false on the code: `gettz('/etc/hostname')` raises ValueError.)
PROVED: it raises only in two situations, both about an unreadable FILE, never about the name:
(1) some file handed to `tzfile` raises `struct.error` (TZif magic but truncated / corrupt data: not
in the handler list `(IOError, OSError, ValueError)`), or (2) the name is an absolute path to an
existing file that `tzfile` rejects (that call site has no handler at all).  In every other
environment, for every name — empty, `:`-prefixed, with spaces, `..`, of any length — a result comes back. -/
theorem resolve_raises_only_on_unreadable_file (name : Option String)
    (hS : ∀ p, e.load p ≠ .structError)
    (hA : ∀ s, effectiveName e name = some s → isabs (stripColon s) = true → e.isfile (stripColon s) = true →
            e.load (stripColon s) = .ok) :
    ∃ r, resolve e name = .ok r := by
  have hloc : ∃ r, localLoop e e.tzfiles = .ok r := by
    cases h : localLoop e e.tzfiles with
    | ok r => exact ⟨r, rfl⟩
    | error err => obtain ⟨_, p, _, hp⟩ := localLoop_error h; exact absurd hp (hS p)
  simp only [resolve]
  cases hn : effectiveName e name with
  | none => exact hloc
  | some s =>
    simp only []
    split
    · exact hloc
    · simp only [resolveNamed]
      cases ha : isabs (stripColon s)
      · simp only [Bool.false_eq_true, if_false]
        cases hs : searchLoop e (stripColon s) e.tzpaths with
        | error err => obtain ⟨_, c, _, hc⟩ := searchLoop_error hs; exact absurd hc (hS c)
        | ok o => cases o <;> exact ⟨_, rfl⟩
      · simp only [if_true]
        cases hf : e.isfile (stripColon s)
        · refine ⟨.none, ?_⟩; simp
        · simp only [if_true, hA s hn ha hf]; exact ⟨_, rfl⟩

/-- the two excluded classes, in the model: an absolute path to a non-TZif file raises ValueError,
and a truncated TZif file found on the search path raises struct.error through the handlers -/
example :
    let e : Env := { tzVar := none, tzfiles := [], tzpaths := ["/zi"], isfile := fun p => p == "/etc/hostname" || p == "/zi/Cut",
                     load := fun p => if p == "/zi/Cut" then .structError else .valueError,
                     tzname := [], vendored := fun _ => false, tzstrOk := fun _ => false }
    resolve e (some "/etc/hostname") = .error .valueError ∧ resolve e (some "Cut") = .error .structError := by decide

/-- non-vacuity of the priority theorems: `Europe/Paris` under the second directory, the first
offering only a non-TZif file; `New York` found as `New_York`; `UTC+3` falling through to tzstr;
`UTC` without a file giving the constant; `TZ=XYZ3QRS` making `XYZ` local; an unknown name `None` -/
example :
    let e : Env := { tzVar := some "Europe/Paris", tzfiles := ["/etc/localtime"], tzpaths := ["/a", "/b"],
                     isfile := fun p => p == "/a/Europe/Paris" || p == "/b/Europe/Paris" || p == "/b/New_York",
                     load := fun p => if p == "/a/Europe/Paris" then .valueError else .ok,
                     tzname := ["XYZ", "QRS"], vendored := fun n => n == "Vend", tzstrOk := fun s => s == "UTC+3" }
    resolve e none = .ok (.file "/b/Europe/Paris") ∧ resolve e (some "New York") = .ok (.file "/b/New_York") ∧
    resolve e (some "UTC+3") = .ok (.tzstr "UTC+3") ∧ resolve e (some "UTC") = .ok .utc ∧
    resolve e (some "XYZ") = .ok .localZone ∧ resolve e (some "Nowhere") = .ok .none ∧
    resolve e (some "A1") = .ok .none ∧ resolve e (some "Vend") = .ok (.vendored "Vend") ∧
    resolve e (some ":") = .ok .localZone := by decide

/-- (definitional: an unfolding of `Gettz.resolve`; a readable restatement of the model, tied to the code
by `gettz.resolve`, not a deep fact) link to the factory model: `GettzFunc.__call__` stores a result in its maps exactly when a name was
given and the resolution is neither `None` nor a tzlocal (class 0 = `Res.zone` of Model/Factory.lean,
1 = `Res.uncached`, 2 = `Res.none`; the factory theorems hold for every assignment of classes to keys) -/
theorem gettz_caches_exactly (name : Option String) (r : Resolution) :
    (cacheClass name r = 0 ↔ name ≠ none ∧ r ≠ .none ∧ r ≠ .localZone) ∧
    (cacheClass name r = 2 ↔ r = .none) := by
  cases r <;> cases name <;> simp [cacheClass]

end Resolve


/-! ### copies and pickles (Model/Reduce.lean) -/
section ReduceModel
open Reduce

/-- What pickle (any protocol 0..5), copy.copy and copy.deepcopy rebuild has, for EVERY attribute
    name, the value the original has: the state travels whole (`__dict__`), nothing is re-derived from the environment
    (no `__init__`, no factory call) except `tzfile._filename`, which the state then overrides with the same value. -/
theorem reduce_roundtrip_dict (p : Nat) (o : Obj) (r : Reduced) (h : reduce p o = some r) (k : String) :
    lookup k (rebuild r).dict = lookup k o.dict := by
  unfold reduce at h
  cases hc : o.cls <;> simp only [hc] at h
  case tzfile =>
    cases hf : lookup "_filename" o.dict with
    | none => simp [hf] at h
    | some fn =>
        simp only [hf, Option.map_some, Option.some.injEq] at h
        subst h
        simp only [rebuild, update, lookup_append, lookup]
        by_cases hk : "_filename" = k
        · subst hk; simp [hf]
        · simp [hk]
  all_goals
    simp only [Option.some.injEq] at h
    subst h
    split <;> simp [rebuild, update, lookup_append, lookup]

/-- Copies and pickles have the class of the original and compare equal to it
    (`__eq__` reads only attributes, and every attribute survives). -/
theorem reduce_roundtrip_eq (p : Nat) (o : Obj) (r : Reduced) (h : reduce p o = some r) :
    (rebuild r).cls = o.cls ∧ objEq (rebuild r) o = true := by
  have hd := reduce_roundtrip_dict p o r h
  have hcls : (rebuild r).cls = o.cls := by
    unfold reduce at h
    cases hc : o.cls <;> simp only [hc] at h
    case tzfile =>
      cases hf : lookup "_filename" o.dict with
      | none => simp [hf] at h
      | some fn => simp only [hf, Option.map_some, Option.some.injEq] at h; subst h; rfl
    all_goals
      simp only [Option.some.injEq] at h
      subst h
      split <;> rfl
  refine ⟨hcls, ?_⟩
  simp only [objEq, hcls, beq_self_eq_true, Bool.true_and, List.all_eq_true, beq_iff_eq]
  intro k _
  exact hd k

/-- reduction fails only for a tzfile object without `_filename` (AttributeError) -/
theorem reduce_total (p : Nat) (o : Obj) (h : o.cls = .tzfile → (lookup "_filename" o.dict).isSome = true) :
    (reduce p o).isSome = true := by
  unfold reduce
  cases hc : o.cls <;> simp
  have := h hc
  cases hf : lookup "_filename" o.dict <;> simp_all

/-! non-vacuity: a tzfile object (three compared attributes + `_filename` + an attribute `__eq__` ignores) and a tzrange -/
def exF : Obj := ⟨.tzfile, [("_filename", 7), ("_trans_list", 1), ("_trans_idx", 2), ("_ttinfo_list", 3), ("_ttinfo_std", 4)]⟩
example : (reduce 2 exF).map (fun r => (rebuild r).dict) =
    some [("_filename", 7), ("_trans_list", 1), ("_trans_idx", 2), ("_ttinfo_list", 3), ("_ttinfo_std", 4), ("_filename", 7)] := by decide
example : (reduce 0 ⟨.tzoffset, [("_name", 1), ("_offset", 3600)]⟩).map (fun r => objEq (rebuild r) ⟨.tzoffset, [("_name", 1), ("_offset", 3600)]⟩) = some true := by decide
example : objEq ⟨.tzoffset, [("_offset", 1)]⟩ ⟨.tzoffset, [("_offset", 2)]⟩ = false := by decide


end ReduceModel

end C18
