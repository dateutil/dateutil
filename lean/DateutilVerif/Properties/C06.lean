/-
  Properties/C06.lean — tzfile reports exactly what the TZif data says.

  `r : Raw` is any decoded version-1 block (any number of transitions and types), `build r` the
  zone object `_read_tzfile` makes of it, `Spec.typeAt r t` the type of the last transition ≤ t
  (first standard type, else type 0, before the first).  `Spec.wf r`: valid type indices, at least
  one type, strictly increasing transitions whose wall-clock set-backs do not overlap.

  Proved for ALL well-formed tables with at least one transition and ALL instants before the last
  recorded transition (instants at or after it are outside the property: the code answers
  `ttinfo_std` there; C04 covers them when that is the last transition's type).

  `decode_encode`: the model decoder inverts the tzfile(5) encoder of the spec on every table
  within the format's ranges (`RawWF`).  `eq_of_same_data`: `tzfile.__eq__` (which compares
  trans_list, trans_idx and ttinfo_list only) holds exactly when the two built objects are equal in
  every component, so equal zones answer every query identically.
-/
import DateutilVerif.Proofs.ZonesBuild
import DateutilVerif.Proofs.DecodeEncode
import DateutilVerif.Proofs.EqData

namespace C06
open TZ Spec

/-- **lookup_exact.** Before the last transition `u`, converting the UTC instant `t` adds the
    offset of the data's type in force, and the converted datetime reports exactly that type's
    offset and abbreviation. (`t < first` is included: `typeAt` is then the first standard type.) -/
theorem lookup_exact (r : Raw) (hwf : Spec.wf r = true) (t u : Int)
    (hlast : lastTime r = some u) (h2 : t < u) :
    ∃ w ty, fromutc (build r) t = .ok w ∧ typeAt r t = some ty ∧ w.wall = t + ty.off ∧
      utcoffset (build r) w = .ok ty.off ∧ tzname (build r) w = .ok (some ty.abbr) :=
  lookup_before_last r hwf t u hlast h2

/-- Before the first transition the data's first standard type (else type 0) is the type in force … -/
theorem typeAt_before_first (r : Raw) (t u0 : Int) (hwf : Spec.wf r = true)
    (hfirst : firstTime r = some u0) (h : t < u0) : typeAt r t = firstType r := by
  have hne : r.trans ≠ [] := by intro h; simp [firstTime, h] at hfirst
  obtain ⟨b, s, f, hf, hfb, hc, hw⟩ := build_coherent r hwf hne
  have hb := bisectRight_spec t (hc.utc_sorted hw)
  have hutc : (build r).utc = r.trans.map (fun p => p.1) := rfl
  have h0 : bisectRight (build r).utc t = 0 := by
    apply bisectRight_eq (hc.utc_sorted hw)
    refine ⟨by omega, by intro i hi; omega, ?_⟩
    intro i _ hi
    have hs := hc.utc_sorted hw
    have e0 : (build r).utc.getD 0 0 = u0 := by
      rw [hutc]; unfold firstTime at hfirst
      cases hl : r.trans with
      | nil => exact absurd hl hne
      | cons p q => rw [hl] at hfirst; simp at hfirst; simp [hfirst]
    by_cases e : i = 0
    · subst e; omega
    · have := hs 0 i (by omega) hi; omega
  unfold typeAt
  rw [filter_le_eq_take r.trans t 0 (by rw [← hutc, ← h0]; exact hb)]
  simp

/-- **before_first.** … and the zone reports it (offset and abbreviation), cf. `lookup_exact`. -/
theorem before_first (r : Raw) (hwf : Spec.wf r = true) (t u0 u : Int)
    (hfirst : firstTime r = some u0) (h : t < u0) (hlast : lastTime r = some u) (h2 : t < u) :
    ∃ w ty, fromutc (build r) t = .ok w ∧ firstType r = some ty ∧ w.wall = t + ty.off ∧
      utcoffset (build r) w = .ok ty.off ∧ tzname (build r) w = .ok (some ty.abbr) := by
  obtain ⟨w, ty, h1, h3, h4, h5, h6⟩ := lookup_exact r hwf t u hlast h2
  rw [typeAt_before_first r t u0 hwf hfirst h] at h3
  exact ⟨w, ty, h1, h3, h4, h5, h6⟩

/-- **dst_zero_on_standard.** Wherever the data marks standard time, `dst()` is zero. -/
theorem dst_zero_on_standard (r : Raw) (hwf : Spec.wf r = true) (t u : Int)
    (hlast : lastTime r = some u) (h2 : t < u) (ty : TType) (hty : typeAt r t = some ty)
    (hstd : ty.isdst = 0) :
    ∃ w, fromutc (build r) t = .ok w ∧ dst (build r) w = .ok 0 := by
  have hne : r.trans ≠ [] := by intro h; simp [lastTime, h] at hlast
  obtain ⟨b, s, f, hf, hfb, hc, hw⟩ := build_coherent r hwf hne
  have hlt := bisect_lt_of_lt_last r hc hw t u hlast h2
  obtain ⟨w, hw1, _, hw3⟩ := hc.findTtinfo_fromutc hw t (Or.inl hlt)
  obtain ⟨ty', hty', hrel⟩ := typeAt_rel r hwf hf hfb hc hw t hlt
  rw [hty] at hty'
  cases Option.some.inj hty'
  refine ⟨w, hw1, ?_⟩
  unfold dst
  cases (build r).dst with
  | none => rfl
  | some d =>
      simp only [hw3]
      have : (ttOf (build r) b s (bisectRight (build r).utc t)).isdst = 0 := by rw [← hrel.2.1]; exact hstd
      simp [this]

/-- **decode_encode.** For every raw table within the ranges of the format (32-bit instants and
    offsets, byte-sized isdst and type indices, NUL-free ASCII abbreviations whose table has at
    most 256 bytes so that every start index fits the UNSIGNED `tt_abbrind` byte), decoding the
    canonical version-1 stream written from tzfile(5) (no leap records, one private NUL-terminated
    abbreviation per type, full isstd/isgmt arrays, no trailer) gives the table back.  Shared /
    suffix abbreviation indices, leap records, short flag arrays and v2+ trailers are outside the
    encoder's image; for them `decode` is tied by the per-run differential dump only. -/
theorem decode_encode (r : Raw) (h : RawWF r) : decode (encode r) = .ok r :=
  TZ.decode_encode r h

/-- **eq_of_same_data.** `tzfile.__eq__` ⇔ the two objects agree in every component
    (UTC list, both wall lists, std/dst/before included).  The one idea: `trans_list = utc + adj` where `adj` depends
    only on the transition types, so equal `trans_list` and equal types give equal `utc`; everything else is assembled
    from `utc`, the transition types and the type list. -/
theorem eq_of_same_data (r r' : Raw) : tzEq (build r) (build r') = true ↔ build r = build r' := by
  constructor
  · intro h
    simp only [tzEq, Bool.and_eq_true, beq_iff_eq] at h
    obtain ⟨⟨h1, h2⟩, h3⟩ := h
    obtain ⟨l1, t1⟩ := build_lengths r
    obtain ⟨l2, t2⟩ := build_lengths r'
    have hutc : (build r).utc = (build r').utc := by
      rw [t1, t2, ← h2] at h1
      apply zipWith_add_inj _ _ _ _ _ h1
      · simp [dstLoop_length, l1]
      · simp [dstLoop_length, l2, h2]
    rw [build_eq_assemble r, build_eq_assemble r', hutc, h2, h3]
  · intro h; rw [h]; simp [tzEq]

/-- equal zones answer identically (corollary, spelled out for `fromutc`, `utcoffset`, `tzname`, `dst`) -/
theorem eq_same_answers (r r' : Raw) (h : tzEq (build r) (build r') = true) (t : Int) (w : Wall) :
    fromutc (build r) t = fromutc (build r') t ∧ utcoffset (build r) w = utcoffset (build r') w ∧
    tzname (build r) w = tzname (build r') w ∧ dst (build r) w = dst (build r') w := by
  rw [(eq_of_same_data r r').mp h]; exact ⟨rfl, rfl, rfl, rfl⟩

/-! non-vacuity: a two-type table (standard +0 "A", daylight +3600 "B") with three transitions -/
def exR : Raw :=
  { trans := [(1000000, 1), (2000000, 0), (3000000, 1)],
    types := [⟨0, 0, [65], false, false, 0⟩, ⟨3600, 1, [66], false, false, 0⟩] }
example : Spec.wf exR = true := by decide
example : lastTime exR = some 3000000 := by decide
example : fromutc (build exR) 1500000 = .ok ⟨1503600, false⟩ := by decide
example : fromutc (build exR) 2000100 = .ok ⟨2000100, true⟩ := by decide
example : typeAt exR 1500000 = some ⟨3600, 1, [66], false, false, 0⟩ := by decide

example : RawWF exR := by
  refine ⟨by decide, ?_, ?_, by decide⟩
  · intro p hp; simp only [exR, List.mem_cons, List.not_mem_nil, or_false] at hp
    rcases hp with e | e | e <;> subst e <;> simp [In32, exR]
  · intro t ht; simp only [exR, List.mem_cons, List.not_mem_nil, or_false] at ht
    rcases ht with e | e <;> subst e <;> simp [TypeOK, In32]
example : (encode exR).length = 44 + 12 + 3 + 12 + 4 + 2 + 2 := by decide

end C06
