/-
  Properties/C12.lean — recurrence queries agree with the listed sequence.

  `L` is the (arbitrary, finite, strictly increasing) list the recurrence yields; `gen q L` is
  the query evaluated through `iter(self)` with the loops and early exits of rrule.py
  (generator path: cache off, or cache on but not complete); `fast q L` is the query on the
  cache-complete path (`self._cache[...]`, `item in self._cache`, loops over `self._cache`);
  `spec q L` is Python list semantics (`Py.getIdx`, `Py.slice`, list filters).
  All statements are for every list / every argument; sortedness is the only hypothesis and is
  used exactly where the source exits a loop early.

  `replace()`: for the rule `r = construct a` built by C01's constructor model from the arguments `a`,
  `r.replace(**kw)` is the constructor applied to the recorded arguments `origArgs a r` (C01's model
  of `_original_rule` + the scalar attributes, tied to the real object by the `rrule.orig` op) with
  exactly the named parameters overridden (`replace_is_construct_of_recorded_args`,
  `replace_named_only_orig`), and with no keyword it is `r` itself (`replace_nothing_id`, from
  C01's `construct_origArgs`; the literal `bysetpos=()` is the one excluded input — stored as `()`,
  not recorded, rebuilt as `None`: same occurrences, different attribute).  `query.replace` ties
  this to the code from the ORIGINAL constructor arguments.
  Of the six `replace` statements only `replace_nothing_id` has proof content; the others are `rfl`
  and are marked "(definitional)".  NOT proved — the user-level statement
      construct a = .ok r → replace a r kw ≈ construct (merge a kw)
  ("the rule you would have built with the merged ORIGINAL arguments", on the fields that determine the
  occurrences).  It needs `construct (merge (origArgs a r) kw) ≈ construct (merge a kw)`, i.e. that every
  normalisation of the constructor commutes with overriding other keywords (e.g. the byhour
  reachability filter depends on freq/interval; derived weekday / month day on dtstart) — a family of
  `construct_origArgs`-style lemmas per keyword that is not written.  On the implementation this is
  exactly what the oracle checks (`oracle_replace`: `r.replace(**kw)` vs the rule built from the merged
  original keywords, through the instants both yield) and what `query.replace` ties to the model.
-/
import DateutilVerif.Proofs.Queries
import DateutilVerif.Proofs.Islice
import DateutilVerif.Proofs.QueryStops
import DateutilVerif.Model.RRuleReplace
import DateutilVerif.Generated.ReplaceProgram
import DateutilVerif.Proofs.ScanPy
import DateutilVerif.Proofs.RRuleReplaceOrig

namespace C12
open Queries Py

/-- `rule[i] = L[i]` for every integer index, `IndexError` exactly when `L[i]` raises — both paths. -/
theorem getitem_index (L : List Int) (i : Int) :
    gen (.index i) L = .ofR (getIdx L i) ∧ fast (.index i) L = .ofR (getIdx L i) := by
  refine ⟨?_, rfl⟩
  simp only [gen]
  by_cases h : i ≥ 0
  · rw [if_pos h, nthNext_getIdx L i h]
  · rw [if_neg h]

/-- `rule[a:b:c] = L[a:b:c]` for ALL `a b c ∈ Option Int` — negative, zero (`ValueError` exactly for
    step 0), `None`, and arbitrarily large (bounds above `sys.maxsize` are clamped before `islice`,
    fix a0cc6d1) — on both paths.  `hlen`: the sequence is one that can exist in CPython (no Python
    sequence is longer than `sys.maxsize`; it is only used when a bound exceeds `sys.maxsize`, and the
    model's lists, unlike Python's, are unbounded). -/
theorem getitem_slice (L : List Int) (hlen : (L.length : Int) ≤ maxsize) (a b c : Option Int) :
    gen (.slice a b c) L = .ofRL (Py.slice L a b c) ∧ fast (.slice a b c) L = .ofRL (Py.slice L a b c) :=
  ⟨gen_slice_eq L a b c (Or.inr hlen), rfl⟩

/-- … and with no condition on `L` for bounds up to `sys.maxsize` -/
theorem getitem_slice_small (L : List Int) (a b c : Option Int) (hsmall : small (.slice a b c) = true) :
    gen (.slice a b c) L = .ofRL (Py.slice L a b c) ∧ fast (.slice a b c) L = .ofRL (Py.slice L a b c) :=
  ⟨gen_slice_eq L a b c (Or.inl hsmall), rfl⟩

-- bounds of 2^63 and beyond: clamped, list semantics on both paths (`islice` alone raises ValueError there: the clamp is fix a0cc6d1)
example : gen (.slice (some 0) (some 9223372036854775808) none) [0, 1, 2] = .list [0, 1, 2] ∧
          gen (.slice (some 1) none (some 18446744073709551616)) [0, 1, 2] = .list [1] ∧
          gen (.slice (some 9223372036854775808) none none) [0, 1, 2] = .list [] ∧
          fast (.slice (some 0) (some 9223372036854775808) none) [0, 1, 2] = .list [0, 1, 2] := by decide

/-- `x in rule ↔ x ∈ L` — the early exit of the generator path needs sortedness only. -/
theorem contains_iff (L : List Int) (hL : Sorted L) (x : Int) :
    gen (.contains x) L = .bool (decide (x ∈ L)) ∧ fast (.contains x) L = .bool (decide (x ∈ L)) := by
  refine ⟨?_, ?_⟩
  · simp only [gen, containsLoop_eq x L hL]
  · simp [fast, List.elem_eq_mem]

theorem count_eq_length (L : List Int) : gen .count L = .nat L.length ∧ fast .count L = .nat L.length :=
  ⟨rfl, rfl⟩

/-- `after(t, inc)` = first element `> t` (`≥ t` with inc), `None` when absent. -/
theorem after_spec (L : List Int) (t : Int) (inc : Bool) :
    gen (.after t inc) L = .val (firstAfter L t inc) ∧ fast (.after t inc) L = .val (firstAfter L t inc) := by
  simp only [gen, fast, afterLoop_eq, and_self]

/-- `before(t, inc)` = last element `< t` (`≤ t` with inc), `None` when absent. -/
theorem before_spec (L : List Int) (hL : Sorted L) (t : Int) (inc : Bool) :
    gen (.before t inc) L = .val (lastBefore L t inc) ∧ fast (.before t inc) L = .val (lastBefore L t inc) := by
  simp only [gen, fast, beforeLoop_eq t inc L none hL, lastBefore, Option.or_none, and_self]

/-- `between(a, b, inc)` = the sublist strictly (inclusively) between a and b. -/
theorem between_spec (L : List Int) (hL : Sorted L) (a b : Int) (inc : Bool) :
    gen (.between a b inc) L = .list (sublistBetween L a b inc) ∧
    fast (.between a b inc) L = .list (sublistBetween L a b inc) := by
  simp only [gen, fast, betweenLoop_eq a b inc L false hL (by simp), sublistBetween, and_self]

/-- `xafter(t, n, inc)` = the first n elements after t (all for `None`, none for n ≤ 0). -/
theorem xafter_spec (L : List Int) (t : Int) (n : Option Int) (inc : Bool) :
    gen (.xafter t n inc) L = .list (takeAfter L t n inc) ∧
    fast (.xafter t n inc) L = .list (takeAfter L t n inc) := by
  cases n with
  | none => simp only [gen, fast, xafterLoop_none, takeAfter, and_self]
  | some c => simp only [gen, fast, xafterLoop_some t c inc L 0 (by omega), takeAfter, Int.sub_zero, and_self]

/-- every query equals its list specification on the generator path … -/
theorem gen_eq_spec (q : Query) (L : List Int) (hL : Sorted L) (hfits : fits q L) : gen q L = spec q L := by
  cases q with
  | iterAll => rfl
  | take k => simp only [gen, spec, islice_take L k hfits, Res.ofRL]
  | index i => exact (getitem_index L i).1
  | slice a b c => exact gen_slice_eq L a b c hfits
  | contains x => exact (contains_iff L hL x).1
  | count => rfl
  | before t inc => exact (before_spec L hL t inc).1
  | after t inc => exact (after_spec L t inc).1
  | xafter t n inc => exact (xafter_spec L t n inc).1
  | between a b inc => exact (between_spec L hL a b inc).1

/-- … and on the cache-complete path -/
theorem fast_eq_spec (q : Query) (L : List Int) (hL : Sorted L) (hfits : fits q L) : fast q L = spec q L := by
  cases q with
  | iterAll => rfl
  | take k => simp only [fast, spec, islice_take L k hfits, Res.ofRL]
  | index i => exact (getitem_index L i).2
  | slice a b c => rfl
  | contains x => exact (contains_iff L hL x).2
  | count => rfl
  | before t inc => exact (before_spec L hL t inc).2
  | after t inc => exact (after_spec L t inc).2
  | xafter t n inc => exact (xafter_spec L t n inc).2
  | between a b inc => exact (between_spec L hL a b inc).2

/-- answers do not depend on whether the cache-complete fast path or the generator path is taken -/
theorem query_cache_independent (q : Query) (L : List Int) (hL : Sorted L) (hfits : fits q L) :
    gen q L = fast q L := by
  rw [gen_eq_spec q L hL hfits, fast_eq_spec q L hL hfits]

/-- a consumer that dropped its iterator early (after the values `ys`, a prefix of `L`) already has
    the specified answer: the early exits never lose information -/
theorem early_exit_sound (q : Query) (ys zs : List Int) (hL : Sorted (ys ++ zs)) (h : stops q ys = true)
    (hfits : fits q (ys ++ zs)) : gen q ys = spec q (ys ++ zs) := by
  rw [← gen_stops q ys zs h, gen_eq_spec q _ hL hfits]

/-- (definitional: `rfl`) `r.replace(**kw)` is the constructor applied to the recorded arguments updated
    by the named parameters (rrule.py 772-781: three dict operations and a constructor call). -/
theorem replace_spec (orig : RRule.Args) (kw : RRule.Kw) :
    RRule.replaceFrom orig kw = RRule.construct (RRule.merge orig kw) := rfl

/-- (definitional: `rfl` per field) a rule differing ONLY in the named parameters: every keyword that is not passed keeps the
    recorded value, every keyword that is passed takes the given one -/
theorem replace_named_only (o : RRule.Args) (kw : RRule.Kw) :
    let m := RRule.merge o kw
    m.freq = kw.freq.getD o.freq ∧ m.dtstart = kw.dtstart.getD o.dtstart ∧ m.tz = kw.tz.getD o.tz ∧
    m.interval = kw.interval.getD o.interval ∧ m.wkst = kw.wkst.getD o.wkst ∧ m.count = kw.count.getD o.count ∧
    m.untilDT = kw.untilDT.getD o.untilDT ∧ m.bysetpos = kw.bysetpos.getD o.bysetpos ∧
    m.bymonth = kw.bymonth.getD o.bymonth ∧ m.bymonthday = kw.bymonthday.getD o.bymonthday ∧
    m.byyearday = kw.byyearday.getD o.byyearday ∧ m.byeaster = kw.byeaster.getD o.byeaster ∧
    m.byweekno = kw.byweekno.getD o.byweekno ∧ m.byweekday = kw.byweekday.getD o.byweekday ∧
    m.byhour = kw.byhour.getD o.byhour ∧ m.byminute = kw.byminute.getD o.byminute ∧
    m.bysecond = kw.bysecond.getD o.bysecond :=
  ⟨rfl, rfl, rfl, rfl, rfl, rfl, rfl, rfl, rfl, rfl, rfl, rfl, rfl, rfl, rfl, rfl, rfl⟩

/-- (definitional: `rfl`) `r.replace()` with no keyword re-runs the constructor on the recorded arguments -/
theorem replace_nothing (o : RRule.Args) : RRule.replaceFrom o {} = RRule.construct o := rfl

/-- **replace = construct (recorded args ⊕ kw)** (definitional: `rfl` — the method IS three dict updates
    and a constructor call; the content is in `origArgs` and `replace_nothing_id`), the recorded arguments being derived from the
    constructor model, not an input: for the rule `r` built from `a`, `r.replace(**kw)` is the
    constructor applied to `origArgs a r` updated by the named parameters. -/
theorem replace_is_construct_of_recorded_args (a : RRule.Args) (r : RRule.Rule) (kw : RRule.Kw) :
    RRule.replace a r kw = RRule.construct (RRule.merge (RRule.origArgs a r) kw) := rfl

/-- `r.replace()` returns a rule equal to `r`, field for field (every argument set except the
    literal `bysetpos=()`). -/
theorem replace_nothing_id (a : RRule.Args) (r : RRule.Rule) (h : RRule.construct a = .ok r)
    (hsp : a.bysetpos ≠ some []) : RRule.replace a r {} = .ok r :=
  RRule.replace_nothing_id a r h hsp

/-- (definitional) **differs only in the named parameters**, phrased on the rule: the arguments `r.replace(**kw)`
    hands to the constructor are those `r.replace()` would hand over (which rebuild `r`, above),
    except that every keyword passed takes the given value. -/
theorem replace_named_only_orig (a : RRule.Args) (r : RRule.Rule) (kw : RRule.Kw) :
    let o := RRule.origArgs a r
    let m := RRule.merge o kw
    RRule.replace a r kw = RRule.construct m ∧
    m.freq = kw.freq.getD o.freq ∧ m.dtstart = kw.dtstart.getD o.dtstart ∧ m.tz = kw.tz.getD o.tz ∧
    m.interval = kw.interval.getD o.interval ∧ m.wkst = kw.wkst.getD o.wkst ∧ m.count = kw.count.getD o.count ∧
    m.untilDT = kw.untilDT.getD o.untilDT ∧ m.bysetpos = kw.bysetpos.getD o.bysetpos ∧
    m.bymonth = kw.bymonth.getD o.bymonth ∧ m.bymonthday = kw.bymonthday.getD o.bymonthday ∧
    m.byyearday = kw.byyearday.getD o.byyearday ∧ m.byeaster = kw.byeaster.getD o.byeaster ∧
    m.byweekno = kw.byweekno.getD o.byweekno ∧ m.byweekday = kw.byweekday.getD o.byweekday ∧
    m.byhour = kw.byhour.getD o.byhour ∧ m.byminute = kw.byminute.getD o.byminute ∧
    m.bysecond = kw.bysecond.getD o.bysecond :=
  ⟨rfl, replace_named_only (RRule.origArgs a r) kw⟩

/-! ### the query methods read from the source

`Gen.rrbase_*` (Generated/RRBaseQueries.lean) are `rrulebase.__contains__`, `before`, `after`, `xafter`, `between`, `count`
and `__getitem__` as `harness/translate_rrbase.py` parses them from /repo's working tree on every run: the loop bodies
statement by statement, the `if inc:` split, the source selection, the returned value; for `__getitem__` the conditions
of the list path, the clamp, the argument order of `islice`, the `next()` loop and its handler.  `ScanPy.run*`
(Model/ScanPy.lean) is their meaning.  `gen_*_eq_model`: on EVERY sequence and argument the translated method equals the
loops of Model/Queries.lean — the generator path (`gen`) and the cache-complete path (`fast`) — so every theorem above
(`getitem_index`, `getitem_slice`, `contains_iff`, `count_eq_length`, `before_spec`, … and C11's `finished_answer`) holds of
the code as written; a changed comparison, branch order, constant or statement breaks the obligation of that method (or the
translation) on the next run.  Validated against the implementation by `query.tgen` / `query.tfast`. -/
section Translated
open ScanPy

theorem runFast_select (m : Method) (e : Env) (L : List Int) (hs : m.source = .select) : runFast m e L = runGen m e L := by
  simp [runFast, runGen, hs]

theorem gen_before_eq_model (t : Int) (inc : Bool) (L : List Int) :
    runGen Gen.rrbase_before { dt := t, inc := inc } L = gen (.before t inc) L ∧
    runFast Gen.rrbase_before { dt := t, inc := inc } L = fast (.before t inc) L := by
  have key : runGen Gen.rrbase_before { dt := t, inc := inc } L = gen (.before t inc) L := by
    have h : runLoop Gen.rrbase_before { dt := t, inc := inc } (bodyOf Gen.rrbase_before { dt := t, inc := inc }) L {} =
        (none, { last := beforeLoop t inc L none }) := by cases inc <;> exact before_loop _ L {} _ t _ fun _ => rfl
    unfold runGen; rw [h]; rfl
  exact ⟨key, (runFast_select _ _ _ rfl).trans key⟩

theorem gen_after_eq_model (t : Int) (inc : Bool) (L : List Int) :
    runGen Gen.rrbase_after { dt := t, inc := inc } L = gen (.after t inc) L ∧
    runFast Gen.rrbase_after { dt := t, inc := inc } L = fast (.after t inc) L := by
  have key : runGen Gen.rrbase_after { dt := t, inc := inc } L = gen (.after t inc) L := by
    have h : runLoop Gen.rrbase_after { dt := t, inc := inc } (bodyOf Gen.rrbase_after { dt := t, inc := inc }) L {} =
        ((afterLoop t inc L).map fun v => Res.val (some v), {}) := by
      cases inc <;> exact after_loop _ L {} _ t _ fun _ => rfl
    unfold runGen; rw [h]; simp only [gen]; cases afterLoop t inc L <;> rfl
  exact ⟨key, (runFast_select _ _ _ rfl).trans key⟩

theorem gen_between_eq_model (a b : Int) (inc : Bool) (L : List Int) :
    runGen Gen.rrbase_between { after := a, before := b, inc := inc } L = gen (.between a b inc) L ∧
    runFast Gen.rrbase_between { after := a, before := b, inc := inc } L = fast (.between a b inc) L := by
  have key : runGen Gen.rrbase_between { after := a, before := b, inc := inc } L = gen (.between a b inc) L := by
    cases inc <;> exact finish_acc _ (between_loop _ L {} _ _ a b _ (fun _ => rfl) fun _ => rfl).1
      (between_loop _ L {} _ _ a b _ (fun _ => rfl) fun _ => rfl).2 (.inl rfl)
  exact ⟨key, (runFast_select _ _ _ rfl).trans key⟩

theorem gen_xafter_eq_model (t : Int) (n : Option Int) (inc : Bool) (L : List Int) :
    runGen Gen.rrbase_xafter { dt := t, count := n, inc := inc } L = gen (.xafter t n inc) L ∧
    runFast Gen.rrbase_xafter { dt := t, count := n, inc := inc } L = fast (.xafter t n inc) L := by
  have key : runGen Gen.rrbase_xafter { dt := t, count := n, inc := inc } L = gen (.xafter t n inc) L := by
    obtain ⟨h1, h2⟩ := xafter_loop Gen.rrbase_xafter L {} t n inc fun _ => by cases inc <;> rfl
    exact finish_acc _ h1 h2 (.inr rfl)
  exact ⟨key, (runFast_select _ _ _ rfl).trans key⟩

theorem gen_contains_eq_model (x : Int) (L : List Int) :
    runGen Gen.rrbase_contains { item := x } L = gen (.contains x) L ∧
    runFast Gen.rrbase_contains { item := x } L = fast (.contains x) L := by
  have h := contains_aux x L {}
  constructor
  · unfold runGen; rw [h]; simp only [gen]
    cases containsLoop x L <;> simp only [Bool.false_eq_true, ↓reduceIte, finish, Gen.rrbase_contains]
    by_cases hany : (L.any fun i => decide (i > x)) = true <;> simp [hany]
  · simp [runFast, Gen.rrbase_contains, fast]

theorem gen_count_eq_model (len : Option Nat) (L : List Int) (hlen : len = none ∨ len = some L.length) :
    runCount Gen.rrbase_count len L = some (gen .count L) ∧ runCount Gen.rrbase_count len L = some (fast .count L) := by
  rcases hlen with rfl | rfl <;> simp [runCount, Gen.rrbase_count, gen, fast]

theorem gen_getitem_eq_model (L : List Int) :
    (∀ i, runIndexGen Gen.rrbase_getitem L i = some (gen (.index i) L)) ∧
    (∀ i, runIndexFast Gen.rrbase_getitem L i = some (fast (.index i) L)) ∧
    (∀ a b c, runSliceGen Gen.rrbase_getitem L a b c = some (gen (.slice a b c) L)) ∧
    (∀ a b c, runSliceFast Gen.rrbase_getitem L a b c = some (fast (.slice a b c) L)) := by
  refine ⟨fun i => ?_, fun i => ?_, fun a b c => ?_, fun a b c => ?_⟩
  · by_cases h : i ≥ 0 <;> simp [runIndexGen, Gen.rrbase_getitem, evalCmp, gen, h]
  · simp [runIndexFast, Gen.rrbase_getitem, fast]
  · have hp : ([(Field.step, Cmp.le, (0:Int)), (Field.start, Cmp.lt, 0), (Field.stop, Cmp.lt, 0)].any (condHolds a b c)) = sliceListPath a b c := by
      have e1 : ∀ v : Int, decide (v ≤ 0) = decide (v < 1) := fun v => by
        by_cases h : v ≤ 0 <;> simp [h] <;> omega
      cases a <;> cases b <;> cases c <;> simp [condHolds, fieldOf, evalCmp, sliceListPath, optLt, e1, Bool.or_comm, Bool.or_assoc, Bool.or_left_comm]
    simp only [runSliceGen, Gen.rrbase_getitem, hp, gen]
    split <;> simp [fieldOf]
  · simp [runSliceFast, Gen.rrbase_getitem, fast]

end Translated

/-! ### `replace` read from the source

`Gen.replaceProgram` (Generated/ReplaceProgram.lean) is the statement shape of `rrule.replace` as
`harness/translate_replace.py` reads it from /repo's working tree on every run: the keys of the dictionary
literal with the attribute each is filled from, the `update` calls in order, the constructor called.
`ReplacePy.run` gives it its meaning over keyword dictionaries. -/

theorem orElse_getD {α} (e : Option α) (x y : α) : (e.orElse (fun _ => some x)).getD y = e.getD x := by cases e <;> rfl

/-- The method AS TRANSLATED FROM THE SOURCE hands the constructor exactly the
    recorded arguments with the named parameters overridden: for every argument set `a`, rule `r` and keywords `kw`,
    running the translated program on `r`'s attributes, `r`'s `_original_rule` and `kw` and calling the constructor it
    names is `construct (merge (origArgs a r) kw)` — the hand model `RRule.replace` that all theorems above are about.
    With C01's `construct_origArgs` (`replace_nothing_id` above: `merge (origArgs a r) {}` rebuilds `r`) this is "a rule
    differing only in the named parameters" for the code as it stands: a changed key, attribute, order of the
    two `update` calls or constructor breaks THIS obligation (or the translation) on the next run.
    `_partial`: FULL statement = the same with `_original_rule` also read from the source.  What is missing: the
    bookkeeping statements of `rrule.__init__` that fill `_original_rule` (a dozen assignments spread over the
    constructor's branches) are not translated; `ReplacePy.recordedKw` takes them from the hand model
    `RRule.origArgs` (C01), tied to the code by the `query.replace` / `query.replace_rec` / `query.replace_gen`
    correspondence (the last two read `_original_rule` off the real object). -/
theorem replace_eq_construct_partial (a : RRule.Args) (r : RRule.Rule) (kw : RRule.Kw) :
    ReplacePy.replaceGen Gen.replaceProgram a r kw = some (RRule.construct (RRule.merge (RRule.origArgs a r) kw)) ∧
    ReplacePy.replaceGen Gen.replaceProgram a r kw = some (RRule.replace a r kw) := by
  have h : ReplacePy.replaceGen Gen.replaceProgram a r kw = some (RRule.construct (RRule.merge (RRule.origArgs a r) kw)) := by
    unfold ReplacePy.replaceGen
    simp only [Gen.replaceProgram, ReplacePy.run, ReplacePy.literalKw, ReplacePy.setKey, ReplacePy.applyUpdates, ReplacePy.update,
      ReplacePy.recordedKw, ReplacePy.toArgs, beq_self_eq_true, ↓reduceIte, Option.map_some, Option.bind_some,
      Option.orElse_none, Option.orElse_some]
    cases hf : kw.freq <;> cases hd : kw.dtstart <;> cases ht : kw.tz <;>
      simp [RRule.merge, RRule.origArgs, hf, hd, ht]
  exact ⟨h, h⟩

-- the obligation distinguishes programs: with the two `update` calls swapped a recorded BY part would override the keyword passed
example : (ReplacePy.run { Gen.replaceProgram with updates := [.kwargs, .originalRule] } default
            { bymonth := some (some [3]) } { bymonth := some (some [5]) }).map (·.bymonth) = some (some (some [3])) := by decide
example : (ReplacePy.run Gen.replaceProgram default
            { bymonth := some (some [3]) } { bymonth := some (some [5]) }).map (·.bymonth) = some (some (some [5])) := by decide
-- a key filled from the wrong attribute has no meaning
example : ReplacePy.run { Gen.replaceProgram with literal := [(.interval, .attrCount)] } default {} {} = none := by decide

-- a WEEKLY rule without BYDAY does not record its derived weekday: replace(dtstart=…) moves it
example : (do let a : RRule.Args := { freq := 2, dtstart := ⟨2020, 1, 1, 0, 0, 0, 0⟩ }     -- a Wednesday
              let r ← RRule.construct a
              let r' ← RRule.replace a r { dtstart := some ⟨2020, 1, 3, 0, 0, 0, 0⟩ }      -- a Friday
              pure (r.byweekday, r'.byweekday)) = .ok (some [2], some [4]) := by decide +kernel

-- non-vacuity: a concrete sorted list, both paths, negative indices, slices, early exits
example : Sorted [0, 3, 6, 9, 12] := by decide
example : gen (.slice (some 1) none (some 2)) [0, 3, 6, 9, 12] = .list [3, 9] := by decide
example : gen (.slice (some (-2)) none none) [0, 3, 6, 9, 12] = .list [9, 12] := by decide
example : gen (.slice none none (some 0)) [0, 3, 6] = .err .ValueError := by decide
example : gen (.index (-1)) [0, 3, 6] = .val (some 6) := by decide
example : gen (.index 3) [0, 3, 6] = .err .IndexError := by decide
example : gen (.between 3 9 false) [0, 3, 6, 9, 12] = .list [6] := by decide
example : gen (.before 3 true) [0, 3, 6] = .val (some 3) := by decide
example : stops (.contains 4) [0, 3, 6] = true := by decide
-- sortedness is needed: on an unsorted list the early exit of `in` is wrong
example : gen (.contains 1) [3, 1] ≠ spec (.contains 1) [3, 1] := by decide

end C12
