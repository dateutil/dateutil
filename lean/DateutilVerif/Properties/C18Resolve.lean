/-
  Properties/C18Resolve.lean — the name-resolution cascade of `tz.gettz` is tied to the SOURCE: `Gen.nocache`
  (Generated/GettzNocache.lean) is re-translated from `GettzFunc.nocache` (src/dateutil/tz/tz.py, 62 statements, four `for`
  loops with break / continue / else, five try blocks) by harness/translate_gettz.py on every run, as a function of the
  abstract environment `Gettz.Env` (TZ variable, TZFILES, TZPATHS, `os.path.isfile`, the outcome of `tzfile(path)`,
  `time.tzname`, the vendored database, whether `tzstr.instance` accepts the string).  It is proved EQUAL to the model
  `Gettz.resolve` that C18's theorems (`resolve_*`, `gettz_caches_exactly`, the factory machine's `res`) are about.
-/
import DateutilVerif.Proofs.GettzGenEq

namespace C18
open Gettz

/-- For every environment and every name (None or any str) the translated `nocache` returns what the
    resolution model returns: the same zone description, None, or the same escaping exception kind. -/
theorem gen_nocache_eq_resolve (e : Env) (name : Option String) : Gen.nocache e name = resolve e name :=
  GzG.nocache_eq e name

/-- the four translated loops are the model's loops (what the equality rests on) -/
theorem gen_nocache_loops (e : Env) (name : String) (l : List String) (cs : List Char) (tz0 : Resolution) :
    Gen.nocache_loop2 e l tz0 = GzG.wrapLocal tz0 (localLoop e l) ∧
    Gen.nocache_loop3 e name l tz0 =
      (match searchLoop e name l with
       | .ok (some p) => .ok (true, .file p)
       | .ok none => .ok (false, tz0)
       | .error x => .error x) ∧
    Gen.nocache_loop4 e name cs tz0 =
      (if cs.any GzPy.isDigit = true then .ok (true, (GzPy.tzstrInstance e name).getD tz0) else .ok (false, tz0)) :=
  ⟨GzG.loop2_eq e l tz0, GzG.loop3_eq e name l tz0, GzG.loop4_eq e name cs tz0⟩

/-- hence every resolution fact of C18 holds of the translated cascade, e.g.: with `TZ` set to a non-empty value other than
    ':' the translated `gettz()` / `gettz('')` resolve exactly like `gettz(TZ)` -/
theorem gen_nocache_uses_TZ (e : Env) (v : String) (hv : e.tzVar = some v) (h1 : v ≠ "") :
    Gen.nocache e none = Gen.nocache e (some v) ∧ Gen.nocache e (some "") = Gen.nocache e (some v) := by
  simp only [gen_nocache_eq_resolve]
  have hne : v.isEmpty = false := by
    cases hh : v.isEmpty
    · rfl
    · exact absurd ((GzG.isEmpty_iff v).1 hh) h1
  constructor <;> simp [resolve, effectiveName, hv, hne]

-- non-vacuity: a concrete environment (one zone file under the second search path, spelt with an underscore)
example :
    Gen.nocache { tzVar := none, tzfiles := ["/etc/localtime"], tzpaths := ["/a", "/b"],
                  isfile := fun p => p == "/b/New_York", load := fun _ => .ok, tzname := ["UTC"],
                  vendored := fun _ => false, tzstrOk := fun _ => true } (some ":New York")
      = .ok (.file "/b/New_York") := by decide +kernel
example :
    Gen.nocache { tzVar := some "EST5EDT", tzfiles := [], tzpaths := [], isfile := fun _ => false, load := fun _ => .ok,
                  tzname := [], vendored := fun _ => false, tzstrOk := fun _ => true } none
      = .ok (.tzstr "EST5EDT") := by decide +kernel

end C18
