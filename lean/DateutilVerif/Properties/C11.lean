/-
  Properties/C11.lean — cached recurrences behave like uncached ones under any interleaving.

  The machine (`Cache.step`, Model/Cache.lean) runs any number of threads over one cached rule
  whose underlying generator yields an arbitrary finite list `src`; a *schedule* is an arbitrary
  list of thread ids (no pre-emption bound, no fairness assumption in the safety part).  Every
  thread is a consumer (`Queries.Query`): plain iteration, `islice`, or one of the query methods
  with its fast path and its early exit.

  HOW THE UNDERLYING GENERATOR ENDS is a parameter of the machine (`Shared.endErr`): after yielding `src` it either
  raises StopIteration (publishing `_len`) or raises some other exception E.  Line 138 has the three outcomes
  (`Cache.step138`: next value / StopIteration / E).  `_restartable` (D-C11-genraise, repaired in /repo) replaces a generator
  that died of E by a fresh one at the same position, and an error met while reading ahead is reported when the failing
  position itself is requested; so every theorem below holds for BOTH endings, with the answer `specE q src e` = list
  semantics when the generator ends normally, and for a raising generator exactly what the UNCACHED object gives
  (`specE_eq_uncached`: all of `src` value by value, then E, unless the consumer stopped before) — under any interleaving,
  and call after call on the same object (`genraise_history`).  Granularity on the raising path: the handler statements
  (they touch only locals and the lock) are one step with the raise.

  On the tree before fix a459cd4 (no `finally: release()`), the same model has a reachable
  deadlock; the harness keeps replaying that schedule on the implementation (c11.py sample).
-/
import DateutilVerif.Proofs.CacheGlobal
import DateutilVerif.Model.CacheNested
import DateutilVerif.Proofs.CacheNestedStep
import DateutilVerif.Proofs.CacheNestedInit
import DateutilVerif.Proofs.CacheNestedProgress
import DateutilVerif.Generated.RRBaseCache
import DateutilVerif.Generated.RSetMerge

namespace C11
open Cache Queries

/-- states reachable from a fresh cached rule over `src` — its generator ending by StopIteration (`e = none`) or by
    raising `e` — with one thread per query in `qs` -/
inductive ReachableE (src : List Int) (e : Option Py.PyErr) (qs : List Query) : State → Prop
  | init : ReachableE src e qs (init src qs e)
  | step {s s' : State} {t : Tid} : ReachableE src e qs s → step s t = some s' → ReachableE src e qs s'

/-- … over a generator that ends normally -/
abbrev Reachable (src : List Int) (qs : List Query) : State → Prop := ReachableE src none qs

/-- the invariant is preserved by every statement of every thread -/
theorem inv_step {s s' : State} {t : Tid} (hi : Inv s) (h : step s t = some s') : Inv s' :=
  inv_step' hi h

theorem reachable_inv {src e qs s} (h : ReachableE src e qs s) : Inv s ∧ s.sh.src = src ∧ s.sh.endErr = e := by
  induction h with
  | init => exact ⟨inv_init src qs e, rfl, rfl⟩
  | step _ hs ih => exact ⟨inv_step ih.1 hs, (measure_step ih.1 hs).2.trans ih.2.1, (RSet.step_endErr ih.1 hs).trans ih.2.2⟩

/-- any schedule (list of thread ids; disabled threads skip their turn) stays inside `Reachable` -/
theorem reachable_run {src e qs} (sched : List Tid) {s} (h : ReachableE src e qs s) :
    ReachableE src e qs (run s sched) := by
  induction sched generalizing s with
  | nil => exact h
  | cons t ts ih =>
    unfold run
    cases hs : step s t with
    | none => exact ih h
    | some s' => exact ih (ReachableE.step h hs)

/-- Every iterator's received values are a prefix of `src` (never longer, never
    reordered), and the caching code raised nothing of its own (no IndexError at `cache[i]`, lines 145 / 148;
    the generator's own exception E, if it raises, is the consumer's RESULT: `finished_answer`)
    — any number of iterators, any schedule, either ending of the generator. -/
theorem safety {src e qs s} (h : ReachableE src e qs s) (t : Tid) (it : Iter) (hit : s.its[t]? = some it) :
    it.yielded <+: src ∧ it.crash = none := by
  obtain ⟨hi, hsrc, _⟩ := reachable_inv h
  exact ⟨hsrc ▸ (hi.linv t it hit).prefix, (hi.linv t it hit).1⟩

/-- If some thread is unfinished, some thread is enabled. -/
theorem no_deadlock {src e qs s} (h : ReachableE src e qs s)
    (hun : ∃ (t : Tid) (it : Iter), s.its[t]? = some it ∧ it.pc ≠ .done) : ∃ t, (step s t).isSome := by
  obtain ⟨hi, _, _⟩ := reachable_inv h
  have enabled : ∀ (t : Tid) (it : Iter), s.its[t]? = some it → it.pc ≠ .done → (it.pc = .l132 → s.sh.lock = none) →
      (step s t).isSome := by
    intro t it hit hnd hfree
    unfold step
    rw [hit]
    simp only []
    cases hst : stepIter s.sh t it with
    | some p => simp
    | none =>
      rcases stepIter_none hst with hd | ⟨h132, hl⟩
      · exact absurd hd hnd
      · exact absurd (hfree h132) hl
  cases hlock : s.sh.lock with
  | none =>
    obtain ⟨t, it, hit, hnd⟩ := hun
    exact ⟨t, enabled t it hit hnd (fun _ => hlock)⟩
  | some o =>
    obtain ⟨ito, hito⟩ := hi.owner o hlock
    have hcrit := (hi.lockinv o ito hito).mpr hlock
    refine ⟨o, enabled o ito hito ?_ ?_⟩
    · intro hd; rw [hd] at hcrit; simp [PC.inCrit] at hcrit
    · intro h132; rw [h132] at hcrit; simp [PC.inCrit] at hcrit

/-- Every executed statement decreases the measure. -/
theorem progress {src e qs s s'} {t : Tid} (h : ReachableE src e qs s) (hs : step s t = some s') :
    measure s' < measure s :=
  (measure_step (reachable_inv h).1 hs).1

/-- hence every execution that only schedules enabled threads is finite: its length is bounded
    by the measure of the state it starts from -/
theorem exec_bound {src e qs} (l : List Tid) {s s'} (h : ReachableE src e qs s) (he : exec s l = some s') :
    l.length + measure s' ≤ measure s ∧ ReachableE src e qs s' := by
  induction l generalizing s with
  | nil => simp only [exec, Option.some.injEq] at he; subst he; exact ⟨by simp, h⟩
  | cons t ts ih =>
    unfold exec at he
    cases hs : step s t with
    | none => rw [hs] at he; cases he
    | some s1 =>
      rw [hs] at he
      have h1 := ReachableE.step h hs
      have := ih h1 he
      have := progress h hs
      simp only [List.length_cons]
      exact ⟨by omega, (ih h1 he).2⟩

/-- Whatever the schedule, a finished thread holds exactly what the uncached object gives:
    the answer of Python list semantics on `src` when the generator ends normally, and for a generator that raises E
    after `src` that answer if the query stops within `src`, E otherwise (`specE`; `specE_eq_uncached`) — fast
    path or generator path, early exit or exhaustion. -/
theorem finished_answer {src e qs s} (h : ReachableE src e qs s) (hsorted : Sorted src)
    (t : Tid) (it : Iter) (hit : s.its[t]? = some it) (hd : it.pc = .done) (hfits : fits it.q src) :
    it.res = some (specE it.q src e) ∧ (it.q = .iterAll → it.yielded = src) := by
  obtain ⟨hi, hsrc, herr⟩ := reachable_inv h
  obtain ⟨_, hl⟩ := hi.linv t it hit
  rw [hd] at hl
  simp only [] at hl
  rw [hsrc, herr] at hl
  exact ⟨hl.2.2 hsorted hfits, hl.2.1⟩

/-- `specE` for a raising generator IS the uncached object's behaviour: `genRaising` hands the consumer
    `src` value by value (`for x in self._iter()`), the consumer drops the iterator as soon as its query is
    decided (`stops` after any prefix), and E arrives after the last value -/
theorem specE_eq_uncached (q : Query) (src : List Int) (e : Py.PyErr) (hsorted : Sorted src) (hfits : fits q src) :
    specE q src (some e) = genRaising q src e := by
  show (if stops q src then spec q src else Res.err e) = _
  unfold genRaising
  have hiff : ((List.range (src.length + 1)).any (fun n => stops q (src.take n))) = stops q src := by
    cases hs : stops q src with
    | true =>
      rw [List.any_eq_true]
      exact ⟨src.length, by simp, by rw [List.take_length]; exact hs⟩
    | false =>
      rw [List.any_eq_false]
      intro n _ hn
      have := stops_append q (src.take n) (src.drop n) hn
      rw [List.take_append_drop, hs] at this
      cases this
  rw [hiff, gen_eq_spec q src hsorted hfits]

/-- A state where no thread can move — reached by every execution that keeps
    choosing enabled threads, after at most `measure (init src qs)` statements — has every thread
    finished; plain iterators have received exactly `src`, queries hold the specified answer. -/
theorem all_complete {src e qs s} (h : ReachableE src e qs s) (hstuck : ∀ t, step s t = none)
    (t : Tid) (it : Iter) (hit : s.its[t]? = some it) :
    it.pc = .done ∧ (it.q = .iterAll → it.yielded = src) ∧
    (Sorted src → fits it.q src → it.res = some (specE it.q src e)) := by
  have hall : ∀ (t : Tid) (it : Iter), s.its[t]? = some it → it.pc = .done := by
    intro t it hit
    by_cases hd : it.pc = .done
    · exact hd
    · obtain ⟨t', ht'⟩ := no_deadlock h ⟨t, it, hit, hd⟩
      rw [hstuck t'] at ht'; cases ht'
  have hd := hall t it hit
  exact ⟨hd, fun hq => (finished_answer_aux h t it hit hd).1 hq, fun hs hq => (finished_answer h hs t it hit hd hq).1⟩
where
  finished_answer_aux {src e qs s} (h : ReachableE src e qs s) (t : Tid) (it : Iter) (hit : s.its[t]? = some it)
      (hd : it.pc = .done) : (it.q = .iterAll → it.yielded = src) ∧ True := by
    obtain ⟨hi, hsrc, _⟩ := reachable_inv h
    obtain ⟨_, hl⟩ := hi.linv t it hit
    rw [hd] at hl
    simp only [] at hl
    rw [hsrc] at hl
    exact ⟨hl.2.1, trivial⟩

-- non-vacuity: two iterators and an index query under an interleaved schedule all finish with the
-- right values; the initial measure bounds every execution
example : ((run (init [0, 5, 7] [.iterAll, .iterAll, .index 1])
            ((List.replicate 40 [0, 1, 2, 1, 1, 0]).flatten)).its.map (fun it => (it.pc, it.yielded, it.res)))
          = [(.done, [0, 5, 7], some (.list [0, 5, 7])), (.done, [0, 5, 7], some (.list [0, 5, 7])),
             (.done, [0, 5], some (.val (some 5)))] := by decide +kernel
-- two threads not yet started over three values: 2 · ((3 + 1) · 40 + 46)
example : measure (init [0, 1, 2] [.iterAll, .iterAll]) = 412 := by decide

/-! ### the theorem distinguishes the two programs

`stepOld` is the machine of the program before fix a459cd4 (the two `break`s leave the fill loop
without `release()`).  Over 11 instants, with iterator 1 advanced once, iterator 0 run to its end
(it performs the final fill and keeps the lock), iterator 1 then walks the cache and blocks in
`acquire()` forever: a reachable deadlock of the old program.  The very same schedule on the
real `step` ends with both iterators finished — and `no_deadlock` above says no schedule
whatsoever can dead-lock it. -/

def deadlockSchedule : List Tid := List.replicate 50 1 ++ List.replicate 160 0 ++ List.replicate 80 1

def src11 : List Int := [0, 1, 2, 3, 4, 5, 6, 7, 8, 9, 10]

example : ∃ sched, deadlocked stepOld (runOld (init src11 [.iterAll, .iterAll]) sched) = true :=
  ⟨deadlockSchedule, by decide +kernel⟩

-- where it is stuck: iterator 0 finished holding the lock, iterator 1 at `acquire()` (line 132) having received all 11 values
example : ((runOld (init src11 [.iterAll, .iterAll]) deadlockSchedule).sh.lock,
           (runOld (init src11 [.iterAll, .iterAll]) deadlockSchedule).its.map (fun it => (it.pc, it.yielded.length)))
          = (some 0, [(.done, 11), (.l132, 11)]) := by decide +kernel

example : deadlocked step (run (init src11 [.iterAll, .iterAll]) deadlockSchedule) = false ∧
          (run (init src11 [.iterAll, .iterAll]) deadlockSchedule).its.map (fun it => (it.pc, it.yielded.length))
            = [(.done, 11), (.done, 11)] := by decide +kernel

/-! ### nested cached objects: one lock per object vs one lock for all

`Nested` (Model/CacheNested.lean) is the machine of cached sets whose member rules are cached too:
line 138 of a set — executed with the SET's lock held — pulls from the member's `_iter_cached`,
which acquires the MEMBER's lock.  With a lock per object the order is parent → child only.  With
ONE non-re-entrant lock for all objects (`shared := true`: a class-level `_cache_lock`) a single
thread listing a cached set over a cached rule blocks on itself at the member's `acquire()`. -/

/-- Cached sets over cached member rules, ONE LOCK PER OBJECT, any
    number of sets, members (shared between sets and roles), runners and any schedule: in every state
    reachable from a fresh one, if some runner is unfinished then some runner can move.
    `_partial`: depth 1 only — the members of a set are cached RULES.  `rruleset.rrule()` also accepts a
    cached rruleset as a member (it only needs `__iter__`), giving deeper nesting; the same parent → child
    argument applies level by level but is not formalised here. -/
theorem nested_no_deadlock_partial {ns0 ns : Nested.NState} (h0 : Nested.Fresh ns0) (h : Nested.NReach ns0 ns)
    (hun : ∃ r, Nested.IsRunner ns r ∧ Nested.finished ns r = false) :
    ∃ r, Nested.IsRunner ns r ∧ (Nested.step ns r).isSome = true :=
  Nested.nested_no_deadlock (Nested.nreach_inv h0 h) hun

/-- A reachable state in which no runner can move has every runner
    finished, and every finished thread of a set holds the list-semantics answer on the set's merged
    sequence (every finished direct thread of a member: on the member's sequence). -/
theorem nested_all_complete_partial {ns0 ns : Nested.NState} (h0 : Nested.Fresh ns0) (h : Nested.NReach ns0 ns)
    (hstuck : ∀ r, Nested.IsRunner ns r → Nested.step ns r = none) :
    (∀ r, Nested.IsRunner ns r → Nested.finished ns r = true) ∧
    (∀ (si : Nat) (S : Nested.SetM) (t : Tid) (it : Iter), ns.sets[si]? = some S → S.st.its[t]? = some it → it.pc = .done →
        Sorted S.st.sh.src → fits it.q S.st.sh.src → it.res = some (specE it.q S.st.sh.src S.st.sh.endErr)) ∧
    (∀ (m : Nat) (M : Cache.State) (t : Tid) (it : Iter), ns.members[m]? = some M → M.its[t]? = some it → it.pc = .done →
        Sorted M.sh.src → fits it.q M.sh.src → it.res = some (specE it.q M.sh.src M.sh.endErr)) := by
  have hi := Nested.nreach_inv h0 h
  refine ⟨?_, ?_, ?_⟩
  · intro r hr
    cases hf : Nested.finished ns r with
    | true => rfl
    | false =>
      obtain ⟨r', hr', hen⟩ := Nested.nested_no_deadlock hi ⟨r, hr, hf⟩
      rw [hstuck r' hr'] at hen; cases hen
  · intro si S t it hS hit hd hsorted hfits
    obtain ⟨_, hl⟩ := (hi.sinv si S hS).linv t it hit
    rw [hd] at hl
    exact hl.2.2 hsorted hfits
  · intro m M t it hM hit hd hsorted hfits
    obtain ⟨_, hl⟩ := (hi.minv m M hM).linv t it hit
    rw [hd] at hl
    exact hl.2.2 hsorted hfits

/-- the theorems above start from the state the driver builds — any member
    sequences, any sets over them (members shared between sets and roles), any runners. -/
theorem nested_init_fresh (memberSrcs : List (List Int)) (setDefs : List (List Nested.Slot × List Nested.Slot))
    (qs : List (Nat × Query)) : Nested.Fresh (Nested.init memberSrcs setDefs qs false).1 :=
  Nested.fresh_init memberSrcs setDefs qs

/-- `nested_no_deadlock_partial` from `init` -/
theorem nested_no_deadlock_init (memberSrcs : List (List Int)) (setDefs : List (List Nested.Slot × List Nested.Slot))
    (qs : List (Nat × Query)) {ns : Nested.NState} (h : Nested.NReach (Nested.init memberSrcs setDefs qs false).1 ns)
    (hun : ∃ r, Nested.IsRunner ns r ∧ Nested.finished ns r = false) :
    ∃ r, Nested.IsRunner ns r ∧ (Nested.step ns r).isSome = true :=
  nested_no_deadlock_partial (nested_init_fresh memberSrcs setDefs qs) h hun

/-- Every step of every runner in a reachable state decreases the measure
    (the sum of the flat measures of all objects: each nested step is one statement of one object). -/
theorem nested_progress_partial {ns0 ns ns' : Nested.NState} {r : Nested.Runner} {pc : PC} (h0 : Nested.Fresh ns0)
    (h : Nested.NReach ns0 ns) (hs : Nested.step ns r = some (ns', pc)) : Nested.nmeasure ns' < Nested.nmeasure ns :=
  Nested.nested_progress (Nested.nreach_inv h0 h) hs

/-- executions of k runner steps -/
inductive NExec (ns0 : Nested.NState) : Nat → Nested.NState → Prop
  | init : NExec ns0 0 ns0
  | step {k : Nat} {ns ns' : Nested.NState} {r : Nested.Runner} {pc : PC} :
      NExec ns0 k ns → Nested.IsRunner ns r → Nested.step ns r = some (ns', pc) → NExec ns0 (k + 1) ns'

/-- hence every execution is finite: its length is bounded by the measure of the state it starts from;
    with `nested_no_deadlock_partial` it can always be continued until every runner has finished -/
theorem nested_exec_bound {ns0 ns : Nested.NState} {k : Nat} (h0 : Nested.Fresh ns0) (h : NExec ns0 k ns) :
    k + Nested.nmeasure ns ≤ Nested.nmeasure ns0 ∧ Nested.NReach ns0 ns := by
  induction h with
  | init => exact ⟨by omega, Nested.NReach.init⟩
  | step _ hr hs ih =>
    have := nested_progress_partial h0 ih.2 hs
    exact ⟨by omega, Nested.NReach.step ih.2 hr hs⟩

def nestedOwn := Nested.init [[0, 10, 20]] [([.cached 0], [])] [(1, .iterAll)] false
def nestedShared := Nested.init [[0, 10, 20]] [([.cached 0], [])] [(1, .iterAll)] true

-- one lock for all: a reachable single-thread deadlock …
example : ∃ sched, Nested.deadlocked (Nested.run nestedShared.1 nestedShared.2 sched) nestedShared.2 = true :=
  ⟨List.replicate 40 0, by decide +kernel⟩
-- … stuck on line 132 of the member's iterator while the set's thread sits on line 138 holding the lock
example : (let ns := Nested.run nestedShared.1 nestedShared.2 (List.replicate 40 0)
           (ns.sets.map (fun S => (Nested.pcOf S.st 0, S.st.sh.lock)), ns.members.map (fun M => (Nested.pcOf M 0, M.sh.lock))))
          = ([(.l138, some 0)], [(.l132, none)]) := by decide +kernel
-- own locks: the same schedule (any long enough one) finishes with the merged sequence
example : (let ns := Nested.run nestedOwn.1 nestedOwn.2 (List.replicate 150 0)
           (Nested.finished ns (1, 0), ns.sets.map (fun S => S.st.sh.cache), Nested.deadlocked ns nestedOwn.2))
          = (true, [[0, 10, 20]], false) := by decide +kernel

/-! ### the machine IS the translated source

`Gen.iterCachedProgram` (Generated/RRBaseCache.lean) is `rrulebase.__iter__` followed by `rrulebase._iter_cached` as `harness/translate_rrbase.py` reads it
from /repo's working tree on every run: one node per statement that is a pause point of the tracer — its program counter,
what the statement does (a strict vocabulary; anything else is Untranslatable) and where control goes, from the nesting of
the source (while / if / try-finally / try-except / for / break).  Its meaning is `CachePy.stepProg`. -/

/-- At EVERY program counter of `__iter__` / `_iter_cached` and on EVERY state, the statement of the translated program
    does exactly what the machine `Cache.stepIter` does (same shared state, same locals, same next pc; blocked exactly when
    the machine is).  Hence `inv_step`, `safety`, `no_deadlock`, `progress`, `finished_answer`, … above are theorems about
    the statements as translated, not about a hand-aligned listing: a changed statement, order, batch size, handler or
    branch target breaks THIS obligation (or the translation) on the next run. -/
theorem program_sim (sh : Shared) (t : Tid) (it : Iter) (h : CachePy.bodyPC it.pc = true) :
    CachePy.stepProg Gen.iterCachedProgram sh t it = stepIter sh t it := by
  cases hpc : it.pc <;> rw [hpc] at h <;> first | cases h | skip
  -- both sides at a given pc: the node found there and its meaning evaluate to the branch of `stepIter`
  all_goals
    simp only [CachePy.stepProg, stepIter, hpc]
    rfl

/-- the whole machine with the body of `_iter_cached` executed by the translated program is the machine of the theorems
    (what the driver op `cache.trun` runs against the real generators) -/
theorem translated_machine_eq : CachePy.stepIterT Gen.iterCachedProgram = stepIter := by
  funext sh t it
  unfold CachePy.stepIterT
  split
  · rename_i h; exact program_sim sh t it h
  · rfl

-- every program counter of the generator body has a node; the batch size is the source's
example : (Gen.iterCachedProgram.map (·.pc)).length = 28 ∧ (CachePy.nodeAt Gen.iterCachedProgram .l137).map (·.op) = some (.forRange 10) := by decide
-- the obligation distinguishes programs: without the read-ahead handler E escapes although the consumer's value is there
example : CachePy.stepNode { pc := .l138, op := .appendNext false, next := .l137, alt := .l139, exc := .l144 }
            { initShared [7] (some .ZeroDivisionError) with cache := [7], genPos := 1, lock := some 0 } 0 { q := .iterAll, pc := .l138, i := 0, j := 1 }
          ≠ stepIter { initShared [7] (some .ZeroDivisionError) with cache := [7], genPos := 1, lock := some 0 } 0 { q := .iterAll, pc := .l138, i := 0, j := 1 } := by decide

/-- `_restartable` as translated from the source is the generator the machine assumes on line 138
    (`Cache.step138`): from a state in step with the cache (`inner = pos`, alive) one `__next__()` gives the next value of `src`
    and advances both counters; at the end of `src` it gives StopIteration when the underlying generator ends normally, and when it
    raises E it raises E and is AGAIN in step at the same position — so the next request raises E again (what `Shared.endErr`
    means); without the restart the dead generator would answer StopIteration (the last `example`). -/
theorem gen_restartable_eq_model (src : List Int) (e : Option Py.PyErr) (pos : Nat) :
    CachePy.runRestartNext Gen.restartableProgram src e { pos := pos, inner := pos } =
      some (match src[pos]? with
            | some x => (.value x, { pos := pos + 1, inner := pos + 1 })
            | none => match e with
              | none => (.stop, { pos := pos, inner := pos })
              | some err => (.raise_ err, { pos := pos, inner := pos })) := by
  cases h : src[pos]? <;> cases e <;> simp [CachePy.runRestartNext, Gen.restartableProgram, h]

-- without the restart the generator is dead after E: its next answer is StopIteration
example : (CachePy.runRestartNext { Gen.restartableProgram with restartsAtPos := false } [7] (some .ZeroDivisionError) { pos := 1, inner := 1 }).bind
            (fun r => CachePy.runRestartNext { Gen.restartableProgram with restartsAtPos := false } [7] (some .ZeroDivisionError) r.2)
          = some (.stop, { pos := 1, inner := 1, dead := true }) := by decide

/-- The decorator `_invalidates_cache` as translated from the source runs the wrapped mutator FIRST
    and `_invalidate_cache()` AFTER it, and not before: a reader thread scheduled inside a mutator call can only fill the cache of the
    generation that the call then throws away — with the order reversed it would complete the FRESH cache from the old members and
    the mutation would be lost (schedule stream `mutator_schedules`; C10 `gen_mutators_eq_model` is the same obligation on the members). -/
theorem mutators_invalidate_after :
    Gen.invalidatesDecorator.callsWrapped = true ∧ Gen.invalidatesDecorator.thenInvalidates = true ∧
    Gen.invalidatesDecorator.invalidatesBefore = false ∧
    ∀ (m : RSet.Members) (d : Int), MergePy.runMutDate Gen.invalidatesDecorator Gen.rsetMutators .rdate m d =
      some ({ m with rdates := m.rdates ++ [d] }, true) :=
  ⟨rfl, rfl, rfl, fun _ _ => rfl⟩

/-- ANY history of query methods / listings, each run to its end, on ONE cached object whose generator yields `src`
    and then raises E gives, call by call, what the uncached object gives (`genRaising`: E in every call that needs
    one value more than `src`, the list-semantics answer in every call decided within `src`) — every `src`, every E,
    every sequence of calls. -/
theorem genraise_history (src : List Int) (e : Py.PyErr) (qs : List Query) (hsorted : Sorted src)
    (hfits : ∀ q ∈ qs, fits q src) :
    RSet.runQueries (init src [] (some e)) qs = qs.map (fun q => some (genRaising q src e)) := by
  have h := RSet.runQueries_specE qs (init src [] (some e)) (inv_init src [] (some e))
    (fun t it hit => by simp [init] at hit) hsorted hfits
  rw [h]
  apply List.map_congr_left
  intro q hq
  show some (specE q src (some e)) = _
  rw [specE_eq_uncached q src e hsorted (hfits q hq)]

-- the witness shapes of D-C11-genraise agree with the uncached object.  The generator raises before its first value:
example : RSet.runQueries (init [] [] (some .TypeError)) [.iterAll, .iterAll, .iterAll, .count, .contains 5]
          = [some (.err .TypeError), some (.err .TypeError), some (.err .TypeError), some (.err .TypeError), some (.err .TypeError)] := by
  decide +kernel
-- after 11 values: an index query is answered from the first fill (the error met while reading ahead is deferred), a
-- listing raises E, and so does every later listing and `count()`; an early-exit query is still answered
example : RSet.runQueries (init [0, 1, 2, 3, 4, 5, 6, 7, 8, 9, 10] [] (some .ZeroDivisionError))
            [.index 3, .iterAll, .iterAll, .count, .index 10, .index 11, .after 4 false]
          = [some (.val (some 3)), some (.err .ZeroDivisionError), some (.err .ZeroDivisionError), some (.err .ZeroDivisionError),
             some (.val (some 10)), some (.err .ZeroDivisionError), some (.val (some 5))] := by decide +kernel
-- under an interleaving: two listings and an index query over a generator that raises after 3 values
example : ((run (init [0, 5, 7] [.iterAll, .iterAll, .index 1] (some .ZeroDivisionError))
            ((List.replicate 40 [0, 1, 2, 1, 1, 0]).flatten)).its.map (fun it => (it.pc, it.yielded, it.res, it.crash)))
          = [(.done, [0, 5, 7], some (.err .ZeroDivisionError), none), (.done, [0, 5, 7], some (.err .ZeroDivisionError), none),
             (.done, [0, 5], some (.val (some 5)), none)] := by decide +kernel

end C11
