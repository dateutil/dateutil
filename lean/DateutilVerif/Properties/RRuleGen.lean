/- Properties/RRuleGen.lean — the translator tie for the integer helpers of src/dateutil/rrule.py:
   `gen_*_eq_model` obligations stating that the functions RE-TRANSLATED from the source on every run
   (Generated/RRuleKernels.lean, harness/translate_rr.py) equal the hand model of Model/RRule.lean, so that every
   C01 theorem about `RRule.constructByset`, `RRule.modDistance`, `RRule.rebuild`, `RRule.htimeset` … speaks about
   the code as it stands in /repo on this run.  Listed in Audit/C01.lean. -/
import DateutilVerif.Proofs.RRuleGenHelpers
import DateutilVerif.Proofs.RRuleGenRebuild
import DateutilVerif.Proofs.RRuleGenDaysets
import DateutilVerif.Proofs.RRuleGenCached
import DateutilVerif.Proofs.RRuleGenUse
import DateutilVerif.Proofs.RRuleGenInit
import DateutilVerif.Proofs.RRuleGenInitAll
import DateutilVerif.Proofs.RRuleGenInitWhole
import DateutilVerif.Properties.C01

namespace C01
open RRule RrPy RRule.Tables

/-- `rrule.__construct_byset(start, byxxx, base)` (every `base ≠ 0`; the constructor calls it with 24 and 60) -/
theorem gen_constructByset_eq_model (r : Rule) (start : Int) (byxxx : List Int) (base : Int) (hb : base ≠ 0) :
    Gen.constructByset r start byxxx base = RRule.constructByset r.interval start byxxx base :=
  RRuleGen.gen_constructByset_eq_model r start byxxx base hb

example : Gen.constructByset { (default : Rule) with interval := 4 } 17 [21, 2, 1, 5, 21] 24 = .ok [21, 1, 5] := by decide
example : Gen.constructByset { (default : Rule) with interval := 4 } 17 [2, 3] 24 = .error .ValueError := by decide

/-- `rrule.__mod_distance(value, byxxx, base)`: the model's search with the loop's own bound `base`; `none` = the
    function falls off its loop and returns `None` (every `base ≠ 0`; `_iter` calls it with 24 and 60) -/
theorem gen_modDistance_eq_model (r : Rule) (value : Int) (byxxx : List Int) (base : Int) (hb : base ≠ 0) :
    Gen.modDistance r value byxxx base = .ok (RRule.modDistance r.interval byxxx base base.toNat 0 value) :=
  RRuleGen.gen_modDistance_eq_model r value byxxx base hb

example : Gen.modDistance { (default : Rule) with interval := 7 } 20 [3, 9] 24 = .ok (some (1, 3)) := by decide
example : Gen.modDistance { (default : Rule) with interval := 4 } 17 [2, 3] 24 = .ok none := by decide

/-- `_iterinfo.htimeset(hour, minute, second)` (HOURLY rules carry BYMINUTE and BYSECOND tuples: `construct` fills them
    from dtstart; on `None` Python raises TypeError where the model reads `()`) -/
theorem gen_htimeset_eq_model (r : Rule) (self : RrPy.II) (hour minute second : Int)
    (hm : r.byminute.isSome) (hs : r.bysecond.isSome) :
    Gen.htimeset r self hour minute second = RRule.htimeset r hour :=
  RRuleGen.gen_htimeset_eq_model r self hour minute second hm hs

example : Gen.htimeset { (default : Rule) with byminute := some [30, 0], bysecond := some [5] } {} 9 0 0
    = .ok [(9, 0, 5), (9, 30, 5)] := by decide

/-- `_iterinfo.mtimeset(hour, minute, second)` (MINUTELY rules carry a BYSECOND tuple) -/
theorem gen_mtimeset_eq_model (r : Rule) (self : RrPy.II) (hour minute second : Int) (hs : r.bysecond.isSome) :
    Gen.mtimeset r self hour minute second = RRule.mtimeset r hour minute :=
  RRuleGen.gen_mtimeset_eq_model r self hour minute second hs

example : Gen.mtimeset { (default : Rule) with bysecond := some [61] } {} 9 0 0 = .error .ValueError := by decide

/-- `_iterinfo.stimeset(hour, minute, second)` -/
theorem gen_stimeset_eq_model (r : Rule) (self : RrPy.II) (hour minute second : Int) :
    Gen.stimeset r self hour minute second = RRule.stimeset hour minute second :=
  RRuleGen.gen_stimeset_eq_model r self hour minute second

/-- **`_iterinfo.rebuild(year, month)` as translated on this run, on a fresh `_iterinfo` (every slot `None`), is the model's
    `rebuild`**: the same exception, or the same twelve slots (year length, ordinal and weekday of January 1st, the five
    tables, the week-number / nth-weekday / easter masks) with `lastyear = year` and `lastmonth = month` — for YEARLY
    rules with BYMONTH and nth weekdays `lastmonth` is the LAST BYMONTH MEMBER, because the loop variable of
    `for month in rr._bymonth` rebinds the parameter (`RRuleGen.nwMonth`). -/
theorem gen_rebuild_eq_model (r : Rule) (year month : Int) :
    Gen.rebuild r {} year month =
      (RRule.rebuild r year month).bind fun info =>
        .ok (RrPy.II.ofInfo info (some year)
              (some (if truthy r.bynweekday = true then RRuleGen.nwMonth r month else month))) :=
  RRuleGen.gen_rebuild_fresh r year month

-- 2024 (leap, starts on a Monday), BYWEEKNO=1 with Monday weeks: days 0..6 are marked, `lastyear` is recorded
example : ((Gen.rebuild { (default : Rule) with byweekno := some [1], wkst := 0 } {} 2024 3).toOption.map
    fun s => (s.yearlen, s.lastyear, s.lastmonth, s.wnomask.map (·.take 9))) =
    some (366, some 2024, some 3, some [1, 1, 1, 1, 1, 1, 1, 0, 0]) := by decide +kernel
-- `date(0, 1, 1)` does not exist
example : Gen.rebuild (default : Rule) {} 0 1 = .error .ValueError := by decide +kernel

/-- the slots the model keeps -/
theorem gen_rebuild_toInfo (r : Rule) (year month : Int) :
    (Gen.rebuild r {} year month).map RrPy.II.toInfo = RRule.rebuild r year month := by
  rw [gen_rebuild_eq_model]
  cases RRule.rebuild r year month <;> rfl

/-- **`rebuild` on an `_iterinfo` that has been rebuilt before** (`RRuleGen.Coherent`: the slots are the model's `rebuild`
    of the recorded `lastyear`, and of the recorded `lastmonth` where the nth-weekday mask depends on it): the
    `lastyear` / `lastmonth` caching of the code returns exactly what recomputing everything (the model) returns. -/
theorem gen_rebuild_cached_eq_model (r : Rule) (st : RrPy.II) (hst : RRuleGen.Coherent r st) (year month : Int) :
    Gen.rebuild r st year month =
      (RRule.rebuild r year month).bind fun info =>
        .ok (RrPy.II.ofInfo info (some year) (some (RRuleGen.newMonth r st year month))) :=
  RRuleGen.gen_rebuild_cached r st hst year month

/-- **every call history**: after ANY sequence of successful `rebuild(y, m)` calls on one `_iterinfo` (`RRuleGen.history`:
    the translated function folded over the calls from the fresh object), the next call raises what the model's pure
    `rebuild(year, month)` raises or leaves exactly its twelve slots — the caching is unobservable. -/
theorem gen_rebuild_any_history (r : Rule) (calls : List (Int × Int)) (st : RrPy.II)
    (h : RRuleGen.history r calls = .ok st) (year month : Int) :
    (Gen.rebuild r st year month).map RrPy.II.toInfo = RRule.rebuild r year month :=
  RRuleGen.rebuild_after_history r calls st h year month

-- a history that exercises the cache: same year / other month, then another year
example : (RRuleGen.history { (default : Rule) with freq := 1, bynweekday := some [(0, 1)] } [(2024, 1), (2024, 2), (2025, 2)]).toOption.map
    (fun s => (s.lastyear, s.lastmonth, s.yearlen)) = some (some 2025, some 2, 365) := by decide +kernel

/-! The day-set methods return `(dset, start, end)`; `rrule._iter` reads `dset[start:end]`; the model's `dayset` is `range(start, end)`.
`RRuleGen.DaysetAgrees x m`: `x` raises what `m` raises, or `x = (dset, start, end)`, `m = range(start, end)` and
`dset[k] == k` for every `start ≤ k < end`. -/

/-- `_iterinfo.ydayset`: `(list(range(yearlen)), 0, yearlen)`, the model's YEARLY day set, entry `k` is `k` -/
theorem gen_ydayset_eq_model (r : Rule) (self : RrPy.II) (c : Cursor) (hf : r.freq = 0) :
    Gen.ydayset r self c.year c.month c.day = .ok (intRange 0 self.yearlen, 0, self.yearlen) ∧
    dayset r self.toInfo c = .ok (intRange 0 self.yearlen) ∧
    ∀ k, 0 ≤ k → k < self.yearlen → Py.getIdx (intRange 0 self.yearlen) k = .ok k :=
  RRuleGen.gen_ydayset_agrees r self c hf

/-- `_iterinfo.mdayset` on the slots a `rebuild` leaves (tables of a leap / common year), month 1..12 -/
theorem gen_mdayset_eq_model (r : Rule) (self : RrPy.II) (c : Cursor) (hf : r.freq = 1) (leap : Bool)
    (hyl : self.yearlen = Tables.ylen leap) (hmr : self.mrange = Tables.mrangeOf leap)
    (hm : 1 ≤ c.month ∧ c.month ≤ 12) :
    RRuleGen.DaysetAgrees (Gen.mdayset r self c.year c.month c.day) (dayset r self.toInfo c) :=
  RRuleGen.gen_mdayset_agrees r self c hf leap hyl hmr hm

/-- `_iterinfo.wdayset` (the date is not before January 1st of the rebuilt year: earlier, Python's negative index wraps
    around where the model raises IndexError — `_iter` rebuilds for the cursor's year before asking for the day set) -/
theorem gen_wdayset_eq_model (r : Rule) (self : RrPy.II) (c : Cursor) (hf : r.freq = 2) (hyl : 0 ≤ self.yearlen + 7)
    (hi : Cal.validDate c.year c.month c.day = true → 0 ≤ Cal.toOrdinal c.year c.month c.day - self.yearordinal) :
    RRuleGen.DaysetAgrees (Gen.wdayset r self c.year c.month c.day) (dayset r self.toInfo c) :=
  RRuleGen.gen_wdayset_agrees r self c hf hyl hi

/-- `_iterinfo.ddayset` (DAILY and the sub-daily frequencies; same proviso on the date) -/
theorem gen_ddayset_eq_model (r : Rule) (self : RrPy.II) (c : Cursor) (hf : r.freq ≠ 0 ∧ r.freq ≠ 1 ∧ r.freq ≠ 2)
    (hi : Cal.validDate c.year c.month c.day = true → 0 ≤ Cal.toOrdinal c.year c.month c.day - self.yearordinal) :
    RRuleGen.DaysetAgrees (Gen.ddayset r self c.year c.month c.day) (dayset r self.toInfo c) :=
  RRuleGen.gen_ddayset_agrees r self c hf hi

-- 1997-09-02 in the (common) year rebuilt for 1997: day 244, week Tue..Sun with Monday weeks
example : ((Gen.rebuild { (default : Rule) with freq := 2 } {} 1997 9).bind fun s =>
      (Gen.wdayset { (default : Rule) with freq := 2 } s 1997 9 2).map fun t => (t.2.1, t.2.2, t.1.drop 243 |>.take 8)) =
    .ok (244, 250, [none, some 244, some 245, some 246, some 247, some 248, some 249, none]) := by decide +kernel
example : ((Gen.rebuild { (default : Rule) with freq := 1 } {} 2024 2).bind fun s =>
      (Gen.mdayset { (default : Rule) with freq := 1 } s 2024 2 1).map fun t => (t.2.1, t.2.2)) = .ok (31, 60) := by decide +kernel

/-- `C01.masks_are_dates` read on the TRANSLATED `rebuild`: after any history of successful calls, the slots the code
    leaves for year `y` hold, at every index `i < yearlen + 7`, the month / day / day-from-month-end / weekday of the date
    with ordinal `toOrdinal y 1 1 + i` (every year 1..9999). -/
theorem gen_rebuild_masks_are_dates (r : Rule) (calls : List (Int × Int)) (st0 : RrPy.II)
    (hh : RRuleGen.history r calls = .ok st0) (y m : Int) (st : RrPy.II) (hst : Gen.rebuild r st0 y m = .ok st)
    (i : Int) (h0 : 0 ≤ i) (h1 : i < st.yearlen + 7) :
    st.yearordinal = Cal.toOrdinal y 1 1 ∧ st.yearlen = Cal.daysInYear y ∧
    Py.getIdx st.mmask i = .ok (Cal.fromOrdinal (st.yearordinal + i)).2.1 ∧
    Py.getIdx st.mdaymask i = .ok (Cal.fromOrdinal (st.yearordinal + i)).2.2 ∧
    Py.getIdx st.nmdaymask i = .ok ((Cal.fromOrdinal (st.yearordinal + i)).2.2 -
        Cal.daysInMonth (Cal.fromOrdinal (st.yearordinal + i)).1 (Cal.fromOrdinal (st.yearordinal + i)).2.1 - 1) ∧
    Py.getIdx st.wdaymask i = .ok (Cal.weekdayOfOrd (st.yearordinal + i)) := by
  have hmodel : RRule.rebuild r y m = .ok st.toInfo := by
    have := gen_rebuild_any_history r calls st0 hh y m
    rw [hst] at this
    exact this.symm
  exact C01.masks_are_dates r y m st.toInfo hmodel i h0 h1

/-- for EVERY rule the constructor returns (any ambient first weekday `k`), the time-set method `_iter` selects by frequency
    (`RRuleGen.genTimeset`: htimeset / mtimeset / stimeset) is the model's `gettimeset` -/
theorem gen_gettimeset_of_construct (k : Int) (a : Args) (r : Rule) (h : constructW k a = .ok r) (self : RrPy.II)
    (hour minute second : Int) :
    RRuleGen.genTimeset r self hour minute second = gettimeset r hour minute second :=
  RRuleGen.gen_gettimeset_of_construct k a r h self hour minute second

/-- after ANY history of successful `rebuild` calls, rebuild for the cursor's year and ask for the day set of the cursor's
    date (month 1..12): the method `_iter` selects by frequency (`RRuleGen.genDayset`: mdayset / wdayset / ddayset; YEARLY is
    `gen_ydayset_eq_model`) raises what the model's `dayset` raises, or returns `(dset, start, end)` with the model's day set
    `range(start, end)` and `dset[k] == k` on it -/
theorem gen_dayset_after_rebuild (r : Rule) (hf : r.freq ≠ 0) (calls : List (Int × Int)) (st0 : RrPy.II)
    (hh : RRuleGen.history r calls = .ok st0) (c : Cursor) (marg : Int) (st : RrPy.II)
    (hst : Gen.rebuild r st0 c.year marg = .ok st) (hm : 1 ≤ c.month ∧ c.month ≤ 12) :
    RRuleGen.DaysetAgrees (RRuleGen.genDayset r st c) (dayset r st.toInfo c) :=
  RRuleGen.gen_dayset_after_rebuild r hf calls st0 hh c marg st hst hm

-- a rule out of the constructor (HOURLY, start 09:30:15): the hour's time set
example : (constructW 0 { freq := 4, dtstart := { y := 1997, m := 9, d := 2, hh := 9, mm := 30, ss := 15, us := 0 } }).toOption.map
    (fun r => RRuleGen.genTimeset r {} 11 0 0) = some (.ok [(11, 30, 15)]) := by decide +kernel

/-! The sections of `rrule.__init__`: one top-level statement of the constructor each, re-translated from source;
the `_original_rule` bookkeeping inside them is not part of the translation (hand model `origArgs`). -/

/-- `# bymonth`: `None` kept, otherwise `tuple(sorted(set(bymonth)))` — the `.map sortedSet` of `bymonthOf` -/
theorem gen_init_bymonth_eq_model (x : Option (List Int)) : Gen.init_bymonth x = .ok (x.map sortedSet) :=
  RRuleGen.init_bymonth_eq x
/-- `# byyearday` — the `byyearday` field of `construct` -/
theorem gen_init_byyearday_eq_model (a : Args) : Gen.init_byyearday a.byyearday = .ok (a.byyearday.map sortedSet) :=
  RRuleGen.init_byyearday_eq _
/-- `# byweekno` — the `byweekno` field of `construct` -/
theorem gen_init_byweekno_eq_model (a : Args) : Gen.init_byweekno a.byweekno = .ok (a.byweekno.map sortedSet) :=
  RRuleGen.init_byweekno_eq _
/-- `# byeaster`: `tuple(sorted(byeaster))`, repetitions kept — the `byeaster` field of `construct` -/
theorem gen_init_byeaster_eq_model (a : Args) : Gen.init_byeaster a.byeaster = .ok (a.byeaster.map (sortBy ltInt)) :=
  RRuleGen.init_byeaster_eq _
/-- `# bymonthday`: the split into positive and negative members, applied to the argument after the defaults block
    (`monthdayArg`) — the fields `bymonthday` / `bynmonthday` of `construct` -/
theorem gen_init_bymonthday_eq_model (a : Args) :
    Gen.init_bymonthday (monthdayArg a) = .ok (bymonthdayOf a, bynmonthdayOf a) := by
  rw [RRuleGen.init_bymonthday_eq]
  unfold bymonthdayOf bynmonthdayOf
  cases monthdayArg a <;> rfl
/-- the BYSETPOS block: ValueError for a position 0 or outside −366..366 — `normBysetpos` -/
theorem gen_init_bysetpos_eq_model (a : Args) : Gen.init_bysetpos a.bysetpos = normBysetpos a :=
  RRuleGen.init_bysetpos_eq a
/-- `# byhour`: default from dtstart below HOURLY, `__construct_byset` (translated) at HOURLY, sorted set otherwise — `normUnit … 4 … 24` -/
theorem gen_init_byhour_eq_model (a : Args) :
    Gen.init_byhour a.freq a.dtstart a.interval a.byhour = normUnit a.freq 4 a.interval a.dtstart.hh a.byhour 24 :=
  RRuleGen.init_byhour_eq _ _ _ _
/-- `# byminute` — `normUnit … 5 … 60` -/
theorem gen_init_byminute_eq_model (a : Args) :
    Gen.init_byminute a.freq a.dtstart a.interval a.byminute = normUnit a.freq 5 a.interval a.dtstart.mm a.byminute 60 :=
  RRuleGen.init_byminute_eq _ _ _ _
/-- `# bysecond` (after the repair: one read of the argument) — `normUnit … 6 … 60` -/
theorem gen_init_bysecond_eq_model (a : Args) :
    Gen.init_bysecond a.freq a.dtstart a.interval a.bysecond = normUnit a.freq 6 a.interval a.dtstart.ss a.bysecond 60 :=
  RRuleGen.init_bysecond_eq _ _ _ _

/-- `if interval < 1: raise ValueError` — the guard of `construct` -/
theorem gen_init_interval_eq_model (i : Int) : Gen.init_interval i = if i < 1 then .error .ValueError else .ok () :=
  RRuleGen.init_interval_eq i
/-- the week start: `calendar.firstweekday()` (the explicit input `fwd` of `constructW`) exactly when `wkst` is None — `resolveW` -/
theorem gen_init_wkst_eq_model (fwd : Int) (a : Args) : Gen.init_wkst fwd a.wkst = .ok ((resolveW fwd a).wkst.getD 0) := by
  rw [RRuleGen.init_wkst_eq]; rfl
/-- the defaults block (no BYWEEKNO / BYYEARDAY / BYMONTHDAY / BYDAY / BYEASTER: BYMONTH+BYMONTHDAY, BYMONTHDAY or BYDAY from
    dtstart by frequency) — the arguments `bymonthOf` / `monthdayArg` / `weekdayArg` normalise -/
theorem gen_init_defaults_eq_model (a : Args) :
    Gen.init_defaults a.freq a.dtstart a.bymonth a.bymonthday a.byyearday a.byeaster a.byweekno a.byweekday =
      .ok (if noDayParts a && a.freq == 0 && a.bymonth.isNone then some [a.dtstart.m] else a.bymonth,
           monthdayArg a, weekdayArg a) :=
  RRuleGen.init_defaults_eq a
/-- the timeset block — `timesetOf` (below HOURLY all three tuples are set, as `normUnit` guarantees) -/
theorem gen_init_timeset_eq_model (a : Args) (bh bm bs : Option (List Int))
    (h : a.freq < 4 → bh.isSome = true ∧ bm.isSome = true ∧ bs.isSome = true) :
    Gen.init_timeset a.freq bh bm bs = timesetOf a bh bm bs :=
  RRuleGen.init_timeset_eq a bh bm bs h

/-- the BYDAY block: plain members (ints, `MO`, every `MO(n)` above MONTHLY) and nth members as sorted sets, `None` for an
    empty part, on the argument after the defaults block — the fields `byweekday` / `bynweekday` of `construct` -/
theorem gen_init_byweekday_eq_model (a : Args) :
    Gen.init_byweekday a.freq (weekdayArg a) = .ok (byweekdayOf a, bynweekdayOf a) :=
  RRuleGen.init_byweekday_eq a

/-- **the constructor, from its translated sections**: the sixteen blocks of `rrule.__init__` re-translated from source,
    sequenced in source order (`RRuleGen.initSections`), are the model's `constructW fwd` — the same ValueError or the same
    normalised rule, field for field, for every argument set and every ambient first weekday.
    `_partial`: the sequencing (which variable feeds which block) and the plain attribute copies (`self._freq = freq`,
    `self._count`, `self._until`, `dtstart.replace(microsecond=0)`, `self._tzinfo`) are written by hand in `initSections`, not
    translated; the `_original_rule` bookkeeping (hand model `origArgs`), the `until` / `dtstart` conversions from `date`
    and the UNTIL-vs-DTSTART awareness check are not covered (the `Args` type carries one zone tag and datetimes only).
    Full statement wanted: `Gen.init fwd a = (constructW fwd a, origArgs a ·)` for a translation of the whole function. -/
theorem gen_construct_eq_model_partial (fwd : Int) (a : Args) : RRuleGen.initSections fwd a = constructW fwd a :=
  RRuleGen.initSections_eq fwd a

/-- **`rrule.__init__` as translated on this run = the model's constructor**: `Gen.init` — every statement of the function translated in
    sequence (Generated/RRuleKernels.lean) — returns, for every argument set `a` and every ambient first weekday `fwd`, the same
    ValueError or the same normalised rule as `constructW fwd a`, field for field (`cache` is irrelevant).
    What the translation leaves out of the function text (each a documented rule of `translate_rr.clean_init` / the `Args`
    conventions, not a proof gap): the `_original_rule` bookkeeping (hand model `origArgs`), `warn(...)`, the UNTIL / DTSTART
    awareness check (`Args` carries one zone tag), and the branches for `dtstart` / `until` given as `date` or omitted and for BY
    arguments given as scalars / weekday objects (`Args` holds datetimes, 1-tuples and `(weekday, n)` pairs). -/
theorem gen_construct_eq_model (fwd : Int) (a : Args) (cache : Bool) :
    Gen.init fwd a.tz a.freq a.dtstart a.interval a.wkst a.count a.untilDT a.bysetpos a.bymonth a.bymonthday a.byyearday
      a.byeaster a.byweekno a.byweekday a.byhour a.byminute a.bysecond cache = constructW fwd a := by
  rw [RRuleGen.init_eq_sections, RRuleGen.initSections_eq]

example : (RRuleGen.initSections 0 { freq := 1, byweekday := some [(4, 1), (0, 0)], dtstart := { y := 1997, m := 9, d := 2, hh := 9, mm := 0, ss := 0, us := 5 } }).toOption.map (fun r => r.bynweekday) =
    some (some [(4, 1)]) := by decide +kernel
example : RRuleGen.initSections 0 { freq := 1, interval := 0, dtstart := default } = .error .ValueError := by decide +kernel

example : Gen.init_bymonthday (some [3, -1, 3, 15, -2]) = .ok ([3, 15], [-2, -1]) := by decide
example : Gen.init_bysetpos (some [1, 367]) = .error .ValueError := by decide
example : Gen.init_byhour 4 { y := 1997, m := 9, d := 2, hh := 17, mm := 0, ss := 0, us := 0 } 4 (some [2, 21, 1]) = .ok (some [1, 21]) := by decide

end C01
