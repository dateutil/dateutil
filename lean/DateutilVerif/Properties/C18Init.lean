/-
  Properties/C18Init.lean — the metaclass constructors of tz/_factories.py, translated from source (harness/translate_rfc.py, third
  group → Generated/TzRfcKernels.lean), are the initial shared state of the factory machine the C18 theorems start from.
-/
import DateutilVerif.Generated.TzRfcKernels

namespace C18

/-- `_TzOffsetFactory.__init__` and `_TzStrFactory.__init__` build exactly `(Fact.initState 8 scripts).g`: empty weak map,
    empty strong cache, capacity 8, lock free — for any scripts -/
theorem factory_init_is_initState (scripts : List (List Fact.Op)) :
    Gen.tzOffsetFactory_init = (Fact.initState 8 scripts).g ∧ Gen.tzStrFactory_init = (Fact.initState 8 scripts).g :=
  ⟨rfl, rfl⟩

theorem factory_init_fields :
    Gen.tzOffsetFactory_init.cap = 8 ∧ Gen.tzOffsetFactory_init.strong = [] ∧ (∀ k, Gen.tzOffsetFactory_init.weak k = none) ∧
    Gen.tzOffsetFactory_init.lock = none ∧ Gen.tzStrFactory_init.cap = 8 ∧ Gen.tzStrFactory_init.strong = [] ∧
    (∀ k, Gen.tzStrFactory_init.weak k = none) ∧ Gen.tzStrFactory_init.lock = none :=
  ⟨rfl, rfl, fun _ => rfl, rfl, rfl, rfl, fun _ => rfl, rfl⟩

/-- `_TzSingleton.__init__` leaves the singleton slot empty (the slot of `tzutc` is then filled by the module body's
    `UTC = tzutc()` at import time: `Fact.initSingleton`) -/
theorem singleton_init_empty : Gen.tzSingleton_init.single = none ∧ Gen.tzSingleton_init.inited = [] := ⟨rfl, rfl⟩

end C18
