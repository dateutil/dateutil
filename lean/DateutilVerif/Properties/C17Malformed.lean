/-
  Properties/C17Malformed.lean — C17, fourth sentence: "malformed definitions … raise ValueError".

  `tzical._parse_rfc` is TRANSLATED from /repo's tz/tz.py on every run (harness/translate_rfc.py →
  Generated/TzRfcKernels.lean: the unfolding `while` loop, the body of the line loop, the whole function) and proved equal
  to the hand model (`Model/ICal.lean`: `unfold`, `stepLineW` = `stepCore` after the split into NAME;parms:value,
  `parseRfcW`).  The recurrence library is a PARAMETER (`lib : RRuleLib`): what `rrulestr(...)` of a component's lines raises, or that it returns
  (nothing of the returned rule set is read by `_parse_rfc`).
  "Which texts rrulestr rejects" is C13 (`errors_are_ValueError`), which is the hypothesis `LibVE`.

  * `gen_eq_model_parse_rfc_line`, `gen_unfold_terminates`, `gen_eq_model_parse_rfc` — the translation equals the model
    for every library, state, line / every text; the unfolding loop never exhausts its fuel `len(lines)`.
  * `parse_rfc_errors_ValueError` — whatever the text, the translated function raises nothing but ValueError.
  * the malformed classes, each for EVERY parser state in which the line is met: `malformed_zone_end` (END:VTIMEZONE
    without TZID / without a component / with a component still open), `malformed_component_end` (END:<component>
    without DTSTART / TZOFFSETFROM / TZOFFSETTO), `malformed_mismatched_end`, `malformed_unknown_component` (also a nested
    VTIMEZONE), `malformed_unknown_property_in_component`, `malformed_unknown_property_in_zone`,
    `malformed_property_parameter`, `malformed_bad_rrule` (rrulestr rejects the lines — among them a rule whose INTERVAL is below 1:
    `rrule.__init__` raises ValueError for it, fix D-C01-interval), `malformed_no_colon`;
  * state does not leak: `zone_state_does_not_leak` (BEGIN:VTIMEZONE clears TZID and the component list, so
    `malformed_zone_end` applies to each zone on its own), `component_state_does_not_leak` (BEGIN:STANDARD|DAYLIGHT clears
    DTSTART-seen / both offsets / the recurrence lines / TZNAME);
  * `component_without_dtstart` — document level: a component made of any number of RRULE / RDATE / EXRULE / EXDATE /
    TZOFFSET* / TZNAME / COMMENT lines but no DTSTART is rejected at the latest at its END line, from any state.
  NOT proved: the converse direction as one grammar — "every text of the well-formed grammar is accepted with exactly its
  component list" — is tied by the correspondence (`ical.parse`, `tzgen.ical.rfc`) on generated and mutated definitions.
-/
import DateutilVerif.Proofs.ICalMalformed

namespace C17
open ICal ICalRfc Py

theorem gen_eq_model_parse_rfc_line (lib : RRuleLib) (st : PState) (line : List Char) :
    Gen.tzical_parseRfc_line lib st line = stepLineW lib st line := gen_line_eq_model lib st line

/-- the translated unfolding loop, given `len(lines)` iterations of fuel, ends normally with the model's `unfold` -/
theorem gen_unfold_terminates (lines : List (List Char)) :
    ∃ k, RfcPy.whileFuel lines.length Gen.tzical_parseRfc_unfoldCond Gen.tzical_parseRfc_unfold (lines, 0) =
      .ok (unfold lines, k) := unfold_loop_eq lines

/-- the translated `_parse_rfc` leaves in `self._vtz` exactly what the model computes, and raises what it raises -/
theorem gen_eq_model_parse_rfc (lib : RRuleLib) (s : List Char) :
    (Gen.tzical_parseRfc lib s).map (·.vtz) = parseRfcW lib s := gen_parse_rfc_eq lib s

/-- **nothing but ValueError**: for every text, if the translated `_parse_rfc` raises, it raises ValueError
    (given that `rrulestr` raises nothing else: C13) -/
theorem parse_rfc_errors_ValueError (lib : RRuleLib) (hl : LibVE lib) (s : List Char) (e : PyErr)
    (h : Gen.tzical_parseRfc lib s = .error e) : e = .ValueError := by
  have := gen_eq_model_parse_rfc lib s
  rw [h] at this
  rcases (parseRfcW_raises lib s).of_err this.symm with h | ⟨l, h⟩
  · exact h
  · exact hl l e h

/-- a non-empty line without a colon -/
theorem malformed_no_colon (lib : RRuleLib) (st : PState) (line : List Char) (hl : line ≠ [])
    (h : splitColon1 line = none) : stepLineW lib st line = .error .ValueError := by
  unfold stepLineW; cases line with
  | nil => exact absurd rfl hl
  | cons a t => simp [h]

/-- END:VTIMEZONE while a component is open, or no TZID was given in THIS zone, or it has no component -/
theorem malformed_zone_end (lib : RRuleLib) (st : PState) (line : List Char) (parms : List (List Char))
    (hin : st.invtz = true) (h : truthy st.comptype = true ∨ truthy st.tzid = false ∨ st.comps = []) :
    stepCore lib st line (lit "END") parms (lit "VTIMEZONE") = .error .ValueError := by
  have e1 : (lit "END" == lit "BEGIN") = false := by decide
  simp only [stepCore, hin, if_true, e1, Bool.false_eq_true, if_false, beq_self_eq_true, closeZone]
  rcases h with h | h | h
  · simp [h]
  · by_cases hc : truthy st.comptype = true <;> simp [hc, h]
  · by_cases hc : truthy st.comptype = true <;> by_cases ht : truthy st.tzid = true <;> simp [hc, ht, h]

/-- END:<component> of the open component without DTSTART, TZOFFSETFROM or TZOFFSETTO -/
theorem malformed_component_end (lib : RRuleLib) (st : PState) (line value : List Char) (parms : List (List Char))
    (hin : st.invtz = true) (hv : value ≠ lit "VTIMEZONE") (hc : st.comptype = some value)
    (h : st.founddtstart = false ∨ st.tzoffsetfrom = none ∨ st.tzoffsetto = none) :
    stepCore lib st line (lit "END") parms value = .error .ValueError := by
  have e1 : (lit "END" == lit "BEGIN") = false := by decide
  have e2 : (value == lit "VTIMEZONE") = false := by simpa using hv
  simp only [stepCore, hin, if_true, e1, Bool.false_eq_true, if_false, beq_self_eq_true, e2, hc, closeComp]
  rcases h with h | h | h
  · simp [h]
  · cases hf : st.founddtstart <;> simp [h]
  · cases hf : st.founddtstart <;> cases hfr : st.tzoffsetfrom <;> simp [h]

/-- END:<x> where x is neither VTIMEZONE nor the open component -/
theorem malformed_mismatched_end (lib : RRuleLib) (st : PState) (line value : List Char) (parms : List (List Char))
    (hin : st.invtz = true) (hv : value ≠ lit "VTIMEZONE") (hc : st.comptype ≠ some value) :
    stepCore lib st line (lit "END") parms value = .error .ValueError := by
  have e1 : (lit "END" == lit "BEGIN") = false := by decide
  have e2 : (value == lit "VTIMEZONE") = false := by simpa using hv
  have e3 : (some value == st.comptype) = false := by
    simp only [beq_eq_false_iff_ne, ne_eq]; exact fun h => hc h.symm
  simp [stepCore, hin, e1, e2, e3]

/-- BEGIN:<x> inside a VTIMEZONE with x other than STANDARD / DAYLIGHT (a nested VTIMEZONE included) -/
theorem malformed_unknown_component (lib : RRuleLib) (st : PState) (line value : List Char) (parms : List (List Char))
    (hin : st.invtz = true) (h1 : value ≠ lit "STANDARD") (h2 : value ≠ lit "DAYLIGHT") :
    stepCore lib st line (lit "BEGIN") parms value = .error .ValueError := by
  simp [stepCore, hin, beginComp, h1, h2]

/-- a property the component grammar does not know -/
theorem malformed_unknown_property_in_component (lib : RRuleLib) (st : PState) (line name value : List Char)
    (parms : List (List Char)) (hin : st.invtz = true) (hc : truthy st.comptype = true)
    (hn : name ∉ [lit "BEGIN", lit "END", lit "DTSTART", lit "RRULE", lit "RDATE", lit "EXRULE", lit "EXDATE",
                  lit "TZOFFSETFROM", lit "TZOFFSETTO", lit "TZNAME", lit "COMMENT"]) :
    stepCore lib st line name parms value = .error .ValueError := by
  simp only [List.mem_cons, List.not_mem_nil, or_false, not_or] at hn
  obtain ⟨a, b, c, d, e, f, g, h, i, j, k⟩ := hn
  simp [stepCore, hin, hc, compProp, a, b, c, d, e, f, g, h, i, j, k]

/-- a property the zone grammar does not know (outside any component) -/
theorem malformed_unknown_property_in_zone (lib : RRuleLib) (st : PState) (line name value : List Char)
    (parms : List (List Char)) (hin : st.invtz = true) (hc : truthy st.comptype = false)
    (hn : name ∉ [lit "BEGIN", lit "END", lit "TZID", lit "TZURL", lit "LAST-MODIFIED", lit "COMMENT"]) :
    stepCore lib st line name parms value = .error .ValueError := by
  simp only [List.mem_cons, List.not_mem_nil, or_false, not_or] at hn
  obtain ⟨a, b, c, d, e, f⟩ := hn
  simp [stepCore, hin, hc, zoneProp, a, b, c, d, e, f]

/-- TZID / TZOFFSETFROM / TZOFFSETTO / TZNAME with a parameter -/
theorem malformed_property_parameter (lib : RRuleLib) (st : PState) (line value : List Char) (parms : List (List Char))
    (hin : st.invtz = true) (hp : parms ≠ []) :
    (truthy st.comptype = false → stepCore lib st line (lit "TZID") parms value = .error .ValueError) ∧
    (truthy st.comptype = true → ∀ name ∈ [lit "TZOFFSETFROM", lit "TZOFFSETTO", lit "TZNAME"],
      stepCore lib st line name parms value = .error .ValueError) := by
  have hpe : parms.isEmpty = false := List.isEmpty_eq_false_iff.mpr hp
  constructor
  · intro hc
    have e1 : (lit "TZID" == lit "BEGIN") = false := by decide
    have e2 : (lit "TZID" == lit "END") = false := by decide
    simp [stepCore, hin, hc, zoneProp, e1, e2, hpe]
  · intro hc name hn
    simp only [List.mem_cons, List.not_mem_nil, or_false] at hn
    rcases hn with rfl | rfl | rfl
    all_goals
      simp [stepCore, hin, hc, compProp, hpe, lit_BEGIN, lit_END, lit_DTSTART, lit_RRULE, lit_RDATE, lit_EXRULE, lit_EXDATE,
        lit_TZOFFSETFROM, lit_TZOFFSETTO, lit_TZNAME]

/-- the component's recurrence lines are rejected by `rrulestr`: whatever it raises is what `_parse_rfc` raises, and nothing is
    registered.  (`rrule.__init__` raises ValueError for an interval below 1 — fix D-C01-interval —, so
    `RRULE:FREQ=DAILY;INTERVAL=0` falls under this theorem; a zone loaded with such a rule would spin forever in every lookup,
    and the oracle loads every such definition under an alarm.) -/
theorem malformed_bad_rrule (lib : RRuleLib) (st : PState) (line value : List Char) (parms : List (List Char))
    (hin : st.invtz = true) (hv : value ≠ lit "VTIMEZONE") (hc : st.comptype = some value)
    (hd : st.founddtstart = true) (f t : Int) (hf : st.tzoffsetfrom = some f) (ht : st.tzoffsetto = some t)
    (hr : st.rrulelines ≠ []) (e : PyErr) (he : lib st.rrulelines = .error e) :
    stepCore lib st line (lit "END") parms value = .error e := by
  have e1 : (lit "END" == lit "BEGIN") = false := by decide
  have e2 : (value == lit "VTIMEZONE") = false := by simpa using hv
  have hre : st.rrulelines.isEmpty = false := List.isEmpty_eq_false_iff.mpr hr
  simp [stepCore, hin, e1, e2, hc, closeComp, hd, hf, ht, compRules, hre, he]

/-- per-zone state does not leak: BEGIN:VTIMEZONE forgets the TZID and the components of whatever came before, so the
    mandatory-field checks of `malformed_zone_end` apply to every zone of a multi-zone text on its own -/
theorem zone_state_does_not_leak (lib : RRuleLib) (st : PState) (line : List Char) (parms : List (List Char))
    (hin : st.invtz = false) :
    ∃ st', stepCore lib st line (lit "BEGIN") parms (lit "VTIMEZONE") = .ok st' ∧ st'.tzid = none ∧ st'.comps = [] ∧
      st'.invtz = true ∧ st'.vtz = st.vtz :=
  ⟨{ st with tzid := none, comps := [], invtz := true }, by simp [stepCore, hin], rfl, rfl, rfl, rfl⟩

/-- per-component state does not leak: BEGIN:STANDARD / BEGIN:DAYLIGHT forgets DTSTART-seen, both offsets, the recurrence
    lines and the TZNAME of the component before -/
theorem component_state_does_not_leak (lib : RRuleLib) (st : PState) (line value : List Char) (parms : List (List Char))
    (hin : st.invtz = true) (hv : value = lit "STANDARD" ∨ value = lit "DAYLIGHT") :
    ∃ st', stepCore lib st line (lit "BEGIN") parms value = .ok st' ∧ st'.comptype = some value ∧
      st'.founddtstart = false ∧ st'.tzoffsetfrom = none ∧ st'.tzoffsetto = none ∧ st'.rrulelines = [] ∧
      st'.tzname = none ∧ st'.tzid = st.tzid ∧ st'.comps = st.comps :=
  ⟨{ st with comptype := some value, founddtstart := false, tzoffsetfrom := none, tzoffsetto := none, rrulelines := [],
              tzname := none },
    by rcases hv with rfl | rfl <;> simp [stepCore, hin, beginComp], rfl, rfl, rfl, rfl, rfl, rfl, rfl, rfl⟩

/-- **a component with recurrence / offset / name lines but no DTSTART is rejected** (document level): from ANY parser state
    inside a VTIMEZONE, `BEGIN:STANDARD|DAYLIGHT`, then any number of RRULE / RDATE / EXRULE / EXDATE / TZOFFSETFROM / TZOFFSETTO /
    TZNAME / COMMENT lines in any order with any values, then `END:<the same>` raises (lines given after the split into
    NAME / parameters / value, `stepP` = `stepCore`; by `parse_rfc_errors_ValueError` what is raised is ValueError) -/
theorem component_without_dtstart (lib : RRuleLib) (st : PState) (kind : List Char)
    (hk : kind = lit "STANDARD" ∨ kind = lit "DAYLIGHT") (hin : st.invtz = true)
    (l0 l1 : List Char) (pm0 pm1 : List (List Char)) (ps : List PLine) (hps : ∀ p ∈ ps, OtherCompProp p.2.1) :
    ∃ e, ((l0, lit "BEGIN", pm0, kind) :: (ps ++ [(l1, lit "END", pm1, kind)])).foldlM (stepP lib) st = .error e :=
  ICalRfc.component_without_dtstart lib st kind hk hin l0 l1 pm0 pm1 ps hps

example : OtherCompProp (lit "RRULE") := Or.inl rfl

/-! non-vacuity: whole texts through the TRANSLATED function (a string literal is first replaced by its character list,
    `String.toList_ofList`: the kernel then evaluates the parser, not the UTF-8 decoding of the literal) -/
def okLib : RRuleLib := fun _ => .ok [1]
def rejectLib : RRuleLib := fun _ => .error .ValueError
def goodText : List Char := lit
  "BEGIN:VTIMEZONE\r\nTZID:X\r\nBEGIN:STANDARD\r\nDTSTART:19701025T030000\r\nRRULE:FREQ=YEARLY;BYMONTH=10;BYDAY=-1SU\r\nTZOFFSETFROM:+0200\r\nTZOFFSETTO:+0100\r\nEND:STANDARD\r\nEND:VTIMEZONE\r\n"
example : (Gen.tzical_parseRfc okLib goodText).map (fun st => st.vtz.map (fun v => (v.tzid, v.comps.length))) =
    .ok [(lit "X", 1)] := by rw [goodText, lit, String.toList_ofList]; decide +kernel
/-- the same text when `rrulestr` rejects the component's lines -/
example : (Gen.tzical_parseRfc rejectLib goodText).map (·.vtz) = .error .ValueError := by
  rw [goodText, lit, String.toList_ofList]; decide +kernel
example : LibVE okLib := by intro l e h; cases h
example : (Gen.tzical_parseRfc okLib (lit "BEGIN:VTIMEZONE\nBEGIN:STANDARD\nRRULE:FREQ=YEARLY\nTZOFFSETFROM:+0200\nTZOFFSETTO:+0100\nEND:STANDARD\nTZID:X\nEND:VTIMEZONE\n")).map (·.vtz)
    = .error .ValueError := by rw [lit, String.toList_ofList]; decide +kernel

end C17
