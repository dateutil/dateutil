/-
  Properties/C07.lean — isoparse inverts every ISO-8601 rendering.

  `IsoSpec.render f x` prints the numeric fields `x` in the form `f` (date form × time form ×
  offset form × separator byte); `IsoSpec.WFields f x` = the form exists and every field is in
  calendar / clock range (strict ISO weeks); `IsoSpec.denote f x` = the datetime it stands for
  (unrendered components lowest, fraction truncated to µs, zero offset = UTC, 24:00 = next
  midnight).  The theorems are about the model `Iso.*` of isoparser.py and, those named `_gen` or with a `Gen.*`
  conjunct, about the functions translated from it (`Gen.*`); they hold for all forms, all field values and all
  fraction lengths.
-/
import DateutilVerif.Proofs.IsoRender
import DateutilVerif.Proofs.IsoDatetime
import DateutilVerif.Proofs.IsoGenEq
import DateutilVerif.Proofs.IsoGenLoop
import DateutilVerif.Proofs.IsoReview
namespace C07
open Iso IsoSpec Cal

/-- the inverse law: for every form, every well-formed field assignment, every
    separator byte — a digit only being excluded after a basic ordinal date `YYYYDDD`, the one
    date form whose rendering a following digit makes ambiguous (`2014059112` reads as the calendar
    date 2014-05-91) — with the default parser (`cfg = none`) or the parser configured with that
    separator, parsing the rendering returns exactly the denoted datetime. -/
theorem isoparse_render (f : IsoForm) (x : Fields) (cfg : Option Nat)
    (hw : WFields f x) (hsep : f.time ≠ .none → f.date = .ordBas → isDigit f.sep = false)
    (hcfg : cfg = none ∨ cfg = some f.sep) :
    isoparse cfg (render f x) = .ok (denote f x) :=
  isoparse_render_core f x cfg hw hsep fun _ => hcfg

/-- the same through the public entry `isoparser(sep).isoparse(bytes)` (constructor check of
    `sep` included; bytes input, no ASCII gate) -/
theorem isoparse_render_entry (f : IsoForm) (x : Fields) (hw : WFields f x)
    (hsep : isDigit f.sep = false) (h128 : f.sep < 128) :
    isoparseFull (some [f.sep]) false (render f x) = .ok (denote f x) ∧
    isoparseFull none false (render f x) = .ok (denote f x) := by
  have h1 : mkSep (some [f.sep]) = .ok (some f.sep) := by
    simp [mkSep, hsep]; omega
  constructor
  · simp only [isoparseFull, h1, bind, Except.bind, asciiGate]
    simp [isoparse_render_core f x (some f.sep) hw (fun _ _ => hsep) fun _ => Or.inr rfl]
  · simp only [isoparseFull, mkSep, bind, Except.bind, asciiGate]
    simp [isoparse_render_core f x none hw (fun _ _ => hsep) fun _ => Or.inl rfl]

/-- `parse_isodate` inverts every date form (complete or not) -/
theorem parse_isodate_render (df : DateForm) (x : Fields) (hwf : dateWF true df x = true)
    (hr : dateOrdinal df x ≤ maxOrdinal) :
    parseIsodateEntry (renderDate df x) = .ok (fromOrdinal (dateOrdinal df x)) := by
  have hp := dateOrdinal_pos df x hwf
  have h := parseIsodate_render df x [] hwf hr (fun _ => Or.inl rfl) (Or.inr rfl)
  rw [List.append_nil] at h
  have hv := fromOrdinal_valid _ hp hr
  have : validDate (fromOrdinal (dateOrdinal df x)).1 (fromOrdinal (dateOrdinal df x)).2.1
      (fromOrdinal (dateOrdinal df x)).2.2 = true := by simp [validDate, hv]
  simp [parseIsodateEntry, h, bind, Except.bind, this]

/-- `parse_isotime` inverts every time form × offset form (24:00 reads as 00:00) -/
theorem parse_isotime_render (tf : TimeForm) (o : OffForm) (x : Fields) (htf : tf ≠ .none)
    (hw : timeWF tf x = true) (ho : offWF o x = true) :
    parseIsotimeEntry (renderTime tf x ++ renderOff o x) =
      .ok { h := if (timeShown tf x).1 = 24 then 0 else ((timeShown tf x).1 : Int),
            m := (timeShown tf x).2.1, s := (timeShown tf x).2.2.1, us := (timeShown tf x).2.2.2,
            tz := offDenote o x } := by
  have hpt := parseIsotime_render tf x _ _ htf hw (offTail_render o x ho)
  obtain ⟨hrange, hfr⟩ := (timeWF_iff tf x).mp hw
  have hus := timeShown_us_lt tf x hfr
  simp only [parseIsotimeEntry, hpt, bind, Except.bind]
  generalize timeShown tf x = ts at *
  obtain ⟨h, mi, s, us⟩ := ts
  simp only [] at hrange hus ⊢
  by_cases h24 : h = 24
  · subst h24
    have hz : mi = 0 ∧ s = 0 ∧ us = 0 := by rcases hrange with g | g <;> omega
    obtain ⟨rfl, rfl, rfl⟩ := hz
    simp
  · have hlt : h ≤ 23 ∧ mi ≤ 59 ∧ s ≤ 59 := by
      rcases hrange with g | g
      · exact g
      · exact absurd g.1 h24
    have : ¬ ((h : Int) = 24) := by omega
    simp only [this, if_false]
    rw [if_pos (by omega)]
    simp [h24]

/-- `parse_tzstr` inverts every offset form, every offset −23:59..+23:59 -/
theorem parse_tzstr_render (o : OffForm) (x : Fields) (v : Off) (hw : offWF o x = true)
    (hv : offDenote o x = some v) : parseTzstr (renderOff o x) true = .ok v :=
  parseTzstr_render o x v hw hv

/-- week dates really invert `date.isocalendar()`: for EVERY valid date the (ISO year, week,
    weekday) it reports denotes that date again, the week exists in that ISO year, and the fields
    are in range — so `isoparse_render` applied to `isocalendar()` output returns the date. -/
theorem weekdate_inverts_isocalendar (y m d : Int) (hv : ValidYMD y m d) :
    isoWeek1Monday (isoCalendar y m d).1 + ((isoCalendar y m d).2.1 - 1) * 7 +
      ((isoCalendar y m d).2.2 - 1) = toOrdinal y m d ∧
    1 ≤ (isoCalendar y m d).2.1 ∧ (isoCalendar y m d).2.1 ≤ 53 ∧
    1 ≤ (isoCalendar y m d).2.2 ∧ (isoCalendar y m d).2.2 ≤ 7 ∧
    (isoCalendar y m d).2.1 ≤ isoWeeksInYear (isoCalendar y m d).1 :=
  weekdate_roundtrip y m d hv

/-- ordinal dates invert `tm_yday` -/
theorem ordinaldate_inverts_yday (y m d : Int) (hv : ValidYMD y m d) :
    toOrdinal y 1 1 + (yday y m d - 1) = toOrdinal y m d ∧ 1 ≤ yday y m d ∧ yday y m d ≤ daysInYear y := by
  have ⟨o1, o2⟩ := ordinal_in_year y m d hv
  have s := daysBeforeYear_succ y
  simp only [toOrdinal_jan, yday]
  unfold toOrdinal at o1 o2 ⊢
  omega

/-- the inverse law on datetimes: for every valid datetime `t` (years 1..9999), every complete date
    form (calendar / ISO week / ordinal, basic or extended — the fields shown are `t`'s own
    y-m-d, `isocalendar()` or `tm_yday`), every time form with ANY list of fraction digits, every
    offset form and value, every non-digit separator (default parser or configured with it):
    parsing the rendering returns exactly `t` truncated to the rendered precision, with the offset
    denoted.  `Iso.dtFields` / `Iso.truncDT` are defined in Proofs/IsoDatetime.lean. -/
theorem isoparse_inverts_datetime (t : DT) (ht : t.Valid) (df : DateForm) (hc : df.complete = true)
    (tf : TimeForm) (htf : tf ≠ .none) (frac : List Nat)
    (hfrac : tf.hasFrac = true → frac ≠ [] ∧ ∀ d ∈ frac, d ≤ 9)
    (o : OffForm) (xo : Fields) (how : offWF o xo = true) (sep : Nat) (hsep : df = .ordBas → isDigit sep = false)
    (cfg : Option Nat) (hcfg : cfg = none ∨ cfg = some sep) :
    isoparse cfg (render ⟨df, tf, o, sep⟩ (dtFields df t frac xo)) =
      .ok ⟨truncDT tf frac t, offDenote o xo⟩ :=
  isoparse_inverts_datetime_core t ht df hc tf htf frac hfrac o xo how sep hsep cfg hcfg

/-- rendering the first `k ≤ 6` digits of the microsecond truncates it to that precision … -/
theorem fraction_truncates (us k : Nat) (hus : us < 1000000) (h1 : 1 ≤ k) (h6 : k ≤ 6) :
    fracMicros ((digits6 us).take k) = us - us % 10 ^ (6 - k) :=
  fracMicros_take us k hus h1 h6

/-- … and digits beyond the sixth are ignored (fractions beyond microseconds are truncated) -/
theorem fraction_extra_ignored (us : Nat) (extra : List Nat) (hus : us < 1000000) :
    fracMicros (digits6 us ++ extra) = us :=
  fracMicros_extra us extra hus

/-- the ISO year reported by `isocalendar()` for a date in 0001..9999 is itself in 1..9999, so every
    date has a week-date rendering with a four-digit year -/
theorem isoYear_in_range (y m d : Int) (hv : ValidDate y m d) :
    1 ≤ (isoCalendar y m d).1 ∧ (isoCalendar y m d).1 ≤ 9999 :=
  isoYear_range y m d hv

/-- the translated `_parse_tzstr` inverts every offset form -/
theorem parse_tzstr_render_gen (o : OffForm) (x : Fields) (v : Off) (hw : offWF o x = true)
    (hv : offDenote o x = some v) : Gen.parseTzstr (renderOff o x) true = .ok v := by
  rw [IsoGen.parseTzstr_eq]; exact parseTzstr_render o x v hw hv

/-- the translated date scanner `_parse_isodate` inverts every date form, with any unread suffix that does not
    start with a digit: it returns the denoted date as components and the length of the rendering as position -/
theorem parse_isodate_scan_render_gen (df : DateForm) (x : Fields) (t : Iso.Bytes)
    (hwf : dateWF true df x = true) (hr : dateOrdinal df x ≤ maxOrdinal)
    (ht : df = .ordBas → TailOK t) (hc : df.complete = true ∨ t = []) :
    Gen.parseIsodate (renderDate df x ++ t) =
      .ok ([.int (fromOrdinal (dateOrdinal df x)).1, .int (fromOrdinal (dateOrdinal df x)).2.1,
            .int (fromOrdinal (dateOrdinal df x)).2.2], ((renderDate df x).length : Int)) := by
  rw [IsoGen.parseIsodate_eq, parseIsodate_render df x t hwf hr ht hc]
  simp [Except.map, IsoGen.dateOut]

/-- the inverse law for the translated `isoparse` (`Gen.isoparse`, re-translated from isoparser.py on every run):
    every form, every well-formed field assignment, default or configured separator -/
theorem isoparse_render_gen (f : IsoForm) (x : Fields) (cfg : Option Nat)
    (hw : WFields f x) (hsep : f.time ≠ .none → f.date = .ordBas → isDigit f.sep = false)
    (hcfg : cfg = none ∨ cfg = some f.sep) :
    Gen.isoparse (cfg.map fun c => [c]) (render f x) = .ok (denote f x) := by
  rw [IsoGen.isoparse_eq]; exact isoparse_render_core f x cfg hw hsep fun _ => hcfg

/-- the datetime-level inverse law for the translated `isoparse` -/
theorem isoparse_inverts_datetime_gen (t : DT) (ht : t.Valid) (df : DateForm) (hc : df.complete = true)
    (tf : TimeForm) (htf : tf ≠ .none) (frac : List Nat)
    (hfrac : tf.hasFrac = true → frac ≠ [] ∧ ∀ d ∈ frac, d ≤ 9)
    (o : OffForm) (xo : Fields) (how : offWF o xo = true) (sep : Nat) (hsep : df = .ordBas → isDigit sep = false)
    (cfg : Option Nat) (hcfg : cfg = none ∨ cfg = some sep) :
    Gen.isoparse (cfg.map fun c => [c]) (render ⟨df, tf, o, sep⟩ (dtFields df t frac xo)) =
      .ok ⟨truncDT tf frac t, offDenote o xo⟩ := by
  rw [IsoGen.isoparse_eq]
  exact isoparse_inverts_datetime_core t ht df hc tf htf frac hfrac o xo how sep hsep cfg hcfg

/-- the translated `_parse_isotime` (the `while` loop, fuel-bounded) inverts every time form × offset form: it
    returns the raw components `[hh, mm, ss, µs, tz]` the rendering shows -/
theorem parse_isotime_scan_render_gen (tf : TimeForm) (o : OffForm) (x : Fields) (htf : tf ≠ .none)
    (hw : timeWF tf x = true) (ho : offWF o x = true) :
    Gen.parseIsotime (renderTime tf x ++ renderOff o x) =
      .ok (IsoGen.compsOf { h := (timeShown tf x).1, m := (timeShown tf x).2.1, s := (timeShown tf x).2.2.1,
                            us := (timeShown tf x).2.2.2, tz := offDenote o x }) := by
  rw [IsoGen.parseIsotime_eq, parseIsotime_render tf x _ _ htf hw (offTail_render o x ho)]; rfl

/-- the translated body of `parse_isodate` inverts every date form (the value is the date's ordinal) -/
theorem parse_isodate_render_gen (df : DateForm) (x : Fields) (hwf : dateWF true df x = true)
    (hr : dateOrdinal df x ≤ maxOrdinal) :
    Gen.parseIsodateEntry (renderDate df x) = .ok (dateOrdinal df x) := by
  rw [IsoGen.parseIsodateEntry_eq, parse_isodate_render df x hwf hr]
  simp only [Except.map]
  rw [(toOrdinal_fromOrdinal _ (dateOrdinal_pos df x hwf)).1]

/-- the translated body of `parse_isotime` inverts every time form × offset form (24:00 reads as 00:00) -/
theorem parse_isotime_render_gen (tf : TimeForm) (o : OffForm) (x : Fields) (htf : tf ≠ .none)
    (hw : timeWF tf x = true) (ho : offWF o x = true) :
    Gen.parseIsotimeEntry (renderTime tf x ++ renderOff o x) =
      .ok (IsoGen.compsOf
        { h := if (timeShown tf x).1 = 24 then 0 else ((timeShown tf x).1 : Int),
          m := (timeShown tf x).2.1, s := (timeShown tf x).2.2.1, us := (timeShown tf x).2.2.2,
          tz := offDenote o x }) := by
  rw [IsoGen.parseIsotimeEntry_eq, parse_isotime_render tf o x htf hw ho]; rfl

/-- `_parse_tzstr` (model and translated) inverts every offset form for BOTH values of `zero_as_utc`: with
    `zero_as_utc=False` a zero numeric offset stays `tzoffset(None, 0)`, `Z`/`z` are UTC in either mode -/
theorem parse_tzstr_render_any_mode (o : OffForm) (x : Fields) (z : Bool) (ho : o ≠ .naive) (hw : offWF o x = true) :
    parseTzstr (renderOff o x) z = .ok (offValue z o x) ∧
    Gen.parseTzstrEntry (renderOff o x) z = .ok (offValue z o x) := by
  have h := parseTzstr_render_z o x z ho hw
  exact ⟨h, by rw [IsoGen.parseTzstrEntry_eq]; exact h⟩

/-- the datetime-level law with the fraction digits TIED to the microsecond of `t`: the first `k ≤ 6` digits of
    `t.us` are rendered, parsing returns `t` with the microsecond truncated to a multiple of `10^(6-k)` -/
theorem isoparse_inverts_datetime_us (t : DT) (ht : t.Valid) (df : DateForm) (hc : df.complete = true)
    (tf : TimeForm) (htf : tf ≠ .none) (k : Nat) (h1 : 1 ≤ k) (h6 : k ≤ 6)
    (o : OffForm) (xo : Fields) (how : offWF o xo = true) (sep : Nat) (hsep : df = .ordBas → isDigit sep = false)
    (cfg : Option Nat) (hcfg : cfg = none ∨ cfg = some sep) :
    isoparse cfg (render ⟨df, tf, o, sep⟩ (dtFields df t ((digits6 t.us.toNat).take k) xo)) =
      .ok ⟨truncDTk tf k t, offDenote o xo⟩ ∧
    Gen.isoparse (cfg.map fun c => [c]) (render ⟨df, tf, o, sep⟩ (dtFields df t ((digits6 t.us.toNat).take k) xo)) =
      .ok ⟨truncDTk tf k t, offDenote o xo⟩ := by
  have h := Iso.isoparse_inverts_datetime_us t ht df hc tf htf k h1 h6 o xo how sep hsep cfg hcfg
  exact ⟨h, by rw [IsoGen.isoparse_eq]; exact h⟩

/-- … and with all six digits of `t.us` (followed by any further digits) the datetime comes back EXACTLY -/
theorem isoparse_inverts_datetime_exact (t : DT) (ht : t.Valid) (df : DateForm) (hc : df.complete = true)
    (tf : TimeForm) (htf : tf.hasFrac = true) (extra : List Nat) (hex : ∀ d ∈ extra, d ≤ 9)
    (o : OffForm) (xo : Fields) (how : offWF o xo = true) (sep : Nat) (hsep : df = .ordBas → isDigit sep = false)
    (cfg : Option Nat) (hcfg : cfg = none ∨ cfg = some sep) :
    isoparse cfg (render ⟨df, tf, o, sep⟩ (dtFields df t (digits6 t.us.toNat ++ extra) xo)) = .ok ⟨t, offDenote o xo⟩ ∧
    Gen.isoparse (cfg.map fun c => [c]) (render ⟨df, tf, o, sep⟩ (dtFields df t (digits6 t.us.toNat ++ extra) xo)) =
      .ok ⟨t, offDenote o xo⟩ := by
  have h := Iso.isoparse_inverts_datetime_exact t ht df hc tf htf extra hex o xo how sep hsep cfg hcfg
  exact ⟨h, by rw [IsoGen.isoparse_eq]; exact h⟩

/-- a date alone: every valid date, every complete date form fed with the date's own fields -/
theorem isoparse_inverts_date (y m d : Int) (hv : ValidDate y m d) (df : DateForm) (hc : df.complete = true)
    (cfg : Option Nat) :
    isoparse cfg (render ⟨df, .none, .naive, 84⟩ (dateFieldsOf df y m d)) = .ok ⟨{ y, m, d }, none⟩ ∧
    Gen.isoparse (cfg.map fun c => [c]) (render ⟨df, .none, .naive, 84⟩ (dateFieldsOf df y m d)) =
      .ok ⟨{ y, m, d }, none⟩ := by
  have h := Iso.isoparse_inverts_date y m d hv df hc cfg
  exact ⟨h, by rw [IsoGen.isoparse_eq]; exact h⟩

/-- str, bytes and stream inputs are equivalent: for ASCII text every `@_takes_ascii` entry point computes the
    same result whichever way the text arrives (model of `_takes_ascii`; the decorator itself is hand-modelled) -/
theorem input_kinds_equivalent {α} (f : Iso.Bytes → Py.R α) (t : List Nat) (h : ∀ c ∈ t, c < 128) :
    takesAscii f (.str t) = f t ∧ takesAscii f (.bytes t) = f t ∧
    takesAscii f (.streamStr t) = f t ∧ takesAscii f (.streamBytes t) = f t := by
  have : t.any (fun c => decide (c ≥ 128)) = false := by
    rw [List.any_eq_false]; intro c hc; have := h c hc; simp; omega
  simp [takesAscii, this]

/-- the same about the TRANSLATED `_takes_ascii` (`Gen.takesAscii`, re-translated from isoparser.py on every run; the
    only trusted part is the primitive `readAll`: a stream delivers everything from its current position) -/
theorem input_kinds_equivalent_gen {α} (f : Iso.Bytes → Py.R α) (t : List Nat) (h : ∀ c ∈ t, c < 128) :
    Gen.takesAscii f (.str t) = f t ∧ Gen.takesAscii f (.bytes t) = f t ∧
    Gen.takesAscii f (.streamStr t) = f t ∧ Gen.takesAscii f (.streamBytes t) = f t := by
  obtain ⟨h1, h2, h3, h4⟩ := input_kinds_equivalent f t h
  exact ⟨by rw [← h1]; exact IsoGen.takesAscii_eq f (.str t), by rw [← h2]; exact IsoGen.takesAscii_eq f (.bytes t),
    by rw [← h3]; exact IsoGen.takesAscii_eq f (.streamStr t), by rw [← h4]; exact IsoGen.takesAscii_eq f (.streamBytes t)⟩

/-! non-vacuity: concrete forms with well-formed fields -/
example : WFields ⟨.weekExtD, .hmsfExt false, .hhcmm, 84⟩
    { year := 2020, a := 53, b := 4, hh := 23, mm := 59, ss := 59, frac := [1,2,3,4,5,6,7], neg := true, oh := 23, om := 59 } := by
  unfold WFields; decide +kernel
example : WFields ⟨.ordBas, .h, .Z, 32⟩ { year := 2016, a := 366, hh := 24 } := by
  unfold WFields; decide +kernel
example : isoparse none (render ⟨.calExt, .hmExt, .hh, 84⟩ { year := 2014, a := 2, b := 28, hh := 24, oh := 0 })
    = .ok ⟨{ y := 2014, m := 3, d := 1 }, some .utc⟩ := by decide +kernel

end C07
