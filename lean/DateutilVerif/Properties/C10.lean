/-
  Properties/C10.lean — rruleset = ordered (rrules ∪ rdates) \ (exrules ∪ exdates).

  `iter sel inc exc` is `rruleset._iter` (Model/RRuleSet.lean) over inclusion streams `inc` and
  exclusion streams `exc` (finite lists of integers, each sorted, duplicates allowed inside and
  across streams); `sel` is the priority-queue discipline of the two heaps, and the theorems
  hold for EVERY admissible one (index 0 holds some minimal item — all that is assumed of
  `heapq`), hence for heapq's actual tie-breaking.
-/
import DateutilVerif.Proofs.RRuleSetSpec
import DateutilVerif.Proofs.CacheGlobal
import DateutilVerif.Proofs.RSetHistoryInv
import DateutilVerif.Generated.RRBaseCache
import DateutilVerif.Proofs.MergePy

namespace C10
open RSet

/-- The merge loop with `lastdt` duplicate suppression and the exclusion cursor advance yields exactly `setSpec inc exc` —
    strictly increasing, each instant once, the instants of some inclusion member and of no exclusion member — for every
    admissible heap discipline and all sorted member streams.  Induction on the number of remaining inclusion instants with
    the invariant "everything below the heap minimum has been decided" (`RSet.loop_spec`). -/
theorem rset_iter_eq_spec (sel : Sel) (adm : Admissible sel) (inc exc : List (List Int))
    (hinc : ∀ s ∈ inc, s.Pairwise (· ≤ ·)) (hexc : ∀ s ∈ exc, s.Pairwise (· ≤ ·)) :
    iter sel inc exc = setSpec inc exc := by
  unfold iter setSpec
  have ⟨h1, _, _, h4⟩ := loop_spec adm (totalLen inc + 1) (inc.filterMap mkCursor) (exc.filterMap mkCursor) none
    (sorted_mk inc hinc) (sorted_mk exc hexc) (by rw [total_mk]; omega) (fun l hl => by cases hl)
  have ⟨s1, s2⟩ := sortDedup_spec (inc.flatten.filter (fun x => !(exc.flatten.elem x)))
  apply sorted_ext _ _ h1 s1
  intro x
  rw [h4 x, s2 x, mem_elemsOf_mk, mem_elemsOf_mk, List.mem_filter]
  simp [List.elem_eq_mem]

/-- strictly increasing, each instant once -/
theorem rset_iter_sorted (sel : Sel) (adm : Admissible sel) (inc exc : List (List Int))
    (hinc : ∀ s ∈ inc, s.Pairwise (· ≤ ·)) (hexc : ∀ s ∈ exc, s.Pairwise (· ≤ ·)) :
    (iter sel inc exc).Pairwise (· < ·) ∧
    ∀ x, x ∈ iter sel inc exc ↔ (∃ s ∈ inc, x ∈ s) ∧ ¬ ∃ s ∈ exc, x ∈ s := by
  rw [rset_iter_eq_spec sel adm inc exc hinc hexc]
  have ⟨s1, s2⟩ := sortDedup_spec (inc.flatten.filter (fun x => !(exc.flatten.elem x)))
  refine ⟨s1, fun x => ?_⟩
  unfold setSpec
  rw [s2 x, List.mem_filter]
  simp [List.mem_flatten, List.elem_eq_mem]

/-- `total` (published as `_len` when the generator ends; the cache machine's
    `next(gen)` at the end of `src`) is the number of specified instants. -/
theorem rset_len (sel : Sel) (adm : Admissible sel) (inc exc : List (List Int))
    (hinc : ∀ s ∈ inc, s.Pairwise (· ≤ ·)) (hexc : ∀ s ∈ exc, s.Pairwise (· ≤ ·)) :
    (iter sel inc exc).length = (setSpec inc exc).length := by
  rw [rset_iter_eq_spec sel adm inc exc hinc hexc]

/-- Every observation of every history that never advances an iterator created before a mutator after that mutator
    (`NoStale`) equals the specification of the members present at that moment (`specOps`: list semantics on `setSpec`, for
    a kept iterator its next k instants) — cache on or off, any sequence of addRRule / addRDate / addExRule / addExDate, any
    query, `open_ k` (create an iterator, take k, KEEP it), `resume j k`.  Composition of `rset_iter_eq_spec` (what the
    generator yields), the invariant of the cache machine of C11 run one thread at a time (`Cache.Solo`, `runQuery_spec`,
    `takeVals_spec`) and `C12.gen_eq_spec` / `fast_eq_spec`. -/
theorem history_inv (cacheOn : Bool) (ops : List Op) (hsorted : ∀ op ∈ ops, opSorted op)
    (hfresh : NoStale {} ops) (hfit : AllFit {} ops) :
    runOps (newState cacheOn) ops = specOps {} ops :=
  history_good ops (newState cacheOn) {} (good_init cacheOn) hsorted hfresh hfit

/-- `history_inv` without `NoStale`: EVERY history — also with iterators created before a mutator and advanced after it,
    cache on or off: every observation other than what such a stale iterator itself yields (`staleAt`; the property speaks of
    "every later iteration and query") equals the specification of the members present at that moment.  False of /repo without
    pending_fixes/D-C10-stale.diff: a stale `_iter_cached` marked the new empty cache complete, a stale `_iter` published its
    old total as `_len`.  With it an iterator of an invalidated generation runs on its own cache list and generator and writes
    nothing of the object (`cache is self._cache`, `generation == self._generation`): in the model it runs on the machine of its
    own generation (`RSet.resumeCached`), and `Good` is preserved by EVERY op (`good_step_any`).  An iterator created before a
    mutator whose body has not started yet belongs to the current generation when it is first advanced (model and code
    alike); `Good.hcg/hdg` keep such iterators apart from the ones the bookkeeping follows. -/
theorem history_inv_any (cacheOn : Bool) (ops : List Op) (hsorted : ∀ op ∈ ops, opSorted op) (hfit : AllFit {} ops) :
    Agree {} ops (runOps (newState cacheOn) ops) (specOps {} ops) :=
  history_good_any ops (newState cacheOn) {} (good_init cacheOn) hsorted hfit

/-! ### the merge loop read from the source

`Gen.genitemInit / genitemNext / genitemCmp / rsetIterProgram` (Generated/RSetMerge.lean) are `rruleset._genitem.__init__`,
`__next__`, the four comparison methods and the generator `rruleset._iter` as `harness/translate_rrbase.py` parses them from
/repo's working tree on every run — the statements in source order, from a strict vocabulary; `heapq.heapify / heapreplace /
heappop` are named primitives with the contract "index 0 holds some minimal item" (`sel`).  `MergePy.runIter` is their meaning. -/

/-- The translated `_iter` (with the translated `_genitem`) yields exactly the merge model
    `RSet.iter sel inc exc` and counts `total` = its length — for ALL members and EVERY admissible heap discipline. -/
theorem gen_rset_iter_eq_model (sel : Sel) (adm : Admissible sel) (m : Members) :
    MergePy.runIter sel Gen.genitemInit Gen.genitemNext Gen.genitemCmp Gen.rsetIterProgram m =
      some (iter sel m.inc m.exc, (iter sel m.inc m.exc).length) := by
  unfold MergePy.runIter
  have hs : (MergePy.setupOk Gen.rsetIterProgram && Gen.rsetIterProgram.publishesLenGuarded) = true := by decide
  simp only [hs, Bool.not_true, Bool.false_eq_true, ↓reduceIte, MergePy.cursorsOf_eq]
  obtain ⟨s', h1, h2, h3⟩ := MergePy.loop_eq adm (totalLen m.inc + 1) { rl := m.inc.filterMap mkCursor, ex := m.exc.filterMap mkCursor } rfl rfl
  rw [h1]
  simp only [Option.map_some, h2, h3, iter]
  simp

/-- Hence `rset_iter_eq_spec` holds of the code as written: the translated `_iter` yields the
    ordered set (rrules ∪ rdates) \ (exrules ∪ exdates) of the members, each instant once, and publishes its size. -/
theorem rset_iter_eq_spec_source (sel : Sel) (adm : Admissible sel) (m : Members)
    (hinc : ∀ s ∈ m.inc, s.Pairwise (· ≤ ·)) (hexc : ∀ s ∈ m.exc, s.Pairwise (· ≤ ·)) :
    MergePy.runIter sel Gen.genitemInit Gen.genitemNext Gen.genitemCmp Gen.rsetIterProgram m =
      some (setSpec m.inc m.exc, (setSpec m.inc m.exc).length) := by
  rw [gen_rset_iter_eq_model sel adm m, rset_iter_eq_spec sel adm m.inc m.exc hinc hexc]

/-- `_genitem` as translated: `__init__` is `mkCursor`; `__next__` is `advanceTop` wherever the item sits (`heappop` only when it is at index 0,
    `remove` + `heapify` otherwise); the comparison methods compare `dt` with the operator of their name -/
theorem gen_genitem_eq_model :
    (∀ st, MergePy.runInit Gen.genitemInit st = some (mkCursor st)) ∧
    (∀ c isTop others, (MergePy.runNext Gen.genitemNext c isTop others).map (·.1) = some (advanceTop c others)) ∧
    Gen.genitemCmp = { lt := .lt, gt := .gt, eq := .eq, ne := .ne } := by
  refine ⟨fun st => ?_, fun c isTop others => ?_, rfl⟩
  · cases st <;> simp [MergePy.runInit, Gen.genitemInit, mkCursor]
  · cases h : c.rest <;> cases isTop <;> simp [MergePy.runNext, Gen.genitemNext, advanceTop, h]

-- the obligation distinguishes programs: without the `heapreplace` after advancing the inclusion item the heap stays dirty
example : MergePy.runIter selFirstMin Gen.genitemInit Gen.genitemNext Gen.genitemCmp
            { Gen.rsetIterProgram with body := Gen.rsetIterProgram.body.dropLast } { rrules := [[1, 2]] } = none := by decide
example : MergePy.runIter selFirstMin Gen.genitemInit Gen.genitemNext Gen.genitemCmp Gen.rsetIterProgram
            { rrules := [[1, 2, 5], [2, 3]], rdates := [9, 0], exdates := [3] } = some ([0, 1, 2, 5, 9], 5) := by decide

/-- `rruleset.rrule / rdate / exrule / exdate` as translated (each `@_invalidates_cache`, body
    `self._<list>.append(x)`) with the translated decorator (`rv = f(…); self._invalidate_cache(); return rv`): each appends its
    argument to ITS OWN member list and `_invalidate_cache()` runs after the append — what `RSet.applyOp` does for the four
    mutator ops (`invalidate st { m with <list> := <list> ++ [x] }`); `rruleset.__init__` calls the base initialiser and starts
    from four empty lists (`newState`). -/
theorem gen_mutators_eq_model (m : Members) :
    (∀ l, MergePy.runMutRule Gen.invalidatesDecorator Gen.rsetMutators .rrule m l = some ({ m with rrules := m.rrules ++ [l] }, true)) ∧
    (∀ l, MergePy.runMutRule Gen.invalidatesDecorator Gen.rsetMutators .exrule m l = some ({ m with exrules := m.exrules ++ [l] }, true)) ∧
    (∀ d, MergePy.runMutDate Gen.invalidatesDecorator Gen.rsetMutators .rdate m d = some ({ m with rdates := m.rdates ++ [d] }, true)) ∧
    (∀ d, MergePy.runMutDate Gen.invalidatesDecorator Gen.rsetMutators .exdate m d = some ({ m with exdates := m.exdates ++ [d] }, true)) ∧
    Gen.rsetInit = { callsBaseInit := true, emptyLists := [.rrule, .rdate, .exrule, .exdate] } :=
  ⟨fun _ => rfl, fun _ => rfl, fun _ => rfl, fun _ => rfl, rfl⟩

/-- `rrulebase.__init__` as translated, with the translated `_invalidate_cache`: `cache=True` gives
    the fresh machine `Cache.initShared` (`newState true`: the generation counter is 1 — it is only ever compared for equality),
    `cache=False` an object without cache list, `_cache_complete` False, `_len` None, generation 0. -/
theorem gen_base_init_eq_model (o : CachePy.Obj) (src : List Int) (e : Option Py.PyErr) :
    CachePy.runInitObj src e Gen.invalidateProgram true Gen.baseInitProgram o =
      some { cached := true, sh := Cache.initShared src e, generation := 1 } ∧
    CachePy.runInitObj src e Gen.invalidateProgram false Gen.baseInitProgram o =
      some { cached := false, sh := { o.sh with complete := false, len := none }, generation := 0 } := by
  constructor <;> simp [CachePy.runInitObj, CachePy.chooseBranch, Gen.baseInitProgram, CachePy.runFlat, CachePy.runI, CachePy.runIL,
    Gen.invalidateProgram, Cache.initShared]

/-- `rrulebase._invalidate_cache` as translated from the source (`Gen.invalidateProgram`,
    meaning `CachePy.runIL`) on a cached object, whatever its state: a fresh cache list, `_cache_complete` False, a fresh
    (`_restartable`) generator over the members as they are now, lock released, `_len` None, generation counter + 1 — exactly
    the fresh machine `Cache.initShared` that `RSet.invalidate` installs after every mutator (the previous generation is
    pushed on `old`, whose length is the generation counter). -/
theorem gen_invalidate_eq_model (o : CachePy.Obj) (src : List Int) (e : Option Py.PyErr) (hc : o.cached = true) :
    CachePy.runIL src e Gen.invalidateProgram o =
      some { cached := true, sh := Cache.initShared src e, generation := o.generation + 1 } := by
  simp [Gen.invalidateProgram, CachePy.runIL, CachePy.runI, hc, Cache.initShared]

/-- … and on an uncached object only the generation counter and `_len` change -/
theorem gen_invalidate_uncached (o : CachePy.Obj) (src : List Int) (e : Option Py.PyErr) (hc : o.cached = false) :
    CachePy.runIL src e Gen.invalidateProgram o = some { o with sh := { o.sh with len := none }, generation := o.generation + 1 } := by
  simp [Gen.invalidateProgram, CachePy.runIL, CachePy.runI, hc]

example : (invalidate (newState true) { rrules := [[1, 2]] }).cur.sh = Cache.initShared (Members.src { rrules := [[1, 2]] }) := rfl

/-- in particular for histories whose iterators are all dropped at once (iterPartial k = `.take k`) -/
theorem history_inv_dropped (cacheOn : Bool) (ops : List Op) (hsorted : ∀ op ∈ ops, opSorted op)
    (hq : ∀ op ∈ ops, ∀ j k, op ≠ .resume j k) (hfit : AllFit {} ops) :
    runOps (newState cacheOn) ops = specOps {} ops := by
  refine history_inv cacheOn ops hsorted ?_ hfit
  have : ∀ (tr : Track) (ops : List Op), (∀ op ∈ ops, ∀ j k, op ≠ .resume j k) → NoStale tr ops := by
    intro tr ops
    induction ops generalizing tr with
    | nil => intro _; trivial
    | cons op ops ih =>
      intro h
      refine ⟨?_, ih _ (fun o ho => h o (by simp [ho]))⟩
      cases op with
      | resume j k => exact absurd rfl (h _ (by simp) j k)
      | _ => trivial
  exact this {} ops hq

-- non-vacuity: coinciding occurrences in several members, an exclusion that exhausts first
example : iter selFirstMin [[0, 5, 5, 9], [1, 5, 7], []] [[5], [0, 0]] = [1, 7, 9] := by decide
example : setSpec [[0, 5, 5, 9], [1, 5, 7], []] [[5], [0, 0]] = [1, 7, 9] := by decide
example : Admissible selFirstMin := selFirstMin_adm

-- a history inside the hypothesis: kept iterators advanced only before the next mutator
example : runOps (newState true) [.addRRule [0, 1, 2, 3], .open_ 2, .q (.index 1), .resume 0 1, .addRDate 9, .open_ 0,
                                  .resume 1 3, .q .count] =
          specOps {} [.addRRule [0, 1, 2, 3], .open_ 2, .q (.index 1), .resume 0 1, .addRDate 9, .open_ 0,
                      .resume 1 3, .q .count] := by decide

/-- the witness of D-C10-stale (cache on): 13 daily instants, an iterator that has taken one, `rdate(20)`, the stale
    iterator run to its end; then `list(s)` and `count()` (`[]` and 13 on /repo without the repair) -/
def staleWitness : List Op :=
  [.addRRule [0, 1, 2, 3, 4, 5, 6, 7, 8, 9, 10, 11, 12], .open_ 1, .addRDate 20, .resume 0 100, .q .iterAll, .q .count]

-- the stale iterator yields the remaining 12 instants of the OLD sequence, and the set is intact
example : (runOps (newState true) staleWitness).drop 3 =
    [some (.list [1, 2, 3, 4, 5, 6, 7, 8, 9, 10, 11, 12]), some (.list [0, 1, 2, 3, 4, 5, 6, 7, 8, 9, 10, 11, 12, 20]), some (.nat 14)] := by decide
example : (specOps {} staleWitness).drop 4 =
    [some (.list [0, 1, 2, 3, 4, 5, 6, 7, 8, 9, 10, 11, 12, 20]), some (.nat 14)] := by decide
example : ¬ NoStale {} staleWitness := by
  intro h
  have h4 : (1 : Nat) = 2 := h.2.2.2.1 1 1 rfl
  omega
example : staleAt (specStep (specStep (specStep {} staleWitness[0]).1 staleWitness[1]).1 staleWitness[2]).1 (.resume 0 100) = true := by decide
-- cache off: the stale generator does not publish its old total
example : (runOps (newState false) [.addRRule [0, 1, 2], .open_ 1, .addRDate 20, .resume 0 100, .q .count]).getLast?
          = some (some (.nat 4)) := by decide
-- cache on, generator already exhausted before the mutator: the stale iterator ends quietly
example : (runOps (newState true) [.addRRule [0, 1, 2], .open_ 1, .q .iterAll, .addRDate 20, .resume 0 100, .q .iterAll]).drop 4
          = [some (.list [1, 2]), some (.list [0, 1, 2, 20])] := by decide
-- an iterator created before a mutator but not yet started belongs to the new generation
example : (runOps (newState true) [.addRRule [0, 1, 2], .open_ 0, .addRDate 20, .resume 0 100, .q .count]).drop 3
          = [some (.list [0, 1, 2, 20]), some (.nat 4)] := by decide

end C10
