/-
  Properties/C04.lean — every tzinfo converts UTC → local → UTC without loss.

  tzfile: for ALL well-formed tables `r` (`Spec.wf`: valid indices, ≥ 1 type, strictly increasing
  transitions whose wall-clock set-backs do not overlap) and ALL instants before the last recorded
  transition — or any instant when the zone's `ttinfo_std` is the last transition's type
  (`LastStd`; the code answers `ttinfo_std` from the last transition on).
  Fixed zones: all offsets, all instants.  Range zones (`tzrangebase`): `roundtrip_range_general`
  (both hemispheres; the wall-year lookups must make the same two decisions as the UTC-year lookup),
  its same-pair / same-year special cases `roundtrip_range`, `roundtrip_range_partial`, and
  `roundtrip_range_norule`.  tzfile tables without transitions: `roundtrip_notrans`.  `_tzinfo`
  machinery (tzlocal, tzical): `roundtrip_generic` over abstract utcoffset/dst with a two-offset
  cycle structure, instantiated for C17's iCalendar model in `roundtrip_tzical_cycle` and for tzlocal (the C library
  following a yearly rule table) in `roundtrip_tzlocal`, whose window hypothesis `tzlocal_window_north/south` discharge.

  Full-strength statement that is NOT true of the code and therefore not proved:
    ∀ z : RangeZone, ∀ t, roundtrip z t
  excluded classes (known findings, shown failing on the implementation by the check):
    D-C05r  saving < 0;   D-C04y  the wall-clock year's rule pair differs from the UTC year's.
-/
import DateutilVerif.Proofs.ZonesBuild
import DateutilVerif.Proofs.RangeZone
import DateutilVerif.Proofs.GenericICal
import DateutilVerif.Proofs.LocalZone

namespace C04
open TZ Spec

/-- **roundtrip (tzfile).** `w = fromutc t` reports `utcoffset = wall − t` and converts back to `t`. -/
theorem roundtrip (r : Raw) (hwf : Spec.wf r = true) (hne : r.trans ≠ []) (t : Int)
    (hcov : (∃ u, lastTime r = some u ∧ t < u) ∨ LastStd (build r)) :
    ∃ w, fromutc (build r) t = .ok w ∧ utcoffset (build r) w = .ok (w.wall - t) ∧
      toUtc (build r) w = .ok t := by
  obtain ⟨b, s, f, hf, hfb, hc, hw⟩ := build_coherent r hwf hne
  obtain ⟨w, hw1, hw2, hw3⟩ := hc.findTtinfo_fromutc hw t (covered_of r hc hw t hcov)
  have ho := hc.utcoffset_eq w _ hw3
  refine ⟨w, hw1, ?_, ?_⟩
  · rw [ho, hw2]; congr 1; omega
  · unfold toUtc; rw [ho, hw2]
    show Except.ok _ = _
    congr 1; omega

/-- **inj (tzfile).** Two instants with the same (wall time, fold) are the same instant. -/
theorem inj (r : Raw) (hwf : Spec.wf r = true) (hne : r.trans ≠ []) (t₁ t₂ : Int)
    (h₁ : (∃ u, lastTime r = some u ∧ t₁ < u) ∨ LastStd (build r))
    (h₂ : (∃ u, lastTime r = some u ∧ t₂ < u) ∨ LastStd (build r))
    (h : fromutc (build r) t₁ = fromutc (build r) t₂) : t₁ = t₂ := by
  obtain ⟨w1, a1, _, c1⟩ := roundtrip r hwf hne t₁ h₁
  obtain ⟨w2, a2, _, c2⟩ := roundtrip r hwf hne t₂ h₂
  rw [a1, a2] at h
  cases Except.ok.inj h
  rw [c1] at c2
  exact Except.ok.inj c2

/-- **offset_in_force (tzfile).** The offset and abbreviation reported for a converted instant are
    those of the data's type in force at that instant. -/
theorem offset_in_force (r : Raw) (hwf : Spec.wf r = true) (t u : Int)
    (hlast : lastTime r = some u) (h2 : t < u) :
    ∃ w, fromutc (build r) t = .ok w ∧ (utcoffset (build r) w).toOption = offsetAt r t ∧
      (tzname (build r) w).toOption = some (nameAt r t) := by
  obtain ⟨w, ty, h1, hty, _, h4, h5⟩ := lookup_before_last r hwf t u hlast h2
  exact ⟨w, h1, by simp [h4, offsetAt, hty, Except.toOption], by simp [h5, nameAt, hty, Except.toOption]⟩

/-- **roundtrip_notrans (tzfile without transitions).** 32 of the 447 real files (UTC, Etc/GMT±N,
    EST, HST, …) have an empty version-1 transition list: `_find_last_transition` returns `None`,
    `is_ambiguous` returns early, and the zone is the fixed offset of the file's type 0 — for every
    such table with at least one type and every instant. -/
theorem roundtrip_notrans (r : Raw) (t0 : TType) (rest : List TType) (hn : r.trans = [])
    (hty : r.types = t0 :: rest) (t : Int) :
    fromutc (build r) t = .ok ⟨t + t0.off, false⟩ ∧
    utcoffset (build r) ⟨t + t0.off, false⟩ = .ok t0.off ∧ toUtc (build r) ⟨t + t0.off, false⟩ = .ok t ∧
    tzname (build r) ⟨t + t0.off, false⟩ = .ok (some t0.abbr) ∧ isAmbiguous (build r) (t + t0.off) = false := by
  have hb : build r = assemble [] [] (t0 :: rest) := by
    simp [build, finalTypes, hn, hty, applyAssign, dstLoop]
  rw [hb]
  refine ⟨by simp [fromutc, findLastUtc, getTtinfo, assemble, dstLoop, isAmbiguousIdx],
          by simp [utcoffset, findTtinfo, findLastWall, getTtinfo, assemble, dstLoop], ?_,
          by simp [tzname, findTtinfo, findLastWall, getTtinfo, assemble, dstLoop],
          by simp [isAmbiguous, isAmbiguousIdx, assemble, dstLoop]⟩
  have : utcoffset (assemble [] [] (t0 :: rest)) ⟨t + t0.off, false⟩ = .ok t0.off := by
    simp [utcoffset, findTtinfo, findLastWall, getTtinfo, assemble, dstLoop]
  unfold toUtc; rw [this]; refine congrArg Except.ok ?_; show t + t0.off - t0.off = t; omega

theorem roundtrip_fixed (z : FixedZone) (t : Int) :
    z.utcoffset (z.fromutc t) = (z.fromutc t).wall - t ∧ z.toUtc (z.fromutc t) = t := by
  simp only [FixedZone.utcoffset, FixedZone.fromutc, FixedZone.toUtc]; omega

theorem inj_fixed (z : FixedZone) (t₁ t₂ : Int) (h : z.fromutc t₁ = z.fromutc t₂) : t₁ = t₂ := by
  simp only [FixedZone.fromutc, Wall.mk.injEq, and_true] at h; omega

theorem offset_in_force_fixed (z : FixedZone) (t : Int) :
    z.utcoffset (z.fromutc t) = z.off ∧ z.dst (z.fromutc t) = 0 := ⟨rfl, rfl⟩

/-- **roundtrip_range_general.** `tzrangebase` with a positive saving, in either hemisphere
    (`on < off` or `off ≤ on`), wherever the two yearly transitions lie.  `(on, off)` is the pair
    `fromutc` finds by the UTC year; `(on₁, off₁)` / `(on₂, off₂)` are the pairs `utcoffset` and
    `is_ambiguous` find by the wall-clock years of the standard and the daylight reading.  The round
    trip holds whenever each of those pairs makes, at that reading, the same naive decision and the
    same repeated-interval decision as the UTC year's pair — this is the condition the code needs;
    where it fails is D-C04y.  `C08.tzstr_posix_partial` discharges it for tzstr zones whose
    transitions keep a margin from New Year (`TZ.decisions_cohere`). -/
theorem roundtrip_range_general (z : RangeZone) (t on off on₁ off₁ on₂ off₂ : Int)
    (hsav : 0 < z.saving) (hd : z.hasdst = true)
    (htr : z.transitions (yearOf t) = some (on, off))
    (h₁ : z.transitions (yearOf (t + z.stdOff)) = some (on₁, off₁))
    (h₂ : z.transitions (yearOf (t + z.dstOff)) = some (on₂, off₂))
    (n₁ : RangeZone.naiveIsdst (t + z.stdOff) (on₁, off₁) = RangeZone.naiveIsdst (t + z.stdOff) (on, off))
    (a₁ : (decide (off₁ ≤ t + z.stdOff) && decide (t + z.stdOff < off₁ + z.saving)) =
          (decide (off ≤ t + z.stdOff) && decide (t + z.stdOff < off + z.saving)))
    (n₂ : RangeZone.naiveIsdst (t + z.dstOff) (on₂, off₂) = RangeZone.naiveIsdst (t + z.dstOff) (on, off))
    (a₂ : (decide (off₂ ≤ t + z.dstOff) && decide (t + z.dstOff < off₂ + z.saving)) =
          (decide (off ≤ t + z.dstOff) && decide (t + z.dstOff < off + z.saving))) :
    ∃ w, z.fromutc t = .ok w ∧ z.utcoffset w = .ok (w.wall - t) ∧ z.toUtc w = .ok t := by
  obtain ⟨w, hf, hwall, hi⟩ := RangeZone.isdst_fromutc z t on off on₁ off₁ on₂ off₂ hsav hd htr h₁ h₂ n₁ a₁ n₂ a₂
  obtain ⟨r1, _, _⟩ := RangeZone.answers_of_isdst z w _ hi
  have e : (if RangeZone.naiveIsdst t (on - z.stdOff, off - z.stdOff) then z.dstOff else z.stdOff) = w.wall - t := by
    rw [hwall]; omega
  refine ⟨w, hf, by rw [r1, e], ?_⟩
  unfold RangeZone.toUtc; rw [r1, e]
  refine congrArg Except.ok ?_; omega

/-- **roundtrip_range** (same-pair form).  Hypotheses `hy1 / hy2` ask that the lookups by the
    wall-clock years return the SAME pair of instants as the lookup by the UTC year.  A real
    `transitions(year)` returns datetimes of that year, so for tzrange / tzstr zones this holds
    exactly when the wall-clock year equals the UTC year: there the theorem coincides with
    `roundtrip_range_partial` and excludes the |offset| hours around every New Year (covered by
    `roundtrip_range_general` + `C08.tzstr_posix_partial`, and by the oracle's year-edge probes).
    It is strictly more general only for abstract `transitions` functions that repeat a pair. -/
theorem roundtrip_range (z : RangeZone) (t on off : Int)
    (hsav : 0 < z.saving) (hd : z.hasdst = true)
    (htr : z.transitions (yearOf t) = some (on, off))
    (hy1 : z.transitions (yearOf (t + z.stdOff)) = some (on, off))
    (hy2 : z.transitions (yearOf (t + z.dstOff)) = some (on, off)) :
    ∃ w, z.fromutc t = .ok w ∧ z.utcoffset w = .ok (w.wall - t) ∧ z.toUtc w = .ok t :=
  roundtrip_range_general z t on off on off on off hsav hd htr hy1 hy2 rfl rfl rfl rfl

/-- **roundtrip_range_partial** (the coarser form): wall-clock year = UTC year. -/
theorem roundtrip_range_partial (z : RangeZone) (t on off : Int)
    (hsav : 0 < z.saving) (hd : z.hasdst = true)
    (htr : z.transitions (yearOf t) = some (on, off))
    (hy1 : yearOf (t + z.stdOff) = yearOf t) (hy2 : yearOf (t + z.dstOff) = yearOf t) :
    ∃ w, z.fromutc t = .ok w ∧ z.utcoffset w = .ok (w.wall - t) ∧ z.toUtc w = .ok t :=
  roundtrip_range z t on off hsav hd htr (by rw [hy1]; exact htr) (by rw [hy2]; exact htr)

/-- no rule for the UTC year (`transitions` is `None`): standard time, when the wall-clock year
    has no rule either -/
theorem roundtrip_range_norule (z : RangeZone) (t : Int)
    (htr : z.transitions (yearOf t) = none) (hy1 : z.transitions (yearOf (t + z.stdOff)) = none) :
    ∃ w, z.fromutc t = .ok w ∧ z.utcoffset w = .ok (w.wall - t) ∧ z.toUtc w = .ok t := by
  have h0 : z.utcoffset ⟨t, false⟩ = .ok z.stdOff := by
    unfold RangeZone.utcoffset RangeZone.isdst
    cases z.hasdst <;> simp [htr, bind, Except.bind, pure, Except.pure]
  have h1 : z.utcoffset ⟨t + z.stdOff, false⟩ = .ok z.stdOff := by
    unfold RangeZone.utcoffset RangeZone.isdst
    cases z.hasdst <;> simp [hy1, bind, Except.bind, pure, Except.pure]
  refine ⟨⟨t + z.stdOff, false⟩, ?_, ?_, ?_⟩
  · unfold RangeZone.fromutc; simp only [htr, h0, bind, Except.bind, pure, Except.pure]
  · rw [h1]; congr 1; show z.stdOff = t + z.stdOff - t; omega
  · unfold RangeZone.toUtc; rw [h1]; refine congrArg Except.ok ?_; show t + z.stdOff - z.stdOff = t; omega

/-- **roundtrip_generic.** `_tzinfo._fromutc/_fold_status/is_ambiguous` over abstract
    `utcoffset/dst`: if these follow the two-offset interval semantics of a cycle on a wall window
    (`GenericZone.CycleSem`: standard offset everywhere, daylight below `off` and, for fold=0, on the
    repeated interval) and `is_ambiguous` is the repeated interval, then every instant whose
    standard-time reading lies in the window (and, while daylight time is in force, also its daylight
    reading) round-trips; fold=1 is set exactly on the standard side of the repeated interval.
    Windows `[on, nextOn)` with `off + saving ≤ nextOn` tile the timeline. -/
theorem roundtrip_generic (g : GenericZone) (stdOff saving off lo hi t : Int) (hs : 0 < saving)
    (hsem : GenericZone.CycleSem g stdOff saving off lo hi)
    (hamb : ∀ w, lo ≤ w → w < hi → g.isAmbiguous w = (decide (off ≤ w) && decide (w < off + saving)))
    (h0 : g.utcoffset ⟨t, false⟩ - g.dst ⟨t, false⟩ = stdOff)
    (hx1 : lo ≤ t + stdOff) (hx2 : t + stdOff < hi) (hx3 : t + stdOff < off → t + stdOff + saving < hi) :
    g.utcoffset (g.fromutc t) = (g.fromutc t).wall - t ∧ g.toUtc (g.fromutc t) = t ∧
    (g.fromutc t).wall = (if t + stdOff < off then t + stdOff + saving else t + stdOff) ∧
    (g.fromutc t).fold = (decide (off ≤ t + stdOff) && decide (t + stdOff < off + saving)) :=
  GenericZone.roundtrip g stdOff saving off lo hi t hs hsem hamb h0 hx1 hx2 hx3

/-- for zones using the generic `is_ambiguous` (tzical) the ambiguity hypothesis follows -/
theorem generic_ambiguous (g : GenericZone) (stdOff saving off lo hi : Int) (hs : 0 < saving)
    (hno : g.ambiguousOverride = none) (hsem : GenericZone.CycleSem g stdOff saving off lo hi)
    (w : Int) (h1 : lo ≤ w) (h2 : w < hi) :
    g.isAmbiguous w = (decide (off ≤ w) && decide (w < off + saving)) :=
  GenericZone.isAmbiguous_of_sem g stdOff saving off lo hi hs hno hsem w h1 h2

/-- **roundtrip_tzical_cycle.** The iCalendar zone model of C17 (`ICal.generic`, STANDARD + DAYLIGHT
    component) inside a cycle `[on, nextOn)`: its `fromutc` (the same `_tzinfo` machinery,
    `ICal.Generic.fromutc_eq`) reports `utcoffset = wall − utc` and adds the daylight offset exactly
    when the instant's standard reading is below `off`. -/
theorem roundtrip_tzical_cycle (S D : List Int) (stdOff dstOff on off nextOn t : Int)
    (hsav : stdOff < dstOff) (h1 : on < off) (h2 : off + (dstOff - stdOff) ≤ nextOn)
    (H1 : ∀ x, on ≤ x → x < nextOn → ICal.lastLE D x = some on)
    (H2 : ∀ x, on ≤ x → x < off + (dstOff - stdOff) → ∀ p, ICal.lastLE S x = some p → p < on)
    (H3 : ∀ x, off + (dstOff - stdOff) ≤ x → x < nextOn + (dstOff - stdOff) →
      ICal.lastLE S x = some (off + (dstOff - stdOff)))
    (hx1 : on ≤ t + stdOff) (hx2 : t + stdOff < nextOn) :
    let g := (ICal.generic [{ tzoffsetfrom := dstOff, tzoffsetto := stdOff, isdst := false, onsets := S : ICal.ZComp },
                            { tzoffsetfrom := stdOff, tzoffsetto := dstOff, isdst := true, onsets := D : ICal.ZComp }])
    g.utcoffset (g.fromutc t).1 (g.fromutc t).2 = (g.fromutc t).1 - t ∧
    (g.fromutc t).1 = (if t + stdOff < off then t + dstOff else t + stdOff) :=
  ICal.roundtrip_two_comp S D stdOff dstOff on off nextOn t hsav h1 h2 H1 H2 H3 hx1 hx2

/-- **roundtrip_tzlocal.** `tzlocal` at the model level (`localZone z`: `time.localtime().tm_isdst`
    follows the yearly rule table `z`; glibc itself is assumed): on a wall window where the naive
    decision is "`w < off`" (`local_naive_north`: inside one rule year with `on < off`;
    `local_naive_south`: from this year's `on` across New Year to next year's `off`), `fromutc`
    round-trips with tzlocal's own `is_ambiguous`, and fold=1 marks the second pass. -/
theorem roundtrip_tzlocal (z : RangeZone) (off lo hi t : Int) (hd : z.hasdst = true) (hs : 0 < z.saving)
    (hN : ∀ w, lo - z.saving ≤ w → w < hi → localNaiveIsdst z w = decide (w < off))
    (hx1 : lo ≤ t + z.stdOff) (hx2 : t + z.stdOff < hi) (hx3 : t + z.stdOff < off → t + z.stdOff + z.saving < hi) :
    (localZone z).utcoffset ((localZone z).fromutc t) = ((localZone z).fromutc t).wall - t ∧
    (localZone z).toUtc ((localZone z).fromutc t) = t ∧
    ((localZone z).fromutc t).wall = (if t + z.stdOff < off then t + z.stdOff + z.saving else t + z.stdOff) ∧
    ((localZone z).fromutc t).fold = (decide (off ≤ t + z.stdOff) && decide (t + z.stdOff < off + z.saving)) :=
  roundtrip_local z off lo hi t hd hs hN hx1 hx2 hx3

/-- the window hypothesis of `roundtrip_tzlocal` inside one northern rule year … -/
theorem tzlocal_window_north (z : RangeZone) (on off lo hi : Int) (h : on < off) (hlo : on ≤ lo - z.saving)
    (htr : ∀ w, lo - z.saving ≤ w → w < hi → z.transitions (yearOf w) = some (on, off)) :
    ∀ w, lo - z.saving ≤ w → w < hi → localNaiveIsdst z w = decide (w < off) :=
  local_naive_north z on off lo hi h hlo htr

/-- … and across New Year in the southern order -/
theorem tzlocal_window_south (z : RangeZone) (on off₀ on' off ny lo hi : Int)
    (h0 : off₀ ≤ on) (h1' : off ≤ on') (hlo : on ≤ lo - z.saving) (hhi : hi ≤ on') (hny : ny ≤ off)
    (htr0 : ∀ w, lo - z.saving ≤ w → w < ny → z.transitions (yearOf w) = some (on, off₀))
    (htr1 : ∀ w, ny ≤ w → w < hi → z.transitions (yearOf w) = some (on', off)) :
    ∀ w, lo - z.saving ≤ w → w < hi → localNaiveIsdst z w = decide (w < off) :=
  local_naive_south z on off₀ on' off ny lo hi h0 h1' hlo hhi hny htr0 htr1

/-- two types (+0 standard, +1 h daylight), three transitions; the clock is set back at 2000000, so 2000100 is read
    twice: by 1996500 (fold 0) and by 2000100 (fold 1) -/
def exR : Raw := { trans := [(1000000, 1), (2000000, 0), (3000000, 1)],
                   types := [⟨0, 0, [65], false, false, 0⟩, ⟨3600, 1, [66], false, false, 0⟩] }
example : Spec.wf exR = true := by decide
example : fromutc (build exR) 2000100 = .ok ⟨2000100, true⟩ ∧ fromutc (build exR) 1996500 = .ok ⟨2000100, false⟩ := by decide
/-- a southern-hemisphere rule (AEST-10AEDT, `off < on`): ALL hypotheses of `roundtrip_range` are
    discharged for 2020-07-01T00:00Z (mid-year: UTC year = wall-clock years = 2020) -/
def aestZone : RangeZone :=
  RangeZone.ofTable 36000 39600 true [(2019, 1570327200, 1554602400), (2020, 1601776800, 1586052000)]
example : ∃ w, aestZone.fromutc 1593561600 = .ok w ∧ aestZone.utcoffset w = .ok (w.wall - 1593561600) ∧
    aestZone.toUtc w = .ok 1593561600 :=
  roundtrip_range aestZone 1593561600 1601776800 1586052000 (by decide) (by decide) (by decide) (by decide) (by decide)
/-- on 1 January (2019-12-31T13:46:40Z, DST in force across New Year) the wall-clock year is 2020 and
    the same-pair hypothesis `hy2` FAILS — such instants need `roundtrip_range_general`: the 2020
    pair makes the same decisions at that reading as the 2019 pair -/
example : yearOf 1577800000 = 2019 ∧ yearOf (1577800000 + 39600) = 2020 ∧
    aestZone.transitions 2020 ≠ aestZone.transitions 2019 := by decide
example : ∃ w, aestZone.fromutc 1577800000 = .ok w ∧ aestZone.utcoffset w = .ok (w.wall - 1577800000) ∧
    aestZone.toUtc w = .ok 1577800000 :=
  roundtrip_range_general aestZone 1577800000 1570327200 1554602400 1570327200 1554602400 1601776800 1586052000
    (by decide) (by decide) (by decide) (by decide) (by decide) (by decide) (by decide) (by decide) (by decide)
/-- a northern-hemisphere rule in 2020 (EST5EDT): the UTC-year lookup `htr` and `0 < saving` of `roundtrip_range_partial`
    hold at 2020-11-01T05:53:20Z -/
def estZone : RangeZone := RangeZone.ofTable (-18000) (-14400) true [(2020, 1583632800, 1604192400)]
example : yearOf 1604210000 = 2020 ∧ estZone.transitions (yearOf 1604210000) = some (1583632800, 1604192400) ∧
    0 < estZone.saving := by decide
/-- D-C05r in the model (tzstr('IST-1GMT0,M10.5.0,M3.5.0/1'), negative saving): the instant
    2020-10-25T01:00Z reads 01:00 with fold=0, whose utcoffset is +1:00 although wall − utc = 0 -/
def negZone : RangeZone := RangeZone.ofTable 3600 0 true [(2020, 1603591200, 1585447200)]
example : negZone.fromutc 1603587600 = .ok ⟨1603587600, false⟩ ∧
    negZone.utcoffset ⟨1603587600, false⟩ = .ok 3600 := by decide

/-- tzlocal under EST5EDT in 2020: the second 01:30 of 2020-11-01 (06:30Z) gets fold=1 -/
example : (localZone estZone).fromutc 1604212200 = ⟨1604212200 - 18000, true⟩ ∧
    (localZone estZone).fromutc 1604208600 = ⟨1604208600 - 14400, false⟩ := by decide

/-- the `LastStd` branch is inhabited: a table ending on its standard type; after the last transition
    the code answers `ttinfo_std`, which is that type (the situation of 433 of the 447 real files) -/
def exStd : Raw := { trans := [(1000000, 1), (2000000, 0)],
                     types := [⟨0, 0, [65], false, false, 0⟩, ⟨3600, 1, [66], false, false, 0⟩] }
example : Spec.wf exStd = true ∧ LastStd (build exStd) ∧ fromutc (build exStd) 5000000 = .ok ⟨5000000, false⟩ := by
  unfold LastStd; decide
/-- a table without transitions (`roundtrip_notrans`) -/
example : fromutc (build { trans := [], types := [⟨-36000, 0, [72, 83, 84], false, false, 0⟩] }) 0 = .ok ⟨-36000, false⟩ := by
  decide

end C04
