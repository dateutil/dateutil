/-
  Properties/C08Abbr.lean — C08, "malformed strings raise ValueError", the part about abbreviations (D-C08b, /repo commit 6d32996):
  characters outside the TZ grammar cannot hide inside an abbreviation.

  * `tzstr_abbr_letters` — for EVERY string and either `posix_offset`: if `tzstr` accepts it, both abbreviations of the zone consist of
    ASCII letters only.  (So `tzstr('EST+5EDT$')` cannot build a zone whose daylight abbreviation is `EDT$`, nor `tzstr('EST5 EDT')`
    one called ` EDT`: the abbreviation loop joins letter tokens only.)
  * `abbr_run_is_letters` — the scan itself: the tokens joined into an abbreviation all pass `isLetters`.
  Oracle-only: "a character outside the grammar ANYWHERE in the string ⇒ ValueError" as one theorem (the oracle inserts a stray
  character at a random position of generated strings) and non-ASCII digits (outside the ASCII domain of the model: `pyInt`
  models `int()` on ASCII).
-/
import DateutilVerif.Proofs.TzStrAbbr
import DateutilVerif.Proofs.TzStr

namespace C08
open TzStr

theorem abbr_run_is_letters (l : List String) (i : Nat) :
    isLetters (String.join ((l.drop i).take (skipAbbr l i - i))) = true :=
  TzGen.isLetters_join _ (TzGen.skipAbbr_letters l i)

/-- **accepted ⇒ letter abbreviations**, for every string -/
theorem tzstr_abbr_letters (s : String) (posix : Bool) (z : Zone) (h : tzstr s posix = .ok z) :
    (∀ a, z.stdAbbr = some a → isLetters a = true) ∧ (∀ a, z.dstAbbr = some a → isLetters a = true) := by
  obtain ⟨res, hp, e1, e2, _⟩ := tzstr_ok_inv s posix z h
  rw [e1, e2]
  exact TzGen.parse_abbrs s res hp

/-! non-vacuity, and the strings of D-C08b are rejected -/
example : (tzstr "EST5EDT,M3.2.0,M11.1.0" false).toBool = true := by decide +kernel
example : tzstr "EST+5EDT$" false = .error .ValueError := by decide +kernel
example : tzstr "EST5 EDT" false = .error .ValueError := by decide +kernel
example : tzstr "E$T5" false = .error .ValueError := by decide +kernel

end C08
