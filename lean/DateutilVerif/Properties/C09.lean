/-
  Properties/C09.lean — relativedelta(dt1, dt2) is the calendar difference that carries dt2 onto dt1.

  `RDM.diffN fuel a b` is the model of the two-argument constructor (lines 112-169 + `_fix`), with the
  overshoot loop as a recursion with explicit fuel (`none` = fuel exhausted); `Gen.fix`/`Gen.setMonths`
  are the translations of `_fix`/`_set_months` made on this run; `dtm = dt2 + self` is the C03 model
  `applyTo`.  Domain: `a.Valid`, `b.Valid` (any date / naive / aware datetime of years 1..9999, a
  date has no time of day) and `RDP.Compatible a b` (after the date→datetime coercion: both dates,
  both naive, or both aware with the SAME tzinfo object (zone id and object id equal) — naive vs aware is a
  TypeError in code and model; two aware operands with distinct tzinfo objects are modelled too (UTC
  comparison through `off`), see the last section).

  "dt2 + relativedelta(dt1, dt2) equals dt1 exactly" is proved as: the sum has exactly dt1's fields,
  and is *equal to dt1 as an object* whenever both operands have the same kind (both dates, both
  naive, both aware in the zone).  With one date and one datetime Python's own `==` is False by
  type; what holds (and is proved) is equality of the fields, i.e. the same calendar instant.
-/
import DateutilVerif.Proofs.RDDiff
import DateutilVerif.Proofs.RDGenEq

namespace C09
open RDM RDP

/-- **diff_loop_terminates.** For every valid comparable pair the overshoot loop needs at most ONE
    iteration: with fuel 1 the constructor already returns a value, and every larger fuel returns
    the same value (so `diff = diffN 2` never runs out of fuel and termination is a theorem). -/
theorem diff_loop_terminates (off : Nat → DT → Int) (a b : Temporal) (ha : a.Valid) (hb : b.Valid) (hc : Compatible a b) :
    ∃ r, diffN off 1 a b = some (.ok r) ∧ ∀ n, diffN off (n + 1) a b = some (.ok r) := by
  obtain ⟨k, hk, _⟩ := diffN_largest_shift off a b ha hb hc
  exact ⟨_, hk 0, hk⟩

/-- **diff_inverse.** `b + relativedelta(a, b)` has exactly `a`'s fields, for every valid comparable pair
    in either order; it IS `a` (same kind, same zone tag) whenever the operands are of one kind. -/
theorem diff_inverse (off : Nat → DT → Int) (a b : Temporal) (ha : a.Valid) (hb : b.Valid) (hc : Compatible a b) :
    ∃ r res, diff off a b = some (.ok r) ∧ applyTo r b = .ok res ∧ res.t = a.t ∧
      (a.kind = b.kind → res = a) := by
  obtain ⟨k, hk, hv, _⟩ := diffN_largest_shift off a b ha hb hc
  have happ := diffValue_apply a b k ha hb hv
  refine ⟨_, _, hk 1, happ, rfl, ?_⟩
  intro hkind
  by_cases hd : b.kind = .date
  · have := diffValue_dates_noTime a b k ha hb (by rw [hkind, hd]) hd
    simp only [this, Bool.false_eq_true, and_false, ↓reduceIte]
    rw [← hkind]
  · simp only [hd, false_and, ↓reduceIte]
    rw [← hkind]

/-- **diff_only_relative.** The result carries no absolute field, no weekday and no leapdays. -/
theorem diff_only_relative (off : Nat → DT → Int) (n : Nat) (a b : Temporal) (r : RD) (h : diffN off n a b = some (.ok r)) :
    r.year = none ∧ r.month = none ∧ r.day = none ∧ r.weekday = none ∧ r.hour = none ∧
    r.minute = none ∧ r.second = none ∧ r.microsecond = none ∧ r.leapdays = 0 := by
  obtain ⟨k, δ, rfl⟩ := diffN_ok off n a b r h
  obtain ⟨_, f1, f2, f3, f4, f5, f6, f7, f8, f9, _⟩ := diffRD_fields k δ
  exact ⟨f1, f2, f3, f4, f5, f6, f7, f8, f9⟩

/-- **diff_normalised.** Whatever is returned is in normal form: |months| ≤ 11, |hours| ≤ 23,
    |minutes| ≤ 59, |seconds| ≤ 59, |microseconds| ≤ 999999 (and `_has_time` consistent). -/
theorem diff_normalised (off : Nat → DT → Int) (n : Nat) (a b : Temporal) (r : RD) (h : diffN off n a b = some (.ok r)) :
    Normalised r := by
  obtain ⟨k, δ, rfl⟩ := diffN_ok off n a b r h
  exact (diffRD_fields k δ).1

/-- **diff_largest_shift.** With `M = 12·years + months` of the result: for `a ≥ b`, `M ≥ 0` and
    `shift b M ≤ a < shift b (M+1)`; for `a < b`, `M ≤ 0` and `shift b (M−1) < a ≤ shift b M`
    (`shift` = the documented clipped month shift, instants compared in µs). -/
theorem diff_largest_shift (off : Nat → DT → Int) (a b : Temporal) (ha : a.Valid) (hb : b.Valid) (hc : Compatible a b) :
    ∃ r, diff off a b = some (.ok r) ∧
      ((¬ a.t.toMicros < b.t.toMicros ∧ 0 ≤ monthTotal r ∧
          (shiftDT b.t (monthTotal r)).toMicros ≤ a.t.toMicros ∧
          a.t.toMicros < (shiftDT b.t (monthTotal r + 1)).toMicros) ∨
       (a.t.toMicros < b.t.toMicros ∧ monthTotal r ≤ 0 ∧
          a.t.toMicros ≤ (shiftDT b.t (monthTotal r)).toMicros ∧
          (shiftDT b.t (monthTotal r - 1)).toMicros < a.t.toMicros)) := by
  obtain ⟨k, hk, _, hord⟩ := diffN_largest_shift off a b ha hb hc
  refine ⟨_, hk 1, ?_⟩
  have hm : monthTotal (diffValue a b k) = k := by
    have := (diffValue_fields a b k).2.2.2.2.2.2.2.2.2.2.1
    unfold monthTotal; omega
  rw [hm]; exact hord

/-- **diff_self_empty.** `relativedelta(x, x)` has every field 0 / None, i.e. `bool` is False. -/
theorem diff_self_empty (off : Nat → DT → Int) (x : Temporal) (hx : x.Valid) (hc : Compatible x x) :
    ∃ r, diff off x x = some (.ok r) ∧ RDM.bool r = false := by
  obtain ⟨k, hk, hv, hord⟩ := diffN_largest_shift off x x hx hx hc
  refine ⟨_, hk 1, ?_⟩
  have v := validNoYear_of_valid _ hx.1
  have hk0 : k = 0 := by
    rcases hord with ⟨_, h1, h2, h3⟩ | ⟨h0, _⟩
    · apply Classical.byContradiction; intro hne
      have := toMicros_lt_of_month_lt _ _ v (shiftDT_facts x.t k v).1
        (by have := (shiftDT_facts x.t k v).2; omega)
      omega
    · omega
  subst hk0
  obtain ⟨hn, f1, f2, f3, f4, f5, f6, f7, f8, f9, f10, f11⟩ := diffValue_fields x x 0
  rw [shiftDT_zero _ v] at f11
  generalize diffValue x x 0 = R at *
  obtain ⟨z4, z5, z6, z7, z3⟩ := noTime_of_whole_days R hn 0 (by rw [f11]; omega)
  have hmo := hn.2.2.2.2.1
  have z1 : R.years = 0 := by omega
  have z2 : R.months = 0 := by omega
  unfold RDM.bool
  rw [z1, z2, z3, z4, z5, z6, z7, f1, f2, f3, f4, f5, f6, f7, f8, f9]
  rfl

/-! ## aware operands held by two distinct tzinfo objects

CPython compares and subtracts two aware datetimes on the wall clock only when their tzinfo is the SAME
OBJECT; for two objects (even of one zone: two `tz.tzlocal()`, two `tz.tzfile(path)`) it works in UTC,
while `dt2 + delta` is always wall-clock arithmetic.  `diffN` mirrors that (`comparable`, `cmpKey`,
`off z wall` = the zone's utcoffset).  FULL STATEMENT for "aware datetimes of a common zone":
`diff_inverse` without the same-object hypothesis — it is FALSE (known finding
D-C09-distinct-tzinfo-objects, `diff_inverse_distinct_objects_counterexample`); what holds is the
partial theorem below, whose hypothesis excludes exactly the offset changing over the span. -/

/-- **diff_inverse_distinct_objects_partial.** Two aware operands with DISTINCT tzinfo objects: if the
    utcoffset at `a` equals the utcoffset at every whole-month shift of `b`'s wall time (in particular at
    `b` itself — "the offset is constant over the span"), the constructor computes exactly what it
    computes for one shared object, and `b + relativedelta(a, b)` has `a`'s fields (in `b`'s tzinfo). -/
theorem diff_inverse_distinct_objects_partial (off : Nat → DT → Int) (a b : Temporal)
    (ha : a.Valid) (hb : b.Valid) (z1 o1 z2 o2 : Nat)
    (hka : a.kind = .aware z1 o1) (hkb : b.kind = .aware z2 o2) (hne : ¬ (z1 = z2 ∧ o1 = o2))
    (c : Int) (hca : off z1 a.t = c) (hcb : ∀ k, off z2 (shiftDT b.t k) = c) :
    ∃ r res, diff off a b = some (.ok r) ∧ applyTo r b = .ok res ∧ res.t = a.t ∧ res.kind = b.kind ∧
      diff off a b = diff off { a with kind := b.kind } b := by
  have hd := diff_main_distinct off 1 a b hb z1 o1 z2 o2 hka hkb hne c hca hcb
  have ha' : ({ a with kind := b.kind } : Temporal).Valid := by
    refine ⟨ha.1, ?_⟩
    intro h; simp only [hkb] at h; cases h
  have hc' : Compatible { a with kind := b.kind } b := by
    unfold Compatible coerce comparable; simp [hkb]
  obtain ⟨r, res, h1, h2, h3, h4⟩ := diff_inverse off { a with kind := b.kind } b ha' hb hc'
  have hres := h4 rfl
  refine ⟨r, res, ?_, h2, h3, by rw [hres], hd⟩
  unfold diff at h1 ⊢
  rw [hd]; exact h1

/-- a zone with one transition (New York, 8 March 2020: −5 h before 02:00 wall time, −4 h after), in µs -/
def nyOff : Nat → DT → Int := fun _ t =>
  if t.toMicros < ({ y := 2020, m := 3, d := 8, hh := 2 } : DT).toMicros then -18000000000 else -14400000000

/-- **diff_inverse_distinct_objects_counterexample (D-C09-distinct-tzinfo-objects).** Across the change of
    offset the inverse law fails for two tzinfo objects of the same zone: noon 7 March → noon 8 March is
    `hours=+23` (UTC difference), and adding 23 wall-clock hours to noon 7 March gives 11:00, not 12:00.
    With one shared object the same pair gives `days=+1` and the law holds. -/
theorem diff_inverse_distinct_objects_counterexample :
    diff nyOff ⟨.aware 0 1, { y := 2020, m := 3, d := 8, hh := 12 }⟩ ⟨.aware 0 2, { y := 2020, m := 3, d := 7, hh := 12 }⟩
      = some (.ok { hours := 23, hasTime := 1 }) ∧
    applyTo { hours := 23, hasTime := 1 } ⟨.aware 0 2, { y := 2020, m := 3, d := 7, hh := 12 }⟩
      = .ok ⟨.aware 0 2, { y := 2020, m := 3, d := 8, hh := 11 }⟩ ∧
    diff nyOff ⟨.aware 0 1, { y := 2020, m := 3, d := 8, hh := 12 }⟩ ⟨.aware 0 1, { y := 2020, m := 3, d := 7, hh := 12 }⟩
      = some (.ok { days := 1 }) := by
  decide +kernel

/-! ## `_gen` twins: the two-argument constructor RE-TRANSLATED from /repo on this run

`Gen.initDiff off fuel a b` (Generated/RDOps.lean) is the translation of the `if dt1 and dt2:` branch of `__init__`
(coercion, estimate, `_set_months`, `self.__radd__(dt2)`, the `while compare(dt1, dtm)` loop as `Gen.initDiff_loop`,
the residual, `_fix`); out of fuel is the distinguished error NotImplemented.  `RDG.initDiff_eq` proves it equal to
the model `diffN`, so the theorems above hold of the translated code. -/

/-- the translated two-argument constructor is the model `diffN`; running out of fuel is the error NotImplemented -/
theorem gen_initDiff_eq_model (off : Nat → DT → Int) (fuel : Nat) (a b : Temporal) :
    Gen.initDiff off fuel a b = RDG.ofOption (diffN off fuel a b) := RDG.initDiff_eq off fuel a b

/-- **diff_loop_terminates_gen.** The translated loop needs at most one iteration: fuel 1 gives a value, and every
    larger fuel the same one (never the out-of-fuel error). -/
theorem diff_loop_terminates_gen (off : Nat → DT → Int) (a b : Temporal) (ha : a.Valid) (hb : b.Valid)
    (hc : Compatible a b) : ∃ r, ∀ n, Gen.initDiff off (n + 1) a b = .ok r := by
  obtain ⟨r, _, h⟩ := diff_loop_terminates off a b ha hb hc
  exact ⟨r, fun n => by rw [RDG.initDiff_eq, h n]; rfl⟩

/-- **diff_inverse_gen.** With the translated constructor and the translated `__add__`:
    `dt2 + relativedelta(dt1, dt2)` has exactly `dt1`'s fields, and is `dt1` for operands of one kind. -/
theorem diff_inverse_gen (off : Nat → DT → Int) (a b : Temporal) (ha : a.Valid) (hb : b.Valid) (hc : Compatible a b) :
    ∃ r res, Gen.initDiff off 2 a b = .ok r ∧ Gen.addDt r b = .ok res ∧ res.t = a.t ∧ (a.kind = b.kind → res = a) := by
  obtain ⟨r, res, h1, h2, h3, h4⟩ := diff_inverse off a b ha hb hc
  refine ⟨r, res, ?_, by rw [RDG.addDt_eq]; exact h2, h3, h4⟩
  rw [RDG.initDiff_eq]; unfold diff at h1; rw [h1]; rfl

theorem diff_normalised_gen (off : Nat → DT → Int) (n : Nat) (a b : Temporal) (r : RD)
    (h : Gen.initDiff off n a b = .ok r) : Normalised r ∧ r.year = none ∧ r.month = none ∧ r.day = none ∧
      r.weekday = none ∧ r.hour = none ∧ r.minute = none ∧ r.second = none ∧ r.microsecond = none ∧ r.leapdays = 0 := by
  rw [RDG.initDiff_eq] at h
  cases hd : diffN off n a b with
  | none => rw [hd] at h; cases h
  | some q =>
    rw [hd] at h
    have hq : q = .ok r := h
    rw [hq] at hd
    exact ⟨diff_normalised off n a b r hd, diff_only_relative off n a b r hd⟩

theorem diff_largest_shift_gen (off : Nat → DT → Int) (a b : Temporal) (ha : a.Valid) (hb : b.Valid) (hc : Compatible a b) :
    ∃ r, Gen.initDiff off 2 a b = .ok r ∧
      ((¬ a.t.toMicros < b.t.toMicros ∧ 0 ≤ monthTotal r ∧
          (shiftDT b.t (monthTotal r)).toMicros ≤ a.t.toMicros ∧
          a.t.toMicros < (shiftDT b.t (monthTotal r + 1)).toMicros) ∨
       (a.t.toMicros < b.t.toMicros ∧ monthTotal r ≤ 0 ∧
          a.t.toMicros ≤ (shiftDT b.t (monthTotal r)).toMicros ∧
          (shiftDT b.t (monthTotal r - 1)).toMicros < a.t.toMicros)) := by
  obtain ⟨r, h1, h2⟩ := diff_largest_shift off a b ha hb hc
  refine ⟨r, ?_, h2⟩
  rw [RDG.initDiff_eq]; unfold diff at h1; rw [h1]; rfl

-- non-vacuity / sanity
example : diff (fun _ _ => 0) ⟨.date, { y := 2024, m := 3, d := 31 }⟩ ⟨.date, { y := 2024, m := 2, d := 29 }⟩
    = some (.ok { months := 1, days := 2 }) := by decide +kernel
example : Compatible ⟨.date, { y := 2024, m := 3, d := 31 }⟩ ⟨.naive, { y := 2024, m := 2, d := 29, hh := 7 }⟩ := by
  unfold Compatible; decide
example : diff (fun _ _ => 0) ⟨.naive, { y := 2023, m := 1, d := 31 }⟩ ⟨.naive, { y := 2024, m := 3, d := 30, hh := 1 }⟩
    = some (.ok { years := -1, months := -1, days := -28, hours := -1, hasTime := 1 }) := by decide +kernel
example : diff (fun _ _ => 0) ⟨.naive, { y := 2023, m := 1, d := 31 }⟩ ⟨.aware 0 0, { y := 2024, m := 3, d := 30 }⟩
    = some (.error .TypeError) := by decide +kernel

end C09
