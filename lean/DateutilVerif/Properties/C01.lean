/-
  Properties/C01.lean — rrule yields exactly the RFC 5545 recurrence set, in order.

  Model: `Model/RRule.lean` (`construct`, `rebuild`, `dayset`, `dayFiltered`, `emit`, `advance`, `iter`);
  specification: `Spec/RRule.lean` (`periodIndex`, `byOk`, `cand`, `sel`, `occ`).  The tables the
  model indexes are the ones dumped from /repo's module on this run (`Gen.*`).

  The full-strength statement (DESIGN §4 C01) is

      theorem iter_eq_spec (a : Args) (r : Rule) (h : construct a = .ok r) (hs : Supported a) (n : Nat)
          (hn : the first n periods lie inside 0001..9999) : (iter r n).1 = Spec.RRule.occ a n

  with `Supported` = the negation of the known defect classes D-C01a/c/d/e.  What is proved of it
  here is `iter_eq_spec_daily_partial`, `iter_eq_spec_weekly_partial` and
  `iter_eq_spec_yearly_monthly_partial`: the four calendar frequencies DAILY, WEEKLY, MONTHLY, YEARLY
  with any INTERVAL ≥ 1, BYMONTH, BYMONTHDAY, BYYEARDAY, plain BYDAY (any BYDAY for DAILY / WEEKLY,
  where nth members are demoted), BYHOUR, BYMINUTE, BYSECOND, BYSETPOS (DAILY / MONTHLY / YEARLY; WEEKLY
  only when the start is on the week start, see D-C01e), the defaults taken from the start, COUNT, UNTIL (for WEEKLY: UNTIL not before
  the start), plus `iter_eq_spec_monthly_nth_partial` / `iter_eq_spec_yearly_nth_partial` /
  `iter_eq_spec_yearly_bymonth_nth_partial`: nth weekdays counted inside the month (MONTHLY, or YEARLY
  with BYMONTH) or the year (YEARLY without BYMONTH).  And `iter_eq_spec_yearly_easter_partial`: YEARLY with BYEASTER
  offsets −80..250 in 1583..4099, and `iter_eq_spec_yearly_weekno_partial`: YEARLY with BYWEEKNO on the
  complement of D-C01c (any week start, plain BYDAY and BYMONTHDAY allowed).  And `iter_eq_spec_hourly_partial` /
  `iter_eq_spec_hourly_byhour_partial` / `iter_eq_spec_minutely_partial` / `iter_eq_spec_secondly_partial`: HOURLY
  with or without BYHOUR (`mod_distance_least`: `__mod_distance` is exact), MINUTELY without BYHOUR (with or without BYMINUTE),
  SECONDLY without BYHOUR / BYMINUTE / BYSECOND, through a refinement with skipping (one turn of the loop may
  pass over several periods of the specification; `n` turns = the first `m` periods, `n ≤ m ≤ 24·n` resp.
  `48·n`, `1440·n`, `86400·n`).  All of these are assembled in `iter_eq_spec_supported_partial` over the
  decidable predicate `SupportedBy` (Spec/RRuleSupported.lean; driver op `rrule.supported`).
  And `iter_eq_spec_secondly_byhour_byminute_partial` / `iter_eq_spec_secondly_bysecond_partial`: SECONDLY with any
  combination of BYHOUR / BYMINUTE / BYSECOND under the decidable reachability hypotheses `reachableS` / `reachableSS`
  (the multi-pass loop `secondlyLoop`, with `__mod_distance` as its inner step when BYSECOND is given, stops at the
  least grid second whose hour, minute and second are listed).
  And `iter_eq_spec_minutely_byhour_byminute_partial`: MINUTELY with BYMINUTE and optional BYHOUR (in particular both
  together) under `reachableMM`; `iter_eq_spec_minutely_byhour_partial`: MINUTELY with BYHOUR alone under `reachableHourM`.
  And `iter_eq_spec_monthly_weekno_partial` / `iter_eq_spec_weekly_weekno_partial` / `iter_eq_spec_daily_weekno_partial`:
  BYWEEKNO on the complement of D-C01c under MONTHLY, WEEKLY, DAILY (and, through `WArg`, in the sub-daily families).
  And `iter_eq_spec_byeaster_below_yearly_partial`: BYEASTER (−80..250, 1583..4099) under DAILY and every sub-daily family.
  And `iter_eq_spec_monthly_easter_partial` / `iter_eq_spec_weekly_easter_partial` (WEEKLY: offsets −74..250, the exact class).
  And `iter_eq_spec_nth_weekno_partial`: nth BYDAY together with BYWEEKNO (MONTHLY, YEARLY with / without BYMONTH).
  And `iter_eq_spec_easter_mixed_partial`: BYEASTER with nth BYDAY (MONTHLY / YEARLY) and YEARLY BYWEEKNO + BYEASTER.
  Missing: BYEASTER together with BYWEEKNO below YEARLY, nth BYDAY + BYWEEKNO + BYEASTER all three, nth BYDAY with plain BYDAY
  (all of it inside D-C01a).  Everything else below — including
  `iter_strictMono` for all seven frequencies — is proved for ALL rules / all argument sets, with no
  `Supported` hypothesis (so also inside the known-defect classes).
-/
import DateutilVerif.Proofs.RRuleDaily
import DateutilVerif.Proofs.RRuleMonoAll
import DateutilVerif.Proofs.RRuleYM
import DateutilVerif.Proofs.RRuleWeekly
import DateutilVerif.Proofs.RRuleEaster
import DateutilVerif.Proofs.RRuleNth
import DateutilVerif.Proofs.RRuleValid
import DateutilVerif.Proofs.RRuleNthMonthly
import DateutilVerif.Proofs.RRuleNthYearly
import DateutilVerif.Proofs.RRuleNthYM
import DateutilVerif.Proofs.RRuleEasterYearly
import DateutilVerif.Proofs.RRuleWeeknoYearly
import DateutilVerif.Proofs.RRuleOrig
import DateutilVerif.Proofs.RRuleSecondly
import DateutilVerif.Proofs.RRuleSupported
import DateutilVerif.Proofs.RRuleAmbient
import DateutilVerif.Proofs.RRuleDailyW
import DateutilVerif.Proofs.RRuleMonthlyW
import DateutilVerif.Proofs.RRuleMinutelyBH
import DateutilVerif.Proofs.RRuleSecondlyBS
import DateutilVerif.Proofs.RRuleMinutelyBHM
import DateutilVerif.Proofs.RRuleWeeklyW
import DateutilVerif.Proofs.RRuleInterleave
import DateutilVerif.Proofs.RRuleDropInterval
import DateutilVerif.Proofs.RRuleNthWYearly
import DateutilVerif.Proofs.RRuleNthWYM
import DateutilVerif.Proofs.RRuleNthEYearly
import DateutilVerif.Proofs.RRuleNthEYM
import DateutilVerif.Proofs.RRuleWeeknoEYearly
import DateutilVerif.Proofs.RRuleConstructSetIter

namespace C01
open RRule Cal RRule.Tables

/-- **month mask** — all 373 + 372 entries: `M36xMASK[i]` is the month of the `i`-th day of a
    (leap / common) year; the 7 extra entries are January of the next year. -/
theorem mmask_table (leap : Bool) (i : Int) (h0 : 0 ≤ i) (h1 : i < (if leap then 366 else 365) + 7) :
    Py.getIdx (if leap then Gen.M366MASK else Gen.M365MASK) i =
      .ok (if i < (if leap then 366 else 365) then monthOfYday leap i else 1) :=
  mmask_spec leap i h0 h1

/-- **month-day mask** — all entries: the day of the month (1..7 for the tail). -/
theorem mdaymask_table (leap : Bool) (i : Int) (h0 : 0 ≤ i) (h1 : i < (if leap then 366 else 365) + 7) :
    Py.getIdx (if leap then Gen.MDAY366MASK else Gen.MDAY365MASK) i =
      .ok (if i < (if leap then 366 else 365) then (monthDayOfYday leap i).2
           else i - (if leap then 366 else 365) + 1) :=
  mdaymask_spec leap i h0 h1

/-- **negative month-day mask** — all entries: the day counted from the end of its month. -/
theorem nmdaymask_table (leap : Bool) (i : Int) (h0 : 0 ≤ i) (h1 : i < (if leap then 366 else 365) + 7) :
    Py.getIdx (if leap then Gen.NMDAY366MASK else Gen.NMDAY365MASK) i =
      .ok (if i < (if leap then 366 else 365)
           then (monthDayOfYday leap i).2 - dimL leap (monthOfYday leap i) - 1
           else i - (if leap then 366 else 365) + 1 - 31 - 1) :=
  nmdaymask_spec leap i h0 h1

/-- **weekday mask** — all 385 entries: `WDAYMASK[i] = i mod 7`. -/
theorem wdaymask_table (i : Int) (h0 : 0 ≤ i) (h1 : i < 385) : Py.getIdx Gen.WDAYMASK i = .ok (i % 7) :=
  wdaymask_spec i h0 h1

/-- **month ranges** — all 13 entries of `M366RANGE` / `M365RANGE`: days before month `m+1`. -/
theorem mrange_table (leap : Bool) (m : Int) (h0 : 0 ≤ m) (h1 : m ≤ 12) :
    Py.getIdx (if leap then Gen.M366RANGE else Gen.M365RANGE) m =
      .ok (dbmTable (m + 1) + (if m + 1 > 2 && leap then 1 else 0)) :=
  mrange_spec leap m h0 h1

/-- the masks of a rebuilt year, read as dates: index `i` of year `y` is the date with ordinal
    `toOrdinal y 1 1 + i`, and the four table-backed masks hold that date's month, day, day from
    the month's end and weekday — all `yearlen + 7` indices, every year 1..9999. -/
theorem masks_are_dates (r : Rule) (y m : Int) (info : Info) (h : rebuild r y m = .ok info) (i : Int)
    (h0 : 0 ≤ i) (h1 : i < info.yearlen + 7) :
    info.yearordinal = toOrdinal y 1 1 ∧ info.yearlen = daysInYear y ∧
    Py.getIdx info.mmask i = .ok (fromOrdinal (info.yearordinal + i)).2.1 ∧
    Py.getIdx info.mdaymask i = .ok (fromOrdinal (info.yearordinal + i)).2.2 ∧
    Py.getIdx info.nmdaymask i = .ok ((fromOrdinal (info.yearordinal + i)).2.2 -
        daysInMonth (fromOrdinal (info.yearordinal + i)).1 (fromOrdinal (info.yearordinal + i)).2.1 - 1) ∧
    Py.getIdx info.wdaymask i = .ok (weekdayOfOrd (info.yearordinal + i)) := by
  have f := rebuild_facts r y m info h
  have hlen : info.yearlen ≤ 366 := by rw [f.yearlen]; unfold daysInYear; split <;> omega
  exact ⟨f.yearordinal, f.yearlen, mmask_date f i h0 h1, mdaymask_date f i h0 h1,
         nmdaymask_date f i h0 h1, wdaymask_date f i h0 (by omega)⟩

/-- **the Easter mask on the supported class** (the complement of D-C01d): for every year 1583..4099
    (where C19 ties `easter.easter` to Meeus/Jones/Butcher) and offsets −80..250, building the mask
    raises nothing, no index wraps around, and index `j` is marked exactly when the date at `j` is
    Easter Sunday of that year plus one of the offsets — all `yearlen + 7` indices. -/
theorem eastermask_marks_easter_offsets (byeaster : List Int) (y : Int) (hy1 : 1583 ≤ y) (hy2 : y ≤ 4099)
    (hoff : ∀ o ∈ byeaster, -80 ≤ o ∧ o ≤ 250) :
    ∃ mask, buildEastermask byeaster y (daysInYear y) (toOrdinal y 1 1) = .ok mask ∧
      ∀ j, 0 ≤ j → j < daysInYear y + 7 →
        Py.getIdx mask j = .ok (if (toOrdinal y 1 1 + j - Spec.RRule.easterOrd y) ∈ byeaster then 1 else 0) :=
  eastermask_spec byeaster y hy1 hy2 hoff

/-- **the nth-weekday mask of a MONTHLY rule** (with the range guard of the D-C01b fix): for every
    year, month and list of `(weekday, n)` pairs (`n ≠ 0`, any magnitude — e.g. `MO(8)`), building the
    mask raises nothing, and index `j` is marked exactly when its date lies in the cursor's month, has
    the weekday of one of the pairs and is the `n`-th such weekday of the month counted from the start
    (`n > 0`) or from the end (`n < 0`). -/
theorem nwdaymask_marks_nth_weekdays (r : Rule) (y m : Int) (info : Info) (h : rebuild r y m = .ok info)
    (hf : r.freq = 1) (nwl : List (Int × Int)) (hne : nwl ≠ []) (hnw : r.bynweekday = some nwl)
    (hok : ∀ wn ∈ nwl, (0 ≤ wn.1 ∧ wn.1 ≤ 6) ∧ wn.2 ≠ 0) (month : Int) (hm1 : 1 ≤ month) (hm12 : month ≤ 12) :
    ∃ mask, buildNwdaymask r info.yearlen info.mrange info.wdaymask month = .ok (some mask) ∧
      (mask.length : Int) = info.yearlen ∧
      ∀ j : Int, 0 ≤ j → j < info.yearlen →
        Py.getIdx mask j = .ok (if ∃ wn ∈ nwl, marks info (daysBeforeMonth y month)
            (daysBeforeMonth y month + daysInMonth y month - 1) j wn then 1 else 0) :=
  nwdaymask_monthly (rebuild_facts r y m info h) hf nwl hne hnw hok month hm1 hm12

/-- **the week-number mask** (lines 1157-1222, after the fix of D-C01f), on the complement of D-C01c
    (`WnoOk`: a listed 52/53 comes with −1, a listed −52/−53 comes with 1): for every year 1..9999, every
    week start and every such BYWEEKNO list the mask is built without raising, and inside the year an
    index is marked iff the date's week number (weeks of ≥ 4 days, `Spec.RRule.weekOf`), or that number
    counted from the end of its week-year, is listed — including the days of early January that belong to
    last year's last week and the days of late December that belong to next year's week 1. -/
theorem wnomask_marks_listed_weeks (r : Rule) (y m : Int) (info : Info) (h : rebuild r y m = .ok info)
    (wkst : Int) (hw : 0 ≤ wkst ∧ wkst ≤ 6) (bw : List Int) (hc : WnoOk bw) :
    ∃ mask, buildWnomask wkst bw y info.yearlen info.yearweekday info.wdaymask = .ok mask ∧
      (mask.length : Int) = info.yearlen + 7 ∧
      ∀ j : Int, 0 ≤ j → j < info.yearlen →
        Py.getIdx mask j = .ok (if weekClause wkst bw (info.yearordinal + j) = true then 1 else 0) :=
  buildWnomask_spec (rebuild_facts r y m info h) wkst hw bw hc

/-- week arithmetic behind it: week 1 starts within three days of Jan 1 on the week start, and every
    week-year has 52 or 53 weeks -/
theorem week_years (w y : Int) (hw : 0 ≤ w ∧ w ≤ 6) :
    weekdayOfOrd (Spec.RRule.week1Start w y) = w ∧
    toOrdinal y 1 1 - 3 ≤ Spec.RRule.week1Start w y ∧ Spec.RRule.week1Start w y ≤ toOrdinal y 1 1 + 3 ∧
    ∃ q, Spec.RRule.week1Start w (y + 1) - Spec.RRule.week1Start w y = 7 * q ∧ (q = 52 ∨ q = 53) := by
  have e := week1Start_eq w y
  have r := w1off_range w (weekdayOfOrd (toOrdinal y 1 1))
  exact ⟨week1Start_weekday w y hw, by omega, by omega, weeks_in_year w y hw⟩

/-- what `__init__` copies, and that the start loses its microseconds -/
theorem construct_copies (a : Args) (r : Rule) (h : construct a = .ok r) :
    r.freq = a.freq ∧ r.interval = a.interval ∧ r.wkst = a.wkst.getD 0 ∧ r.tz = a.tz ∧
    r.count = a.count ∧ r.untilDT = a.untilDT ∧ r.dtstart = { a.dtstart with us := 0 } := by
  have := construct_fields a r h
  exact ⟨this.1, this.2.1, this.2.2.1, this.2.2.2.1, this.2.2.2.2.1, this.2.2.2.2.2.1, this.2.2.2.2.2.2.1⟩

/-- **defaults from the start** (no BYWEEKNO/BYYEARDAY/BYMONTHDAY/BYDAY/BYEASTER given):
    YEARLY → the start's month (unless BYMONTH) and month day; MONTHLY → month day; WEEKLY → weekday -/
theorem construct_defaults (a : Args) (r : Rule) (h : construct a = .ok r) (hn : noDayParts a = true)
    (hd : 0 < a.dtstart.d) :
    (a.freq = 0 → a.bymonth = none → r.bymonth = some [a.dtstart.m] ∧ r.bymonthday = [a.dtstart.d] ∧
        r.bynmonthday = [] ∧ r.byweekday = none ∧ r.bynweekday = none) ∧
    (a.freq = 1 → r.bymonthday = [a.dtstart.d] ∧ r.bynmonthday = []) ∧
    (a.freq = 2 → r.byweekday = some [a.dtstart.weekday] ∧ r.bynweekday = none ∧
        r.bymonthday = [] ∧ r.bynmonthday = []) :=
  ⟨fun hf hm => construct_default_yearly a r h hn hf hm hd,
   fun hf => (construct_default_monthly a r h hn hf hd).2,
   fun hf => construct_default_weekly a r h hn hf⟩

/-- nth weekdays are demoted to plain weekdays above MONTHLY -/
theorem construct_nth_only_yearly_monthly (a : Args) (r : Rule) (h : construct a = .ok r) (hf : a.freq > 1) :
    r.bynweekday = none ∨ r.bynweekday = some [] := construct_nth_demoted a r h hf

/-- **ValueError classes of the constructor**: a BYSETPOS member 0 or outside ±366; HOURLY with a
    BYHOUR none of whose members is reachable from the start's hour in steps of INTERVAL mod 24 -/
theorem construct_ValueError (a : Args) :
    (∀ l p, a.bysetpos = some l → p ∈ l → (p = 0 ∨ p < -366 ∨ 366 < p) → construct a = .error .ValueError) ∧
    (∀ l, a.freq = 4 → a.byhour = some l → (∃ sp, normBysetpos a = .ok sp) →
      (∀ x ∈ l, ¬ ((Int.gcd a.interval 24 : Int) = 1 ∨
                    Py.fmod (x - a.dtstart.hh) (Int.gcd a.interval 24 : Int) = 0)) →
      construct a = .error .ValueError) :=
  ⟨fun l p hl hp hb => construct_bysetpos_ValueError a l p hl hp hb,
   fun l hf hl hsp hx => construct_byhour_unreachable a l hf hl hsp hx⟩

/-- **the constructor is idempotent on what it records**: `origArgs a r` is the model of
    `self._original_rule` plus the scalar attributes that `replace()` and `__str__` read (checked
    against the real object by the `rrule.orig` op); constructing from it gives the same rule, field
    for field, time set included.  C12 (`replace`) and C13 (`str` round trip) lean on this.  The one
    excluded input is the literal `bysetpos=()`: stored as `()`, not recorded, rebuilt as `None`. -/
theorem construct_origArgs (a : Args) (r : Rule) (h : construct a = .ok r) (hsp : a.bysetpos ≠ some []) :
    construct (origArgs a r) = .ok r := RRule.construct_origArgs a r h hsp

/-- … and that exclusion is real: `bysetpos=()` is not reproduced -/
example : (do let r ← construct { freq := 3, dtstart := ⟨2000, 1, 1, 0, 0, 0, 0⟩, bysetpos := some [] }
              let r' ← construct (origArgs { freq := 3, dtstart := ⟨2000, 1, 1, 0, 0, 0, 0⟩, bysetpos := some [] } r)
              pure (r.bysetpos, r'.bysetpos)) = .ok (some [], none) := by decide +kernel

/-- **the constructed rule depends only on the SET of members of each BY list** — `set(bymonth)`, `set(byhour)`, … in
    `__init__`: repeated members, any order, any container spelling of BYMONTH / BYMONTHDAY / BYYEARDAY / BYWEEKNO / BYDAY /
    BYHOUR / BYMINUTE / BYSECOND give the SAME rule object state (normalised tuples, positive / negative month-day split,
    plain / nth weekday split, reachability filter of the own unit, time set) or the same ValueError — for every frequency.
    BYSETPOS is kept as given (`tuple(bysetpos)`: equal here) and BYEASTER as `tuple(sorted(byeaster))` (equal up to order
    here; with repetitions the rule differs in that field only and iterates identically: `byeaster_repetitions_invisible`).
    The harness feeds repeated / unsorted members for every BY part x every frequency to constructor and iteration. -/
theorem construct_perm_dup_invariant (a a' : Args) (h : SetEquiv a a') : construct a = construct a' :=
  RRule.construct_perm_dup_invariant a a' h

/-- … and repeated BYEASTER members change nothing that is iterated: same values, same terminal status, all fuels -/
theorem byeaster_repetitions_invisible (a : Args) (el el' : List Int) (ha : a.byeaster = some el)
    (hm : ∀ x, x ∈ el ↔ x ∈ el') (r r' : Rule) (h : construct a = .ok r)
    (h' : construct { a with byeaster := some el' } = .ok r') (n : Nat) : iter r' n = iter r n :=
  construct_easter_dup_iter a el el' ha hm r r' h h' n

-- BYHOUR 20,8,20 / BYSECOND 5,5 against 8,20 / 5: the same rule
example : SetEquiv { freq := 3, dtstart := ⟨2024, 2, 28, 9, 30, 0, 0⟩, byhour := some [20, 8, 20], bysecond := some [5, 5] }
                   { freq := 3, dtstart := ⟨2024, 2, 28, 9, 30, 0, 0⟩, byhour := some [8, 20], bysecond := some [5] } :=
  { freq := rfl, dtstart := rfl, tz := rfl, interval := rfl, wkst := rfl, count := rfl, untilDT := rfl, bysetpos := rfl,
    byeaster := Or.inl ⟨rfl, rfl⟩, bymonth := Or.inl ⟨rfl, rfl⟩, bymonthday := Or.inl ⟨rfl, rfl⟩,
    byyearday := Or.inl ⟨rfl, rfl⟩, byweekno := Or.inl ⟨rfl, rfl⟩, byweekday := Or.inl ⟨rfl, rfl⟩,
    byhour := Or.inr ⟨_, _, rfl, rfl, by intro x; simp; omega⟩, byminute := Or.inl ⟨rfl, rfl⟩,
    bysecond := Or.inr ⟨_, _, rfl, rfl, by intro x; simp⟩ }

/-- **the ambient first weekday is an input only when `wkst` is not supplied.**  `constructW k a` is
    `rrule.__init__` while `calendar.firstweekday()` is `k` (process-wide, `calendar.setfirstweekday`);
    `construct` is the case `k = 0`, the interpreter's default.  With an explicit `wkst` — including `wkst=MO`
    / `wkst=0` — the built rule, hence everything iterated from it, does not depend on `k`; without `wkst` the
    week start is `k`.  (The per-run correspondence and oracle streams build rules under every `k = 0..6`.) -/
theorem explicit_wkst_ignores_ambient (k : Int) (a : Args) :
    (∀ w, a.wkst = some w → constructW k a = construct a) ∧
    (a.wkst = none → constructW k a = construct { a with wkst := some k }) ∧
    constructW 0 a = construct a :=
  ⟨fun w h => constructW_explicit k a w h, constructW_none k a, constructW_zero a⟩

/-- … and the exactness theorems hold under every ambient first weekday, read on the resolved arguments -/
theorem iter_eq_spec_supported_ambient_partial (k : Int) (a : Args) (r : Rule) (h : constructW k a = .ok r) (f : Family)
    (hs : SupportedBy (resolveW k a) f) (n : Nat) (hr : inRange (resolveW k a) f n) :
    ∃ m, n ≤ m ∧ m ≤ f.periodsPerTurn * n ∧ (iter r n).1 = Spec.RRule.occ (resolveW k a) m :=
  iter_eq_spec_supported_ambient k a r h f hs n hr

/-- the integrator's example: WEEKLY, interval 2, TU+SU from Tue 1997-08-05, explicit `wkst=MO`, built while the
    ambient first weekday is Sunday: the weeks still start on Monday -/
example : (match constructW 6 { freq := 2, interval := 2, count := some 4, wkst := some 0,
                                dtstart := ⟨1997, 8, 5, 9, 0, 0, 0⟩, byweekday := some [(1, 0), (6, 0)] } with
           | .ok r => (iterDT r 4).1.map (fun (t : DT) => (t.m, t.d)) | .error _ => []) =
    [(8, 5), (8, 10), (8, 19), (8, 24)] := by decide +kernel
/-- … and without `wkst` they start on Sunday -/
example : (match constructW 6 { freq := 2, interval := 2, count := some 4,
                                dtstart := ⟨1997, 8, 5, 9, 0, 0, 0⟩, byweekday := some [(1, 0), (6, 0)] } with
           | .ok r => (iterDT r 4).1.map (fun (t : DT) => (t.m, t.d)) | .error _ => []) =
    [(8, 5), (8, 17), (8, 19), (8, 31)] := by decide +kernel

/-- **never before the start** — every rule (not only constructed ones), every number of periods -/
theorem iter_ge_dtstart (r : Rule) (n : Nat) : ∀ x ∈ (iter r n).1, r.dtstart.toMicros ≤ x.micros :=
  fun x hx => (iter_mem r n x hx).1

/-- **never after UNTIL** -/
theorem iter_le_until (r : Rule) (n : Nat) (u : DT) (hu : r.untilDT = some u) :
    ∀ x ∈ (iter r n).1, x.micros ≤ u.toMicros := by
  intro x hx
  have := (iter_mem r n x hx).2
  unfold afterUntil at this; rw [hu] at this
  simpa using this

/-- **at most COUNT values** -/
theorem iter_count (r : Rule) (n : Nat) (c : Int) (hc : r.count = some c) :
    ((iter r n).1.length : Int) ≤ max c 0 := by
  unfold iter; split
  · simp; omega
  · rename_i st hinit
    exact run_count r n st c ((init_count r st hinit).trans hc)

/-- **strictly increasing, no duplicates** — every rule the constructor accepts (valid start,
    week start 0..6; INTERVAL ≥ 1 is implied by `construct a = .ok r`, see `construct_interval_positive`), all seven frequencies, every combination of BY parts including
    BYSETPOS and the known-defect classes, any COUNT / UNTIL, every number of periods: the yielded
    instants are strictly increasing.  (Invariants: the cursor is a valid date with rebuilt year
    facts; `__mod_distance` and the MINUTELY / SECONDLY reachability loops advance by a positive
    multiple of INTERVAL; consecutive periods occupy disjoint increasing windows; inside a period the
    candidates are `sorted days × strictly sorted time set`, or the sorted duplicate-free BYSETPOS list.) -/
theorem iter_strictMono (a : Args) (r : Rule) (h : construct a = .ok r)
    (hw : 0 ≤ a.wkst.getD 0 ∧ a.wkst.getD 0 ≤ 6) (hv : a.dtstart.Valid)
    (hf : 0 ≤ a.freq ∧ a.freq ≤ 6) (n : Nat) :
    (iter r n).1.Pairwise (fun x y => x.secs < y.secs) :=
  iter_strictMono_all' a r h hw hv hf n

/-- **real datetimes, strictly increasing at the `datetime` level** — all seven frequencies, every
    constructed rule: every yielded value went through a successful `date.fromordinal` (ordinal in
    1..3652059) and carries a valid wall time of the period's time set, so it is a valid `datetime`
    with whole seconds; and the `datetime`s themselves are strictly increasing. -/
theorem iterDT_strictMono_valid (a : Args) (r : Rule) (h : construct a = .ok r)
    (hw : 0 ≤ a.wkst.getD 0 ∧ a.wkst.getD 0 ≤ 6) (hv : a.dtstart.Valid)
    (hf : 0 ≤ a.freq ∧ a.freq ≤ 6) (n : Nat) :
    (iterDT r n).1.Pairwise (fun s t => s.toMicros < t.toMicros) ∧ ∀ t ∈ (iterDT r n).1, t.Valid ∧ t.us = 0 :=
  RRule.iterDT_strictMono_valid' a r h hw hv hf n

/-- **whole seconds**: every yielded datetime has `microsecond = 0` (the tzinfo is the rule's
    opaque tag `r.tz`, attached to every value by construction) -/
theorem iter_whole_seconds (r : Rule) (n : Nat) : ∀ t ∈ (iterDT r n).1, t.us = 0 := by
  intro t ht
  unfold iterDT at ht
  simp only [List.mem_map] at ht
  obtain ⟨x, _, rfl⟩ := ht
  rfl

/-- **interleaved iterators of one rule object do not interfere.**  The object is the immutable normalised `Rule` plus the one
    attribute an iteration writes, `_len` (`Obj`); every live iterator has its own generator state (`IterSlot`: `State`, what it
    has yielded, how it ended); an event creates an iterator in a slot (`iter(obj)`) or runs one turn of a slot's `while True`
    loop.  For EVERY event list — any interleaving of any number of iterators, which also covers `between` / `after` /
    `count` / indexing running in between, each being a fresh iterator advanced some turns —
    (i) the rule is never changed, (ii) what slot `j` holds after the history is what it holds after ITS OWN events alone, and
    (iii) an iterator created and advanced `n` turns holds exactly `(iter rule n).1`, the sequence a fresh iterator over a
    fresh object sees: the iteration state is a function of the rule and of the number of turns of THAT iterator.  (`init` and
    `step` take the `Rule`, not the `Obj`: `_len` is never read.  The tie to the code is the shared-state audit of
    `rrule._iter` / `_iterinfo` — the only attribute of the rule object they write is `_len`, `_iterinfo` is a local — and the
    interleaved-history stream of the harness.) -/
theorem interleaved_iterators_independent (o : Obj) (m : Slots) (es : List Ev) (j : Nat) :
    (exec o m es).1.rule = o.rule ∧
    (exec o m es).2 j = (exec o m (es.filter (fun e => e.slot == j))).2 j ∧
    (∀ (n : Nat) (pre : List Ev) (st0 : State), init o.rule = .ok st0 →
      es.filter (fun e => e.slot == j) = pre ++ Ev.create j :: List.replicate n (Ev.turn j) →
      ∃ s, (exec o m es).2 j = some s ∧ s.out = (iter o.rule n).1) :=
  ⟨interleave_rule_const o m es, interleave_noninterference o m es j,
   fun n pre st0 hinit hes => by
     obtain ⟨s, h1, _, h3⟩ := interleave_eq_run o m es j n pre st0 hinit hes
     exact ⟨s, h1, h3⟩⟩

-- two iterators over one DAILY rule (COUNT=3), interleaved, slot 0 re-created at the end; the turn that meets COUNT writes `_len`
example : (match construct { freq := 3, dtstart := ⟨2024, 2, 28, 9, 0, 0, 0⟩, count := some 3 } with
    | .ok r =>
      let p := exec { rule := r, len := none } (fun _ => none)
        [.create 0, .turn 0, .create 1, .turn 0, .turn 1, .turn 1, .turn 0, .turn 1, .turn 1, .create 0, .turn 0]
      (slotDates p 0, slotDates p 1, p.1.len)
    | .error _ => ([], [], none)) =
    ([(2024, 2, 28)], [(2024, 2, 28), (2024, 2, 29), (2024, 3, 1)], some 3) := by decide +kernel

/-- **YEARLY / MONTHLY / DAILY day sets cover exactly the period's days** (WEEKLY: `dayset_weekly_covers`) -/
theorem dayset_covers (r : Rule) (info : Info) (c : Cursor) (f : YearFacts r c.year info) :
    (r.freq = 0 → dayset r info c = .ok (intRange 0 info.yearlen)) ∧
    (r.freq = 1 → 1 ≤ c.month → c.month ≤ 12 →
      dayset r info c = .ok (intRange (daysBeforeMonth c.year c.month)
                                      (daysBeforeMonth c.year c.month + daysInMonth c.year c.month))) ∧
    (3 ≤ r.freq → ValidYMD c.year c.month c.day → dayset r info c = .ok [curOrd c - info.yearordinal]) :=
  ⟨fun hf => dayset_yearly c hf, fun hf h1 h12 => dayset_monthly c hf f h1 h12,
   fun hf hv => dayset_daily c hf f hv⟩

/-- **WEEKLY day set**: from the cursor's day up to (excluding) the next day whose weekday is WKST,
    at most 7 days, across the year end if necessary -/
theorem dayset_weekly_covers (r : Rule) (info : Info) (c : Cursor) (hf : r.freq = 2)
    (f : YearFacts r c.year info) (hv : ValidYMD c.year c.month c.day) :
    ∃ e, dayset r info c = .ok (intRange (curOrd c - info.yearordinal) e) ∧
      curOrd c - info.yearordinal < e ∧ e ≤ curOrd c - info.yearordinal + 7 ∧
      (∀ j, curOrd c - info.yearordinal < j → j < e → weekdayOfOrd (info.yearordinal + j) ≠ r.wkst) ∧
      (e = curOrd c - info.yearordinal + 7 ∨ weekdayOfOrd (info.yearordinal + e) = r.wkst) :=
  dayset_weekly hf f hv

/-- **advance maps the cursor of period k to the cursor of period k+1** — YEARLY: year + interval;
    MONTHLY: month index + interval (month kept in 1..12 across the `mod == 0` edge) -/
theorem advance_year_month (r : Rule) (st st' : State) (b : Bool) (h : advance r st b = .ok st') :
    (r.freq = 0 → st'.cur = { st.cur with year := st.cur.year + r.interval }) ∧
    (r.freq = 1 → 1 ≤ r.interval → 1 ≤ st.cur.month → st.cur.month ≤ 12 →
      st'.cur.year * 12 + (st'.cur.month - 1) = st.cur.year * 12 + (st.cur.month - 1) + r.interval ∧
      1 ≤ st'.cur.month ∧ st'.cur.month ≤ 12 ∧ st'.cur.day = st.cur.day) :=
  ⟨fun hf => (advance_yearly r st st' b hf h).1,
   fun hf hi h1 h12 => by
     have := advance_monthly r st st' b hf hi h1 h12 h
     exact ⟨this.1, this.2.1, this.2.2.1, this.2.2.2.1⟩⟩

/-- DAILY: day number + interval; WEEKLY: start of the week `interval` weeks later; in both cases
    the cursor is again a valid date (the `day > 28` month roll) with rebuilt year facts -/
theorem advance_day_week (r : Rule) (st st' : State) (b : Bool) (h : advance r st b = .ok st')
    (hi : 1 ≤ r.interval) (hv : ValidYMD st.cur.year st.cur.month st.cur.day)
    (f : YearFacts r st.cur.year st.info) :
    (r.freq = 3 → curOrd st'.cur = curOrd st.cur + r.interval ∧
        ValidYMD st'.cur.year st'.cur.month st'.cur.day ∧ YearFacts r st'.cur.year st'.info) ∧
    (r.freq = 2 → 0 ≤ r.wkst ∧ r.wkst ≤ 6 → 0 ≤ st.cur.weekday ∧ st.cur.weekday ≤ 6 →
        curOrd st'.cur = curOrd st.cur - (st.cur.weekday - r.wkst) % 7 + 7 * r.interval ∧
        ValidYMD st'.cur.year st'.cur.month st'.cur.day ∧ st'.cur.weekday = r.wkst ∧
        YearFacts r st'.cur.year st'.info) :=
  ⟨fun hf => by
     have := advance_daily r st st' b hf hi hv f h
     exact ⟨this.1, this.2.1, this.2.2.1⟩,
   fun hf hw hcw => by
     have := advance_weekly r st st' b hf hi hv hw hcw f h
     exact ⟨this.1, this.2.1, this.2.2.1, this.2.2.2.1⟩⟩

/-- **the BY-filter in calendar terms** (rules without the three computed masks): the day at index
    `i` is removed exactly when its date fails BYMONTH / BYDAY / BYMONTHDAY (±) / BYYEARDAY (±) -/
theorem filter_is_calendar (r : Rule) (hs : SimpleRule r) (y m : Int) (info : Info)
    (h : rebuild r y m = .ok info) (i : Int) (h0 : 0 ≤ i) (h1 : i < info.yearlen + 7) :
    dayFiltered r info i = .ok (!simpleOk r (info.yearordinal + i)) := by
  have f := rebuild_facts r y m info h
  obtain ⟨info', h', hn, _, _⟩ := rebuild_simple r hs y m f.year_lo f.year_hi
  rw [h] at h'; injection h' with h'; subst h'
  exact dayFiltered_simple hs f hn i h0 h1

/-- **`iter_eq_spec`, proved portion** (see the header for the full statement and what is missing):
    FREQ=DAILY, INTERVAL ≥ 1, valid start, any BYMONTH / BYMONTHDAY (members ≠ 0) / BYYEARDAY / BYDAY /
    BYHOUR / BYMINUTE / BYSECOND / BYSETPOS, any COUNT / UNTIL — the model yields exactly the specification's recurrence set, for every number
    of periods inside datetime's range. -/
theorem iter_eq_spec_daily_partial (a : Args) (r : Rule) (da : DailyArgs a) (h : construct a = .ok r)
    (n : Nat) (hn : Spec.RRule.startOrd a + n * a.interval ≤ maxOrdinal) :
    (iter r n).1 = Spec.RRule.occ a n :=
  iter_eq_spec_daily da h n hn

/-- **`iter_eq_spec`, proved portion, YEARLY / MONTHLY**: INTERVAL ≥ 1, valid start, any BYMONTH /
    BYMONTHDAY (members ≠ 0) / BYYEARDAY / plain BYDAY — or none, in which case the month and month
    day come from the start —, any BYHOUR / BYMINUTE / BYSECOND / BYSETPOS (1-based positions, negative
    from the end, in the period's sorted candidate list), any COUNT / UNTIL: exactly the specification's recurrence set, for every
    number of periods ending by year 9999. -/
theorem iter_eq_spec_yearly_monthly_partial (a : Args) (r : Rule) (ya : YMArgs a) (h : construct a = .ok r)
    (n : Nat) (hy : a.freq = 0 → a.dtstart.y + n * a.interval ≤ 9999)
    (hm : a.freq = 1 → (a.dtstart.y * 12 + (a.dtstart.m - 1) + n * a.interval) / 12 ≤ 9999) :
    (iter r n).1 = Spec.RRule.occ a n :=
  iter_eq_spec_ym ya h n hy hm

/-- **`iter_eq_spec`, proved portion, WEEKLY**: INTERVAL ≥ 1, week start 0..6, valid start, UNTIL (if
    any) not before the start, any BYMONTH / BYMONTHDAY (members ≠ 0) / BYYEARDAY / BYDAY — or none, in
    which case the weekday is the start's —, any BYHOUR / BYMINUTE / BYSECOND, BYSETPOS when the start
    falls on the week start (exactly the complement of the defect class D-C01e), any COUNT: exactly the
    specification's recurrence set (whole weeks from the week start; the model's first period starts
    at the start's own day, and the days it leaves out lie before the start). -/
theorem iter_eq_spec_weekly_partial (a : Args) (r : Rule) (wa : WeeklyArgs a) (h : construct a = .ok r)
    (n : Nat) (hn : W0 a + 7 * (n * a.interval) + 7 ≤ maxOrdinal + 1) :
    (iter r n).1 = Spec.RRule.occ a n :=
  iter_eq_spec_weekly wa h n hn

/-- **`iter_eq_spec`, proved portion, MONTHLY with nth weekdays** ("the last Friday of every month",
    "the 2nd Tuesday every 3 months"): INTERVAL ≥ 1, valid start, BYDAY made of nth weekdays only (any
    magnitude, positive from the month's start, negative from its end), any BYMONTH / BYYEARDAY / BYHOUR /
    BYMINUTE / BYSECOND / BYSETPOS, any COUNT / UNTIL, no BYWEEKNO / BYEASTER (BYMONTHDAY without zeros allowed): exactly the
    specification's recurrence set.  (The nth-weekday mask with the D-C01b range guard, the filter with
    that mask, and `rebuild` succeeding for every month 0001-01 .. 9999-12 are part of the proof.) -/
theorem iter_eq_spec_monthly_nth_partial (a : Args) (r : Rule) (na : NthMArgs a) (h : construct a = .ok r)
    (n : Nat) (hm : (a.dtstart.y * 12 + (a.dtstart.m - 1) + n * a.interval) / 12 ≤ 9999) :
    (iter r n).1 = Spec.RRule.occ a n :=
  iter_eq_spec_monthly_nth na h n hm

/-- **`iter_eq_spec`, proved portion, YEARLY with nth weekdays counted inside the year** ("the 20th
    Monday of the year", "the last Sunday of the year"): INTERVAL ≥ 1, valid start, no BYMONTH, BYDAY made
    of nth weekdays only (any magnitude), any BYYEARDAY / BYHOUR / BYMINUTE / BYSECOND / BYSETPOS, any COUNT /
    UNTIL, no BYWEEKNO / BYEASTER (BYMONTHDAY without zeros allowed): exactly the specification's recurrence set. -/
theorem iter_eq_spec_yearly_nth_partial (a : Args) (r : Rule) (na : NthYArgs a) (h : construct a = .ok r)
    (n : Nat) (hy : a.dtstart.y + n * a.interval ≤ 9999) :
    (iter r n).1 = Spec.RRule.occ a n :=
  iter_eq_spec_yearly_nth na h n hy

/-- **`iter_eq_spec`, proved portion, YEARLY with BYMONTH and nth weekdays counted inside each listed
    month** ("the 4th Thursday of November", "the last Monday of May"): INTERVAL ≥ 1, valid start, BYMONTH
    with members 1..12, BYDAY made of nth weekdays only, any BYYEARDAY / BYHOUR / BYMINUTE / BYSECOND /
    BYSETPOS, any COUNT / UNTIL, no BYWEEKNO / BYEASTER (BYMONTHDAY without zeros allowed): exactly the specification's set. -/
theorem iter_eq_spec_yearly_bymonth_nth_partial (a : Args) (r : Rule) (na : NthYMArgs a) (h : construct a = .ok r)
    (n : Nat) (hy : a.dtstart.y + n * a.interval ≤ 9999) :
    (iter r n).1 = Spec.RRule.occ a n :=
  iter_eq_spec_yearly_bymonth_nth na h n hy

/-- **`iter_eq_spec`, proved portion, YEARLY with BYEASTER** on the supported class = the complement of
    D-C01d (offsets −80..250) inside the years 1583..4099 where C19 proves `easter.easter` canonical:
    INTERVAL ≥ 1, valid start, any BYMONTH / BYMONTHDAY (non-zero) / BYYEARDAY / plain BYDAY / BYHOUR / BYMINUTE /
    BYSECOND / BYSETPOS, any COUNT / UNTIL, no nth BYDAY / BYWEEKNO: exactly the specification's recurrence
    set (Easter by Meeus/Jones/Butcher). -/
theorem iter_eq_spec_yearly_easter_partial (a : Args) (r : Rule) (ea : EasterYArgs a) (h : construct a = .ok r)
    (n : Nat) (hlo : 1583 ≤ a.dtstart.y) (hy : a.dtstart.y + n * a.interval ≤ 4099) :
    (iter r n).1 = Spec.RRule.occ a n :=
  iter_eq_spec_yearly_easter ea h n hlo hy

/-- **`iter_eq_spec`, proved portion, YEARLY with BYWEEKNO** on the complement of D-C01c (a listed 52/53
    comes with −1, a listed −52/−53 comes with 1): INTERVAL ≥ 1, valid start, any week start, any BYMONTH /
    BYMONTHDAY (non-zero) / BYYEARDAY / plain BYDAY / BYHOUR / BYMINUTE / BYSECOND / BYSETPOS, any COUNT /
    UNTIL, no nth BYDAY / BYEASTER: exactly the specification's recurrence set, every year up to 9999. -/
theorem iter_eq_spec_yearly_weekno_partial (a : Args) (r : Rule) (wa : WeeknoYArgs a) (h : construct a = .ok r)
    (n : Nat) (hy : a.dtstart.y + n * a.interval ≤ 9999) :
    (iter r n).1 = Spec.RRule.occ a n :=
  iter_eq_spec_yearly_weekno wa h n hy

/-- **`iter_eq_spec`, proved portion, MONTHLY with BYWEEKNO** on the complement of D-C01c: INTERVAL ≥ 1, valid start,
    week start 0..6, any BYMONTH / BYMONTHDAY (non-zero) / BYYEARDAY / plain BYDAY / time parts / BYSETPOS, any COUNT /
    UNTIL, no nth BYDAY / BYEASTER. -/
theorem iter_eq_spec_monthly_weekno_partial (a : Args) (r : Rule) (wa : WeeknoMArgs a) (h : construct a = .ok r)
    (n : Nat) (hm : (a.dtstart.y * 12 + (a.dtstart.m - 1) + n * a.interval) / 12 ≤ 9999) :
    (iter r n).1 = Spec.RRule.occ a n :=
  iter_eq_spec_monthly_weekno wa h n hm

/-- **`iter_eq_spec`, proved portion, WEEKLY with BYWEEKNO** on the complement of D-C01c: INTERVAL ≥ 1, valid start, week
    start 0..6, UNTIL not before the start, BYSETPOS only with the start on the week start (outside D-C01e), any BYMONTH /
    BYMONTHDAY (non-zero) / BYYEARDAY / BYDAY / time parts, any COUNT, no BYEASTER.  A week that begins in late December reads
    the 7-day tail of the week-number mask; `buildWnomask_tail` shows that the part of the tail such a week can read is right:
    the old year's last week running over the year end (marked by the main loop) and the new year's week 1 begun in the old
    year (the `if 1 in byweekno` block). -/
theorem iter_eq_spec_weekly_weekno_partial (a : Args) (r : Rule) (wa : WeeklyWArgs a) (h : construct a = .ok r)
    (n : Nat) (hn : W0 a + 7 * (n * a.interval) + 7 ≤ maxOrdinal + 1) :
    (iter r n).1 = Spec.RRule.occ a n :=
  iter_eq_spec_weekly_weekno wa h n hn

/-- **`iter_eq_spec`, proved portion, nth BYDAY together with BYWEEKNO** (nth members only = outside D-C01a; BYWEEKNO on the
    complement of D-C01c; week start 0..6; no BYEASTER): MONTHLY, YEARLY without BYMONTH (ordinals counted inside the year) and
    YEARLY with BYMONTH (inside each listed month).  With BYDAY given, neither the constructor nor the specification's date
    predicate looks at BYWEEKNO anywhere else, so the argument side is the nth family on the arguments without BYWEEKNO ∧ the
    week clause; the model side carries both masks. -/
theorem iter_eq_spec_nth_weekno_partial (a : Args) (r : Rule) (h : construct a = .ok r) (n : Nat) :
    (NthWMArgs a → (a.dtstart.y * 12 + (a.dtstart.m - 1) + n * a.interval) / 12 ≤ 9999 → (iter r n).1 = Spec.RRule.occ a n) ∧
    (NthWYArgs a → a.dtstart.y + n * a.interval ≤ 9999 → (iter r n).1 = Spec.RRule.occ a n) ∧
    (NthWYMArgs a → a.dtstart.y + n * a.interval ≤ 9999 → (iter r n).1 = Spec.RRule.occ a n) :=
  ⟨fun na hm => iter_eq_spec_monthly_nth_weekno na h n hm, fun na hy => iter_eq_spec_yearly_nth_weekno na h n hy,
   fun na hy => iter_eq_spec_yearly_bymonth_nth_weekno na h n hy⟩

-- the last Friday of the month when it lies in week 4, 13 or the last week of the year
example : NthWMArgs { freq := 1, dtstart := ⟨2024, 1, 1, 18, 0, 0, 0⟩, byweekday := some [(4, -1)], byweekno := some [4, 13, -1] } :=
  ⟨rfl, by decide, by decide, by decide, rfl, by intro x hx; simp at hx, ⟨[(4, -1)], rfl, by decide, by decide⟩,
   ⟨[4, 13, -1], rfl, by decide, ⟨by decide, by decide⟩⟩⟩

/-- **`iter_eq_spec`, proved portion, BYEASTER together with nth BYDAY or with BYWEEKNO** (offsets −80..250, years 1583..4099):
    MONTHLY / YEARLY / YEARLY+BYMONTH with nth BYDAY (nth members only) and BYEASTER, no BYWEEKNO; YEARLY with BYWEEKNO (complement
    of D-C01c, week start 0..6) and BYEASTER, plain BYDAY allowed. -/
theorem iter_eq_spec_easter_mixed_partial (a : Args) (r : Rule) (h : construct a = .ok r) (n : Nat) (hlo : 1583 ≤ a.dtstart.y) :
    (NthEMArgs a → (a.dtstart.y * 12 + (a.dtstart.m - 1) + n * a.interval) / 12 ≤ 4099 → (iter r n).1 = Spec.RRule.occ a n) ∧
    (NthEYArgs a → a.dtstart.y + n * a.interval ≤ 4099 → (iter r n).1 = Spec.RRule.occ a n) ∧
    (NthEYMArgs a → a.dtstart.y + n * a.interval ≤ 4099 → (iter r n).1 = Spec.RRule.occ a n) ∧
    (WeeknoEYArgs a → a.dtstart.y + n * a.interval ≤ 4099 → (iter r n).1 = Spec.RRule.occ a n) :=
  ⟨fun na hm => iter_eq_spec_monthly_nth_easter na h n hlo hm, fun na hy => iter_eq_spec_yearly_nth_easter na h n hlo hy,
   fun na hy => iter_eq_spec_yearly_bymonth_nth_easter na h n hlo hy,
   fun wa hy => iter_eq_spec_yearly_weekno_easter wa h n hlo hy⟩

-- Easter Sundays and Mondays that fall in week 14 or 15
example : WeeknoEYArgs { freq := 0, dtstart := ⟨2024, 1, 1, 10, 0, 0, 0⟩, byweekno := some [14, 15], byeaster := some [0, 1] } :=
  ⟨rfl, by decide, by decide, by decide, by intro x hx; simp at hx, by intro w hw; simp at hw,
   ⟨[14, 15], rfl, by decide, ⟨by decide, by decide⟩⟩, ⟨[0, 1], rfl, by decide, by decide⟩⟩

/-- **`iter_eq_spec`, proved portion, DAILY with BYWEEKNO** — and the same extension holds in the five sub-daily
    theorems below: their argument classes (`HourlyArgs`, `HourlyByArgs`, `MinutelyArgs`, `MinutelyByArgs`,
    `SecondlyArgs`) take `WArg a`: BYWEEKNO absent, or a non-empty list on the complement of D-C01c (a listed
    52/53 comes with −1, a listed −52/−53 with 1) with a week start 0..6.  The BY-filter of these families is
    treated through one abstraction (Proofs/RRuleWFilter.lean): `rebuild` keeps an invariant under which the
    filter of a day is `simpleOk ∧ week clause`, which is the specification's `dateOk`. -/
theorem iter_eq_spec_daily_weekno_partial (a : Args) (r : Rule) (da : DailyWArgs a) (h : construct a = .ok r)
    (n : Nat) (hn : Spec.RRule.startOrd a + n * a.interval ≤ maxOrdinal) :
    (iter r n).1 = Spec.RRule.occ a n :=
  iter_eq_spec_daily_w da h n hn

/-- **`iter_eq_spec`, proved portion, HOURLY** (no BYHOUR): INTERVAL ≥ 1, valid start, any BYMONTH /
    BYMONTHDAY (non-zero) / BYYEARDAY / BYDAY / BYMINUTE / BYSECOND (members 0..59; outside, the generator
    raises while iterating) / BYSETPOS, any COUNT / UNTIL, no BYWEEKNO / BYEASTER.  The generator does not
    visit every hour of the grid: after a day removed by the BY-filter it jumps to that day's last
    on-grid hour.  So `n` turns of its loop correspond to `m` periods of the specification, `n ≤ m ≤ 24·n`
    (the hours passed over are proved to select nothing), and what has been yielded after `n` turns is
    exactly the specification's recurrence set of the first `m` periods — in particular the two
    sequences are the same. -/
theorem iter_eq_spec_hourly_partial (a : Args) (r : Rule) (ha : HourlyArgs a) (h : construct a = .ok r) (n : Nat)
    (hle : Spec.RRule.startOrd a * 24 + a.dtstart.hh + (24 * n + 1) * a.interval + 23 < (maxOrdinal + 1) * 24) :
    ∃ m, n ≤ m ∧ m ≤ 24 * n ∧ (iter r n).1 = Spec.RRule.occ a m :=
  iter_eq_spec_hourly ha h n hle

/-- **`iter_eq_spec`, proved portion, MINUTELY** (no BYHOUR, no BYMINUTE; BYSECOND members 0..59): as
    `iter_eq_spec_hourly_partial`, one turn passing over at most 1440 periods. -/
theorem iter_eq_spec_minutely_partial (a : Args) (r : Rule) (ma : MinutelyArgs a) (h : construct a = .ok r) (n : Nat)
    (hle : (Spec.RRule.startOrd a * 24 + a.dtstart.hh) * 60 + a.dtstart.mm + (1440 * n + 1) * a.interval + 1439 <
      (maxOrdinal + 1) * 1440) :
    ∃ m, n ≤ m ∧ m ≤ 1440 * n ∧ (iter r n).1 = Spec.RRule.occ a m :=
  iter_eq_spec_minutely ma h n hle

/-- **`iter_eq_spec`, proved portion, SECONDLY** (no BYHOUR / BYMINUTE / BYSECOND): as
    `iter_eq_spec_hourly_partial`, one turn passing over at most 86400 periods. -/
theorem iter_eq_spec_secondly_partial (a : Args) (r : Rule) (sa : SecondlyArgs a) (h : construct a = .ok r) (n : Nat)
    (hle : ((Spec.RRule.startOrd a * 24 + a.dtstart.hh) * 60 + a.dtstart.mm) * 60 + a.dtstart.ss +
      (86400 * n + 1) * a.interval + 86399 < (maxOrdinal + 1) * 86400) :
    ∃ m, n ≤ m ∧ m ≤ 86400 * n ∧ (iter r n).1 = Spec.RRule.occ a m :=
  iter_eq_spec_secondly sa h n hle

/-- **`__mod_distance`, exactly**: from `v` the loop visits `(v + t·interval) mod base` for `t = 1, 2, …, n` and
    returns at the LEAST `t` whose value is listed, with the carry `(v + t·interval) div base`; it falls off the
    loop (Python `None`, a `TypeError` at the unpacking) iff none of the `n` values is listed. -/
theorem mod_distance_least (interval : Int) (byxxx : List Int) (base : Int) (hb : 0 < base) (n : Nat) (acc v : Int) :
    (∃ s : Nat, 1 ≤ s ∧ s ≤ n ∧ byxxx.contains ((v + s * interval) % base) = true ∧
      (∀ t : Nat, 1 ≤ t → t < s → byxxx.contains ((v + t * interval) % base) = false) ∧
      modDistance interval byxxx base n acc v =
        some (acc + (v + s * interval) / base, (v + s * interval) % base)) ∨
    ((∀ t : Nat, 1 ≤ t → t ≤ n → byxxx.contains ((v + t * interval) % base) = false) ∧
      modDistance interval byxxx base n acc v = none) :=
  modDistance_exact interval byxxx base hb n acc v

/-- … and for hours that passed `__construct_byset` there always is one: from any `W`, a target `x ∈ 0..23`
    congruent to `W` modulo gcd(interval, 24) is reached within 24 steps -/
theorem mod_distance_reaches_hour (interval W x : Int) (hx : 0 ≤ x ∧ x ≤ 23)
    (hg : (x - W) % ((Int.gcd interval 24 : Nat) : Int) = 0) :
    ∃ s : Nat, 1 ≤ s ∧ s ≤ 24 ∧ (W + (s : Int) * interval) % 24 = x := by
  obtain ⟨s, h1, h2, h3⟩ := reach interval 24 W x (by omega) hg
  exact ⟨s, h1, by omega, by rw [h3]; omega⟩

/-- **`iter_eq_spec`, proved portion, HOURLY with BYHOUR** (members 0..23): as `iter_eq_spec_hourly_partial`;
    a turn moves to the least listed hour of the grid (`mod_distance_least`, at most 24 steps) after the optional
    jump over a removed day, so `n` turns correspond to `m` periods with `n ≤ m ≤ 48·n`; the grid hours
    passed over are unlisted or lie on the removed day and select nothing. -/
theorem iter_eq_spec_hourly_byhour_partial (a : Args) (r : Rule) (ha : HourlyByArgs a) (h : construct a = .ok r) (n : Nat)
    (hle : Spec.RRule.startOrd a * 24 + a.dtstart.hh + (48 * n + 24) * a.interval + 23 < (maxOrdinal + 1) * 24) :
    ∃ m, n ≤ m ∧ m ≤ 48 * n ∧ (iter r n).1 = Spec.RRule.occ a m :=
  iter_eq_spec_hourly_byhour ha h n hle

/-- **`iter_eq_spec`, proved portion, MINUTELY with BYMINUTE** (members 0..59, no BYHOUR): as
    `iter_eq_spec_hourly_byhour_partial` one unit down (`minutelyLoop` succeeds on its first pass, at the least
    listed minute of the grid, at most 60 steps); `n ≤ m ≤ 1500·n`. -/
theorem iter_eq_spec_minutely_byminute_partial (a : Args) (r : Rule) (ma : MinutelyByArgs a) (h : construct a = .ok r)
    (n : Nat)
    (hle : (Spec.RRule.startOrd a * 24 + a.dtstart.hh) * 60 + a.dtstart.mm + (1500 * n + 60) * a.interval + 1439 <
      (maxOrdinal + 1) * 1440) :
    ∃ m, n ≤ m ∧ m ≤ 1500 * n ∧ (iter r n).1 = Spec.RRule.occ a m :=
  iter_eq_spec_minutely_byminute ma h n hle

/-- **the MINUTELY reachability loop beyond its first pass** (BYHOUR, no BYMINUTE): it stops at the LEAST grid minute
    whose hour is listed, if one occurs within the fuel … -/
theorem minutely_loop_least (r : Rule) (hi : 1 ≤ r.interval) (bh : List Int) (hbm : r.byminute = none)
    (hbh : r.byhour = some bh) (htr : truthy (some bh) = true) (n : Nat) (W hour day : Int) (fx : Bool)
    (hW : 0 ≤ W) (h0 : 0 ≤ hour) (h23 : hour ≤ 23)
    (hex : ∃ t : Nat, 1 ≤ t ∧ t ≤ n ∧ bh.contains ((hour * 60 + W + t * r.interval) / 60 % 24) = true) :
    ∃ t : Nat, 1 ≤ t ∧ t ≤ n ∧ bh.contains ((hour * 60 + W + t * r.interval) / 60 % 24) = true ∧
      (∀ t' : Nat, 1 ≤ t' → t' < t → bh.contains ((hour * 60 + W + t' * r.interval) / 60 % 24) = false) ∧
      minutelyLoop r n W hour day fx =
        .ok ((hour * 60 + W + t * r.interval) % 60, (hour * 60 + W + t * r.interval) / 60 % 24,
             day + (hour * 60 + W + t * r.interval) / 1440,
             fx || decide ((hour * 60 + W + t * r.interval) / 1440 ≠ 0)) := by
  have hacc : ∀ V, SubFreq.accepts .minutely r V = bh.contains (V / 60 % 24) := by
    intro V
    show ((!(truthy r.byhour) || memO (V / 60 % 24) r.byhour) && (!(truthy r.byminute) || memO (V % 60) r.byminute)) = _
    rw [hbm, hbh, htr]
    show ((!true || bh.contains (V / 60 % 24)) && (!false || false)) = _
    simp
  simpa only [hacc] using minutelyLoop_least r hi n W hour day fx hW h0 (by simpa only [hacc] using hex)

/-- … and the loop's own bound suffices: in the step index, the orbit of `+interval` modulo `base` repeats after
    `base / gcd(interval, base)` steps, so every window of that many consecutive steps meets every point of the orbit -/
theorem orbit_period_window (interval base : Int) (hb : 0 < base) (k j : Nat) :
    ∃ t : Nat, 1 ≤ t ∧ (t : Int) ≤ base / ((Int.gcd interval base : Nat) : Int) ∧
      ∃ z : Int, ((k + t : Nat) : Int) * interval = (j : Int) * interval + base * z :=
  orbit_window interval base hb k j

/-- **`iter_eq_spec`, proved portion, MINUTELY with BYHOUR** (non-empty, no BYMINUTE; BYWEEKNO as in the other sub-daily
    theorems) under the explicit, decidable reachability hypothesis `reachableHourM a`: some minute of the grid — the
    orbit of the start under `+INTERVAL`, which repeats after at most 1440 steps — falls in a listed hour.  Then the
    multi-pass loop never exhausts its bound and `n` turns correspond to `m` periods, `n ≤ m ≤ 2880·n`.
    ON THE COMPLEMENT (`¬ reachableHourM a`) the recurrence set is EMPTY and the generator does not stop but raises
    `ValueError("Invalid combination of interval and byhour resulting in empty rule.")` at the first `next()`:
    which the property allows ("raises ValueError when first iterated"; former finding D-C01g, withdrawn) (`rrule(MINUTELY, interval=120, byhour=[1], dtstart=datetime(2024,1,1,0,0))`); the model
    reproduces it (`minutelyLoop` returns the same ValueError). -/
theorem iter_eq_spec_minutely_byhour_partial (a : Args) (r : Rule) (ma : MinutelyBHArgs a) (h : construct a = .ok r)
    (n : Nat)
    (hle : (Spec.RRule.startOrd a * 24 + a.dtstart.hh) * 60 + a.dtstart.mm + (2880 * n + 1440) * a.interval + 1439 <
      (maxOrdinal + 1) * 1440) :
    ∃ m, n ≤ m ∧ m ≤ 2880 * n ∧ (iter r n).1 = Spec.RRule.occ a m :=
  iter_eq_spec_minutely_byhour ma h n hle

/-- **`iter_eq_spec`, proved portion, MINUTELY with BYMINUTE and optional BYHOUR — in particular BYHOUR and BYMINUTE
    together** (BYMINUTE with any members, BYHOUR absent or non-empty, BYSECOND members 0..59) under the decidable
    reachability hypothesis `reachableMM a`: some minute of the grid has a listed hour and a listed minute.  The inner step
    of `minutelyLoop` is `__mod_distance` over the minutes (exact; it cannot fall off its loop), a pass moves over grid
    minutes whose minute is unlisted, and the loop stops at the LEAST grid minute with both parts listed
    (`minutelyLoop_least`); `n ≤ m ≤ 2880·n`. -/
theorem iter_eq_spec_minutely_byhour_byminute_partial (a : Args) (r : Rule) (ma : MinutelyBHMArgs a)
    (h : construct a = .ok r) (n : Nat)
    (hle : (Spec.RRule.startOrd a * 24 + a.dtstart.hh) * 60 + a.dtstart.mm + (2880 * n + 1440) * a.interval + 1439 <
      (maxOrdinal + 1) * 1440) :
    ∃ m, n ≤ m ∧ m ≤ 2880 * n ∧ (iter r n).1 = Spec.RRule.occ a m :=
  iter_eq_spec_minutely_bhm ma h n hle

/-- **`iter_eq_spec`, proved portion, SECONDLY with BYHOUR and / or BYMINUTE** (each absent or non-empty, no BYSECOND;
    BYWEEKNO as in the other sub-daily theorems) under the explicit, decidable reachability hypothesis `reachableS a`: some
    second of the grid — the orbit of the start under `+INTERVAL`, which repeats after at most 86400 steps — lies in a
    listed hour and a listed minute.  `secondlyLoop` then stops at the LEAST such grid second within its own bound
    86400 / gcd(INTERVAL, 86400) (`secondlyLoop_least`, `orbit_period_window`), and `n` turns correspond to `m` periods,
    `n ≤ m ≤ 172800·n`.  On the complement the recurrence set is empty and the generator raises ValueError at the first
    `next()` (allowed by the property: "raises ValueError when first iterated"). -/
theorem iter_eq_spec_secondly_byhour_byminute_partial (a : Args) (r : Rule) (sa : SecondlyBHMArgs a)
    (h : construct a = .ok r) (n : Nat)
    (hle : ((Spec.RRule.startOrd a * 24 + a.dtstart.hh) * 60 + a.dtstart.mm) * 60 + a.dtstart.ss +
      (172800 * n + 86400) * a.interval + 86399 < (maxOrdinal + 1) * 86400) :
    ∃ m, n ≤ m ∧ m ≤ 172800 * n ∧ (iter r n).1 = Spec.RRule.occ a m :=
  iter_eq_spec_secondly_bhm sa h n hle

/-- **`iter_eq_spec`, proved portion, SECONDLY with BYSECOND** (any members — those outside 0..59 or off the grid are inert on
    both sides —, BYHOUR / BYMINUTE absent or non-empty) under `reachableSS a`: some second of the grid has a listed hour,
    minute and second.  The inner step of `secondlyLoop` is then `__mod_distance` (exact by `mod_distance_least`; it cannot
    fall off its loop because the second-of-minute repeats with period dividing 60 and a listed one exists), a pass moves over
    grid seconds whose second is unlisted, and the loop stops at the LEAST grid second with all three parts listed. -/
theorem iter_eq_spec_secondly_bysecond_partial (a : Args) (r : Rule) (sa : SecondlyBSArgs a)
    (h : construct a = .ok r) (n : Nat)
    (hle : ((Spec.RRule.startOrd a * 24 + a.dtstart.hh) * 60 + a.dtstart.mm) * 60 + a.dtstart.ss +
      (172800 * n + 86400) * a.interval + 86399 < (maxOrdinal + 1) * 86400) :
    ∃ m, n ≤ m ∧ m ≤ 172800 * n ∧ (iter r n).1 = Spec.RRule.occ a m :=
  iter_eq_spec_secondly_bysecond sa h n hle

/-- **INTERVAL must be a positive integer** (fix D-C01-interval): `rrule.__init__` raises ValueError for `interval < 1`
    whatever the other arguments are, so every constructed rule has `interval ≥ 1` — the hypothesis `1 ≤ a.interval` of the
    theorems above is implied by `construct a = .ok r`.  (Before the fix `interval=0` yielded the start for ever — duplicates,
    `list(rule)` with UNTIL never returned — and `interval < 0` yielded the start and then raised from `date.fromordinal`.) -/
theorem construct_interval_positive (a : Args) :
    (a.interval < 1 → construct a = .error .ValueError) ∧ (∀ r, construct a = .ok r → 1 ≤ a.interval) :=
  ⟨construct_interval_ValueError a, fun r h => construct_interval_pos a r h⟩

example : construct { freq := 3, dtstart := ⟨2024, 1, 1, 9, 0, 0, 0⟩, interval := 0 } = .error .ValueError := by decide +kernel
example : construct { freq := 0, dtstart := ⟨2024, 1, 1, 9, 0, 0, 0⟩, interval := -1, count := some 3 } = .error .ValueError := by
  decide +kernel

/-- **`iter_eq_spec`, proved portion, MONTHLY with BYEASTER** (−80..250, plain BYDAY only, no BYWEEKNO, months inside 1583..4099) -/
theorem iter_eq_spec_monthly_easter_partial (a : Args) (r : Rule) (ea : EasterMArgs a) (h : construct a = .ok r) (n : Nat)
    (hlo : 1583 ≤ a.dtstart.y) (hm : (a.dtstart.y * 12 + (a.dtstart.m - 1) + n * a.interval) / 12 ≤ 4099) :
    (iter r n).1 = Spec.RRule.occ a n :=
  iter_eq_spec_monthly_easter ea h n hlo hm

/-- **`iter_eq_spec`, proved portion, WEEKLY with BYEASTER** on the EXACT class −74..250: a week begun in late December reads the
    7-day tail of the Easter mask of the OLD year, which is never marked for offsets ≤ 250 (`easter_yday_range`: Easter falls on
    22 March .. 25 April), while the specification accepts Jan 1..6 of the new year exactly for offsets −115..−75 of the NEW
    year's Easter — so the model is right precisely when no offset below −74 is listed (offsets −80..−75 under WEEKLY are part
    of D-C01d: e.g. `rrule(WEEKLY, wkst=WE, dtstart=1817-12-31, byeaster=-75)` misses 1818-01-06).  No BYWEEKNO, BYSETPOS only with
    the start on the week start, UNTIL not before the start, every week inside 1583..4099. -/
theorem iter_eq_spec_weekly_easter_partial (a : Args) (r : Rule) (wa : WeeklyEArgs a) (h : construct a = .ok r) (n : Nat)
    (hlo : 1583 ≤ a.dtstart.y) (hn : W0 a + 7 * (n * a.interval) + 7 ≤ Cal.toOrdinal 4099 12 31 + 1) :
    (iter r n).1 = Spec.RRule.occ a n :=
  iter_eq_spec_weekly_easter wa h n hlo hn

/-- **`iter_eq_spec`, proved portion, BYEASTER below YEARLY**: DAILY, HOURLY (with or without BYHOUR), MINUTELY (plain, BYMINUTE,
    BYHOUR, both) and SECONDLY (plain, BYHOUR / BYMINUTE, BYSECOND) with BYEASTER offsets −80..250 (the complement of D-C01d),
    no BYWEEKNO, every visited day inside 1583-01-01 .. 4099-12-31 (where C19 proves `easter.easter` canonical), everything else as
    in the corresponding family without BYEASTER (any BYMONTH / BYMONTHDAY non-zero / BYYEARDAY / BYDAY / time parts / BYSETPOS /
    COUNT / UNTIL; the same reachability hypotheses and the same `periodsPerTurn`).  One abstraction (Proofs/RRuleEFilter.lean):
    `rebuild` keeps an invariant under which the BY-filter of a day is `simpleOk ∧ (date − Easter of its year ∈ BYEASTER)`, which
    is the specification's `dateOk`; the family proofs are the ones without BYEASTER with that filter lemma.
    (`Family.isEasterSub f`: `f` is one of dailyE … secondlyBysecondE; `SupportedBy` / `inRange` spell the hypotheses out.) -/
theorem iter_eq_spec_byeaster_below_yearly_partial (a : Args) (r : Rule) (h : construct a = .ok r) (f : Family)
    (_hf : f.isEasterSub = true) (hs : SupportedBy a f) (n : Nat) (hr : inRange a f n) :
    ∃ m, n ≤ m ∧ m ≤ f.periodsPerTurn * n ∧ (iter r n).1 = Spec.RRule.occ a m :=
  iter_eq_spec_supported a r h f hs n hr

/-- … its DAILY instance spelled out: exactly the specification's recurrence set, period by period -/
theorem iter_eq_spec_daily_easter_partial (a : Args) (r : Rule) (ea : DailyEArgs a) (h : construct a = .ok r) (n : Nat)
    (hlo : 1583 ≤ a.dtstart.y) (hn : Spec.RRule.startOrd a + n * a.interval ≤ Cal.toOrdinal 4099 12 31) :
    (iter r n).1 = Spec.RRule.occ a n :=
  iter_eq_spec_daily_easter ea h n hlo hn

/-- **`iter_eq_spec` for every supported argument set** — the summary of the family theorems above.
    `SupportedBy a f` (Spec/RRuleSupported.lean) is a decidable condition on the arguments alone, the union of
    the proved families: DAILY, WEEKLY (BYSETPOS only with the start on the week start = outside D-C01e),
    YEARLY / MONTHLY with plain BYDAY, MONTHLY / YEARLY / YEARLY+BYMONTH with nth BYDAY only (= outside D-C01a),
    YEARLY with BYEASTER −80..250 (outside D-C01d), YEARLY with BYWEEKNO outside D-C01c, HOURLY with or
    without BYHOUR, MINUTELY without BYHOUR (with or without BYMINUTE) or with BYHOUR alone, SECONDLY with any combination of
    BYHOUR / BYMINUTE / BYSECOND (reachability of a listed grid second as a decidable hypothesis); always
    INTERVAL ≥ 1, a valid start, no zero in BYMONTHDAY.  `inRange` keeps the first `n` turns inside
    datetime's range.  `m = n` for the calendar frequencies.  The driver op `rrule.supported` evaluates
    `family`, so each run of the check records which share of its sampled rules is covered by this theorem
    (`rules_under_exactness_theorem` in the evidence). -/
theorem iter_eq_spec_supported_partial (a : Args) (r : Rule) (h : construct a = .ok r) (f : Family)
    (hs : SupportedBy a f) (n : Nat) (hr : inRange a f n) :
    ∃ m, n ≤ m ∧ m ≤ f.periodsPerTurn * n ∧ (iter r n).1 = Spec.RRule.occ a m :=
  iter_eq_spec_supported a r h f hs n hr

/-- the executable classifier is sound for it -/
theorem family_is_supported (a : Args) (f : Family) (h : family a = some f) : SupportedBy a f :=
  family_sound f h

def dt (y m d : Int) (hh : Int := 0) (mm : Int := 0) (ss : Int := 0) : DT := { y, m, d, hh, mm, ss, us := 0 }

/-- shape of the output lists compared below -/
def dates (x : Py.R Rule) (n : Nat) : List (Int × Int × Int) :=
  match x with
  | .ok r => (iterDT r n).1.map (fun t => (t.y, t.m, t.d))
  | .error _ => []

-- a DailyArgs instance: every 3rd day, Fridays the 13th … (hypotheses of iter_eq_spec_daily_partial are satisfiable)
example : DailyArgs { freq := 3, dtstart := dt 2024 2 28 9 30, interval := 3, bymonth := some [2, 3],
                      byweekday := some [(4, 0), (5, 0)], byhour := some [8, 20], count := some 4 } :=
  ⟨⟨Or.inr rfl, by decide, by decide, rfl, rfl, by intro x hx; simp at hx⟩, rfl⟩
-- a WeeklyArgs instance: every 2nd week on Tuesday and Thursday, weeks starting on Sunday
example : WeeklyArgs { freq := 2, dtstart := dt 2024 2 28 9 30, interval := 2, wkst := some 6,
                       byweekday := some [(1, 0), (3, 0)], count := some 5 } :=
  ⟨⟨Or.inl rfl, by decide, by decide, rfl, rfl, by intro x hx; simp at hx⟩, rfl, Or.inl rfl, by decide,
   by intro u hu; simp at hu⟩
-- … and with BYSETPOS when the start (Mon 2024-02-26) is the week start: the last of TU/TH of every week
example : WeeklyArgs { freq := 2, dtstart := dt 2024 2 26 9 30, byweekday := some [(1, 0), (3, 0)], bysetpos := some [-1] } :=
  ⟨⟨Or.inl rfl, by decide, by decide, rfl, rfl, by intro x hx; simp at hx⟩, rfl, Or.inr (by decide), by decide,
   by intro u hu; simp at hu⟩
-- a YMArgs instance: the 31st of every 2nd month from 2024-01-31 (months without a 31st are skipped, never coerced)
example : YMArgs { freq := 1, dtstart := dt 2024 1 31 8, interval := 2, count := some 3 } :=
  ⟨Or.inr rfl, by decide, by decide, rfl, rfl, by intro x hx; simp at hx, by intro w hw; simp at hw⟩
-- … and with BYSETPOS: the last weekday (MO..FR) of every month
example : YMArgs { freq := 1, dtstart := dt 2024 1 1 9, byweekday := some [(0, 0), (1, 0), (2, 0), (3, 0), (4, 0)],
                   bysetpos := some [-1] } :=
  ⟨Or.inr rfl, by decide, by decide, rfl, rfl, by intro x hx; simp at hx, by decide⟩
example : dates (construct { freq := 1, dtstart := dt 2024 1 1 9, byweekday := some [(0, 0), (1, 0), (2, 0), (3, 0), (4, 0)],
                             bysetpos := some [-1] }) 3 = [(2024, 1, 31), (2024, 2, 29), (2024, 3, 29)] := by decide +kernel
example : (construct { freq := 3, dtstart := dt 2024 2 28 9 30, byhour := some [20, 8], byminute := some [0] }).map (·.timeset)
    = .ok (some [(8, 0, 0), (20, 0, 0)]) := by decide +kernel
example : dates (construct { freq := 1, dtstart := dt 2024 1 31 8, interval := 2, count := some 3 }) 6
    = [(2024, 1, 31), (2024, 3, 31), (2024, 5, 31)] := by decide +kernel
example : dates (construct { freq := 3, dtstart := dt 2024 2 28 9 30, interval := 1, bymonthday := some [-1], count := some 3 }) 70
    = [(2024, 2, 29), (2024, 3, 31), (2024, 4, 30)] := by decide +kernel

-- an NthMArgs instance: the last Friday of every month
example : NthMArgs { freq := 1, dtstart := dt 2024 1 1 18, byweekday := some [(4, -1)] } :=
  ⟨rfl, by decide, by decide, rfl, rfl, by intro x hx; simp at hx, ⟨[(4, -1)], rfl, by decide, by decide⟩⟩
-- … with BYMONTHDAY: a Friday the 13th that is also the 2nd Friday of its month
example : NthMArgs { freq := 1, dtstart := dt 2024 1 1 18, byweekday := some [(4, 2)], bymonthday := some [13] } :=
  ⟨rfl, by decide, by decide, rfl, rfl, by decide, ⟨[(4, 2)], rfl, by decide, by decide⟩⟩
example : dates (construct { freq := 1, dtstart := dt 2024 1 1 18, byweekday := some [(4, -1)] }) 3
    = [(2024, 1, 26), (2024, 2, 23), (2024, 3, 29)] := by decide +kernel

-- an NthYArgs instance: the 20th Monday of every year (RFC 5545 example)
example : NthYArgs { freq := 0, dtstart := dt 1997 5 19 9, byweekday := some [(0, 20)] } :=
  ⟨rfl, by decide, by decide, rfl, rfl, by intro x hx; simp at hx, rfl, ⟨[(0, 20)], rfl, by decide, by decide⟩⟩
example : dates (construct { freq := 0, dtstart := dt 1997 5 19 9, byweekday := some [(0, 20)] }) 3
    = [(1997, 5, 19), (1998, 5, 18), (1999, 5, 17)] := by decide +kernel

-- an NthYMArgs instance: the 4th Thursday of November (US Thanksgiving)
example : NthYMArgs { freq := 0, dtstart := dt 2024 1 1 12, bymonth := some [11], byweekday := some [(3, 4)] } :=
  ⟨rfl, by decide, by decide, rfl, rfl, by intro x hx; simp at hx, ⟨[11], rfl, by decide, by decide⟩,
   ⟨[(3, 4)], rfl, by decide, by decide⟩⟩
example : dates (construct { freq := 0, dtstart := dt 2024 1 1 12, bymonth := some [11], byweekday := some [(3, 4)] }) 3
    = [(2024, 11, 28), (2025, 11, 27), (2026, 11, 26)] := by decide +kernel

-- an EasterYArgs instance: Easter Monday and Ascension Day every year
example : EasterYArgs { freq := 0, dtstart := dt 2024 1 1 10, byeaster := some [1, 39] } :=
  ⟨rfl, by decide, by decide, rfl, by intro x hx; simp at hx, by intro w hw; simp at hw,
   ⟨[1, 39], rfl, by decide, by decide⟩⟩
-- … and mixed with plain BYDAY / BYMONTHDAY: Easter Sundays falling on the 31st of March
example : EasterYArgs { freq := 0, dtstart := dt 2024 1 1 10, byeaster := some [0], byweekday := some [(6, 0)],
                        bymonthday := some [31] } :=
  ⟨rfl, by decide, by decide, rfl, by decide, by decide, ⟨[0], rfl, by decide, by decide⟩⟩
example : dates (construct { freq := 0, dtstart := dt 2024 1 1 10, byeaster := some [1, 39] }) 2
    = [(2024, 4, 1), (2024, 5, 9), (2025, 4, 21), (2025, 5, 29)] := by decide +kernel

-- a WeeknoYArgs instance (RFC 5545: "Monday of week number 20"), and one with the last week and week 53 / −1
example : WeeknoYArgs { freq := 0, dtstart := dt 1997 5 12 9, byweekno := some [20], byweekday := some [(0, 0)] } :=
  ⟨rfl, by decide, by decide, by decide, by intro x hx; simp at hx, rfl, by decide,
   ⟨[20], rfl, by decide, ⟨by decide, by decide⟩⟩⟩
example : dates (construct { freq := 0, dtstart := dt 1997 5 12 9, byweekno := some [20], byweekday := some [(0, 0)] }) 3
    = [(1997, 5, 12), (1998, 5, 11), (1999, 5, 17)] := by decide +kernel
example : WeeknoYArgs { freq := 0, dtstart := dt 2020 1 1, wkst := some 6, byweekno := some [53, -1, 1],
                        bymonthday := some [1, -1] } :=
  ⟨rfl, by decide, by decide, by decide, by decide, rfl, by intro w hw; simp at hw,
   ⟨[53, -1, 1], rfl, by decide, ⟨by decide, by decide⟩⟩⟩

-- an HourlyArgs instance: every 5 hours on Mondays at :00 and :30 — one turn per removed day (Tue..Sun)
example : HourlyArgs { freq := 4, dtstart := dt 2024 1 1 7, interval := 5, byweekday := some [(0, 0)],
                       byminute := some [0, 30] } :=
  ⟨rfl, by decide, by decide, Or.inl rfl, rfl, by intro x hx; simp at hx, rfl, by decide, by intro x hx; simp at hx⟩
example : ((match construct { freq := 4, dtstart := dt 2024 1 1 7, interval := 5, byweekday := some [(0, 0)],
                               byminute := some [0, 30] } with
            | .ok r => (iterDT r 12).1 | .error _ => []).map (fun (t : DT) => (t.d, t.hh, t.mm))) =
    [(1, 7, 0), (1, 7, 30), (1, 12, 0), (1, 12, 30), (1, 17, 0), (1, 17, 30), (1, 22, 0), (1, 22, 30),
     (8, 4, 0), (8, 4, 30), (8, 9, 0), (8, 9, 30)] := by decide +kernel   -- 12 turns reach period 34 of the grid (170 h after the start)

-- a MinutelyArgs and a SecondlyArgs instance: every 90 minutes in March; every 45 s on the 1st of the month
example : MinutelyArgs { freq := 5, dtstart := dt 2024 2 28 23 30, interval := 90, bymonth := some [3] } :=
  ⟨rfl, by decide, by decide, Or.inl rfl, rfl, by intro x hx; simp at hx, rfl, rfl, by intro x hx; simp at hx⟩
example : SecondlyArgs { freq := 6, dtstart := dt 2024 2 29 23 59 30, interval := 45, bymonthday := some [1] } :=
  ⟨rfl, by decide, by decide, Or.inl rfl, rfl, by decide, rfl, rfl, rfl⟩

-- an HourlyByArgs instance: every 7 hours, only at 9:00 and 17:00 (interval coprime to 24: every hour is reachable)
example : HourlyByArgs { freq := 4, dtstart := dt 2024 1 1 9, interval := 7, byhour := some [9, 17] } :=
  ⟨rfl, by decide, by decide, Or.inl rfl, rfl, by intro x hx; simp at hx, ⟨[9, 17], rfl, by decide⟩,
   by intro x hx; simp at hx, by intro x hx; simp at hx⟩
example : ((match construct { freq := 4, dtstart := dt 2024 1 1 9, interval := 7, byhour := some [9, 17] } with
            | .ok r => (iterDT r 4).1 | .error _ => []).map (fun (t : DT) => (t.d, t.hh))) =
    [(1, 9), (3, 17), (8, 9), (10, 17)] := by decide +kernel
-- a MinutelyByArgs instance: every 25 minutes, only at :00 and :30 (gcd(25, 60) = 5: both are reachable from :00)
example : MinutelyByArgs { freq := 5, dtstart := dt 2024 1 1 9, interval := 25, byminute := some [0, 30] } :=
  ⟨rfl, by decide, by decide, Or.inl rfl, rfl, by intro x hx; simp at hx, rfl, ⟨[0, 30], rfl, by decide⟩,
   by intro x hx; simp at hx⟩
-- a MinutelyBHMArgs instance: every 25 minutes, only at 9h / 17h and :00 / :30 (the start itself is listed)
example : MinutelyBHMArgs { freq := 5, dtstart := dt 2024 1 1 9, interval := 25, byhour := some [9, 17], byminute := some [0, 30] } :=
  ⟨rfl, by decide, by decide, Or.inl rfl, rfl, by intro x hx; simp at hx, Or.inr ⟨[9, 17], rfl, by decide⟩, ⟨[0, 30], rfl⟩,
   by intro x hx; simp at hx, List.any_eq_true.mpr ⟨0, List.mem_range.mpr (by omega), by decide⟩⟩
-- a SecondlyBHMArgs instance: every 45 s, only in minutes :00 and :30 (the start itself is listed: witness j = 0)
example : SecondlyBHMArgs { freq := 6, dtstart := dt 2024 1 1 9, interval := 45, byminute := some [0, 30] } :=
  ⟨rfl, by decide, by decide, Or.inl rfl, rfl, by intro x hx; simp at hx, Or.inl rfl, Or.inr ⟨[0, 30], rfl, by decide⟩, rfl,
   List.any_eq_true.mpr ⟨0, List.mem_range.mpr (by omega), by decide⟩⟩
example : ((match construct { freq := 6, dtstart := dt 2024 1 1 9, interval := 45, byminute := some [0, 30] } with
            | .ok r => (iterDT r 4).1 | .error _ => []).map (fun (t : DT) => (t.hh, t.mm, t.ss))) =
    [(9, 0, 0), (9, 0, 45), (9, 30, 0), (9, 30, 45)] := by decide +kernel
-- a SecondlyBSArgs instance: every 7 s, only at second 21 (first met after 3 steps)
example : SecondlyBSArgs { freq := 6, dtstart := dt 2024 1 1 9, interval := 7, bysecond := some [21] } :=
  ⟨rfl, by decide, by decide, Or.inl rfl, rfl, by intro x hx; simp at hx, Or.inl rfl, Or.inl rfl, ⟨[21], rfl⟩,
   List.any_eq_true.mpr ⟨3, List.mem_range.mpr (by omega), by decide⟩⟩
-- a WeeknoMArgs instance: the Mondays of weeks 10 and 20, scanned month by month
example : WeeknoMArgs { freq := 1, dtstart := dt 2024 1 1 9, byweekno := some [10, 20], byweekday := some [(0, 0)] } :=
  ⟨rfl, by decide, by decide, by decide, by intro x hx; simp at hx, rfl, by decide,
   ⟨[10, 20], rfl, by decide, ⟨by decide, by decide⟩⟩⟩
-- EasterMArgs / WeeklyEArgs instances
example : EasterMArgs { freq := 1, dtstart := dt 2024 1 1 9, byeaster := some [-2, 1] } :=
  ⟨rfl, by decide, by decide, rfl, by intro x hx; simp at hx, by intro w hw; simp at hw, ⟨[-2, 1], rfl, by decide, by decide⟩⟩
example : WeeklyEArgs { freq := 2, dtstart := dt 2024 12 30 9, byeaster := some [-74, -46, 1, 250] } :=
  ⟨rfl, by decide, by decide, rfl, by intro x hx; simp at hx, ⟨[-74, -46, 1, 250], rfl, by decide, by decide⟩,
   Or.inl rfl, by decide, by intro u hu; simp at hu⟩
-- a DailyEArgs instance: Good Friday and Easter Monday, scanned day by day; and the classifier on sub-daily BYEASTER rules
example : DailyEArgs { freq := 3, dtstart := dt 2024 1 1 10, byeaster := some [-2, 1] } :=
  ⟨rfl, by decide, by decide, rfl, by intro x hx; simp at hx, ⟨[-2, 1], rfl, by decide, by decide⟩⟩
example : dates (construct { freq := 3, dtstart := dt 2024 1 1 10, byeaster := some [-2, 1] }) 500
    = [(2024, 3, 29), (2024, 4, 1), (2025, 4, 18), (2025, 4, 21)] := by decide +kernel
example : family { freq := 3, dtstart := dt 2024 1 1 10, byeaster := some [-2, 1] } = some .dailyE := by decide +kernel
example : family { freq := 4, dtstart := dt 2024 1 1 10, interval := 6, byeaster := some [0], byminute := some [0, 30] }
    = some .hourlyE := by decide +kernel
example : Family.isEasterSub .hourlyE = true := rfl
-- a WeeklyWArgs instance: weeks 1, 52 and the last week, from a week that straddles New Year (Mon 2024-12-30)
example : WeeklyWArgs { freq := 2, dtstart := dt 2024 12 30 9, byweekno := some [1, 52, -1] } :=
  ⟨rfl, by decide, by decide, rfl, by intro x hx; simp at hx, ⟨[1, 52, -1], rfl, by decide, ⟨by decide, by decide⟩⟩,
   Or.inl rfl, by decide, by intro u hu; simp at hu⟩
-- a DailyWArgs instance: every day of ISO week 1 and of the last week of the year
example : DailyWArgs { freq := 3, dtstart := dt 2024 12 1 9, byweekno := some [1, -1] } :=
  ⟨rfl, by decide, by decide, Or.inr ⟨[1, -1], rfl, by decide, ⟨by decide, by decide⟩, by decide, by decide⟩, rfl,
   by intro x hx; simp at hx⟩
example : dates (construct { freq := 3, dtstart := dt 2024 12 1 9, byweekno := some [1, -1] }) 40
    = [(2024, 12, 23), (2024, 12, 24), (2024, 12, 25), (2024, 12, 26), (2024, 12, 27), (2024, 12, 28), (2024, 12, 29),
       (2024, 12, 30), (2024, 12, 31), (2025, 1, 1), (2025, 1, 2), (2025, 1, 3), (2025, 1, 4), (2025, 1, 5)] := by
  decide +kernel
-- the classifier on three argument sets: a supported one, one inside D-C01a, one with BYHOUR under MINUTELY
example : family { freq := 0, dtstart := dt 1997 5 12 9, byweekno := some [20], byweekday := some [(0, 0)] }
    = some .yearlyWeekno := by decide +kernel
example : family { freq := 1, dtstart := dt 2020 1 1 9, byweekday := some [(0, 0), (1, 1)] } = none := by decide +kernel
example : family { freq := 5, dtstart := dt 2020 1 1 9, byhour := some [9] } = some .minutelyByhour := by decide +kernel
-- former D-C01g (withdrawn, allowed by the property): MINUTELY every 120 minutes from 00:00 never meets hour 1: not supported, and the model raises ValueError
example : family { freq := 5, interval := 120, dtstart := dt 2024 1 1, byhour := some [1] } = none := by decide +kernel
example : (match construct { freq := 5, interval := 120, dtstart := dt 2024 1 1, byhour := some [1] } with
           | .ok r => (iter r 1).2 | .error e => .error e) = .error .ValueError := by decide +kernel
example : Spec.RRule.occ { freq := 5, interval := 120, dtstart := dt 2024 1 1, byhour := some [1] } 30 = [] := by
  decide +kernel

-- D-C01a: MONTHLY with plain MO and nth TU(1): nothing in a whole year although the set has every Monday
example : dates (construct { freq := 1, dtstart := dt 2020 1 1 9, byweekday := some [(0, 0), (1, 1)] }) 12 = [] := by
  decide +kernel
example : (Spec.RRule.occ { freq := 1, dtstart := dt 2020 1 1 9, byweekday := some [(0, 0), (1, 1)] } 1).length = 5 := by
  decide +kernel

-- D-C01c: YEARLY, wkst=TU, BYWEEKNO=52, BYDAY=SU from 2033-12-01: the model (as the code) skips 2034-01-01
example : dates (construct { freq := 0, dtstart := dt 2033 12 1, wkst := some 1, byweekno := some [52],
                             byweekday := some [(6, 0)] }) 2 = [(2034, 12, 31)] := by decide +kernel
example : (Spec.RRule.occ { freq := 0, dtstart := dt 2033 12 1, wkst := some 1, byweekno := some [52],
                            byweekday := some [(6, 0)] } 2).map (fun t => t.toDT.m) = [1, 12] := by decide +kernel

-- D-C01d: BYEASTER=-100 wraps around the mask: 2032-12-26 is yielded (a wrong instant); 300 → IndexError
example : (dates (construct { freq := 0, dtstart := dt 2032 1 1, byeaster := some [-100] }) 1) = [(2032, 12, 26)] := by
  decide +kernel
example : (match construct { freq := 0, dtstart := dt 2032 1 1, byeaster := some [300] } with
           | .ok r => (iter r 1).2 | .error e => .error e) = .error .IndexError := by decide +kernel

-- D-C01e: WEEKLY + BYSETPOS=1 from Wed 2020-01-01 with BYDAY=MO,FR: Fri 2020-01-03 is yielded; the
-- first candidate of that week is Mon 2019-12-30 (before the start), so the set starts at 2020-01-06
example : dates (construct { freq := 2, dtstart := dt 2020 1 1, byweekday := some [(0, 0), (4, 0)],
                             bysetpos := some [1] }) 2 = [(2020, 1, 3), (2020, 1, 6)] := by decide +kernel
example : (Spec.RRule.occ { freq := 2, dtstart := dt 2020 1 1, byweekday := some [(0, 0), (4, 0)],
                            bysetpos := some [1] } 2).map (fun t => t.toDT.d) = [6] := by decide +kernel

-- former D-C01f (fixed in /repo): BYWEEKNO with a start in year 1 (wkst=WE) does not raise
example : dates (construct { freq := 0, dtstart := dt 1 12 31, wkst := some 2, byweekno := some [26], count := some 1 }) 2
    = [(2, 6, 26)] := by decide +kernel

end C01
