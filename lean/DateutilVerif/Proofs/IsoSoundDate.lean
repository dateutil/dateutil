/- Proofs/IsoSoundDate.lean — inversion of the date scanners: every accepting path of `_parse_isodate_common` and
   `_parse_isodate_uncommon`, stage by stage, reconstructs a date form and its fields. -/
import DateutilVerif.Proofs.IsoErrors
namespace Iso
open Cal IsoSpec Py

theorem dash_split (r : Bytes) :
    r = dash (r.take 1 == [cDash]) ++ (if (r.take 1 == [cDash]) = true then r.drop 1 else r) := by
  cases h : r.take 1 == [cDash]
  · rfl
  · exact take1_eq_cons (beq_iff_eq.mp h)

theorem commonDay_inv (ext : Bool) (y m : Int) (r : Bytes) (ymd : Int × Int × Int) (rest : Bytes)
    (h : commonDay ext y m r = .ok (ymd, rest)) :
    ∃ b : Nat, b < 100 ∧ r = dash ext ++ (pad2 b ++ rest) ∧ ymd = (y, m, (b : Int)) := by
  unfold commonDay at h
  by_cases hd : (ext && r.take 1 != [cDash]) = true
  · rw [if_pos hd] at h; cases h
  rw [if_neg hd] at h
  have er : r = dash ext ++ (if ext = true then r.drop 1 else r) := by
    cases ext
    · rfl
    · exact take1_eq_cons (c := cDash) (by simpa using hd)
  generalize (if ext = true then r.drop 1 else r) = r1 at h er
  by_cases hl : r1.length < 2
  · rw [if_pos hl] at h; cases h
  rw [if_neg hl] at h
  cases hdd : parseDigits (r1.take 2) 2 with
  | error e => rw [hdd] at h; cases h
  | ok dv =>
    obtain ⟨b, hb, rfl, e3⟩ := take_digits2 r1 dv hdd
    rw [hdd] at h
    cases h
    exact ⟨b, hb, by rw [er, ← e3], rfl⟩

theorem commonMonth_inv (ext : Bool) (y : Int) (r : Bytes) (ymd : Int × Int × Int) (rest : Bytes)
    (h : commonMonth ext y r = .ok (ymd, rest)) :
    ∃ a : Nat, a < 100 ∧
      ((ext = true ∧ r = pad2 a ∧ rest = [] ∧ ymd = (y, (a : Int), 1)) ∨
       ∃ b : Nat, b < 100 ∧ r = pad2 a ++ (dash ext ++ (pad2 b ++ rest)) ∧ ymd = (y, (a : Int), (b : Int))) := by
  unfold commonMonth at h
  by_cases hl : r.length < 2
  · rw [if_pos hl] at h; cases h
  rw [if_neg hl] at h
  cases hm : parseDigits (r.take 2) 2 with
  | error e => rw [hm] at h; cases h
  | ok mv =>
    obtain ⟨a, ha, rfl, e1⟩ := take_digits2 r mv hm
    rw [hm] at h
    simp only [bind, Except.bind] at h
    refine ⟨a, ha, ?_⟩
    by_cases hr0 : r.drop 2 = []
    · rw [if_pos hr0] at h
      cases ext
      · cases h
      · cases h
        exact Or.inl ⟨rfl, by rw [e1, hr0, List.append_nil], hr0, rfl⟩
    · rw [if_neg hr0] at h
      obtain ⟨b, hb, e2, rfl⟩ := commonDay_inv _ _ _ _ _ _ h
      exact Or.inr ⟨b, hb, by rw [e1, e2], rfl⟩

theorem common_inv (s : Bytes) (ymd : Int × Int × Int) (rest : Bytes)
    (h : parseIsodateCommon s = .ok (ymd, rest)) :
    ∃ (df : DateForm) (y a b : Nat), y < 10000 ∧ a < 100 ∧ b < 100 ∧
      s = renderDate df { year := y, a := a, b := b } ++ rest ∧
      ((df = .year ∧ rest = [] ∧ ymd = ((y : Int), 1, 1)) ∨
       (df = .yearMonth ∧ rest = [] ∧ ymd = ((y : Int), (a : Int), 1)) ∨
       ((df = .calExt ∨ df = .calBas) ∧ ymd = ((y : Int), (a : Int), (b : Int)))) := by
  rw [parseIsodateCommon_stages] at h
  by_cases h1 : s.length < 4
  · rw [if_pos h1] at h; cases h
  rw [if_neg h1] at h
  cases hy : parseDigits (s.take 4) 4 with
  | error e => rw [hy] at h; cases h
  | ok yv =>
    obtain ⟨y, hy4, rfl, es⟩ := take_digits4 s yv hy
    rw [hy] at h
    simp only [bind, Except.bind] at h
    by_cases hr0 : s.drop 4 = []
    · rw [if_pos hr0] at h
      cases h
      exact ⟨.year, y, 1, 1, hy4, by omega, by omega, es, Or.inl ⟨rfl, hr0, rfl⟩⟩
    · rw [if_neg hr0] at h
      have er := dash_split (s.drop 4)
      generalize ((s.drop 4).take 1 == [cDash]) = ext at h er
      generalize (if ext = true then (s.drop 4).drop 1 else s.drop 4) = r1 at h er
      obtain ⟨a, ha, ⟨rfl, rfl, rfl, rfl⟩ | ⟨b, hb, rfl, rfl⟩⟩ := commonMonth_inv _ _ _ _ _ h
      · exact ⟨.yearMonth, y, a, 1, hy4, ha, by omega, by rw [es, er]; simp [renderDate, dash],
          Or.inr (Or.inl ⟨rfl, rfl, rfl⟩)⟩
      · refine ⟨calForm ext, y, a, b, hy4, ha, hb, ?_, Or.inr (Or.inr ⟨by cases ext <;> simp [calForm], rfl⟩)⟩
        rw [renderDate_calForm, es, er]; simp

/-- what a date scanner establishes for a week / ordinal form -/
def UncommonOK (df : DateForm) (x : Fields) (ymd : Int × Int × Int) (rest : Bytes) : Prop :=
  dateWF true df x = true ∧ 1 ≤ dateOrdinal df x ∧ dateOrdinal df x ≤ maxOrdinal ∧
  ymd = fromOrdinal (dateOrdinal df x) ∧ (df.complete = false → rest = [])

theorem weekD_ok (ext : Bool) (y a b : Nat) (r : Int × Int × Int) (rest : Bytes)
    (h : calculateWeekdate y a b = .ok r) : UncommonOK (weekDForm ext) { year := y, a := a, b := b } r rest := by
  rw [calculateWeekdate_char] at h
  split at h
  · rename_i hc
    cases h
    have hp := w1_pos y hc.1
    have wk := isoWeeksInYear_cases y
    refine ⟨?_, ?_, ?_, by rw [dateOrdinal_weekDForm], fun hn => by cases ext <;> cases hn⟩
    · rw [dateWF_weekDForm]; simp; omega
    · rw [dateOrdinal_weekDForm]; dsimp only; omega
    · rw [dateOrdinal_weekDForm]; exact hc.2.2.2.2.2.2
  · cases h

theorem week_ok (ext : Bool) (y a : Nat) (r : Int × Int × Int) (h : calculateWeekdate y a 1 = .ok r) :
    UncommonOK (weekForm ext) { year := y, a := a } r [] := by
  rw [calculateWeekdate_char] at h
  split at h
  · rename_i hc
    cases h
    have hp := w1_pos y hc.1
    have wk := isoWeeksInYear_cases y
    refine ⟨?_, ?_, ?_, by rw [dateOrdinal_weekForm]; dsimp only; congr 1; omega, fun _ => rfl⟩
    · rw [dateWF_weekForm]; simp; omega
    · rw [dateOrdinal_weekForm]; dsimp only; omega
    · rw [dateOrdinal_weekForm]; dsimp only; omega
  · cases h

theorem uncommonWeekDay_inv (ext : Bool) (y a : Nat) (r : Bytes) (ymd : Int × Int × Int) (rest : Bytes)
    (h : uncommonWeekDay ext y a r = .ok (ymd, rest)) :
    ∃ df x, pad4 y ++ (dash ext ++ (87 :: (pad2 a ++ r))) = renderDate df x ++ rest ∧ UncommonOK df x ymd rest := by
  unfold uncommonWeekDay at h
  by_cases hr : r = []
  · subst hr
    rw [if_neg (fun hn => hn rfl)] at h
    cases hc : calculateWeekdate y a 1 with
    | error e => rw [hc] at h; cases h
    | ok base =>
      rw [hc] at h
      cases h
      exact ⟨weekForm ext, { year := y, a := a }, by rw [renderDate_weekForm]; simp, week_ok ext y a _ hc⟩
  · rw [if_pos hr] at h
    by_cases hdash : ((r.take 1 == [cDash]) != ext) = true
    · rw [if_pos hdash] at h; cases h
    rw [if_neg hdash] at h
    have er := dash_split r
    rw [show (r.take 1 == [cDash]) = ext by simpa using hdash] at er
    generalize (if ext = true then r.drop 1 else r) = r4 at h er
    dsimp only at h
    cases hdn : parseDigits (r4.take 1) 1 with
    | error e => rw [hdn] at h; cases h
    | ok dv =>
      obtain ⟨b, hb, rfl, e4⟩ := take_digits1 r4 dv hdn
      rw [hdn] at h
      generalize r4.drop 1 = r5 at h e4
      simp only [bind, Except.bind] at h
      cases hc : calculateWeekdate y a b with
      | error e => rw [hc] at h; cases h
      | ok base =>
        rw [hc] at h
        cases h
        refine ⟨weekDForm ext, { year := y, a := a, b := b }, ?_, weekD_ok ext y a b _ _ hc⟩
        rw [renderDate_weekDForm, er, e4]; simp

theorem uncommonWeek_inv (ext : Bool) (y : Nat) (r : Bytes) (ymd : Int × Int × Int) (rest : Bytes)
    (h : uncommonWeek ext y r = .ok (ymd, rest)) :
    ∃ df x, pad4 y ++ (dash ext ++ (87 :: r)) = renderDate df x ++ rest ∧ UncommonOK df x ymd rest := by
  unfold uncommonWeek at h
  cases hwk : parseDigits (r.take 2) 2 with
  | error e => rw [hwk] at h; cases h
  | ok wv =>
    obtain ⟨a, ha, rfl, e2⟩ := take_digits2 r wv hwk
    rw [hwk] at h
    rw [e2]
    exact uncommonWeekDay_inv ext y a _ ymd rest h

theorem uncommonOrdinal_inv (ext : Bool) (y : Nat) (r : Bytes) (ymd : Int × Int × Int) (rest : Bytes)
    (h : uncommonOrdinal y r = .ok (ymd, rest)) :
    ∃ df x, pad4 y ++ (dash ext ++ r) = renderDate df x ++ rest ∧ UncommonOK df x ymd rest := by
  unfold uncommonOrdinal at h
  by_cases hl : r.length < 3
  · rw [if_pos hl] at h; cases h
  rw [if_neg hl] at h
  cases hod : parseDigits (r.take 3) 3 with
  | error e => rw [hod] at h; cases h
  | ok ov =>
    obtain ⟨a, ha, rfl, e2⟩ := take_digits3 r ov hod
    rw [hod] at h
    have h : ordinalResult y a (r.drop 3) = .ok (ymd, rest) := h
    generalize r.drop 3 = r3 at h e2
    rw [ordinalResult_char] at h
    split at h
    · rename_i hc
      cases h
      have hp := toOrdinal_pos y 1 1 hc.1 (by simp [ValidYMD, daysInMonth])
      refine ⟨ordForm ext, { year := y, a := a }, by rw [renderDate_ordForm, e2]; simp, ?_, ?_, ?_,
        by rw [dateOrdinal_ordForm], fun hn => by cases ext <;> cases hn⟩
      · rw [dateWF_ordForm, decide_eq_true_eq]; dsimp only; omega
      · rw [dateOrdinal_ordForm]; dsimp only; omega
      · rw [dateOrdinal_ordForm]; exact yearDay_le_max _ _ hc.2.1 hc.2.2.2
    · cases h

theorem uncommon_inv (s : Bytes) (ymd : Int × Int × Int) (rest : Bytes)
    (h : parseIsodateUncommon s = .ok (ymd, rest)) :
    ∃ df x, s = renderDate df x ++ rest ∧ UncommonOK df x ymd rest := by
  rw [parseIsodateUncommon_stages] at h
  by_cases h1 : s.length < 4
  · rw [if_pos h1] at h; cases h
  rw [if_neg h1] at h
  cases hy : parseDigits (s.take 4) 4 with
  | error e => rw [hy] at h; cases h
  | ok yv =>
    obtain ⟨y, hy4, rfl, es⟩ := take_digits4 s yv hy
    rw [hy] at h
    have er := dash_split (s.drop 4)
    have h : (if ((if ((s.drop 4).take 1 == [cDash]) = true then (s.drop 4).drop 1 else s.drop 4).take 1 == [cW]) = true
        then uncommonWeek ((s.drop 4).take 1 == [cDash]) y
          ((if ((s.drop 4).take 1 == [cDash]) = true then (s.drop 4).drop 1 else s.drop 4).drop 1)
        else uncommonOrdinal y (if ((s.drop 4).take 1 == [cDash]) = true then (s.drop 4).drop 1 else s.drop 4)) =
        .ok (ymd, rest) := h
    generalize ((s.drop 4).take 1 == [cDash]) = ext at h er
    generalize (if ext = true then (s.drop 4).drop 1 else s.drop 4) = r1 at h er
    rw [es, er]
    by_cases hW : (r1.take 1 == [cW]) = true
    · rw [if_pos hW] at h
      rw [take1_eq_cons (r := r1) (beq_iff_eq.mp hW)]
      exact uncommonWeek_inv ext y _ ymd rest h
    · rw [if_neg hW] at h
      exact uncommonOrdinal_inv ext y _ ymd rest h

theorem toOrdinal_le_max (y m d : Int) (hv : ValidDate y m d) : toOrdinal y m d ≤ maxOrdinal := by
  have ⟨_, o2⟩ := ordinal_in_year y m d hv.2.2
  have hy := hv.2.1
  have := dby_mono (y + 1) 10000 (by omega)
  have e : daysBeforeYear 10000 = 3652059 := by decide
  unfold maxOrdinal; omega

/-- what `_parse_isodate` establishes before the date is constructed -/
def DateScan (df : DateForm) (x : Fields) (ymd : Int × Int × Int) (rest : Bytes) : Prop :=
  (df = .year ∧ rest = [] ∧ ymd = ((x.year : Int), 1, 1)) ∨
  (df = .yearMonth ∧ rest = [] ∧ ymd = ((x.year : Int), (x.a : Int), 1)) ∨
  ((df = .calExt ∨ df = .calBas) ∧ ymd = ((x.year : Int), (x.a : Int), (x.b : Int))) ∨
  UncommonOK df x ymd rest

theorem parseIsodate_inv (s : Bytes) (ymd : Int × Int × Int) (rest : Bytes)
    (h : parseIsodate s = .ok (ymd, rest)) :
    ∃ df x, s = renderDate df x ++ rest ∧ DateScan df x ymd rest := by
  unfold parseIsodate at h
  cases hc : parseIsodateCommon s with
  | ok v =>
    rw [hc] at h
    cases h
    obtain ⟨df, y, a, b, _, _, _, es, hcase⟩ := common_inv s ymd rest hc
    refine ⟨df, { year := y, a := a, b := b }, es, ?_⟩
    rcases hcase with h1 | h1 | h1
    · exact Or.inl h1
    · exact Or.inr (Or.inl h1)
    · exact Or.inr (Or.inr (Or.inl h1))
  | error e =>
    rw [hc] at h
    cases onlyVE_common s e hc
    obtain ⟨df, x, es, ok⟩ := uncommon_inv s ymd rest h
    exact ⟨df, x, es, Or.inr (Or.inr (Or.inr ok))⟩

/-- what `_parse_isodate` leaves unread is a suffix of its input -/
theorem parseIsodate_suffix (s : Bytes) (ymd : Int × Int × Int) (rest : Bytes)
    (h : parseIsodate s = .ok (ymd, rest)) : ∃ pre, s = pre ++ rest := by
  obtain ⟨df, x, es, _⟩ := parseIsodate_inv s ymd rest h
  exact ⟨_, es⟩

/-- once `date(y, m, d)` has been constructed the scan result is a well-formed date form -/
theorem dateScan_valid (df : DateForm) (x : Fields) (y m d : Int) (rest : Bytes)
    (hs : DateScan df x (y, m, d) rest) (hv : ValidDate y m d) : UncommonOK df x (y, m, d) rest := by
  have key : ∀ (hwf : dateWF true df x = true) (ho : dateOrdinal df x = toOrdinal y m d)
      (hr : df.complete = false → rest = []), UncommonOK df x (y, m, d) rest := fun hwf ho hr =>
    ⟨hwf, by rw [ho]; exact toOrdinal_pos _ _ _ hv.1 hv.2.2, by rw [ho]; exact toOrdinal_le_max _ _ _ hv,
      by rw [ho, fromOrdinal_toOrdinal _ _ _ hv.1 hv.2.2], hr⟩
  have ⟨v1, v2, v3, v4, _⟩ := hv
  rcases hs with ⟨rfl, hr, he⟩ | ⟨rfl, hr, he⟩ | ⟨hdf, he⟩ | h
  · cases he
    exact key (by simp only [dateWF, decide_eq_true_eq]; omega) rfl fun _ => hr
  · cases he
    exact key (by simp only [dateWF, decide_eq_true_eq]; omega) rfl fun _ => hr
  · cases he
    rcases hdf with rfl | rfl
    · exact key (by simp only [dateWF, decide_eq_true_eq]; exact hv) rfl (by simp [DateForm.complete])
    · exact key (by simp only [dateWF, decide_eq_true_eq]; exact hv) rfl (by simp [DateForm.complete])
  · exact h

/-- soundness of `parse_isodate`, the final `date(...)` included: what it accepts is the rendering of a date form with
    well-formed fields, and the value is the date the form denotes -/
theorem parseIsodateEntry_sound (s : Bytes) (y m d : Int) (h : parseIsodateEntry s = .ok (y, m, d)) :
    ∃ df x, s = renderDate df x ∧ dateWF true df x = true ∧ 1 ≤ dateOrdinal df x ∧
      dateOrdinal df x ≤ maxOrdinal ∧ (y, m, d) = fromOrdinal (dateOrdinal df x) := by
  unfold parseIsodateEntry at h
  cases hp : parseIsodate s with
  | error e => simp [hp, bind, Except.bind] at h
  | ok p =>
    obtain ⟨⟨y', m', d'⟩, rest⟩ := p
    simp only [hp, bind, Except.bind] at h
    by_cases hr : rest = []
    · rw [if_neg (fun hn => hn hr)] at h
      by_cases hv : validDate y' m' d' = true
      · rw [if_pos hv] at h
        cases h
        subst hr
        obtain ⟨df, x, es, hsc⟩ := parseIsodate_inv s _ _ hp
        have hv' : ValidDate y m d := by simpa [validDate] using hv
        obtain ⟨h1, h2, h3, h4, _⟩ := dateScan_valid df x y m d [] hsc hv'
        exact ⟨df, x, by simpa using es, h1, h2, h3, h4⟩
      · rw [if_neg hv] at h; cases h
    · rw [if_pos hr] at h; cases h
end Iso
