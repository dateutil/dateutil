/-
  Proofs/ScanPy.lean — the loops of the query methods as translated from rrule.py (Generated/RRBaseQueries.lean,
  meaning: Model/ScanPy.lean) run exactly like the loops of Model/Queries.lean (C12 `gen_*_eq_model`).

  Each loop is a statement list of a fixed shape in which only the comparison operators depend on `inc`; the `*_loop`
  lemmas are about that shape, for any method record and any operators that mean what the loop of Model/Queries.lean
  tests: induction over the values the iterator yields with the loop-carried locals generalised, the interpreter unfolded
  once per step and the tests left as Booleans.  `contains_aux` and Properties/C12.lean put in the translated methods.
-/
import DateutilVerif.Generated.RRBaseQueries

namespace ScanPy
open Queries

variable (m : Method) (xs : List Int) (s : St)

theorem before_loop (c : Cmp) (dt : Int) (inc : Bool)
    (hc : ∀ i, evalCmp c i dt = if inc then decide (i > dt) else decide (i ≥ dt)) :
    runLoop m { dt := dt, inc := inc } [.ifElse (.cmp c .dt) [.brk] [], .setLast] xs s =
      (none, { s with last := beforeLoop dt inc xs s.last }) := by
  induction xs generalizing s with
  | nil => rfl
  | cons i xs ih =>
    simp only [runLoop, runL, runS, evalCond, Env.par, beforeLoop, hc] at ih ⊢
    generalize (if inc = true then decide (i > dt) else decide (i ≥ dt)) = p
    cases p <;> simp [ih]

theorem after_loop (c : Cmp) (dt : Int) (inc : Bool)
    (hc : ∀ i, evalCmp c i dt = if inc then decide (i ≥ dt) else decide (i > dt)) :
    runLoop m { dt := dt, inc := inc } [.ifElse (.cmp c .dt) [.retVar] []] xs s =
      ((afterLoop dt inc xs).map (fun v => Res.val (some v)), s) := by
  induction xs generalizing s with
  | nil => rfl
  | cons i xs ih =>
    simp only [runLoop, runL, runS, evalCond, Env.par, afterLoop, hc] at ih ⊢
    generalize (if inc = true then decide (i ≥ dt) else decide (i > dt)) = p
    cases p <;> simp [ih]

theorem between_loop (c1 c2 : Cmp) (a b : Int) (inc : Bool)
    (h1 : ∀ i, evalCmp c1 i b = if inc then decide (i > b) else decide (i ≥ b))
    (h2 : ∀ i, evalCmp c2 i a = if inc then decide (i ≥ a) else decide (i > a)) :
    let body := [Stmt.ifElse (.cmp c1 .before) [.brk]
      [.ifElse .notStarted [.ifElse (.cmp c2 .after) [.setStarted, .appendVar] []] [.appendVar]]]
    (runLoop m { after := a, before := b, inc := inc } body xs s).1 = none ∧
    (runLoop m { after := a, before := b, inc := inc } body xs s).2.acc =
      s.acc ++ betweenLoop a b inc xs s.started := by
  intro body
  induction xs generalizing s with
  | nil => simp [runLoop, betweenLoop]
  | cons i xs ih =>
    simp only [body, runLoop, runL, runS, evalCond, Env.par, betweenLoop, h1, h2] at ih ⊢
    generalize (if inc = true then decide (i > b) else decide (i ≥ b)) = p1
    generalize (if inc = true then decide (i ≥ a) else decide (i > a)) = p2
    cases p1 <;> cases p2 <;> cases hst : s.started <;> simp [hst, ih]

/-- `xafter`: the comparison `comp` is the method's own (`compInc` / `compExc`) -/
theorem xafter_loop (dt : Int) (count : Option Int) (inc : Bool)
    (hc : ∀ i, evalCmp (if inc then m.compInc else m.compExc) i dt = if inc then decide (i ≥ dt) else decide (i > dt)) :
    let body := [Stmt.ifElse .comp [.ifElse .countNotNone [.incN, .ifElse .nGtCount [.brk] []] [], .yieldVar] []]
    (runLoop m { dt := dt, count := count, inc := inc } body xs s).1 = none ∧
    (runLoop m { dt := dt, count := count, inc := inc } body xs s).2.acc = s.acc ++ xafterLoop dt count inc xs s.n := by
  intro body
  induction xs generalizing s with
  | nil => simp [runLoop, xafterLoop]
  | cons i xs ih =>
    simp only [body, runLoop, runL, runS, evalCond, xafterLoop, hc] at ih ⊢
    generalize (if inc = true then decide (i ≥ dt) else decide (i > dt)) = p
    cases p <;> cases count <;> simp [ih]
    next c => by_cases h3 : c < s.n + 1 <;> simp [h3, ih]

/-- what a method that collects (`between`: the list `l`; `xafter`: the yielded values) returns after such a loop -/
theorem finish_acc {p : Option Res × St} {acc : List Int} (h1 : p.1 = none) (h2 : p.2.acc = acc)
    (hr : m.ret = .l ∨ m.ret = .generator) : finish m p = .list acc := by
  obtain ⟨r, s⟩ := p
  cases h1; cases h2
  rcases hr with hr | hr <;> simp only [finish, hr]

theorem contains_aux (item : Int) (xs : List Int) (s : St) :
    runLoop Gen.rrbase_contains { item := item } (bodyOf Gen.rrbase_contains { item := item }) xs s =
      (if containsLoop item xs then some (.bool true) else if xs.any (fun i => decide (i > item)) then some (.bool false) else none, s) := by
  simp only [bodyOf, Gen.rrbase_contains]
  induction xs generalizing s with
  | nil => simp [runLoop, containsLoop]
  | cons i xs ih =>
    by_cases h1 : i = item <;> by_cases h2 : item < i <;>
      simp [runLoop, runL, runS, evalCond, evalCmp, Env.par, containsLoop, h1, h2, ih] <;> (try omega)

end ScanPy
