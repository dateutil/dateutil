/-
  Proofs/ParserTotal.lean — exception flow of the parser model (for C14), and what a successful parse went through (for C15).
  `GoodR P r`: `r` either returns a value satisfying `P` or raises one of the three kinds the `_parse` boundary catches.
  In order: the leaves (`pyInt`, `toDecimal`, `tokAt`, `parsems`); `Ymd.WF` (label indices in range and apart — what keeps
  the assertions of `_resolve_from_stridxs` from firing) through `append` and `resolve_ymd`; `NumPost` through the arms of
  `_parse_numeric_token`; `Info.WF` (weekday words map into 0..6: the one thing `relativedelta(weekday=…)` needs of a
  parserinfo) and `StWF` through the loop; `_parse` never escapes its `except`; `ErrIn E r` (what `r` raises satisfies `E`)
  for `_build_naive` / `_build_tzaware` with `VEorOE`, `OnlyOE`, the section on `tz.tzstr` included; last,
  `parseResult_ok` / `parseResult_of`, a successful `parse` read backwards and forwards.
-/
import DateutilVerif.Model.Parser

namespace PM
open Py

/-- returns something satisfying `P`, or raises IndexError / ValueError / InvalidOperation -/
def GoodR {α} (P : α → Prop) (r : R α) : Prop :=
  match r with
  | .ok a => P a
  | .error e => caughtInParse e = true

theorem goodR_ok {α} {P : α → Prop} {a : α} (h : P a) : GoodR P (.ok a) := h
theorem goodR_pure {α} {P : α → Prop} {a : α} (h : P a) : GoodR P (pure a : R α) := h
theorem goodR_VE {α} {P : α → Prop} : GoodR P (.error .ValueError : R α) := rfl
theorem goodR_IE {α} {P : α → Prop} : GoodR P (.error .IndexError : R α) := rfl
theorem goodR_IO {α} {P : α → Prop} : GoodR P (.error .InvalidOperation : R α) := rfl
theorem goodR_throwVE {α} {P : α → Prop} : GoodR P (throw PyErr.ValueError : R α) := rfl

theorem goodR_bind {α β} {P : β → Prop} {Q : α → Prop} {x : R α} {f : α → R β}
    (hx : GoodR Q x) (hf : ∀ a, Q a → GoodR P (f a)) : GoodR P (x >>= f) := by
  cases x with
  | ok a => exact hf a hx
  | error e => exact hx

theorem goodR_ite {α} {P : α → Prop} {c : Prop} [Decidable c] {a b : R α}
    (ha : c → GoodR P a) (hb : ¬ c → GoodR P b) : GoodR P (if c then a else b) := by
  split
  · exact ha ‹_›
  · exact hb ‹_›

theorem goodR_mono {α} {P Q : α → Prop} {r : R α} (h : GoodR P r) (hpq : ∀ a, P a → Q a) : GoodR Q r := by
  cases r with
  | ok a => exact hpq a h
  | error e => exact h

theorem goodR_true {α} {P : α → Prop} {r : R α} (h : GoodR P r) : GoodR (fun _ => True) r :=
  goodR_mono h (fun _ _ => trivial)

theorem goodR_ok_iff {α} {P : α → Prop} {a : α} : GoodR P (.ok a) ↔ P a := Iff.rfl
theorem goodR_error_iff {α} {P : α → Prop} {e : PyErr} : GoodR P (.error e : R α) ↔ caughtInParse e = true := Iff.rfl
theorem goodR_error {α β} {P : α → Prop} {Q : β → Prop} {e : PyErr} (h : GoodR P (.error e : R α)) :
    GoodR Q (.error e : R β) := h
theorem goodR_map {α β} {f : α → β} {x : R α} (h : GoodR (fun _ => True) x) : GoodR (fun _ => True) (x.map f) := by
  cases x <;> exact h

theorem pyInt_good (cls : Char → CClass) (t : Token) : GoodR (fun _ => True) (pyInt cls t) := by
  unfold pyInt
  split
  · exact goodR_VE
  · split
    · exact goodR_VE
    · split
      · exact goodR_ok trivial
      · exact goodR_VE

theorem toDecimal_good (cls : Char → CClass) (t : Token) : GoodR (fun _ => True) (toDecimal cls t) := by
  unfold toDecimal; split
  · exact goodR_ok trivial
  · exact goodR_VE

theorem tokAt_good (l : List Token) (i : Nat) : GoodR (fun _ => i < l.length) (tokAt l i) := by
  unfold tokAt
  split
  · rename_i t h
    have := List.getElem?_eq_some_iff.mp h
    exact goodR_ok this.1
  · exact goodR_IE

theorem parsems_good (cls : Char → CClass) (v : Token) : GoodR (fun _ => True) (parsems cls v) := by
  unfold parsems
  split
  · exact goodR_bind (pyInt_good cls v) (fun _ _ => goodR_pure trivial)
  · split
    · split
      · exact goodR_VE
      · exact goodR_bind (pyInt_good cls _) (fun _ _ => goodR_bind (pyInt_good cls _) (fun _ _ => goodR_pure trivial))
    · exact goodR_VE

end PM

namespace PM
open Py

/- From here on `GoodR` is used through the lemmas above only: unfolded, it is a `match` on the program, and every
   `exact` would evaluate the program as far as it can to see which arm applies. -/
attribute [local irreducible] GoodR

/-- label indices point into `vals` and are pairwise distinct -/
structure Ymd.WF (y : Ymd) : Prop where
  d_lt : ∀ i, y.dIdx = some i → i < y.vals.length
  m_lt : ∀ i, y.mIdx = some i → i < y.vals.length
  y_lt : ∀ i, y.yIdx = some i → i < y.vals.length
  dm : ∀ i, y.dIdx = some i → y.mIdx ≠ some i
  dy : ∀ i, y.dIdx = some i → y.yIdx ≠ some i
  my : ∀ i, y.mIdx = some i → y.yIdx ≠ some i

theorem Ymd.WF_empty : ({} : Ymd).WF := by
  constructor <;> intro i h <;> simp at h

/-- appending a member keeps the labels in range and apart; a label that was free may take the new position -/
theorem Ymd.WF_push (s : Ymd) (h : s.WF) (n : Nat) (c : Bool) (d m y : Option Nat)
    (hd : d = s.dIdx ∨ (s.dIdx = none ∧ d = some s.vals.length ∧ m = s.mIdx ∧ y = s.yIdx))
    (hm : m = s.mIdx ∨ (s.mIdx = none ∧ m = some s.vals.length ∧ d = s.dIdx ∧ y = s.yIdx))
    (hy : y = s.yIdx ∨ (s.yIdx = none ∧ y = some s.vals.length ∧ d = s.dIdx ∧ m = s.mIdx)) :
    Ymd.WF ⟨s.vals ++ [n], c, d, m, y⟩ := by
  obtain ⟨h1, h2, h3, h4, h5, h6⟩ := h
  have hlen : (s.vals ++ [n]).length = s.vals.length + 1 := by simp
  constructor <;> intro i hi <;> dsimp only at hi ⊢ <;> grind

theorem appendCore_good (self : Ymd) (h : self.WF) (big : Bool) (v : R Nat)
    (hv : GoodR (fun _ => True) v) (label : Label) : GoodR Ymd.WF (self.appendCore big v label) := by
  unfold Ymd.appendCore
  refine goodR_ite (fun _ => goodR_VE) fun _ => ?_
  cases v with
  | error e => exact goodR_error hv
  | ok n =>
    have free : ∀ {o : Option Nat}, ¬ o.isSome = true → o = none := fun {o} ho => by cases o <;> simp_all
    dsimp only
    split
    · exact goodR_ite (fun _ => goodR_VE) fun hm => goodR_ok
        (self.WF_push h n _ _ _ _ (Or.inl rfl) (Or.inr ⟨free hm, rfl, rfl, rfl⟩) (Or.inl rfl))
    · exact goodR_ite (fun _ => goodR_VE) fun hd => goodR_ok
        (self.WF_push h n _ _ _ _ (Or.inr ⟨free hd, rfl, rfl, rfl⟩) (Or.inl rfl) (Or.inl rfl))
    · exact goodR_ite (fun _ => goodR_VE) fun hy => goodR_ok
        (self.WF_push h n _ _ _ _ (Or.inl rfl) (Or.inl rfl) (Or.inr ⟨free hy, rfl, rfl, rfl⟩))
    · exact goodR_ok (self.WF_push h n _ _ _ _ (Or.inl rfl) (Or.inl rfl) (Or.inl rfl))

theorem appendTok_good (cls : Char → CClass) (self : Ymd) (h : self.WF) (t : Token) (label : Label) :
    GoodR Ymd.WF (self.appendTok cls t label) :=
  appendCore_good self h _ _ (pyInt_good cls t) label

theorem appendDec_good (self : Ymd) (h : self.WF) (d : Dec) (label : Label) :
    GoodR Ymd.WF (self.appendDec d label) :=
  appendCore_good self h _ _ (goodR_ok trivial) label

theorem appendNat_good (self : Ymd) (h : self.WF) (n : Nat) (label : Label) :
    GoodR Ymd.WF (self.appendNat n label) :=
  appendCore_good self h _ _ (goodR_ok trivial) label

theorem getIdx_good {α} (l : List α) (i : Int) : GoodR (fun _ => True) (getIdx l i) := by
  unfold getIdx
  dsimp only
  repeat' split
  all_goals first | exact goodR_IE | exact goodR_ok trivial

theorem at_good (self : Ymd) (i : Int) : GoodR (fun _ => True) (self.at i) := getIdx_good _ _

theorem monthrange_good (y m : Int) : GoodR (fun _ => True) (monthrange y m) := by
  unfold monthrange; split
  · exact goodR_ok trivial
  · exact goodR_VE

theorem couldBeDay_good (self : Ymd) (v : Dec) : GoodR (fun _ => True) (self.couldBeDay v) := by
  unfold Ymd.couldBeDay
  split
  · exact goodR_ok trivial
  · split
    · exact goodR_ok trivial
    · split
      · refine goodR_bind (at_good _ _) (fun _ _ => ?_)
        split
        · exact goodR_bind (monthrange_good _ _) (fun _ _ => goodR_pure trivial)
        · exact goodR_pure trivial
      · refine goodR_bind (at_good _ _) (fun _ _ => goodR_bind (at_good _ _) (fun _ _ => ?_))
        split
        · exact goodR_bind (monthrange_good _ _) (fun _ _ => goodR_pure trivial)
        · exact goodR_pure trivial

theorem rem1_good (d : Dec) : GoodR (fun _ => True) d.rem1 := by
  unfold Dec.rem1; split
  · exact goodR_IO
  · exact goodR_ok trivial

theorem parseMinSec_good (v : Dec) : GoodR (fun _ => True) (parseMinSec v) := by
  unfold parseMinSec
  refine goodR_bind (rem1_good v) (fun _ _ => ?_)
  split <;> exact goodR_pure trivial

/-- two distinct positions of a three-member list leave exactly one -/
theorem missing_one (i j : Nat) (hi : i < 3) (hj : j < 3) (hij : i ≠ j) :
    ∃ v, [0, 1, 2].filter (fun x => !([i, j] : List Nat).contains x) = [v] := by
  match i, j, hi, hj with
  | 0, 1, _, _ | 0, 2, _, _ | 1, 0, _, _ | 1, 2, _, _ | 2, 0, _, _ | 2, 1, _, _ => exact ⟨_, rfl⟩
  | 0, 0, _, _ | 1, 1, _, _ | 2, 2, _, _ => exact absurd rfl hij

theorem completeStrids_good (self : Ymd) (h : self.WF)
    (hpre : (self.vals.length = self.nlab ∧ self.nlab > 0) ∨ (self.vals.length = 3 ∧ self.nlab = 2)) :
    GoodR (fun _ => True) (completeStrids self.vals.length self.strids) := by
  obtain ⟨h1, h2, h3, h4, h5, h6⟩ := h
  unfold Ymd.nlab at hpre
  unfold Ymd.strids
  rcases hy : self.yIdx with _ | yi <;> rcases hm : self.mIdx with _ | mi <;> rcases hd : self.dIdx with _ | di <;>
    simp only [hy, hm, hd, Option.isSome_none, Option.isSome_some, Bool.false_eq_true, if_true, if_false, ] at hpre ⊢
  · omega
  · have : self.vals.length = 1 := by omega
    simp [completeStrids, this, GoodR, bind, Except.bind, pure, Except.pure]
  · have : self.vals.length = 1 := by omega
    simp [completeStrids, this, GoodR, bind, Except.bind, pure, Except.pure]
  · have hl : self.vals.length = 2 ∨ self.vals.length = 3 := by omega
    rcases hl with hl | hl
    · simp [completeStrids, hl, GoodR, bind, Except.bind, pure, Except.pure]
    · obtain ⟨v, hv⟩ := missing_one mi di (hl ▸ h2 mi hm) (hl ▸ h1 di hd) (fun e => h4 di hd (e ▸ hm))
      simp only [completeStrids, hl, List.nil_append, List.cons_append, List.map_cons, List.map_nil, hv]
      exact goodR_ok trivial
  · have : self.vals.length = 1 := by omega
    simp [completeStrids, this, GoodR, bind, Except.bind, pure, Except.pure]
  · have hl : self.vals.length = 2 ∨ self.vals.length = 3 := by omega
    rcases hl with hl | hl
    · simp [completeStrids, hl, GoodR, bind, Except.bind, pure, Except.pure]
    · obtain ⟨v, hv⟩ := missing_one yi di (hl ▸ h3 yi hy) (hl ▸ h1 di hd) (fun e => h5 di hd (e ▸ hy))
      simp only [completeStrids, hl, List.nil_append, List.cons_append, List.map_cons, List.map_nil, hv]
      exact goodR_ok trivial
  · have hl : self.vals.length = 2 ∨ self.vals.length = 3 := by omega
    rcases hl with hl | hl
    · simp [completeStrids, hl, GoodR, bind, Except.bind, pure, Except.pure]
    · obtain ⟨v, hv⟩ := missing_one yi mi (hl ▸ h3 yi hy) (hl ▸ h2 mi hm) (fun e => h6 mi hm (e ▸ hy))
      simp only [completeStrids, hl, List.nil_append, List.cons_append, List.append_nil, List.map_cons, List.map_nil, hv]
      exact goodR_ok trivial
  · have : self.vals.length = 3 := by omega
    simp [completeStrids, this, GoodR, bind, Except.bind, pure, Except.pure]

theorem resolveFromStridxs_good (self : Ymd) (h : self.WF)
    (hpre : (self.vals.length = self.nlab ∧ self.nlab > 0) ∨ (self.vals.length = 3 ∧ self.nlab = 2)) :
    GoodR (fun _ => True) self.resolveFromStridxs := by
  unfold Ymd.resolveFromStridxs
  refine goodR_bind (completeStrids_good self h hpre) (fun strids _ => ?_)
  have hget : ∀ k, GoodR (fun _ => True)
      (match strids.find? (·.1 = k) with
        | some (_, i) => (self.at i).map some
        | none => (pure none : R (Option Nat))) := by
    intro k
    split
    · exact goodR_map (at_good self _)
    · exact goodR_pure trivial
  exact goodR_bind (hget _) (fun _ _ => goodR_bind (hget _) (fun _ _ => goodR_bind (hget _) (fun _ _ => goodR_pure trivial)))

theorem resolveRest_good (self : Ymd) (len : Nat) (yf df : Bool) : GoodR (fun _ => True) (self.resolveRest len yf df) := by
  unfold Ymd.resolveRest
  repeat' first
    | refine goodR_ite (fun _ => ?_) (fun _ => ?_)
    | refine goodR_bind (at_good _ _) (fun _ _ => ?_)
    | exact goodR_pure trivial
    | exact goodR_throwVE
    | split

theorem resolve_good (self : Ymd) (h : self.WF) (yf df : Bool) : GoodR (fun _ => True) (self.resolve yf df) := by
  unfold Ymd.resolve
  split
  · exact resolveFromStridxs_good self h (by assumption)
  · exact resolveRest_good _ _ _ _

theorem assignHms_good (cls : Char → CClass) (res : Res) (v : Token) (hms : Nat) :
    GoodR (fun r => r.weekday = res.weekday ∧ r.ampm = res.ampm) (assignHms cls res v hms) := by
  unfold assignHms
  refine goodR_bind (toDecimal_good cls v) fun value _ => goodR_ite (fun _ => ?_) fun _ => goodR_ite (fun _ => ?_) fun _ =>
    goodR_ite (fun _ => ?_) fun _ => goodR_pure ⟨rfl, rfl⟩
  · exact goodR_bind (rem1_good _) fun _ _ => goodR_ite
      (fun _ => goodR_bind (rem1_good _) fun _ _ => goodR_pure ⟨rfl, rfl⟩) fun _ => goodR_pure ⟨rfl, rfl⟩
  · exact goodR_bind (parseMinSec_good _) fun ⟨_, _⟩ _ => goodR_pure ⟨rfl, rfl⟩
  · exact goodR_bind (parsems_good _ _) fun ⟨_, _⟩ _ => goodR_pure ⟨rfl, rfl⟩

/-- what `_parse_numeric_token` guarantees about its outputs -/
def NumPost (res : Res) (r : Nat × Ymd × Res) : Prop :=
  r.2.1.WF ∧ r.2.2.weekday = res.weekday ∧ r.2.2.ampm = res.ampm

theorem dayOrFail_good (fuzzy : Bool) (ymd : Ymd) (h : ymd.WF) (res : Res) (v : Dec) :
    GoodR (NumPost res) (dayOrFail fuzzy ymd res v) := by
  unfold dayOrFail
  refine goodR_bind (couldBeDay_good _ _) (fun _ _ => ?_)
  split
  · refine goodR_bind (appendDec_good _ h _ _) (fun _ h' => goodR_pure ⟨h', rfl, rfl⟩)
  · split
    · exact goodR_throwVE
    · exact goodR_pure ⟨h, rfl, rfl⟩

theorem numHourMin_good (cls : Char → CClass) (s : Token) (ymd : Ymd) (h : ymd.WF) (res : Res) :
    GoodR (NumPost res) (numHourMin cls s ymd res) := by
  unfold numHourMin
  exact goodR_bind (pyInt_good _ _) fun _ _ => goodR_ite
    (fun _ => goodR_bind (pyInt_good _ _) fun _ _ => goodR_pure ⟨h, rfl, rfl⟩) fun _ => goodR_pure ⟨h, rfl, rfl⟩

theorem numSix_good (cls : Char → CClass) (s : Token) (ymd : Ymd) (h : ymd.WF) (res : Res) :
    GoodR (NumPost res) (numSix cls s ymd res) := by
  unfold numSix
  refine goodR_ite (fun _ => ?_) fun _ => ?_
  · exact goodR_bind (appendTok_good _ _ h _ _) fun _ h1 => goodR_bind (appendTok_good _ _ h1 _ _) fun _ h2 =>
      goodR_bind (appendTok_good _ _ h2 _ _) fun _ h3 => goodR_pure ⟨h3, rfl, rfl⟩
  · exact goodR_bind (pyInt_good _ _) fun _ _ => goodR_bind (pyInt_good _ _) fun _ _ =>
      goodR_bind (parsems_good _ _) fun _ _ => goodR_pure ⟨h, rfl, rfl⟩

theorem numEight_good (cls : Char → CClass) (s : Token) (ymd : Ymd) (h : ymd.WF) (res : Res) :
    GoodR (NumPost res) (numEight cls s ymd res) := by
  unfold numEight
  refine goodR_bind (appendTok_good _ _ h _ _) fun _ h1 => goodR_bind (appendTok_good _ _ h1 _ _) fun _ h2 =>
    goodR_bind (appendTok_good _ _ h2 _ _) fun _ h3 => goodR_ite (fun _ => ?_) fun _ => goodR_pure ⟨h3, rfl, rfl⟩
  exact goodR_bind (pyInt_good _ _) fun _ _ => goodR_bind (pyInt_good _ _) fun _ _ => goodR_ite
    (fun _ => goodR_bind (pyInt_good _ _) fun _ _ => goodR_pure ⟨h3, rfl, rfl⟩) fun _ => goodR_pure ⟨h3, rfl, rfl⟩

theorem numHms_good (cls : Char → CClass) (v : Token) (idx hmsIdx h0 : Nat) (ymd : Ymd) (h : ymd.WF) (res : Res) :
    GoodR (NumPost res) (numHms cls v idx hmsIdx h0 ymd res) := by
  unfold numHms
  exact goodR_bind (assignHms_good _ _ _ _) fun _ hr => goodR_pure ⟨h, hr.1, hr.2⟩

theorem numColon_good (cls : Char → CClass) (tokens : List Token) (idx : Nat) (value : Dec) (ymd : Ymd) (h : ymd.WF)
    (res : Res) : GoodR (NumPost res) (numColon cls tokens idx value ymd res) := by
  unfold numColon
  refine goodR_bind (tokAt_good _ _) fun _ _ => goodR_bind (toDecimal_good _ _) fun _ _ =>
    goodR_bind (parseMinSec_good _) fun _ _ => goodR_ite (fun _ => ?_) fun _ => goodR_pure ⟨h, rfl, rfl⟩
  exact goodR_bind (tokAt_good _ _) fun _ _ => goodR_bind (parsems_good _ _) fun _ _ => goodR_pure ⟨h, rfl, rfl⟩

theorem sepSecond_good (cls : Char → CClass) (info : Info) (ymd : Ymd) (h : ymd.WF) (t : Token) :
    GoodR Ymd.WF (sepSecond cls info ymd t) := by
  unfold sepSecond
  split
  · exact appendTok_good _ _ h _ _
  · split
    · exact appendNat_good _ h _ _
    · exact goodR_VE
theorem sepThird_good (cls : Char → CClass) (info : Info) (ymd : Ymd) (h : ymd.WF) (t : Token) :
    GoodR Ymd.WF (sepThird cls info ymd t) := by
  unfold sepThird
  split
  · exact appendNat_good _ h _ _
  · exact appendTok_good _ _ h _ _
theorem numSep_good (cls : Char → CClass) (info : Info) (tokens : List Token) (idx : Nat) (v : Token) (ymd : Ymd)
    (h : ymd.WF) (res : Res) : GoodR (NumPost res) (numSep cls info tokens idx v ymd res) := by
  unfold numSep
  refine goodR_bind (tokAt_good _ _) fun _ _ => goodR_bind (appendTok_good _ _ h _ _) fun _ h1 => ?_
  split
  · exact goodR_pure ⟨h1, rfl, rfl⟩
  · refine goodR_ite (fun _ => goodR_pure ⟨h1, rfl, rfl⟩) fun _ => goodR_bind (sepSecond_good _ _ _ h1 _) fun _ h2 =>
      goodR_ite (fun _ => ?_) fun _ => goodR_pure ⟨h2, rfl, rfl⟩
    exact goodR_bind (tokAt_good _ _) fun _ _ => goodR_bind (sepThird_good _ _ _ h2 _) fun _ h3 => goodR_pure ⟨h3, rfl, rfl⟩

theorem numJump_good (info : Info) (tokens : List Token) (idx : Nat) (value : Dec) (ymd : Ymd) (h : ymd.WF) (res : Res) :
    GoodR (NumPost res) (numJump info tokens idx value ymd res) := by
  unfold numJump
  split
  · exact goodR_pure ⟨h, rfl, rfl⟩
  · exact goodR_bind (appendDec_good _ h _ _) fun _ h1 => goodR_pure ⟨h1, rfl, rfl⟩

theorem numAmpmOrDay_good (info : Info) (fuzzy : Bool) (tokens : List Token) (idx : Nat) (value : Dec) (ymd : Ymd)
    (h : ymd.WF) (res : Res) : GoodR (NumPost res) (numAmpmOrDay info fuzzy tokens idx value ymd res) := by
  unfold numAmpmOrDay
  split
  · exact goodR_ite (fun _ => goodR_pure ⟨h, rfl, rfl⟩) fun _ => dayOrFail_good _ _ h _ _
  · exact dayOrFail_good _ _ h _ _

theorem parseNumericToken_good (cls : Char → CClass) (info : Info) (fuzzy : Bool) (tokens : List Token)
    (idx : Nat) (ymd : Ymd) (h : ymd.WF) (res : Res) :
    GoodR (NumPost res) (parseNumericToken cls info fuzzy tokens idx ymd res) := by
  unfold parseNumericToken
  refine goodR_bind (tokAt_good _ _) (fun s _ => ?_)
  refine goodR_bind (toDecimal_good _ _) (fun value _ => ?_)
  refine goodR_ite (fun _ => numHourMin_good _ _ _ h _) fun _ => goodR_ite (fun _ => numSix_good _ _ _ h _) fun _ =>
    goodR_ite (fun _ => numEight_good _ _ _ h _) fun _ => ?_
  split
  · exact numHms_good _ _ _ _ _ _ h _
  · exact goodR_ite (fun _ => numColon_good _ _ _ _ _ h _) fun _ => goodR_ite (fun _ => numSep_good _ _ _ _ _ _ h _) fun _ =>
      goodR_ite (fun _ => numJump_good _ _ _ _ _ h _) fun _ => numAmpmOrDay_good _ _ _ _ _ _ h _

/-- weekday words map to `0..6` (what `relativedelta(weekday=…)` can index) -/
def Info.WF (info : Info) : Prop := ∀ p ∈ info.weekdays, p.2 < 7

instance (info : Info) : Decidable info.WF := by unfold Info.WF; exact inferInstance

theorem lookupLast_mem {β} (tbl : List (Token × β)) (k : Token) (v : β) (h : lookupLast tbl k = some v) :
    ∃ p ∈ tbl, p.2 = v := by
  unfold lookupLast at h
  have gen : ∀ (l : List (Token × β)) (acc : Option β),
      l.foldl (fun acc (kv : Token × β) => if kv.1 = k then some kv.2 else acc) acc = some v →
      (∃ p ∈ l, p.2 = v) ∨ acc = some v := by
    intro l
    induction l with
    | nil => intro acc h; exact Or.inr h
    | cons a t ih =>
      intro acc h
      simp only [List.foldl_cons] at h
      rcases ih _ h with ⟨p, hp, hv⟩ | hacc
      · exact Or.inl ⟨p, List.mem_cons_of_mem _ hp, hv⟩
      · split at hacc
        · injection hacc with hacc
          exact Or.inl ⟨a, List.mem_cons_self, hacc⟩
        · exact Or.inr hacc
  rcases gen tbl none h with h | h
  · exact h
  · cases h

theorem weekdayOf_lt (info : Info) (h : info.WF) (t : Token) (w : Nat) (hw : info.weekdayOf t = some w) : w < 7 := by
  obtain ⟨p, hp, rfl⟩ := lookupLast_mem _ _ _ hw
  exact h p hp

theorem convertyear_nat (pi : Gen.PInfoYear) (n : Nat) (cs : Bool) : ∃ y, Gen.convertyear pi (n : Int) cs = .ok y := by
  unfold Gen.convertyear
  have : ¬ ¬ ((n : Int) ≥ 0) := by omega
  simp only [this, if_false]
  exact ⟨_, rfl⟩

theorem convertyear_good (pi : Gen.PInfoYear) (n : Nat) (cs : Bool) :
    GoodR (fun _ => True) (Gen.convertyear pi (n : Int) cs) := by
  obtain ⟨y, h⟩ := convertyear_nat pi n cs
  rw [h]; exact goodR_ok trivial

structure StWF (lenL : Nat) (st : PState) : Prop where
  ymd : st.ymd.WF
  len : st.l.length = lenL
  skipped : ∀ i ∈ st.skipped, i < lenL
  wd : ∀ w, st.res.weekday = some w → w < 7

theorem stepMonth_good (cls : Char → CClass) (info : Info) (lenL i : Nat) (st : PState) (h : StWF lenL st) (mv : Nat) :
    GoodR (fun r => StWF lenL r.2) (stepMonth cls info lenL i st mv) := by
  obtain ⟨h1, h2, h3, h4⟩ := h
  have fin : ∀ (k : Nat) (y : Ymd), y.WF → GoodR (fun r => StWF lenL r.2) (pure (k, { st with ymd := y }) : R _) :=
    fun _ _ hy => goodR_pure ⟨hy, h2, h3, h4⟩
  unfold stepMonth
  dsimp only
  refine goodR_bind (appendNat_good _ h1 _ _) fun y hy => ?_
  refine goodR_ite (fun _ => ?_) (fun _ => fin _ _ hy)
  refine goodR_bind (tokAt_good _ _) fun l1 _ => ?_
  refine goodR_ite (fun _ => ?_) (fun _ => ?_)
  · -- `Jan-01[-99]`
    refine goodR_bind (tokAt_good _ _) fun l2 _ => goodR_bind (appendTok_good _ _ hy _ _) fun y2 hy2 => ?_
    refine goodR_ite (fun _ => ?_) (fun _ => fin _ _ hy2)
    exact goodR_bind (tokAt_good _ _) fun l4 _ => goodR_bind (appendTok_good _ _ hy2 _ _) fun y4 hy4 => fin _ _ hy4
  · -- `Jan of 01`
    refine goodR_ite (fun _ => ?_) (fun _ => fin _ _ hy)
    refine goodR_bind (tokAt_good _ _) fun l4 _ => goodR_ite (fun _ => ?_) (fun _ => fin _ _ hy)
    exact goodR_bind (pyInt_good _ _) fun v _ => goodR_bind (convertyear_good ⟨info.century, info.year⟩ v false) fun yr _ =>
      goodR_bind (appendCore_good _ hy _ _ (goodR_ok trivial) _) fun y5 hy5 => fin _ _ hy5

theorem ampmValid_good (hour ampm : Option Nat) (fuzzy : Bool) : GoodR (fun _ => True) (ampmValid hour ampm fuzzy) := by
  unfold ampmValid
  repeat' first
    | exact goodR_ok trivial
    | exact goodR_VE
    | refine goodR_ite (fun _ => ?_) (fun _ => ?_)
    | split

theorem stepAmpm_good (fuzzy : Bool) (lenL i : Nat) (hi : i < lenL) (st : PState) (h : StWF lenL st) (ap : Nat) :
    GoodR (fun r => StWF lenL r.2) (stepAmpm fuzzy i st ap) := by
  obtain ⟨h1, h2, h3, h4⟩ := h
  unfold stepAmpm
  refine goodR_bind (ampmValid_good _ _ _) (fun _ _ => ?_)
  split
  · exact goodR_pure ⟨h1, h2, h3, h4⟩
  · split
    · refine goodR_pure ⟨h1, h2, ?_, h4⟩
      intro j hj
      simp only [List.mem_append, List.mem_singleton] at hj
      rcases hj with hj | rfl
      · exact h3 j hj
      · exact hi
    · exact goodR_pure ⟨h1, h2, h3, h4⟩

theorem stepTzname_good (info : Info) (lenL i : Nat) (st : PState) (h : StWF lenL st) (li : Token) :
    StWF lenL (stepTzname info lenL i st li).2 := by
  obtain ⟨h1, h2, h3, h4⟩ := h
  unfold stepTzname
  dsimp only
  split
  · split
    · exact ⟨h1, by simp [h2], h3, h4⟩
    · exact ⟨h1, h2, h3, h4⟩
  · exact ⟨h1, h2, h3, h4⟩

theorem tzOffsetDigits_good (cls : Char → CClass) (l : List Token) (lenL i : Nat) :
    GoodR (fun _ => True) (tzOffsetDigits cls l lenL i) := by
  unfold tzOffsetDigits
  refine goodR_bind (tokAt_good _ _) fun _ _ => goodR_ite (fun _ => ?_) fun _ => goodR_ite (fun _ => ?_) fun _ =>
    goodR_ite (fun _ => goodR_bind (pyInt_good _ _) fun _ _ => goodR_pure trivial) fun _ => goodR_throwVE
  · exact goodR_bind (pyInt_good _ _) fun _ _ => goodR_bind (pyInt_good _ _) fun _ _ => goodR_pure trivial
  · exact goodR_bind (pyInt_good _ _) fun _ _ => goodR_bind (tokAt_good _ _) fun _ _ =>
      goodR_bind (pyInt_good _ _) fun _ _ => goodR_pure trivial

theorem stepTzoffset_good (cls : Char → CClass) (info : Info) (lenL i : Nat) (st : PState) (h : StWF lenL st)
    (li : Token) : GoodR (fun r => StWF lenL r.2) (stepTzoffset cls info lenL i st li) := by
  obtain ⟨h1, h2, h3, h4⟩ := h
  unfold stepTzoffset
  refine goodR_bind (tzOffsetDigits_good _ _ _ _) (fun _ _ => ?_)
  dsimp only
  split <;> exact goodR_pure ⟨h1, h2, h3, h4⟩

theorem parseStep_good (cls : Char → CClass) (info : Info) (hinfo : info.WF) (fuzzy : Bool) (lenL i : Nat)
    (hi : i < lenL) (st : PState) (h : StWF lenL st) :
    GoodR (fun r => StWF lenL r.2) (parseStep cls info fuzzy lenL i st) := by
  unfold parseStep
  refine goodR_bind (tokAt_good _ _) (fun li _ => ?_)
  split
  · refine goodR_bind (parseNumericToken_good _ _ _ _ _ _ h.ymd _) (fun r hr => ?_)
    refine goodR_pure ⟨hr.1, h.len, h.skipped, ?_⟩
    intro w hw
    exact h.wd w (by rw [← hr.2.1]; exact hw)
  · split
    · rename_i wd hwd
      refine goodR_pure ⟨h.ymd, h.len, h.skipped, ?_⟩
      intro w hw
      simp only [Option.some.injEq] at hw
      subst hw
      exact weekdayOf_lt info hinfo _ _ hwd
    · split
      · exact stepMonth_good _ _ _ _ _ h _
      · split
        · exact stepAmpm_good _ _ _ hi _ h _
        · split
          · exact goodR_pure (stepTzname_good _ _ _ _ h _)
          · split
            · exact stepTzoffset_good _ _ _ _ _ h _
            · split
              · exact goodR_throwVE
              · refine goodR_pure ⟨h.ymd, h.len, ?_, h.wd⟩
                intro j hj
                simp only [List.mem_append, List.mem_singleton] at hj
                rcases hj with hj | rfl
                · exact h.skipped j hj
                · exact hi

theorem parseLoop_good (cls : Char → CClass) (info : Info) (hinfo : info.WF) (fuzzy : Bool) (lenL : Nat) :
    ∀ (fuel i skip : Nat) (st : PState), i + fuel = lenL → StWF lenL st →
      GoodR (StWF lenL) (parseLoop cls info fuzzy lenL fuel i skip st) := by
  intro fuel
  induction fuel with
  | zero => intro i skip st _ h; exact goodR_ok h
  | succ n ih =>
    intro i skip st hi h
    cases skip with
    | succ k =>
      unfold parseLoop
      exact ih (i + 1) k st (by omega) h
    | zero =>
      unfold parseLoop
      have := parseStep_good cls info hinfo fuzzy lenL i (by omega) st h
      revert this
      cases parseStep cls info fuzzy lenL i st with
      | error e => intro hg; exact goodR_error hg
      | ok r => intro hg; exact ih (i + 1) r.1 r.2 (by omega) (goodR_ok_iff (P := fun r : Nat × PState => StWF lenL r.2).mp hg)

theorem parseTry_good (cls : Char → CClass) (info : Info) (hinfo : info.WF) (o : Opts) (l : List Token) :
    GoodR (StWF l.length) (parseTry cls info o l) := by
  unfold parseTry
  have h0 : StWF l.length ({ l := l } : PState) :=
    ⟨Ymd.WF_empty, rfl, (by intro i hi; simp at hi), (by intro w hw; simp at hw)⟩
  refine goodR_bind (parseLoop_good cls info hinfo _ l.length l.length 0 0 _ (by omega) h0) (fun st hst => ?_)
  refine goodR_bind (resolve_good _ hst.ymd _ _) (fun r _ => ?_)
  exact goodR_pure ⟨hst.ymd, hst.len, hst.skipped, hst.wd⟩

theorem tokAt_ok (l : List Token) (i : Nat) (h : i < l.length) : tokAt l i = .ok l[i] := by
  unfold tokAt
  simp [List.getElem?_eq_getElem h]

theorem recombine_go_ok (tokens : List Token) (skipped : List Nat) :
    ∀ (rest : List Nat) (i : Nat) (acc : List Token), (∀ x ∈ rest, x < tokens.length) → (i > 0 → acc ≠ []) →
      ∃ r, recombineSkipped.go tokens skipped rest i acc = .ok r := by
  intro rest
  induction rest with
  | nil => intro i acc _ _; exact ⟨acc, rfl⟩
  | cons idx rest ih =>
    intro i acc hr hacc
    unfold recombineSkipped.go
    rw [tokAt_ok tokens idx (hr idx List.mem_cons_self)]
    simp only [bind, Except.bind]
    split
    · rename_i hc
      have hne : acc.reverse ≠ [] := by
        intro h; exact hacc hc.1 (by simpa using h)
      split
      · exact ih _ _ (fun x hx => hr x (List.mem_cons_of_mem _ hx)) (fun _ => by simp)
      · rename_i hnil; exact absurd hnil hne
    · exact ih _ _ (fun x hx => hr x (List.mem_cons_of_mem _ hx)) (fun _ => by simp)

theorem recombineSkipped_ok (tokens : List Token) (skipped : List Nat) (h : ∀ x ∈ skipped, x < tokens.length) :
    ∃ r, recombineSkipped tokens skipped = .ok r := by
  unfold recombineSkipped
  exact recombine_go_ok tokens skipped _ 0 [] (fun x hx => h x (List.mem_mergeSort.mp hx)) (fun h => absurd h (by omega))

theorem validate_ok (info : Info) (res : Res) : ∃ r, validate info res = .ok r ∧ r.weekday = res.weekday := by
  unfold validate
  cases hy : res.year with
  | none =>
    simp only [bind, Except.bind, pure, Except.pure]
    split
    · exact ⟨_, rfl, rfl⟩
    · split <;> exact ⟨_, rfl, rfl⟩
  | some y =>
    obtain ⟨y', hy'⟩ := convertyear_nat ⟨info.century, info.year⟩ y res.centurySpecified
    simp only [bind, Except.bind, pure, Except.pure, hy']
    split
    · exact ⟨_, rfl, rfl⟩
    · split <;> exact ⟨_, rfl, rfl⟩

/-- `_parse` never raises: every `IndexError`, `ValueError`, `InvalidOperation` of the scan is turned
    into the `(None, None)` return, and nothing else can be raised (the two `assert`s of
    `_resolve_from_stridxs`, the `assert year >= 0` of `convertyear` and the `tokens[idx]` of
    `_recombine_skipped` are shown not to fire) -/
theorem parseTokens_ok (cls : Char → CClass) (info : Info) (hinfo : info.WF) (o : Opts) (l : List Token) :
    ∃ r, parseTokens cls info o l = .ok r ∧ ∀ res toks, r = some (res, toks) → ∀ w, res.weekday = some w → w < 7 := by
  unfold parseTokens
  have h := parseTry_good cls info hinfo o l
  revert h
  cases parseTry cls info o l with
  | error e =>
    intro h
    have : caughtInParse e = true := goodR_error_iff.mp h
    simp only [this, if_true]
    exact ⟨none, rfl, by intro _ _ h; cases h⟩
  | ok st =>
    intro h
    have h : StWF l.length st := goodR_ok_iff.mp h
    obtain ⟨res, hres, hwd⟩ := validate_ok info st.res
    simp only [bind, Except.bind, hres]
    split
    · obtain ⟨toks, htoks⟩ := recombineSkipped_ok st.l st.skipped (by rw [h.len]; exact h.skipped)
      simp only [htoks, pure, Except.pure]
      refine ⟨_, rfl, ?_⟩
      intro res' toks' heq w hw
      simp only [Option.some.injEq, Prod.mk.injEq] at heq
      rw [← heq.1, hwd] at hw
      exact h.wd w hw
    · simp only [pure, Except.pure]
      refine ⟨_, rfl, ?_⟩
      intro res' toks' heq w hw
      simp only [Option.some.injEq, Prod.mk.injEq] at heq
      rw [← heq.1, hwd] at hw
      exact h.wd w hw

theorem addMicros_kinds (t : DT) (δ : Int) (e : PyErr) (h : t.addMicros δ = .error e) : e = .OverflowError := by
  unfold DT.addMicros at h
  dsimp only at h
  split at h
  · injection h with h; exact h.symm
  · cases h

theorem weekdayShift_kinds (t : DT) (wd : Nat) (hwd : wd < 7) (e : PyErr) (h : weekdayShift t wd = .error e) :
    e = .OverflowError := by
  unfold weekdayShift at h
  have : ¬ wd ≥ 7 := by omega
  simp only [this, if_false] at h
  exact addMicros_kinds _ _ _ h

theorem dtReplace_kinds (d : DT) (y m dd hh mm ss us : Option Nat) (e : PyErr)
    (h : dtReplace d y m dd hh mm ss us = .error e) : e = .ValueError ∨ e = .OverflowError := by
  unfold dtReplace at h
  split at h
  · injection h with h; exact Or.inr h.symm
  · split at h
    · cases h
    · injection h with h; exact Or.inl h.symm

theorem monthrange_kinds (y m : Int) (e : PyErr) (h : monthrange y m = .error e) : e = .ValueError := by
  unfold monthrange at h
  split at h
  · cases h
  · injection h with h; exact h.symm

/-- every error `r` can raise satisfies `E` -/
def ErrIn {α} (E : PyErr → Prop) (r : R α) : Prop := ∀ e, r = .error e → E e

theorem errIn_bind {α β} {E : PyErr → Prop} {x : R α} {f : α → R β} (hx : ErrIn E x) (hf : ∀ a, ErrIn E (f a)) :
    ErrIn E (x >>= f) := by
  cases x with
  | ok a => exact hf a
  | error e => intro e' h; injection h with h; subst h; exact hx e rfl

theorem errIn_ok {α} {E : PyErr → Prop} (a : α) : ErrIn E (.ok a : R α) := by intro e h; cases h
theorem errIn_pure {α} {E : PyErr → Prop} (a : α) : ErrIn E (pure a : R α) := by intro e h; cases h
theorem errIn_error {α} {E : PyErr → Prop} {e : PyErr} (h : E e) : ErrIn E (.error e : R α) := by
  intro e' h'; cases h'; exact h
theorem errIn_ite {α} {E : PyErr → Prop} {c : Prop} [Decidable c] {a b : R α} (ha : ErrIn E a) (hb : ErrIn E b) :
    ErrIn E (if c then a else b) := by
  split
  · exact ha
  · exact hb
theorem errIn_mono {α} {E F : PyErr → Prop} {r : R α} (h : ErrIn E r) (hEF : ∀ e, E e → F e) : ErrIn F r :=
  fun e he => hEF e (h e he)

def VEorOE (e : PyErr) : Prop := e = .ValueError ∨ e = .OverflowError

theorem clipDay_kinds (res : Res) (dflt : DT) : ErrIn VEorOE (clipDay res dflt) := by
  unfold clipDay
  split
  · exact errIn_ok _
  · refine errIn_bind (fun e h => Or.inl (monthrange_kinds _ _ _ h)) (fun dim => ?_)
    split <;> exact errIn_pure _

theorem shiftBareWeekday_kinds (res : Res) (hwd : ∀ w, res.weekday = some w → w < 7) (t : DT) :
    ErrIn VEorOE (shiftBareWeekday res t) := by
  unfold shiftBareWeekday
  split
  · rename_i wd hw
    split
    · exact fun e h => Or.inr (weekdayShift_kinds _ _ (hwd _ hw) _ h)
    · exact errIn_ok _
  · exact errIn_ok _

/-- `_build_naive` raises only `ValueError` (bad field values, `IllegalMonthError`) or `OverflowError`
    (C-int conversion in `replace`, weekday shift past 9999-12-31) -/
theorem buildNaive_kinds (res : Res) (dflt : DT) (hwd : ∀ w, res.weekday = some w → w < 7) :
    ErrIn VEorOE (buildNaive res dflt) := by
  unfold buildNaive
  refine errIn_bind (clipDay_kinds res dflt) (fun day => ?_)
  refine errIn_bind (fun e h => dtReplace_kinds _ _ _ _ _ _ _ _ _ h) (fun naive => ?_)
  exact shiftBareWeekday_kinds res hwd naive

def TzInfos.NoBad : TzInfos → Prop
  | .absent => True
  | .mapping es => ∀ p ∈ es, p.2 ≠ TzData.bad
  | .callable es d => (∀ p ∈ es, p.2 ≠ TzData.bad) ∧ d ≠ .data .bad

theorem lookupKey_mem {β} (tbl : List (Option Token × β)) (k : Option Token) (v : β) (h : lookupKey tbl k = some v) :
    ∃ p ∈ tbl, p.2 = v := by
  unfold lookupKey at h
  cases hf : tbl.find? (·.1 = k) with
  | none => simp [hf] at h
  | some p =>
    simp only [hf, Option.map_some, Option.some.injEq] at h
    exact ⟨p, List.mem_of_find?_eq_some hf, h⟩

def OnlyOE (e : PyErr) : Prop := e = .OverflowError

theorem fixedZone_kinds (n : Option Token) (k : Int) : ErrIn OnlyOE (fixedZone n k) := by
  unfold fixedZone
  split
  · exact errIn_ok _
  · intro e h; injection h with h; exact h.symm

/-- the value `_build_tzinfo` looks at -/
def selectData (tzi : TzInfos) (tzname : Option Token) (tzoffset : Option Int) : TzData :=
  match tzi with
  | .callable entries dflt =>
    match lookupKey entries tzname with
    | some d => d
    | none => match dflt with
      | .data d => d
      | .echoOffset => match tzoffset with | some n => .int n | none => .noneVal
  | .mapping entries => (lookupKey entries tzname).getD .noneVal
  | .absent => .noneVal

theorem selectData_not_bad (tzi : TzInfos) (h : tzi.NoBad) (n : Option Token) (off : Option Int) :
    selectData tzi n off ≠ .bad := by
  intro hbad
  unfold selectData at hbad
  cases tzi with
  | absent => simp at hbad
  | mapping es =>
    simp only at hbad
    cases hl : lookupKey es n with
    | none => simp [hl] at hbad
    | some d =>
      simp only [hl, Option.getD_some] at hbad
      obtain ⟨p, hp, hv⟩ := lookupKey_mem _ _ _ hl
      exact h p hp (hv.trans hbad)
  | callable es d =>
    simp only at hbad
    cases hl : lookupKey es n with
    | some d' =>
      simp only [hl] at hbad
      obtain ⟨p, hp, hv⟩ := lookupKey_mem _ _ _ hl
      exact h.1 p hp (hv.trans hbad)
    | none =>
      simp only [hl] at hbad
      cases d with
      | data d' => simp only at hbad; exact h.2 (by rw [hbad])
      | echoOffset => cases off <;> simp at hbad

/-! ### `tz.tzstr` (C08's model) raises only ValueError or OverflowError -/
section TzStrKinds
open TzStr

theorem ok_ite {α} {c : Prop} [Decidable c] {a b : R α} (ha : ∃ r, a = .ok r) (hb : ∃ r, b = .ok r) :
    ∃ r, (if c then a else b) = .ok r := by
  split
  · exact ha
  · exact hb

theorem tzParseTokens_ok (l : Array String) : ∃ r, TzStr.parseTokens l = .ok r := by
  unfold TzStr.parseTokens
  repeat' (first | exact ⟨_, rfl⟩ | refine ok_ite ?_ ?_ | split | (dsimp only; done) | (dsimp only; split))

theorem go_kinds : ∀ (ys : List Int) (yday k prev : Int) (e : PyErr), ydayToMonthDay.go yday ys k prev = .error e → e = .ValueError := by
  intro ys
  induction ys with
  | nil => intro yday k prev e h; simp [ydayToMonthDay.go] at h; exact h.symm
  | cons y ys ih =>
    intro yday k prev e h
    simp only [ydayToMonthDay.go] at h
    split at h
    · simp at h
    · exact ih _ _ _ _ h

theorem ydayToMonthDay_kinds (yd : Int) : ErrIn (· = PyErr.ValueError) (ydayToMonthDay yd) :=
  fun e h => go_kinds _ _ _ _ e h

theorem delta_kinds (x : Attr) (isend : Bool) (a b : Int) : ErrIn (· = PyErr.ValueError) (delta x isend a b) := by
  unfold delta
  dsimp only
  have yd : ∀ {v : Int} {f : Int × Int → R Delta}, (∀ p, ErrIn (· = PyErr.ValueError) (f p)) →
      ErrIn (· = PyErr.ValueError) (ydayToMonthDay v >>= f) :=
    fun hf => errIn_bind (ydayToMonthDay_kinds _) hf
  split
  · split
    · exact errIn_ok _
    · split <;> exact errIn_ok _
  · split
    · exact errIn_ite (errIn_ok _) (yd fun ⟨_, _⟩ => errIn_ok _)
    · split
      · exact errIn_ite (errIn_ok _) (yd fun ⟨_, _⟩ => errIn_ok _)
      · exact errIn_ok _

theorem tdCheck_kinds (x : Int) : ErrIn (· = PyErr.OverflowError) (tdCheck x) := by
  unfold tdCheck
  exact errIn_ite (errIn_error rfl) (errIn_ok _)

theorem tzstr_kinds (s : String) (posix : Bool) (e : PyErr) (h : tzstr s posix = .error e) : VEorOE e := by
  revert e h
  show ErrIn VEorOE (tzstr s posix)
  have td : ∀ x, ErrIn VEorOE (tdCheck x) := fun x => errIn_mono (tdCheck_kinds x) fun _ => Or.inr
  have dl : ∀ x b a c, ErrIn VEorOE (delta x b a c) := fun x b a c => errIn_mono (delta_kinds x b a c) fun _ => Or.inl
  unfold tzstr
  obtain ⟨r, hr⟩ := tzParseTokens_ok (tokens s).toArray
  rw [TzStr.parse, hr]
  cases r with
  | none => exact errIn_error (Or.inl rfl)
  | some res =>
    refine errIn_ite (errIn_error (Or.inl rfl)) (errIn_bind (td _) fun _ => errIn_bind ?_ fun dstOff =>
      errIn_ite (errIn_ok _) (errIn_bind (dl _ _ _ _) fun sd => errIn_ite (errIn_ok _) (errIn_bind (dl _ _ _ _) fun _ => errIn_ok _)))
    split
    · exact errIn_bind (td _) fun _ => errIn_pure _
    · exact errIn_ite (errIn_pure _) (errIn_pure _)

end TzStrKinds

theorem tzstrCtor_kinds (s : Token) : ErrIn VEorOE (tzstrCtor s) := by
  intro e h
  unfold tzstrCtor at h
  cases hz : TzStr.tzstr (String.ofList s) false with
  | ok z => simp [hz] at h
  | error e' =>
    simp only [hz] at h
    injection h with h
    subst h
    exact tzstr_kinds _ _ _ hz

theorem buildTzinfo_eq (tzi : TzInfos) (n : Option Token) (off : Option Int) :
    buildTzinfo tzi n off =
      (match selectData tzi n off with
       | .obj k => pure (.viaTzinfos (.obj k) n)
       | .noneVal => pure (.viaTzinfos .noneVal n)
       | .str s => do tzstrCtor s; pure (.viaTzinfos (.str s) n)
       | .int k => fixedZone n k
       | .bad => throw .TypeError
       | .raises => throw .ValueError) := by
  unfold buildTzinfo selectData
  rfl

/-- `_build_tzinfo` raises only ValueError (a malformed TZ string, a raising callable) or OverflowError — given values of the
    documented kinds (`NoBad`); no hypothesis on the TZ strings -/
theorem buildTzinfo_kinds (tzi : TzInfos) (h : tzi.NoBad) (n : Option Token) (off : Option Int) :
    ErrIn VEorOE (buildTzinfo tzi n off) := by
  rw [buildTzinfo_eq]
  have hb := selectData_not_bad tzi h n off
  cases hd : selectData tzi n off with
  | obj k => exact errIn_ok _
  | noneVal => exact errIn_ok _
  | str s =>
    intro e he
    simp only [bind, Except.bind, pure, Except.pure] at he
    cases hc : tzstrCtor s with
    | ok u => simp [hc] at he
    | error e' =>
      simp only [hc] at he
      injection he with he
      subst he
      exact tzstrCtor_kinds s _ hc
  | int k => intro e he; exact Or.inr (fixedZone_kinds _ _ e he)
  | bad => exact absurd hd hb
  | raises => intro e he; injection he with he; exact Or.inl he.symm

theorem buildTzaware_kinds (tznames : List Token) (tzi : TzInfos) (h : tzi.NoBad) (res : Res) :
    ErrIn VEorOE (buildTzaware tznames tzi res) := by
  unfold buildTzaware
  split
  · exact buildTzinfo_kinds tzi h _ _
  · split
    · exact errIn_ok _
    · split
      · exact errIn_ok _
      · split
        · intro e he; exact Or.inr (fixedZone_kinds _ _ e he)
        · split <;> exact errIn_ok _

/-! ### reading a successful `parse` backwards -/

theorem exceptMap_bind {α β γ : Type} (g : β → γ) (x : R α) (f : α → R β) :
    (x >>= f).map g = x >>= fun a => (f a).map g := by cases x <;> rfl

theorem bind_ok_inv {α β : Type} {x : R α} {f : α → R β} {b : β} (h : (x >>= f) = .ok b) :
    ∃ a, x = .ok a ∧ f a = .ok b := by
  cases x with
  | error e => cases h
  | ok a => exact ⟨a, rfl, h⟩

/-- what a successful `parse` went through: tokens parsed to a non-empty result, `_build_naive` and (unless `ignoretz`)
    `_build_tzaware` returned -/
theorem parseResult_ok {cls : Char → CClass} {info : Info} {o : Opts} {tznames : List Token} {tzi : TzInfos}
    {dflt : DT} {l : List Token} {r : Result} (h : parseResult cls info o tznames tzi dflt l = .ok r) :
    ∃ res sk naive tz, parseTokens cls info o l = .ok (some (res, sk)) ∧ res.len ≠ 0 ∧ buildNaive res dflt = .ok naive ∧
      (if o.ignoretz then tz = TzDescr.naive else buildTzaware tznames tzi res = .ok tz) ∧
      r = { dt := naive, tz := tz, tokens := if o.fuzzyWithTokens then sk else none } := by
  unfold parseResult at h
  obtain ⟨ro, hpt, h⟩ := bind_ok_inv h
  cases ro with
  | none => cases h
  | some p =>
    obtain ⟨res, sk⟩ := p
    dsimp only at h
    by_cases hl : res.len = 0
    · rw [if_pos hl] at h; cases h
    · rw [if_neg hl] at h
      cases hb : buildNaive res dflt with
      | error e => rw [hb] at h; cases e <;> cases h
      | ok naive =>
        simp only [hb, pure_bind] at h
        by_cases hig : o.ignoretz = true
        · rw [if_pos hig] at h
          exact ⟨res, sk, naive, .naive, hpt, hl, hb, by rw [if_pos hig], (Except.ok.inj h).symm⟩
        · rw [if_neg hig] at h
          cases hz : buildTzaware tznames tzi res with
          | error e => rw [hz] at h; cases e <;> cases h
          | ok tz =>
            simp only [hz] at h
            exact ⟨res, sk, naive, tz, hpt, hl, hb, by rw [if_neg hig]; exact hz, (Except.ok.inj h).symm⟩

/-- and conversely -/
theorem parseResult_of {cls : Char → CClass} {info : Info} {o : Opts} {tznames : List Token} {tzi : TzInfos}
    {dflt : DT} {l : List Token} {res : Res} {sk : Option (List Token)} {naive : DT} {tz : TzDescr}
    (hpt : parseTokens cls info o l = .ok (some (res, sk))) (hl : res.len ≠ 0) (hb : buildNaive res dflt = .ok naive)
    (hz : if o.ignoretz then tz = TzDescr.naive else buildTzaware tznames tzi res = .ok tz) :
    parseResult cls info o tznames tzi dflt l =
      .ok { dt := naive, tz := tz, tokens := if o.fuzzyWithTokens then sk else none } := by
  unfold parseResult
  by_cases hig : o.ignoretz = true
  · rw [if_pos hig] at hz
    simp only [hpt, bind, Except.bind, hl, if_false, hb, hig, if_true, hz, pure, Except.pure]
  · rw [if_neg hig] at hz
    simp only [hpt, bind, Except.bind, hl, if_false, hb, hig, hz, pure, Except.pure, Bool.false_eq_true]

end PM
