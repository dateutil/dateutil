/-
  Proofs/RRuleStrFold.lean — RFC 5545 line folding and the unfold loop of `_rrulestr._parse_rfc`:
  unfolding a folded text gives the logical lines back, for every way of folding.
-/
import DateutilVerif.Proofs.RRuleStrGen

namespace RRuleStr
open ICal (isSpace isLineBreak rstrip splitLines splitLinesAux)

/-- one logical line cut into pieces: the first physical line and the continuation pieces (each is written on its own
    physical line behind ONE space) -/
structure Folded where
  first : List Char
  conts : List (List Char)
  deriving Repr

def Folded.logical (f : Folded) : List Char := f.first ++ f.conts.flatten

def Folded.physical (f : Folded) : List (List Char) := f.first :: f.conts.map (' ' :: ·)

/-- a piece does not END in whitespace (the empty piece is allowed) -/
def NoTrailingSpace (p : List Char) : Prop := ∀ c, p.getLast? = some c → isSpace c = false

instance (p : List Char) : Decidable (NoTrailingSpace p) :=
  match h : p.getLast? with
  | none => isTrue (fun c hc => by rw [h] at hc; cases hc)
  | some x =>
    if hx : isSpace x = false then isTrue (fun c hc => by rw [h] at hc; cases hc; exact hx)
    else isFalse (fun hn => hx (hn x h))

/-- what the unfold loop needs of a folding: the first piece has a visible character and does not BEGIN with a space (it would
    be taken for a continuation), and no continuation piece ENDS in whitespace.  The first piece may end in whitespace
    (a fold right after a space), pieces may be empty or a single character, there may be any number of them. -/
structure Folded.ok (f : Folded) : Prop where
  first : ∃ c l, rstrip f.first = c :: l ∧ c ≠ ' '
  conts : ∀ p ∈ f.conts, NoTrailingSpace p

theorem rstrip_snoc (s : List Char) (c : Char) (h : isSpace c = false) : rstrip (s ++ [c]) = s ++ [c] := by
  unfold rstrip
  simp [List.reverse_append, List.dropWhile_cons, h]

theorem rstrip_space_cons {p : List Char} (hne : p ≠ []) (h : NoTrailingSpace p) : rstrip (' ' :: p) = ' ' :: p := by
  rcases List.eq_nil_or_concat p with rfl | ⟨init, last, hp⟩
  · exact absurd rfl hne
  · rw [List.concat_eq_append] at hp; subst hp
    have hl : isSpace last = false := h last (by simp)
    have := rstrip_snoc (' ' :: init) last hl
    simpa using this

theorem foldl_conts (conts : List (List Char)) (h : ∀ p ∈ conts, NoTrailingSpace p) (x : List Char) (acc : List (List Char)) :
    (conts.map (' ' :: ·)).foldl unfoldStep (x :: acc) = (x ++ conts.flatten) :: acc := by
  induction conts generalizing x with
  | nil => simp
  | cons p ps ih =>
    have hp := h p (by simp)
    have hps : ∀ q ∈ ps, NoTrailingSpace q := fun q hq => h q (by simp [hq])
    simp only [List.map_cons, List.foldl_cons, List.flatten_cons]
    by_cases hne : p = []
    · subst hne
      have : rstrip [' '] = [] := by decide
      rw [unfoldStep_empty this, ih hps]; simp
    · rw [unfoldStep_cont (rstrip_space_cons hne hp), ih hps]; simp

theorem foldl_physical (f : Folded) (hf : f.ok) (acc : List (List Char)) :
    f.physical.foldl unfoldStep acc = f.logical :: acc := by
  obtain ⟨c, l, hr, hc⟩ := hf.first
  unfold Folded.physical Folded.logical
  rw [List.foldl_cons, unfoldStep_keep hr hc, foldl_conts _ hf.conts]

theorem foldl_all (fs : List Folded) (h : ∀ f ∈ fs, f.ok) (acc : List (List Char)) :
    (fs.map Folded.physical).flatten.foldl unfoldStep acc = (fs.map Folded.logical).reverse ++ acc := by
  induction fs generalizing acc with
  | nil => simp
  | cons f fs ih =>
    simp only [List.map_cons, List.flatten_cons, List.foldl_append]
    rw [foldl_physical f (h f (by simp)), ih (fun g hg => h g (by simp [hg]))]
    simp

/-- **unfold ∘ fold = id on the lines**: whatever the number and the positions of the folds -/
theorem unfold_physical (fs : List Folded) (h : ∀ f ∈ fs, f.ok) :
    ICal.unfold (fs.map Folded.physical).flatten = fs.map Folded.logical := by
  rw [unfold_eq_foldl, foldl_all fs h]; simp

/-- a line break as written: `\n` or `\r\n` -/
def brk (crlf : Bool) : List Char := if crlf then ['\r', '\n'] else ['\n']

theorem splitLinesAux_line : ∀ (l : List Char), (∀ c ∈ l, isLineBreak c = false) → ∀ (crlf : Bool) (rest cur : List Char) (acc : List (List Char)),
    splitLinesAux (l ++ brk crlf ++ rest) cur acc = splitLinesAux rest [] ((cur.reverse ++ l) :: acc) := by
  intro l
  induction l with
  | nil =>
    intro _ crlf rest cur acc
    cases crlf
    · simp only [brk, Bool.false_eq_true, if_false, List.nil_append, List.cons_append, List.append_nil]
      conv => lhs; unfold ICal.splitLinesAux
      simp [isLineBreak]
    · simp only [brk, if_true, List.nil_append, List.cons_append, List.append_nil]
      rw [splitLinesAux]
  | cons c l ih =>
    intro h crlf rest cur acc
    have hc : isLineBreak c = false := h c (by simp)
    have hcr : c ≠ '\r' := by rintro rfl; revert hc; decide
    simp only [List.cons_append]
    conv => lhs; unfold ICal.splitLinesAux
    have := ih (fun d hd => h d (by simp [hd])) crlf rest (c :: cur) acc
    split
    · rename_i heq; cases heq
    · rename_i heq; simp only [List.cons.injEq] at heq; exact absurd heq.1 hcr
    · rename_i c' cs _ heq
      simp only [List.cons.injEq] at heq
      obtain ⟨rfl, rfl⟩ := heq
      simp only [hc, Bool.false_eq_true, if_false]
      simpa [List.append_assoc] using this

/-- `str.splitlines()` of physical lines each followed by a line break (`\n` or `\r\n`, chosen per line) gives the lines back -/
theorem splitLines_terminated : ∀ (ls : List (List Char × Bool)), (∀ p ∈ ls, ∀ c ∈ p.1, isLineBreak c = false) →
    ∀ acc, splitLinesAux (ls.map (fun p => p.1 ++ brk p.2)).flatten [] acc = acc.reverse ++ ls.map (·.1) := by
  intro ls
  induction ls with
  | nil => intro _ acc; simp [splitLinesAux]
  | cons p ps ih =>
    intro h acc
    simp only [List.map_cons, List.flatten_cons]
    rw [splitLinesAux_line p.1 (h p (by simp)) p.2, ih (fun q hq => h q (by simp [hq]))]
    simp

end RRuleStr
