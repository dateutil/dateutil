/-
  Proofs/RRuleValid.lean — every yielded value is a real datetime: its date ordinal lies in
  1..3652059 (`date.fromordinal` succeeded) and its wall time is valid; so `Inst.toDT` is a valid
  `datetime` with the same position on the time line, and the DT-level sequence is strictly increasing.
-/
import DateutilVerif.Proofs.RRuleMonoAll
import DateutilVerif.Proofs.Time

namespace RRule
open Cal

def OrdOk (x : Inst) : Prop := 1 ≤ x.ord ∧ x.ord ≤ maxOrdinal

/-- a yielded instant as a `datetime`: valid, and at the same place on the time line -/
theorem toDT_valid (x : Inst) (ho : OrdOk x) (ht : InstOk x) : x.toDT.Valid ∧ x.toDT.toMicros = x.micros := by
  obtain ⟨e, hv, hy1⟩ := toOrdinal_fromOrdinal x.ord ho.1
  have hy2 : (fromOrdinal x.ord).1 ≤ 9999 := by
    by_cases c : (fromOrdinal x.ord).1 ≤ 9999
    · exact c
    · exfalso
      have v1 : ValidYMD 10000 1 1 := by decide
      have hle : toOrdinal 10000 1 1 ≤ toOrdinal (fromOrdinal x.ord).1 (fromOrdinal x.ord).2.1 (fromOrdinal x.ord).2.2 := by
        by_cases c2 : (fromOrdinal x.ord).1 = 10000
        · have := hv
          rw [c2] at this ⊢
          obtain ⟨m1, m12, d1, _⟩ := this
          unfold toOrdinal
          have := daysBeforeMonth_mono 10000 1 (fromOrdinal x.ord).2.1 (by omega) m1 (by omega)
          rw [daysBeforeMonth_1] at this ⊢
          omega
        · have := toOrdinal_lt_of_lex 10000 1 1 _ _ _ v1 hv (Or.inl (by omega))
          omega
      have e2 : toOrdinal 10000 1 1 = maxOrdinal + 1 := by decide
      have := ho.2
      omega
  unfold InstOk ValidHMS at ht
  refine ⟨?_, ?_⟩
  · unfold DT.Valid ValidDate Inst.toDT
    dsimp only
    exact ⟨⟨hy1, hy2, hv⟩, ht.1, ht.2.1, ht.2.2.1, ht.2.2.2.1, ht.2.2.2.2.1, ht.2.2.2.2.2, by omega, by omega⟩
  · unfold DT.toMicros DT.ordinal DT.timeMicros DT.usPerDay Inst.toDT Inst.micros Inst.secs
    dsimp only
    rw [e]
    omega

theorem step_valid (r : Rule) (st : State) (hts : TsOk st.timeset) : ∀ x ∈ (step r st).1, OrdOk x ∧ InstOk x := by
  intro x hx
  rcases step_sublist r st with h | ⟨cands, pend, fl, hres, hsub⟩
  · rw [h] at hx; simp at hx
  · cases hds : dayset r st.info st.cur with
    | error e => unfold periodResults at hres; rw [hds] at hres; cases hres
    | ok ds =>
      obtain ⟨i, _, t, ht, rfl, hr⟩ := (periodResults_spec r st ds cands pend fl hds hts hres).1 x (hsub.subset hx)
      exact ⟨hr, hts.2 t ht⟩

/-- **every yielded value is a real datetime** (all seven frequencies, every constructed rule) -/
theorem iter_valid_all (a : Args) (r : Rule) (h : construct a = .ok r) (hi : 1 ≤ a.interval)
    (hw : 0 ≤ a.wkst.getD 0 ∧ a.wkst.getD 0 ≤ 6) (hv : a.dtstart.Valid)
    (hf : 0 ≤ a.freq ∧ a.freq ≤ 6) (n : Nat) :
    ∀ x ∈ (iter r n).1, OrdOk x ∧ InstOk x := by
  have ok := construct_ruleOk a r h hi hw
  have hfr : r.freq = a.freq := (construct_fields a r h).1
  have hds : r.dtstart = { a.dtstart with us := 0 } := (construct_fields a r h).2.2.2.2.2.2.1
  have hv' : r.dtstart.Valid := by
    rw [hds]; unfold DT.Valid at hv ⊢; dsimp only
    exact ⟨hv.1, hv.2.1, hv.2.2.1, hv.2.2.2.1, hv.2.2.2.2.1, hv.2.2.2.2.2.1, hv.2.2.2.2.2.2.1, by omega, by omega⟩
  unfold iter
  split
  · intro x hx; simp at hx
  · rename_i st hinit
    by_cases hcal : a.freq ≤ 3
    · have inv := init_calInv r ok (by omega) hv' st hinit
      exact run_forall_inv r (CalInv r) _ (fun st inv => step_valid r st inv.ts)
        (fun st st' inv hst => by
          obtain ⟨_, _, _, _, hnext⟩ := cal_window r ok (by omega) st inv
          exact (hnext st' hst).1) n st inv
    · have inv := init_subInv r ok (by omega) hv' st hinit
      exact run_forall_inv r (SubInv r) _ (fun st inv => step_valid r st inv.ts)
        (fun st st' inv hst => (sub_next r ok (by omega) st st' inv hst).1) n st inv

/-- the DT-level sequence is strictly increasing, and every element is a valid datetime -/
theorem iterDT_strictMono_valid (a : Args) (r : Rule) (h : construct a = .ok r) (hi : 1 ≤ a.interval)
    (hw : 0 ≤ a.wkst.getD 0 ∧ a.wkst.getD 0 ≤ 6) (hv : a.dtstart.Valid)
    (hf : 0 ≤ a.freq ∧ a.freq ≤ 6) (n : Nat) :
    (iterDT r n).1.Pairwise (fun s t => s.toMicros < t.toMicros) ∧ ∀ t ∈ (iterDT r n).1, t.Valid ∧ t.us = 0 := by
  have hval := iter_valid_all a r h hi hw hv hf n
  have hmono := iter_strictMono_all a r h hi hw hv hf n
  unfold iterDT
  dsimp only
  refine ⟨?_, ?_⟩
  · rw [List.pairwise_map]
    exact List.Pairwise.imp_of_mem (by
      intro x y hx hy hxy
      rw [(toDT_valid x (hval x hx).1 (hval x hx).2).2, (toDT_valid y (hval y hy).1 (hval y hy).2).2]
      unfold secsLt at hxy
      unfold Inst.micros; omega) hmono
  · intro t ht
    simp only [List.mem_map] at ht
    obtain ⟨x, hx, rfl⟩ := ht
    exact ⟨(toDT_valid x (hval x hx).1 (hval x hx).2).1, rfl⟩

end RRule
