/-
  Proofs/RRuleWeekly.lean — plain WEEKLY (no computed mask) as an instance of the WEEKLY refinement of
  Proofs/RRulePeriod.lean (BYSETPOS only with a start on the week start: D-C01e).
-/
import DateutilVerif.Proofs.RRulePeriod

namespace RRule
open Cal

/-- WEEKLY argument sets without BYWEEKNO / BYEASTER; BYSETPOS only with a start on the week start -/
structure WeeklyArgs (a : Args) : Prop extends DWArgs a where
  freq : a.freq = 2
  setpos : a.bysetpos = none ∨ weekdayOfOrd (Spec.RRule.startOrd a) = a.wkst.getD 0
  wkst : 0 ≤ a.wkst.getD 0 ∧ a.wkst.getD 0 ≤ 6
  until_ge : ∀ u, a.untilDT = some u → Spec.RRule.startMicros a ≤ u.toMicros

variable {a : Args} {r : Rule}

theorem WeeklyArgs.base (wa : WeeklyArgs a) : WeeklyBase a := ⟨wa.freq, wa.valid, wa.setpos, wa.wkst, wa.until_ge⟩

/-- **`iter_eq_spec`, WEEKLY portion.**  For every argument set with FREQ=WEEKLY, INTERVAL ≥ 1, a week
    start 0..6, a valid start, UNTIL (if any) not before the start, any BYMONTH / BYMONTHDAY (non-zero
    members) / BYYEARDAY / BYDAY — or none, in which case the weekday is the start's — / BYHOUR /
    BYMINUTE / BYSECOND, any COUNT, no BYWEEKNO / BYEASTER, and BYSETPOS only when the start falls on the
    week start (the complement of the defect class D-C01e): the values yielded during
    the first `n` periods are exactly the specification's recurrence set of those periods (whole
    weeks from the week start), for every `n` whose weeks lie inside datetime's range. -/
theorem iter_eq_spec_weekly (wa : WeeklyArgs a) (h : construct a = .ok r) (n : Nat)
    (hn : W0 a + 7 * (n * a.interval) + 7 ≤ maxOrdinal + 1) :
    (iter r n).1 = Spec.RRule.occ a n := by
  have hv := wa.valid
  unfold DT.Valid ValidDate at hv
  have D := construct_dateFields h
  have hpl : ∀ w ∈ (weekdayArg a).getD [], w.2 = 0 ∨ a.freq > 1 := fun _ _ => Or.inr wa.gt1
  exact weekly_refines h wa.base
    ((simple_filter (simpleRule_of D wa.byweekno wa.byeaster hpl)
      (simpleOk_eq_dateOk D wa.monthdayArg_nz wa.byweekno wa.byeaster hpl)).mono fun _ hi => weekDays_all hi) n hv.1.1 (by rw [maxOrdinal_eq]; exact hn)

end RRule
