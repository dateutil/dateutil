/-
  Proofs/CacheInv.lean — the invariant of the cached-iterator machine (Model/Cache.lean): the shared part,
  the part of one thread by program counter, and the answer a consumer holds when it stops (C11).
-/
import DateutilVerif.Model.Cache
import DateutilVerif.Proofs.ListSet
import DateutilVerif.Spec.Queries
import DateutilVerif.Proofs.QueryStops

namespace Cache
open Queries Py

/-- the generator has been run to its end and has published `_len` -/
def Exh (sh : Shared) : Prop := sh.len = some sh.src.length

/-- invariant of the shared state -/
structure SInv (sh : Shared) : Prop where
  cache_eq : sh.cache = sh.src.take sh.genPos
  pos_le : sh.genPos ≤ sh.src.length
  len_ok : ∀ n, sh.len = some n → n = sh.src.length ∧ sh.genPos = sh.src.length ∧ sh.endErr = none
  none_len : sh.genNone = true → sh.len ≠ none
  compl_none : sh.complete = true → sh.genNone = true

/-- "the consumer has received exactly the first k values, is still running and has not asked to stop" -/
def Y (sh : Shared) (it : Iter) (k : Nat) : Prop :=
  it.yielded = sh.src.take k ∧ it.res = none ∧ stops it.q it.yielded = false

/-- invariant of one thread, by program counter -/
def LInv (sh : Shared) (it : Iter) : Prop :=
  it.crash = none ∧
  match it.pc with
  | .start | .l106 | .l108 | .l111 => it.yielded = [] ∧ it.res = none
  | .l125 => it.yielded = [] ∧ it.res = none ∧ stops it.q [] = false
  | .entry => it.yielded = [] ∧ it.res = none ∧ hasEntryCheck it.q = true
  | .l107 => it.yielded = [] ∧ it.res = none ∧ sh.complete = true
  | .listIter => it.yielded ++ it.pending = sh.src ∧ it.res = none ∧ Exh sh
  | .l126 => it.yielded = [] ∧ it.i = 0 ∧ it.res = none ∧ stops it.q [] = false
  | .l127 | .l128 | .l129 => it.yielded = [] ∧ it.i = 0 ∧ it.res = none ∧ (it.hasGen = false → Exh sh) ∧ stops it.q [] = false
  | .l130 => Y sh it it.i ∧ it.i ≤ sh.cache.length ∧ (it.hasGen = false → Exh sh)
  | .l131 | .l132 | .l133 | .l134 | .l136 => Y sh it it.i ∧ it.i ≤ sh.cache.length ∧ it.hasGen = true
  | .l135 => Y sh it it.i ∧ Exh sh
  | .l137 => Y sh it it.i ∧ it.i + it.j ≤ sh.cache.length ∧ it.hasGen = true
  | .l138 => Y sh it it.i ∧ it.i + it.j ≤ sh.cache.length ∧ it.j < 10 ∧ it.hasGen = true
  | .l139 | .l140 | .l142 => Y sh it it.i ∧ Exh sh
  | .l141 => Y sh it it.i ∧ Exh sh ∧ sh.genNone = true
  | .l144 => Y sh it it.i ∧ (it.brk = true → Exh sh) ∧ (it.brk = false → it.i < sh.cache.length ∧ it.hasGen = true)
  | .l145 => Y sh it it.i ∧ it.i < sh.cache.length ∧ it.hasGen = true
  | .l146 => Y sh it (it.i + 1) ∧ it.i < sh.cache.length ∧ it.hasGen = true
  | .l147 => Y sh it it.i ∧ Exh sh
  | .l148 => Y sh it it.i ∧ Exh sh ∧ it.i < sh.src.length
  | .l149 => Y sh it (it.i + 1) ∧ Exh sh ∧ it.i < sh.src.length
  | .done => it.yielded <+: sh.src ∧ (it.q = .iterAll → it.yielded = sh.src) ∧
             (Sorted sh.src → fits it.q sh.src → it.res = some (specE it.q sh.src sh.endErr))

/-- how the shared state may change in one step: only forwards -/
structure Mono (sh sh' : Shared) : Prop where
  src_eq : sh'.src = sh.src
  err_eq : sh'.endErr = sh.endErr
  cache_le : sh.cache.length ≤ sh'.cache.length
  len_keep : Exh sh → Exh sh'
  compl_keep : sh.complete = true → sh'.complete = true
  none_keep : sh.genNone = true → sh'.genNone = true

theorem Mono.refl (sh : Shared) : Mono sh sh := ⟨rfl, rfl, Nat.le_refl _, id, id, id⟩

theorem SInv.exh_cache {sh : Shared} (hs : SInv sh) (he : Exh sh) : sh.cache = sh.src := by
  have := (hs.len_ok _ he).2.1
  rw [hs.cache_eq, this, List.take_length]

theorem SInv.exh_of_none {sh : Shared} (hs : SInv sh) (h : sh.genNone = true) : Exh sh := by
  have := hs.none_len h
  cases hl : sh.len with
  | none => exact absurd hl this
  | some n => have := (hs.len_ok n hl).1; unfold Exh; rw [hl, this]

theorem SInv.exh_noerr {sh : Shared} (hs : SInv sh) (he : Exh sh) : sh.endErr = none :=
  (hs.len_ok _ he).2.2

theorem SInv.exh_of_complete {sh : Shared} (hs : SInv sh) (h : sh.complete = true) : Exh sh :=
  hs.exh_of_none (hs.compl_none h)

theorem SInv.cache_len_le {sh : Shared} (hs : SInv sh) : sh.cache.length ≤ sh.src.length := by
  rw [hs.cache_eq, List.length_take]; omega

theorem SInv.cache_get {sh : Shared} (hs : SInv sh) {i : Nat} {x : Int} (h : sh.cache[i]? = some x) :
    sh.src[i]? = some x := by
  rw [hs.cache_eq, List.getElem?_take] at h
  split at h
  · exact h
  · cases h

theorem SInv.pos_eq_of_none {sh : Shared} (hs : SInv sh) (hx : sh.src[sh.genPos]? = none) : sh.genPos = sh.src.length :=
  Nat.le_antisymm hs.pos_le (List.getElem?_eq_none_iff.mp hx)

theorem take_snoc {l : List Int} {i : Nat} {x : Int} (h : l[i]? = some x) : l.take i ++ [x] = l.take (i + 1) := by
  rw [List.take_add_one, h]; rfl

theorem gen_eq_spec (q : Query) (L : List Int) (hL : Sorted L) (hq : fits q L) : gen q L = spec q L := by
  cases q with
  | iterAll => rfl
  | take k => simp only [gen, spec, islice_take L k hq, Res.ofRL]
  | index i =>
    simp only [gen, spec]
    by_cases h : i ≥ 0
    · rw [if_pos h, nthNext_getIdx L i h]
    · rw [if_neg h]
  | slice a b c => exact gen_slice_eq L a b c hq
  | contains x => simp only [gen, spec, containsLoop_eq x L hL]
  | count => rfl
  | before t inc => simp only [gen, spec, beforeLoop_eq t inc L none hL, lastBefore, Option.or_none]
  | after t inc => simp only [gen, spec, afterLoop_eq]
  | xafter t n inc =>
    cases n with
    | none => simp only [gen, spec, xafterLoop_none, takeAfter]
    | some c => simp only [gen, spec, xafterLoop_some t c inc L 0 (by omega), takeAfter, Int.sub_zero]
  | between a b inc => simp only [gen, spec, betweenLoop_eq a b inc L false hL (by simp), sublistBetween]

theorem answer_stop {sh : Shared} {q : Query} {ys zs : List Int} (hsrc : sh.src = ys ++ zs)
    (hst : stops q ys = true) (hsorted : Sorted sh.src) (hsm : fits q sh.src) : answer sh q ys = spec q sh.src := by
  have hq : q ≠ .count := by intro h; subst h; simp [stops] at hst
  have : answer sh q ys = gen q ys := by
    unfold answer; cases q <;> simp_all
  rw [this, hsrc, ← gen_stops q ys zs hst]
  exact gen_eq_spec q _ (hsrc ▸ hsorted) (hsrc ▸ hsm)

theorem stops_append (q : Query) (ys zs : List Int) (h : stops q ys = true) : stops q (ys ++ zs) = true := by
  cases q with
  | iterAll => simp [stops] at h
  | count => simp [stops] at h
  | take k => simp only [stops, decide_eq_true_eq, List.length_append] at h ⊢; omega
  | index i => simp only [stops, Bool.and_eq_true, decide_eq_true_eq, List.length_append] at h ⊢; omega
  | slice a b c =>
    simp only [stops, Bool.and_eq_true] at h ⊢
    refine ⟨h.1, ?_⟩
    have h2 := h.2
    split at h2
    · simp only [decide_eq_true_eq, List.length_append] at h2 ⊢; omega
    · cases h2
  | contains x => simp only [stops, List.any_append, Bool.or_eq_true] at h ⊢; exact Or.inl h
  | before t inc => simp only [stops, List.any_append, Bool.or_eq_true] at h ⊢; exact Or.inl h
  | after t inc => simp only [stops, List.any_append, Bool.or_eq_true] at h ⊢; exact Or.inl h
  | between a b inc => simp only [stops, List.any_append, Bool.or_eq_true] at h ⊢; exact Or.inl h
  | xafter t n inc =>
    cases n with
    | none => simp [stops] at h
    | some c => simp only [stops, decide_eq_true_eq, List.filter_append, List.length_append] at h ⊢; omega

theorem specE_of_stops {q : Query} {src : List Int} (e : Option PyErr) (h : stops q src = true) : specE q src e = spec q src := by
  cases e with
  | none => rfl
  | some e => simp only [specE, h, ↓reduceIte]

theorem answer_all {sh : Shared} {q : Query} (he : Exh sh) (hsorted : Sorted sh.src) (hq : fits q sh.src) :
    answer sh q sh.src = spec q sh.src := by
  unfold answer
  cases q with
  | count => simp only [spec]; rw [show sh.len = some sh.src.length from he]
  | _ => exact gen_eq_spec _ _ hsorted hq

theorem fast_eq_spec (q : Query) (L : List Int) (hL : Sorted L) (hq : fits q L) : fast q L = spec q L := by
  cases q with
  | contains x => simp [fast, spec, List.elem_eq_mem]
  | index i => rfl
  | slice a b c => rfl
  | count => rfl
  | iterAll => rfl
  | take k => exact gen_eq_spec (.take k) L hL hq
  | before t inc => exact gen_eq_spec (.before t inc) L hL trivial
  | after t inc => exact gen_eq_spec (.after t inc) L hL trivial
  | xafter t n inc => exact gen_eq_spec (.xafter t n inc) L hL trivial
  | between a b inc => exact gen_eq_spec (.between a b inc) L hL trivial

end Cache
