/-
  Proofs/Zones.lean — a coherent zone (what `assemble` builds when there is a transition) read by index:
  `wall0[i] = Hi i`, `wall1[i] = min (Hi i) (Lo i)`.  WF makes the instants `U`, the segment ends `Hi` and
  the segment starts `Lo` increase and `Hi i < Lo (i+1)` (`Coherent.steps`; for one pair of neighbours this is all WF
  says, `neg_add_neg_lt`); hence the three lists are sorted, a
  lookup is a count with two neighbours (`count_iff`), and the wall lookup of a converted instant finds the
  transition count the UTC lookup used.
-/
import DateutilVerif.Proofs.Bisect
import DateutilVerif.Spec.Zones

namespace TZ
open Spec

theorem getD_map_off (tts : List TType) (i : Nat) :
    (tts.map (fun (t : TType) => t.off)).getD i 0 = (tts.getD i default).off := by
  induction tts generalizing i with
  | nil => simp; rfl
  | cons a l ih => cases i with
    | zero => simp
    | succ k => simpa using ih k

theorem wallLists_spec : ∀ (us as : List Int) (b : Int), us.length = as.length →
    (wallLists b us as).1.length = us.length ∧ (wallLists b us as).2.length = us.length ∧
    ∀ i, i < us.length →
      (wallLists b us as).1.getD i 0 = us.getD i 0 + (if i = 0 then b else as.getD (i - 1) 0) ∧
      (wallLists b us as).2.getD i 0
        = us.getD i 0 + min (if i = 0 then b else as.getD (i - 1) 0) (as.getD i 0) := by
  intro us
  induction us with
  | nil => intro as b h; cases as <;> simp [wallLists]
  | cons u us ih =>
      intro as b h
      cases as with
      | nil => simp at h
      | cons a as =>
          have hl : us.length = as.length := by simpa using h
          obtain ⟨h1, h2, h3⟩ := ih as a hl
          refine ⟨by simp [wallLists, h1], by simp [wallLists, h2], ?_⟩
          intro i hi
          cases i with
          | zero => simp [wallLists]
          | succ k =>
              have hk : k < us.length := by simpa using hi
              obtain ⟨e1, e2⟩ := h3 k hk
              simp only [wallLists, List.getD_cons_succ, e1, e2]
              cases k with
              | zero => simp
              | succ j => simp

theorem wfGo_idx : ∀ (us as : List Int) (b : Int), us.length = as.length →
    wfGo b (us.zip as) = true →
    ∀ i, i + 1 < us.length →
      neg (as.getD i 0 - (if i = 0 then b else as.getD (i - 1) 0))
        + neg (as.getD (i + 1) 0 - as.getD i 0) < us.getD (i + 1) 0 - us.getD i 0 := by
  intro us
  induction us with
  | nil => intro as b _ _ i hi; simp at hi
  | cons u0 us ih =>
      intro as b h hw i hi
      match as, us, h, hi with
      | a0 :: a1 :: as', u1 :: us', h, hi =>
          simp only [List.zip_cons_cons, wfGo, Bool.and_eq_true, decide_eq_true_eq] at hw
          cases i with
          | zero => simpa using hw.1
          | succ k =>
              have hl : (u1 :: us').length = (a1 :: as').length := by simpa using h
              have hk : k + 1 < (u1 :: us').length := by simpa using hi
              have := ih (a1 :: as') a0 hl (by simpa using hw.2) k hk
              cases k with
              | zero => simpa using this
              | succ j => simpa using this
      | [_], _ :: _, h, _ => simp at h
      | [], _ :: _, h, _ => simp at h
      | _ :: _, [], _, hi => simp at hi
      | [], [], _, hi => simp at hi

/-- what `assemble` establishes when there is at least one transition -/
structure Coherent (z : TzFile) (b s : TType) : Prop where
  hb : z.before = some b
  hs : z.std = some s
  ntts : z.tts.length = z.utc.length
  ntl : z.transList.length = z.utc.length
  npos : 0 < z.utc.length
  hw0 : z.wall0 = (wallLists b.off z.utc (z.tts.map (fun (t : TType) => t.off))).1
  hw1 : z.wall1 = (wallLists b.off z.utc (z.tts.map (fun (t : TType) => t.off))).2

/-- UTC instant of transition `i` -/
def U (z : TzFile) (i : Nat) : Int := z.utc.getD i 0
/-- offset after transition `i` -/
def A (z : TzFile) (i : Nat) : Int := (z.tts.getD i default).off
/-- offset before transition `i` -/
def Bo (z : TzFile) (b : TType) (i : Nat) : Int := if i = 0 then b.off else A z (i - 1)

/-- `WF` on the zone object: `Spec.wfGo` over (UTC instant, offset after) -/
def WFz (z : TzFile) (b : TType) : Prop :=
  wfGo b.off (z.utc.zip (z.tts.map (fun (t : TType) => t.off))) = true

/-- wall reading at which segment `i` ends (= `wall0[i]`) -/
def Hi (z : TzFile) (b : TType) (i : Nat) : Int := U z i + Bo z b i
/-- wall reading at which segment `i+1` starts -/
def Lo (z : TzFile) (b : TType) (i : Nat) : Int := U z i + Bo z b (i + 1)

theorem A_eq_Bo (z : TzFile) (b : TType) (i : Nat) : A z i = Bo z b (i + 1) := by
  simp [Bo]

/-- two set-backs fit into `d`: each of them does, and so do both together -/
theorem neg_add_neg_lt (p q d : Int) : neg p + neg q < d ↔ 0 < d ∧ -p < d ∧ -q < d ∧ -p - q < d := by
  unfold neg; split <;> split <;> omega

section
variable {z : TzFile} {b s : TType} (hc : Coherent z b s)
include hc

theorem Coherent.w0_len : z.wall0.length = z.utc.length := by
  rw [hc.hw0]; exact (wallLists_spec _ _ _ (by simp [hc.ntts])).1
theorem Coherent.w1_len : z.wall1.length = z.utc.length := by
  rw [hc.hw1]; exact (wallLists_spec _ _ _ (by simp [hc.ntts])).2.1

theorem Coherent.w0_get (i : Nat) (hi : i < z.utc.length) :
    z.wall0.getD i 0 = Hi z b i := by
  rw [hc.hw0, ((wallLists_spec _ _ _ (by simp [hc.ntts])).2.2 i hi).1]
  simp only [Hi, U, Bo, A, getD_map_off]

theorem Coherent.w1_get (i : Nat) (hi : i < z.utc.length) :
    z.wall1.getD i 0 = U z i + min (Bo z b i) (A z i) := by
  rw [hc.hw1, ((wallLists_spec _ _ _ (by simp [hc.ntts])).2.2 i hi).2]
  simp only [U, Bo, A, getD_map_off]

theorem Coherent.wf_idx (hwf : WFz z b) (i : Nat) (hi : i + 1 < z.utc.length) :
    neg (A z i - Bo z b i) + neg (A z (i + 1) - A z i) < U z (i + 1) - U z i := by
  have := wfGo_idx _ _ _ (by simp [hc.ntts]) hwf i hi
  simpa only [U, Bo, A, getD_map_off] using this

/-- **WF between neighbouring transitions**: the instants, the segment ends and the segment starts increase, and a
    segment ends (on the wall clock) before the next but one starts -/
theorem Coherent.steps (hwf : WFz z b) (i : Nat) (hi : i + 1 < z.utc.length) :
    U z i < U z (i + 1) ∧ Hi z b i < Hi z b (i + 1) ∧ Lo z b i < Lo z b (i + 1) ∧ Hi z b i < Lo z b (i + 1) := by
  have := (neg_add_neg_lt _ _ _).mp (hc.wf_idx hwf i hi)
  rw [A_eq_Bo z b i, A_eq_Bo z b (i + 1)] at this
  simp only [Hi, Lo]
  omega

theorem Coherent.utc_strict (hwf : WFz z b) (i : Nat) (hi : i + 1 < z.utc.length) : U z i < U z (i + 1) :=
  (hc.steps hwf i hi).1

theorem Coherent.hi_step (hwf : WFz z b) (i : Nat) (hi : i + 1 < z.utc.length) : Hi z b i < Hi z b (i + 1) :=
  (hc.steps hwf i hi).2.1

theorem Coherent.lo_step (hwf : WFz z b) (i : Nat) (hi : i + 1 < z.utc.length) : Lo z b i < Lo z b (i + 1) :=
  (hc.steps hwf i hi).2.2.1

theorem Coherent.hi_lo (hwf : WFz z b) (i : Nat) (hi : i + 1 < z.utc.length) : Hi z b i < Lo z b (i + 1) :=
  (hc.steps hwf i hi).2.2.2

theorem Coherent.w1_lohi (i : Nat) (hi : i < z.utc.length) : z.wall1.getD i 0 = min (Hi z b i) (Lo z b i) := by
  rw [hc.w1_get i hi, A_eq_Bo z b i]
  simp only [Hi, Lo]; omega

theorem Coherent.utc_sorted (hwf : WFz z b) : SortedL z.utc :=
  sorted_of_step fun i hi => Int.le_of_lt (hc.utc_strict hwf i hi)

theorem Coherent.w0_sorted (hwf : WFz z b) : SortedL z.wall0 := by
  apply sorted_of_step
  intro i hi
  rw [hc.w0_len] at hi
  rw [hc.w0_get i (by omega), hc.w0_get (i + 1) hi]
  exact Int.le_of_lt (hc.hi_step hwf i hi)

theorem Coherent.w1_sorted (hwf : WFz z b) : SortedL z.wall1 := by
  apply sorted_of_step
  intro i hi
  rw [hc.w1_len] at hi
  rw [hc.w1_lohi i (by omega), hc.w1_lohi (i + 1) hi]
  have := hc.hi_step hwf i hi
  have := hc.lo_step hwf i hi
  have := hc.hi_lo hwf i hi
  omega

end

theorem boundary_of_adjacent {l : List Int} {x : Int} {c : Nat} (hs : SortedL l) (hc : c ≤ l.length)
    (h1 : 0 < c → l.getD (c - 1) 0 ≤ x) (h2 : c < l.length → x < l.getD c 0) : Boundary l x c := by
  refine ⟨hc, ?_, ?_⟩
  · intro i hi
    by_cases e : i = c - 1
    · subst e; exact h1 (by omega)
    · have := hs i (c - 1) (by omega) (by omega); have := h1 (by omega); omega
  · intro i hi hn
    by_cases e : i = c
    · subst e; exact h2 hn
    · have := hs c i (by omega) hn; have := h2 (by omega); omega

theorem count_iff {l : List Int} (hs : SortedL l) (x : Int) (c : Nat) (hc : c ≤ l.length) :
    bisectRight l x = c ↔ ((0 < c → l.getD (c - 1) 0 ≤ x) ∧ (c < l.length → x < l.getD c 0)) := by
  constructor
  · intro h
    obtain ⟨_, h1, h2⟩ := bisectRight_spec x hs
    rw [h] at h1 h2
    exact ⟨fun h0 => h1 _ (by omega), fun hn => h2 c (Nat.le_refl _) hn⟩
  · intro ⟨h1, h2⟩
    exact bisectRight_eq hs (boundary_of_adjacent hs hc h1 h2)

theorem bisectRight_le (l : List Int) (x : Int) : bisectRight l x ≤ l.length :=
  bisectGo_le _ _ _ _ _ (Nat.zero_le _)

section
variable {z : TzFile} {b s : TType} (hc : Coherent z b s) (hwf : WFz z b)
include hc hwf

theorem Coherent.count_utc (t : Int) (c : Nat) (hcn : c ≤ z.utc.length) :
    bisectRight z.utc t = c ↔ ((0 < c → U z (c - 1) ≤ t) ∧ (c < z.utc.length → t < U z c)) :=
  count_iff (hc.utc_sorted hwf) t c hcn

theorem Coherent.count_w0 (w : Int) (c : Nat) (hcn : c ≤ z.utc.length) :
    bisectRight z.wall0 w = c ↔ ((0 < c → Hi z b (c - 1) ≤ w) ∧ (c < z.utc.length → w < Hi z b c)) := by
  rw [count_iff (hc.w0_sorted hwf) w c (by rw [hc.w0_len]; exact hcn), hc.w0_len]
  constructor
  · intro ⟨h1, h2⟩
    exact ⟨fun h0 => by rw [← hc.w0_get _ (by omega)]; exact h1 h0,
           fun hn => by rw [← hc.w0_get _ hn]; exact h2 hn⟩
  · intro ⟨h1, h2⟩
    exact ⟨fun h0 => by rw [hc.w0_get _ (by omega)]; exact h1 h0,
           fun hn => by rw [hc.w0_get _ hn]; exact h2 hn⟩

theorem Coherent.count_w1 (w : Int) (c : Nat) (hcn : c ≤ z.utc.length) :
    bisectRight z.wall1 w = c ↔
      ((0 < c → min (Hi z b (c - 1)) (Lo z b (c - 1)) ≤ w) ∧
       (c < z.utc.length → w < min (Hi z b c) (Lo z b c))) := by
  rw [count_iff (hc.w1_sorted hwf) w c (by rw [hc.w1_len]; exact hcn), hc.w1_len]
  constructor
  · intro ⟨h1, h2⟩
    exact ⟨fun h0 => by rw [← hc.w1_lohi _ (by omega)]; exact h1 h0,
           fun hn => by rw [← hc.w1_lohi _ hn]; exact h2 hn⟩
  · intro ⟨h1, h2⟩
    exact ⟨fun h0 => by rw [hc.w1_lohi _ (by omega)]; exact h1 h0,
           fun hn => by rw [hc.w1_lohi _ hn]; exact h2 hn⟩

end

theorem getElem?_eq_some_getD {α} {l : List α} {i : Nat} (h : i < l.length) (d : α) :
    l[i]? = some (l.getD i d) := by
  simp [List.getD, List.getElem?_eq_getElem h]

/-- the type the code uses for "`c` transitions are ≤ the reading" -/
def ttOf (z : TzFile) (b s : TType) (c : Nat) : TType :=
  if c ≥ z.utc.length then s else if c = 0 then b else z.tts.getD (c - 1) default

section
variable {z : TzFile} {b s : TType} (hc : Coherent z b s)
include hc

theorem Coherent.not_empty : z.transList.isEmpty = false := by
  have := hc.ntl; have := hc.npos
  cases h : z.transList with
  | nil => simp [h] at *; omega
  | cons a l => rfl

theorem Coherent.getTtinfo_eq (c : Nat) (hcn : c ≤ z.utc.length) :
    getTtinfo z (some ((c : Int) - 1)) = some (ttOf z b s c) := by
  unfold getTtinfo ttOf
  simp only [hc.ntl]
  by_cases h1 : c ≥ z.utc.length
  · rw [if_pos (by omega), if_pos h1, hc.hs]
  · rw [if_neg (by omega), if_neg h1]
    by_cases h0 : c = 0
    · subst h0; simp [hc.hb]
    · rw [if_neg (by omega), if_neg h0]
      have e : ((c : Int) - 1).toNat = c - 1 := by omega
      rw [e]
      exact getElem?_eq_some_getD (by have := hc.ntts; omega) default

theorem Coherent.offsetBefore_eq (i : Nat) (hi : i < z.utc.length) :
    offsetBefore z (i : Int) = some (Bo z b i) := by
  unfold offsetBefore Bo
  by_cases h0 : i = 0
  · subst h0; simp [hc.hb]
  · rw [if_pos (by omega), if_neg h0]
    have e : ((i : Int) - 1).toNat = i - 1 := by omega
    rw [e, getElem?_eq_some_getD (by have := hc.ntts; omega) default]
    rfl

theorem Coherent.isAmbiguousIdx_eq (w : Int) (c : Nat) (hcn : c ≤ z.utc.length) :
    isAmbiguousIdx z w (some ((c : Int) - 1)) =
      (decide (0 < c) && (decide (U z (c - 1) + min (Bo z b (c - 1)) (A z (c - 1)) ≤ w) &&
        decide (w < U z (c - 1) + Bo z b (c - 1)) && decide (Bo z b (c - 1) > A z (c - 1)))) := by
  unfold isAmbiguousIdx
  rw [hc.not_empty]
  simp only [Bool.false_eq_true, if_false]
  by_cases h0 : c = 0
  · subst h0; simp
  · have hlt : ¬ ((c : Int) - 1 < 0) := by omega
    rw [if_neg hlt]
    have e : ((c : Int) - 1).toNat = c - 1 := by omega
    have e2 : ((c : Int) - 1) = ((c - 1 : Nat) : Int) := by omega
    rw [e, e2, hc.offsetBefore_eq (c - 1) (by omega),
      getElem?_eq_some_getD (by rw [hc.w1_len]; omega) 0,
      getElem?_eq_some_getD (by rw [hc.w0_len]; omega) 0,
      getElem?_eq_some_getD (by rw [hc.ntts]; omega) default,
      hc.w0_get (c - 1) (by omega), hc.w1_get (c - 1) (by omega)]
    simp only [A, Hi]
    have : decide (0 < c) = true := by simp; omega
    rw [this, Bool.true_and]
    simp only [List.getD_eq_getElem?_getD]
    rfl

end

/-- instants covered by the theorems: before the last transition, or anywhere when the zone's
    `ttinfo_std` is the last transition's type (the code answers `ttinfo_std` from the last
    transition on) -/
def Covered (z : TzFile) (s : TType) (c : Nat) : Prop :=
  c < z.utc.length ∨ s = z.tts.getD (z.utc.length - 1) default

section
variable {z : TzFile} {b s : TType} (hc : Coherent z b s)
include hc

theorem Coherent.findLastUtc_eq (t : Int) :
    findLastUtc z t = some ((bisectRight z.utc t : Int) - 1) := by
  unfold findLastUtc; rw [hc.not_empty]; rfl

theorem Coherent.findLastWall_eq (w : Wall) :
    findLastWall z w = some ((bisectRight (wallOf z w.fold) w.wall : Int) - 1) := by
  unfold findLastWall; rw [hc.not_empty]; rfl

theorem Coherent.ttOf_off (c : Nat) (hcn : c ≤ z.utc.length) (hcov : Covered z s c) :
    (ttOf z b s c).off = Bo z b c := by
  unfold ttOf Bo
  have := hc.npos
  by_cases h1 : c ≥ z.utc.length
  · rw [if_pos h1, if_neg (by omega)]
    rcases hcov with h | h
    · omega
    · have : c = z.utc.length := by omega
      subst this; rw [h]; rfl
  · rw [if_neg h1]
    by_cases h0 : c = 0
    · rw [if_pos h0, if_pos h0]
    · rw [if_neg h0, if_neg h0]; rfl

theorem Coherent.fromutc_eq (t : Int) :
    fromutc z t = .ok
      { wall := t + (ttOf z b s (bisectRight z.utc t)).off,
        fold := isAmbiguousIdx z (t + (ttOf z b s (bisectRight z.utc t)).off)
                  (some ((bisectRight z.utc t : Int) - 1)) } := by
  unfold fromutc
  simp only [hc.findLastUtc_eq]
  rw [hc.getTtinfo_eq _ (bisectRight_le _ _)]

end

section
variable {z : TzFile} {b s : TType} (hc : Coherent z b s)
include hc

/-- **core of the round trip**: the wall-clock lookup of a converted instant finds the same
    transition count as the UTC lookup did -/
theorem Coherent.wall_lookup_of_fromutc (hwf : WFz z b) (t : Int)
    (hcov : Covered z s (bisectRight z.utc t)) :
    let c := bisectRight z.utc t
    let w := t + (ttOf z b s c).off
    let f := isAmbiguousIdx z w (some ((c : Int) - 1))
    bisectRight (wallOf z f) w = c := by
  intro c w f
  have hcn : c ≤ z.utc.length := bisectRight_le _ _
  obtain ⟨hlo, hhi⟩ := (hc.count_utc hwf t c hcn).mp rfl
  have hw : w = t + Bo z b c := by show t + _ = _; rw [hc.ttOf_off c hcn hcov]
  have hf : f = _ := hc.isAmbiguousIdx_eq w c hcn
  have hA : 0 < c → A z (c - 1) = Bo z b c := fun h => by rw [A_eq_Bo z b, Nat.sub_add_cancel h]
  cases hfv : f with
  | false =>
      -- not ambiguous: `w` is not below the end of segment `c - 1`
      rw [hfv] at hf
      show bisectRight z.wall0 w = c
      rw [hc.count_w0 hwf w c hcn]
      simp only [Hi]
      refine ⟨fun h0 => ?_, fun hn => by have := hhi hn; omega⟩
      have := hlo h0
      have := hA h0
      simp only [eq_comm (a := false), Bool.and_eq_false_iff, decide_eq_false_iff_not] at hf
      omega
  | true =>
      -- ambiguous: `w` is below the end of segment `c - 1`, which lies before the end and the start of the next
      rw [hfv] at hf
      show bisectRight z.wall1 w = c
      rw [hc.count_w1 hwf w c hcn]
      simp only [eq_comm (a := true), Bool.and_eq_true, decide_eq_true_eq] at hf
      obtain ⟨h0, ⟨h1, h2⟩, _⟩ := hf
      have := hA h0
      refine ⟨fun _ => by simp only [Hi, Lo, Nat.sub_add_cancel h0]; omega, fun hn => ?_⟩
      have e : c - 1 + 1 = c := by omega
      have s1 := hc.hi_step hwf (c - 1) (by omega)
      have s2 := hc.hi_lo hwf (c - 1) (by omega)
      rw [e] at s1 s2
      simp only [Hi] at s1 s2 h2 ⊢
      omega

end

section
variable {z : TzFile} {b s : TType} (hc : Coherent z b s)
include hc

theorem Coherent.findTtinfo_fromutc (hwf : WFz z b) (t : Int)
    (hcov : Covered z s (bisectRight z.utc t)) :
    ∃ w, fromutc z t = .ok w ∧ w.wall = t + (ttOf z b s (bisectRight z.utc t)).off ∧
      findTtinfo z w = some (ttOf z b s (bisectRight z.utc t)) := by
  refine ⟨_, hc.fromutc_eq t, rfl, ?_⟩
  unfold findTtinfo
  rw [hc.findLastWall_eq]
  have := hc.wall_lookup_of_fromutc hwf t hcov
  simp only at this
  simp only [this]
  exact hc.getTtinfo_eq _ (bisectRight_le _ _)

theorem Coherent.utcoffset_eq (w : Wall) (tt : TType) (h : findTtinfo z w = some tt) :
    utcoffset z w = .ok tt.off := by
  unfold utcoffset; rw [hc.hs]; simp only [h]

theorem Coherent.tzname_eq (w : Wall) (tt : TType) (h : findTtinfo z w = some tt) :
    tzname z w = .ok (some tt.abbr) := by
  unfold tzname; rw [hc.hs]; simp only [h]

end

end TZ
