/-
  Proofs/RRuleConstructSetIter.lean — BYEASTER with repeated members.  `rrule.__init__` keeps
  `tuple(sorted(byeaster))` WITHOUT `set()`, so two BYEASTER lists with the same members but different multiplicities
  give rules that differ in that one field; the iteration does not see the difference: the Easter mask marks
  idempotently (`buildEastermask`), and the only other use is the truth value of the tuple.
  (`setEaster r e'` is `r` with another BYEASTER tuple; `iter_setEaster`: same members ⇒ same `iter`.)
-/
import DateutilVerif.Proofs.RRuleConstructSet

namespace RRule

/-- Python's index normalisation inside `setIdx` -/
def pyIdx (n i : Int) : Int := if i < 0 then i + n else i

def idxOk (n i : Int) : Prop := 0 ≤ pyIdx n i ∧ pyIdx n i < n

theorem setIdx_ok (l : List Int) (i v : Int) (h : idxOk l.length i) :
    setIdx l i v = .ok (l.set (pyIdx l.length i).toNat v) := by
  unfold idxOk pyIdx at h
  unfold setIdx pyIdx
  dsimp only
  rw [if_neg (by omega)]

theorem setIdx_err (l : List Int) (i v : Int) (h : ¬ idxOk l.length i) : setIdx l i v = .error .IndexError := by
  unfold idxOk pyIdx at h
  unfold setIdx
  dsimp only
  rw [if_pos (by omega)]

theorem foldSet_ok (base : Int) : ∀ (offs : List Int) (mask : List Int),
    (∀ o ∈ offs, idxOk mask.length (base + o)) →
    ∃ m', offs.foldlM (fun m off => setIdx m (base + off) 1) mask = .ok m' ∧ m'.length = mask.length ∧
      ∀ k : Nat, ((∃ o ∈ offs, pyIdx mask.length (base + o) = (k : Int)) → k < mask.length → m'[k]? = some 1) ∧
        ((¬ ∃ o ∈ offs, pyIdx mask.length (base + o) = (k : Int)) → m'[k]? = mask[k]?) := by
  intro offs
  induction offs with
  | nil => intro mask _; exact ⟨mask, rfl, rfl, fun k => ⟨(by rintro ⟨o, ho, _⟩; cases ho), fun _ => rfl⟩⟩
  | cons o os ih =>
    intro mask hb
    have ho := hb o (List.mem_cons_self ..)
    have hlen : (mask.set (pyIdx mask.length (base + o)).toNat 1).length = mask.length := List.length_set ..
    obtain ⟨m2, h2, hl2, hg2⟩ := ih (mask.set (pyIdx mask.length (base + o)).toNat 1)
      (by intro o' ho'; rw [hlen]; exact hb o' (List.mem_cons_of_mem _ ho'))
    rw [hlen] at hl2 hg2
    refine ⟨m2, ?_, hl2, ?_⟩
    · rw [List.foldlM_cons, setIdx_ok _ _ _ ho]; exact h2
    · intro k
      have hk := hg2 k
      unfold idxOk at ho
      constructor
      · rintro ⟨o', ho', he⟩ hlt
        by_cases c : ∃ o'' ∈ os, pyIdx mask.length (base + o'') = (k : Int)
        · exact hk.1 c hlt
        · rw [hk.2 c]
          rcases List.mem_cons.mp ho' with rfl | ho''
          · rw [List.getElem?_set]
            have : (pyIdx mask.length (base + o')).toNat = k := by omega
            rw [if_pos this, if_pos (by omega)]
          · exact absurd ⟨o', ho'', he⟩ c
      · intro hno
        have c : ¬ ∃ o'' ∈ os, pyIdx mask.length (base + o'') = (k : Int) := by
          rintro ⟨o'', ho'', he⟩; exact hno ⟨o'', List.mem_cons_of_mem _ ho'', he⟩
        rw [hk.2 c, List.getElem?_set]
        have : ¬ (pyIdx mask.length (base + o)).toNat = k := by
          intro he; exact hno ⟨o, List.mem_cons_self .., by omega⟩
        rw [if_neg this]

theorem foldSet_err (base : Int) : ∀ (offs : List Int) (mask : List Int),
    (∃ o ∈ offs, ¬ idxOk mask.length (base + o)) →
    offs.foldlM (fun m off => setIdx m (base + off) 1) mask = .error .IndexError := by
  intro offs
  induction offs with
  | nil => intro mask ⟨o, ho, _⟩; cases ho
  | cons o os ih =>
    intro mask ⟨o', ho', hbad⟩
    rw [List.foldlM_cons]
    by_cases c : idxOk mask.length (base + o)
    · rw [setIdx_ok _ _ _ c]
      have hlen : (mask.set (pyIdx mask.length (base + o)).toNat 1).length = mask.length := List.length_set ..
      apply ih
      rcases List.mem_cons.mp ho' with rfl | ho''
      · exact absurd c hbad
      · exact ⟨o', ho'', by rw [hlen]; exact hbad⟩
    · rw [setIdx_err _ _ _ c]; rfl

/-- the marking loop depends only on the set of offsets -/
theorem foldSet_ext (base : Int) (offs offs' : List Int) (mask : List Int) (h : ∀ x, x ∈ offs ↔ x ∈ offs') :
    offs.foldlM (fun m off => setIdx m (base + off) 1) mask =
      offs'.foldlM (fun m off => setIdx m (base + off) 1) mask := by
  by_cases c : ∀ o ∈ offs, idxOk mask.length (base + o)
  · have c' : ∀ o ∈ offs', idxOk mask.length (base + o) := fun o ho => c o ((h o).mpr ho)
    obtain ⟨m1, e1, l1, g1⟩ := foldSet_ok base offs mask c
    obtain ⟨m2, e2, l2, g2⟩ := foldSet_ok base offs' mask c'
    rw [e1, e2]
    congr 1
    apply List.ext_getElem?
    intro k
    by_cases ck : ∃ o ∈ offs, pyIdx mask.length (base + o) = (k : Int)
    · have ck' : ∃ o ∈ offs', pyIdx mask.length (base + o) = (k : Int) := by
        obtain ⟨o, ho, he⟩ := ck; exact ⟨o, (h o).mp ho, he⟩
      have hlt : k < mask.length := by
        obtain ⟨o, ho, he⟩ := ck
        have := c o ho
        unfold idxOk at this
        omega
      rw [(g1 k).1 ck hlt, (g2 k).1 ck' hlt]
    · have ck' : ¬ ∃ o ∈ offs', pyIdx mask.length (base + o) = (k : Int) := by
        rintro ⟨o, ho, he⟩; exact ck ⟨o, (h o).mpr ho, he⟩
      rw [(g1 k).2 ck, (g2 k).2 ck']
  · have c1 : ∃ o ∈ offs, ¬ idxOk mask.length (base + o) := by
      by_cases c2 : ∃ o ∈ offs, ¬ idxOk mask.length (base + o)
      · exact c2
      · exfalso; apply c; intro o ho
        by_cases c3 : idxOk mask.length (base + o)
        · exact c3
        · exact absurd ⟨o, ho, c3⟩ c2
    have c1' : ∃ o ∈ offs', ¬ idxOk mask.length (base + o) := by
      obtain ⟨o, ho, hb⟩ := c1; exact ⟨o, (h o).mp ho, hb⟩
    rw [foldSet_err base offs mask c1, foldSet_err base offs' mask c1']

theorem buildEastermask_ext (el el' : List Int) (year yearlen yearordinal : Int) (h : ∀ x, x ∈ el ↔ x ∈ el') :
    buildEastermask el year yearlen yearordinal = buildEastermask el' year yearlen yearordinal := by
  unfold buildEastermask
  simp only [bind, Except.bind]
  split
  · rfl
  · split
    · rfl
    · exact foldSet_ext _ el el' _ h

/-- the rule with another BYEASTER tuple -/
def setEaster (r : Rule) (e' : Option (List Int)) : Rule := { r with byeaster := e' }

variable {r : Rule} {e' : Option (List Int)}

theorem truthy_sameMembers {o o' : Option (List Int)} (h : sameMembers o o') : truthy o = truthy o' := by
  rcases h with ⟨h1, h2⟩ | ⟨l, l', h1, h2, hm⟩
  · rw [h1, h2]
  · rw [h1, h2, truthy_eq_not_isEmpty, truthy_eq_not_isEmpty, isEmpty_of_mem_iff l l' hm]

theorem eastermaskOf_set (h : sameMembers r.byeaster e') (y : Int) (b : Info) :
    eastermaskOf (setEaster r e') y b = eastermaskOf r y b := by
  unfold eastermaskOf setEaster
  dsimp only
  rcases h with ⟨h1, h2⟩ | ⟨l, l', h1, h2, hm⟩
  · rw [h1, h2]
  · rw [h1, h2]
    cases l with
    | nil =>
      cases l' with
      | nil => rfl
      | cons x xs => exact absurd ((hm x).mpr (List.mem_cons_self ..)) (by simp)
    | cons x xs =>
      cases l' with
      | nil => exact absurd ((hm x).mp (List.mem_cons_self ..)) (by simp)
      | cons x' xs' =>
        dsimp only
        rw [buildEastermask_ext (x' :: xs') (x :: xs) _ _ _ (fun z => (hm z).symm)]

theorem rebuild_set (h : sameMembers r.byeaster e') (y m : Int) :
    rebuild (setEaster r e') y m = rebuild r y m := by
  unfold rebuild
  rw [eastermaskOf_set h]
  rfl

theorem dayFiltered_set (h : sameMembers r.byeaster e') (info : Info) (i : Int) :
    dayFiltered (setEaster r e') info i = dayFiltered r info i := by
  have ht : truthy (setEaster r e').byeaster = truthy r.byeaster := (truthy_sameMembers h).symm
  unfold dayFiltered
  rw [ht]
  rfl

theorem filterDays_set (h : sameMembers r.byeaster e') (info : Info) : ∀ ds : List Int,
    filterDays (setEaster r e') info ds = filterDays r info ds := by
  intro ds
  induction ds with
  | nil => rfl
  | cons i is ih =>
    unfold filterDays
    rw [dayFiltered_set h, ih]

theorem emit_set (r : Rule) (e' : Option (List Int)) : ∀ (l : List Inst) (c : Option Int),
    emit (setEaster r e') l c = emit r l c := by
  intro l
  induction l with
  | nil => intro c; rfl
  | cons x xs ih =>
    intro c
    unfold emit
    have h1 : afterUntil (setEaster r e') x = afterUntil r x := rfl
    have h2 : (setEaster r e').dtstart = r.dtstart := rfl
    rw [h1, h2]
    split
    · rfl
    · split
      · cases c with
        | none => dsimp only; rw [ih]
        | some n => dsimp only; split; rfl; rw [ih]
      · rw [ih]

theorem periodResults_set (h : sameMembers r.byeaster e') (st : State) :
    periodResults (setEaster r e') st = periodResults r st := by
  unfold periodResults
  have h1 : dayset (setEaster r e') st.info st.cur = dayset r st.info st.cur := rfl
  have h2 : (setEaster r e').bysetpos = r.bysetpos := rfl
  rw [h1, h2]
  simp only [filterDays_set h]

theorem fixDay_set (h : sameMembers r.byeaster e') (st : State) (b : Bool) :
    fixDay (setEaster r e') st b = fixDay r st b := by
  unfold fixDay
  simp only [rebuild_set h]

theorem minutelyLoop_set (r : Rule) (e' : Option (List Int)) : ∀ (n : Nat) (mi h d : Int) (fx : Bool),
    minutelyLoop (setEaster r e') n mi h d fx = minutelyLoop r n mi h d fx := by
  intro n
  induction n with
  | zero => intro _ _ _ _; rfl
  | succ n ih =>
    intro mi h d fx
    unfold minutelyLoop
    have h1 : (setEaster r e').byminute = r.byminute := rfl
    have h2 : (setEaster r e').byhour = r.byhour := rfl
    have h3 : (setEaster r e').interval = r.interval := rfl
    rw [h1, h2, h3]
    simp only [ih]

theorem secondlyLoop_set (r : Rule) (e' : Option (List Int)) : ∀ (n : Nat) (s mi h d : Int) (fx : Bool),
    secondlyLoop (setEaster r e') n s mi h d fx = secondlyLoop r n s mi h d fx := by
  intro n
  induction n with
  | zero => intro _ _ _ _ _; rfl
  | succ n ih =>
    intro s mi h d fx
    unfold secondlyLoop
    have h0 : (setEaster r e').bysecond = r.bysecond := rfl
    have h1 : (setEaster r e').byminute = r.byminute := rfl
    have h2 : (setEaster r e').byhour = r.byhour := rfl
    have h3 : (setEaster r e').interval = r.interval := rfl
    rw [h0, h1, h2, h3]
    simp only [ih]

theorem advance_set (h : sameMembers r.byeaster e') (st : State) (b : Bool) :
    advance (setEaster r e') st b = advance r st b := by
  unfold advance
  have hg : ∀ x y z, gettimeset (setEaster r e') x y z = gettimeset r x y z := fun _ _ _ => rfl
  have h1 : (setEaster r e').freq = r.freq := rfl
  have h2 : (setEaster r e').interval = r.interval := rfl
  have h3 : (setEaster r e').wkst = r.wkst := rfl
  have h4 : (setEaster r e').byhour = r.byhour := rfl
  simp only [h1, h2, h3, h4, hg, rebuild_set h, fixDay_set h, minutelyLoop_set, secondlyLoop_set]

theorem step_set (h : sameMembers r.byeaster e') (st : State) : step (setEaster r e') st = step r st := by
  unfold step
  simp only [periodResults_set h, emit_set, advance_set h]

theorem init_set (h : sameMembers r.byeaster e') : init (setEaster r e') = init r := by
  unfold init
  have hg : ∀ x y z, gettimeset (setEaster r e') x y z = gettimeset r x y z := fun _ _ _ => rfl
  have h1 : (setEaster r e').freq = r.freq := rfl
  have h2 : (setEaster r e').dtstart = r.dtstart := rfl
  have h3 : (setEaster r e').timeset = r.timeset := rfl
  have h4 : (setEaster r e').byhour = r.byhour := rfl
  have h5 : (setEaster r e').byminute = r.byminute := rfl
  have h6 : (setEaster r e').bysecond = r.bysecond := rfl
  have h7 : (setEaster r e').count = r.count := rfl
  simp only [h1, h2, h3, h4, h5, h6, h7, hg, rebuild_set h]

theorem run_set (h : sameMembers r.byeaster e') : ∀ (n : Nat) (st : State),
    run (setEaster r e') n st = run r n st := by
  intro n
  induction n with
  | zero => intro _; rfl
  | succ n ih =>
    intro st
    unfold run
    rw [step_set h]
    simp only [ih]

/-- **multiplicities in BYEASTER are invisible to the iteration** -/
theorem iter_setEaster (r : Rule) (e' : Option (List Int)) (h : sameMembers r.byeaster e') (n : Nat) :
    iter (setEaster r e') n = iter r n := by
  unfold iter
  rw [init_set h]
  simp only [run_set h]

/-- two argument sets that differ only in BYEASTER, with the same members: the constructed rules differ at most in the
    BYEASTER tuple, and yield the same values and the same end -/
theorem construct_easter_dup_iter (a : Args) (el el' : List Int) (ha : a.byeaster = some el)
    (hm : ∀ x, x ∈ el ↔ x ∈ el') (r r' : Rule) (h : construct a = .ok r)
    (h' : construct { a with byeaster := some el' } = .ok r') (n : Nat) : iter r' n = iter r n := by
  have hnd : noDayParts { a with byeaster := some el' } = noDayParts a := by
    unfold noDayParts; rw [ha]; rfl
  have e6 : bymonthOf { a with byeaster := some el' } = bymonthOf a := by unfold bymonthOf; rw [hnd]
  have e7 : monthdayArg { a with byeaster := some el' } = monthdayArg a := by unfold monthdayArg; rw [hnd]
  have e8 : weekdayArg { a with byeaster := some el' } = weekdayArg a := by unfold weekdayArg; rw [hnd]
  have e9 : bymonthdayOf { a with byeaster := some el' } = bymonthdayOf a := by unfold bymonthdayOf; rw [e7]
  have e10 : bynmonthdayOf { a with byeaster := some el' } = bynmonthdayOf a := by unfold bynmonthdayOf; rw [e7]
  have e11 : byweekdayOf { a with byeaster := some el' } = byweekdayOf a := by
    unfold byweekdayOf; rw [e8]; rfl
  have e12 : bynweekdayOf { a with byeaster := some el' } = bynweekdayOf a := by
    unfold bynweekdayOf; rw [e8]; rfl
  obtain ⟨sp, bh, bm, bs, ts, h1, h2, h3, h4, h5, hr⟩ := construct_ok a r h
  obtain ⟨sp', bh', bm', bs', ts', h1', h2', h3', h4', h5', hr2⟩ := construct_ok _ r' h'
  have q1 : sp' = sp := Except.ok.inj (h1'.symm.trans h1)
  have q2 : bh' = bh := Except.ok.inj (h2'.symm.trans h2)
  have q3 : bm' = bm := Except.ok.inj (h3'.symm.trans h3)
  have q4 : bs' = bs := Except.ok.inj (h4'.symm.trans h4)
  subst q1 q2 q3 q4
  have q5 : ts' = ts := Except.ok.inj (h5'.symm.trans h5)
  subst q5
  have hr' : r' = setEaster r (some (sortBy ltInt el')) := by
    rw [hr2, hr, e6, e9, e10, e11, e12]
    rfl
  rw [hr']
  apply iter_setEaster
  rw [hr]
  dsimp only
  rw [ha]
  exact Or.inr ⟨sortBy ltInt el, sortBy ltInt el', rfl, rfl, by
    intro x; rw [mem_sortBy, mem_sortBy]; exact hm x⟩

end RRule
