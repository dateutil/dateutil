/-
  Proofs/QueryStops.lean — coherence of `stops` with `gen`: once the consumer has dropped its
  iterator after the values `ys`, the answer no longer depends on what the iterator would have
  yielded afterwards:  `stops q ys → gen q (ys ++ zs) = gen q ys`.
-/
import DateutilVerif.Proofs.Queries
import DateutilVerif.Proofs.Islice

namespace Queries
open Py

theorem isliceGo_append (stop : Nat) (step : Nat) (hstep : 1 ≤ step) (ys zs : List Int) (a' : Nat)
    (h : max a' stop ≤ ys.length) :
    isliceGo (some stop) step (ys ++ zs) 0 a' = isliceGo (some stop) step ys 0 a' := by
  apply List.ext_getElem?
  intro k
  rw [isliceGo_getElem? _ step hstep _ 0 a' k (by omega), isliceGo_getElem? _ step hstep _ 0 a' k (by omega)]
  by_cases hal : allows (some stop) (a' + k * step)
  · rw [if_pos hal, if_pos hal]
    have : a' + k * step < stop := hal
    rw [List.getElem?_append_left (by omega)]
  · rw [if_neg hal, if_neg hal]

theorem islice_append (ys zs : List Int) (a b c : Option Int) (bb : Int) (hb : b = some bb)
    (hp : sliceListPath a b c = false)
    (h : max (a.getD 0).toNat bb.toNat ≤ ys.length) :
    islice (ys ++ zs) a b c = islice ys a b c := by
  subst hb
  unfold sliceListPath at hp
  simp only [Bool.or_eq_false_iff] at hp
  obtain ⟨⟨hc, ha⟩, hb⟩ := hp
  have hstep : 1 ≤ c.getD 1 := optLt_false hc 1 (by omega)
  unfold islice
  rw [ha, hb, hc]
  simp only [Bool.or_self, Bool.false_eq_true, ↓reduceIte, Option.map_some]
  split
  · rfl
  · rw [isliceGo_append _ _ (by omega) _ _ _ h]

theorem nthNext_append (ys zs : List Int) (k : Nat) (h : k + 1 ≤ ys.length) :
    nthNext (ys ++ zs) k = nthNext ys k := by
  rw [nthNext_eq, nthNext_eq, List.getElem?_append_left (by omega)]

theorem containsLoop_append (x : Int) (ys zs : List Int) (h : ys.any (fun i => decide (i ≥ x)) = true) :
    containsLoop x (ys ++ zs) = containsLoop x ys := by
  induction ys with
  | nil => simp at h
  | cons i ys ih =>
    simp only [List.cons_append]
    unfold containsLoop
    by_cases e : i = x
    · simp [e]
    · have e' : (i == x) = false := by simpa using e
      rw [e']
      by_cases g : i > x
      · simp [g]
      · simp only [g, ↓reduceIte, Bool.false_eq_true]
        apply ih
        simp only [List.any_cons, Bool.or_eq_true, decide_eq_true_eq] at h
        rcases h with h | h
        · omega
        · exact h

theorem beforeLoop_append (t : Int) (inc : Bool) (ys zs : List Int) (last : Option Int)
    (h : ys.any (fun i => if inc then decide (i > t) else decide (i ≥ t)) = true) :
    beforeLoop t inc (ys ++ zs) last = beforeLoop t inc ys last := by
  induction ys generalizing last with
  | nil => simp at h
  | cons i ys ih =>
    simp only [List.cons_append]
    unfold beforeLoop
    by_cases c : (if inc then decide (i > t) else decide (i ≥ t)) = true
    · rw [if_pos c, if_pos c]
    · rw [if_neg c, if_neg c]
      apply ih
      simp only [List.any_cons, Bool.or_eq_true] at h
      rcases h with h | h
      · exact absurd h c
      · exact h

theorem afterLoop_append (t : Int) (inc : Bool) (ys zs : List Int)
    (h : ys.any (fun i => if inc then decide (i ≥ t) else decide (i > t)) = true) :
    afterLoop t inc (ys ++ zs) = afterLoop t inc ys := by
  induction ys with
  | nil => simp at h
  | cons i ys ih =>
    simp only [List.cons_append]
    unfold afterLoop
    by_cases c : (if inc then decide (i ≥ t) else decide (i > t)) = true
    · rw [if_pos c, if_pos c]
    · rw [if_neg c, if_neg c]
      apply ih
      simp only [List.any_cons, Bool.or_eq_true] at h
      rcases h with h | h
      · exact absurd h c
      · exact h

theorem betweenLoop_append (a b : Int) (inc : Bool) (ys zs : List Int) (started : Bool)
    (h : ys.any (fun i => if inc then decide (i > b) else decide (i ≥ b)) = true) :
    betweenLoop a b inc (ys ++ zs) started = betweenLoop a b inc ys started := by
  induction ys generalizing started with
  | nil => simp at h
  | cons i ys ih =>
    simp only [List.cons_append]
    unfold betweenLoop
    by_cases c : (if inc then decide (i > b) else decide (i ≥ b)) = true
    · rw [if_pos c, if_pos c]
    · rw [if_neg c, if_neg c]
      have h' : ys.any (fun i => if inc then decide (i > b) else decide (i ≥ b)) = true := by
        simp only [List.any_cons, Bool.or_eq_true] at h
        rcases h with h | h
        · exact absurd h c
        · exact h
      rw [ih true h', ih false h']

theorem xafterLoop_append (t c : Int) (inc : Bool) (ys zs : List Int)
    (h : (ys.filter (cmpAfter t inc)).length > c.toNat) :
    xafterLoop t (some c) inc (ys ++ zs) 0 = xafterLoop t (some c) inc ys 0 := by
  rw [xafterLoop_some _ _ _ _ 0 (by omega), xafterLoop_some _ _ _ _ 0 (by omega), List.filter_append]
  rw [List.take_append_of_le_length (by omega)]

theorem gen_stops (q : Query) (ys zs : List Int) (h : stops q ys = true) :
    gen q (ys ++ zs) = gen q ys := by
  cases q with
  | iterAll => simp [stops] at h
  | count => simp [stops] at h
  | take k =>
    simp only [stops, decide_eq_true_eq] at h
    simp only [gen]
    rw [islice_append ys zs none (some (k : Int)) none k rfl (by simp [sliceListPath, optLt]) (by simpa using h)]
  | index i =>
    simp only [stops, Bool.and_eq_true, decide_eq_true_eq] at h
    simp only [gen, if_pos h.1]
    rw [nthNext_append _ _ _ h.2]
  | slice a b c =>
    simp only [stops, Bool.and_eq_true, Bool.not_eq_true'] at h
    obtain ⟨hp, hn⟩ := h
    simp only [gen, hp, Bool.false_eq_true, ↓reduceIte]
    have hp' := (sliceListPath_clamp a b c).trans hp
    cases hb : clampMax b with
    | none => rw [hb] at hn; simp [isliceNeeds] at hn
    | some bb =>
      rw [hb] at hn hp'
      simp only [isliceNeeds, decide_eq_true_eq] at hn
      rw [islice_append ys zs (clampMax a) (some bb) (clampMax c) bb rfl hp' hn]
  | contains x => simp only [stops] at h; simp only [gen, containsLoop_append x ys zs h]
  | before t inc => simp only [stops] at h; simp only [gen, beforeLoop_append t inc ys zs none h]
  | after t inc => simp only [stops] at h; simp only [gen, afterLoop_append t inc ys zs h]
  | xafter t n inc =>
    cases n with
    | none => simp [stops] at h
    | some c =>
      simp only [stops, decide_eq_true_eq] at h
      simp only [gen]
      rw [xafterLoop_append t c inc ys zs h]
  | between a b inc => simp only [stops] at h; simp only [gen, betweenLoop_append a b inc ys zs false h]

end Queries
