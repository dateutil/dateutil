/-
  Proofs/RenderSchema.lean — the schema by which a template of C02 gets its theorem for every offset suffix:
  lexing of the core, the scan over the core with an arbitrary suffix behind it, and what `parse` makes of the
  scan's result; the suffix is handled once and for all by `suffix_run` and `finish_tz`.
-/
import DateutilVerif.Proofs.RenderFinish
import DateutilVerif.Proofs.RenderWords

namespace PM
open Py PT

/-- strict parse, `tzinfos` silent on a missing name and on `UTC` -/
structure StrictOpts (o : Opts) (tzi : TzInfos) : Prop where
  fz : o.fuzzy = false
  fwt : o.fuzzyWithTokens = false
  tz1 : tzi.applies none = false
  tz2 : tzi.applies (some ['U', 'T', 'C']) = false

/-- what may follow a core that ends in a number consumed together with its neighbours: nothing, or a token that
    is not `:`, not an h/m/s word, not an AM/PM word -/
def Suf1 (info : Info) (suf : List Token) : Prop :=
  suf = [] ∨ ∃ a rest, suf = a :: rest ∧ a ≠ [':'] ∧ info.hmsOf a = none ∧ info.ampmOf a = none

/-- what may follow a core under the space rule: nothing, or a space and then such a token -/
def Suf2 (info : Info) (suf : List Token) : Prop :=
  suf = [] ∨ ∃ b rest, suf = [' '] :: b :: rest ∧ b ≠ [':'] ∧ info.hmsOf b = none ∧ info.ampmOf b = none

/-- offsets written after a space (required after a year, an AM/PM word or a unit letter) -/
def _root_.PT.Off.Spaced : Off → Prop
  | .naive => True
  | .z sp => sp = true
  | .utc => True
  | .hh sp _ _ => sp = true
  | .hhmm sp _ _ _ => sp = true
  | .hhcmm sp _ _ _ => sp = true

section
variable (df yf : Bool) (year century : Int)
@[simp] theorem hms_plus' : (Info.default df yf year century).hmsOf ['+'] = none := hms_plus df yf year century

theorem suf1_off (off : Off) : Suf1 (Info.default df yf year century) (offTokens off) := by
  rcases off with _ | sp | _ | ⟨sp, neg, oh⟩ | ⟨sp, neg, oh, om⟩ | ⟨sp, neg, oh, om⟩
  · exact Or.inl rfl
  all_goals (try cases sp) <;> (try cases neg)
  all_goals
    right
    simp only [offTokens, spT, sgn, List.nil_append, List.cons_append, Bool.false_eq_true, if_false, if_true]
    exact ⟨_, _, rfl, by decide, by simp [hms_Z, hms_UTC], by simp⟩

theorem suf2_off (off : Off) (h : off.Spaced) : Suf2 (Info.default df yf year century) (offTokens off) := by
  rcases off with _ | sp | _ | ⟨sp, neg, oh⟩ | ⟨sp, neg, oh, om⟩ | ⟨sp, neg, oh, om⟩
  · exact Or.inl rfl
  all_goals (try (simp only [Off.Spaced] at h; subst h))
  all_goals (try simp only [Off.Spaced] at h)
  all_goals (try cases neg)
  all_goals
    right
    simp only [offTokens, spT, sgn, List.nil_append, List.cons_append, Bool.false_eq_true, if_false, if_true]
    exact ⟨_, _, rfl, by decide, by simp [hms_Z, hms_UTC], by simp⟩
end

/-- the schema at token level: the scan over the core tokens with the suffix tokens behind them, and the finish -/
theorem tok_theorem (cls : Char → CClass) [AsciiOK cls] (df yf : Bool) (year century : Int) (o : Opts) (tznames : List Token)
    (tzi : TzInfos) (ho : StrictOpts o tzi) (dflt : DT) (core : List Token) (n : Nat) (hn : core.length = n)
    (rC : Res) (yC : Ymd) (skC : List Nat) (dt : DT) (off : Off) (hoff : off.Dom)
    (hcore : parseLoop cls (Info.default df yf year century) false ((offTokens off).length + n) ((offTokens off).length + n) 0 0
        { l := core ++ offTokens off } =
      parseLoop cls (Info.default df yf year century) false ((offTokens off).length + n) (offTokens off).length n 0
        { l := core ++ offTokens off, res := rC, ymd := yC, skipped := skC })
    (htn : rC.tzname = none) (hto : rC.tzoffset = none) (hhour : rC.hour.isSome = true ∨ off = .naive)
    (hfin : finishOf (Info.default df yf year century) o tznames tzi dflt yC rC = .ok { dt := dt, tz := .naive, tokens := none }) :
    parseResult cls (Info.default df yf year century) o tznames tzi dflt (core ++ offTokens off) =
      .ok { dt := dt, tz := offZone o tznames off, tokens := none } := by
  obtain ⟨hfz, hfwt, htz1, htz2⟩ := ho
  have hlen : (core ++ offTokens off).length = (offTokens off).length + n := by simp [hn]; omega
  rcases hhour with hhour | hnaive
  · have hloop : parseLoop cls (Info.default df yf year century) false (core ++ offTokens off).length
        (core ++ offTokens off).length 0 0 { l := core ++ offTokens off } =
        .ok { l := core ++ offTokens off, res := { rC with tzname := offName off, tzoffset := offSecs off }, ymd := yC,
              skipped := if offLeadSpace off then skC ++ [n] else skC } := by
      rw [hlen, hcore]
      exact suffix_run cls df yf year century core rC yC skC off hoff _ n hn.symm (by rw [hn]; omega) hhour htn hto
    rw [parseResult_of_loop cls _ o tznames tzi dflt _ _ false hfz hfwt hloop]
    exact finish_tz df yf year century o tznames tzi dflt yC rC dt off hoff htz1 htz2 htn hto hhour hfin
  · subst hnaive
    have hloop : parseLoop cls (Info.default df yf year century) false (core ++ offTokens .naive).length
        (core ++ offTokens .naive).length 0 0 { l := core ++ offTokens .naive } =
        .ok { l := core ++ offTokens .naive, res := rC, ymd := yC, skipped := skC } := by
      rw [hlen, hcore]
      simp [offTokens, parseLoop]
    rw [parseResult_of_loop cls _ o tznames tzi dflt _ _ false hfz hfwt hloop]
    simp only [hfin, offZone, offDescr, Off.seconds]
    by_cases hig : o.ignoretz = true <;> simp [hig]

/-- **the schema**: lexing of `str` followed by the suffix, the scan over the core tokens with the suffix tokens
    behind them, and the finish on the scan's result give `parse` on `str ++ suffix` for that suffix. -/
theorem tpl_theorem (cls : Char → CClass) [AsciiOK cls] (df yf : Bool) (year century : Int) (o : Opts) (tznames : List Token)
    (tzi : TzInfos) (ho : StrictOpts o tzi) (dflt : DT) (str : List Char) (core : List Token) (n : Nat) (hn : core.length = n)
    (rC : Res) (yC : Ymd) (skC : List Nat) (dt : DT) (off : Off) (hoff : off.Dom)
    (hlex : scan cls .init (str ++ off.render) = core ++ scan cls .init off.render)
    (hcore : parseLoop cls (Info.default df yf year century) false ((offTokens off).length + n) ((offTokens off).length + n) 0 0
        { l := core ++ offTokens off } =
      parseLoop cls (Info.default df yf year century) false ((offTokens off).length + n) (offTokens off).length n 0
        { l := core ++ offTokens off, res := rC, ymd := yC, skipped := skC })
    (htn : rC.tzname = none) (hto : rC.tzoffset = none) (hhour : rC.hour.isSome = true ∨ off = .naive)
    (hfin : finishOf (Info.default df yf year century) o tznames tzi dflt yC rC = .ok { dt := dt, tz := .naive, tokens := none }) :
    parse cls (Info.default df yf year century) o tznames tzi dflt (str ++ off.render) =
      .ok { dt := dt, tz := offZone o tznames off, tokens := none } := by
  unfold parse lex
  rw [hlex, lex_off]
  exact tok_theorem cls df yf year century o tznames tzi ho dflt core n hn rC yC skC dt off hoff hcore htn hto hhour hfin

/-- the schema for a rendering without a suffix -/
theorem tpl_date (cls : Char → CClass) (info : Info) (o : Opts) (tznames : List Token)
    (tzi : TzInfos) (hfz : o.fuzzy = false) (hfwt : o.fuzzyWithTokens = false) (dflt : DT) (str : List Char) (core : List Token)
    (rC : Res) (yC : Ymd) (skC : List Nat) (dt : DT) (hlex : scan cls .init str = core)
    (hcore : parseLoop cls info false core.length core.length 0 0 { l := core } =
      parseLoop cls info false core.length 0 core.length 0 { l := core, res := rC, ymd := yC, skipped := skC })
    (hfin : finishOf info o tznames tzi dflt yC rC = .ok { dt := dt, tz := .naive, tokens := none }) :
    parse cls info o tznames tzi dflt str = .ok { dt := dt, tz := .naive, tokens := none } := by
  unfold parse lex
  rw [hlex, parseResult_of_loop cls _ o tznames tzi dflt _ _ false hfz hfwt hcore]
  exact hfin

end PM
