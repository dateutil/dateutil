/- Proofs/IsoGenLoop.lean — the translated `while` loop of `_parse_isotime` simulates the model's component loop
   (fuel 8 suffices), hence `Gen.parseIsotime` = model; then `Gen.isoparse` = model. -/
import DateutilVerif.Proofs.IsoGenEq
namespace IsoGen
open Iso Py

/-- the `components` list of `_parse_isotime` for the model's record -/
def compsOf (c : TComps) : List BytesPy.Comp :=
  [.int c.h, .int c.m, .int c.s, .int c.us, match c.tz with | none => .none | some o => .tz o]

/-- model result ↦ what the translated loop reports (components, cursor position) -/
def loopOut (s : Bytes) (p : TComps × Bytes) : List BytesPy.Comp × Int :=
  (compsOf p.1, (s.length : Int) - (p.2.length : Int))

def proj (r : Int × List BytesPy.Comp × Int × Bool) : List BytesPy.Comp × Int := (r.2.1, r.2.2.1)

theorem map_ebind {α β γ} (f : β → γ) (r : Py.R α) (g : α → Py.R β) :
    Except.map f (Except.bind r g) = Except.bind r fun v => Except.map f (g v) := by
  cases r <;> rfl

theorem ebind_ok {α β} (a : α) (f : α → Py.R β) : Except.bind (Except.ok a) f = f a := rfl
theorem ebind_err {α β} (e : PyErr) (f : α → Py.R β) : Except.bind (Except.error e : Py.R α) f = Except.error e := rfl

theorem lt_of_drop_cons {s : Bytes} {p b : Nat} {r : Bytes} (hd : s.drop p = b :: r) : p < s.length := by
  by_cases h : p < s.length
  · exact h
  · rw [List.drop_eq_nil_of_le (by omega)] at hd; cases hd

theorem drop_cons_of_lt (s : Bytes) (p : Nat) (h : p < s.length) :
    ∃ b r, s.drop p = b :: r ∧ r = s.drop (p + 1) := by
  cases hd : s.drop p with
  | nil => have := List.drop_eq_nil_iff.mp hd; omega
  | cons b r =>
    refine ⟨b, r, rfl, ?_⟩
    have : s.drop (p + 1) = (s.drop p).drop 1 := by rw [List.drop_drop]
    rw [this, hd]; rfl

theorem isIn_tz (b : Nat) (r : Bytes) : BytesPy.isIn [b] [45, 43, 90, 122] = isTzStart (b :: r) := by
  simp [BytesPy.isIn, isTzStart, cDash, cPlus, cZ, cz, List.range_succ, List.range_zero, Bool.or_assoc,
    Bool.beq_comm (a := b)]

theorem lset_tz (c : TComps) (o : Off) :
    BytesPy.lset (compsOf c) (-1) (BytesPy.Comp.tz o) = compsOf { c with tz := some o } := by
  simp [BytesPy.lset, compsOf]

theorem lset_comp (c : TComps) (k : Nat) (hk : k ≤ 3) (v : Int) :
    BytesPy.lset (compsOf c) (k : Int) (BytesPy.Comp.int v) = compsOf (setComp c k v) := by
  have : k = 0 ∨ k = 1 ∨ k = 2 ∨ k = 3 := by omega
  rcases this with rfl | rfl | rfl | rfl <;> simp [BytesPy.lset, compsOf, setComp]


/-- the translated loop started at component `k`, cursor `p` (projected to components and cursor) -/
def genLoop (s : Bytes) (fuel k p : Nat) (hs : Bool) (c : TComps) : Py.R (List BytesPy.Comp × Int) :=
  Except.map proj (Gen.parseIsotime_loop fuel (s.length : Int) s ((k : Int) - 1) (compsOf c) (p : Int) hs)

/-- the model's loop on the remaining suffix, reported the same way -/
def modelLoop (s : Bytes) (ks : List Nat) (p : Nat) (hs : Bool) (c : TComps) : Py.R (List BytesPy.Comp × Int) :=
  (Iso.timeLoop ks (s.drop p) hs c).map (loopOut s)

theorem sim_base (s : Bytes) (fuel p : Nat) (hs : Bool) (c : TComps) (hp : p ≤ s.length) :
    genLoop s (fuel + 1) 6 p hs c = modelLoop s [] p hs c := by
  unfold genLoop modelLoop
  simp only [Gen.parseIsotime_loop, timeLoop]
  simp [Except.map, proj, loopOut]
  omega

theorem sim_end (s : Bytes) (fuel k p : Nat) (hs : Bool) (c : TComps) (ks : List Nat) (hp : p = s.length) :
    genLoop s (fuel + 1) k p hs c = modelLoop s (k :: ks) p hs c := by
  unfold genLoop modelLoop
  simp only [Gen.parseIsotime_loop, timeLoop]
  simp [Except.map, proj, loopOut, hp]

theorem sim_tz (s : Bytes) (fuel k p : Nat) (hs : Bool) (c : TComps) (ks : List Nat) (hk : k ≤ 5)
    (b : Nat) (r : Bytes) (hd : s.drop p = b :: r) (htz : isTzStart (b :: r) = true) :
    genLoop s (fuel + 1) k p hs c = modelLoop s (k :: ks) p hs c := by
  have hlt := lt_of_drop_cons hd
  unfold genLoop modelLoop
  simp only [Gen.parseIsotime_loop, timeLoop]
  have c1 : ((p : Int) < (s.length : Int) ∧ (k : Int) - 1 < 5) := by omega
  simp only [c1, if_true, Int.sub_add_cancel, slice1, sliceFrom_nat, hd, List.take_succ_cons, List.take_zero,
    isIn_tz b r, htz, parseTzstr_eq]
  by_cases k0 : k = 0
  · subst k0; simp [Except.map]
  · have : ¬ ((k : Int) = 0) := by omega
    simp only [this, if_false, reduceCtorEq]
    cases parseTzstr (b :: r) true with
    | error e => simp [Except.bind, Except.map, k0]
    | ok tz => simp [Except.bind, Except.map, proj, loopOut, lset_tz, k0]


theorem genLoop_succ (s : Bytes) (fuel k p : Nat) (hs : Bool) (c : TComps) :
    Except.map proj (Gen.parseIsotime_loop fuel (s.length : Int) s (k : Int) (compsOf c) (p : Int) hs)
      = genLoop s fuel (k + 1) p hs c := by
  unfold genLoop
  rw [show ((k + 1 : Nat) : Int) - 1 = (k : Int) by omega]

/-- after the separator bookkeeping: read a two-digit component at cursor `p1` -/
theorem sim_digits_at (s : Bytes) (fuel k p1 : Nat) (hs1 : Bool) (c : TComps) (ks : List Nat) (hk : k ≤ 2)
    (IH : ∀ p hs c, p ≤ s.length → genLoop s fuel (k + 1) p hs c = modelLoop s ks p hs c) :
    Except.map proj
      (Except.bind (Except.bind (Gen.parseDigits (BytesPy.slice s (p1 : Int) ((p1 : Int) + 2)) 2) fun t2 =>
          Except.ok (BytesPy.lset (compsOf c) (k : Int) (BytesPy.Comp.int t2), (p1 : Int) + 2))
        fun x => Gen.parseIsotime_loop fuel (s.length : Int) s (k : Int) x.1 x.2 hs1)
    = Except.map (loopOut s) (match parseDigits ((s.drop p1).take 2) 2 with
      | .error e => .error e
      | .ok v => timeLoop ks ((s.drop p1).drop 2) hs1 (setComp c k v)) := by
  rw [slice2, parseDigits_eq2]
  cases hpd : parseDigits ((s.drop p1).take 2) 2 with
  | error e => rfl
  | ok v =>
    have hlen : p1 + 2 ≤ s.length := by
      have := ((parseDigits_ok_iff _ _ _ (by decide)).mp hpd).1
      simp at this; omega
    have ih := IH (p1 + 2) hs1 (setComp c k v) hlen
    rw [← genLoop_succ] at ih
    unfold modelLoop at ih
    simp only [Except.bind, lset_comp c k (by omega) v]
    rw [show ((p1 : Int) + 2) = ((p1 + 2 : Nat) : Int) by omega, ih, List.drop_drop]


theorem fractionMatch_none (x : Bytes) (h : matchFraction x = none) : BytesPy.fractionMatch x = none := by
  cases x with
  | nil => rfl
  | cons b t =>
    simp only [matchFraction, BytesPy.fractionMatch, cDot, cComma] at h ⊢
    by_cases hb : b = 46 ∨ b = 44
    · simp only [hb, if_true] at h ⊢
      have e : List.takeWhile BytesPy.isDig t = List.takeWhile isDigit t := rfl
      rw [e]
      by_cases hd : List.takeWhile isDigit t = []
      · simp [hd]
      · simp [hd] at h
    · simp only [hb, if_false]

theorem fractionMatch_some (x ds rest : Bytes) (h : matchFraction x = some (ds, rest)) :
    ∃ mark, BytesPy.fractionMatch x = some (mark :: ds, ds) ∧ x = mark :: (ds ++ rest) ∧ ds ≠ [] ∧
      ds.all isDigit = true := by
  obtain ⟨mark, hmk, ex, hne, hd⟩ := matchFraction_inv x ds rest h
  refine ⟨mark, ?_, ex, hne, hd⟩
  subst ex
  simp only [matchFraction, cDot, cComma] at h
  simp only [BytesPy.fractionMatch]
  have hb : mark = 46 ∨ mark = 44 := hmk
  have e : List.takeWhile BytesPy.isDig (ds ++ rest) = List.takeWhile isDigit (ds ++ rest) := rfl
  simp only [hb, if_true, e] at h ⊢
  by_cases hd0 : List.takeWhile isDigit (ds ++ rest) = []
  · simp [hd0] at h
  · simp only [hd0, if_false, Option.some.injEq, Prod.mk.injEq] at h ⊢
    rw [h.1]; exact ⟨rfl, rfl⟩

theorem slice_0_6' {α} (l : List α) : BytesPy.slice l 0 6 = l.take 6 := by
  simpa using slice_lit l 0 6 (by omega)

/-- the fraction, read at cursor `p` behind the separator bookkeeping -/
theorem sim_frac (s : Bytes) (fuel p : Nat) (hs : Bool) (c : TComps) (ks : List Nat) (hp : p ≤ s.length)
    (IH : ∀ p hs c, p ≤ s.length → genLoop s fuel (3 + 1) p hs c = modelLoop s ks p hs c) :
    Except.map proj
      (if ¬ BytesPy.fractionMatch (BytesPy.sliceFrom s (p : Int)) ≠ none then
        Gen.parseIsotime_loop fuel (s.length : Int) s 3 (compsOf c) (p : Int) hs
      else
        Except.bind (BytesPy.pyInt (BytesPy.slice (BytesPy.mgroup (BytesPy.fractionMatch
          (BytesPy.sliceFrom s (p : Int))) 1) 0 6)) fun t3 =>
          Gen.parseIsotime_loop fuel (s.length : Int) s 3
            (BytesPy.lset (compsOf c) 3 (BytesPy.Comp.int (t3 * BytesPy.ipow 10 (6 - BytesPy.len
              (BytesPy.slice (BytesPy.mgroup (BytesPy.fractionMatch (BytesPy.sliceFrom s (p : Int))) 1) 0 6)))))
            ((p : Int) + BytesPy.len (BytesPy.mgroup (BytesPy.fractionMatch (BytesPy.sliceFrom s (p : Int))) 0)) hs)
    = Except.map (loopOut s) (match matchFraction (s.drop p) with
        | none => timeLoop ks (s.drop p) hs c
        | some (ds, rest) =>
          timeLoop ks rest hs (setComp c 3 ((digitsVal (ds.take 6) * 10 ^ (6 - (ds.take 6).length) : Nat) : Int))) := by
  rw [sliceFrom_nat]
  cases hm : matchFraction (s.drop p) with
  | none =>
    rw [fractionMatch_none _ hm, if_pos (fun h => h rfl)]
    exact (genLoop_succ s fuel 3 p hs c).trans (IH p hs c hp)
  | some q =>
    obtain ⟨ds, rest⟩ := q
    obtain ⟨mark, hfm, ex, hne, hdig⟩ := fractionMatch_some _ _ _ hm
    have hne6 : ds.take 6 ≠ [] := by
      cases ds with
      | nil => exact absurd rfl hne
      | cons a t => simp
    have hdig6 : (ds.take 6).all isDigit = true := by
      rw [List.all_eq_true] at hdig ⊢
      intro x hx; exact hdig x (List.mem_of_mem_take hx)
    have hrest : s.drop (p + (1 + ds.length)) = rest := by
      rw [← List.drop_drop, ex, show 1 + ds.length = ds.length + 1 by omega, List.drop_succ_cons, List.drop_left]
    have hple : p + (1 + ds.length) ≤ s.length := by
      have : (s.drop p).length = s.length - p := List.length_drop
      rw [ex] at this; simp at this; omega
    have ih := (genLoop_succ s fuel 3 (p + (1 + ds.length)) hs _).trans (IH (p + (1 + ds.length)) hs
      (setComp c 3 ((digitsVal (ds.take 6) * 10 ^ (6 - (ds.take 6).length) : Nat) : Int)) hple)
    unfold modelLoop at ih; rw [hrest] at ih
    have hval : ((digitsVal (List.take 6 ds) : Nat) : Int) * BytesPy.ipow 10 (6 - ((List.take 6 ds).length : Int))
        = ((digitsVal (ds.take 6) * 10 ^ (6 - (ds.take 6).length) : Nat) : Int) := by
      have hlen6 : (ds.take 6).length ≤ 6 := by rw [List.length_take]; omega
      unfold BytesPy.ipow
      rw [show (6 - ((List.take 6 ds).length : Int)).toNat = 6 - (List.take 6 ds).length by omega]
      simp
    simp only [hfm, ne_eq, reduceCtorEq, not_false_eq_true, not_true_eq_false, if_false, BytesPy.mgroup,
      Int.reduceEq, if_true, slice_0_6', pyInt_digits _ hne6 hdig6, BytesPy.len, List.length_cons, Except.bind]
    rw [hval, show (3 : Int) = ((3 : Nat) : Int) from rfl, lset_comp c 3 (by omega),
      show (p : Int) + ((ds.length + 1 : Nat) : Int) = ((p + (1 + ds.length) : Nat) : Int) by omega]
    exact ih

/-- the separator bookkeeping at the top of an iteration of the translated loop, at cursor `p` on the byte `b` -/
def sepCode (k : Int) (hs : Bool) (b : Nat) (p : Int) : Py.R (Bool × Int) :=
  if k = 1 ∧ [b] = [58] then .ok (true, p + 1)
  else if k = 2 ∧ hs = true then (if [b] ≠ [58] then .error .ValueError else .ok (hs, p + 1))
  else .ok (hs, p)

/-- it does what the model's `sepStep` does: fails with it, or moves the cursor to the suffix it returns -/
theorem sim_sep (s : Bytes) (p k : Nat) (hs : Bool) (b : Nat) (r : Bytes) (hd : s.drop p = b :: r) :
    match sepStep k (b :: r) hs with
    | .error e => sepCode k hs b p = .error e
    | .ok (r', hs') => ∃ p' : Nat, p' ≤ s.length ∧ s.drop p' = r' ∧ sepCode k hs b p = .ok (hs', (p' : Int)) := by
  have hlt := lt_of_drop_cons hd
  have hr : s.drop (p + 1) = r := by rw [← List.drop_drop, hd]; rfl
  have hk1 : ((k : Int) = 1) = (k = 1) := propext (by omega)
  have hk2 : ((k : Int) = 2) = (k = 2) := propext (by omega)
  unfold sepStep sepCode
  simp only [List.take_succ_cons, List.take_zero, List.drop_succ_cons, List.drop_zero, cColon, hk1, hk2]
  by_cases h1 : k = 1 ∧ [b] = [58]
  · rw [if_pos h1, if_pos h1]
    exact ⟨p + 1, by omega, hr, rfl⟩
  rw [if_neg h1, if_neg h1]
  by_cases h2 : k = 2 ∧ hs = true
  · rw [if_pos h2, if_pos h2]
    by_cases hc : [b] = [58]
    · rw [if_neg (not_not_intro hc), if_neg (not_not_intro hc)]
      exact ⟨p + 1, by omega, hr, rfl⟩
    · rw [if_pos hc, if_pos hc]
  · rw [if_neg h2, if_neg h2]
    exact ⟨p, by omega, hd, rfl⟩

/-- an iteration that is not at the end of the input and not at a zone designator -/
theorem sim_nontz (s : Bytes) (fuel k p : Nat) (hs : Bool) (c : TComps) (ks : List Nat) (hk : k ≤ 5)
    (IH : ∀ p hs c, p ≤ s.length → genLoop s fuel (k + 1) p hs c = modelLoop s ks p hs c)
    (b : Nat) (r : Bytes) (hd : s.drop p = b :: r) (htz : isTzStart (b :: r) = false) :
    genLoop s (fuel + 1) k p hs c = modelLoop s (k :: ks) p hs c := by
  have hlt := lt_of_drop_cons hd
  have c1 : ((p : Int) < (s.length : Int) ∧ (k : Int) - 1 < 5) := by omega
  have hsep := sim_sep s p k hs b r hd
  unfold genLoop modelLoop
  simp only [Gen.parseIsotime_loop, timeLoop]
  simp only [c1, and_self, if_true, Int.sub_add_cancel, slice1, hd, List.take_succ_cons, List.take_zero, isIn_tz b r,
    htz, Bool.false_eq_true, if_false, reduceCtorEq]
  show Except.map proj ((sepCode k hs b p).bind _) = _
  cases hss : sepStep k (b :: r) hs with
  | error e => rw [hss] at hsep; rw [hsep]; rfl
  | ok x =>
    obtain ⟨r', hs'⟩ := x
    rw [hss] at hsep
    obtain ⟨p', hp', rfl, hc⟩ := hsep
    rw [hc, ebind_ok]
    dsimp only
    have : k < 3 ∨ k = 3 ∨ 4 ≤ k := by omega
    rcases this with h3 | rfl | h4
    · simp only [show (k : Int) < 3 by omega, h3, show ¬ (k : Int) = 3 by omega, if_true, if_false]
      exact sim_digits_at s fuel k p' hs' c ks (by omega) IH
    · simp only [show ¬ (3 : Nat) < 3 by decide, show ((3 : Nat) : Int) = 3 from rfl, if_true, if_false]
      exact sim_frac s fuel p' hs' c ks hp' IH
    · simp only [show ¬ (k : Int) < 3 by omega, show ¬ k < 3 by omega, show ¬ (k : Int) = 3 by omega,
        show ¬ k = 3 by omega, if_false, ebind_ok]
      exact (genLoop_succ s fuel k p' hs' c).trans (IH p' hs' c hp')

theorem sim_step (s : Bytes) (fuel k : Nat) (ks : List Nat) (hk : k ≤ 5)
    (IH : ∀ p hs c, p ≤ s.length → genLoop s fuel (k + 1) p hs c = modelLoop s ks p hs c) :
    ∀ p hs c, p ≤ s.length → genLoop s (fuel + 1) k p hs c = modelLoop s (k :: ks) p hs c := by
  intro p hs c hp
  by_cases hlt : p < s.length
  · obtain ⟨b, r, hd, _⟩ := drop_cons_of_lt s p hlt
    cases htz : isTzStart (b :: r) with
    | true => exact sim_tz s fuel k p hs c ks hk b r hd htz
    | false => exact sim_nontz s fuel k p hs c ks hk IH b r hd htz
  · exact sim_end s fuel k p hs c ks (by omega)

/-- the translated `while` loop computes what the model's component loop computes, from every cursor position.  The fuel 8
    is the translator's constant (Generated/IsoKernels.lean, `parseIsotime_loop 8`): `comp` takes the six values 0..5, one
    more unit is spent on the exit test, one is slack (`sim_base` is used with fuel 2) -/
theorem sim_loop (s : Bytes) (p : Nat) (hs : Bool) (c : TComps) (hp : p ≤ s.length) :
    genLoop s 8 0 p hs c = modelLoop s [0, 1, 2, 3, 4, 5] p hs c := by
  have h6 : ∀ p hs c, p ≤ s.length → genLoop s 2 6 p hs c = modelLoop s [] p hs c := fun p hs c hp => sim_base s 1 p hs c hp
  have h5 := sim_step s 2 5 [] (by omega) h6
  have h4 := sim_step s 3 4 [5] (by omega) h5
  have h3 := sim_step s 4 3 [4, 5] (by omega) h4
  have h2 := sim_step s 5 2 [3, 4, 5] (by omega) h3
  have h1 := sim_step s 6 1 [2, 3, 4, 5] (by omega) h2
  have h0 := sim_step s 7 0 [1, 2, 3, 4, 5] (by omega) h1
  exact h0 p hs c hp

theorem bind_proj {β} (r : Py.R (Int × List BytesPy.Comp × Int × Bool)) (f : List BytesPy.Comp → Int → Py.R β) :
    (Except.bind r fun x => f x.2.1 x.2.2.1) = Except.bind (Except.map proj r) fun y => f y.1 y.2 := by
  cases r <;> rfl

theorem slice_comps (c : TComps) :
    BytesPy.slice (compsOf c) 1 4 = [.int c.m, .int c.s, .int c.us] := by
  have : BytesPy.slice (compsOf c) 1 4 = ((compsOf c).drop 1).take 3 := by
    simpa using slice_lit (compsOf c) 1 4 (by omega)
  rw [this]; rfl

theorem lget_comps0 (c : TComps) : BytesPy.lget (compsOf c) 0 = .int c.h := by
  simp [BytesPy.lget, compsOf]

theorem parseIsotime_eq (s : Bytes) : Gen.parseIsotime s = (Iso.parseIsotime s).map compsOf := by
  have hsim : Except.map proj (Gen.parseIsotime_loop 8 (s.length : Int) s (-1) (compsOf {}) 0 false)
      = Except.map (loopOut s) (timeLoop [0, 1, 2, 3, 4, 5] s false {}) := sim_loop s 0 false {} (Nat.zero_le _)
  unfold Gen.parseIsotime Iso.parseIsotime
  by_cases hl : s.length < 2
  · rw [if_pos (by rw [BytesPy.len]; omega), if_pos hl]; rfl
  rw [if_neg (by rw [BytesPy.len]; omega), if_neg hl]
  cases ht : timeLoop [0, 1, 2, 3, 4, 5] s false {} with
  | error e => rw [ht] at hsim; exact congrArg (Except.bind · _) (map_eq_error hsim)
  | ok v =>
    obtain ⟨c, rest⟩ := v
    rw [ht] at hsim
    obtain ⟨⟨x1, x2, x3, x4⟩, hg, hx⟩ := map_eq_ok hsim
    simp only [proj, loopOut, Prod.mk.injEq] at hx
    obtain ⟨rfl, rfl⟩ := hx
    refine (congrArg (Except.bind · _) hg).trans ?_
    have hany : (List.any (BytesPy.slice (compsOf c) 1 4) fun x => decide (x ≠ BytesPy.Comp.int 0)) = true ↔
        (c.m ≠ 0 ∨ c.s ≠ 0 ∨ c.us ≠ 0) := by simp [slice_comps]
    simp only [ebind_ok, BytesPy.len, lget_comps0, BytesPy.Comp.int.injEq, Except.map]
    by_cases hr : rest = []
    · subst hr
      simp only [List.length_nil, Int.natCast_zero, Int.sub_zero, Int.lt_irrefl, if_false, ne_eq, not_true_eq_false,
        hany]
      by_cases h24 : c.h = 24
      · by_cases hz : ¬ c.m = 0 ∨ ¬ c.s = 0 ∨ ¬ c.us = 0
        · simp only [h24, hz, and_self, if_true]
        · simp only [h24, hz, and_false, if_true, if_false]
      · simp only [h24, false_and, if_false]
    · have : 0 < rest.length := List.length_pos_iff.mpr hr
      rw [if_pos (by omega), if_pos hr]

theorem datetimeStar3 (y m d : Int) :
    BytesPy.datetimeStar [.int y, .int m, .int d] = mkDatetime y m d 0 0 0 0 none := rfl

theorem datetimeStar8 (y m d : Int) (c : TComps) :
    BytesPy.datetimeStar ([.int y, .int m, .int d] ++ compsOf c) = mkDatetime y m d c.h c.m c.s c.us c.tz := by
  cases c with
  | mk h mi s us tz => cases tz <;> rfl

theorem datetimeStar8z (y m d : Int) (c : TComps) :
    BytesPy.datetimeStar (BytesPy.lset ([.int y, .int m, .int d] ++ compsOf c) 3 (.int 0))
      = mkDatetime y m d 0 c.m c.s c.us c.tz := by
  cases c with
  | mk h mi s us tz => cases tz <;> rfl

theorem try_addDays (v : IsoT.Value) :
    BytesPy.tryExcept (Except.bind (BytesPy.dtAddDays v 1) fun t4 => Except.ok t4) .OverflowError (.error .ValueError)
      = (overflowToValue (v.dt.addDays 1)).bind fun t => .ok ⟨t, v.off⟩ := by
  unfold BytesPy.dtAddDays
  cases h : v.dt.addDays 1 with
  | ok t => rfl
  | error e => cases e <;> rfl


theorem lget3 (y m d : Int) (c : TComps) :
    BytesPy.lget ([BytesPy.Comp.int y, .int m, .int d] ++ compsOf c) 3 = .int c.h := by
  simp [BytesPy.lget, compsOf]

theorem isoparse_eq (cfg : Option Nat) (s : Bytes) :
    Gen.isoparse (cfg.map fun c => [c]) s = Iso.isoparse cfg s := by
  unfold Gen.isoparse Iso.isoparse
  rw [parseIsodate_eq]
  cases hp : Iso.parseIsodate s with
  | error e => rfl
  | ok q =>
    obtain ⟨⟨y, m, d⟩, rest⟩ := q
    obtain ⟨pre, es⟩ := parseIsodate_suffix s _ _ hp
    have hlen : rest.length ≤ s.length := by rw [es]; simp
    have hdrop : s.drop (s.length - rest.length) = rest := by
      have : s.length - rest.length = pre.length := by rw [es]; simp
      rw [this, es, List.drop_left]
    have hdrop1 : s.drop (s.length - rest.length + 1) = rest.drop 1 := by
      have : s.drop (s.length - rest.length + 1) = (s.drop (s.length - rest.length)).drop 1 := by
        rw [List.drop_drop]
      rw [this, hdrop]
    have hpos : ((s.length : Int) - (rest.length : Int)) = ((s.length - rest.length : Nat) : Int) := by omega
    simp only [Except.map, bind, ebind_ok, dateOut, hpos, BytesPy.len, slice1, hdrop]
    by_cases hr : rest = []
    · subst hr
      simp only [List.length_nil, Nat.sub_zero, gt_iff_lt, Int.lt_irrefl, if_false, ebind_ok, ne_eq, not_true_eq_false,
        List.length_cons, datetimeStar3]
      rw [if_neg (by intro h; omega)]
    · have hlt : ((s.length : Int) > ((s.length - rest.length : Nat) : Int)) := by
        have : 0 < rest.length := List.length_pos_iff.mpr hr
        omega
      rw [show (((s.length - rest.length : Nat) : Int) + 1) = ((s.length - rest.length + 1 : Nat) : Int) by omega,
        sliceFrom_nat, hdrop1, parseIsotime_eq]
      simp only [hlt, if_true, ne_eq, hr, not_false_eq_true]
      have hsep : (Option.map (fun c => [c]) cfg = none ∨ some (List.take 1 rest) = Option.map (fun c => [c]) cfg)
          ↔ (cfg = none ∨ List.take 1 rest = cfg.toList) := by
        cases cfg <;> simp
      by_cases hs : cfg = none ∨ List.take 1 rest = cfg.toList
      · simp only [hsep.mpr hs, hs, if_true]
        cases ht : Iso.parseIsotime (List.drop 1 rest) with
        | error e => rfl
        | ok c =>
          simp only [Except.map, ebind_ok, lget3, BytesPy.Comp.int.injEq]
          have hl8 : ((([BytesPy.Comp.int y, BytesPy.Comp.int m, BytesPy.Comp.int d] ++ compsOf c).length : Nat) : Int) > 3 := by
            simp [compsOf]
          by_cases h24 : c.h = 24
          · simp only [hl8, h24, and_self, if_true, datetimeStar8z]
            cases hm : mkDatetime y m d 0 c.m c.s c.us c.tz with
            | error e =>
              have := onlyVE_mkDatetime _ _ _ _ _ _ _ _ e hm
              subst this; rfl
            | ok v1 =>
              simp only [ebind_ok, try_addDays]
              have ho : v1.off = c.tz := (mkDatetime_inv _ _ _ _ _ _ _ _ _ hm).2 ▸ rfl
              rw [ho]
          · simp only [hl8, h24, and_false, if_false, datetimeStar8]
      · simp only [hs, (not_congr hsep).mpr hs, if_false]
        rfl

theorem parseTzstrEntry_eq (s : Bytes) (z : Bool) : Gen.parseTzstrEntry s z = Iso.parseTzstr s z := by
  unfold Gen.parseTzstrEntry; exact parseTzstr_eq s z

theorem parseIsodateEntry_eq (s : Bytes) :
    Gen.parseIsodateEntry s = (Iso.parseIsodateEntry s).map fun ymd => Cal.toOrdinal ymd.1 ymd.2.1 ymd.2.2 := by
  unfold Gen.parseIsodateEntry Iso.parseIsodateEntry
  rw [parseIsodate_eq]
  cases hp : Iso.parseIsodate s with
  | error e => rfl
  | ok q =>
    obtain ⟨⟨y, m, d⟩, rest⟩ := q
    obtain ⟨pre, es⟩ := parseIsodate_suffix s _ _ hp
    have hlen : rest.length ≤ s.length := by rw [es]; simp
    simp only [Except.map, bind, Except.bind, dateOut, BytesPy.len]
    by_cases hr : rest = []
    · subst hr
      simp only [List.length_nil, Int.natCast_zero, Int.sub_zero, Int.lt_irrefl, if_false, ne_eq, not_true_eq_false,
        BytesPy.dateStar, BytesPy.date]
      split <;> rfl
    · have : ((s.length : Int) - (rest.length : Int) < (s.length : Int)) := by
        have : 0 < rest.length := List.length_pos_iff.mpr hr
        omega
      simp [this, hr]

theorem timeStar_comps (c : TComps) :
    BytesPy.timeStar (compsOf c) =
      if 0 ≤ c.h ∧ c.h ≤ 23 ∧ 0 ≤ c.m ∧ c.m ≤ 59 ∧ 0 ≤ c.s ∧ c.s ≤ 59 ∧ 0 ≤ c.us ∧ c.us ≤ 999999
      then .ok (compsOf c) else .error .ValueError := by
  obtain ⟨h, mi, sec, us, tz⟩ := c
  cases tz <;> simp only [compsOf, BytesPy.timeStar, decide_eq_true_eq]

theorem parseIsotimeEntry_eq (s : Bytes) :
    Gen.parseIsotimeEntry s = (Iso.parseIsotimeEntry s).map compsOf := by
  unfold Gen.parseIsotimeEntry Iso.parseIsotimeEntry
  rw [parseIsotime_eq]
  cases hp : Iso.parseIsotime s with
  | error e => rfl
  | ok c =>
    simp only [Except.map, bind, Except.bind, lget_comps0, BytesPy.Comp.int.injEq]
    by_cases h24 : c.h = 24
    · rw [if_pos h24, if_pos h24]
      have := lset_comp c 0 (by omega) 0
      simp only [Int.natCast_zero] at this
      simp only [this, timeStar_comps, setComp, if_true]
      split <;> rfl
    · rw [if_neg h24, if_neg h24]
      simp only [timeStar_comps]
      split <;> rfl
/-- the model's input kinds as values of the translated code -/
def toVal : Iso.PyInput → BytesPy.PyVal
  | .str c => .str c
  | .bytes b => .bytes b
  | .streamStr c => .streamStr c
  | .streamBytes b => .streamBytes b

theorem takesAscii_eq {α} (f : Bytes → Py.R α) (i : Iso.PyInput) :
    Gen.takesAscii f (toVal i) = Iso.takesAscii f i := by
  cases i with
  | str c =>
    simp only [Gen.takesAscii, toVal, BytesPy.readAll, BytesPy.isText, BytesPy.encodeAscii, Iso.takesAscii, if_true]
    by_cases h : c.any (fun c => decide (c ≥ 128)) = true <;> simp [h, BytesPy.tryExcept, Except.bind, BytesPy.asBytes]
  | bytes b => simp [Gen.takesAscii, toVal, BytesPy.readAll, BytesPy.isText, Iso.takesAscii, Except.bind, BytesPy.asBytes]
  | streamStr c =>
    simp only [Gen.takesAscii, toVal, BytesPy.readAll, BytesPy.isText, BytesPy.encodeAscii, Iso.takesAscii, if_true]
    by_cases h : c.any (fun c => decide (c ≥ 128)) = true <;> simp [h, BytesPy.tryExcept, Except.bind, BytesPy.asBytes]
  | streamBytes b =>
    simp [Gen.takesAscii, toVal, BytesPy.readAll, BytesPy.isText, Iso.takesAscii, Except.bind, BytesPy.asBytes]

end IsoGen
