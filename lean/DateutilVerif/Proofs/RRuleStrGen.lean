/-
  Proofs/RRuleStrGen.lean — the prefix of `_rrulestr._parse_rfc` as translated (`Generated/RRuleStrKernels.lean`) equals the hand
  model (`Model/RRuleStr.lean`): the unfold loop never runs out of fuel and computes `ICal.unfold`; the prefix computes `upper`,
  the name table and `linesOf`.
-/
import DateutilVerif.Generated.RRuleStrKernels

namespace RRuleStr
open StrPy

theorem pos_append {α} (pre : List α) (x : α) (rest : List α) :
    pos (pre ++ x :: rest) (pre.length : Int) = .ok pre.length := by
  unfold pos
  have h1 : ¬ ((pre.length : Int) < 0) := by omega
  simp only [h1, if_false]
  simp
  omega

theorem getL_append {α} (pre : List α) (x : α) (rest : List α) :
    getL (pre ++ x :: rest) (pre.length : Int) = .ok x := by
  unfold getL Py.getIdx
  have h1 : ¬ ((pre.length : Int) < 0) := by omega
  simp only [h1, if_false]
  simp
  omega

theorem delL_append {α} (pre : List α) (x : α) (rest : List α) :
    delL (pre ++ x :: rest) (pre.length : Int) = .ok (pre ++ rest) := by
  unfold delL; rw [pos_append]; simp [List.eraseIdx_append_of_length_le]

theorem setL_append {α} (pre : List α) (x v : α) (rest : List α) :
    setL (pre ++ x :: rest) (pre.length : Int) v = .ok (pre ++ v :: rest) := by
  unfold setL; rw [pos_append]; simp

/-- one step of `ICal.unfold`'s fold (the accumulator is the list of kept lines, last first) -/
def unfoldStep (acc : List (List Char)) (raw : List Char) : List (List Char) :=
  match ICal.rstrip raw, acc with
  | [], _ => acc
  | ' ' :: rest, prev :: acc' => (prev ++ rest) :: acc'
  | _, _ => raw :: acc

theorem unfold_eq_foldl (lines : List (List Char)) : ICal.unfold lines = (lines.foldl unfoldStep []).reverse := rfl

theorem unfoldStep_empty {acc : List (List Char)} {raw : List Char} (h : ICal.rstrip raw = []) : unfoldStep acc raw = acc := by
  unfold unfoldStep; rw [h]

theorem unfoldStep_first {raw : List Char} {c : Char} {l : List Char} (h : ICal.rstrip raw = c :: l) :
    unfoldStep [] raw = [raw] := by
  unfold unfoldStep; rw [h]
  split
  · rename_i heq; cases heq
  · rename_i heq; cases heq
  · rfl

theorem unfoldStep_cont {raw prev l : List Char} {acc : List (List Char)} (h : ICal.rstrip raw = ' ' :: l) :
    unfoldStep (prev :: acc) raw = (prev ++ l) :: acc := by
  unfold unfoldStep; rw [h]
  split
  · rename_i heq; cases heq
  · rename_i heq1 heq2; cases heq1; cases heq2; rfl
  · rename_i hno; exact absurd rfl (hno l prev acc rfl)

theorem unfoldStep_keep {raw l : List Char} {c : Char} {acc : List (List Char)} (h : ICal.rstrip raw = c :: l) (hc : c ≠ ' ') :
    unfoldStep acc raw = raw :: acc := by
  unfold unfoldStep; rw [h]
  split
  · rename_i heq; cases heq
  · rename_i heq; simp only [List.cons.injEq] at heq; exact absurd heq.1 hc
  · rfl

/-- the translated `while` loop, started anywhere: with the kept lines `pre` before position `i = len(pre)` and `rest` still to
    look at, it ends without running out of fuel (`len(rest) < fuel`) and leaves `ICal.unfold`'s fold of `rest` onto `pre` -/
theorem unfoldLoop_spec : ∀ (rest pre : List (List Char)) (fuel : Nat), rest.length < fuel →
    ∃ n, Gen.rrsPrefixLoop fuel (pre.length : Int) (pre ++ rest) = .ok (n, (rest.foldl unfoldStep pre.reverse).reverse) := by
  intro rest
  induction rest with
  | nil =>
    intro pre fuel hf
    obtain ⟨f, rfl⟩ : ∃ f, fuel = f + 1 := ⟨fuel - 1, by simp at hf; omega⟩
    refine ⟨(pre.length : Int), ?_⟩
    unfold Gen.rrsPrefixLoop
    simp
  | cons raw rest ih =>
    intro pre fuel hf
    obtain ⟨f, rfl⟩ : ∃ f, fuel = f + 1 := ⟨fuel - 1, by simp at hf; omega⟩
    have hf' : rest.length < f := by simp at hf; omega
    have hlt : ((pre.length : Int) < ((pre ++ raw :: rest).length : Int)) := by
      simp only [List.length_append, List.length_cons]; omega
    unfold Gen.rrsPrefixLoop
    simp only [hlt, decide_true, if_true, getL_append, bind, Except.bind]
    cases hr : ICal.rstrip raw with
    | nil =>
      simp only [List.isEmpty_nil, if_true, delL_append]
      obtain ⟨n, hn⟩ := ih pre f hf'
      exact ⟨n, by rw [hn, List.foldl_cons, unfoldStep_empty hr]⟩
    | cons c l =>
      simp only [List.isEmpty_cons, Bool.false_eq_true, if_false]
      rcases List.eq_nil_or_concat pre with rfl | ⟨pre', prev, hpre⟩
      · -- i = 0: not a continuation
        simp only [List.length_nil, Int.ofNat_zero, gt_iff_lt, Int.lt_irrefl, decide_false, Bool.false_eq_true, if_false,
          List.nil_append]
        obtain ⟨n, hn⟩ := ih [raw] f hf'
        refine ⟨n, ?_⟩
        have : ((0 : Int) + 1) = (([raw] : List (List Char)).length : Int) := by simp
        rw [this]
        simpa [List.foldl_cons, unfoldStep_first hr] using hn
      · rw [List.concat_eq_append] at hpre; subst hpre
        have hpos : ((pre' ++ [prev]).length : Int) > 0 := by
          simp only [List.length_append, List.length_cons, List.length_nil]; omega
        have hg0 : getL (c :: l) (0 : Int) = .ok c := by
          have := getL_append ([] : List Char) c l
          simpa using this
        simp only [hpos, decide_true, if_true, hg0]
        have hi : ((pre' ++ [prev]).length : Int) - 1 = (pre'.length : Int) := by simp
        have hl : (pre' ++ [prev]) ++ raw :: rest = pre' ++ prev :: (raw :: rest) := by simp
        by_cases hc : c = ' '
        · subst hc
          simp only [beq_self_eq_true, if_true, hi, hl, getL_append, setL_append]
          have hl2 : pre' ++ (prev ++ sliceFrom (' ' :: l) 1) :: raw :: rest = (pre' ++ [prev ++ l]) ++ raw :: rest := by
            simp [sliceFrom]
          have hi2 : ((pre' ++ [prev]).length : Int) = ((pre' ++ [prev ++ l]).length : Int) := by simp
          rw [hl2, hi2, delL_append]
          dsimp only
          obtain ⟨n, hn⟩ := ih (pre' ++ [prev ++ l]) f hf'
          refine ⟨n, ?_⟩
          rw [hn, List.foldl_cons]
          simp only [List.reverse_append, List.reverse_cons, List.reverse_nil, List.nil_append, List.singleton_append]
          rw [unfoldStep_cont hr]
        · have hne : (c == ' ') = false := by simpa using hc
          simp only [hne, Bool.false_eq_true, if_false]
          obtain ⟨n, hn⟩ := ih ((pre' ++ [prev]) ++ [raw]) f hf'
          refine ⟨n, ?_⟩
          have hi3 : ((pre' ++ [prev]).length : Int) + 1 = (((pre' ++ [prev]) ++ [raw]).length : Int) := by
            simp only [List.length_append, List.length_cons, List.length_nil]; omega
          have hl3 : (pre' ++ [prev]) ++ raw :: rest = ((pre' ++ [prev]) ++ [raw]) ++ rest := by simp
          rw [hi3, hl3, hn, List.foldl_cons, unfoldStep_keep hr hc]
          simp

/-- **the translated unfold loop is `ICal.unfold`** and the declared bound `len(lines) + 1` is enough: it never runs out of fuel -/
theorem unfoldLoop_eq_unfold (lines : List (List Char)) :
    ∃ n, Gen.rrsPrefixLoop (lines.length + 1) 0 lines = .ok (n, ICal.unfold lines) := by
  have := unfoldLoop_spec lines [] (lines.length + 1) (by omega)
  simpa [unfold_eq_foldl] using this

/-- **the translated prefix of `_parse_rfc` is the model's**: `compatible` switches `forceset` and `unfold` on, the name table is
    `tzidTable` of the text AS WRITTEN (after `re.sub` when unfolding), the text is upper-cased, an all-blank text is a
    ValueError, and `lines` is `linesOf` — for every text and every flag combination -/
theorem gen_prefix_eq_model (s0 : List Char) (u f c : Bool) :
    Gen.rrsPrefix s0 u f c =
      if (ICal.strip (ICal.upper s0)).isEmpty then .error .ValueError
      else .ok (f || c, u || c, tzidTable s0 (u || c), ICal.upper s0, linesOf (ICal.upper s0) (u || c)) := by
  obtain ⟨n, hn⟩ := unfoldLoop_eq_unfold (ICal.splitLines (ICal.upper s0))
  unfold Gen.rrsPrefix
  cases c <;> cases u <;>
    simp [tzidTable, findTzids, stripFolds, tzidPattern, foldPattern, linesOf, unfoldLines, hn, bind, Except.bind]

end RRuleStr
