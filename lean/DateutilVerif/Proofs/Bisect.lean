/-
  Proofs/Bisect.lean — specification of the `bisect_right` loop on a sorted list:
  the result is the unique boundary `k` with `l[i] ≤ x` for `i < k` and `x < l[i]` for `i ≥ k`,
  i.e. `bisect_right l x − 1` is the index of the last element `≤ x`.
-/
import DateutilVerif.Model.Zones

namespace TZ

/-- sorted (non-strictly), by index -/
def SortedL (l : List Int) : Prop := ∀ i j, i < j → j < l.length → l.getD i 0 ≤ l.getD j 0

/-- `k` is the boundary of `x` in `l` -/
def Boundary (l : List Int) (x : Int) (k : Nat) : Prop :=
  k ≤ l.length ∧ (∀ i, i < k → l.getD i 0 ≤ x) ∧ (∀ i, k ≤ i → i < l.length → x < l.getD i 0)

theorem bisectGo_spec (l : List Int) (x : Int) (hs : SortedL l) :
    ∀ fuel lo hi, hi - lo ≤ fuel → lo ≤ hi → hi ≤ l.length →
      (∀ i, i < lo → l.getD i 0 ≤ x) → (∀ i, hi ≤ i → i < l.length → x < l.getD i 0) →
      Boundary l x (bisectGo l x fuel lo hi) := by
  intro fuel
  induction fuel with
  | zero =>
      intro lo hi hf hle hn h1 h2
      have : lo = hi := by omega
      subst this
      exact ⟨hn, h1, h2⟩
  | succ f ih =>
      intro lo hi hf hle hn h1 h2
      unfold bisectGo
      by_cases hlt : lo < hi
      · rw [if_pos hlt]
        have hm1 : lo ≤ (lo + hi) / 2 := by omega
        have hm2 : (lo + hi) / 2 < hi := by omega
        by_cases hx : x < l.getD ((lo + hi) / 2) 0
        · rw [if_pos hx]
          apply ih lo ((lo + hi) / 2) (by omega) hm1 (by omega) h1
          intro i hi1 hi2
          by_cases e : i = (lo + hi) / 2
          · subst e; exact hx
          · have := hs ((lo + hi) / 2) i (by omega) hi2
            omega
        · rw [if_neg hx]
          apply ih ((lo + hi) / 2 + 1) hi (by omega) (by omega) hn _ h2
          intro i hi1
          by_cases e : i = (lo + hi) / 2
          · subst e; omega
          · have := hs i ((lo + hi) / 2) (by omega) (by omega)
            omega
      · rw [if_neg hlt]
        have : lo = hi := by omega
        subst this
        exact ⟨hn, h1, h2⟩

/-- without any sortedness: the loop stays inside `[lo, hi]` -/
theorem bisectGo_le (l : List Int) (x : Int) :
    ∀ fuel lo hi, lo ≤ hi → bisectGo l x fuel lo hi ≤ hi := by
  intro fuel
  induction fuel with
  | zero => intro lo hi h; exact h
  | succ f ih =>
      intro lo hi h
      unfold bisectGo
      by_cases hlt : lo < hi
      · rw [if_pos hlt]
        by_cases hx : x < l.getD ((lo + hi) / 2) 0
        · rw [if_pos hx]; have := ih lo ((lo + hi) / 2) (by omega); omega
        · rw [if_neg hx]; exact ih _ _ (by omega)
      · rw [if_neg hlt]; exact h

theorem boundary_unique {l : List Int} {x : Int} {a b : Nat}
    (ha : Boundary l x a) (hb : Boundary l x b) : a = b := by
  obtain ⟨ha0, ha1, ha2⟩ := ha
  obtain ⟨hb0, hb1, hb2⟩ := hb
  by_cases h : a < b
  · have := hb1 a h; have := ha2 a (Nat.le_refl _) (by omega); omega
  by_cases h' : b < a
  · have := ha1 b h'; have := hb2 b (Nat.le_refl _) (by omega); omega
  omega

/-- **bisect specification.** On a sorted list `bisect_right l x` is the boundary of `x`. -/
theorem bisectRight_spec {l : List Int} (x : Int) (hs : SortedL l) : Boundary l x (bisectRight l x) := by
  unfold bisectRight
  apply bisectGo_spec l x hs l.length 0 l.length (by omega) (by omega) (Nat.le_refl _)
  · intro i hi; omega
  · intro i h1 h2; omega

/-- the workhorse: to show `bisect_right l x = k` exhibit the boundary -/
theorem bisectRight_eq {l : List Int} {x : Int} {k : Nat} (hs : SortedL l) (hk : Boundary l x k) :
    bisectRight l x = k := boundary_unique (bisectRight_spec x hs) hk

theorem sorted_of_step {l : List Int} (h : ∀ i, i + 1 < l.length → l.getD i 0 ≤ l.getD (i + 1) 0) :
    SortedL l := by
  intro i j hij hj
  induction j with
  | zero => omega
  | succ k ih =>
      by_cases e : i = k
      · subst e; exact h i hj
      · have := ih (by omega) (by omega)
        have := h k hj
        omega

end TZ
