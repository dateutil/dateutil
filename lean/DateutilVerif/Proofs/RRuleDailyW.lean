/-
  Proofs/RRuleDailyW.lean — DAILY with BYWEEKNO (complement of D-C01c): `iter_eq_spec_daily_filter` over the day filter of
  Proofs/RRuleWFilter.lean.
-/
import DateutilVerif.Proofs.RRuleWFilter

namespace RRule
open Cal

/-- DAILY argument sets with BYWEEKNO absent or on the complement of D-C01c -/
structure DailyWArgs (a : Args) : Prop where
  freq : a.freq = 3
  interval : 1 ≤ a.interval
  valid : a.dtstart.Valid
  weekno : WArg a
  byeaster : a.byeaster = none
  monthday_nz : ∀ x ∈ a.bymonthday.getD [], x ≠ 0

variable {a : Args} {r : Rule}

/-- the normalised rule of a DAILY / WEEKLY argument set without BYEASTER, up to the three unit lists -/
abbrev dailyWRuleOf (a : Args) (bh bm bs : Option (List Int)) : Rule :=
  { freq := a.freq, interval := a.interval, wkst := a.wkst.getD 0,
    dtstart := { a.dtstart with us := 0 }, tz := a.tz, count := a.count, untilDT := a.untilDT,
    bysetpos := a.bysetpos, bymonth := a.bymonth.map sortedSet, bymonthday := bymonthdayOf a,
    bynmonthday := bynmonthdayOf a, byyearday := a.byyearday.map sortedSet,
    byeaster := none, byweekno := a.byweekno.map sortedSet,
    byweekday := byweekdayOf a, bynweekday := bynweekdayOf a,
    byhour := bh, byminute := bm, bysecond := bs,
    timeset := some (Spec.RRule.timesOf a none none none) }

/-- "the model state at the start of period `k`": `DayGood` over the filter of `WRule`s (`daily_w_good`) -/
structure DailyWGood (a : Args) (r : Rule) (k : Nat) (st : State) : Prop where
  facts : YearFacts r st.cur.year st.info
  inv : WInv r st.info
  valid : ValidYMD st.cur.year st.cur.month st.cur.day
  ord : curOrd st.cur = Spec.RRule.startOrd a + k * a.interval
  timeset : st.timeset = Spec.RRule.timesOf a none none none

theorem daily_w_good {h : construct a = .ok r} {hf hi hv hw he hz} {k : Nat} {st : State}
    (hg : DayGood (wFilter h hf hi hv hw he hz) k st) : DailyWGood a r k st :=
  ⟨hg.facts, hg.inv, hg.valid, hg.ord, hg.timeset⟩

/-- **`iter_eq_spec`, DAILY with BYWEEKNO** (absent, or on the complement of D-C01c with a week start 0..6) -/
theorem iter_eq_spec_daily_w (da : DailyWArgs a) (h : construct a = .ok r) (n : Nat)
    (hn : Spec.RRule.startOrd a + n * a.interval ≤ maxOrdinal) :
    (iter r n).1 = Spec.RRule.occ a n := by
  have hv := da.valid
  unfold DT.Valid ValidDate at hv
  exact iter_eq_spec_daily_filter
    (wFilter h (by rw [da.freq]; omega) da.interval da.valid da.weekno da.byeaster da.monthday_nz) h da.freq
    da.interval da.valid n hv.1.1 hn

end RRule
