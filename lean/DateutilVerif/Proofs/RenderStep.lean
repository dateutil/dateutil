/-
  Proofs/RenderStep.lean — what one round of the token scan does on each kind of token the renderings of C02 contain,
  stated once for VARIABLE tokens, neighbours and scan state, in the form of a rewriting rule for `parseLoop`
  (`loop_*`: so many tokens consumed, the state so changed).  A template's run is a chain of these, each applied by
  `refine (loop_… (by rfl) …).trans ?_`: the segment hypotheses `(l.drop i).take k = […]` are closed by `rfl` once the goal
  has fixed the token list.  The rules speak about `{ l := l, res := res, ymd := ymd, skipped := sk }` with the four fields as
  variables, not about a state `st`: a chain of `{ st with … }` would repeat the whole previous state in every field.
-/
import DateutilVerif.Proofs.RenderIsoX
import DateutilVerif.Spec.ParserTemplatesGen

namespace PM
open Py PT

@[simp] theorem dval_1 (n : Nat) (h : n < 10) : dval [n] = n := by simp [dval, dvalAcc]; omega

/-- what the scan needs to know about a month word and a weekday word -/
structure MonWord (cls : Char → CClass) (info : Info) (t : Token) (m : Nat) : Prop where
  float : floatOk cls t = false
  wd : info.weekdayOf t = none
  mo : info.monthOf t = some m
  hms : info.hmsOf t = none
  ampm : info.ampmOf t = none
  jump : info.isJump t = false
  isdig : isDigitTok cls t = false
structure WdWord (cls : Char → CClass) (info : Info) (t : Token) (w : Nat) : Prop where
  float : floatOk cls t = false
  wd : info.weekdayOf t = some w

/-- `'%d' % d` as a token -/
def dayTok (d : Nat) : Token := if d < 10 then dtok [d] else dtok [d / 10, d]
def y4 (y : Nat) : Token := dtok [y / 1000, y / 100, y / 10, y]

/-- `t` spells the number `v` with `n` decimal digits -/
def IsNum (t : Token) (v n : Nat) : Prop := ∃ k ks, t = dtok (k :: ks) ∧ dval (k :: ks) = v ∧ ks.length + 1 = n

theorem isNum_pad2 (a : Nat) (h : a < 100) : IsNum (dtok [a / 10, a]) a 2 := ⟨_, _, rfl, dval_pad2 a h, rfl⟩
theorem isNum_y4 (y : Nat) (h : y < 10000) : IsNum (y4 y) y 4 := ⟨_, _, rfl, dval_pad4 y h, rfl⟩
theorem isNum_dayTok (d : Nat) (h : d < 100) : ∃ n, n ≤ 2 ∧ IsNum (dayTok d) d n := by
  unfold dayTok
  split
  · exact ⟨1, by omega, _, _, rfl, dval_1 d (by assumption), rfl⟩
  · exact ⟨2, by omega, isNum_pad2 d h⟩

/-- a number of `n` digits is NOT the `HH[MM]` that `_parse_numeric_token` reads first of all: two or four digits after a
    complete date (three `_ymd` members) while no hour is known -/
def NotBareHHMM (ymd : Ymd) (res : Res) (n : Nat) : Prop :=
  ymd.vals.length ≠ 3 ∨ (n ≠ 2 ∧ n ≠ 4) ∨ res.hour.isSome = true

/-- `_ymd.append` of an unlabelled value: `big` (more than two digits / above 100) makes it the year -/
def Ymd.push (y : Ymd) (big : Bool) (v : Nat) : Ymd :=
  { y with vals := y.vals ++ [v], century := y.century || big, yIdx := if big then some y.vals.length else y.yIdx }

theorem appendCore_push (y : Ymd) (big : Bool) (v : Nat) (hy : big = false ∨ y.yIdx = none) :
    y.appendCore big (.ok v) .none = .ok (y.push big v) := by
  cases big with
  | false => simp [Ymd.appendCore, Ymd.push]
  | true =>
    have h : y.yIdx = none := by rcases hy with h | h; cases h; exact h
    simp [Ymd.appendCore, Ymd.push, h]

/-- the numbers a valid datetime is rendered with -/
structure DTNums (t : DT) : Prop where
  y : IsNum (y4 t.y.toNat) t.y.toNat 4
  yy : IsNum (dtok [(t.y.toNat % 100) / 10, t.y.toNat % 100]) (t.y.toNat % 100) 2
  m : IsNum (dtok [t.m.toNat / 10, t.m.toNat]) t.m.toNat 2
  d : IsNum (dtok [t.d.toNat / 10, t.d.toNat]) t.d.toNat 2
  hh : IsNum (dtok [t.hh.toNat / 10, t.hh.toNat]) t.hh.toNat 2
  mm : IsNum (dtok [t.mm.toNat / 10, t.mm.toNat]) t.mm.toNat 2
  ss : IsNum (dtok [t.ss.toNat / 10, t.ss.toNat]) t.ss.toNat 2
  by' : t.y.toNat < 10000
  bm : 1 ≤ t.m.toNat ∧ t.m.toNat ≤ 12
  bd : 1 ≤ t.d.toNat ∧ t.d.toNat ≤ 31
  bh : t.hh.toNat < 24
  bmm : t.mm.toNat < 60
  bss : t.ss.toNat < 60
  ey : ((t.y.toNat : Nat) : Int) = t.y
  em : ((t.m.toNat : Nat) : Int) = t.m
  ed : ((t.d.toNat : Nat) : Int) = t.d
  eh : ((t.hh.toNat : Nat) : Int) = t.hh
  emi : ((t.mm.toNat : Nat) : Int) = t.mm
  es : ((t.ss.toNat : Nat) : Int) = t.ss

theorem dtNums {t : DT} (ht : t.Valid) : DTNums t := by
  obtain ⟨⟨hy1, hy2, hm1, hm2, hd1, hd2⟩, hh1, hh2, hmi1, hmi2, hs1, hs2, hu1, hu2⟩ := ht
  have hdim := (Cal.daysInMonth_bounds t.y t.m).2
  exact ⟨isNum_y4 _ (by omega), isNum_pad2 _ (by omega), isNum_pad2 _ (by omega), isNum_pad2 _ (by omega), isNum_pad2 _ (by omega),
    isNum_pad2 _ (by omega), isNum_pad2 _ (by omega), by omega, by omega, by omega, by omega, by omega, by omega,
    Int.toNat_of_nonneg (by omega), Int.toNat_of_nonneg (by omega), Int.toNat_of_nonneg (by omega), Int.toNat_of_nonneg hh1,
    Int.toNat_of_nonneg hmi1, Int.toNat_of_nonneg hs1⟩

theorem isNum_dayTok1 (d : Nat) (h : d < 10) : IsNum (dayTok d) d 1 := by
  unfold dayTok; rw [if_pos h]; exact ⟨_, _, rfl, dval_1 d h, rfl⟩
theorem isNum_dayTok2 (d : Nat) (h : ¬ d < 10) (h' : d < 100) : IsNum (dayTok d) d 2 := by
  unfold dayTok; rw [if_neg h]; exact isNum_pad2 d h'

theorem ne_colon_of_len {w : Token} (h : w.length = 2) : some w ≠ some [':'] :=
  fun e => by rw [Option.some.inj e] at h; cases h

theorem getElem?_lt {α} {l : List α} {i : Nat} {a : α} (h : l[i]? = some a) : i < l.length := by
  rcases Nat.lt_or_ge i l.length with h' | h'
  · exact h'
  · rw [List.getElem?_eq_none h'] at h; cases h

section
variable (cls : Char → CClass) (info : Info) (fz : Bool) (lenL : Nat)

theorem parseLoop_skip : ∀ (k fuel i : Nat) (st : PState),
    parseLoop cls info fz lenL (fuel + k) i k st = parseLoop cls info fz lenL fuel (i + k) 0 st
  | 0, _, _, _ => rfl
  | k + 1, fuel, i, st => by
    show parseLoop cls info fz lenL (fuel + k) (i + 1) k st = _
    rw [parseLoop_skip k fuel (i + 1) st, Nat.add_assoc, Nat.add_comm 1 k]

/-- one round that succeeds: `adv` further tokens are consumed with it -/
theorem loop_of_step {i : Nat} {st st' : PState} {adv : Nat} (h : parseStep cls info fz lenL i st = .ok (adv, st')) (fuel : Nat) :
    parseLoop cls info fz lenL (fuel + (adv + 1)) i 0 st = parseLoop cls info fz lenL fuel (i + (adv + 1)) 0 st' := by
  show parseLoop cls info fz lenL (fuel + adv + 1) i 0 st = _
  conv => lhs; unfold parseLoop
  rw [h]
  show parseLoop cls info fz lenL (fuel + adv) (i + 1) adv st' = _
  rw [parseLoop_skip, Nat.add_assoc, Nat.add_comm 1 adv]
end

/-- what the scan needs to know about an AM/PM word -/
structure ApWord (cls : Char → CClass) (info : Info) (w : Token) (ap : Nat) : Prop where
  float : floatOk cls w = false
  wd : info.weekdayOf w = none
  mo : info.monthOf w = none
  ap : info.ampmOf w = some ap
  hms : info.hmsOf w = none
  jump : info.isJump w = false
  len : w.length = 2

theorem apWord_ok (cls : Char → CClass) [AsciiOK cls] (df yf : Bool) (year century : Int) (h : Nat) :
    ApWord cls (Info.default df yf year century) (apWord h) (if h < 12 then 0 else 1) := by
  unfold apWord
  split
  · obtain ⟨a, b, c, d, e⟩ := ampm_facts df yf year century ['A', 'M'] 0 (by simp)
    exact ⟨fl_ampm cls _ (by simp), a, b, e, c, d, rfl⟩
  · obtain ⟨a, b, c, d, e⟩ := ampm_facts df yf year century ['P', 'M'] 1 (by simp)
    exact ⟨fl_ampm cls _ (by simp), a, b, e, c, d, rfl⟩

theorem apLow_ok (cls : Char → CClass) [AsciiOK cls] (df yf : Bool) (year century : Int) (h : Nat) :
    ApWord cls (Info.default df yf year century) (apLow h) (if h < 12 then 0 else 1) := by
  unfold apLow
  split
  · obtain ⟨a, b, c, d, e⟩ := ampm_facts df yf year century ['a', 'm'] 0 (by simp)
    exact ⟨fl_ampm cls _ (by simp), a, b, e, c, d, rfl⟩
  · obtain ⟨a, b, c, d, e⟩ := ampm_facts df yf year century ['p', 'm'] 1 (by simp)
    exact ⟨fl_ampm cls _ (by simp), a, b, e, c, d, rfl⟩

/-- reading a token off a segment of the list -/
theorem seg_get {α} {l s : List α} {i n : Nat} (h : (l.drop i).take n = s) (j : Nat) (hj : j < n) : l[i + j]? = s[j]? := by
  rw [← h, List.getElem?_take_of_lt hj, List.getElem?_drop]

/-- a segment of a known initial part of the list -/
theorem seg_of_take {α} {l xs : List α} {n : Nat} (h : l.take n = xs) (i k : Nat) (hik : i + k ≤ n) :
    (l.drop i).take k = (xs.drop i).take k := by
  rw [← h, List.drop_take, List.take_take, Nat.min_eq_left (by omega)]

section
variable {cls : Char → CClass} [AsciiOK cls] {df yf : Bool} {year century : Int} {fz : Bool} {lenL : Nat}
local notation "I" => Info.default df yf year century

/-! ### what the scan asks about a number -/

theorem isJump_num {t : Token} {v n : Nat} (ht : IsNum t v n) : (I).isJump t = false := by
  obtain ⟨k, ks, rfl, rfl, rfl⟩ := ht; exact isJump_dtok ..
theorem hmsOf_num {t : Token} {v n : Nat} (ht : IsNum t v n) : (I).hmsOf t = none := by
  obtain ⟨k, ks, rfl, rfl, rfl⟩ := ht; exact hmsOf_dtok ..
theorem ampmOf_num {t : Token} {v n : Nat} (ht : IsNum t v n) : (I).ampmOf t = none := by
  obtain ⟨k, ks, rfl, rfl, rfl⟩ := ht; exact ampmOf_dtok ..
theorem isPertain_num {t : Token} {v n : Nat} (ht : IsNum t v n) : (I).isPertain t = false := by
  obtain ⟨k, ks, rfl, rfl, rfl⟩ := ht; exact isPertain_dtok ..
theorem parsems_num {t : Token} {v n : Nat} (ht : IsNum t v n) (hn : n < 100) : parsems cls t = .ok (v, 0) := by
  obtain ⟨k, ks, rfl, rfl, rfl⟩ := ht; exact parsems_dtok cls k ks (by omega)

theorem appendTok_num (y : Ymd) {t : Token} {v n : Nat} (ht : IsNum t v n) (hn : n < 100) (hy : n ≤ 2 ∨ y.yIdx = none) :
    y.appendTok cls t = .ok (y.push (decide (2 < n)) v) := by
  obtain ⟨k, ks, rfl, rfl, rfl⟩ := ht
  unfold Ymd.appendTok
  rw [isDigitTok_dtok, length_dtok, Bool.true_and, pyInt_dtok cls k ks (by omega)]
  exact appendCore_push y _ _ (by rcases hy with h | h; exact Or.inl (by simpa using h); exact Or.inr h)

theorem sepSecond_num (y : Ymd) {t : Token} {v n : Nat} (ht : IsNum t v n) (hn : n < 100) (hy : n ≤ 2 ∨ y.yIdx = none) :
    sepSecond cls (I) y t = .ok (y.push (decide (2 < n)) v) := by
  have h := appendTok_num (cls := cls) y ht hn hy
  obtain ⟨k, ks, rfl, rfl, rfl⟩ := ht
  rw [sepSecond, isDigitTok_dtok, if_pos rfl, h]

theorem sepThird_num (y : Ymd) {t : Token} {v n : Nat} (ht : IsNum t v n) (hn : n < 100) (hy : n ≤ 2 ∨ y.yIdx = none) :
    sepThird cls (I) y t = .ok (y.push (decide (2 < n)) v) := by
  have h := appendTok_num (cls := cls) y ht hn hy
  obtain ⟨k, ks, rfl, rfl, rfl⟩ := ht
  rw [sepThird, monthOf_dtok, h]

theorem sepSecond_mon (y : Ymd) {t : Token} {m : Nat} (ht : MonWord cls (I) t m) (hm : m ≤ 100) (hy : y.mIdx = none) :
    sepSecond cls (I) y t = .ok { y with vals := y.vals ++ [m], mIdx := some y.vals.length } := by
  have : ¬ m > 100 := by omega
  simp [sepSecond, ht.isdig, ht.mo, Ymd.appendNat, Ymd.appendCore, this, hy]

theorem appendDec_num (y : Ymd) (v : Nat) (hy : decide (100 < v) = false ∨ y.yIdx = none) :
    y.appendDec ⟨v, 0⟩ = .ok (y.push (decide (100 < v)) v) := by
  unfold Ymd.appendDec
  rw [toNat_int]
  have e : Dec.gtNat ⟨v, 0⟩ 100 = decide (100 < v) := by simp [Dec.gtNat]
  rw [e]
  exact appendCore_push y _ _ hy

/-- a token that is in no table (or is only a jump word) and no zone name here: skipped -/
theorem loop_skip {l : List Token} {res : Res} {ymd : Ymd} {sk : List Nat} {i fuel : Nat} {w : Token} (l0 : l[i]? = some w)
    (hfl : floatOk cls w = false) (hwd : (I).weekdayOf w = none) (hmo : (I).monthOf w = none) (hap : (I).ampmOf w = none)
    (htz : couldBeTzname (I) res.hour res.tzname res.tzoffset w = false)
    (hpm : res.hour = none ∨ (w ≠ ['+'] ∧ w ≠ ['-'])) (hj : (I).isJump w = true ∨ fz = true) :
    parseLoop cls (I) fz lenL (fuel + 1) i 0 { l := l, res := res, ymd := ymd, skipped := sk } =
      parseLoop cls (I) fz lenL fuel (i + 1) 0 { l := l, res := res, ymd := ymd, skipped := sk ++ [i] } := by
  refine loop_of_step cls (I) fz lenL (adv := 0) ?_ fuel
  have h1 : ¬ (res.hour.isSome = true ∧ (w = ['+'] ∨ w = ['-'])) := by
    rintro ⟨h, h'⟩
    rcases hpm with hp | hp
    · rw [hp] at h; cases h
    · rcases h' with h' | h'
      · exact hp.1 h'
      · exact hp.2 h'
  have h2 : (!((I).isJump w || fz)) = false := by rcases hj with h | h <;> simp [h]
  unfold parseStep
  simp only [tokAt, l0, bind, Except.bind, hfl, Bool.false_eq_true, if_false, hwd, hmo, hap, htz, h1, h2, pure, Except.pure]

theorem loop_sp {l : List Token} {res : Res} {ymd : Ymd} {sk : List Nat} {i fuel : Nat} (l0 : l[i]? = some [' ']) :
    parseLoop cls (I) fz lenL (fuel + 1) i 0 { l := l, res := res, ymd := ymd, skipped := sk } =
      parseLoop cls (I) fz lenL fuel (i + 1) 0 { l := l, res := res, ymd := ymd, skipped := sk ++ [i] } :=
  loop_skip l0 (fl_sp cls) (wd_sp ..) (mo_sp ..) (ap_sp ..) (cbt_sp ..) (Or.inr (by decide)) (Or.inl (jp_sp ..))

/-- a month word with neither `-`, `/` nor ` of ` behind it -/
theorem loop_month {l : List Token} {res : Res} {ymd : Ymd} {sk : List Nat} {i fuel : Nat} {Mo X Y : Token} {m : Nat} (hseg : (l.drop i).take 3 = [Mo, X, Y])
    (hMo : MonWord cls (I) Mo m) (hm : m ≤ 100) (hX : X ≠ ['-'] ∧ X ≠ ['/']) (hY : (I).isPertain Y = false)
    (hy : ymd.mIdx = none) :
    parseLoop cls (I) fz lenL (fuel + 1) i 0 { l := l, res := res, ymd := ymd, skipped := sk } =
      parseLoop cls (I) fz lenL fuel (i + 1) 0
        { l := l, res := res, ymd := { ymd with vals := ymd.vals ++ [m], mIdx := some ymd.vals.length }, skipped := sk } := by
  have l0 : l[i]? = some Mo := seg_get hseg 0 (by omega)
  have l1 : l[i + 1]? = some X := seg_get hseg 1 (by omega)
  have hof : (l[i + 2]?).any (I).isPertain = false := by simp only [seg_get hseg 2 (by omega), List.getElem?_cons_succ, List.getElem?_cons_zero, Option.any_some, hY]
  refine loop_of_step cls (I) fz lenL (adv := 0) ?_ fuel
  have hA : ymd.appendNat m .M = .ok { ymd with vals := ymd.vals ++ [m], mIdx := some ymd.vals.length } := by
    have : ¬ m > 100 := by omega
    simp [Ymd.appendNat, Ymd.appendCore, this, hy]
  unfold parseStep
  simp only [tokAt, l0, bind, Except.bind, hMo.float, Bool.false_eq_true, if_false, hMo.wd, hMo.mo]
  unfold stepMonth
  simp only [hA, bind, Except.bind, tokAt, l1, hX.1, hX.2, or_self, if_false, hof, Bool.false_eq_true, and_false, ite_self,
    pure, Except.pure]

/-- an AM/PM word behind an hour of the 12-hour clock -/
theorem loop_ampm {l : List Token} {res : Res} {ymd : Ymd} {sk : List Nat} {i fuel : Nat} {AP : Token} {ap h h' : Nat} (l0 : l[i]? = some AP)
    (hAP : ApWord cls (I) AP ap) (hh : res.hour = some h) (h12 : h ≤ 12) (hno : res.ampm = none) (hadj : adjustAmpm h ap = h') :
    parseLoop cls (I) fz lenL (fuel + 1) i 0 { l := l, res := res, ymd := ymd, skipped := sk } =
      parseLoop cls (I) fz lenL fuel (i + 1) 0 { l := l, res := { res with hour := some h', ampm := some ap }, ymd := ymd, skipped := sk } := by
  refine loop_of_step cls (I) fz lenL (adv := 0) ?_ fuel
  unfold parseStep
  simp only [tokAt, l0, bind, Except.bind, hAP.float, Bool.false_eq_true, if_false, hAP.wd, hAP.mo, hAP.ap, stepAmpm, ampmValid, hh, h12,
    decide_true, Bool.not_true, hno, Option.isSome_none, Bool.and_false, hadj, pure, Except.pure]

theorem loop_weekday {l : List Token} {res : Res} {ymd : Ymd} {sk : List Nat} {i fuel : Nat} {W : Token} {w : Nat} (l0 : l[i]? = some W) (hW : WdWord cls (I) W w) :
    parseLoop cls (I) fz lenL (fuel + 1) i 0 { l := l, res := res, ymd := ymd, skipped := sk } =
      parseLoop cls (I) fz lenL fuel (i + 1) 0 { l := l, res := { res with weekday := some w }, ymd := ymd, skipped := sk } := by
  refine loop_of_step cls (I) fz lenL (adv := 0) ?_ fuel
  unfold parseStep
  simp only [tokAt, l0, bind, Except.bind, hW.float, Bool.false_eq_true, if_false, hW.wd, pure, Except.pure]

theorem loop_comma {l : List Token} {res : Res} {ymd : Ymd} {sk : List Nat} {i fuel : Nat} (l0 : l[i]? = some [',']) :
    parseLoop cls (I) fz lenL (fuel + 1) i 0 { l := l, res := res, ymd := ymd, skipped := sk } =
      parseLoop cls (I) fz lenL fuel (i + 1) 0 { l := l, res := res, ymd := ymd, skipped := sk ++ [i] } :=
  loop_skip l0 (fl_comma cls) (wd_comma ..) (mo_comma ..) (ap_comma ..) (cbt_comma ..) (Or.inr (by decide)) (Or.inl (jp_comma ..))

/-- the letter `T` before any hour is known -/
theorem loop_T {l : List Token} {res : Res} {ymd : Ymd} {sk : List Nat} {i fuel : Nat} (l0 : l[i]? = some ['T']) (hh : res.hour = none) :
    parseLoop cls (I) fz lenL (fuel + 1) i 0 { l := l, res := res, ymd := ymd, skipped := sk } =
      parseLoop cls (I) fz lenL fuel (i + 1) 0 { l := l, res := res, ymd := ymd, skipped := sk ++ [i] } :=
  loop_skip l0 (fl_T cls) (wd_T ..) (mo_T ..) (ap_T ..) (by simp only [hh, cbt_none]) (Or.inl hh) (Or.inl (jp_T ..))

/-- the separator between date and time: a space, or `T` before any hour is known -/
theorem loop_sp_or_T {l : List Token} {res : Res} {ymd : Ymd} {sk : List Nat} {i fuel : Nat} {S : Token} (l0 : l[i]? = some S)
    (hS : S = [' '] ∨ S = ['T']) (hh : res.hour = none) :
    parseLoop cls (I) fz lenL (fuel + 1) i 0 { l := l, res := res, ymd := ymd, skipped := sk } =
      parseLoop cls (I) fz lenL fuel (i + 1) 0 { l := l, res := res, ymd := ymd, skipped := sk ++ [i] } := by
  rcases hS with rfl | rfl
  · exact loop_sp l0
  · exact loop_T l0 hh

/-- a zone name that is the last token -/
theorem step_tzname_end {l : List Token} {res : Res} {ymd : Ymd} {sk : List Nat} {i : Nat} {Z : Token} (l0 : l[i]? = some Z)
    (hlen : lenL ≤ i + 1) (hfl : floatOk cls Z = false) (hwd : (I).weekdayOf Z = none) (hmo : (I).monthOf Z = none)
    (hap : (I).ampmOf Z = none) (hcb : couldBeTzname (I) res.hour res.tzname res.tzoffset Z = true) :
    parseStep cls (I) fz lenL i { l := l, res := res, ymd := ymd, skipped := sk } =
      .ok (0, { l := l, res := { res with tzname := some Z, tzoffset := (I).tzoffsetOf Z }, ymd := ymd, skipped := sk }) := by
  unfold parseStep
  simp only [tokAt, l0, bind, Except.bind, hfl, Bool.false_eq_true, if_false, hwd, hmo, hap, hcb, if_true, stepTzname,
    if_neg (show ¬ i + 1 < lenL by omega), pure, Except.pure]

/-- a sign behind an hour, then the offset digits as the last tokens: `±HH`, `±HHMM`, `±HH:MM` -/
theorem step_tzoffset_end {l : List Token} {res : Res} {ymd : Ymd} {sk : List Nat} {i : Nat} {S : Token} {h m k hr : Nat}
    (l0 : l[i]? = some S) (hS : S = ['+'] ∨ S = ['-']) (hh : res.hour = some hr)
    (hd : tzOffsetDigits cls l lenL i = .ok (h, m, k)) (hlen : lenL ≤ i + k + 5) :
    parseStep cls (I) fz lenL i { l := l, res := res, ymd := ymd, skipped := sk } =
      .ok (k + 1, { l := l, res := { res with tzoffset := some ((if S = ['+'] then 1 else -1) * ((h : Int) * 3600 + (m : Int) * 60)) },
                    ymd := ymd, skipped := sk }) := by
  have hfl : floatOk cls S = false := by rcases hS with rfl | rfl; exact fl_plus cls; exact fl_dash cls
  have hwd : (I).weekdayOf S = none := by rcases hS with rfl | rfl; exact wd_plus ..; exact wd_dash ..
  have hmo : (I).monthOf S = none := by rcases hS with rfl | rfl; exact mo_plus ..; exact mo_dash ..
  have hap : (I).ampmOf S = none := by rcases hS with rfl | rfl; exact ap_plus ..; exact ap_dash ..
  have hcb : couldBeTzname (I) res.hour res.tzname res.tzoffset S = false := by
    rcases hS with rfl | rfl; exact cbt_plus ..; exact cbt_minus ..
  rw [hh] at hcb
  unfold parseStep
  simp only [tokAt, l0, bind, Except.bind, hfl, Bool.false_eq_true, if_false, hwd, hmo, hap, hcb, hh, Option.isSome_some, hS,
    and_self, if_true, stepTzoffset, hd, tzParenName, if_neg (show ¬ i + k + 5 < lenL by omega), pure, Except.pure]

/-- a numeric token: the round is `_parse_numeric_token` -/
theorem loop_num {l : List Token} {res : Res} {ymd : Ymd} {sk : List Nat} {i fuel : Nat} {t : Token} {v n : Nat} (adv : Nat) {ymd' : Ymd} {res' : Res}
    (l0 : l[i]? = some t) (ht : IsNum t v n)
    (h : parseNumericToken cls (I) fz l i ymd res = .ok (adv, ymd', res')) :
    parseLoop cls (I) fz lenL (fuel + (adv + 1)) i 0 { l := l, res := res, ymd := ymd, skipped := sk } =
      parseLoop cls (I) fz lenL fuel (i + (adv + 1)) 0 { l := l, res := res', ymd := ymd', skipped := sk } := by
  obtain ⟨k, ks, rfl, rfl, rfl⟩ := ht
  refine loop_of_step cls (I) fz lenL ?_ fuel
  unfold parseStep
  simp only [tokAt, l0, bind, Except.bind, floatOk_dtok, if_true, h, pure, Except.pure]

/-- no h/m/s word next to position `i`: not behind it, not one or (over a space) two tokens further.  `_find_hms_idx` looks at
    `idx - 1` only when `idx > 0`; with truncated subtraction `l[i - 1]?` is the token itself at `i = 0`, so one statement
    covers both cases (at the start of the list the caller passes the token's own fact). -/
theorem findHms_none {l : List Token} {i : Nat} {p x : Token} (hp : l[i - 1]? = some p) (hph : (I).hmsOf p = none)
    (l1 : l[i + 1]? = some x) (hx : (I).hmsOf x = none) (hx2 : x = [' '] → (l[i + 2]?).bind (I).hmsOf = none) :
    findHmsIdx (I) i l true = none := by
  have h1 := getElem?_lt l1
  unfold findHmsIdx
  -- rewriting with `Option.bind_some` and the facts, not `exact` up to unfolding: the unifier would evaluate the parserinfo tables
  simp only [hp, l1, Option.bind_some, hx, hph, Option.isSome_none, Bool.false_eq_true, and_false, if_false, Option.map_none]
  rw [if_neg (by rintro ⟨_, _, h1, h2⟩; rw [hx2 (Option.some.inj h1)] at h2; cases h2), if_neg (by omega)]

/-- a number of at most five digits that is not the `HH[MM]` after a complete date and has no h/m/s word next to it:
    the arms that look at the token behind it -/
theorem pnt_short {l : List Token} {i : Nat} {t : Token} {v n : Nat} (ymd : Ymd) (res : Res)
    (l0 : l[i]? = some t) (ht : IsNum t v n) (hn : n < 6)
    (hhm : ymd.vals.length ≠ 3 ∨ (n ≠ 2 ∧ n ≠ 4) ∨ res.hour.isSome = true ∨ tokIs l (i + 1) [':'] = true ∨
      hmsAtIs (I) l (i + 1) = true)
    (hfind : findHmsIdx (I) i l true = none) :
    parseNumericToken cls (I) fz l i ymd res =
      if i + 2 < l.length ∧ tokIs l (i + 1) [':'] then numColon cls l i ⟨v, 0⟩ ymd res
      else if i + 1 < l.length ∧ (tokIs l (i + 1) ['-'] ∨ tokIs l (i + 1) ['/'] ∨ tokIs l (i + 1) ['.']) then
        numSep cls (I) l i t ymd res
      else if i + 1 ≥ l.length ∨ (l[i + 1]?).any (I).isJump then numJump (I) l i ⟨v, 0⟩ ymd res
      else numAmpmOrDay (I) fz l i ⟨v, 0⟩ ymd res := by
  obtain ⟨k, ks, rfl, rfl, rfl⟩ := ht
  have hlt := getElem?_lt l0
  unfold parseNumericToken
  simp only [tokAt, l0, bind, Except.bind, toDecimal_dtok, length_dtok, List.length_cons, hfind]
  rw [if_neg (by
        rintro ⟨h1, h2, h3, h4⟩
        rcases hhm with h | h | h | h | h
        · exact h h1
        · omega
        · rw [Option.isNone_iff_eq_none] at h3; rw [h3] at h; cases h
        · rcases h4 with h4 | h4
          · have := getElem?_lt (l := l) (i := i + 1) (a := [':']) (by simpa [tokIs] using h); omega
          · simp [h] at h4
        · rcases h4 with h4 | h4
          · simp only [hmsAtIs] at h
            cases hx : l[i + 1]? with
            | none => simp [hx] at h
            | some x => have := getElem?_lt hx; omega
          · simp [h] at h4),
      if_neg (by omega), if_neg (by omega)]

/-- `HH:MM:SS` (the seconds token may carry a fraction) -/
theorem loop_colon3 {l : List Token} {res : Res} {ymd : Ymd} {sk : List Nat} {i fuel : Nat} {H M S p : Token} {h m s us nh nm : Nat}
    (hseg : (l.drop i).take 5 = [H, [':'], M, [':'], S]) (hH : IsNum H h nh) (hM : IsNum M m nm)
    (hS : parsems cls S = .ok (s, us)) (hnh : nh < 6) (hm : m < 100) (hp : l[i - 1]? = some p) (hph : (I).hmsOf p = none) :
    parseLoop cls (I) fz lenL (fuel + 5) i 0 { l := l, res := res, ymd := ymd, skipped := sk } =
      parseLoop cls (I) fz lenL fuel (i + 5) 0
        { l := l, res := { res with hour := some h, minute := some m, second := some s, microsecond := some us }, ymd := ymd, skipped := sk } := by
  have l0 : l[i]? = some H := seg_get hseg 0 (by omega)
  have l1 : l[i + 1]? = some [':'] := seg_get hseg 1 (by omega)
  have l2 : l[i + 2]? = some M := seg_get hseg 2 (by omega)
  have l3 : l[i + 3]? = some [':'] := seg_get hseg 3 (by omega)
  have l4 : l[i + 4]? = some S := seg_get hseg 4 (by omega)
  have hfind := findHms_none hp hph l1 (hms_colon ..) (fun h => by cases h)
  have hc : tokIs l (i + 1) [':'] = true := by simp [tokIs, l1]
  refine loop_num 4 l0 hH ?_
  rw [pnt_short ymd res l0 hH hnh (Or.inr (Or.inr (Or.inr (Or.inl hc)))) hfind, if_pos ⟨getElem?_lt l2, hc⟩]
  obtain ⟨k', ks', rfl, rfl, rfl⟩ := hM
  simp only [numColon, tokAt, l2, l4, bind, Except.bind, toDecimal_dtok, parseMinSec_int _ hm, tokIs, l3, getElem?_lt l4, hS,
    beq_self_eq_true, and_self, if_true, pure, Except.pure, toNat_int]

/-- `HH:MM`, no `:` behind it -/
theorem loop_colon2 {l : List Token} {res : Res} {ymd : Ymd} {sk : List Nat} {i fuel : Nat} {H M p : Token} {h m nh nm : Nat}
    (hseg : (l.drop i).take 3 = [H, [':'], M]) (l3 : l[i + 3]? ≠ some [':'])
    (hH : IsNum H h nh) (hM : IsNum M m nm) (hnh : nh < 6) (hm : m < 100) (hp : l[i - 1]? = some p) (hph : (I).hmsOf p = none) :
    parseLoop cls (I) fz lenL (fuel + 3) i 0 { l := l, res := res, ymd := ymd, skipped := sk } =
      parseLoop cls (I) fz lenL fuel (i + 3) 0 { l := l, res := { res with hour := some h, minute := some m, second := none }, ymd := ymd, skipped := sk } := by
  have l0 : l[i]? = some H := seg_get hseg 0 (by omega)
  have l1 : l[i + 1]? = some [':'] := seg_get hseg 1 (by omega)
  have l2 : l[i + 2]? = some M := seg_get hseg 2 (by omega)
  have hfind := findHms_none hp hph l1 (hms_colon ..) (fun h => by cases h)
  have hc : tokIs l (i + 1) [':'] = true := by simp [tokIs, l1]
  refine loop_num 2 l0 hH ?_
  rw [pnt_short ymd res l0 hH hnh (Or.inr (Or.inr (Or.inr (Or.inl hc)))) hfind, if_pos ⟨getElem?_lt l2, hc⟩]
  obtain ⟨k', ks', rfl, rfl, rfl⟩ := hM
  have h3 : tokIs l (i + 3) [':'] = false := by simpa [tokIs] using l3
  simp only [numColon, tokAt, l2, bind, Except.bind, toDecimal_dtok, parseMinSec_int _ hm, h3, Bool.false_eq_true, and_false,
    if_false, pure, Except.pure, toNat_int]

/-- `A-B-C`, `A/B/C`, `A.B.C` with a number in front: three members for `_ymd` -/
theorem loop_sep3 {l : List Token} {res : Res} {ymd : Ymd} {sk : List Nat} {i fuel : Nat} {A sep B C p : Token} {a na : Nat} {y1 y2 y3 : Ymd}
    (hseg : (l.drop i).take 5 = [A, sep, B, sep, C]) (hsep : sep = ['-'] ∨ sep = ['/'] ∨ sep = ['.'])
    (hA : IsNum A a na) (hna : na < 6)
    (hhm : NotBareHHMM ymd res na) (hBj : (I).isJump B = false)
    (h1 : ymd.appendTok cls A = .ok y1) (h2 : sepSecond cls (I) y1 B = .ok y2) (h3 : sepThird cls (I) y2 C = .ok y3)
    (hp : l[i - 1]? = some p) (hph : (I).hmsOf p = none) :
    parseLoop cls (I) fz lenL (fuel + 5) i 0 { l := l, res := res, ymd := ymd, skipped := sk } = parseLoop cls (I) fz lenL fuel (i + 5) 0 { l := l, res := res, ymd := y3, skipped := sk } := by
  have l0 : l[i]? = some A := seg_get hseg 0 (by omega)
  have l1 : l[i + 1]? = some sep := seg_get hseg 1 (by omega)
  have l2 : l[i + 2]? = some B := seg_get hseg 2 (by omega)
  have l3 : l[i + 3]? = some sep := seg_get hseg 3 (by omega)
  have l4 : l[i + 4]? = some C := seg_get hseg 4 (by omega)
  have hsh : (I).hmsOf sep = none := by
    rcases hsep with rfl | rfl | rfl
    · exact hms_dash ..
    · exact hms_slash ..
    · exact hms_dot ..
  have hsc : tokIs l (i + 1) [':'] = false := by
    rcases hsep with rfl | rfl | rfl <;> simp [tokIs, l1]
  have hss : (tokIs l (i + 1) ['-'] ∨ tokIs l (i + 1) ['/'] ∨ tokIs l (i + 1) ['.']) := by
    rcases hsep with rfl | rfl | rfl <;> simp [tokIs, l1]
  have hfind := findHms_none hp hph l1 hsh (by rcases hsep with rfl | rfl | rfl <;> (intro h; cases h))
  refine loop_num 4 l0 hA ?_
  rw [pnt_short ymd res l0 hA hna (Or.imp id (Or.imp id Or.inl) hhm) hfind,
      if_neg (by rw [hsc]; simp), if_pos ⟨getElem?_lt l1, hss⟩]
  simp only [numSep, tokAt, l1, l2, l4, bind, Except.bind, h1, getElem?_lt l2, if_true, hBj, Bool.false_eq_true, if_false, h2,
    tokIs, l3, getElem?_lt l3, beq_self_eq_true, and_self, h3, pure, Except.pure]

/-- three numbers as the first thing found, at most one of them with more than two digits (the year) -/
theorem loop_sep3_num {l : List Token} {res : Res} {ymd : Ymd} {sk : List Nat} {i fuel : Nat} {A sep B C p : Token} {a na b nb c nc : Nat}
    (hseg : (l.drop i).take 5 = [A, sep, B, sep, C]) (hsep : sep = ['-'] ∨ sep = ['/'] ∨ sep = ['.'])
    (hA : IsNum A a na) (hB : IsNum B b nb) (hC : IsNum C c nc) (hna : na < 6) (hnb : nb < 100) (hnc : nc < 100)
    (hy : ymd = {}) (hone : (na ≤ 2 ∧ nb ≤ 2) ∨ (na ≤ 2 ∧ nc ≤ 2) ∨ (nb ≤ 2 ∧ nc ≤ 2))
    (hp : l[i - 1]? = some p) (hph : (I).hmsOf p = none) :
    parseLoop cls (I) fz lenL (fuel + 5) i 0 { l := l, res := res, ymd := ymd, skipped := sk } =
      parseLoop cls (I) fz lenL fuel (i + 5) 0
        { l := l, res := res, skipped := sk,
          ymd := { vals := [a, b, c], century := decide (2 < na) || decide (2 < nb) || decide (2 < nc),
                   yIdx := if 2 < na then some 0 else if 2 < nb then some 1 else if 2 < nc then some 2 else none } } := by
  refine (loop_sep3 hseg hsep hA hna (Or.inl (by rw [hy]; decide)) (isJump_num hB)
    (appendTok_num ymd hA (by omega) (Or.inr (by rw [hy]))) (sepSecond_num _ hB hnb ?_) (sepThird_num _ hC hnc ?_) hp hph).trans ?_
  · by_cases h : nb ≤ 2
    · exact Or.inl h
    · have : ¬ 2 < na := by omega
      exact Or.inr (by simp [Ymd.push, this, hy])
  · by_cases h : nc ≤ 2
    · exact Or.inl h
    · have h1 : ¬ 2 < na := by omega
      have h2 : ¬ 2 < nb := by omega
      exact Or.inr (by simp [Ymd.push, h1, h2, hy])
  · rw [hy]
    by_cases h1 : 2 < na <;> by_cases h2 : 2 < nb <;> by_cases h3 : 2 < nc <;> simp [Ymd.push, h1, h2, h3] <;> omega

/-- a number of at most two digits, a month word, a number, as the first thing found (`DD-Mon-YYYY`, `DD-Mon-YY`) -/
theorem loop_sep3_mon {l : List Token} {res : Res} {ymd : Ymd} {sk : List Nat} {i fuel : Nat} {A sep Mo C p : Token}
    {a na m c nc : Nat} (hseg : (l.drop i).take 5 = [A, sep, Mo, sep, C]) (hsep : sep = ['-'] ∨ sep = ['/'] ∨ sep = ['.'])
    (hA : IsNum A a na) (hMo : MonWord cls (I) Mo m) (hC : IsNum C c nc) (hna : na ≤ 2) (hm : m ≤ 100) (hnc : nc < 100)
    (hy : ymd = {}) (hp : l[i - 1]? = some p) (hph : (I).hmsOf p = none) :
    parseLoop cls (I) fz lenL (fuel + 5) i 0 { l := l, res := res, ymd := ymd, skipped := sk } =
      parseLoop cls (I) fz lenL fuel (i + 5) 0
        { l := l, res := res, skipped := sk,
          ymd := { vals := [a, m, c], century := decide (2 < nc), mIdx := some 1, yIdx := if 2 < nc then some 2 else none } } := by
  have h2 : ¬ 2 < na := by omega
  refine (loop_sep3 hseg hsep hA (by omega) (Or.inl (by rw [hy]; decide)) hMo.jump
    (appendTok_num ymd hA (by omega) (Or.inl hna)) (sepSecond_mon _ hMo hm (by rw [hy]; rfl))
    (sepThird_num _ hC hnc (Or.inr (by simp [Ymd.push, h2, hy]))) hp hph).trans ?_
  rw [hy]
  by_cases h3 : 2 < nc <;> simp [Ymd.push, h2, h3]

/-- a number followed by a jump word (here never `:`, `-`, `/`, `.`) and then no AM/PM word: a member for `_ymd`;
    the jump word is consumed with it -/
theorem loop_jump {l : List Token} {res : Res} {ymd : Ymd} {sk : List Nat} {i fuel : Nat} {N J X p : Token} {v n : Nat}
    (hseg : (l.drop i).take 3 = [N, J, X]) (hN : IsNum N v n) (hn : n < 6)
    (hhm : NotBareHHMM ymd res n)
    (hJ : J = [' '] ∨ J = [','])
    (hX : (I).hmsOf X = none ∧ (I).ampmOf X = none)
    {big : Bool} (hbig : decide (100 < v) = big) (hy : big = false ∨ ymd.yIdx = none)
    (hp : l[i - 1]? = some p) (hph : (I).hmsOf p = none) :
    parseLoop cls (I) fz lenL (fuel + 2) i 0 { l := l, res := res, ymd := ymd, skipped := sk } =
      parseLoop cls (I) fz lenL fuel (i + 2) 0 { l := l, res := res, ymd := ymd.push big v, skipped := sk } := by
  have l0 : l[i]? = some N := seg_get hseg 0 (by omega)
  have l1 : l[i + 1]? = some J := seg_get hseg 1 (by omega)
  have l2 : l[i + 2]? = some X := seg_get hseg 2 (by omega)
  have hJh : (I).hmsOf J = none := by rcases hJ with rfl | rfl; exact hms_sp ..; exact hms_comma ..
  have hJj : (I).isJump J = true := by rcases hJ with rfl | rfl; exact jp_sp ..; exact jp_comma ..
  have hfind := findHms_none hp hph l1 hJh (fun _ => by simp only [l2, Option.bind_some, hX.1])
  have hc : ∀ c : Char, c ≠ ' ' → c ≠ ',' → tokIs l (i + 1) [c] = false := by
    intro c h1 h2
    rcases hJ with rfl | rfl <;> simp [tokIs, l1, Ne.symm h1, Ne.symm h2]
  refine loop_num 1 l0 hN ?_
  rw [pnt_short ymd res l0 hN hn (Or.imp id (Or.imp id Or.inl) hhm) hfind,
      if_neg (by rw [hc ':' (by decide) (by decide)]; simp),
      if_neg (by rw [hc '-' (by decide) (by decide), hc '/' (by decide) (by decide), hc '.' (by decide) (by decide)]; simp),
      if_pos (Or.inr (by simp only [l1, Option.any_some, hJj]))]
  subst hbig
  simp only [numJump, l2, Option.bind_some, hX.2, ite_self, appendDec_num ymd v hy, bind, Except.bind, pure, Except.pure]

/-- a number that is the last token: a member for `_ymd` (the round counts one token more than there is) -/
theorem loop_jump_end {l : List Token} {res : Res} {ymd : Ymd} {sk : List Nat} {i fuel : Nat} {N p q : Token} {v n : Nat}
    (l0 : l[i]? = some N) (l1 : l[i + 1]? = none) (hN : IsNum N v n) (hn : n < 6)
    (hhm : NotBareHHMM ymd res n)
    {big : Bool} (hbig : decide (100 < v) = big) (hy : big = false ∨ ymd.yIdx = none)
    (hp : l[i - 1]? = some p) (hph : (I).hmsOf p = none) (hq : l[i - 2]? = some q) (hqh : (I).hmsOf q = none) :
    parseLoop cls (I) fz lenL (fuel + 1) i 0 { l := l, res := res, ymd := ymd, skipped := sk } =
      parseLoop cls (I) fz lenL fuel (i + 1) 1 { l := l, res := res, ymd := ymd.push big v, skipped := sk } := by
  have hlen : l.length = i + 1 := by
    have := getElem?_lt l0
    have := List.getElem?_eq_none_iff.mp l1
    omega
  have hfind : findHmsIdx (I) i l true = none := by
    unfold findHmsIdx
    simp only [l1, hp, hq, Option.bind_none, Option.bind_some, hph, hqh, Option.isSome_none, Bool.false_eq_true, and_false, if_false]
    rw [if_neg (by omega)]
  have hstep : parseStep cls (I) fz lenL i { l := l, res := res, ymd := ymd, skipped := sk } =
      .ok (1, { l := l, res := res, ymd := ymd.push big v, skipped := sk }) := by
    subst hbig
    have hpnt := pnt_short (cls := cls) (fz := fz) ymd res l0 hN hn (Or.imp id (Or.imp id Or.inl) hhm) hfind
    obtain ⟨k, ks, rfl, rfl, rfl⟩ := hN
    unfold parseStep
    simp only [tokAt, l0, bind, Except.bind, floatOk_dtok, if_true, hpnt]
    rw [if_neg (by omega), if_neg (by omega), if_pos (Or.inl (by omega))]
    simp only [numJump, if_neg (show ¬ i + 2 < l.length by omega), appendDec_num ymd _ hy, bind, Except.bind, pure, Except.pure]
  show parseLoop cls (I) fz lenL (fuel + 1) i 0 _ = _
  conv => lhs; unfold parseLoop
  rw [hstep]

/-- a number with nothing behind it, or a space and a token that is neither an h/m/s nor an AM/PM word: a member for `_ymd`;
    the space, if there is one, is consumed with it (`skip = 1`) -/
theorem loop_jump_skip {l : List Token} {res : Res} {ymd : Ymd} {sk : List Nat} {i fuel : Nat} {N p q : Token} {v n : Nat}
    (l0 : l[i]? = some N) (hN : IsNum N v n) (hn : n < 6) (hfuel : i + 1 + fuel = l.length)
    (hnext : l[i + 1]? = none ∨ ∃ X, (l.drop (i + 1)).take 2 = [[' '], X] ∧ (I).hmsOf X = none ∧ (I).ampmOf X = none)
    (hhm : NotBareHHMM ymd res n)
    {big : Bool} (hbig : decide (100 < v) = big) (hy : big = false ∨ ymd.yIdx = none)
    (hp : l[i - 1]? = some p) (hph : (I).hmsOf p = none) (hq : l[i - 2]? = some q) (hqh : (I).hmsOf q = none) :
    parseLoop cls (I) fz lenL (fuel + 1) i 0 { l := l, res := res, ymd := ymd, skipped := sk } =
      parseLoop cls (I) fz lenL fuel (i + 1) 1 { l := l, res := res, ymd := ymd.push big v, skipped := sk } := by
  rcases hnext with l1 | ⟨X, hX, hXh, hXa⟩
  · exact loop_jump_end l0 l1 hN hn hhm hbig hy hp hph hq hqh
  · have l1 : l[i + 1]? = some [' '] := seg_get hX 0 (by omega)
    have l2 : l[i + 1 + 1]? = some X := seg_get hX 1 (by omega)
    have h2 := getElem?_lt l2
    obtain ⟨f, rfl⟩ : ∃ f, fuel = f + 1 := ⟨fuel - 1, by omega⟩
    have hseg : (l.drop i).take 3 = [N, [' '], X] := by
      apply List.ext_getElem?
      intro j
      rcases j with _ | _ | _ | j
      · simp [l0]
      · simp [l1]
      · simp; simpa [Nat.add_assoc] using l2
      · simp; omega
    exact loop_jump hseg hN hn hhm (Or.inl rfl) ⟨hXh, hXa⟩ hbig hy hp hph

/-- a number below 24, a space, an AM/PM word: the hour -/
theorem loop_jump_ampm {l : List Token} {res : Res} {ymd : Ymd} {sk : List Nat} {i fuel : Nat} {N AP p : Token} {v n ap h' : Nat}
    (hseg : (l.drop i).take 3 = [N, [' '], AP]) (hN : IsNum N v n) (hn : n < 6)
    (hhm : NotBareHHMM ymd res n)
    (hAP : ApWord cls (I) AP ap) (hadj : adjustAmpm v ap = h')
    (hp : l[i - 1]? = some p) (hph : (I).hmsOf p = none) :
    parseLoop cls (I) fz lenL (fuel + 3) i 0 { l := l, res := res, ymd := ymd, skipped := sk } =
      parseLoop cls (I) fz lenL fuel (i + 3) 0 { l := l, res := { res with hour := some h' }, ymd := ymd, skipped := sk } := by
  have l0 : l[i]? = some N := seg_get hseg 0 (by omega)
  have l1 : l[i + 1]? = some [' '] := seg_get hseg 1 (by omega)
  have l2 : l[i + 2]? = some AP := seg_get hseg 2 (by omega)
  have hfind := findHms_none hp hph l1 (hms_sp ..) (fun _ => by simp only [l2, Option.bind_some, hAP.hms])
  refine loop_num 2 l0 hN ?_
  rw [pnt_short ymd res l0 hN hn (Or.imp id (Or.imp id Or.inl) hhm) hfind,
      if_neg (by simp [tokIs, l1]), if_neg (by simp [tokIs, l1]), if_pos (Or.inr (by simp only [l1, Option.any_some, jp_sp]))]
  simp only [numJump, getElem?_lt l2, if_true, l2, Option.bind_some, hAP.ap, toNat_int, hadj, pure, Except.pure]

/-- a number below 24 with an AM/PM word directly behind it (`10pm`): the hour -/
theorem loop_num_ampm {l : List Token} {res : Res} {ymd : Ymd} {sk : List Nat} {i fuel : Nat} {N AP p : Token} {v n ap h' : Nat}
    (hseg : (l.drop i).take 2 = [N, AP]) (hN : IsNum N v n) (hn : n < 6)
    (hhm : NotBareHHMM ymd res n)
    (hAP : ApWord cls (I) AP ap) (hv : v < 24)
    (hadj : adjustAmpm v ap = h') (hp : l[i - 1]? = some p) (hph : (I).hmsOf p = none) :
    parseLoop cls (I) fz lenL (fuel + 2) i 0 { l := l, res := res, ymd := ymd, skipped := sk } =
      parseLoop cls (I) fz lenL fuel (i + 2) 0 { l := l, res := { res with hour := some h' }, ymd := ymd, skipped := sk } := by
  have l0 : l[i]? = some N := seg_get hseg 0 (by omega)
  have l1 : l[i + 1]? = some AP := seg_get hseg 1 (by omega)
  have hfind := findHms_none hp hph l1 hAP.hms (fun h => by have := hAP.len; rw [h] at this; cases this)
  have hc : ∀ c : Char, tokIs l (i + 1) [c] = false := by
    intro c
    simp only [tokIs, l1, beq_eq_false_iff_ne, ne_eq, Option.some.injEq]
    intro h; have := hAP.len; rw [h] at this; cases this
  refine loop_num 1 l0 hN ?_
  rw [pnt_short ymd res l0 hN hn (Or.imp id (Or.imp id Or.inl) hhm) hfind,
      if_neg (by rw [hc]; simp), if_neg (by rw [hc, hc, hc]; simp),
      if_neg (by rw [l1]; have := getElem?_lt l1; simp [hAP.jump]; omega)]
  have hlt : Dec.ltNat ⟨v, 0⟩ 24 = true := by simp [Dec.ltNat, hv]
  simp only [numAmpmOrDay, l1, Option.bind_some, hAP.ap, hlt, if_true, toNat_int, hadj, pure, Except.pure]

/-- a two-digit number after a complete date, no hour yet, neither `:` nor an h/m/s word behind it: the hour -/
theorem loop_hour2 {l : List Token} {res : Res} {ymd : Ymd} {sk : List Nat} {i fuel : Nat} {N X : Token} {v : Nat}
    (hseg : (l.drop i).take 2 = [N, X]) (hN : IsNum N v 2) (hy : ymd.vals.length = 3) (hh : res.hour = none)
    (hX : X ≠ [':'] ∧ (I).hmsOf X = none) :
    parseLoop cls (I) fz lenL (fuel + 1) i 0 { l := l, res := res, ymd := ymd, skipped := sk } =
      parseLoop cls (I) fz lenL fuel (i + 1) 0 { l := l, res := { res with hour := some v }, ymd := ymd, skipped := sk } := by
  have l0 : l[i]? = some N := seg_get hseg 0 (by omega)
  have l1 : l[i + 1]? = some X := seg_get hseg 1 (by omega)
  refine loop_num 0 l0 hN ?_
  obtain ⟨k, ks, rfl, rfl, hks⟩ := hN
  have hc : tokIs l (i + 1) [':'] = false := by simp [tokIs, l1, hX.1]
  have hm : hmsAtIs (I) l (i + 1) = false := by simp [hmsAtIs, l1, hX.2]
  have hlen : ks.length = 1 := by omega
  obtain ⟨k2, rfl⟩ : ∃ k2, ks = [k2] := by
    match ks, hlen with
    | [k2], _ => exact ⟨k2, rfl⟩
  unfold parseNumericToken
  simp only [tokAt, l0, bind, Except.bind, toDecimal_dtok, length_dtok, List.length_cons, List.length_nil, hy, hh,
    Option.isNone_none, hc, hm, Bool.not_false, and_self, or_true, true_or, if_true, numHourMin, sl_dtok,
    List.drop_zero, Nat.sub_zero, List.take_succ_cons, List.take_nil, pyInt_dtok cls k [k2] (by simp),
    Nat.reduceAdd, Nat.reduceEqDiff, if_false, pure, Except.pure]

/-- a numeric token (possibly with a fraction) that is not read by its length, with an h/m/s word directly behind it: that unit -/
theorem loop_unit_tok {l : List Token} {res : Res} {ymd : Ymd} {sk : List Nat} {i fuel : Nat} {N U : Token} {u : Nat} {res' : Res}
    (hseg : (l.drop i).take 2 = [N, U]) (hfl : floatOk cls N = true) (hdec : ∃ d, toDecimal cls N = .ok d)
    (hlen : N.length ≠ 6 ∧ N.length ≠ 8 ∧ N.length ≠ 12 ∧ N.length ≠ 14 ∧ N.idxOf '.' ≠ 6) (hU : (I).hmsOf U = some u)
    (hres : assignHms cls res N u = .ok res') :
    parseLoop cls (I) fz lenL (fuel + 2) i 0 { l := l, res := res, ymd := ymd, skipped := sk } =
      parseLoop cls (I) fz lenL fuel (i + 2) 0 { l := l, res := res', ymd := ymd, skipped := sk } := by
  have l0 : l[i]? = some N := seg_get hseg 0 (by omega)
  have l1 : l[i + 1]? = some U := seg_get hseg 1 (by omega)
  obtain ⟨d, hd⟩ := hdec
  refine loop_of_step cls (I) fz lenL (adv := 1) ?_ fuel
  have hm : hmsAtIs (I) l (i + 1) = true := by simp [hmsAtIs, l1, hU]
  have hb : (l[i + 1]?).bind (I).hmsOf = some u := by simp only [l1, Option.bind_some, hU]
  have hfind : findHmsIdx (I) i l true = some (i + 1, u) := by
    unfold findHmsIdx
    simp only [hb, Option.isSome_some, and_true, getElem?_lt l1, if_true, Option.map_some]
  have h1 : ¬ i + 1 ≥ l.length := by have := getElem?_lt l1; omega
  have h2 : i + 1 > i := by omega
  unfold parseStep parseNumericToken
  simp only [tokAt, l0, bind, Except.bind, hfl, if_true, hd, hm, Bool.not_true, Bool.false_eq_true, and_false, or_false, h1,
    if_false, hlen.1, hlen.2.1, hlen.2.2.1, hlen.2.2.2.1, hlen.2.2.2.2, hfind, numHms, h2, hres,
    Nat.add_sub_cancel_left, pure, Except.pure]

/-- a number with an h/m/s word directly behind it: that unit -/
theorem loop_unit {l : List Token} {res : Res} {ymd : Ymd} {sk : List Nat} {i fuel : Nat} {N U : Token} {v n u : Nat} {res' : Res}
    (hseg : (l.drop i).take 2 = [N, U]) (hN : IsNum N v n) (hn : n < 6) (hU : (I).hmsOf U = some u)
    (hres : assignHms cls res N u = .ok res') :
    parseLoop cls (I) fz lenL (fuel + 2) i 0 { l := l, res := res, ymd := ymd, skipped := sk } =
      parseLoop cls (I) fz lenL fuel (i + 2) 0 { l := l, res := res', ymd := ymd, skipped := sk } := by
  obtain ⟨k, ks, rfl, rfl, rfl⟩ := hN
  refine loop_unit_tok hseg (floatOk_dtok cls k ks) ⟨_, toDecimal_dtok cls k ks⟩ ?_ hU hres
  simp only [length_dtok, idxOf_dot_dtok, List.length_cons]
  omega

theorem assignHms_h (res : Res) {N : Token} {v n : Nat} (hN : IsNum N v n) (hv : v < 100) :
    assignHms cls res N 0 = .ok { res with hour := some v } := by
  obtain ⟨k, ks, rfl, rfl, rfl⟩ := hN
  simp [assignHms, rem1_int _ hv, Dec.isZero, bind, Except.bind, pure, Except.pure]
theorem assignHms_m (res : Res) {N : Token} {v n : Nat} (hN : IsNum N v n) (hv : v < 100) :
    assignHms cls res N 1 = .ok { res with minute := some v, second := none } := by
  obtain ⟨k, ks, rfl, rfl, rfl⟩ := hN
  simp [assignHms, parseMinSec_int _ hv, bind, Except.bind, pure, Except.pure]
theorem assignHms_s (res : Res) {N : Token} {s us : Nat} (hd : ∃ d, toDecimal cls N = .ok d) (hN : parsems cls N = .ok (s, us)) :
    assignHms cls res N 2 = .ok { res with second := some s, microsecond := some us } := by
  obtain ⟨d, hd⟩ := hd
  simp [assignHms, hd, hN, bind, Except.bind, pure, Except.pure]
theorem assignHms_s_num (res : Res) {N : Token} {v n : Nat} (hN : IsNum N v n) (hn : n < 100) :
    assignHms cls res N 2 = .ok { res with second := some v, microsecond := some 0 } := by
  refine assignHms_s res ?_ (parsems_num hN hn)
  obtain ⟨k, ks, rfl, rfl, rfl⟩ := hN
  exact ⟨_, toDecimal_dtok cls k ks⟩

/-! ### compact numbers, read by their length -/

/-- six digits as the first thing found: `YYMMDD` -/
theorem loop_six_date {l : List Token} {res : Res} {sk : List Nat} {i fuel : Nat} {a1 a2 b1 b2 c1 c2 a b c : Nat}
    (l0 : l[i]? = some (dtok [a1, a2, b1, b2, c1, c2])) (ha : dval [a1, a2] = a) (hb : dval [b1, b2] = b) (hc : dval [c1, c2] = c) :
    parseLoop cls (I) fz lenL (fuel + 1) i 0 { l := l, res := res, ymd := {}, skipped := sk } =
      parseLoop cls (I) fz lenL fuel (i + 1) 0 { l := l, res := res, ymd := { vals := [a, b, c] }, skipped := sk } := by
  refine loop_num 0 l0 ⟨_, _, rfl, rfl, rfl⟩ ?_
  subst ha hb hc
  simp [parseNumericToken, tokAt, l0, numSix, Ymd.appendTok, Ymd.appendCore, pyInt_dtok, dot_notin_dtok, bind, Except.bind, pure,
    Except.pure]

/-- six digits after a date: `HHMMSS` -/
theorem loop_six_time {l : List Token} {res : Res} {ymd : Ymd} {sk : List Nat} {i fuel : Nat} {a1 a2 b1 b2 c1 c2 a b c : Nat}
    (l0 : l[i]? = some (dtok [a1, a2, b1, b2, c1, c2])) (ha : dval [a1, a2] = a) (hb : dval [b1, b2] = b) (hc : dval [c1, c2] = c)
    (hy : ymd.vals ≠ []) :
    parseLoop cls (I) fz lenL (fuel + 1) i 0 { l := l, res := res, ymd := ymd, skipped := sk } =
      parseLoop cls (I) fz lenL fuel (i + 1) 0
        { l := l, res := { res with hour := some a, minute := some b, second := some c, microsecond := some 0 }, ymd := ymd,
          skipped := sk } := by
  refine loop_num 0 l0 ⟨_, _, rfl, rfl, rfl⟩ ?_
  subst ha hb hc
  simp [parseNumericToken, tokAt, l0, numSix, hy, pyInt_dtok, bind, Except.bind, pure, Except.pure]

/-- four digits after a date, no hour yet, neither `:` nor an h/m/s word behind them: `HHMM` -/
theorem loop_hourmin4 {l : List Token} {res : Res} {ymd : Ymd} {sk : List Nat} {i fuel : Nat} {a1 a2 b1 b2 a b : Nat}
    (l0 : l[i]? = some (dtok [a1, a2, b1, b2])) (ha : dval [a1, a2] = a) (hb : dval [b1, b2] = b)
    (hy : ymd.vals.length = 3) (hh : res.hour = none)
    (hX : l[i + 1]? ≠ some [':'] ∧ (l[i + 1]?).bind (I).hmsOf = none) :
    parseLoop cls (I) fz lenL (fuel + 1) i 0 { l := l, res := res, ymd := ymd, skipped := sk } =
      parseLoop cls (I) fz lenL fuel (i + 1) 0
        { l := l, res := { res with hour := some a, minute := some b }, ymd := ymd, skipped := sk } := by
  refine loop_num 0 l0 ⟨_, _, rfl, rfl, rfl⟩ ?_
  subst ha hb
  have hc : tokIs l (i + 1) [':'] = false := by simpa [tokIs] using hX.1
  have hm : hmsAtIs (I) l (i + 1) = false := by simp [hmsAtIs, hX.2]
  simp [parseNumericToken, tokAt, l0, hy, hh, hc, hm, numHourMin, pyInt_dtok, bind, Except.bind, pure, Except.pure]

/-- eight, twelve or fourteen digits as the first thing found: `YYYYMMDD[HHMM[SS]]` -/
theorem loop_eight {l : List Token} {res : Res} {sk : List Nat} {i fuel : Nat} {y1 y2 y3 y4 m1 m2 d1 d2 y m d : Nat}
    (l0 : l[i]? = some (dtok [y1, y2, y3, y4, m1, m2, d1, d2])) (hy : dval [y1, y2, y3, y4] = y) (hm : dval [m1, m2] = m)
    (hd : dval [d1, d2] = d) :
    parseLoop cls (I) fz lenL (fuel + 1) i 0 { l := l, res := res, ymd := {}, skipped := sk } =
      parseLoop cls (I) fz lenL fuel (i + 1) 0
        { l := l, res := res, ymd := { vals := [y, m, d], century := true, yIdx := some 0 }, skipped := sk } := by
  refine loop_num 0 l0 ⟨_, _, rfl, rfl, rfl⟩ ?_
  subst hy hm hd
  simp [parseNumericToken, tokAt, l0, numEight, Ymd.appendTok, Ymd.appendCore, pyInt_dtok, bind, Except.bind, pure, Except.pure]

theorem loop_twelve {l : List Token} {res : Res} {sk : List Nat} {i fuel : Nat}
    {y1 y2 y3 y4 m1 m2 d1 d2 h1 h2 n1 n2 y m d h n : Nat}
    (l0 : l[i]? = some (dtok [y1, y2, y3, y4, m1, m2, d1, d2, h1, h2, n1, n2])) (hy : dval [y1, y2, y3, y4] = y)
    (hm : dval [m1, m2] = m) (hd : dval [d1, d2] = d) (hh : dval [h1, h2] = h) (hn : dval [n1, n2] = n) :
    parseLoop cls (I) fz lenL (fuel + 1) i 0 { l := l, res := res, ymd := {}, skipped := sk } =
      parseLoop cls (I) fz lenL fuel (i + 1) 0
        { l := l, res := { res with hour := some h, minute := some n },
          ymd := { vals := [y, m, d], century := true, yIdx := some 0 }, skipped := sk } := by
  refine loop_num 0 l0 ⟨_, _, rfl, rfl, rfl⟩ ?_
  subst hy hm hd hh hn
  simp [parseNumericToken, tokAt, l0, numEight, Ymd.appendTok, Ymd.appendCore, pyInt_dtok, bind, Except.bind, pure, Except.pure]

theorem loop_fourteen {l : List Token} {res : Res} {sk : List Nat} {i fuel : Nat}
    {y1 y2 y3 y4 m1 m2 d1 d2 h1 h2 n1 n2 s1 s2 y m d h n s : Nat}
    (l0 : l[i]? = some (dtok [y1, y2, y3, y4, m1, m2, d1, d2, h1, h2, n1, n2, s1, s2])) (hy : dval [y1, y2, y3, y4] = y)
    (hm : dval [m1, m2] = m) (hd : dval [d1, d2] = d) (hh : dval [h1, h2] = h) (hn : dval [n1, n2] = n) (hs : dval [s1, s2] = s) :
    parseLoop cls (I) fz lenL (fuel + 1) i 0 { l := l, res := res, ymd := {}, skipped := sk } =
      parseLoop cls (I) fz lenL fuel (i + 1) 0
        { l := l, res := { res with hour := some h, minute := some n, second := some s },
          ymd := { vals := [y, m, d], century := true, yIdx := some 0 }, skipped := sk } := by
  refine loop_num 0 l0 ⟨_, _, rfl, rfl, rfl⟩ ?_
  subst hy hm hd hh hn hs
  simp [parseNumericToken, tokAt, l0, numEight, Ymd.appendTok, Ymd.appendCore, pyInt_dtok, bind, Except.bind, pure, Except.pure]

/-- `A-B-C HH:MM:SS` (`-`, `/` or `.`; a space or `T` between date and time) at the start of the list -/
theorem run_date3_hms {l : List Token} {fuel : Nat} {A sep B C S H M Se : Token} {a na b nb c nc h nh m nm s us : Nat}
    (hseg : l.take 11 = [A, sep, B, sep, C, S, H, [':'], M, [':'], Se]) (hsep : sep = ['-'] ∨ sep = ['/'] ∨ sep = ['.'])
    (hS : S = [' '] ∨ S = ['T']) (hA : IsNum A a na) (hB : IsNum B b nb) (hC : IsNum C c nc) (hna : na < 6) (hnb : nb < 100)
    (hnc : nc < 100) (hone : (na ≤ 2 ∧ nb ≤ 2) ∨ (na ≤ 2 ∧ nc ≤ 2) ∨ (nb ≤ 2 ∧ nc ≤ 2))
    (hH : IsNum H h nh) (hM : IsNum M m nm) (hSe : parsems cls Se = .ok (s, us)) (hnh : nh < 6) (hm : m < 100) :
    parseLoop cls (I) fz lenL (fuel + 11) 0 0 { l := l } =
      parseLoop cls (I) fz lenL fuel 11 0
        { l := l, res := { hour := some h, minute := some m, second := some s, microsecond := some us },
          ymd := { vals := [a, b, c], century := decide (2 < na) || decide (2 < nb) || decide (2 < nc),
                   yIdx := if 2 < na then some 0 else if 2 < nb then some 1 else if 2 < nc then some 2 else none },
          skipped := [5] } := by
  have l0 : l[0]? = some A := by have := seg_get (seg_of_take hseg 0 1 (by omega)) 0 (by omega); simpa using this
  have l5 : l[5]? = some S := by have := seg_get (seg_of_take hseg 5 1 (by omega)) 0 (by omega); simpa using this
  have hSh : (I).hmsOf S = none := by rcases hS with rfl | rfl; exact hms_sp ..; exact hms_T ..
  refine (loop_sep3_num (fuel := fuel + 6) (seg_of_take hseg 0 5 (by omega)) hsep hA hB hC hna hnb hnc rfl hone l0 (hmsOf_num hA)).trans ?_
  refine (loop_sp_or_T (fuel := fuel + 5) l5 hS rfl).trans ?_
  exact loop_colon3 (i := 6) (seg_of_take hseg 6 5 (by omega)) hH hM hSe hnh hm l5 hSh

/-- `A-B-C HH:MM`, no `:` behind it -/
theorem run_date3_hm {l : List Token} {fuel : Nat} {A sep B C S H M : Token} {a na b nb c nc h nh m nm : Nat}
    (hseg : l.take 9 = [A, sep, B, sep, C, S, H, [':'], M]) (l9 : l[9]? ≠ some [':']) (hsep : sep = ['-'] ∨ sep = ['/'] ∨ sep = ['.'])
    (hS : S = [' '] ∨ S = ['T']) (hA : IsNum A a na) (hB : IsNum B b nb) (hC : IsNum C c nc) (hna : na < 6) (hnb : nb < 100)
    (hnc : nc < 100) (hone : (na ≤ 2 ∧ nb ≤ 2) ∨ (na ≤ 2 ∧ nc ≤ 2) ∨ (nb ≤ 2 ∧ nc ≤ 2))
    (hH : IsNum H h nh) (hM : IsNum M m nm) (hnh : nh < 6) (hm : m < 100) :
    parseLoop cls (I) fz lenL (fuel + 9) 0 0 { l := l } =
      parseLoop cls (I) fz lenL fuel 9 0
        { l := l, res := { hour := some h, minute := some m },
          ymd := { vals := [a, b, c], century := decide (2 < na) || decide (2 < nb) || decide (2 < nc),
                   yIdx := if 2 < na then some 0 else if 2 < nb then some 1 else if 2 < nc then some 2 else none },
          skipped := [5] } := by
  have l0 : l[0]? = some A := by have := seg_get (seg_of_take hseg 0 1 (by omega)) 0 (by omega); simpa using this
  have l5 : l[5]? = some S := by have := seg_get (seg_of_take hseg 5 1 (by omega)) 0 (by omega); simpa using this
  have hSh : (I).hmsOf S = none := by rcases hS with rfl | rfl; exact hms_sp ..; exact hms_T ..
  refine (loop_sep3_num (fuel := fuel + 4) (seg_of_take hseg 0 5 (by omega)) hsep hA hB hC hna hnb hnc rfl hone l0 (hmsOf_num hA)).trans ?_
  refine (loop_sp_or_T (fuel := fuel + 3) l5 hS rfl).trans ?_
  exact loop_colon2 (i := 6) (seg_of_take hseg 6 3 (by omega)) l9 hH hM hnh hm l5 hSh

end
end PM
