/- Proofs/DecodeEncode.lean — `decode (encode r) = r` for every raw table within the format's ranges. -/
import DateutilVerif.Proofs.Encode
namespace TZ
open Spec

/-- the ranges of the format: instants and offsets fit the signed `>l`, type indices the `B` byte, and every
    abbreviation's start index the UNSIGNED `tt_abbrind` byte (hence a table of at most 256 bytes) -/
structure RawWF (r : Raw) : Prop where
  ntrans : r.trans.length < 2147483648
  trans_ok : ∀ p ∈ r.trans, In32 p.1 ∧ p.2 < r.types.length ∧ p.2 < 256
  types_ok : ∀ t ∈ r.types, TypeOK t
  abbr_ok : (abbrBlock r.types).length ≤ 256

theorem encode_eq (r : Raw) : encode r =
    magic ++ (List.replicate 16 0 ++
      (([(r.types.length : Int), r.types.length, 0, r.trans.length, r.types.length,
          (abbrBlock r.types).length].flatMap (fun x => be32 x)) ++
      (r.trans.flatMap (fun p => be32 p.1) ++
      (r.trans.map (fun p => UInt8.ofNat p.2) ++
      ((r.types.zip (abbrIdx 0 r.types)).flatMap recBytes ++
      (abbrBlock r.types ++
      (r.types.map (fun t => if t.isstd then (1 : UInt8) else 0) ++
       r.types.map (fun t => if t.isgmt then (1 : UInt8) else 0)))))))) := by
  simp only [encode, List.append_assoc]
  rfl

theorem types_le (r : Raw) (h : RawWF r) : r.types.length ≤ 256 := by
  have := h.abbr_ok
  have : r.types.length ≤ (abbrBlock r.types).length := by
    unfold abbrBlock
    induction r.types with
    | nil => simp
    | cons a l ih => simp only [List.flatMap_cons, List.length_append, List.length_cons]; omega
  omega

theorem decode_encode (r : Raw) (h : RawWF r) : decode (encode r) = .ok r := by
  have hn := types_le r h
  have hcc := h.abbr_ok
  have hntr := h.ntrans
  obtain ⟨hH1, hH2⟩ := be32List_flatMap (fun x : Int => x)
    [(r.types.length : Int), r.types.length, 0, r.trans.length, r.types.length, (abbrBlock r.types).length]
    (by intro p hp; simp only [List.mem_cons, List.not_mem_nil, or_false] at hp; unfold In32
        rcases hp with e | e | e | e | e | e <;> subst e <;> omega)
  -- each of `hT hI hR hA hS hG` is the reader of one section of the version-1 block applied to what `encode` wrote
  -- for it (transition times, type indices, ttinfo records, abbreviations, isstd, isgmt), with any rest behind it
  have hT := fun rest => readLongs_app (fun p : Int × Nat => p.1) r.trans rest (fun p hp => (h.trans_ok p hp).1)
  have hI := fun rest => readBytes_app (r.trans.map (fun p => UInt8.ofNat p.2)) rest
  have hR := fun rest => readTtinfo_app (r.types.zip (abbrIdx 0 r.types)) rest
    (fun p hp => (h.types_ok p.1 (List.of_mem_zip hp).1).1)
  have hA := fun rest => readN_app (abbrBlock r.types) rest (abbrBlock r.types).length rfl
  have hS := fun rest => readBytes_app (r.types.map (fun t => if t.isstd then (1 : UInt8) else 0)) rest
  have hG := readBytes_app (r.types.map (fun t => if t.isgmt then (1 : UInt8) else 0)) []
  have hM := mkTypesFrom_spec r.types [] (by simpa using h.types_ok) (by simpa using h.abbr_ok)
  simp only [List.nil_append, List.length_nil, abbrBlock, List.flatMap_nil] at hM
  have hzl : (r.types.zip (abbrIdx 0 r.types)).length = r.types.length := by
    have : ∀ (l : List TType) k, (abbrIdx k l).length = l.length := by
      intro l; induction l with
      | nil => intro k; rfl
      | cons a l ih => intro k; simp [abbrIdx, ih]
    simp [List.length_zip, this]
  simp only [List.length_map, hzl, List.append_nil] at hI hR hS hG
  rw [encode_eq]
  unfold decode
  have hrep : (List.replicate 16 (0 : UInt8)).length = 16 := by simp
  have hd16 : ∀ rest : List UInt8, List.drop 16 (List.replicate 16 0 ++ rest) = rest := by
    intro rest; have := List.drop_left (l₁ := List.replicate 16 (0 : UInt8)) (l₂ := rest); rwa [hrep] at this
  have hr24 : ∀ rest : List UInt8, readN (List.flatMap (fun x => be32 x)
      [(r.types.length : Int), r.types.length, 0, r.trans.length, r.types.length, (abbrBlock r.types).length] ++ rest) 24
      = (_, rest) := fun rest => readN_app _ rest 24 (by rw [hH2]; rfl)
  have ht4 : ∀ rest : List UInt8, List.take 4 (magic ++ rest) = magic := fun rest => List.take_left (l₁ := magic)
  have hd4 : ∀ rest : List UInt8, List.drop 4 (magic ++ rest) = rest := fun rest => List.drop_left (l₁ := magic)
  simp only [List.length_cons, List.length_nil, List.map_cons, List.map_nil] at hH1 hH2
  simp only [ht4, hd4, hd16, hr24, hH1, hH2, bind, Except.bind, pure, Except.pure,
    ne_eq, not_true_eq_false, if_false, if_true, hT, hI, hR, hA, hS, hG, Int.toNat_natCast]
  have h00 : ((0 : Int) ≥ 0) := by omega
  have hAny : ((abbrBlock r.types).any fun x => decide (x ≥ 128)) = false := by
    rw [List.any_eq_false]
    intro x hx
    simp only [abbrBlock, List.mem_flatMap, List.mem_append, List.mem_singleton] at hx
    obtain ⟨t, ht, hx⟩ := hx
    have hok := (h.types_ok t ht).2.2.2.2
    rcases hx with hx | hx
    · have := (hok x hx).2; simpa using this
    · subst hx; decide
  have hIdx : ((List.map (fun p : Int × Nat => UInt8.ofNat p.snd) r.trans).any fun i =>
      decide (i.toNat ≥ r.types.length)) = false := by
    rw [List.any_eq_false]
    intro x hx
    simp only [List.mem_map] at hx
    obtain ⟨p, hp, e⟩ := hx
    subst e
    have := h.trans_ok p hp
    simp only [toNat_ofNat, decide_eq_true_eq]; omega
  have hZip : (List.map (fun p : Int × Nat => p.fst) r.trans).zip
      (List.map (fun x => x.toNat) (List.map (fun p : Int × Nat => UInt8.ofNat p.snd) r.trans)) = r.trans := by
    have : ∀ l : List (Int × Nat), (∀ p ∈ l, p.2 < 256) →
        (l.map (fun p => p.fst)).zip ((l.map (fun p => UInt8.ofNat p.snd)).map (fun x => x.toNat)) = l := by
      intro l
      induction l with
      | nil => intro _; rfl
      | cons a l ih =>
          intro hl
          have ha := hl a (by simp)
          simp only [List.map_cons, List.zip_cons_cons, toNat_ofNat]
          rw [ih (fun p hp => hl p (by simp [hp]))]
          congr 1
          cases a; simp only [Prod.mk.injEq, true_and]; simp only at ha; omega
    exact this r.trans (fun p hp => (h.trans_ok p hp).2.2)
  have hM' : mkTypes (List.map recOf (r.types.zip (abbrIdx 0 r.types))) (abbrBlock r.types)
      (List.map (fun t => if t.isstd = true then (1 : UInt8) else 0) r.types)
      (List.map (fun t => if t.isgmt = true then (1 : UInt8) else 0) r.types) = r.types := hM
  simp only [h00, if_true, Int.zero_mul, Int.toNat_zero, List.drop_zero, hS, hG, hAny, Bool.false_eq_true,
    if_false, hM', hIdx, hZip]
end TZ
