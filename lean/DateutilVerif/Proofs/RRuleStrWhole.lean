/-
  Proofs/RRuleStrWhole.lean — the compact date form read back field by field, and the whole text of `str(rule)` — one or two
  parameter-less lines — through `_parse_rfc` (C13).
-/
import DateutilVerif.Proofs.RRuleStrRound
import DateutilVerif.Proofs.RRuleStrSet

namespace RRuleStr
open ICal (isSpace upper splitOnChar pyInt rstrip strip isDigit splitLines)

variable {po : ParseOpts}

theorem showNat_length_le : ∀ (k n : Nat), 1 ≤ k → n < 10 ^ k → (showNat n).length ≤ k
  | 0, _, h, _ => by omega
  | k + 1, n, _, hn => by
    by_cases h : n < 10
    · rw [showNat_lt n h]; simp
    · rw [showNat_ge n h]
      have hk : 1 ≤ k := by
        rcases Nat.eq_zero_or_pos k with rfl | hk
        · simp at hn; omega
        · exact hk
      have := showNat_length_le k (n / 10) hk (by rw [Nat.pow_succ] at hn; omega)
      simp; omega

theorem pad_length (w n : Nat) (h : (showNat n).length ≤ w) : (pad w n).length = w := by
  simp [pad]; omega

theorem digitsVal_zeros (k : Nat) (s : List Char) : digitsVal (List.replicate k '0' ++ s) = digitsVal s := by
  induction k with
  | zero => rfl
  | succ k ih =>
    rw [List.replicate_succ, List.cons_append]
    unfold digitsVal at ih ⊢
    rw [List.foldl_cons]
    exact ih

theorem nat?_pad (w n : Nat) : nat? (pad w n) = some n := by
  unfold nat?
  have h1 : (pad w n).isEmpty = false := by
    have : pad w n ≠ [] := by simp [pad, showNat_ne_nil]
    cases h : pad w n with
    | nil => exact absurd h this
    | cons => rfl
  have h2 : (pad w n).all isDigit = true := by rw [List.all_eq_true]; exact pad_digits w n
  simp only [h1, h2, Bool.not_false, Bool.and_self, if_true]
  exact congrArg some ((digitsVal_zeros _ _).trans (digitsVal_showNat n))

theorem len2 {l : List Char} (h : l.length = 2) : ∃ a b, l = [a, b] := by
  match l, h with
  | [a, b], _ => exact ⟨a, b, rfl⟩

theorem len4 {l : List Char} (h : l.length = 4) : ∃ a b c d, l = [a, b, c, d] := by
  match l, h with
  | [a, b, c, d], _ => exact ⟨a, b, c, d, rfl⟩

/-- fifteen characters `YYYYMMDDTHHMMSS` whose fields read as numbers are the compact form -/
theorem parseCompact_fields {a b c d e f : List Char} {y m dd hh mm ss : Nat}
    (la : a.length = 4) (lb : b.length = 2) (lc : c.length = 2) (ld : d.length = 2) (le : e.length = 2) (lf : f.length = 2)
    (ha : nat? a = some y) (hb : nat? b = some m) (hc : nat? c = some dd) (hd : nat? d = some hh) (he : nat? e = some mm)
    (hf : nat? f = some ss) (hz : 'Z' ∉ f) :
    parseCompact (a ++ b ++ c ++ ['T'] ++ d ++ e ++ f) = .compact y m dd hh mm ss false := by
  obtain ⟨a1, a2, a3, a4, rfl⟩ := len4 la
  obtain ⟨b1, b2, rfl⟩ := len2 lb
  obtain ⟨c1, c2, rfl⟩ := len2 lc
  obtain ⟨d1, d2, rfl⟩ := len2 ld
  obtain ⟨e1, e2, rfl⟩ := len2 le
  obtain ⟨f1, f2, rfl⟩ := len2 lf
  have hf2 : f2 ≠ 'Z' := fun h => hz (by simp [h])
  simp [parseCompact, hf2, ha, hb, hc, hd, he, hf]

/-- `parseCompact (showDT t)` gives the fields back (the DTSTART / UNTIL text of `__str__`, in-range fields) -/
theorem parseCompact_showDT (y m d hh mm ss : Nat) (hy : y < 10000) (hm : m < 100) (hd : d < 100) (hh' : hh < 100)
    (hmm : mm < 100) (hss : ss < 100) : parseCompact (showDT (y, m, d, hh, mm, ss)) = .compact y m d hh mm ss false := by
  have l2 : ∀ n, n < 100 → (pad 2 n).length = 2 := fun n hn => pad_length 2 n (showNat_length_le 2 n (by omega) (by omega))
  have l4 : (pad 4 y).length = 4 := pad_length 4 y (showNat_length_le 4 y (by omega) (by omega))
  exact parseCompact_fields l4 (l2 m hm) (l2 d hd) (l2 hh hh') (l2 mm hmm) (l2 ss hss) (nat?_pad _ _) (nat?_pad _ _)
    (nat?_pad _ _) (nat?_pad _ _) (nat?_pad _ _) (nat?_pad _ _) (fun h => by
      have := pad_digits 2 ss _ h; revert this; decide)

/-- the lines of `str(rule)`: the DTSTART line when there is a start, the RRULE line -/
def strLines (x : StrIn) : List Line :=
  (match x.dtstart with | some t => [Line.dtstart (showDT t)] | none => []) ++ [.rrule (rruleBody x)]

theorem toStr_eq (x : StrIn) : toStr x = intercalate ['\n'] ((strLines x).map Line.render) := by
  unfold toStr dtstartLines strLines
  cases x.dtstart with
  | none => simp only [List.nil_append, List.map_cons, List.map_nil, Line.render, rruleLineOf_eq]
  | some t =>
    simp only [List.cons_append, List.nil_append, List.map_cons, List.map_nil, Line.render, rruleLineOf_eq]
    rw [show lit "DTSTART:" = lit "DTSTART" ++ [':'] from rfl, List.append_assoc, List.singleton_append]

theorem strLines_chars (x : StrIn) (hx : Printable x) : ∀ l ∈ strLines x, ∀ c ∈ l.render, isLineC c = true := by
  have hname : ∀ (n v : List Char), (∀ d ∈ n, isLineC d = true) → (∀ d ∈ v, isLineC d = true) → ∀ c ∈ n ++ ':' :: v, isLineC c = true := by
    intro n v hn hv c hc
    rcases List.mem_append.mp hc with h | h
    · exact hn c h
    · rcases List.mem_cons.mp h with rfl | h
      · decide
      · exact hv c h
  have hbody : ∀ c ∈ (Line.rrule (rruleBody x)).render, isLineC c = true :=
    hname _ _ (by decide) (fun c hc => by
      rcases rruleBody_chars x hx c hc with h | rfl
      · simp [isLineC, h]
      · decide)
  unfold strLines
  cases x.dtstart with
  | none => intro l hl; simp only [List.nil_append, List.mem_singleton] at hl; subst hl; exact hbody
  | some t =>
    intro l hl
    simp only [List.cons_append, List.nil_append, List.mem_cons, List.not_mem_nil, or_false] at hl
    rcases hl with rfl | rfl
    · exact hname _ _ (by decide) (fun c hc => by simp [isLineC, isPartC, isValC, showDT_atoms t c hc])
    · exact hbody

theorem needFreq_argsOf (x : StrIn) : needFreq (argsOf po x) = .ok (argsOf po x) := rfl

theorem buildRule_body (x : StrIn) (hx : Printable x) (dt : Option DateV) (cache : Bool) :
    buildRule po (rruleBody x) dt cache = .ok (.rule (argsOf po x) dt cache) := by
  unfold buildRule ruleOf
  rw [parseRRuleLine_body x hx]; rfl

theorem buildRule_line (x : StrIn) (hx : Printable x) (dt : Option DateV) (cache : Bool) :
    buildRule po (rruleLineOf x) dt cache = .ok (.rule (argsOf po x) dt cache) := by
  unfold buildRule ruleOf
  rw [parseRRuleLine_rruleLineOf x hx]; rfl

/-- **`rrulestr(str(rule), ignoretz=…, tzinfos=…, cache=…)`** without unfold / forceset / compatible, for every printable rule, with
    or without a start: a single rule with exactly the printed arguments and the DTSTART text when there is one; the UNTIL and
    DTSTART values carry the options passed, the rule gets `cache`.  With a start the text has two lines and goes through the
    property dispatch; without one (`_dtstart` falsy; never the case for a constructed rule) it is the single-line fast path. -/
theorem parseRfc_toStr (x : StrIn) (hx : Printable x) (o : Opts) (hu : o.unfold = false) (hf : o.forceset = false)
    (hc : o.compatible = false) (kw : Bool) :
    parseRfc (toStr x) o kw = .ok (.rule (argsOf o.po x) (x.dtstart.map (fun t => (showDT t, [], o.po))) o.cache) := by
  have hchars := strLines_chars x hx
  rw [toStr_eq, parseRfc_lines (strLines x) (by unfold strLines; simp)
    (fun l hl c hc => ⟨isLineC_not_lower c (hchars l hl c hc), isLineC_not_space c (hchars l hl c hc)⟩) o hu hc kw, hf]
  unfold strLines
  cases x.dtstart with
  | none =>
    simp only [List.nil_append, List.map_cons, List.map_nil, Line.render, ← rruleLineOf_eq]
    rw [parseLines_single _ _ (by simp [intercalate, startsWith, rruleLineOf_eq, lit])]
    exact buildRule_line x hx none _
  | some t =>
    have hok : ∀ l ∈ [Line.dtstart (showDT t), Line.rrule (rruleBody x)], l.ok := by
      intro l hl
      simp only [List.mem_cons, List.not_mem_nil, or_false] at hl
      rcases hl with rfl | rfl
      · exact fun h => isAtom_ne_comma _ (showDT_atoms t _ h) rfl
      · trivial
    rw [List.singleton_append, parseLines_builds_rule _ _ hok _ _ _ (rruleBody x) (shortcut_two _ _ _ (by simp)) rfl rfl rfl rfl]
    exact buildRule_body x hx _ _

end RRuleStr
