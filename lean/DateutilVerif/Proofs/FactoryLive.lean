/-
  Proofs/FactoryLive.lean — enabledness (no statement of the model can raise or get stuck except
  a lock acquisition while the lock is taken), the frame table of `tstep` (which statement writes
  which part of the global state) and what `instance` / `nocache` allocate.
-/
import DateutilVerif.Proofs.FactoryReach

namespace Fact

variable {kd : Kind} {res : Key → Res}

def isAcq : Pc → Bool
  | .lAcq | .gAcq | .sAcq | .cAcq => true
  | _ => false

theorem not_finished_of_inLocked {th : Thread} (h : inLocked th.pc = true) : th.finished = false := by
  unfold Thread.finished
  cases hp : th.pc <;> first | rfl | (rw [hp] at h; cases h)

theorem not_isAcq_of_inLocked {pc : Pc} (h : inLocked pc = true) : isAcq pc = false := by
  cases pc <;> first | rfl | cases h

theorem tstep_enabled {t : Tid} {g : Glob} {th : Thread} (hT : TI kd res t g th) (hf : th.finished = false) :
    (isAcq th.pc = true ∧ g.lock ≠ none) ∨ (tstep kd res t g th).isSome = true := by
  have hp := hT.pc
  fun_cases tstep kd res t g th <;>
    first
    | exact .inr rfl
    | exact .inl ⟨by rw [‹th.pc = _›]; rfl, ‹_›⟩
    -- the other disabled branches contradict the assertion at their pc (or, when idle, `hf`)
    | (simp only [‹th.pc = _›, pcInv] at hp; simp_all [Thread.finished])

theorem tstep_frame {t : Tid} {g g' : Glob} {th th' : Thread} (h : tstep kd res t g th = some (g', th')) :
    (th.pc ∉ [.lSdWrite, .gStore, .cWeak] → g'.weak = g.weak) ∧
    (th.pc ∉ [.xTouch, .xEvict, .sPop, .cStrong] → g'.strong = g.strong) ∧
    (th.pc ≠ .sSet → g'.cap = g.cap) ∧
    (th.pc ∉ [.lAcq, .gAcq, .sAcq, .cAcq, .xRel, .xRelX, .gRelE, .sRel, .cRel] → g'.lock = g.lock) ∧
    (th.pc ∉ [.xRel, .uRet] → g'.held = g.held) ∧
    (th.pc ≠ .cWeak → g'.epoch = g.epoch) ∧
    (th.pc ≠ .uStore → g'.single = g.single) ∧
    (th.pc ∉ [.lAlloc, .gAlloc, .fAlloc, .uAlloc] → g'.next = g.next) ∧
    (th.pc ∉ [.lInit, .gInit, .fInit, .uInit] → g'.inited = g.inited) := by
  revert h
  fun_cases tstep kd res t g th <;> intro h <;> cases h <;> rw [‹th.pc = _›] <;>
    refine ⟨?_, ?_, ?_, ?_, ?_, ?_, ?_, ?_, ?_⟩ <;> intro hn <;> first | rfl | exact absurd (by decide) hn

/-- for a key that does not resolve to a shared object, the id `instance` / `nocache` returns is
new: `g.next` (or nothing: `None`, or the constructor raised) -/
theorem fresh_alloc {t : Tid} {g g' : Glob} {th th' : Thread} (hpc : th.pc = .fAlloc)
    (hns : kd = .gettz → (res th.key).slot? = none)
    (h : tstep kd res t g th = some (g', th')) : th'.tmp = none ∨ th'.tmp = some g.next := by
  simp only [tstep, hpc] at h
  split at h
  · simp only [Option.some.injEq, Prod.mk.injEq] at h; obtain ⟨rfl, rfl⟩ := h; simp
  · split at h
    · simp only [Option.some.injEq, Prod.mk.injEq] at h; obtain ⟨rfl, rfl⟩ := h; simp
    · split at h
      · rename_i i heq
        by_cases hk : kd = .gettz
        · simp [hk, hns hk] at heq
        · simp [hk] at heq
      · simp only [Option.some.injEq, Prod.mk.injEq] at h; obtain ⟨rfl, rfl⟩ := h; simp

/-- `gettz.nocache(name)` for a name that resolves to an existing shared object (the constant UTC,
a vendored entry) returns THAT object and changes nothing: it is not a fresh constructor -/
theorem shared_alloc {t : Tid} {g g' : Glob} {th th' : Thread} {sl : Nat} {i : Id} (hpc : th.pc = .fAlloc)
    (hs : res th.key = .shared sl) (hl : g.shared.lookup sl = some i)
    (h : tstep .gettz res t g th = some (g', th')) : th'.tmp = some i ∧ th'.pc = .fRet ∧ g' = g := by
  simp only [tstep, hpc, hs, reduceCtorEq, if_false, and_false, Res.slot?, Option.bind_some, hl, if_true] at h
  simp only [Option.some.injEq, Prod.mk.injEq] at h
  obtain ⟨rfl, rfl⟩ := h
  simp

/-- factories without `cache_clear` (tzoffset, tzstr; also the singleton) stay in epoch 0 -/
theorem epoch_zero {cap : Nat} {scripts : List (List Op)} {s : State} (hk : kd ≠ .gettz)
    (h : Reachable kd res (initState cap scripts) s) : s.g.epoch = 0 := by
  induction h with
  | init => rfl
  | @step s1 s2 l hr hs ih =>
    cases l with
    | thr t =>
      obtain ⟨th, g', th', hth, hstep, rfl⟩ := step_thr hs
      have hkd := ((reachable_inv (init_inv cap scripts) hr).ti t th hth).kind
      exact ((tstep_frame hstep).2.2.2.2.2.1 fun hc => hk (by rw [hc] at hkd; exact hkd)).trans ih
    | drop t n => cases step_drop hs; exact ih
    | collect k => obtain ⟨_, _, _, rfl⟩ := step_collect hs; exact ih

end Fact
