/- Proofs/IsoRenderDate.lean — `_parse_isodate` on the printed date forms: five shapes (calendar date, week with and
   without day, ordinal date, year alone or with month), the first three in basic and extended format at once. -/
import DateutilVerif.Proofs.IsoScan
namespace Iso
open IsoSpec

/-- tail after a complete date: nothing, or a byte that is not a digit followed by anything -/
def TailOK (t : Bytes) : Prop := t = [] ∨ ∃ c r, t = c :: r ∧ isDigit c = false

theorem parseIsodate_year (x : Fields) (hy : x.year < 10000) :
    parseIsodate (renderDate .year x) = .ok (((x.year : Int), 1, 1), []) := by
  have := parseIsodateCommon_year x.year hy []
  rw [List.append_nil, if_pos rfl] at this
  rw [parseIsodate, renderDate, this]

theorem parseIsodate_yearMonth (x : Fields) (hy : x.year < 10000) (ha : x.a < 100) :
    parseIsodate (renderDate .yearMonth x) = .ok (((x.year : Int), (x.a : Int), 1), []) := by
  have := commonMonth_pad2 true x.year x.a ha []
  rw [List.append_nil, if_pos rfl] at this
  rw [parseIsodate, renderDate, List.append_assoc, parseIsodateCommon_year _ hy, if_neg (by simp)]
  simp only [List.singleton_append]
  simp only [List.take_succ_cons, List.take_zero, List.drop_succ_cons, List.drop_zero, cDash, beq_self_eq_true, if_true,
    this]

theorem parseIsodate_cal (ext : Bool) (x : Fields) (t : Bytes) (hy : x.year < 10000) (ha : x.a < 100)
    (hb : x.b < 100) :
    parseIsodate (renderDate (calForm ext) x ++ t) = .ok (((x.year : Int), (x.a : Int), (x.b : Int)), t) := by
  obtain ⟨h1, h2⟩ := skip_dash ext (pad2 x.a ++ (dash ext ++ (pad2 x.b ++ t))) (by simp [pad2, cDash])
  rw [parseIsodate, renderDate_calForm, List.append_assoc, List.append_assoc, List.append_assoc, List.append_assoc,
    parseIsodateCommon_year _ hy, if_neg (by cases ext <;> simp [dash, pad2]), h1, h2,
    commonMonth_pad2 _ _ _ ha, if_neg (by cases ext <;> simp [dash, pad2]), commonDay_pad2 _ _ _ _ hb]

/-- on a week date `_parse_isodate_common` fails at the `W` and `_parse_isodate_uncommon` takes over -/
theorem parseIsodate_W (ext : Bool) (y : Nat) (hy : y < 10000) (r : Bytes) :
    parseIsodate (pad4 y ++ (dash ext ++ (87 :: r))) = uncommonWeek ext y r := by
  obtain ⟨h1, h2⟩ := skip_dash ext (87 :: r) (by simp [cDash])
  rw [parseIsodate, parseIsodateCommon_year y hy, if_neg (by cases ext <;> simp [dash]), h1, h2, commonMonth_W,
    parseIsodateUncommon_year y hy, h1, h2]
  rfl

theorem parseIsodate_weekD (ext : Bool) (x : Fields) (t : Bytes) (hy : x.year < 10000) (ha : x.a < 100)
    (hb : x.b < 10) :
    parseIsodate (renderDate (weekDForm ext) x ++ t) =
      (calculateWeekdate x.year x.a x.b).bind fun base => .ok (base, t) := by
  rw [renderDate_weekDForm, List.append_assoc, List.append_assoc, List.cons_append, List.append_assoc,
    List.append_assoc, parseIsodate_W ext _ hy, uncommonWeek_pad2 _ _ _ ha, uncommonWeekDay_pad1 _ _ _ _ hb]

theorem parseIsodate_week (ext : Bool) (x : Fields) (hy : x.year < 10000) (ha : x.a < 100) :
    parseIsodate (renderDate (weekForm ext) x) =
      (calculateWeekdate x.year x.a 1).bind fun base => .ok (base, []) := by
  have := uncommonWeek_pad2 ext x.year x.a ha []
  rw [List.append_nil] at this
  rw [renderDate_weekForm, parseIsodate_W ext _ hy, this]
  rfl

/-- on an ordinal date `_parse_isodate_common` reads two of the three digits as a month and fails at the third;
    in basic format provided no digit follows -/
theorem parseIsodate_ord (ext : Bool) (x : Fields) (t : Bytes) (hy : x.year < 10000) (ha : x.a < 1000)
    (ht : ext = false → TailOK t) :
    parseIsodate (renderDate (ordForm ext) x ++ t) = ordinalResult x.year x.a t := by
  rw [renderDate_ordForm, List.append_assoc, List.append_assoc]
  generalize x.year = y at *
  generalize x.a = a at *
  obtain ⟨h1, h2⟩ := skip_dash ext (pad3 a ++ t) (by simp [pad3, cDash])
  have e3 : pad3 a ++ t = pad2 (a / 10) ++ (dch a :: t) := by simp [pad3, pad2, Nat.div_div_eq_div_mul]
  have hday : commonDay ext y (a / 10 : Nat) (dch a :: t) = .error .ValueError := by
    cases ext
    · rcases ht rfl with rfl | ⟨c, r, rfl, hc⟩
      · simp [commonDay]
      · simp [commonDay, parseDigits_nondigit [dch a, c] 2 (by simp [hc]), bind, Except.bind]
    · simp [commonDay, cDash]
  rw [parseIsodate, parseIsodateCommon_year y hy, if_neg (by cases ext <;> simp [dash, pad3]), h1, h2, e3,
    commonMonth_pad2 _ _ _ (by omega), if_neg (by simp), hday, ← e3, parseIsodateUncommon_year y hy, h1, h2]
  simp only [pad3, List.cons_append, List.take_succ_cons, List.take_zero, cW, List.cons.injEq, dch_ne_87, and_true,
    beq_iff_eq, if_false]
  exact uncommonOrdinal_pad3 y a ha t

end Iso
