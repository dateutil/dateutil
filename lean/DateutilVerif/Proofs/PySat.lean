/-
  Proofs/PySat.lean — a postcondition pair for programs in the exception monad (`Sat`), with the rules by which such a
  statement follows the shape of the program: a leaf, an `if`, a bind, a fold.
-/
import DateutilVerif.Base.Py

namespace Py

/-- what a computation returns satisfies `P`, what it raises satisfies `Q` -/
def Sat {α} (m : R α) (P : α → Prop) (Q : PyErr → Prop) : Prop :=
  match m with
  | .ok a => P a
  | .error e => Q e

namespace Sat
variable {α β : Type} {P : α → Prop} {Q : PyErr → Prop}

theorem ok {a : α} (h : P a) : Sat (.ok a) P Q := h
theorem err {e : PyErr} (h : Q e) : Sat (.error e : R α) P Q := h
theorem ite {c : Prop} [Decidable c] {a b : R α} (h1 : Sat a P Q) (h2 : Sat b P Q) : Sat (if c then a else b) P Q := by
  split <;> assumption
/-- `ite`, with the condition at hand in each branch -/
theorem ite' {c : Prop} [Decidable c] {a b : R α} (h1 : c → Sat a P Q) (h2 : ¬ c → Sat b P Q) :
    Sat (if c then a else b) P Q := by
  split
  · exact h1 ‹_›
  · exact h2 ‹_›
theorem triv {m : R α} : Sat m (fun _ => True) (fun _ => True) := by cases m <;> trivial
theorem bind {m : R β} {f : β → R α} {P' : β → Prop} (h1 : Sat m P' Q) (h2 : ∀ b, P' b → Sat (f b) P Q) :
    Sat (m >>= f) P Q := by
  cases m with
  | error e => exact h1
  | ok b => exact h2 b h1
theorem of_ok {m : R α} (h : Sat m P Q) {a : α} (hm : m = .ok a) : P a := by subst hm; exact h
theorem of_err {m : R α} (h : Sat m P Q) {e : PyErr} (hm : m = .error e) : Q e := by subst hm; exact h
theorem mono {m : R α} {P' : α → Prop} {Q' : PyErr → Prop} (h : Sat m P' Q') (hP : ∀ a, P' a → P a)
    (hQ : ∀ e, Q' e → Q e) : Sat m P Q := by
  cases m with
  | error e => exact hQ e h
  | ok a => exact hP a h

/-- a fold whose step keeps `P` and raises only what `Q` allows -/
theorem foldlM {σ : Type} {P : σ → Prop} (f : σ → α → R σ) :
    ∀ (l : List α) (s : σ), P s → (∀ s, ∀ a ∈ l, P s → Sat (f s a) P Q) → Sat (l.foldlM f s) P Q
  | [], _, h, _ => .ok h
  | a :: t, s, h, hf =>
    .bind (hf s a (by simp) h) fun s' h' => foldlM f t s' h' fun s b hb => hf s b (by simp [hb])

/-- a map whose function returns `P` and raises only what `Q` allows returns a list of `P`s -/
theorem mapM (f : β → R α) (hf : ∀ b, Sat (f b) P Q) : ∀ (l : List β), Sat (l.mapM f) (fun as => ∀ a ∈ as, P a) Q
  | [] => by rw [List.mapM_nil]; exact .ok (fun _ h => absurd h List.not_mem_nil)
  | b :: l => by
    rw [List.mapM_cons]
    exact .bind (hf b) fun a ha => .bind (mapM f hf l) fun as has =>
      .ok (fun x hx => (List.mem_cons.mp hx).elim (fun e => e ▸ ha) (has x))

end Sat
end Py
