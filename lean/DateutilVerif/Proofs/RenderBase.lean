/-
  Proofs/RenderBase.lean — shared facts for the `parse_render` theorems of C02:
  * `AsciiOK cls`: the classification agrees with Python's on the ASCII characters;
  * `dtok ks`: the token made of the decimal digits `ks` (each taken mod 10), with everything the
    parser asks about it (float/Decimal/int acceptance and value, slices, table lookups);
  * ASCII words: `cls` can be replaced by `asciiCls`, after which facts are computed by `decide`.
-/
import DateutilVerif.Proofs.LexSeg
import DateutilVerif.Proofs.ParserIsoTok

namespace PM
open Py PT

/-- the classification agrees with Python's on ASCII (checked against Python on every run) -/
class AsciiOK (cls : Char → CClass) : Prop where
  agree : ∀ c : Char, c.toNat < 128 → cls c = asciiCls c

instance : AsciiOK asciiCls := ⟨fun _ _ => rfl⟩

/-- the token spelled with the decimal digits `ks` (each `k % 10`) -/
def dtok (ks : List Nat) : Token := ks.map digitChar

def dvalAcc (ks : List Nat) (acc : Nat) : Nat := ks.foldl (fun a k => a * 10 + k % 10) acc
def dval (ks : List Nat) : Nat := dvalAcc ks 0

theorem digitChar_small (k : Nat) : (digitChar k).toNat < 128 := by
  have : ∀ j : Fin 10, (Char.ofNat (48 + j.val)).toNat < 128 := by decide
  exact this (dj k)

theorem asciiCls_digitChar (k : Nat) : asciiCls (digitChar k) = .decDigit (k % 10) := by
  have : ∀ j : Fin 10, asciiCls (Char.ofNat (48 + j.val)) = .decDigit j.val := by decide
  exact this (dj k)

section
variable (cls : Char → CClass) [hc : AsciiOK cls]

theorem cls_digitChar (k : Nat) : cls (digitChar k) = .decDigit (k % 10) := by
  rw [hc.agree _ (digitChar_small k), asciiCls_digitChar]

theorem asciiLike_of_ok : AsciiLike cls :=
  ⟨fun j => by
      have := cls_digitChar cls j.val
      rw [digitChar_eq] at this
      have e : (dj j.val) = j := by apply Fin.ext; simp [dj, Nat.mod_eq_of_lt j.isLt]
      rw [e] at this
      rw [this, Nat.mod_eq_of_lt j.isLt],
   by rw [hc.agree _ (by decide)]; decide, by rw [hc.agree _ (by decide)]; decide,
   by rw [hc.agree _ (by decide)]; decide, by rw [hc.agree _ (by decide)]; decide⟩

theorem digitsVal_dtok (ks : List Nat) : ∀ acc, digitsVal cls (dtok ks) acc = some (dvalAcc ks acc) := by
  induction ks with
  | nil => intro acc; rfl
  | cons k ks ih =>
    intro acc
    simp only [dtok, List.map_cons, digitsVal, digitVal, cls_digitChar cls k]
    exact ih _

theorem dtok_mem (ks : List Nat) (c : Char) (h : c ∈ dtok ks) : ∃ k, c = digitChar k := by
  simp only [dtok, List.mem_map] at h
  obtain ⟨k, _, hk⟩ := h
  exact ⟨k, hk.symm⟩

theorem dot_notin_dtok (ks : List Nat) : '.' ∉ dtok ks := by
  intro h
  obtain ⟨k, hk⟩ := dtok_mem ks _ h
  exact digitChar_ne_dot k hk.symm

theorem splitDot_dtok (ks : List Nat) : splitDot (dtok ks) = (dtok ks, none) := by
  induction ks with
  | nil => rfl
  | cons k ks ih =>
    simp only [dtok, List.map_cons, splitDot, digitChar_ne_dot k, if_false] at ih ⊢
    rw [ih]

theorem numForm_dtok (k : Nat) (ks : List Nat) : numForm cls (dtok (k :: ks)) = some ⟨dval (k :: ks), 0⟩ := by
  unfold numForm
  rw [splitDot_dtok]
  have he : (dtok (k :: ks)).isEmpty = false := rfl
  simp only [he, Bool.false_eq_true, if_false, digitsVal_dtok, Option.map_some, dval]

@[simp] theorem floatOk_dtok (k : Nat) (ks : List Nat) : floatOk cls (dtok (k :: ks)) = true := by
  simp [floatOk, numForm_dtok]

@[simp] theorem toDecimal_dtok (k : Nat) (ks : List Nat) : toDecimal cls (dtok (k :: ks)) = .ok ⟨dval (k :: ks), 0⟩ := by
  simp [toDecimal, numForm_dtok]

@[simp] theorem length_dtok (ks : List Nat) : (dtok ks).length = ks.length := by simp [dtok]

theorem pyInt_dtok (k : Nat) (ks : List Nat) (h : ks.length < 100) : pyInt cls (dtok (k :: ks)) = .ok (dval (k :: ks)) := by
  unfold pyInt
  have h2 : ¬ (dtok (k :: ks)).length > intMaxStrDigits := by simp [intMaxStrDigits]; omega
  have he : (dtok (k :: ks)).isEmpty = false := rfl
  simp only [he, Bool.false_eq_true, if_false, h2, digitsVal_dtok, dval]

@[simp] theorem isDigitTok_dtok (k : Nat) (ks : List Nat) : isDigitTok cls (dtok (k :: ks)) = true := by
  unfold isDigitTok
  simp only [dtok, List.map_cons, List.isEmpty_cons, Bool.not_false, Bool.true_and, List.all_eq_true]
  intro c hc'
  obtain ⟨j, hj⟩ := dtok_mem (k :: ks) c (by simpa [dtok] using hc')
  rw [hj, cls_digitChar cls]; rfl

theorem drun_dtok (ks : List Nat) : DRun cls (dtok ks) := by
  intro c h
  obtain ⟨k, hk⟩ := dtok_mem ks c h
  rw [hk]
  refine ⟨by rw [cls_digitChar cls]; rfl, digitChar_ne_nul k, digitChar_ne_dot k, ?_⟩
  have : ∀ j : Fin 10, Char.ofNat (48 + j.val) ≠ ',' := by decide
  exact this (dj k)

@[simp] theorem parsems_dtok (k : Nat) (ks : List Nat) (h : ks.length < 100) :
    parsems cls (dtok (k :: ks)) = .ok (dval (k :: ks), 0) := by
  unfold parsems
  have : '.' ∉ dtok (k :: ks) := dot_notin_dtok (k :: ks)
  simp [this, pyInt_dtok cls k ks h, bind, Except.bind, pure, Except.pure]

/-- `_parsems` on `SS.f…` (1 to 6 fraction digits given explicitly, then zero-padded to six) -/
theorem parsems_frac (a : Nat) (as : List Nat) (b : Nat) (bs : List Nat) (ha : as.length < 100) (hb : bs.length < 6) :
    parsems cls (dtok (a :: as) ++ '.' :: dtok (b :: bs)) =
      .ok (dval (a :: as), dval ((b :: bs) ++ List.replicate (5 - bs.length) 0)) := by
  unfold parsems
  have hcont : (dtok (a :: as) ++ '.' :: dtok (b :: bs)).contains '.' = true := by simp
  have hsplit : ∀ (xs : List Nat) (r : List Char), splitDot (dtok xs ++ '.' :: r) = (dtok xs, some r) := by
    intro xs r
    induction xs with
    | nil => simp [dtok, splitDot]
    | cons x xs ih =>
      simp only [dtok, List.map_cons, List.cons_append, splitDot, digitChar_ne_dot x, if_false] at ih ⊢
      rw [ih]
  have hnd : (dtok (b :: bs)).contains '.' = false := by simpa using dot_notin_dtok (b :: bs)
  have hpad : ((dtok (b :: bs) ++ List.replicate (6 - (dtok (b :: bs)).length) '0').take 6) =
      dtok ((b :: bs) ++ List.replicate (5 - bs.length) 0) := by
    have h0 : ('0' : Char) = digitChar 0 := by decide
    have : 6 - (bs.length + 1) = 5 - bs.length := by omega
    simp only [length_dtok, List.length_cons, this]
    simp only [dtok, List.map_append, List.map_replicate, ← h0]
    rw [List.take_of_length_le]
    simp; omega
  simp only [hcont, Bool.not_true, Bool.false_eq_true, if_false, hsplit, hnd, hpad]
  have hb' : (bs ++ List.replicate (5 - bs.length) 0).length < 100 := by simp; omega
  simp [pyInt_dtok cls a as ha, bind, Except.bind, pure, Except.pure]
  rw [pyInt_dtok cls b (bs ++ List.replicate (5 - bs.length) 0) hb']

end

@[simp] theorem sl_dtok (ks : List Nat) (a b : Nat) : sl (dtok ks) a b = dtok ((ks.drop a).take (b - a)) := by
  simp [sl, dtok, List.map_drop, List.map_take]
@[simp] theorem drop_dtok (ks : List Nat) (a : Nat) : (dtok ks).drop a = dtok (ks.drop a) := by
  simp [dtok, List.map_drop]
@[simp] theorem dtok_append (a b : List Nat) : dtok a ++ dtok b = dtok (a ++ b) := by simp [dtok]
theorem pad2_dtok (n : Nat) : pad2 n = dtok [n / 10, n] := rfl
theorem pad4_dtok (n : Nat) : pad4 n = dtok [n / 1000, n / 100, n / 10, n] := rfl
@[simp] theorem contains_dot_dtok (ks : List Nat) : (dtok ks).contains '.' = false := by
  simpa using dot_notin_dtok ks
@[simp] theorem idxOf_dot_dtok (ks : List Nat) : (dtok ks).idxOf '.' = ks.length := by
  rw [List.idxOf_eq_length (dot_notin_dtok ks)]; simp
@[simp] theorem isEmpty_dtok (k : Nat) (ks : List Nat) : (dtok (k :: ks)).isEmpty = false := rfl

/-! ### the stock tables know no word that starts with a digit -/

theorem lower_dtok (ks : List Nat) : lower (dtok ks) = dtok ks := by
  induction ks with
  | nil => rfl
  | cons k ks ih =>
    simp only [lower, dtok, List.map_cons, lower_digitChar] at ih ⊢
    rw [ih]

theorem first_dtok (k : Nat) (ks : List Nat) : firstIsDigit (dtok (k :: ks)) = true := by
  simp [firstIsDigit, dtok, isAsciiDigit_digitChar]

theorem weekdays_nodigit : ∀ p ∈ convertGroups Gen.PI_WEEKDAYS, firstIsDigit p.1 = false := by decide
theorem hms_nodigit : ∀ p ∈ convertGroups Gen.PI_HMS, firstIsDigit p.1 = false := by decide
theorem ampm_nodigit : ∀ p ∈ convertGroups Gen.PI_AMPM, firstIsDigit p.1 = false := by decide
theorem pertain_nodigit : ∀ k ∈ convertFlat Gen.PI_PERTAIN, firstIsDigit k = false := by decide
theorem utczone_nodigit : ∀ k ∈ convertFlat Gen.PI_UTCZONE, firstIsDigit k = false := by decide

section
variable (df yf : Bool) (year century : Int) (k : Nat) (ks : List Nat)

@[simp] theorem isJump_dtok : (Info.default df yf year century).isJump (dtok (k :: ks)) = false := by
  show (convertFlat Gen.PI_JUMP).contains (lower (dtok (k :: ks))) = false
  rw [lower_dtok]; exact contains_false_of_first _ _ jump_nodigit (first_dtok k ks)
@[simp] theorem isPertain_dtok : (Info.default df yf year century).isPertain (dtok (k :: ks)) = false := by
  show (convertFlat Gen.PI_PERTAIN).contains (lower (dtok (k :: ks))) = false
  rw [lower_dtok]; exact contains_false_of_first _ _ pertain_nodigit (first_dtok k ks)
@[simp] theorem monthOf_dtok : (Info.default df yf year century).monthOf (dtok (k :: ks)) = none := by
  show (lookupLast (convertGroups Gen.PI_MONTHS) (lower (dtok (k :: ks)))).map (· + 1) = none
  rw [lower_dtok, lookupLast_none_of_first _ _ months_nodigit (first_dtok k ks)]; rfl
@[simp] theorem weekdayOf_dtok : (Info.default df yf year century).weekdayOf (dtok (k :: ks)) = none := by
  show lookupLast (convertGroups Gen.PI_WEEKDAYS) (lower (dtok (k :: ks))) = none
  rw [lower_dtok, lookupLast_none_of_first _ _ weekdays_nodigit (first_dtok k ks)]
@[simp] theorem hmsOf_dtok : (Info.default df yf year century).hmsOf (dtok (k :: ks)) = none := by
  show lookupLast (convertGroups Gen.PI_HMS) (lower (dtok (k :: ks))) = none
  rw [lower_dtok, lookupLast_none_of_first _ _ hms_nodigit (first_dtok k ks)]
@[simp] theorem ampmOf_dtok : (Info.default df yf year century).ampmOf (dtok (k :: ks)) = none := by
  show lookupLast (convertGroups Gen.PI_AMPM) (lower (dtok (k :: ks))) = none
  rw [lower_dtok, lookupLast_none_of_first _ _ ampm_nodigit (first_dtok k ks)]
end

/-- a digit token is never equal to a token that does not start with a digit -/
theorem dtok_ne (k : Nat) (ks : List Nat) (t : Token) (h : firstIsDigit t = false) : dtok (k :: ks) ≠ t := by
  intro he
  rw [← he, first_dtok] at h
  cases h

@[simp] theorem dtok_eq_single (k : Nat) (ks : List Nat) (c : Char) (h : isAsciiDigit c = false) :
    (dtok (k :: ks) = [c]) = False := by
  simp only [eq_iff_iff, iff_false]
  exact dtok_ne k ks [c] (by simp [firstIsDigit, h])

@[simp] theorem single_eq_dtok (k : Nat) (ks : List Nat) (c : Char) (h : isAsciiDigit c = false) :
    ([c] = dtok (k :: ks)) = False := by
  simp only [eq_iff_iff, iff_false]
  exact fun he => dtok_ne k ks [c] (by simp [firstIsDigit, h]) he.symm

/-! ### ASCII words: the classification can be replaced by `asciiCls` -/

theorem digitsVal_congr (cls cls' : Char → CClass) (t : List Char) (h : ∀ c ∈ t, cls c = cls' c) :
    ∀ acc, digitsVal cls t acc = digitsVal cls' t acc := by
  induction t with
  | nil => intro acc; rfl
  | cons a r ih =>
    intro acc
    simp only [digitsVal, digitVal, h a List.mem_cons_self]
    split
    · exact ih (fun c hc => h c (List.mem_cons_of_mem _ hc)) _
    · rfl

theorem splitDot_mem (t : List Char) : ∀ c, (c ∈ (splitDot t).1 → c ∈ t) ∧ (∀ f, (splitDot t).2 = some f → c ∈ f → c ∈ t) := by
  induction t with
  | nil => intro c; simp [splitDot]
  | cons a r ih =>
    intro c
    unfold splitDot
    split
    · refine ⟨by simp, ?_⟩
      intro f hf hc
      simp only [Option.some.injEq] at hf
      subst hf
      exact List.mem_cons_of_mem _ hc
    · constructor
      · intro hc
        simp only [List.mem_cons] at hc ⊢
        rcases hc with hc | hc
        · exact Or.inl hc
        · exact Or.inr ((ih c).1 hc)
      · intro f hf hc
        exact List.mem_cons_of_mem _ ((ih c).2 f hf hc)

theorem floatOk_congr (cls cls' : Char → CClass) (t : Token) (h : ∀ c ∈ t, cls c = cls' c) :
    floatOk cls t = floatOk cls' t := by
  unfold floatOk numForm
  have hm := splitDot_mem t
  cases hs : splitDot t with
  | mk ip fo =>
    rw [hs] at hm
    cases fo with
    | none =>
      simp only
      rw [digitsVal_congr cls cls' ip (fun c hc => h c ((hm c).1 hc))]
    | some fp =>
      simp only
      rw [digitsVal_congr cls cls' (ip ++ fp) (fun c hc => by
        rcases List.mem_append.mp hc with hc | hc
        · exact h c ((hm c).1 hc)
        · exact h c ((hm c).2 fp rfl hc))]

/-- for an ASCII token, `float()` acceptance is the one computed with Python's ASCII classes -/
theorem floatOk_ascii (cls : Char → CClass) [hc : AsciiOK cls] (t : Token) (h : t.all (fun c => decide (c.toNat < 128)) = true) :
    floatOk cls t = floatOk asciiCls t :=
  floatOk_congr cls asciiCls t (fun c hm => hc.agree c (by
    have := List.all_eq_true.mp h c hm
    simpa using this))

theorem arun_ascii (cls : Char → CClass) [hc : AsciiOK cls] (t : List Char)
    (h : t.all (fun c => decide (c.toNat < 128) && (asciiCls c).isWord && decide (c ≠ '\x00')) = true) : ARun cls t := by
  intro c hm
  have := List.all_eq_true.mp h c hm
  simp only [Bool.and_eq_true, decide_eq_true_eq] at this
  rw [hc.agree c this.1.1]
  exact ⟨this.1.2, this.2⟩

/-- ends-conditions for a following ASCII character, computed with Python's ASCII classes -/
theorem numEnds_ascii (cls : Char → CClass) [hc : AsciiOK cls] (c : Char) (r : List Char)
    (h : (decide (c.toNat < 128) && decide (c ≠ '\x00') && !(asciiCls c).isNum && decide (c ≠ '.') && decide (c ≠ ',')) = true) :
    NumEnds cls (c :: r) := by
  simp only [Bool.and_eq_true, decide_eq_true_eq, Bool.not_eq_true'] at h
  show _ ∧ _
  rw [hc.agree c h.1.1.1.1]
  exact ⟨h.1.1.1.2, h.1.1.2, h.1.2, h.2⟩

theorem fracEnds_ascii (cls : Char → CClass) [hc : AsciiOK cls] (c : Char) (r : List Char)
    (h : (decide (c.toNat < 128) && decide (c ≠ '\x00') && !(asciiCls c).isNum && decide (c ≠ '.')) = true) :
    FracEnds cls (c :: r) := by
  simp only [Bool.and_eq_true, decide_eq_true_eq, Bool.not_eq_true'] at h
  show _ ∧ _
  rw [hc.agree c h.1.1.1]
  exact ⟨h.1.1.2, h.1.2, h.2⟩

theorem wordEnds_ascii (cls : Char → CClass) [hc : AsciiOK cls] (c : Char) (r : List Char)
    (h : (decide (c.toNat < 128) && decide (c ≠ '\x00') && !(asciiCls c).isWord && decide (c ≠ '.')) = true) :
    WordEnds cls (c :: r) := by
  simp only [Bool.and_eq_true, decide_eq_true_eq, Bool.not_eq_true'] at h
  show _ ∧ _
  rw [hc.agree c h.1.1.1]
  exact ⟨h.1.1.2, h.1.2, h.2⟩

theorem wordEnds_digit (cls : Char → CClass) [AsciiOK cls] (k : Nat) (r : List Char) : WordEnds cls (digitChar k :: r) := by
  show _ ∧ _
  rw [cls_digitChar cls]
  exact ⟨digitChar_ne_nul k, rfl, digitChar_ne_dot k⟩

theorem cls_other (cls : Char → CClass) [hc : AsciiOK cls] (c : Char)
    (h : (decide (c.toNat < 128) && decide (asciiCls c = .other)) = true) : cls c = .other := by
  simp only [Bool.and_eq_true, decide_eq_true_eq] at h
  rw [hc.agree c h.1]; exact h.2

theorem cls_space (cls : Char → CClass) [hc : AsciiOK cls] (c : Char)
    (h : (decide (c.toNat < 128) && decide (asciiCls c = .space)) = true) : cls c = .space := by
  simp only [Bool.and_eq_true, decide_eq_true_eq] at h
  rw [hc.agree c h.1]; exact h.2

theorem rem1_int (n : Nat) (hn : n < 100) : Dec.rem1 ⟨n, 0⟩ = .ok ⟨0, 0⟩ := by
  have := ndigits_small ⟨n, hn⟩
  have h1 : ¬ ndigits n > decPrec := by simp at this; omega
  simp [Dec.rem1, Dec.toNat, h1, round28, Nat.mod_one]

@[simp] theorem toNat_int (n : Nat) : Dec.toNat ⟨n, 0⟩ = n := by simp [Dec.toNat]

end PM
