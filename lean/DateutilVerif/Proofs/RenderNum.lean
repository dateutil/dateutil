/-
  Proofs/RenderNum.lean — all-numeric dates `MM/DD/YYYY`, `DD/MM/YYYY` (dayfirst), `YYYY/MM/DD`, and their
  two-digit-year forms through `convertyear` (family 7 of C02).
-/
import DateutilVerif.Proofs.RenderSentence
import DateutilVerif.Proofs.RenderFin

namespace PM
open Py PT

/-- the flags each format is unambiguous under -/
def numFlagsOk (f : NumFmt) (dayfirst yearfirst : Bool) : Prop :=
  match f with
  | .us => dayfirst = false ∧ yearfirst = false
  | .eu => dayfirst = true ∧ yearfirst = false
  | .yf => dayfirst = false
  | .us2 => dayfirst = false ∧ yearfirst = false
  | .eu2 => dayfirst = true ∧ yearfirst = false
  | .yf2 => dayfirst = false ∧ yearfirst = true

section
variable (cls : Char → CClass) [AsciiOK cls]

theorem lex_num3 (A B C : List Nat) (a b c : Nat) :
    scan cls .init (dtok (a :: A) ++ ['/'] ++ dtok (b :: B) ++ ['/'] ++ dtok (c :: C)) =
      [dtok (a :: A), ['/'], dtok (b :: B), ['/'], dtok (c :: C)] := by
  have e : dtok (c :: C) = dtok (c :: C) ++ [] := by simp
  simp only [List.append_assoc, List.cons_append, List.nil_append]
  rw [lex_dtok cls _ _ _ (numEnds_ascii cls _ _ (by decide)), lex_punct cls '/' _ (by decide),
      lex_dtok cls _ _ _ (numEnds_ascii cls _ _ (by decide)), lex_punct cls '/' _ (by decide), e,
      lex_dtok cls _ _ [] (numEnds_nil cls), scan_init_nil, List.append_nil]

/-- three numbers with `/`, one of them possibly the year in full: the scan and the finish from how `_ymd` resolves them -/
theorem parse_num3 (yf : Bool) (year century : Int) (o : Opts) (tznames : List Token) (tzi : TzInfos) (hfz : o.fuzzy = false)
    (hfwt : o.fuzzyWithTokens = false) (htz : tzi.applies none = false) (dflt : DT) (hdv : dflt.Valid) {t : DT} (ht : t.Valid)
    {A B C : Token} {a na b nb c nc yp : Nat} (hA : IsNum A a na) (hB : IsNum B b nb) (hC : IsNum C c nc) (hna : na ≤ 4)
    (hnb : nb ≤ 4) (hnc : nc ≤ 4) (hone : (na ≤ 2 ∧ nb ≤ 2) ∨ (na ≤ 2 ∧ nc ≤ 2) ∨ (nb ≤ 2 ∧ nc ≤ 2)) (str : List Char)
    (hlex : scan cls .init str = [A, ['/'], B, ['/'], C])
    (hr : ({ vals := [a, b, c], century := decide (2 < na) || decide (2 < nb) || decide (2 < nc),
             yIdx := if 2 < na then some 0 else if 2 < nb then some 1 else if 2 < nc then some 2 else none } : Ymd).resolve
        (o.yearfirst.getD yf) (o.dayfirst.getD false) = .ok (some yp, some t.m.toNat, some t.d.toNat))
    (hc : Gen.convertyear ⟨century, year⟩ yp (decide (2 < na) || decide (2 < nb) || decide (2 < nc)) = .ok t.y) :
    parse cls (Info.default false yf year century) o tznames tzi dflt str =
      .ok { dt := { t with hh := dflt.hh, mm := dflt.mm, ss := dflt.ss, us := dflt.us }, tz := .naive, tokens := none } :=
  tpl_date cls _ o tznames tzi hfz hfwt dflt _ _ _ _ _ _ hlex
    (loop_sep3_num (fuel := 0) (by rfl) (Or.inr (Or.inl rfl)) hA hB hC (by omega) (by omega) (by omega) rfl hone (by rfl)
      (hmsOf_num hA))
    (finish_t yf year century o tznames tzi dflt ht _ _ yp _ hr hc rfl rfl (Or.inl rfl) htz rfl
      (valid_fields ht (valid_hh hdv) (valid_mm hdv) (valid_ss hdv) (valid_us hdv)))

theorem parse_num (yf : Bool) (year century : Int) (o : Opts) (tznames : List Token) (tzi : TzInfos) (hfz : o.fuzzy = false)
    (hfwt : o.fuzzyWithTokens = false) (htz : tzi.applies none = false) (dflt : DT) (hdv : dflt.Valid) (t : DT) (ht : t.Valid)
    (f : NumFmt) (hflags : numFlagsOk f (o.dayfirst.getD false) (o.yearfirst.getD yf))
    (hyy : f.twoDigit = true → Gen.convertyear ⟨century, year⟩ (t.y % 100) false = .ok t.y) :
    parse cls (Info.default false yf year century) o tznames tzi dflt (renderNum f t) =
      .ok { dt := { t with hh := dflt.hh, mm := dflt.mm, ss := dflt.ss, us := dflt.us }, tz := .naive, tokens := none } := by
  have N := dtNums ht
  have hfull := convertyear_full ⟨century, year⟩ ht true (Or.inl rfl)
  cases f <;> simp only [numFlagsOk] at hflags
  · exact parse_num3 cls yf year century o tznames tzi hfz hfwt htz dflt hdv ht N.m N.d N.y (by decide) (by decide) (by decide)
      (Or.inl (by decide)) _ (lex_num3 cls [_] [_] [_, _, _] _ _ _) (by rw [hflags.1, hflags.2]; exact resolve_mdY _ _ _ _ N.bm.2) hfull
  · exact parse_num3 cls yf year century o tznames tzi hfz hfwt htz dflt hdv ht N.d N.m N.y (by decide) (by decide) (by decide)
      (Or.inl (by decide)) _ (lex_num3 cls [_] [_] [_, _, _] _ _ _) (by rw [hflags.1, hflags.2]; exact resolve_dmY _ _ _ _ N.bd.2 N.bm.2) hfull
  · exact parse_num3 cls yf year century o tznames tzi hfz hfwt htz dflt hdv ht N.y N.m N.d (by decide) (by decide) (by decide)
      (Or.inr (Or.inr (by decide))) _ (lex_num3 cls [_, _, _] [_] [_] _ _ _) (by rw [hflags]; exact resolve_Ymd _ _ _ _ _) hfull
  · exact parse_num3 cls yf year century o tznames tzi hfz hfwt htz dflt hdv ht N.m N.d N.yy (by decide) (by decide) (by decide)
      (Or.inl (by decide)) _ (lex_num3 cls [_] [_] [_] _ _ _) (by rw [hflags.1, hflags.2]; exact resolve_mdy _ _ _ _ N.bm.2 N.bd.2)
      (convertyear_yy _ ht (hyy rfl))
  · exact parse_num3 cls yf year century o tznames tzi hfz hfwt htz dflt hdv ht N.d N.m N.yy (by decide) (by decide) (by decide)
      (Or.inl (by decide)) _ (lex_num3 cls [_] [_] [_] _ _ _) (by rw [hflags.1, hflags.2]; exact resolve_dmy _ _ _ _ N.bd.2 N.bm.2)
      (convertyear_yy _ ht (hyy rfl))
  · exact parse_num3 cls yf year century o tznames tzi hfz hfwt htz dflt hdv ht N.yy N.m N.d (by decide) (by decide) (by decide)
      (Or.inl (by decide)) _ (lex_num3 cls [_] [_] [_] _ _ _) (by rw [hflags.1, hflags.2]; exact resolve_ymd _ _ _ _ N.bm.2 N.bd.2)
      (convertyear_yy _ ht (hyy rfl))

end
end PM
