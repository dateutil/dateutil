/-
  Proofs/RRuleNthWMonthly.lean — MONTHLY with nth BYDAY TOGETHER with BYWEEKNO (nth members only = outside D-C01a;
  BYWEEKNO on the complement of D-C01c): both computed masks are present and the filter is
  `simpleOk ∧ nth clause ∧ week clause`, i.e. `dateOk` (Proofs/RRuleBridge.lean, `nth_filtered`).
-/
import DateutilVerif.Proofs.RRuleNthMonthly
import DateutilVerif.Proofs.RRuleWeeknoYearly

namespace RRule
open Cal

/-- MONTHLY, BYDAY of nth weekdays only, BYWEEKNO on the complement of D-C01c -/
structure NthWMArgs (a : Args) : Prop where
  freq : a.freq = 1
  interval : 1 ≤ a.interval
  valid : a.dtstart.Valid
  wkst : 0 ≤ a.wkst.getD 0 ∧ a.wkst.getD 0 ≤ 6
  byeaster : a.byeaster = none
  monthday_nz : ∀ x ∈ a.bymonthday.getD [], x ≠ 0
  weekdays : ∃ l, a.byweekday = some l ∧ l ≠ [] ∧ ∀ w ∈ l, (0 ≤ w.1 ∧ w.1 ≤ 6) ∧ w.2 ≠ 0
  weekno : ∃ wl, a.byweekno = some wl ∧ wl ≠ [] ∧ WnoOk wl

/-- the same argument set without BYWEEKNO -/
def stripWno (a : Args) : Args := { a with byweekno := none }

variable {a : Args} {r : Rule} {y : Int} {info : Info}

/-- both computed masks: nth BYDAY members only, BYWEEKNO, no BYEASTER -/
structure NthWRule (r : Rule) : Prop where
  byweekno : truthy r.byweekno = true
  byeaster : truthy r.byeaster = false
  byweekday : r.byweekday = none

theorem nthWRule_of (D : DateFields a r) (hf : a.freq = 0 ∨ a.freq = 1) (hw : NthOnly a)
    (hwn : ∃ wl, a.byweekno = some wl ∧ wl ≠ [] ∧ WnoOk wl) (he : a.byeaster = none) : NthWRule r :=
  ⟨(weekno_rule D hwn).2, D.easter_off he, by rw [D.byweekday]; exact (nwl_facts hf hw).2.2.2.1⟩

/-- "the model state at the start of period `k`" -/
structure NthWGood (a : Args) (r : Rule) (k : Nat) (st : State) : Prop where
  facts : YearFacts r st.cur.year st.info
  month : 1 ≤ st.cur.month ∧ st.cur.month ≤ 12
  timeset : st.timeset = Spec.RRule.timesOf a none none none
  idx : st.cur.year * 12 + (st.cur.month - 1) = a.dtstart.y * 12 + (a.dtstart.m - 1) + k * a.interval
  masks : ∃ nmask wmask, st.info.nwdaymask = some nmask ∧ (nmask.length : Int) = st.info.yearlen ∧
    (∀ j : Int, 0 ≤ j → j < st.info.yearlen →
      Py.getIdx nmask j = .ok (if ∃ wn ∈ nwlOf (stripWno a), marks st.info (daysBeforeMonth st.cur.year st.cur.month)
          (daysBeforeMonth st.cur.year st.cur.month + daysInMonth st.cur.year st.cur.month - 1) j wn then 1 else 0)) ∧
    st.info.wnomask = some wmask ∧ (wmask.length : Int) = st.info.yearlen + 7 ∧
    (∀ j : Int, 0 ≤ j → j < st.info.yearlen →
      Py.getIdx wmask j = .ok (if weekClause r.wkst (weeknosOf a) (st.info.yearordinal + j) = true then 1 else 0))

/-- what `rebuild` establishes here: the nth-weekday mask of the month and the week-number mask of the year -/
def NthWInv (a : Args) (r : Rule) (y m : Int) (info : Info) : Prop :=
  NthMInv (stripWno a) y m info ∧ WeeknoMarks r.wkst (weeknosOf a) info info.yearlen

theorem nw_filter (na : NthWMArgs a) (h : construct a = .ok r) : PeriodFilter a r 1 9999 (NthWInv a r) monthDays where
  lo := by omega
  hi := by omega
  rebuild := fun y m hy1 hy2 hm1 hm12 => by
    have D := construct_dateFields h
    obtain ⟨n, hn, hN⟩ := nthM_build D na.freq na.weekdays hy1 hy2 hm1 hm12
    obtain ⟨w, hw, hW⟩ := wnomaskOf_in D na.weekno na.wkst hy1 hy2
    exact ⟨_, rebuild_eq r m hy1 hy2 hw hn (eastermaskOf_off (D.easter_off na.byeaster) ..), hN _ _, hW _ _⟩
  filtered := fun {y m info i} f inv hi =>
    have D := construct_dateFields h
    have hy := monthDays_year f hi
    nth_filtered D (monthdayArg_nz na.monthday_nz na.valid) (nwl_facts (Or.inr na.freq) na.weekdays).2.2.2.1 f i
      hy.1 hy.2 inv.1.marked (fun _ => nthM_part na.freq na.weekdays f hi) (weekno_miss_on D na.weekno inv.2 hy.1 hy.2)
      (easter_miss_off D na.byeaster ..)

/-- the state invariant of the MONTHLY refinement, read for this family -/
theorem nw_good (na : NthWMArgs a) {k : Nat} {st : State} (g : PeriodGood (NthWInv a r) a r k st) :
    NthWGood a r k st := by
  obtain ⟨⟨nm, a1, a2, a3⟩, wm, b1, b2, b3⟩ := g.inv
  exact ⟨g.facts, g.month, g.timeset, g.monthly na.freq, nm, wm, a1, a2, a3, b1, b2, b3⟩

/-- **`iter_eq_spec`, MONTHLY with nth weekdays and BYWEEKNO** (nth members only; BYWEEKNO on the complement of
    D-C01c; a week start 0..6): the values yielded during the first `n` periods are exactly the specification's
    recurrence set -/
theorem iter_eq_spec_monthly_nth_weekno (na : NthWMArgs a) (h : construct a = .ok r) (n : Nat)
    (hm : (a.dtstart.y * 12 + (a.dtstart.m - 1) + n * a.interval) / 12 ≤ 9999) :
    (iter r n).1 = Spec.RRule.occ a n := by
  have hv := na.valid
  unfold DT.Valid ValidDate at hv
  exact monthly_refines h na.freq na.valid (nw_filter na h) n hv.1.1 hm

-- an NthWMArgs instance: the last Friday of the month when it falls in weeks 4, 13 or the last week
example : NthWMArgs { freq := 1, dtstart := ⟨2024, 1, 1, 18, 0, 0, 0⟩, byweekday := some [(4, -1)],
                      byweekno := some [4, 13, -1] } :=
  ⟨rfl, by decide, by decide, by decide, rfl, by intro x hx; simp at hx,
   ⟨[(4, -1)], rfl, by decide, by decide⟩, ⟨[4, 13, -1], rfl, by decide, ⟨by decide, by decide⟩⟩⟩

end RRule
