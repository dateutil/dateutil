/-
  Proofs/RDGenEq.lean — the functions re-translated from /repo's relativedelta.py on every run
  (Generated/RDOps.lean, translator harness/translate_rd.py, primitives Model/RDPy.lean) are EQUAL to the
  hand-written model (Model/RelativeDelta.lean) that the C03 / C09 / C16 theorems are stated about.
  An edit of the source that changes the behaviour of a translated method changes Generated/RDOps.lean
  and the corresponding `*_eq` theorem here stops checking (or the translation itself fails).
-/
import DateutilVerif.Generated.RDOps
import DateutilVerif.Proofs.RDApply
import DateutilVerif.Proofs.RDDiff

namespace RDG
open RDM RDP
set_option linter.unusedSimpArgs false

theorem bind_ok {α β : Type} (v : α) (f : α → Py.R β) : Except.bind (Except.ok v : Py.R α) f = f v := rfl
theorem bind_err {α β : Type} (e : Py.PyErr) (f : α → Py.R β) :
    Except.bind (Except.error e : Py.R α) f = Except.error e := rfl

theorem map_ok {α β : Type} (f : α → β) (v : α) : Except.map f (Except.ok v : Py.R α) = .ok (f v) := rfl
theorem map_err {α β : Type} (f : α → β) (e : Py.PyErr) : Except.map f (Except.error e : Py.R α) = .error e := rfl

theorem bind_ite {α β : Type} (c : Prop) [Decidable c] (a b : Py.R α) (f : α → Py.R β) :
    Except.bind (if c then a else b) f = if c then Except.bind a f else Except.bind b f :=
  apply_ite (fun x => Except.bind x f) c a b
theorem map_ite {α β : Type} (c : Prop) [Decidable c] (a b : Py.R α) (f : α → β) :
    Except.map f (if c then a else b) = if c then Except.map f a else Except.map f b :=
  apply_ite (Except.map f) c a b

theorem bind_congr {α β : Type} (x : Py.R α) {f g : α → Py.R β} (h : ∀ a, f a = g a) : x.bind f = x.bind g := by
  rw [funext h]

theorem promote_eq (self : RD) (other : Temporal) :
    (if ((self.hasTime ≠ 0) ∧ (¬ (RDPy.isDatetime other = true))) then RDPy.dateToDatetime other else other)
      = promote self other := by
  unfold promote RDPy.isDatetime RDPy.dateToDatetime
  by_cases h : other.kind = Kind.date <;> simp [h]

/-- `if value is not None: repl[attr] = value`, on a dict that has no `attr` yet -/
theorem repl_hour (y m d v a b c : Option Int) :
    (if v ≠ none then (⟨y, m, d, v, a, b, c⟩ : RDPy.Repl) else ⟨y, m, d, none, a, b, c⟩) = ⟨y, m, d, v, a, b, c⟩ := by
  cases v <;> rfl
theorem repl_minute (y m d h v b c : Option Int) :
    (if v ≠ none then (⟨y, m, d, h, v, b, c⟩ : RDPy.Repl) else ⟨y, m, d, h, none, b, c⟩) = ⟨y, m, d, h, v, b, c⟩ := by
  cases v <;> rfl
theorem repl_second (y m d h a v c : Option Int) :
    (if v ≠ none then (⟨y, m, d, h, a, v, c⟩ : RDPy.Repl) else ⟨y, m, d, h, a, none, c⟩) = ⟨y, m, d, h, a, v, c⟩ := by
  cases v <;> rfl
theorem repl_microsecond (y m d h a b v : Option Int) :
    (if v ≠ none then (⟨y, m, d, h, a, b, v⟩ : RDPy.Repl) else ⟨y, m, d, h, a, b, none⟩) = ⟨y, m, d, h, a, b, v⟩ := by
  cases v <;> rfl

/-- `other.replace(**repl)` with the dict `__add__` builds = the model's `replaced` -/
theorem replace_eq (self : RD) (o : Temporal) (y m d : Int) :
    RDPy.replace o { year := some y, month := some m, day := some d, hour := self.hour, minute := self.minute,
                     second := self.second, microsecond := self.microsecond }
      = (replaced self o.kind o.t y m d).map (fun t => { kind := o.kind, t := t }) := by
  unfold RDPy.replace replaced hasAbsTime
  simp only [Option.getD_some]
  split
  · rfl
  · split
    · rfl
    · split <;> rfl

theorem pyAddTd_eq (x : Temporal) (δ : Int) :
    RDPy.addTd x δ = (addDelta x.kind x.t δ).map (fun t => { kind := x.kind, t := t }) := rfl

theorem timedelta_days (j : Int) : RDPy.timedelta j 0 0 0 0 = j * DT.usPerDay := by
  unfold RDPy.timedelta DT.usPerDay; omega

theorem addDelta_days (k : Kind) (t : DT) (j : Int) : addDelta k t (j * DT.usPerDay) = t.addDays j := by
  unfold addDelta
  cases k with
  | date =>
    simp only []
    have : j * DT.usPerDay / DT.usPerDay = j := by unfold DT.usPerDay; omega
    rw [this]
  | naive => rfl
  | aware z o => rfl

/-- the weekday step of the translated `__add__` = the model's `applyWeekday` -/
theorem weekday_some_eq (w : Int) (n : Option Int) (x : Temporal) :
    Except.bind
        (RDPy.addTd x
          (RDPy.timedelta
            (if orInt n 1 > 0 then (Py.iabs (orInt n 1) - 1) * 7 + (7 - RDPy.weekdayOf x + w) % 7
            else ((Py.iabs (orInt n 1) - 1) * 7 + (RDPy.weekdayOf x - w) % 7) * -1)
            0 0 0 0))
        (fun x_14 => Except.ok x_14)
    = (applyWeekday (some (w, n)) x.t).map (fun r => { kind := x.kind, t := r }) := by
  simp only [applyWeekday, pyAddTd_eq, timedelta_days, addDelta_days]
  have e : (if orInt n 1 > 0 then (Py.iabs (orInt n 1) - 1) * 7 + (7 - RDPy.weekdayOf x + w) % 7
            else ((Py.iabs (orInt n 1) - 1) * 7 + (RDPy.weekdayOf x - w) % 7) * -1) = jumpDays w n x.t.weekday := by
    unfold jumpDays RDPy.weekdayOf
    split <;> omega
  rw [e]
  cases x.t.addDays (jumpDays w n x.t.weekday) <;> rfl

/-- what follows the month carry in the translated `__add__` = `applyTail` -/
theorem tail_eq (self : RD) (o : Temporal) (y m : Int) :
    (Except.bind (RDPy.monthrange1 y m) fun dim_5 =>
        Except.bind
          (RDPy.replace o
            { year := some y, month := some m, day := some (min dim_5 (orInt self.day o.t.d)),
              hour := self.hour, minute := self.minute, second := self.second, microsecond := self.microsecond })
          fun x_11 =>
          Except.bind
            (RDPy.addTd x_11
              (RDPy.timedelta
                (if self.leapdays ≠ 0 ∧ m > 2 ∧ Cal.isLeap y = true then self.days + self.leapdays
                else self.days)
                self.hours self.minutes self.seconds self.microseconds))
            fun x_12 =>
            (match self.weekday with
                | none => Except.ok x_12
                | some wd_ =>
                  Except.bind
                    (RDPy.addTd x_12
                      (RDPy.timedelta
                        (if orInt wd_.snd 1 > 0 then
                          (Py.iabs (orInt wd_.snd 1) - 1) * 7 + (7 - RDPy.weekdayOf x_12 + wd_.fst) % 7
                        else ((Py.iabs (orInt wd_.snd 1) - 1) * 7 + (RDPy.weekdayOf x_12 - wd_.fst) % 7) * -1)
                        0 0 0 0))
                    fun x_14 => Except.ok x_14).bind
              fun x_14 => Except.ok x_14)
    = applyTail self o.kind o.t y m := by
  unfold applyTail
  simp only [bind, pure, Except.pure]
  show Except.bind (RDM.monthrange1 y m) _ = _
  cases hmr : RDM.monthrange1 y m with
  | error e => rfl
  | ok dim =>
    simp only [bind_ok]
    rw [replace_eq]
    cases hrep : replaced self o.kind o.t y m (min dim (orInt self.day o.t.d)) with
    | error e => rfl
    | ok base =>
      simp only [Except.map, bind_ok]
      rw [pyAddTd_eq]
      have hd : RDPy.timedelta (if self.leapdays ≠ 0 ∧ m > 2 ∧ Cal.isLeap y = true then self.days + self.leapdays
                else self.days) self.hours self.minutes self.seconds self.microseconds
          = deltaMicros self (daysWithLeap self y m) := rfl
      rw [hd]
      cases hadd : addDelta o.kind base (deltaMicros self (daysWithLeap self y m)) with
      | error e => rfl
      | ok ret =>
        simp only [Except.map, bind_ok]
        cases hw : self.weekday with
        | none => rfl
        | some p =>
          obtain ⟨w, n⟩ := p
          simp only []
          rw [weekday_some_eq w n { kind := o.kind, t := ret }]
          cases applyWeekday (some (w, n)) ret <;> rfl


theorem addDt_eq (self : RD) (other : Temporal) : Gen.addDt self other = applyTo self other := by
  unfold Gen.addDt applyTo
  simp only [promote_eq, RDPy.orOpt, repl_hour, repl_minute, repl_second, repl_microsecond]
  generalize promote self other = o
  -- `simp` cannot fold the tail: the `match` on `self.weekday` in `Gen.addDt` and the one in the statement of
  -- `tail_eq` are different matcher constants, equal only by unfolding
  refine (bind_congr _ fun (j_4 : Int × Int) => tail_eq self o j_4.2 j_4.1).trans ?_
  -- the single ±12 carry; the translation keeps (month, year), the model (year, month)
  unfold ymCarry
  by_cases h0 : self.months = 0
  · simp only [h0, ne_eq, not_true_eq_false, ↓reduceIte, bind, bind_ok]
  · by_cases h1 : 1 ≤ Py.iabs self.months ∧ Py.iabs self.months ≤ 12
    · by_cases h2 : orInt self.month o.t.m + self.months > 12
      · simp only [h0, h1, h2, and_self, ne_eq, not_true_eq_false, not_false_eq_true, ↓reduceIte, bind, bind_ok]
      · by_cases h3 : orInt self.month o.t.m + self.months < 1 <;>
          simp only [h0, h1, h2, h3, and_self, ne_eq, not_true_eq_false, not_false_eq_true, ↓reduceIte, bind, bind_ok]
    · simp only [h0, h1, ne_eq, not_false_eq_true, ↓reduceIte, bind, bind_err]

/-- `nlyearday or 0` / `yearday or 0` of the model are the value the source reads under `if nlyearday:` -/
theorem orInt_zero (a : Option Int) : orInt a 0 = RDPy.optVal a := by
  rcases a with _ | v
  · rfl
  · show (if v ≠ 0 then v else 0) = v
    split <;> omega

theorem truthy_iff_optVal (a : Option Int) : RDPy.truthyOpt a ↔ RDPy.optVal a ≠ 0 := by
  rcases a with _ | v <;> simp [RDPy.truthyOpt, RDPy.optVal]

/-- the translated keyword constructor on the arguments the operators pass (a weekday OBJECT or None,
    no yearday / nlyearday): it cannot raise and ends in the translated `_fix` -/
theorem initKw_plain (kw : Kw) (w : Option (Int × Option Int)) (hw : kw.weekday = RDPy.wdArgOfObj w)
    (hy : kw.yearday = none) (hn : kw.nlyearday = none) :
    Gen.initKw kw = .ok (Gen.fix
      { years := kw.years, months := kw.months, days := kw.days + kw.weeks * 7, leapdays := kw.leapdays,
        hours := kw.hours, minutes := kw.minutes, seconds := kw.seconds, microseconds := kw.microseconds,
        year := kw.year, month := kw.month, day := kw.day, weekday := w, hour := kw.hour, minute := kw.minute,
        second := kw.second, microsecond := kw.microsecond, hasTime := 0 }) := by
  unfold Gen.initKw
  have hi : RDPy.isIntArg kw.weekday = false := by
    rw [hw]; cases w <;> rfl
  have hwd : RDPy.wdOfArg kw.weekday = w := by
    rw [hw]; cases w <;> rfl
  simp only [hy, hn, hi, hwd, truthy_iff_optVal, RDPy.optVal, Option.getD_none, ne_eq, not_true_eq_false, or_self,
    ↓reduceIte, bind_ok, Bool.false_eq_true]

theorem neg_eq (self : RD) : Gen.neg self = .ok (RDM.neg self) := by
  unfold Gen.neg
  rw [initKw_plain _ self.weekday rfl rfl rfl]
  unfold RDM.neg
  simp only [bind_ok, Int.zero_mul, Int.add_zero]

theorem abs_eq (self : RD) : Gen.abs self = .ok (RDM.abs self) := by
  unfold Gen.abs
  rw [initKw_plain _ self.weekday rfl rfl rfl]
  unfold RDM.abs
  simp only [bind_ok, Int.zero_mul, Int.add_zero]

theorem mulInt_eq (self : RD) (k : Int) : Gen.mulInt self k = .ok (RDM.mulInt self k) := by
  unfold Gen.mulInt
  simp only []
  rw [initKw_plain _ self.weekday rfl rfl rfl]
  unfold RDM.mulInt
  simp only [bind_ok, Int.zero_mul, Int.add_zero]

theorem addTd_rd_eq (self : RD) (d s u : Int) : Gen.addTd self d s u = .ok (RDM.addTimedelta self d s u) := by
  unfold Gen.addTd
  rw [initKw_plain _ self.weekday rfl rfl rfl]
  unfold RDM.addTimedelta
  simp only [bind_ok, Int.zero_mul, Int.add_zero]

theorem firstSome_eq {α} (a b : Option α) : (if a ≠ none then a else b) = firstSome a b := by
  cases a <;> rfl

theorem addRd_eq (self other : RD) : Gen.addRd self other = .ok (RDM.add self other) := by
  unfold Gen.addRd
  rw [initKw_plain _ (if other.weekday ≠ none then other.weekday else self.weekday) rfl rfl rfl]
  unfold RDM.add
  simp only [bind_ok, Int.zero_mul, Int.add_zero, firstSome_eq, RDPy.orInts]

theorem subRd_eq (self other : RD) : Gen.subRd self other = .ok (RDM.sub self other) := by
  unfold Gen.subRd
  rw [initKw_plain _ (if self.weekday ≠ none then self.weekday else other.weekday) rfl rfl rfl]
  unfold RDM.sub
  simp only [bind_ok, Int.zero_mul, Int.add_zero, firstSome_eq, RDPy.orInts]

theorem raddDt_eq (self : RD) (x : Temporal) : Gen.raddDt self x = RDM.radd self x := by
  unfold Gen.raddDt RDM.radd
  rw [addDt_eq]
  cases applyTo self x <;> rfl

theorem rsubDt_eq (self : RD) (x : Temporal) : Gen.rsubDt self x = RDM.rsub self x := by
  unfold Gen.rsubDt RDM.rsub
  rw [neg_eq, bind_ok, raddDt_eq]
  cases RDM.radd (RDM.neg self) x <;> rfl

theorem hashKey_eq (self : RD) : Gen.hashKey self = .ok (RDM.hashList self) := by
  unfold Gen.hashKey RDM.hashList
  cases self.weekday <;> rfl

/-- the hashed tuple in source order carries the same information as the grouped `hashKey` -/
theorem hashList_eq_iff (a b : RD) : hashList a = hashList b ↔ hashKey a = hashKey b := by
  unfold hashList hashKey
  simp only [List.cons.injEq, HashElt.wd.injEq, HashElt.int.injEq, HashElt.opt.injEq, and_true, Prod.mk.injEq]
  constructor
  · rintro ⟨h0, h1, h2, h3, h4, h5, h6, h7, h8, h9, h10, h11, h12, h13, h14, h15⟩
    exact ⟨h0, ⟨h1, h2, h3, h4, h5, h6, h7, h8⟩, ⟨h9, h10, h11, h12, h13, h14, h15⟩⟩
  · rintro ⟨h0, ⟨h1, h2, h3, h4, h5, h6, h7, h8⟩, ⟨h9, h10, h11, h12, h13, h14, h15⟩⟩
    exact ⟨h0, h1, h2, h3, h4, h5, h6, h7, h8, h9, h10, h11, h12, h13, h14, h15⟩

theorem bool_eq (self : RD) : Gen.bool self = .ok (RDM.bool self) := by
  unfold Gen.bool RDM.bool
  congr 1
  rw [Bool.eq_iff_iff]
  simp only [ne_eq, Decidable.not_not, decide_eq_true_eq, Bool.not_eq_true', Bool.and_eq_false_imp, Bool.and_eq_true,
    beq_iff_eq, Option.isNone_iff_eq_none, Bool.not_eq_eq_eq_not, Bool.not_true, and_assoc]
  constructor
  · intro h a
    cases hm : self.microsecond.isNone with
    | false => rfl
    | true =>
      obtain ⟨a1, a2, a3, a4, a5, a6, a7, a8, a9, a10, a11, a12, a13, a14, a15⟩ := a
      exact absurd ⟨a1, a2, a3, a4, a5, a6, a7, a8, a9, a10, a11, a12, a13, a14, a15, Option.isNone_iff_eq_none.1 hm⟩ h
  · intro h hc
    obtain ⟨a1, a2, a3, a4, a5, a6, a7, a8, a9, a10, a11, a12, a13, a14, a15, a16⟩ := hc
    have := h ⟨a1, a2, a3, a4, a5, a6, a7, a8, a9, a10, a11, a12, a13, a14, a15⟩
    rw [a16] at this; contradiction

theorem fields_eq (a b : RD) :
    decide ((a.years = b.years) ∧ (a.months = b.months) ∧ (a.days = b.days) ∧ (a.hours = b.hours) ∧
      (a.minutes = b.minutes) ∧ (a.seconds = b.seconds) ∧ (a.microseconds = b.microseconds) ∧
      (a.leapdays = b.leapdays) ∧ (a.year = b.year) ∧ (a.month = b.month) ∧ (a.day = b.day) ∧ (a.hour = b.hour) ∧
      (a.minute = b.minute) ∧ (a.second = b.second) ∧ (a.microsecond = b.microsecond))
    = (a.years == b.years && a.months == b.months && a.days == b.days &&
   a.hours == b.hours && a.minutes == b.minutes && a.seconds == b.seconds &&
   a.microseconds == b.microseconds && a.leapdays == b.leapdays &&
   a.year == b.year && a.month == b.month && a.day == b.day &&
   a.hour == b.hour && a.minute == b.minute && a.second == b.second &&
   a.microsecond == b.microsecond) := by
  rw [Bool.eq_iff_iff]
  simp only [decide_eq_true_eq, Bool.and_eq_true, beq_iff_eq, and_assoc]

theorem truthy_or_one_iff_nTrivial (n : Option Int) : ¬ RDPy.truthyOpt n ∨ n = some 1 ↔ nTrivial n = true := by
  unfold RDPy.truthyOpt nTrivial
  cases n with
  | none => simp
  | some v => by_cases h0 : v = 0 <;> by_cases h1 : v = 1 <;> simp [h0, h1]

theorem eq_eq (self other : RD) : Gen.eq self other = .ok (RDM.eq self other) := by
  unfold Gen.eq RDM.eq
  rw [fields_eq]
  generalize (self.years == other.years && self.months == other.months && self.days == other.days &&
   self.hours == other.hours && self.minutes == other.minutes && self.seconds == other.seconds &&
   self.microseconds == other.microseconds && self.leapdays == other.leapdays &&
   self.year == other.year && self.month == other.month && self.day == other.day &&
   self.hour == other.hour && self.minute == other.minute && self.second == other.second &&
   self.microsecond == other.microsecond) = F
  cases ha : self.weekday with
  | none =>
    cases hb : other.weekday with
    | none => simp [wdEq]
    | some q => simp [wdEq]
  | some p =>
    cases hb : other.weekday with
    | none => simp [wdEq]
    | some q =>
      obtain ⟨w1, n1⟩ := p; obtain ⟨w2, n2⟩ := q
      simp only [ne_eq, reduceCtorEq, not_false_eq_true, or_self, ↓reduceIte, not_true_eq_false, RDPy.wdWeekday,
        RDPy.wdN, bind_ok, wdEq]
      by_cases hw : w1 = w2
      · simp only [hw, not_true_eq_false, ↓reduceIte]
        by_cases hn : n1 = n2
        · simp [hn]
        · have t1 := truthy_or_one_iff_nTrivial n1; have t2 := truthy_or_one_iff_nTrivial n2
          by_cases c1 : nTrivial n1 = true <;> by_cases c2 : nTrivial n2 = true <;>
            simp_all
      · simp [hw]

theorem setMonths_setMonths (r : RD) (m m' : Int) : Gen.setMonths (Gen.setMonths r m) m' = Gen.setMonths r m' := by
  simp only [setMonths_eq]

theorem setMonths_hasTime (m : Int) : (Gen.setMonths empty m).hasTime = 0 := by
  rw [setMonths_eq]; rfl

theorem applyTo_setMonths_kind (m : Int) (x r : Temporal) (h : applyTo (Gen.setMonths empty m) x = .ok r) :
    r.kind = x.kind := by
  rw [applyTo_kind _ _ _ h]
  unfold promote; rw [setMonths_hasTime]; simp

theorem comparable_symm (a b : Kind) : comparable a b = comparable b a := by
  unfold comparable
  cases a <;> cases b <;> simp only []
  rename_i z o z' o'
  by_cases h : z = z' ∧ o = o'
  · rw [if_pos h, if_pos ⟨h.1.symm, h.2.symm⟩]
  · rw [if_neg h, if_neg (fun c => h ⟨c.1.symm, c.2.symm⟩)]

theorem mode_beq (utc : Bool) : ((if utc then Cmp.utc else Cmp.wall) == Cmp.utc) = utc := by
  cases utc <;> rfl

theorem dtLt_eq (off : Nat → DT → Int) (utc : Bool) (a b : Temporal)
    (h : comparable a.kind b.kind = (if utc then Cmp.utc else Cmp.wall)) :
    RDPy.dtLt off a b = .ok (decide (cmpKey off utc a < cmpKey off utc b)) := by
  unfold RDPy.dtLt
  rw [h]
  cases utc <;> rfl

theorem dtSub_eq (off : Nat → DT → Int) (utc : Bool) (a b : Temporal)
    (h : comparable a.kind b.kind = (if utc then Cmp.utc else Cmp.wall)) :
    RDPy.dtSub off a b = .ok (cmpKey off utc a - cmpKey off utc b) := by
  unfold RDPy.dtSub
  rw [h]
  cases utc <;> rfl

theorem cmpApply_eq (off : Nat → DT → Int) (utc up : Bool) (dt1 dtm : Temporal)
    (h : comparable dt1.kind dtm.kind = (if utc then Cmp.utc else Cmp.wall)) :
    RDPy.cmpApply off (if up then RDPy.CmpOp.gt else RDPy.CmpOp.lt) dt1 dtm
      = .ok (decide (if up then cmpKey off utc dtm < cmpKey off utc dt1 else cmpKey off utc dt1 < cmpKey off utc dtm)) := by
  cases up
  · simp only [Bool.false_eq_true, ↓reduceIte, RDPy.cmpApply]; exact dtLt_eq off utc dt1 dtm h
  · simp only [↓reduceIte, RDPy.cmpApply]; exact dtLt_eq off utc dtm dt1 (by rw [comparable_symm]; exact h)

/-- what the translated loop returns, as a function of the model's loop -/
def loopResult (r : Option (Py.R (Int × Temporal))) : Py.R (RD × Int × Temporal) :=
  match r with
  | none => .error .NotImplemented
  | some (.error e) => .error e
  | some (.ok (m, dtm)) => .ok (Gen.setMonths empty m, m, dtm)

theorem loop_eq (off : Nat → DT → Int) (utc : Bool) (up : Bool) (dt1 dt2 : Temporal)
    (hmode : comparable dt1.kind dt2.kind = (if utc then Cmp.utc else Cmp.wall)) :
    ∀ (fuel : Nat) (months : Int) (dtm : Temporal), dtm.kind = dt2.kind →
      Gen.initDiff_loop fuel off (Gen.setMonths empty months) months dtm
          (if up then RDPy.CmpOp.gt else RDPy.CmpOp.lt) dt1 dt2 (if up then 1 else -1)
        = loopResult (diffLoop (cmpKey off utc) fuel up dt1 dt2 months dtm) := by
  intro fuel
  induction fuel with
  | zero =>
    intro months dtm hk
    rw [Gen.initDiff_loop, diffLoop, cmpApply_eq off utc up dt1 dtm (by rw [hk]; exact hmode), bind_ok]
    by_cases hc : (if up = true then cmpKey off utc dtm < cmpKey off utc dt1 else cmpKey off utc dt1 < cmpKey off utc dtm)
    · simp only [hc, decide_true, ↓reduceIte, loopResult]
    · simp only [hc, decide_false, Bool.false_eq_true, ↓reduceIte, loopResult]
  | succ n ih =>
    intro months dtm hk
    rw [Gen.initDiff_loop, diffLoop, cmpApply_eq off utc up dt1 dtm (by rw [hk]; exact hmode), bind_ok]
    by_cases hc : (if up = true then cmpKey off utc dtm < cmpKey off utc dt1 else cmpKey off utc dt1 < cmpKey off utc dtm)
    · simp only [hc, decide_true, ↓reduceIte, setMonths_setMonths, raddDt_eq, RDM.radd]
      have em : (months + if up = true then 1 else -1) = (if up = true then months + 1 else months - 1) := by
        cases up <;> simp <;> omega
      rw [em]
      cases hr : applyTo (Gen.setMonths empty (if up = true then months + 1 else months - 1)) dt2 with
      | error e => simp only [bind_err, loopResult]
      | ok r =>
        simp only [bind_ok]
        exact ih _ r (applyTo_setMonths_kind _ _ _ hr)
    · simp only [hc, decide_false, Bool.false_eq_true, ↓reduceIte, loopResult]

theorem coerce_eq (dt1 dt2 : Temporal) :
    (if RDPy.isDatetime dt1 ≠ RDPy.isDatetime dt2 then
        (if ¬ (RDPy.isDatetime dt1 = true) then (RDPy.dateToDatetime dt1, dt2)
         else (dt1, if ¬ (RDPy.isDatetime dt2 = true) then RDPy.dateToDatetime dt2 else dt2))
     else (dt1, dt2)) = coerce dt1 dt2 := by
  unfold coerce RDPy.isDatetime RDPy.dateToDatetime
  cases h1 : dt1.kind <;> cases h2 : dt2.kind <;> simp

/-- the same with the pair taken apart and put together again, as the translation of `dt1, dt2 = …` leaves it -/
theorem coerce_eq' (dt1 dt2 : Temporal) :
    (if RDPy.isDatetime dt1 ≠ RDPy.isDatetime dt2 then
        ((if ¬ (RDPy.isDatetime dt1 = true) then (RDPy.dateToDatetime dt1, dt2)
          else (dt1, if ¬ (RDPy.isDatetime dt2 = true) then RDPy.dateToDatetime dt2 else dt2)).fst,
         (if ¬ (RDPy.isDatetime dt1 = true) then (RDPy.dateToDatetime dt1, dt2)
          else (dt1, if ¬ (RDPy.isDatetime dt2 = true) then RDPy.dateToDatetime dt2 else dt2)).snd)
     else (dt1, dt2)) = coerce dt1 dt2 := coerce_eq dt1 dt2

/-- out of fuel is the distinguished error of the translation -/
def ofOption (r : Option (Py.R RD)) : Py.R RD :=
  match r with
  | none => .error .NotImplemented
  | some x => x

theorem td_split (δ : Int) : RDPy.tdSeconds δ + RDPy.tdDays δ * 86400 = δ / 1000000 ∧ RDPy.tdMicroseconds δ = δ % 1000000 := by
  unfold RDPy.tdSeconds RDPy.tdDays RDPy.tdMicroseconds; omega

theorem initDiff_eq (off : Nat → DT → Int) (fuel : Nat) (a b : Temporal) :
    Gen.initDiff off fuel a b = ofOption (diffN off fuel a b) := by
  have he : ({} : RD) = empty := rfl
  unfold Gen.initDiff
  simp only [coerce_eq', he, raddDt_eq, RDM.radd]
  cases hap : applyTo (Gen.setMonths empty (((coerce a b).1.t.y - (coerce a b).2.t.y) * 12 +
      ((coerce a b).1.t.m - (coerce a b).2.t.m))) (coerce a b).2 with
  | error e => unfold diffN; simp only [hap]; rfl
  | ok dtm =>
    have hk := applyTo_setMonths_kind _ _ _ hap
    simp only [bind_ok]
    -- naive against aware: the first comparison raises; otherwise both sides work on `cmpKey off utc`
    have hm : comparable (coerce a b).1.kind (coerce a b).2.kind = .typeError ∨
        ∃ utc : Bool, comparable (coerce a b).1.kind (coerce a b).2.kind = (if utc then Cmp.utc else Cmp.wall) := by
      cases comparable (coerce a b).1.kind (coerce a b).2.kind
      · exact .inr ⟨false, rfl⟩
      · exact .inr ⟨true, rfl⟩
      · exact .inl rfl
    rcases hm with hc | ⟨utc, hmode⟩
    · have : RDPy.dtLt off (coerce a b).1 (coerce a b).2 = .error .TypeError := by unfold RDPy.dtLt; rw [hc]
      rw [this]
      unfold diffN; simp only [hap, hc]; rfl
    · rw [diffN_of_mode off fuel a b dtm utc hap hmode, dtLt_eq off utc _ _ hmode, bind_ok]
      generalize coerce a b = p at *
      obtain ⟨dt1, dt2⟩ := p
      simp only [] at hk hmode ⊢
      generalize ((dt1.t.y - dt2.t.y) * 12 + (dt1.t.m - dt2.t.m)) = m0
      have e1 : (if decide (cmpKey off utc dt1 < cmpKey off utc dt2) = true then (RDPy.CmpOp.gt, (1 : Int))
            else (RDPy.CmpOp.lt, -1)).fst
          = (if decide (cmpKey off utc dt1 < cmpKey off utc dt2) = true then RDPy.CmpOp.gt else RDPy.CmpOp.lt) := by
        split <;> rfl
      have e2 : (if decide (cmpKey off utc dt1 < cmpKey off utc dt2) = true then (RDPy.CmpOp.gt, (1 : Int))
            else (RDPy.CmpOp.lt, -1)).snd
          = (if decide (cmpKey off utc dt1 < cmpKey off utc dt2) = true then 1 else -1) := by
        split <;> rfl
      rw [e1, e2, loop_eq off utc _ dt1 dt2 hmode fuel m0 dtm hk]
      cases hl : diffLoop (cmpKey off utc) fuel (decide (cmpKey off utc dt1 < cmpKey off utc dt2)) dt1 dt2 m0 dtm with
      | none => rfl
      | some r =>
        cases r with
        | error e => rfl
        | ok q =>
          obtain ⟨m', dtm'⟩ := q
          simp only [loopResult, bind_ok, ofOption]
          have hk' : dtm'.kind = dt2.kind := by
            rcases diffLoop_result _ _ _ _ _ _ _ m' dtm' hl with h' | ⟨k, h'⟩
            · rw [h']; exact hk
            · exact applyTo_setMonths_kind _ _ _ h'
          rw [dtSub_eq off utc dt1 dtm' (by rw [hk']; exact hmode), bind_ok]
          have ts := td_split (cmpKey off utc dt1 - cmpKey off utc dtm')
          rw [ts.1, ts.2]
          rfl

/-- the model's table scan, unfolded: the 12-way chain of the source's `for idx, ydays in enumerate(ydayidx)` -/
theorem scan_eq (yday : Int) :
    ydayLookup yday ydayidx 0 0 =
      (if yday ≤ 31 then .ok (1, yday) else if yday ≤ 59 then .ok (2, yday - 31) else if yday ≤ 90 then .ok (3, yday - 59)
       else if yday ≤ 120 then .ok (4, yday - 90) else if yday ≤ 151 then .ok (5, yday - 120)
       else if yday ≤ 181 then .ok (6, yday - 151) else if yday ≤ 212 then .ok (7, yday - 181)
       else if yday ≤ 243 then .ok (8, yday - 212) else if yday ≤ 273 then .ok (9, yday - 243)
       else if yday ≤ 304 then .ok (10, yday - 273) else if yday ≤ 334 then .ok (11, yday - 304)
       else if yday ≤ 366 then .ok (12, yday - 334) else .error .ValueError) := by
  simp only [ydayidx, ydayLookup, Int.reduceAdd, ↓reduceIte, Int.reduceEq]

/-! `__init__` in keyword form is four steps in a row: the integer checks on the relative fields (vacuous on `Int`),
the `weekday` argument, the choice between `nlyearday` and `yearday` with the leap-day correction, and the `ydayidx`
scan followed by `_fix`.  Each step is a statement about an arbitrary object state `self`. -/

/-- the `weekday=` argument: an int goes through `weekdays[i]` (IndexError outside −7..6), an object or None is stored
    as it is; `W` is what is done with the stored value -/
theorem init_weekday (W : Option (Int × Option Int) → RD) (w : Option WdArg) :
    (if RDPy.isIntArg w = true then Except.bind (RDPy.weekdaysGet w) (fun w_1 => .ok (W w_1))
     else .ok (W (RDPy.wdOfArg w))) = (RDPy.weekdaysGet w).map W := by
  rcases w with _ | (i | ⟨w, n⟩)
  · rfl
  · show Except.bind (Except.map some (weekdayOfArg (.int i))) _ = Except.map W (Except.map some (weekdayOfArg (.int i)))
    cases weekdayOfArg (.int i) <;> rfl
  · rfl

/-- `nlyearday` wins over `yearday`; only `yearday` in 60..365 sets `leapdays = -1` -/
theorem init_yday (self : RD) (nl yd : Option Int) :
    (if RDPy.truthyOpt nl then (RDPy.optVal nl, self) else
      ((if RDPy.truthyOpt yd then
          (RDPy.optVal yd, if 59 < RDPy.optVal yd ∧ RDPy.optVal yd < 366 then { self with leapdays := -1 } else self)
        else (0, self)).1,
       (if RDPy.truthyOpt yd then
          (RDPy.optVal yd, if 59 < RDPy.optVal yd ∧ RDPy.optVal yd < 366 then { self with leapdays := -1 } else self)
        else (0, self)).2))
    = (if orInt nl 0 ≠ 0 then orInt nl 0 else orInt yd 0,
       { self with leapdays := if orInt nl 0 = 0 ∧ orInt yd 0 ≠ 0 ∧ 59 < orInt yd 0 ∧ orInt yd 0 < 366 then -1
                               else self.leapdays }) := by
  simp only [truthy_iff_optVal, orInt_zero]
  generalize RDPy.optVal nl = a
  generalize RDPy.optVal yd = b
  by_cases ha : a = 0 <;> by_cases hb : b = 0 <;> by_cases hr : 59 < b ∧ b < 366 <;>
    simp only [ha, hb, hr, ne_eq, not_true_eq_false, not_false_eq_true, ↓reduceIte, true_and, false_and, and_self]

/-- the unrolled `for idx, ydays in enumerate(ydayidx)` of the translation is the model's table scan -/
theorem init_scan (yday : Int) (self : RD) :
    (if yday ≤ 31 then (Except.ok (Gen.fix { self with month := some 1, day := some yday }) : Py.R RD)
     else if yday ≤ 59 then .ok (Gen.fix { self with month := some 2, day := some (yday - 31) })
     else if yday ≤ 90 then .ok (Gen.fix { self with month := some 3, day := some (yday - 59) })
     else if yday ≤ 120 then .ok (Gen.fix { self with month := some 4, day := some (yday - 90) })
     else if yday ≤ 151 then .ok (Gen.fix { self with month := some 5, day := some (yday - 120) })
     else if yday ≤ 181 then .ok (Gen.fix { self with month := some 6, day := some (yday - 151) })
     else if yday ≤ 212 then .ok (Gen.fix { self with month := some 7, day := some (yday - 181) })
     else if yday ≤ 243 then .ok (Gen.fix { self with month := some 8, day := some (yday - 212) })
     else if yday ≤ 273 then .ok (Gen.fix { self with month := some 9, day := some (yday - 243) })
     else if yday ≤ 304 then .ok (Gen.fix { self with month := some 10, day := some (yday - 273) })
     else if yday ≤ 334 then .ok (Gen.fix { self with month := some 11, day := some (yday - 304) })
     else if yday ≤ 366 then .ok (Gen.fix { self with month := some 12, day := some (yday - 334) })
     else .error .ValueError)
    = Except.bind ((ydayLookup yday ydayidx 0 0).map (fun md => (some md.1, some md.2)))
        (fun x => .ok (Gen.fix { self with month := x.1, day := x.2 })) := by
  rw [scan_eq]
  simp only [map_ite, bind_ite, map_ok, map_err, bind_ok, bind_err]

/-- **the translated keyword constructor IS the model `mk`**, for every keyword set: yearday / nlyearday scan,
    integer / object / absent weekday, the IndexError and ValueError branches included -/
theorem initKw_eq (kw : Kw) : Gen.initKw kw = mk kw := by
  unfold Gen.initKw mk
  -- the scan is rewritten first, while `self` is still the opaque second component of the yearday step: once
  -- `init_yday` has made it a record, its projections reduce and `init_scan` no longer matches
  simp only [ne_eq, not_true_eq_false, or_self, ↓reduceIte, bind_ok, init_weekday, init_scan]
  simp only [init_yday]
  -- `mk`'s `do` block carries its continuation inside both arms of the `match` on the weekday argument
  rcases kw.weekday with _ | a
  · rfl
  · show Except.bind (Except.map _ (Except.map some (weekdayOfArg a))) _ = Except.bind (Except.map some (weekdayOfArg a)) _
    cases weekdayOfArg a <;> rfl

end RDG
