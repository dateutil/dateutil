/-
  Proofs/RRuleGenDaysets.lean — the re-translated `_iterinfo.ydayset / mdayset / wdayset / ddayset`
  (Generated/RRuleKernels.lean) against the hand model's `dayset`.

  The methods return `(dset, start, end)` where `dset` is `[None]*n` with `dset[k] = k` written for the days of the
  period; `rrule._iter` reads exactly `dset[start:end]`.  The model's `dayset` is the list `range(start, end)`.
  `DaysetAgrees x m` says: `x` raises what `m` raises, or `x = (dset, start, end)`, `m = range(start, end)` and
  `dset[k] == k` for every `start ≤ k < end`.
-/
import DateutilVerif.Proofs.RRuleGenLoops
import DateutilVerif.Proofs.RRuleTables

namespace RRuleGen
open RRule RrPy

def DaysetOK (dset : List (Option Int)) (s e : Int) : Prop :=
  ∀ k, s ≤ k → k < e → Py.getIdx dset k = .ok (some k)

def DaysetAgrees (x : Py.R (List (Option Int) × Int × Int)) (m : Py.R (List Int)) : Prop :=
  match x with
  | .error e => m = .error e
  | .ok (dset, s, e) => m = .ok (intRange s e) ∧ DaysetOK dset s e

theorem getIdx_nonneg {α} (l : List α) (i : Int) (h0 : 0 ≤ i) (h1 : i < l.length) :
    Py.getIdx l i = .ok (l[i.toNat]'(by omega)) := by
  have h2 : ¬ (i < 0 ∨ i ≥ (l.length : Int)) := by omega
  have h3 : ¬ i < 0 := by omega
  have h4 : i.toNat < l.length := by omega
  simp [Py.getIdx, h3, h2, List.getElem?_eq_getElem h4]
  exact h1

theorem setItem_nonneg {α} (l : List α) (i : Int) (v : α) (h0 : 0 ≤ i) :
    RrPy.setItem l i v = if i ≥ (l.length : Int) then .error .IndexError else .ok (l.set i.toNat v) := by
  unfold RrPy.setItem
  have : ¬ i < 0 := by omega
  simp only [this, if_false]
  by_cases h : i ≥ (l.length : Int)
  · simp [h]
  · have h2 : ¬ (i < 0 ∨ i ≥ (l.length : Int)) := by omega
    simp [h, h2]

theorem getIdx_set_self {α} (l : List α) (i : Int) (v : α) (h0 : 0 ≤ i) (h1 : i < l.length) :
    Py.getIdx (l.set i.toNat v) i = .ok v := by
  rw [getIdx_nonneg _ _ h0 (by simpa using h1)]
  simp

theorem getIdx_set_ne {α} (l : List α) (i k : Int) (v : α) (h0 : 0 ≤ i) (hk : 0 ≤ k) (hne : k ≠ i) :
    Py.getIdx (l.set i.toNat v) k = Py.getIdx l k := by
  unfold Py.getIdx
  have : ¬ k < 0 := by omega
  simp only [this, if_false, List.length_set]
  have hn : i.toNat ≠ k.toNat := by omega
  rw [List.getElem?_set_ne hn]

theorem ddayset_core (yl i : Int) (hi : 0 ≤ i) :
    DaysetAgrees ((RrPy.setItem (List.replicate yl.toNat (none : Option Int)) i (some i)).bind fun dset => .ok (dset, i, i + 1))
      (if i < 0 ∨ i ≥ yl then .error .IndexError else .ok [i]) := by
  rw [setItem_nonneg _ _ _ hi, List.length_replicate]
  by_cases hge : i ≥ ((yl.toNat : Nat) : Int)
  · have : i < 0 ∨ i ≥ yl := by omega
    simp only [hge, if_true, this, error_bind, DaysetAgrees]
  · have : ¬ (i < 0 ∨ i ≥ yl) := by omega
    simp only [hge, if_false, ok_bind, this, DaysetAgrees]
    refine ⟨?_, ?_⟩
    · have e1 : (i + 1 - i).toNat = 1 := by omega
      simp [intRange, e1]
    · intro k hk1 hk2
      have : k = i := by omega
      subst this
      exact getIdx_set_self _ _ _ hi (by simp; omega)

theorem gen_ddayset_agrees (r : Rule) (self : RrPy.II) (c : Cursor) (hf : r.freq ≠ 0 ∧ r.freq ≠ 1 ∧ r.freq ≠ 2)
    (hi : Cal.validDate c.year c.month c.day = true → 0 ≤ Cal.toOrdinal c.year c.month c.day - self.yearordinal) :
    DaysetAgrees (Gen.ddayset r self c.year c.month c.day) (dayset r self.toInfo c) := by
  obtain ⟨h0, h1, h2⟩ := hf
  unfold Gen.ddayset dayset
  simp only [h0, h1, h2, beq_iff_eq, if_false, RrPy.mkDate, RrPy.toordinal, RrPy.repeatL, bind, pure, Except.pure, RrPy.II.toInfo]
  by_cases hv : Cal.validDate c.year c.month c.day = true
  · simp only [hv, if_true, not_true_eq_false, if_false, ok_bind]
    exact ddayset_core _ _ (hi hv)
  · have hv' : Cal.validDate c.year c.month c.day = false := by simpa using hv
    simp [hv', DaysetAgrees]

theorem getIdx_intRange (a b k : Int) (h0 : a ≤ k) (h1 : k < b) : Py.getIdx (intRange a b) (k - a) = .ok k := by
  have hl : (intRange a b).length = (b - a).toNat := by simp [intRange]
  rw [getIdx_nonneg _ _ (by omega) (by rw [hl]; omega)]
  simp [intRange]
  omega

/-- `_iterinfo.ydayset`: `(list(range(yearlen)), 0, yearlen)` -/
theorem gen_ydayset_agrees (r : Rule) (self : RrPy.II) (c : Cursor) (hf : r.freq = 0) :
    Gen.ydayset r self c.year c.month c.day = .ok (intRange 0 self.yearlen, 0, self.yearlen) ∧
    dayset r self.toInfo c = .ok (intRange 0 self.yearlen) ∧
    ∀ k, 0 ≤ k → k < self.yearlen → Py.getIdx (intRange 0 self.yearlen) k = .ok k := by
  refine ⟨rfl, ?_, ?_⟩
  · simp [dayset, hf, RrPy.II.toInfo]
  · intro k h0 h1
    have := getIdx_intRange 0 self.yearlen k h0 h1
    simpa using this

theorem wdayset_loop (r : Rule) (info : Info) (s : Int) (l : List Int) (dset : List (Option Int)) (i : Int)
    (hs : s ≤ i) (hs0 : 0 ≤ s) (hlen : (dset.length : Int) = info.yearlen + 7) (hok : DaysetOK dset s i) :
    match Gen.wdayset_loop1 r info.wdaymask l dset i with
    | .error e => wdaysetEnd info r.wkst l.length i = .error e
    | .ok (dset', e) => wdaysetEnd info r.wkst l.length i = .ok e ∧ DaysetOK dset' s e := by
  induction l generalizing dset i with
  | nil => exact ⟨rfl, hok⟩
  | cons j rest ih =>
    have hi : 0 ≤ i := by omega
    simp only [Gen.wdayset_loop1, List.length_cons, wdaysetEnd, setItem_nonneg _ _ _ hi, bind, pure, Except.pure]
    by_cases hge : i ≥ (dset.length : Int)
    · have : i < 0 ∨ i ≥ info.yearlen + 7 := by omega
      simp [hge, this]
    · have : ¬ (i < 0 ∨ i ≥ info.yearlen + 7) := by omega
      simp only [hge, this, if_false, ok_bind]
      have hok' : DaysetOK (dset.set i.toNat (some i)) s (i + 1) := by
        intro k hk1 hk2
        by_cases hki : k = i
        · subst hki; exact getIdx_set_self _ _ _ hi (by omega)
        · rw [getIdx_set_ne _ _ _ _ hi (by omega) hki]; exact hok k hk1 (by omega)
      cases hw : Py.getIdx info.wdaymask (i + 1) with
      | error e => simp
      | ok w =>
        simp only [ok_bind]
        by_cases hwk : w = r.wkst
        · simp only [hwk, if_true, beq_self_eq_true]
          exact ⟨by first | rfl | trivial, hok'⟩
        · have hwk' : (w == r.wkst) = false := by simpa using hwk
          simp only [hwk, if_false, hwk', Bool.false_eq_true]
          exact ih (dset.set i.toNat (some i)) (i + 1) (by omega) (by simpa using hlen) hok'

/-- `_iterinfo.wdayset(year, month, day)` against the model's WEEKLY day set (the slots are those of a rebuilt
    `_iterinfo`: `yearlen ≥ -7`; the date does not precede January 1st of the rebuilt year — for an earlier date Python's
    negative index wraps around where the model raises IndexError; `_iter` rebuilds for the cursor's year first) -/
theorem gen_wdayset_agrees (r : Rule) (self : RrPy.II) (c : Cursor) (hf : r.freq = 2) (hyl : 0 ≤ self.yearlen + 7)
    (hi : Cal.validDate c.year c.month c.day = true → 0 ≤ Cal.toOrdinal c.year c.month c.day - self.yearordinal) :
    DaysetAgrees (Gen.wdayset r self c.year c.month c.day) (dayset r self.toInfo c) := by
  have n20 : ¬ ((2 : Int) = 0) := by decide
  have n21 : ¬ ((2 : Int) = 1) := by decide
  unfold Gen.wdayset dayset
  simp only [hf, n20, n21, beq_iff_eq, if_false, if_true, RrPy.mkDate, RrPy.toordinal, RrPy.repeatL, bind, pure, Except.pure]
  by_cases hv : Cal.validDate c.year c.month c.day = true
  · have hi' := hi hv
    simp only [hv, if_true, not_true_eq_false, if_false, ok_bind]
    have key := wdayset_loop r self.toInfo (Cal.toOrdinal c.year c.month c.day - self.yearordinal) (intRange 0 7)
      (List.replicate (self.yearlen + 7).toNat (none : Option Int)) (Cal.toOrdinal c.year c.month c.day - self.yearordinal)
      (Int.le_refl _) hi' (by simp [RrPy.II.toInfo]; omega) (by intro k h1 h2; omega)
    have e7 : (intRange 0 7).length = 7 := by simp [intRange]
    rw [e7] at key
    simp only [RrPy.II.toInfo] at key ⊢
    cases hL : Gen.wdayset_loop1 r self.wdaymask (intRange 0 7) (List.replicate (self.yearlen + 7).toNat none)
        (Cal.toOrdinal c.year c.month c.day - self.yearordinal) with
    | error e => rw [hL] at key; simp only [error_bind, DaysetAgrees]; simp only at key; rw [key]
    | ok p =>
      obtain ⟨dset', e⟩ := p
      rw [hL] at key
      simp only at key
      simp only [ok_bind, DaysetAgrees, key.1]
      exact ⟨by first | rfl | trivial, key.2⟩
  · have hv' : Cal.validDate c.year c.month c.day = false := by simpa using hv
    simp [hv', DaysetAgrees]

theorem mdayset_loop (l : List Int) (dset : List (Option Int)) (hl : ∀ j ∈ l, 0 ≤ j ∧ j < (dset.length : Int)) :
    ∃ dset', Gen.mdayset_loop1 l dset = .ok dset' ∧ dset'.length = dset.length ∧
      (∀ k, k ∈ l → Py.getIdx dset' k = .ok (some k)) ∧
      (∀ k, 0 ≤ k → k ∉ l → Py.getIdx dset' k = Py.getIdx dset k) := by
  induction l generalizing dset with
  | nil => exact ⟨dset, rfl, rfl, ⟨fun k hk => (by simp at hk), fun k _ _ => rfl⟩⟩
  | cons j rest ih =>
    have hj := hl j (by simp)
    have hge : ¬ j ≥ (dset.length : Int) := by omega
    obtain ⟨d', h1, h2, h3, h4⟩ := ih (dset.set j.toNat (some j)) (by
      intro x hx; have := hl x (by simp [hx]); simpa using this)
    refine ⟨d', ?_, by simpa using h2, ?_, ?_⟩
    · simp only [Gen.mdayset_loop1, setItem_nonneg _ _ _ hj.1, hge, if_false, bind, ok_bind, h1]
    · intro k hk
      by_cases hkr : k ∈ rest
      · exact h3 k hkr
      · have hkj : k = j := by simpa [hkr] using hk
        subst hkj
        rw [h4 k hj.1 hkr]
        exact getIdx_set_self _ _ _ hj.1 hj.2
    · intro k hk0 hk
      have hkj : k ≠ j := by intro h; exact hk (by simp [h])
      have hkr : k ∉ rest := by intro h; exact hk (by simp [h])
      rw [h4 k hk0 hkr, getIdx_set_ne _ _ _ _ hj.1 hk0 hkj]

/-- per table and month: the 2-slice is the two neighbouring entries, which lie inside the year -/
def mrOK (leap : Bool) (k : Nat) : Bool :=
  match Py.getIdx (Tables.mrangeOf leap) (k : Int), Py.getIdx (Tables.mrangeOf leap) ((k : Int) + 1) with
  | .ok a, .ok b =>
    Py.slice (Tables.mrangeOf leap) (some (k : Int)) (some ((k : Int) + 2)) none == .ok [a, b] &&
      decide (0 ≤ a ∧ a ≤ b ∧ b ≤ Tables.ylen leap)
  | _, _ => false

theorem mrOK_all : ∀ (leap : Bool) (k : Fin 12), mrOK leap k.val = true := by decide +kernel

/-- `_iterinfo.mdayset(year, month, day)` against the model's MONTHLY day set, on the slots a `rebuild` leaves
    (`mrange` / `yearlen` of a leap or common year) and a month 1..12 (for other months Python's 2-slice is short and
    the unpacking raises ValueError where the model indexes; `_iter` keeps the month in 1..12) -/
theorem gen_mdayset_agrees (r : Rule) (self : RrPy.II) (c : Cursor) (hf : r.freq = 1) (leap : Bool)
    (hyl : self.yearlen = Tables.ylen leap) (hmr : self.mrange = Tables.mrangeOf leap)
    (hm : 1 ≤ c.month ∧ c.month ≤ 12) :
    DaysetAgrees (Gen.mdayset r self c.year c.month c.day) (dayset r self.toInfo c) := by
  have n10 : ¬ ((1 : Int) = 0) := by decide
  have hk := mrOK_all leap ⟨(c.month - 1).toNat, by omega⟩
  have e1 : (((c.month - 1).toNat : Nat) : Int) = c.month - 1 := by omega
  unfold mrOK at hk
  simp only [e1] at hk
  have e2 : c.month - 1 + 1 = c.month := by omega
  have e3 : c.month - 1 + 2 = c.month + 1 := by omega
  rw [e2, e3] at hk
  unfold Gen.mdayset dayset
  simp only [hf, n10, beq_iff_eq, if_false, if_true, RrPy.repeatL, bind, pure, Except.pure, RrPy.II.toInfo, hmr, hyl]
  cases ha : Py.getIdx (Tables.mrangeOf leap) (c.month - 1) with
  | error e => rw [ha] at hk; simp at hk
  | ok a =>
    cases hb : Py.getIdx (Tables.mrangeOf leap) c.month with
    | error e => rw [ha, hb] at hk; simp at hk
    | ok b =>
      rw [ha, hb] at hk
      simp only [Bool.and_eq_true, beq_iff_eq, decide_eq_true_eq] at hk
      obtain ⟨hsl, h0a, hab, hby⟩ := hk
      simp only [hsl, ok_bind, RrPy.unpack2]
      obtain ⟨d', h1, h2, h3, h4⟩ := mdayset_loop (intRange a b) (List.replicate (Tables.ylen leap).toNat (none : Option Int)) (by
        intro j hj
        rw [mem_intRange] at hj
        have : 0 ≤ Tables.ylen leap := by cases leap <;> decide
        simp only [List.length_replicate]
        omega)
      simp only [h1, ok_bind, DaysetAgrees]
      exact ⟨trivial, fun k hk1 hk2 => h3 k ((mem_intRange a b k).mpr ⟨hk1, hk2⟩)⟩

end RRuleGen
