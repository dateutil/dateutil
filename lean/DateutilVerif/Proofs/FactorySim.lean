/-
  Proofs/FactorySim.lean — the hand-written state machine IS the interpretation of the translated sources.

  For the programs that harness/translate_factory.py generated from /repo's working tree on this run
  (Generated/FactoryPrograms.lean), `stepIR` — flatten the statements, execute the instruction at the
  thread's pc — equals the hand-written `tstep` of Model/Factory.lean at every pc, on every state.
  Every C18 theorem is stated about `tstep`/`step`, so through this equality it is a theorem about the
  source as translated on this run: an edit of one of the translated methods either falls outside the fragment
  (`Untranslatable`, the generated file is not renewed) or changes a program, and then `code_offset` below
  (which instruction sits at which pc) fails to check.
-/
import DateutilVerif.Model.FactoryIR
import DateutilVerif.Generated.FactoryPrograms

namespace Fact.IR

variable {kd : Kind} {res : Key → Res} {t : Tid} {g : Glob} {th : Thread}

theorem stepIR_exec {P : Programs} {m : Meth} {i : Nat} {n : Node} (hpc : th.pc ≠ .idle)
    (hd : dec kd th.pc = some (m, i)) (hc : (code P m)[i]? = some n) :
    stepIR P kd res t g th = exec (enc m) n kd res t g th := by
  unfold stepIR
  split
  · contradiction
  · simp only [hd, hc]

/-- the flattened generated programs (checked by evaluation) -/
theorem code_offset (m : Meth) : code Gen.offsetPrograms m =
    match m with
    | .lruCall =>
      [⟨.acquire, 1, 0⟩, ⟨.weakGet, 2, 0⟩, ⟨.brInstNone, 3, 7⟩, ⟨.alloc, 4, 13⟩, ⟨.init, 5, 0⟩, ⟨.sdRead, 6, 0⟩,
       ⟨.sdWrite, 7, 0⟩, ⟨.touch, 8, 0⟩, ⟨.brLen .gt .sizeField, 9, 10⟩, ⟨.pop false, 10, 0⟩, ⟨.releasePublish, 11, 0⟩,
       ⟨.retPublished, 0, 0⟩, ⟨.skip, 0, 0⟩, ⟨.releaseExc, 0, 0⟩]
    | .gettzCall =>
      [⟨.acquire, 1, 0⟩, ⟨.weakGet, 2, 0⟩, ⟨.brInstNone, 3, 9⟩, ⟨.nocacheAlloc, 4, 15⟩, ⟨.nocacheInit, 5, 0⟩,
       ⟨.brCacheable, 6, 7⟩, ⟨.storeWeak, 9, 0⟩, ⟨.release, 8, 0⟩, ⟨.retPlain, 0, 0⟩, ⟨.touch, 10, 0⟩,
       ⟨.brLen .gt .sizeField, 11, 12⟩, ⟨.pop false, 12, 0⟩, ⟨.releasePublish, 13, 0⟩, ⟨.retPublished, 0, 0⟩,
       ⟨.skip, 0, 0⟩, ⟨.releaseExc, 0, 0⟩]
    | .setSize =>
      [⟨.acquire, 1, 0⟩, ⟨.setSize, 2, 0⟩, ⟨.brLen .gt .sizeArg, 3, 4⟩, ⟨.pop false, 2, 0⟩, ⟨.releaseEnd, 5, 0⟩,
       ⟨.releaseExc, 0, 0⟩]
    | .clear =>
      [⟨.acquire, 1, 0⟩, ⟨.resetWeak, 2, 0⟩, ⟨.clearStrong, 3, 0⟩, ⟨.releaseEnd, 4, 0⟩, ⟨.releaseExc, 0, 0⟩]
    | .single =>
      [⟨.brSlotNone, 1, 4⟩, ⟨.slotAlloc, 2, 0⟩, ⟨.slotInit, 3, 0⟩, ⟨.slotStore, 4, 0⟩, ⟨.retSlot, 0, 0⟩,
       ⟨.releaseExc, 0, 0⟩]
    | .fresh =>
      [⟨.freshAlloc, 1, 2⟩, ⟨.freshInit, 2, 0⟩, ⟨.freshRet, 0, 0⟩, ⟨.releaseExc, 0, 0⟩] := by
  cases m <;> rfl

/-- At each pc `dec` finds the method and index, `code_offset` the instruction, and `exec` of that
instruction unfolds to the branch of `tstep`. -/
theorem program_sim_offset (kd : Kind) (res : Key → Res) (t : Tid) (g : Glob) (th : Thread) :
    stepIR Gen.offsetPrograms kd res t g th = tstep kd res t g th := by
  cases hpc : th.pc
  case idle => simp only [stepIR, tstep, hpc]; rfl
  -- the shared tail sits at different indices of the two call methods
  case xTouch | xLen | xEvict | xRel | xRet | xRelX =>
    cases kd <;>
    (rw [stepIR_exec (by rw [hpc]; nofun) (by rw [hpc]; rfl) (by rw [code_offset]; rfl)]
     simp only [tstep, hpc]
     first | rfl | simp [exec, Cmp.holds, Bound.val, enc])
  all_goals
    rw [stepIR_exec (by rw [hpc]; nofun) (by rw [hpc]; rfl) (by rw [code_offset]; rfl)]
    simp only [tstep, hpc]
    -- (`brLen` compares through `decide`: equal to the test of `tstep`, but not by unfolding)
    first | rfl | simp [exec, Cmp.holds, Bound.val, enc]

theorem program_sim_str (kd : Kind) (res : Key → Res) (t : Tid) (g : Glob) (th : Thread) :
    stepIR Gen.strPrograms kd res t g th = tstep kd res t g th := by
  have code_str_eq : ∀ m : Meth, code Gen.strPrograms m = code Gen.offsetPrograms m := by
    intro m; cases m <;> rfl
  rw [← program_sim_offset]
  simp only [stepIR, code_str_eq]

variable {P : Programs} (hP : ∀ kd res t g th, stepIR P kd res t g th = tstep kd res t g th)
include hP

theorem stepState_eq (kd : Kind) (res : Key → Res) (s : State) (l : Label) :
    stepState P kd res s l = step kd res s l := by
  cases l <;> simp only [stepState, step, hP] <;> cases s.ths[‹Tid›]? <;> rfl

theorem reachableIR_iff {kd : Kind} {res : Key → Res} {s0 s : State} :
    ReachableIR P kd res s0 s ↔ Reachable kd res s0 s := by
  constructor <;> intro h <;> induction h with
  | init => exact .init
  | step _ hs ih => first | exact .step ih (stepState_eq hP .. ▸ hs) | exact .step ih ((stepState_eq hP ..).symm ▸ hs)

end Fact.IR
