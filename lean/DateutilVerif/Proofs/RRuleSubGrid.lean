/-
  Proofs/RRuleSubGrid.lean — the refinement with skipping for the sub-daily frequencies, once for HOURLY, MINUTELY and
  SECONDLY and over any day filter.  A frequency counts `U` units a day; period `k` of the specification is the unit
  `T0 + k·interval`, i.e. one day and the wall-time fields that the unit fixes.  The model visits these units in order,
  except that (a) after a day removed by the BY-filter it jumps to the day's last on-grid unit, and (b) its search for
  the next unit accepted by BYHOUR / BYMINUTE / BYSECOND passes over units that are not listed.  The periods passed
  over lie on a removed day or have an empty time set, so they select nothing (`SubGood.next`).  What one `advance`
  does on the grid (`SubStep`) is left to the three frequencies.
-/
import DateutilVerif.Proofs.RRuleDayFilter
import DateutilVerif.Proofs.RRuleRefineSkip
import DateutilVerif.Proofs.RRuleSubTimes

namespace RRule
open Cal

inductive SubFreq where
  | hourly | minutely | secondly

namespace SubFreq

def freq : SubFreq → Int
  | hourly => 4 | minutely => 5 | secondly => 6

/-- units per day -/
def U : SubFreq → Int
  | hourly => 24 | minutely => 1440 | secondly => 86400

/-- the unit of the day of a wall time -/
def tod : SubFreq → Int → Int → Int → Int
  | hourly, h, _, _ => h
  | minutely, h, m, _ => h * 60 + m
  | secondly, h, m, s => (h * 60 + m) * 60 + s

/-- the wall-time fields fixed by the period whose unit of the day is `w` -/
def fix : SubFreq → Int → Option Int × Option Int × Option Int
  | hourly, w => (some w, none, none)
  | minutely, w => (some (w / 60), some (w % 60), none)
  | secondly, w => (some (w / 3600), some (w / 60 % 60), some (w % 60))

/-- the wall-time fields that the frequency moves are in range -/
def Digits : SubFreq → Int → Int → Int → Prop
  | hourly, h, _, _ => 0 ≤ h ∧ h ≤ 23
  | minutely, h, m, _ => (0 ≤ h ∧ h ≤ 23) ∧ 0 ≤ m ∧ m ≤ 59
  | secondly, h, m, s => (0 ≤ h ∧ h ≤ 23) ∧ (0 ≤ m ∧ m ≤ 59) ∧ 0 ≤ s ∧ s ≤ 59

theorem U_pos (C : SubFreq) : 0 < C.U := by cases C <;> decide
theorem U_ge (C : SubFreq) : 24 ≤ C.U := by cases C <;> decide

theorem tod_range (C : SubFreq) {h m s : Int} (hd : C.Digits h m s) : 0 ≤ C.tod h m s ∧ C.tod h m s < C.U := by
  cases C <;> simp only [Digits] at hd <;> simp only [tod, U] <;> omega

/-- the unit of the start, counted from day 0 -/
def T0 (C : SubFreq) (a : Args) : Int :=
  Spec.RRule.startOrd a * C.U + C.tod a.dtstart.hh a.dtstart.mm a.dtstart.ss

/-- the time set of the period whose unit of the day is `w` -/
def times (C : SubFreq) (a : Args) (w : Int) : List HMS :=
  Spec.RRule.timesOf a (C.fix w).1 (C.fix w).2.1 (C.fix w).2.2

/-- the BY lists admit the wall-time fields that the unit `w` of the day fixes -/
def listed (C : SubFreq) (a : Args) (w : Int) : Bool :=
  listedF a.byhour (C.fix w).1 && listedF a.byminute (C.fix w).2.1 && listedF a.bysecond (C.fix w).2.2

theorem times_unlisted (C : SubFreq) (a : Args) (w : Int) (h : C.listed a w = false) : C.times a w = [] :=
  timesOf_unlisted a _ _ _ h

/-- the period `p` units after the start's is the day and the unit of the day of `T0 + p` -/
theorem span (C : SubFreq) (a : Args) (hf : a.freq = C.freq) (p : Int) :
    Spec.RRule.periodSpan a p = ((C.T0 a + p) / C.U, (C.T0 a + p) / C.U + 1, C.fix ((C.T0 a + p) % C.U)) := by
  unfold Spec.RRule.periodSpan
  cases C <;> simp only [freq] at hf <;> simp only [hf, T0, U, tod, fix, Int.reduceBEq, Bool.false_eq_true, ↓reduceIte]
  · have e : (Spec.RRule.startOrd a * 24 + a.dtstart.hh) * 60 + a.dtstart.mm + p =
        Spec.RRule.startOrd a * 1440 + (a.dtstart.hh * 60 + a.dtstart.mm) + p := by omega
    rw [e]
    generalize Spec.RRule.startOrd a * 1440 + (a.dtstart.hh * 60 + a.dtstart.mm) + p = u
    obtain ⟨e1, e2⟩ : u / 60 % 24 = u % 1440 / 60 ∧ u % 60 = u % 1440 % 60 := by omega
    rw [e1, e2]
  · have e : ((Spec.RRule.startOrd a * 24 + a.dtstart.hh) * 60 + a.dtstart.mm) * 60 + a.dtstart.ss + p =
        Spec.RRule.startOrd a * 86400 + ((a.dtstart.hh * 60 + a.dtstart.mm) * 60 + a.dtstart.ss) + p := by omega
    rw [e]
    generalize Spec.RRule.startOrd a * 86400 + ((a.dtstart.hh * 60 + a.dtstart.mm) * 60 + a.dtstart.ss) + p = u
    obtain ⟨e1, e2, e3⟩ : u / 3600 % 24 = u % 86400 / 3600 ∧ u / 60 % 60 = u % 86400 / 60 % 60 ∧
        u % 60 = u % 86400 % 60 := by omega
    rw [e1, e2, e3]

/-- … in particular of `o·U + V` when that is the unit of period `j` (`V` counts from the start of day `o`) -/
theorem span_of_idx (C : SubFreq) (a : Args) (hf : a.freq = C.freq) (j : Nat) (o V : Int)
    (h : o * C.U + V = C.T0 a + j * a.interval) :
    Spec.RRule.periodSpan a (j * a.interval) = (o + V / C.U, o + V / C.U + 1, C.fix (V % C.U)) := by
  have hU := C.U_pos
  rw [C.span a hf, ← h, Int.add_comm (o * C.U) V, Int.add_mul_ediv_right _ _ (by omega), Int.add_mul_emod_self_right,
    Int.add_comm (V / C.U) o]

/-- rrule.py, "Jump to one iteration before next day": the number of grid steps to the last on-grid unit of the day,
    which `advance` takes first when the cursor's day was removed by the BY-filter -/
def jump (C : SubFreq) (i w : Int) (fl : Bool) : Nat := if fl then ((C.U - 1 - w) / i).toNat else 0

theorem jump_le (C : SubFreq) (i w : Int) (fl : Bool) (hi : 1 ≤ i) (hw : 0 ≤ w ∧ w < C.U) :
    0 ≤ (C.jump i w fl : Int) * i ∧ (C.jump i w fl : Int) * i ≤ C.U - 1 - w ∧
    (fl = true → (C.jump i w fl : Int) * i = (C.U - 1 - w) / i * i) ∧ (fl = false → C.jump i w fl = 0) := by
  unfold jump
  cases fl with
  | false => simp; omega
  | true =>
    have hq0 : 0 ≤ (C.U - 1 - w) / i := Int.ediv_nonneg (by omega) (by omega)
    have hqX : (C.U - 1 - w) / i * i ≤ C.U - 1 - w := Int.ediv_mul_le _ (by omega)
    have hcast : (((C.U - 1 - w) / i).toNat : Int) = (C.U - 1 - w) / i := Int.toNat_of_nonneg hq0
    rw [if_pos rfl, hcast]
    exact ⟨Int.mul_nonneg hq0 (by omega), hqX, fun _ => rfl, fun h => by cases h⟩

end SubFreq

variable {a : Args} {r : Rule} {ylo yhi : Int} {Inv : Info → Prop}

/-- "the model state at the start of period `k`" for a sub-daily rule (of the filter, only the first year and the
    invariant matter) -/
structure SubGood (C : SubFreq) (_F : DayFilter a r ylo yhi Inv) (k : Nat) (st : State) : Prop where
  facts : YearFacts r st.cur.year st.info
  year_lo : ylo ≤ st.cur.year
  inv : Inv st.info
  valid : ValidYMD st.cur.year st.cur.month st.cur.day
  digits : C.Digits st.cur.hour st.cur.minute st.cur.second
  idx : curOrd st.cur * C.U + C.tod st.cur.hour st.cur.minute st.cur.second = C.T0 a + k * a.interval
  timeset : st.timeset = C.times a (C.tod st.cur.hour st.cur.minute st.cur.second)

/-- what one `advance` does on the grid: from the unit `w` of the cursor's day, after the optional jump, `t ≤ S`
    steps to the first listed unit -/
def SubStep (C : SubFreq) (F : DayFilter a r ylo yhi Inv) (S k : Nat) (st : State) (fl : Bool) (c : Option Int) : Prop :=
  ∃ (st' : State) (t : Nat), 1 ≤ t ∧ t ≤ S ∧ advance r { st with count := c } fl = .ok st' ∧
    SubGood C F (k + C.jump a.interval (C.tod st.cur.hour st.cur.minute st.cur.second) fl + t) st' ∧
    ∀ t' : Nat, 1 ≤ t' → t' < t →
      C.listed a ((C.tod st.cur.hour st.cur.minute st.cur.second +
        ((C.jump a.interval (C.tod st.cur.hour st.cur.minute st.cur.second) fl + t' : Nat) : Int) * a.interval) % C.U) = false

namespace SubGood

variable {C : SubFreq} {F : DayFilter a r ylo yhi Inv} {k : Nat} {st : State}

/-- the span of period `j`, `(j − k)·interval` units after the cursor's -/
theorem span_from (hg : SubGood C F k st) (hf : a.freq = C.freq) (j : Nat) :
    Spec.RRule.periodSpan a (j * a.interval) =
      (curOrd st.cur + (C.tod st.cur.hour st.cur.minute st.cur.second + ((j : Int) - k) * a.interval) / C.U,
       curOrd st.cur + (C.tod st.cur.hour st.cur.minute st.cur.second + ((j : Int) - k) * a.interval) / C.U + 1,
       C.fix ((C.tod st.cur.hour st.cur.minute st.cur.second + ((j : Int) - k) * a.interval) % C.U)) := by
  apply C.span_of_idx a hf
  have := hg.idx
  rw [Int.sub_mul]
  omega

theorem results (hg : SubGood C F k st) (h : construct a = .ok r) (hf : a.freq = C.freq) (hv : a.dtstart.Valid)
    (hle : curOrd st.cur ≤ maxOrdinal) :
    ∃ fl, periodResults r st = .ok (Spec.RRule.sel a (k : Int), none, fl) ∧
      (fl = true → Spec.RRule.dateOk a (curOrd st.cur) = false) ∧
      ∀ x ∈ Spec.RRule.sel a (k : Int), 0 ≤ x.ord ∧ x.ord ≤ maxOrdinal := by
  have hw := C.tod_range hg.digits
  have hsp := hg.span_from hf k
  rw [Int.sub_self, Int.zero_mul, Int.add_zero, Int.ediv_eq_zero_of_lt hw.1 hw.2, Int.emod_eq_of_lt hw.1 hw.2,
    Int.add_zero] at hsp
  exact day_results F h (by rw [hf]; cases C <;> decide) k st hg.facts hg.inv hg.valid hle _ _ _ hsp hg.timeset
    (by rw [hg.timeset]; exact timesOf_ok a hv _ _ _)

/-- `advance` reaches a later period, at most `U − 1 + S` further; the periods passed over select nothing -/
theorem next (hg : SubGood C F k st) (hf : a.freq = C.freq) (hi : 1 ≤ a.interval) (fl : Bool) (c : Option Int)
    (S : Nat) (hfl : fl = true → Spec.RRule.dateOk a (curOrd st.cur) = false) (hadv : SubStep C F S k st fl c) :
    ∃ st' k', advance r { st with count := c } fl = .ok st' ∧ k < k' ∧ (k' : Int) ≤ k + (C.U - 1 + S) ∧
      SubGood C F k' st' ∧ ∀ j : Nat, k < j → j < k' → Spec.RRule.sel a (j : Int) = [] := by
  obtain ⟨st', t, ht1, ht2, hadv, hg', hmin⟩ := hadv
  have hw := C.tod_range hg.digits
  have hsp := fun j => hg.span_from hf j
  generalize C.tod st.cur.hour st.cur.minute st.cur.second = w at *
  obtain ⟨hX0, hXle, _, hj0⟩ := C.jump_le a.interval w fl hi hw
  generalize C.jump a.interval w fl = s0 at *
  have hs0 : (s0 : Int) * 1 ≤ s0 * a.interval := Int.mul_le_mul_of_nonneg_left hi (by omega)
  refine ⟨st', k + s0 + t, hadv, by omega, by omega, hg', ?_⟩
  intro j hj1 hj2
  have hsp := hsp j
  have hpos : (0 : Int) ≤ ((j : Int) - k) * a.interval := Int.mul_nonneg (by omega) (by omega)
  by_cases hc : j ≤ k + s0
  · -- still on the cursor's day, which is not in the set
    have hfl' : fl = true := by
      cases fl with
      | true => rfl
      | false => have := hj0 rfl; omega
    have hle : ((j : Int) - k) * a.interval ≤ s0 * a.interval :=
      Int.mul_le_mul_of_nonneg_right (by omega) (by omega)
    rw [Int.ediv_eq_zero_of_lt (by omega) (by omega), Int.add_zero] at hsp
    exact sel_nil a j _ _ _ _ hsp (Or.inl (hfl hfl'))
  · -- a unit passed over by the search: not listed
    have hno := hmin (j - k - s0) (by omega) (by omega)
    have e : ((s0 + (j - k - s0) : Nat) : Int) = (j : Int) - k := by omega
    rw [e] at hno
    exact sel_nil a j _ _ _ _ hsp (Or.inr (C.times_unlisted a _ hno))

end SubGood

end RRule
