/-
  Proofs/RRuleStrDispatch.lean — the two dispatches of `rrulestr`, each stated once with the name as a variable:
  `_handle_NAME` by the keyword the name stands for (`handleU_eq`), and the property dispatch of `_parse_rfc`
  by the property name (`stepLine_eq`).
-/
import DateutilVerif.Proofs.RRuleStrText

namespace RRuleStr
open ICal (isSpace upper splitOnChar pyInt rstrip strip isDigit splitLines)

variable {po : ParseOpts}

/-- the keyword a part name stands for (BYDAY and BYWEEKDAY are the same keyword) -/
def fieldOfName (name : List Char) : Option Field :=
  if name == lit "INTERVAL" then some .interval
  else if name == lit "COUNT" then some .count
  else if name == lit "BYSETPOS" then some .bysetpos
  else if name == lit "BYMONTH" then some .bymonth
  else if name == lit "BYMONTHDAY" then some .bymonthday
  else if name == lit "BYYEARDAY" then some .byyearday
  else if name == lit "BYEASTER" then some .byeaster
  else if name == lit "BYWEEKNO" then some .byweekno
  else if name == lit "BYHOUR" then some .byhour
  else if name == lit "BYMINUTE" then some .byminute
  else if name == lit "BYSECOND" then some .bysecond
  else if name == lit "FREQ" then some .freq
  else if name == lit "UNTIL" then some .untilV
  else if name == lit "WKST" then some .wkst
  else if name == lit "BYWEEKDAY" || name == lit "BYDAY" then some .byweekday
  else none

/-- `_handle_int`, `_handle_int_list`, `_handle_FREQ`, `_handle_UNTIL`, `_handle_WKST`, `_handle_BYWEEKDAY` by keyword: how the value
    is read, and the assignment made -/
def readField (po : ParseOpts) : Field → List Char → Py.R Update
  | .interval, value => do let v ← int! value; .ok (.interval v)
  | .count, value => do let v ← int! value; .ok (.count v)
  | .bysetpos, value => do let l ← intList value; .ok (.bysetpos l)
  | .bymonth, value => do let l ← intList value; .ok (.bymonth l)
  | .bymonthday, value => do let l ← intList value; .ok (.bymonthday l)
  | .byyearday, value => do let l ← intList value; .ok (.byyearday l)
  | .byeaster, value => do let l ← intList value; .ok (.byeaster l)
  | .byweekno, value => do let l ← intList value; .ok (.byweekno l)
  | .byhour, value => do let l ← intList value; .ok (.byhour l)
  | .byminute, value => do let l ← intList value; .ok (.byminute l)
  | .bysecond, value => do let l ← intList value; .ok (.bysecond l)
  | .freq, value =>
    match lookup freqMap value with
    | some f => .ok (.freq f)
    | none => .error .KeyError
  | .untilV, value => .ok (.untilV value po)
  | .wkst, value =>
    match lookup weekdayMap value with
    | some k => .ok (.wkst k)
    | none => .error .KeyError
  | .byweekday, value => do
    let l ← (splitOnChar ',' value).mapM parseWDay
    .ok (.byweekday l)

/-- `getattr(self, "_handle_" + name)` is a function of the keyword alone; a name without keyword has no handler -/
theorem handleU_eq (name value : List Char) :
    handleU po name value =
      match fieldOfName name with
      | some f => readField po f value
      | none => .error .AttributeError := by
  unfold handleU fieldOfName
  simp only [apply_ite (fun o : Option Field => match o with | some f => readField po f value | none => .error .AttributeError)]
  rfl

theorem handleU_of_field {name : List Char} {f : Field} (h : fieldOfName name = some f) (value : List Char) :
    handleU po name value = readField po f value := by
  rw [handleU_eq, h]

theorem handleU_of_noField {name : List Char} (h : fieldOfName name = none) (value : List Char) :
    handleU po name value = .error .AttributeError := by
  rw [handleU_eq, h]

theorem ok_of_bind_ok {α β : Type} {r : Py.R α} {g : α → β} {u : β} (h : (do let x ← r; .ok (g x)) = (.ok u : Py.R β)) :
    ∃ x, r = .ok x ∧ u = g x := by
  cases r with
  | error e => cases h
  | ok x => cases h; exact ⟨x, rfl, rfl⟩

theorem readField_field {f : Field} {value : List Char} {u : Update} (h : readField po f value = .ok u) : u.field = f := by
  cases f
  case freq | wkst => simp only [readField] at h; split at h <;> cases h; rfl
  case untilV => cases h; rfl
  all_goals obtain ⟨x, -, rfl⟩ := ok_of_bind_ok h; rfl

theorem handleU_field {name value : List Char} {u : Update} (h : handleU po name value = .ok u) :
    fieldOfName name = some u.field := by
  rw [handleU_eq] at h
  split at h
  · next f hf => rw [hf, readField_field h]
  · cases h

/-- the name `__str__` prints for a keyword (the first of the two names of `byweekday`) -/
def fieldName : Field → List Char
  | .freq => lit "FREQ" | .interval => lit "INTERVAL" | .count => lit "COUNT" | .wkst => lit "WKST" | .untilV => lit "UNTIL"
  | .bysetpos => lit "BYSETPOS" | .bymonth => lit "BYMONTH" | .bymonthday => lit "BYMONTHDAY" | .byyearday => lit "BYYEARDAY"
  | .byeaster => lit "BYEASTER" | .byweekno => lit "BYWEEKNO" | .byweekday => lit "BYDAY" | .byhour => lit "BYHOUR"
  | .byminute => lit "BYMINUTE" | .bysecond => lit "BYSECOND"

/-- the order in which `__str__` prints the keywords (all fifteen) -/
def printOrder : List Field :=
  [.freq, .interval, .wkst, .count, .untilV, .bysetpos, .bymonth, .bymonthday, .byyearday, .byweekno, .byweekday,
   .byhour, .byminute, .bysecond, .byeaster]

theorem mem_printOrder (k : Field) : k ∈ printOrder := by cases k <;> decide

/-- the table of the sixteen names: each printed name stands for its keyword and is made of upper-case letters; `BYWEEKDAY` is
    the second name of `byweekday`.  One evaluation on purpose: the kernel keeps the evaluated name literals within a call, and
    name by name the same comparisons cost five times as much. -/
theorem fieldName_table : (∀ k ∈ printOrder, fieldOfName (fieldName k) = some k ∧ ∀ c ∈ fieldName k, isAtom c = true) ∧
    fieldOfName (lit "BYWEEKDAY") = some .byweekday := by
  decide +kernel

theorem fieldOfName_byweekday : fieldOfName (lit "BYWEEKDAY") = some .byweekday := fieldName_table.2

theorem fieldOfName_fieldName (k : Field) : fieldOfName (fieldName k) = some k := (fieldName_table.1 k (mem_printOrder k)).1

theorem fieldName_atoms (k : Field) : ∀ c ∈ fieldName k, isAtom c = true := (fieldName_table.1 k (mem_printOrder k)).2

theorem mem_fieldNames {n : List Char} {fs : List Field} (h : n ∈ fs.map fieldName) : ∃ f ∈ fs, fieldOfName n = some f := by
  obtain ⟨f, hf, rfl⟩ := List.mem_map.mp h
  exact ⟨f, hf, fieldOfName_fieldName f⟩

/-- `_handle_BYDAY = _handle_BYWEEKDAY` -/
theorem handleU_byday_eq_byweekday (value : List Char) : handleU po (lit "BYDAY") value = handleU po (lit "BYWEEKDAY") value :=
  (handleU_of_field (fieldOfName_fieldName .byweekday) value).trans (handleU_of_field fieldOfName_byweekday value).symm

/-- `name[;parms]:value`, cut at the first `:`; a line without `:` is an RRULE value -/
def lineParts (line : List Char) : List Char × List Char :=
  if !line.contains ':' then (lit "RRULE", line)
  else match ICal.splitColon1 line with
    | some (n, v) => (n, v)
    | none => (lit "RRULE", line)

/-- the dispatch on the property name, for a line already cut into name, parameters and value -/
def stepProp (po : ParseOpts) (acc : Acc) (name : List Char) (parms : List (List Char)) (value : List Char) : Py.R Acc :=
  if name == lit "RRULE" then
    if !parms.isEmpty then .error .ValueError else .ok { acc with rrulevals := acc.rrulevals ++ [value] }
  else if name == lit "RDATE" then
    if parms.any (· != lit "VALUE=DATE-TIME") then .error .ValueError else .ok { acc with rdatevals := acc.rdatevals ++ [value] }
  else if name == lit "EXRULE" then
    if !parms.isEmpty then .error .ValueError else .ok { acc with exrulevals := acc.exrulevals ++ [value] }
  else if name == lit "EXDATE" then do
    let _ ← dateParmsOk parms
    .ok { acc with exdatevals := acc.exdatevals ++ (splitOnChar ',' value).map (fun d => (d, parms, po)) }
  else if name == lit "DTSTART" then do
    let _ ← dateParmsOk parms
    if (splitOnChar ',' value).length != 1 then .error .ValueError
    else .ok { acc with dtstart := some (value, parms, po) }
  else .error .ValueError

theorem stepLine_eq (acc : Acc) (line : List Char) :
    stepLine po acc line =
      if line.isEmpty then .ok acc
      else stepProp po acc ((splitOnChar ';' (lineParts line).1).headD []) ((splitOnChar ';' (lineParts line).1).drop 1)
        (lineParts line).2 := rfl

end RRuleStr
