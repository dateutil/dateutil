/-
  Proofs/RRuleSubTimes.lean — the time set of a sub-daily period.  The specification's `timesOf a fh fm fs` is the
  increasing product of the admitted hours, minutes and seconds, each restricted to the value the period fixes; it
  is empty as soon as a fixed value is not listed (`listedF`).  The model's `buildTimeset` over duplicate-free lists
  of valid values is the same product, whatever increasing lists with the same members one writes it with; this is
  what ties `htimeset` / `mtimeset` / `stimeset` of the constructed rule to `timesOf`.
-/
import DateutilVerif.Proofs.RRuleSetpos
import DateutilVerif.Spec.RRuleSupported

namespace RRule
open Cal

/-- the specification's admitted values of one unit below `bound`: the members of the BY list; without one, the
    start's own value (`dflt`: below the unit's frequency) or every value -/
def unitVals (o : Option (List Int)) (dflt : Prop) [Decidable dflt] (start bound : Int) : List Int :=
  match o with
  | some l => (intRange 0 bound).filter (fun x => l.contains x)
  | none => if dflt then [start] else intRange 0 bound

theorem hours_eq (a : Args) : Spec.RRule.hours a = unitVals a.byhour (a.freq < 4) a.dtstart.hh 24 := rfl
theorem minutes_eq (a : Args) : Spec.RRule.minutes a = unitVals a.byminute (a.freq < 5) a.dtstart.mm 60 := rfl
theorem seconds_eq (a : Args) : Spec.RRule.seconds a = unitVals a.bysecond (a.freq < 6) a.dtstart.ss 60 := rfl

theorem unitVals_sorted (o : Option (List Int)) (dflt : Prop) [Decidable dflt] (start bound : Int) :
    (unitVals o dflt start bound).Pairwise (· < ·) := by
  unfold unitVals
  split
  · exact (intRange_pairwise 0 bound).filter _
  · split
    · simp
    · exact intRange_pairwise 0 bound

theorem mem_unitVals (o : Option (List Int)) (dflt : Prop) [Decidable dflt] (hd : ¬ dflt) (start bound x : Int) :
    x ∈ unitVals o dflt start bound ↔ (0 ≤ x ∧ x < bound) ∧ listedO o x = true := by
  unfold unitVals listedO
  cases o with
  | none => simp [hd, mem_intRange]
  | some l => simp [mem_intRange]

theorem mem_unitVals_below (o : Option (List Int)) (dflt : Prop) [Decidable dflt] (hd : dflt) (start bound x : Int) :
    x ∈ unitVals o dflt start bound ↔
      (match o with | some l => (0 ≤ x ∧ x < bound) ∧ x ∈ l | none => x = start) := by
  unfold unitVals
  cases o with
  | none => simp [hd]
  | some l => simp [mem_intRange]

theorem unitVals_range (o : Option (List Int)) (dflt : Prop) [Decidable dflt] (start bound x : Int)
    (hs : 0 ≤ start ∧ start < bound) (hx : x ∈ unitVals o dflt start bound) : 0 ≤ x ∧ x < bound := by
  unfold unitVals at hx
  cases o with
  | some l => exact (mem_intRange _ _ _).mp (List.mem_filter.mp hx).1
  | none =>
    dsimp only at hx
    split at hx
    · simp at hx; omega
    · exact (mem_intRange _ _ _).mp hx

/-- the BY list admits the value a period fixes for its unit (no constraint when the period fixes none) -/
def listedF (o : Option (List Int)) : Option Int → Bool
  | none => true
  | some x => listedO o x

theorem restrict_sorted (l : List Int) (f : Option Int) (h : l.Pairwise (· < ·)) :
    (Spec.RRule.restrict l f).Pairwise (· < ·) := by
  cases f with
  | none => exact h
  | some v => exact h.filter _

theorem mem_restrict_some (l : List Int) (x y : Int) : y ∈ Spec.RRule.restrict l (some x) ↔ y = x ∧ x ∈ l := by
  unfold Spec.RRule.restrict
  simp only [List.mem_filter, beq_iff_eq]
  constructor
  · rintro ⟨h1, rfl⟩; exact ⟨rfl, h1⟩
  · rintro ⟨rfl, h1⟩; exact ⟨h1, rfl⟩

theorem restrict_unlisted (o : Option (List Int)) (dflt : Prop) [Decidable dflt] (start bound : Int) (f : Option Int)
    (h : listedF o f = false) : Spec.RRule.restrict (unitVals o dflt start bound) f = [] := by
  cases f with
  | none => cases h
  | some x =>
    cases o with
    | none => cases h
    | some l =>
      rw [List.eq_nil_iff_forall_not_mem]
      intro y hy
      rw [mem_restrict_some] at hy
      unfold unitVals at hy
      have := (List.mem_filter.mp hy.2).2
      unfold listedF listedO at h
      simp only [Option.isNone_some, Option.getD_some, Bool.false_or] at h
      rw [h] at this; cases this

theorem productHMS_nil (hs ms ss : List Int) (h : hs = [] ∨ ms = [] ∨ ss = []) : productHMS hs ms ss = [] := by
  rw [List.eq_nil_iff_forall_not_mem]
  intro t ht
  rw [mem_productHMS] at ht
  rcases h with h | h | h <;> rw [h] at ht <;> simp at ht

theorem timesOf_eq (a : Args) (fh fm fs : Option Int) :
    Spec.RRule.timesOf a fh fm fs = productHMS (Spec.RRule.restrict (Spec.RRule.hours a) fh)
      (Spec.RRule.restrict (Spec.RRule.minutes a) fm) (Spec.RRule.restrict (Spec.RRule.seconds a) fs) := rfl

theorem timesOf_unlisted (a : Args) (fh fm fs : Option Int)
    (h : (listedF a.byhour fh && listedF a.byminute fm && listedF a.bysecond fs) = false) :
    Spec.RRule.timesOf a fh fm fs = [] := by
  rw [timesOf_eq, hours_eq, minutes_eq, seconds_eq]
  apply productHMS_nil
  rw [Bool.and_eq_false_iff, Bool.and_eq_false_iff] at h
  rcases h with (h | h) | h
  · exact Or.inl (restrict_unlisted _ _ _ _ _ h)
  · exact Or.inr (Or.inl (restrict_unlisted _ _ _ _ _ h))
  · exact Or.inr (Or.inr (restrict_unlisted _ _ _ _ _ h))

theorem timesOf_ok (a : Args) (hv : a.dtstart.Valid) (fh fm fs : Option Int) : TsOk (Spec.RRule.timesOf a fh fm fs) := by
  unfold DT.Valid at hv
  have hsub : ∀ (l : List Int) (f : Option Int) x, x ∈ Spec.RRule.restrict l f → x ∈ l := by
    intro l f x hx
    cases f with
    | none => exact hx
    | some v => exact (List.mem_filter.mp hx).1
  rw [timesOf_eq, hours_eq, minutes_eq, seconds_eq]
  refine ⟨productHMS_sorted _ _ _ (restrict_sorted _ _ (unitVals_sorted ..)) (restrict_sorted _ _ (unitVals_sorted ..))
    (restrict_sorted _ _ (unitVals_sorted ..)), ?_⟩
  intro t ht
  rw [mem_productHMS] at ht
  have h1 := unitVals_range _ _ _ 24 _ (by omega) (hsub _ _ _ ht.1)
  have h2 := unitVals_range _ _ _ 60 _ (by omega) (hsub _ _ _ ht.2.1)
  have h3 := unitVals_range _ _ _ 60 _ (by omega) (hsub _ _ _ ht.2.2)
  unfold ValidHMS; omega

theorem checkTimes_of_valid : ∀ (l : List HMS), (∀ t ∈ l, ValidHMS t) → checkTimes l = .ok l := by
  intro l
  induction l with
  | nil => intro _; rfl
  | cons t ts ih =>
    intro hv
    have ht := hv t (List.mem_cons_self ..)
    unfold ValidHMS at ht
    unfold checkTimes mkTime
    rw [if_pos ht, ih (fun u hu => hv u (List.mem_cons_of_mem _ hu))]

/-- `buildTimeset` over duplicate-free lists of valid values is the product of any increasing lists with the
    same members -/
theorem buildTimeset_eq (hs ms ss hs' ms' ss' : List Int) (n1 : hs.Nodup) (n2 : ms.Nodup) (n3 : ss.Nodup)
    (s1 : hs'.Pairwise (· < ·)) (s2 : ms'.Pairwise (· < ·)) (s3 : ss'.Pairwise (· < ·))
    (m1 : ∀ x, x ∈ hs ↔ x ∈ hs') (m2 : ∀ x, x ∈ ms ↔ x ∈ ms') (m3 : ∀ x, x ∈ ss ↔ x ∈ ss')
    (v1 : ∀ x ∈ hs, 0 ≤ x ∧ x ≤ 23) (v2 : ∀ x ∈ ms, 0 ≤ x ∧ x ≤ 59) (v3 : ∀ x ∈ ss, 0 ≤ x ∧ x ≤ 59) :
    buildTimeset hs ms ss = .ok (productHMS hs' ms' ss') := by
  have hvalid : ∀ t ∈ productHMS hs ms ss, ValidHMS t := by
    intro t ht
    rw [mem_productHMS] at ht
    have := v1 _ ht.1; have := v2 _ ht.2.1; have := v3 _ ht.2.2
    unfold ValidHMS; omega
  unfold buildTimeset
  rw [checkTimes_of_valid _ hvalid]
  dsimp only
  congr 1
  apply sorted_ext strictHMS
  · exact sortBy_pairwise strictHMS _ (fun _ _ => trivial) (productHMS_nodup _ _ _ n1 n2 n3)
  · exact productHMS_sorted _ _ _ s1 s2 s3
  · intro t
    rw [mem_sortBy, mem_productHMS, mem_productHMS, m1, m2, m3]

theorem mem_restrict_listed (o : Option (List Int)) (dflt : Prop) [Decidable dflt] (hd : ¬ dflt) (start bound x : Int)
    (hx : 0 ≤ x ∧ x < bound) (hl : listedO o x = true) (y : Int) :
    y ∈ [x] ↔ y ∈ Spec.RRule.restrict (unitVals o dflt start bound) (some x) := by
  rw [mem_restrict_some, mem_unitVals o dflt hd, List.mem_singleton]
  exact ⟨fun h => ⟨h, hx, hl⟩, fun h => h.1⟩

theorem mem_normUnit_below (freq lvl interval start : Int) (arg res : Option (List Int)) (base : Int)
    (hf : freq < lvl) (h : normUnit freq lvl interval start arg base = .ok res)
    (hr : ∀ x ∈ arg.getD [], 0 ≤ x ∧ x < base) (dflt : Prop) [Decidable dflt] (hd : dflt) (x : Int) :
    x ∈ res.getD [] ↔ x ∈ unitVals arg dflt start base := by
  rw [normUnit_mem _ _ _ _ _ _ _ hf h, mem_unitVals_below _ _ hd]
  cases arg with
  | none => simp
  | some l => exact ⟨fun hx => ⟨hr x hx, hx⟩, fun hx => hx.2⟩

theorem normUnit_below_range (freq lvl interval start : Int) (arg res : Option (List Int)) (base : Int)
    (hf : freq < lvl) (h : normUnit freq lvl interval start arg base = .ok res)
    (hs : 0 ≤ start ∧ start < base) (hr : ∀ x ∈ arg.getD [], 0 ≤ x ∧ x < base) :
    ∀ x ∈ res.getD [], 0 ≤ x ∧ x < base := by
  intro x hx
  rw [normUnit_mem _ _ _ _ _ _ _ hf h] at hx
  cases arg with
  | none => simp at hx; omega
  | some l => exact hr x hx

/-- `__init__` keeps the BY list of a unit above the rule's frequency as a sorted set -/
theorem normUnit_above (freq lvl interval start base : Int) (arg res : Option (List Int)) (hlt : lvl < freq)
    (h : normUnit freq lvl interval start arg base = .ok res) : res = arg.map sortedSet := by
  unfold normUnit at h
  cases arg with
  | none =>
    dsimp only at h
    rw [if_neg (by omega)] at h
    injection h with h; exact h.symm
  | some l =>
    dsimp only at h
    rw [if_neg (by simp; omega)] at h
    injection h with h; exact h.symm

/-- … so the loops' test on it is `listedO` on the argument — unless that is an empty list, which the loops treat as
    absent (`if byhour` is false for `()`) while the specification admits nothing -/
theorem above_listed (freq lvl interval start base : Int) (arg res : Option (List Int)) (hlt : lvl < freq)
    (h : normUnit freq lvl interval start arg base = .ok res) (ho : arg = none ∨ ∃ l, arg = some l ∧ l ≠ [])
    (x : Int) : (!(truthy res) || memO x res) = listedO arg x := by
  rw [normUnit_above _ _ _ _ _ _ _ hlt h]
  rcases ho with ho | ⟨l, ho, hl⟩
  · subst ho; rfl
  · subst ho
    have htr : truthy (some (sortedSet l)) = true := by
      rw [truthy_eq_not_isEmpty, isEmpty_sortedSet]
      cases l with
      | nil => exact absurd rfl hl
      | cons _ _ => rfl
    show (!(truthy (some (sortedSet l))) || (sortedSet l).contains x) = (false || l.contains x)
    rw [htr, contains_sortedSet]
    rfl

theorem gcd_cast_pos (interval base : Int) (hb : 0 < base) : (0 : Int) < ((Int.gcd interval base : Nat) : Int) := by
  have : 0 < Int.gcd interval base := Int.gcd_pos_of_ne_zero_right _ (by omega)
  omega

/-- `__construct_byset` at the unit's own frequency: a non-empty list, the listed values on the start's orbit modulo
    gcd(interval, base) -/
theorem own_kept (freq interval start base : Int) (l : List Int) (res : Option (List Int))
    (h : normUnit freq freq interval start (some l) base = .ok res) (hb : 0 < base) :
    ∃ c, res = some c ∧ c ≠ [] ∧
      ∀ x, x ∈ c ↔ x ∈ l ∧ (x - start) % ((Int.gcd interval base : Nat) : Int) = 0 := by
  unfold normUnit at h
  simp only [beq_self_eq_true, ↓reduceIte] at h
  unfold constructByset at h
  dsimp only at h
  split at h
  · rename_i c hc
    split at hc
    · cases hc
    · rename_i hne
      injection hc with hc
      injection h with h
      rw [hc] at hne
      refine ⟨sortBy ltInt c, h.symm, ?_, ?_⟩
      · intro he
        have : c.isEmpty = true := by
          rw [isEmpty_of_mem_iff c (sortBy ltInt c) (fun x => (mem_sortBy ltInt x c).symm), he]; rfl
        exact hne this
      · intro x
        rw [mem_sortBy, ← hc, mem_dedup, List.mem_filter, Py.fmod_pos _ (gcd_cast_pos interval base hb)]
        simp only [Bool.or_eq_true, beq_iff_eq]
        constructor
        · rintro ⟨hx, hcond⟩
          refine ⟨hx, ?_⟩
          rcases hcond with h1 | h1
          · rw [h1]; omega
          · exact h1
        · rintro ⟨hx, hcond⟩
          exact ⟨hx, Or.inr hcond⟩
  · cases h

/-- … so on that orbit the model's test on the normalised list is `listedO` on the argument -/
theorem own_listed (freq interval start base : Int) (arg res : Option (List Int))
    (h : normUnit freq freq interval start arg base = .ok res) (hb : 0 < base) (x : Int)
    (hx : (x - start) % ((Int.gcd interval base : Nat) : Int) = 0) :
    (!(truthy res) || memO x res) = listedO arg x := by
  cases arg with
  | none =>
    unfold normUnit at h
    injection h with h; subst h; rw [if_neg (by omega)]; rfl
  | some l =>
    obtain ⟨c, rfl, hne, hmem⟩ := own_kept _ _ _ _ l _ h hb
    have htr : truthy (some c) = true := by
      cases c with
      | nil => exact absurd rfl hne
      | cons _ _ => rfl
    show (!(truthy (some c)) || c.contains x) = (false || l.contains x)
    rw [htr, Bool.not_true, Bool.false_or, Bool.false_or, Bool.eq_iff_iff, List.contains_iff_mem,
      List.contains_iff_mem, hmem]
    exact ⟨fun h => h.1, fun h => ⟨h, hx⟩⟩

/-- a unit count on the start's grid, reduced modulo `base`, stays in the start's class modulo gcd(interval, base) —
    the class whose members `__construct_byset` keeps -/
theorem orbit_digit (interval base start V k c : Int) (hV : V = start + k * interval + base * c) :
    (V % base - start) % ((Int.gcd interval base : Nat) : Int) = 0 := by
  have d1 : ((Int.gcd interval base : Nat) : Int) ∣ interval := Int.gcd_dvd_left interval base
  have d2 : ((Int.gcd interval base : Nat) : Int) ∣ base := Int.gcd_dvd_right interval base
  have e : V % base - start = k * interval + base * (c - V / base) := by
    have := Int.emod_add_mul_ediv V base
    rw [Int.mul_sub]; omega
  rw [e]
  exact Int.emod_eq_zero_of_dvd (Int.dvd_add (Int.dvd_trans d1 (Int.dvd_mul_left k interval))
    (Int.dvd_trans d2 (Int.dvd_mul_right base _)))

end RRule
