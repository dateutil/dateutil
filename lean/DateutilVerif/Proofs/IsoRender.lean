/- Proofs/IsoRender.lean — the inverse law: `_parse_isodate` on every date form with well-formed fields returns the
   date the form denotes, and `isoparse` on a rendering returns its denotation. -/
import DateutilVerif.Proofs.IsoWeek
import DateutilVerif.Proofs.IsoRenderDate
import DateutilVerif.Proofs.IsoRenderTime
import DateutilVerif.Proofs.Time
namespace Iso
open Cal IsoSpec

theorem fromOrdinal_valid (o : Int) (h1 : 1 ≤ o) (h2 : o ≤ maxOrdinal) :
    ValidDate (fromOrdinal o).1 (fromOrdinal o).2.1 (fromOrdinal o).2.2 := by
  have ⟨e, v, hy⟩ := toOrdinal_fromOrdinal o h1
  refine ⟨hy, ?_, v⟩
  by_cases c : (fromOrdinal o).1 ≤ 9999
  · exact c
  · have := toOrdinal_lt_of_lex 9999 12 31 _ _ _ (by decide) v (Or.inl (by omega))
    have e2 : toOrdinal 9999 12 31 = maxOrdinal := by decide
    omega

theorem yearDay_le_max (y ord : Int) (hy : y ≤ 9999) (h : ord ≤ daysInYear y) :
    toOrdinal y 1 1 + (ord - 1) ≤ maxOrdinal := by
  have s := daysBeforeYear_succ y
  have := dby_mono (y + 1) 10000 (by omega)
  have e : daysBeforeYear 10000 = 3652059 := by decide
  rw [toOrdinal_jan]
  unfold maxOrdinal; omega

/-- the ordinal branch of `_parse_isodate_uncommon` returns the `ord`-th day of year `y` exactly if `date` has the
    year and the year has the day; every other input is a ValueError (`date + timedelta` cannot overflow here) -/
theorem ordinalResult_char (y ord : Int) (t : Bytes) :
    ordinalResult y ord t =
      if 1 ≤ y ∧ y ≤ 9999 ∧ 1 ≤ ord ∧ ord ≤ daysInYear y
      then .ok (fromOrdinal (toOrdinal y 1 1 + (ord - 1)), t) else .error .ValueError := by
  have hdy : daysInYear y = 365 + (if isLeap y then 1 else 0) := by unfold daysInYear; split <;> simp
  unfold ordinalResult
  by_cases hr : ord < 1 ∨ ord > 365 + (if isLeap y then 1 else 0)
  · rw [if_pos hr, if_neg (by omega)]
  by_cases hv : validDate y 1 1 = true
  · have hy : 1 ≤ y ∧ y ≤ 9999 := by
      simp only [validDate, decide_eq_true_eq] at hv; exact ⟨hv.1, hv.2.1⟩
    have hp := toOrdinal_pos y 1 1 hy.1 (by simp [ValidYMD, daysInMonth])
    have hle := yearDay_le_max y ord hy.2 (by omega)
    rw [if_neg hr, if_pos ⟨hy.1, hy.2, by omega, by omega⟩]
    simp only [mkDateOrd, hv, if_true, bind, Except.bind, ordChecked]
    rw [if_neg (by omega)]
  · have hy : ¬ (1 ≤ y ∧ y ≤ 9999) := by
      intro hy; apply hv; simp [validDate, ValidDate, ValidYMD, daysInMonth]; omega
    rw [if_neg hr, mkDateOrd, if_neg hv, if_neg fun h => hy ⟨h.1, h.2.1⟩]
    rfl

/-- `_parse_isodate` on a rendered date followed by `t` returns the denoted date and leaves `t`.  `ht`: behind a basic
    ordinal date `YYYYDDD` no digit may follow, or the common scanner reads `YYYYMMDD`; `hc`: an incomplete form
    (`YYYY`, `YYYY-MM`, week without day) must end the string -/
theorem parseIsodate_render (df : DateForm) (x : Fields) (t : Bytes)
    (hwf : dateWF true df x = true) (hr2 : dateOrdinal df x ≤ maxOrdinal)
    (ht : df = .ordBas → TailOK t) (hc : df.complete = true ∨ t = []) :
    parseIsodate (renderDate df x ++ t) = .ok (fromOrdinal (dateOrdinal df x), t) := by
  have cal : ∀ ext, dateWF true (calForm ext) x = true →
      parseIsodate (renderDate (calForm ext) x ++ t) = .ok (fromOrdinal (dateOrdinal (calForm ext) x), t) := by
    intro ext hwf
    rw [dateWF_calForm, decide_eq_true_eq] at hwf
    obtain ⟨hy1, hy2, hv⟩ := hwf
    have hb := daysInMonth_bounds x.year x.a
    rw [parseIsodate_cal ext x t (by omega) (by have := hv.2.1; omega) (by have := hv.2.2.2; omega),
      dateOrdinal_calForm, fromOrdinal_toOrdinal _ _ _ hy1 hv]
  have weekD : ∀ ext, dateWF true (weekDForm ext) x = true → dateOrdinal (weekDForm ext) x ≤ maxOrdinal →
      parseIsodate (renderDate (weekDForm ext) x ++ t) = .ok (fromOrdinal (dateOrdinal (weekDForm ext) x), t) := by
    intro ext hwf hr2
    simp only [dateWF_weekDForm, Bool.and_eq_true, decide_eq_true_eq, Bool.not_true, Bool.false_or] at hwf
    rw [dateOrdinal_weekDForm] at hr2 ⊢
    rw [parseIsodate_weekD ext x t (by omega) (by omega) (by omega), calculateWeekdate_char,
      if_pos ⟨by omega, by omega, by omega, hwf.2, by omega, by omega, hr2⟩]
    rfl
  have week : ∀ ext, dateWF true (weekForm ext) x = true → dateOrdinal (weekForm ext) x ≤ maxOrdinal →
      parseIsodate (renderDate (weekForm ext) x) = .ok (fromOrdinal (dateOrdinal (weekForm ext) x), []) := by
    intro ext hwf hr2
    simp only [dateWF_weekForm, Bool.and_eq_true, decide_eq_true_eq, Bool.not_true, Bool.false_or] at hwf
    rw [dateOrdinal_weekForm] at hr2 ⊢
    rw [parseIsodate_week ext x (by omega) (by omega), calculateWeekdate_char,
      if_pos ⟨by omega, by omega, by omega, hwf.2, by decide, by decide, by omega⟩]
    simp [Except.bind]
  have ord : ∀ ext, dateWF true (ordForm ext) x = true → dateOrdinal (ordForm ext) x ≤ maxOrdinal →
      (ext = false → TailOK t) →
      parseIsodate (renderDate (ordForm ext) x ++ t) = .ok (fromOrdinal (dateOrdinal (ordForm ext) x), t) := by
    intro ext hwf hr2 ht
    rw [dateWF_ordForm, decide_eq_true_eq] at hwf
    rw [dateOrdinal_ordForm] at hr2 ⊢
    have hdy : daysInYear x.year ≤ 366 := by unfold daysInYear; split <;> simp
    rw [parseIsodate_ord ext x t (by omega) (by omega) ht, ordinalResult_char, if_pos (by omega)]
  cases df with
  | calExt => exact cal true hwf
  | calBas => exact cal false hwf
  | year =>
    obtain rfl : t = [] := by simpa [DateForm.complete] using hc
    simp [dateWF] at hwf
    rw [List.append_nil, parseIsodate_year x (by omega), dateOrdinal,
      fromOrdinal_toOrdinal _ _ _ (by omega) (by simp [ValidYMD, daysInMonth])]
  | yearMonth =>
    obtain rfl : t = [] := by simpa [DateForm.complete] using hc
    simp [dateWF] at hwf
    have hb := daysInMonth_bounds x.year x.a
    rw [List.append_nil, parseIsodate_yearMonth x (by omega) (by omega), dateOrdinal,
      fromOrdinal_toOrdinal _ _ _ (by omega) ⟨by omega, by omega, by omega, by omega⟩]
  | weekExtD => exact weekD true hwf hr2
  | weekBasD => exact weekD false hwf hr2
  | weekExt =>
    obtain rfl : t = [] := by simpa [DateForm.complete] using hc
    rw [List.append_nil]; exact week true hwf hr2
  | weekBas =>
    obtain rfl : t = [] := by simpa [DateForm.complete] using hc
    rw [List.append_nil]; exact week false hwf hr2
  | ordExt => exact ord true hwf hr2 (fun h => absurd h (by decide))
  | ordBas => exact ord false hwf hr2 (fun _ => ht rfl)

theorem fracMicros_lt (ds : List Nat) (hd : ∀ d ∈ ds, d ≤ 9) : fracMicros ds < 1000000 := by
  have h1 := (digitsN_ofDigits (ds.take 6) fun d h => hd d (List.mem_of_mem_take h)).2
  have hl : (ds.take 6).length ≤ 6 := by rw [List.length_take]; omega
  rw [fracMicros_def]
  generalize ofDigits (ds.take 6) = v at *
  generalize (ds.take 6).length = k at *
  have : v * 10 ^ (6 - k) < 10 ^ k * 10 ^ (6 - k) := Nat.mul_lt_mul_of_pos_right h1 (Nat.pow_pos (by decide))
  rw [← Nat.pow_add, show k + (6 - k) = 6 by omega] at this
  exact this

theorem timeShown_us_lt (tf : TimeForm) (x : Fields)
    (hfr : tf.hasFrac = true → x.frac ≠ [] ∧ ∀ d ∈ x.frac, d ≤ 9) : (timeShown tf x).2.2.2 < 1000000 := by
  simp only [timeShown]
  split
  · rename_i hf; exact fracMicros_lt _ (hfr hf).2
  · omega

theorem dateOrdinal_pos (df : DateForm) (x : Fields) (h : dateWF true df x = true) : 1 ≤ dateOrdinal df x := by
  cases df <;> simp only [dateWF, decide_eq_true_eq, Bool.and_eq_true] at h <;> simp only [dateOrdinal]
  · exact toOrdinal_pos _ _ _ h.1 h.2.2
  · exact toOrdinal_pos _ _ _ h.1 h.2.2
  · exact toOrdinal_pos _ _ _ (by omega) (by simp [ValidYMD, daysInMonth])
  · have hb := daysInMonth_bounds x.year x.a
    exact toOrdinal_pos _ _ _ (by omega) ⟨by omega, by omega, by omega, by omega⟩
  · have := w1_pos x.year (by omega); omega
  · have := w1_pos x.year (by omega); omega
  · have := w1_pos x.year (by omega); omega
  · have := w1_pos x.year (by omega); omega
  · have := toOrdinal_pos x.year 1 1 (by omega) (by simp [ValidYMD, daysInMonth]); omega
  · have := toOrdinal_pos x.year 1 1 (by omega) (by simp [ValidYMD, daysInMonth]); omega

/-- midnight + one day: the next midnight, or `OverflowError` on 9999-12-31 -/
theorem addDays_midnight_char (y m d : Int) (hv : ValidDate y m d) :
    DT.addDays { y, m, d, hh := 0, mm := 0, ss := 0, us := 0 } 1 =
      if toOrdinal y m d + 1 ≤ maxOrdinal then
        .ok { y := (fromOrdinal (toOrdinal y m d + 1)).1, m := (fromOrdinal (toOrdinal y m d + 1)).2.1,
              d := (fromOrdinal (toOrdinal y m d + 1)).2.2, hh := 0, mm := 0, ss := 0, us := 0 }
      else .error .OverflowError := by
  have hp := toOrdinal_pos y m d hv.1 hv.2.2
  have hx : ({ y, m, d, hh := 0, mm := 0, ss := 0, us := 0 } : DT).toMicros + 1 * DT.usPerDay
      = (toOrdinal y m d + 1) * DT.usPerDay := by
    simp only [DT.toMicros, DT.ordinal, DT.timeMicros, DT.usPerDay]; omega
  unfold DT.addDays DT.addMicros
  dsimp only
  rw [hx]
  by_cases hr : toOrdinal y m d + 1 ≤ maxOrdinal
  · rw [if_pos hr, if_neg (by simp only [DT.minMicros, DT.maxMicros, DT.usPerDay]; omega)]
    unfold DT.ofMicros
    have q : (toOrdinal y m d + 1) * DT.usPerDay / DT.usPerDay = toOrdinal y m d + 1 := by unfold DT.usPerDay; omega
    have r : (toOrdinal y m d + 1) * DT.usPerDay % DT.usPerDay = 0 := by unfold DT.usPerDay; omega
    simp only [q, r]
    rfl
  · rw [if_neg hr, if_pos (Or.inr (by simp only [DT.maxMicros, DT.usPerDay]; omega))]

theorem addDays_midnight (y m d : Int) (hv : ValidDate y m d) (hr : toOrdinal y m d + 1 ≤ maxOrdinal) :
    DT.addDays { y, m, d, hh := 0, mm := 0, ss := 0, us := 0 } 1 =
      .ok { y := (fromOrdinal (toOrdinal y m d + 1)).1, m := (fromOrdinal (toOrdinal y m d + 1)).2.1,
            d := (fromOrdinal (toOrdinal y m d + 1)).2.2, hh := 0, mm := 0, ss := 0, us := 0 } := by
  rw [addDays_midnight_char y m d hv, if_pos hr]

theorem mkDatetime_ok (y m d hh mm ss us : Int) (tz : Option Off) (hv : ValidDate y m d)
    (h : 0 ≤ hh ∧ hh ≤ 23 ∧ 0 ≤ mm ∧ mm ≤ 59 ∧ 0 ≤ ss ∧ ss ≤ 59 ∧ 0 ≤ us ∧ us ≤ 999999) :
    mkDatetime y m d hh mm ss us tz = .ok ⟨{ y, m, d, hh, mm, ss, us }, tz⟩ := by
  unfold mkDatetime
  have : ({ y, m, d, hh, mm, ss, us } : DT).valid = true := by
    simp only [DT.valid, decide_eq_true_eq]; exact ⟨hv, h⟩
  simp [this]

theorem render_time (df : DateForm) (tf : TimeForm) (o : OffForm) (sep : Nat) (x : Fields) (htf : tf ≠ .none) :
    render ⟨df, tf, o, sep⟩ x = renderDate df x ++ (sep :: (renderTime tf x ++ renderOff o x)) := by
  cases tf <;> first | exact absurd rfl htf | simp [render]

/-- the inverse law of C07: `isoparse` on the rendering of well-formed fields returns their denotation; a digit as
    separator is excluded only behind a basic ordinal date (see `parseIsodate_render`) -/
theorem isoparse_render_core (f : IsoForm) (x : Fields) (cfg : Option Nat)
    (hw : WFields f x) (hsep : f.time ≠ .none → f.date = .ordBas → isDigit f.sep = false)
    (hcfg : f.time ≠ .none → cfg = none ∨ cfg = some f.sep) :
    isoparse cfg (render f x) = .ok (denote f x) := by
  unfold WFields WFieldsB at hw
  simp only [Bool.and_eq_true, decide_eq_true_eq] at hw
  obtain ⟨⟨⟨⟨hok, hdw⟩, htw⟩, how⟩, hr1, hr2⟩ := hw
  have hdp := dateOrdinal_pos f.date x hdw
  obtain ⟨df, tf, of, sep⟩ := f
  dsimp only at *
  by_cases htn : tf = .none
  · subst htn
    have hof : of = .naive := by
      simp [IsoForm.ok] at hok; exact hok
    subst hof
    simp only [denoteOrdinal, timeShown] at hr1 hr2
    simp at hr1 hr2
    have hp := parseIsodate_render df x [] hdw hr2 (fun _ => Or.inl rfl) (Or.inr rfl)
    rw [List.append_nil] at hp
    have hv := fromOrdinal_valid _ hdp hr2
    simp only [isoparse, render, hp, bind, Except.bind]
    simp only [ne_eq, not_true_eq_false, if_false]
    rw [mkDatetime_ok _ _ _ _ _ _ _ _ hv (by omega)]
    simp [denote, denoteOrdinal, timeShown, offDenote, TimeForm.hasM, TimeForm.hasS, TimeForm.hasFrac]
  · have hcomp : df.complete = true := by
      simp [IsoForm.ok, htn] at hok; exact hok
    have hsd := hsep htn
    have hot := offTail_render of x how
    have hpt := parseIsotime_render tf x _ _ htn htw hot
    have hrd : dateOrdinal df x ≤ maxOrdinal := by
      simp only [denoteOrdinal] at hr2; split at hr2 <;> omega
    have hp := parseIsodate_render df x (sep :: (renderTime tf x ++ renderOff of x)) hdw hrd
      (fun hd => Or.inr ⟨sep, _, rfl, hsd hd⟩) (Or.inl hcomp)
    have hv := fromOrdinal_valid _ hdp hrd
    have hrend := render_time df tf of sep x htn
    have hsepok : cfg = none ∨ List.take 1 (sep :: (renderTime tf x ++ renderOff of x)) = cfg.toList := by
      rcases hcfg htn with h | h
      · exact Or.inl h
      · right; subst h; simp
    simp only [isoparse, hrend, hp, bind, Except.bind]
    rw [if_pos (by simp), if_pos hsepok]
    simp only [List.drop_succ_cons, List.drop_zero, hpt]
    obtain ⟨hrange, hfr⟩ := (timeWF_iff tf x).mp htw
    have hus := timeShown_us_lt tf x hfr
    simp only [denote, denoteOrdinal] at hr1 hr2 ⊢
    generalize timeShown tf x = ts at *
    obtain ⟨h, mi, s, us⟩ := ts
    simp only [] at hrange hus hr1 hr2 hpt ⊢
    by_cases h24 : h = 24
    · have hz : mi = 0 ∧ s = 0 ∧ us = 0 := by rcases hrange with g | g <;> omega
      obtain ⟨rfl, rfl, rfl⟩ := hz; subst h24
      have hr2' : toOrdinal (fromOrdinal (dateOrdinal df x)).1 (fromOrdinal (dateOrdinal df x)).2.1
          (fromOrdinal (dateOrdinal df x)).2.2 + 1 ≤ maxOrdinal := by
        rw [(toOrdinal_fromOrdinal _ hdp).1]
        simpa using hr2
      rw [if_pos (by simp)]
      simp only [Int.natCast_zero]
      rw [mkDatetime_ok _ _ _ _ _ _ _ _ hv (by omega)]
      simp only [addDays_midnight _ _ _ hv hr2', overflowToValue, (toOrdinal_fromOrdinal _ hdp).1]
      simp
    · have hlt : h ≤ 23 ∧ mi ≤ 59 ∧ s ≤ 59 := by
        rcases hrange with g | g
        · exact g
        · exact absurd g.1 h24
      rw [if_neg (by omega)]
      rw [mkDatetime_ok _ _ _ _ _ _ _ _ hv (by omega)]
      simp [h24]

end Iso
