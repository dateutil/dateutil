/-
  Proofs/RRuleMonthlyE.lean — MONTHLY with BYEASTER on the supported class (offsets −80..250, years 1583..4099, plain
  BYDAY / BYMONTHDAY allowed, no BYWEEKNO): the period filter of Proofs/RRuleEasterYearly.lean, read by the MONTHLY
  refinement (a month never leaves its year, so only the in-year part of the mask is read).
-/
import DateutilVerif.Proofs.RRuleEasterYearly
import DateutilVerif.Proofs.RRuleYM

namespace RRule
open Cal

variable {r : Rule}

/-- MONTHLY argument sets with BYEASTER offsets of the supported class -/
structure EasterMArgs (a : Args) : Prop where
  freq : a.freq = 1
  interval : 1 ≤ a.interval
  valid : a.dtstart.Valid
  byweekno : a.byweekno = none
  monthday_nz : ∀ x ∈ a.bymonthday.getD [], x ≠ 0
  plain : ∀ w ∈ a.byweekday.getD [], w.2 = 0
  easter : ∃ el, a.byeaster = some el ∧ el ≠ [] ∧ ∀ o ∈ el, -80 ≤ o ∧ o ≤ 250

variable {a : Args}

theorem EasterMArgs.ym (ea : EasterMArgs a) : EasterYMArgs a :=
  ⟨Or.inr ea.freq, ea.interval, ea.valid, ea.byweekno, ea.monthday_nz, ea.plain, ea.easter⟩

/-- "the model state at the start of period `k`" -/
structure EasterMGood (a : Args) (r : Rule) (k : Nat) (st : State) : Prop where
  facts : YearFacts r st.cur.year st.info
  month : 1 ≤ st.cur.month ∧ st.cur.month ≤ 12
  timeset : st.timeset = Spec.RRule.timesOf a none none none
  idx : st.cur.year * 12 + (st.cur.month - 1) = a.dtstart.y * 12 + (a.dtstart.m - 1) + k * a.interval
  nwd : st.info.nwdaymask = none
  mask : ∃ mask, st.info.eastermask = some mask ∧
    ∀ j : Int, 0 ≤ j → j < st.info.yearlen + 7 →
      Py.getIdx mask j = .ok (if (st.info.yearordinal + j - Spec.RRule.easterOrd st.cur.year) ∈ eastersOf a then 1 else 0)

/-- the state invariant of the MONTHLY refinement, read for this family -/
theorem em_good (ea : EasterMArgs a) {k : Nat} {st : State} (g : PeriodGood (EasterInv a) a r k st) :
    EasterMGood a r k st :=
  ⟨g.facts, g.month, g.timeset, g.monthly ea.freq, g.inv.1, g.inv.2⟩

/-- **`iter_eq_spec`, MONTHLY with BYEASTER on the supported class** (the complement of D-C01d: offsets −80..250; years
    1583..4099, where C19 ties `easter.easter` to Meeus/Jones/Butcher): FREQ=MONTHLY, INTERVAL ≥ 1, a valid start, any
    BYMONTH / BYMONTHDAY (non-zero) / BYYEARDAY / plain BYDAY / BYHOUR / BYMINUTE / BYSECOND / BYSETPOS, any COUNT /
    UNTIL, no nth BYDAY / BYWEEKNO -/
theorem iter_eq_spec_monthly_easter (ea : EasterMArgs a) (h : construct a = .ok r) (n : Nat)
    (hlo : 1583 ≤ a.dtstart.y) (hm : (a.dtstart.y * 12 + (a.dtstart.m - 1) + n * a.interval) / 12 ≤ 4099) :
    (iter r n).1 = Spec.RRule.occ a n := by
  exact monthly_refines h ea.freq ea.valid ((ey_filter ea.ym h).mono monthDays_year) n hlo hm

-- an EasterMArgs instance: month by month, Good Friday and Easter Monday
example : EasterMArgs { freq := 1, dtstart := ⟨2024, 1, 1, 9, 0, 0, 0⟩, byeaster := some [-2, 1] } :=
  ⟨rfl, by decide, by decide, rfl, by intro x hx; simp at hx, by intro w hw; simp at hw,
   ⟨[-2, 1], rfl, by decide, by decide⟩⟩

end RRule
