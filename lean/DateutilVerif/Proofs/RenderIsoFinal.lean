/-
  Proofs/RenderIsoFinal.lean — `parse` on `YYYY-MM-DD<sep><time><offset>` (families 1 and 2 of C02): `HH:MM:SS` and `HH:MM` are the
  templates `iso_*` of RenderGenF; with a fraction the seconds are ONE lexer token `SS.f…` (`frac_token`) that `_parsems` reads.
-/
import DateutilVerif.Proofs.RenderGenF

namespace PM
open Py PT

section
variable (cls : Char → CClass) [AsciiOK cls]

/-- the date part and the separator -/
theorem lex_isoDate (y m d : Nat) (sep : Char) (hsep : sep = 'T' ∨ sep = ' ') (k : Nat) (ks : List Nat) (rest : List Char) :
    scan cls .init (pad4 y ++ ['-'] ++ pad2 m ++ ['-'] ++ pad2 d ++ [sep] ++ (dtok (k :: ks) ++ rest)) =
      isoDateTokens y m d [sep] ++ scan cls .init (dtok (k :: ks) ++ rest) := by
  simp only [List.append_assoc, List.cons_append, List.nil_append]
  rw [lex_pad4 cls y _ (numEnds_ascii cls _ _ (by decide)), lex_punct cls '-' _ (by decide),
      lex_pad2 cls m _ (numEnds_ascii cls _ _ (by decide)), lex_punct cls '-' _ (by decide)]
  rcases hsep with rfl | rfl
  · rw [lex_pad2 cls d _ (numEnds_ascii cls _ _ (by decide))]
    have := lex_aword cls 'T' [] (dtok (k :: ks) ++ rest) (by decide) (wordEnds_dtok cls k ks rest)
    simp only [List.cons_append, List.nil_append] at this
    rw [this]
    rfl
  · rw [lex_pad2 cls d _ (numEnds_ascii cls _ _ (by decide)), lex_sp]
    rfl

/-- the first `k` of the six microsecond digits, as a digit token, and their value once `_parsems` has padded them to six -/
theorem pad6_take (us k : Nat) (hus : us < 1000000) (hk1 : 1 ≤ k) (hk6 : k ≤ 6) :
    ∃ b bs, bs.length < 6 ∧ (pad6 us).take k = dtok (b :: bs) ∧
      dval ((b :: bs) ++ List.replicate (5 - bs.length) 0) = us / 10 ^ (6 - k) * 10 ^ (6 - k) := by
  rcases k with _ | _ | _ | _ | _ | _ | _ | k
  · omega
  · exact ⟨us / 100000, [], by simp, rfl, by simp [dval, dvalAcc]; omega⟩
  · exact ⟨us / 100000, [us / 10000], by simp, rfl, by simp [dval, dvalAcc]; omega⟩
  · exact ⟨us / 100000, [us / 10000, us / 1000], by simp, rfl, by simp [dval, dvalAcc]; omega⟩
  · exact ⟨us / 100000, [us / 10000, us / 1000, us / 100], by simp, rfl, by simp [dval, dvalAcc]; omega⟩
  · exact ⟨us / 100000, [us / 10000, us / 1000, us / 100, us / 10], by simp, rfl, by simp [dval, dvalAcc]; omega⟩
  · exact ⟨us / 100000, [us / 10000, us / 1000, us / 100, us / 10, us], by simp, rfl, by simp [dval, dvalAcc]; omega⟩
  · omega

/-- the fraction token and what `_parsems` makes of it, for 1 to 6 digits -/
theorem frac_token (s us k : Nat) (hs : s < 100) (hus : us < 1000000) (hk1 : 1 ≤ k) (hk6 : k ≤ 6) (comma : Bool)
    (rest : List Char) (he : FracEnds cls rest) :
    ∃ F : Token, scan cls .init (pad2 s ++ [if comma then ',' else '.'] ++ (pad6 us).take k ++ rest) = F :: scan cls .init rest ∧
      parsems cls F = .ok (s, us / 10 ^ (6 - k) * 10 ^ (6 - k)) := by
  have hcomma : (cls ',').isNum = false := by rw [AsciiOK.agree (cls := cls) ',' (by decide)]; decide
  have hdot : (cls '.').isNum = false := by rw [AsciiOK.agree (cls := cls) '.' (by decide)]; decide
  have hsepc : ((if comma then ',' else '.') = '.' ∨ ((if comma then ',' else '.') = ',' ∧ (pad2 s).length ≥ 2)) ∧
      (cls (if comma then ',' else '.')).isNum = false := by
    cases comma <;> simp [hcomma, hdot, pad2]
  obtain ⟨b, bs, hbs, htake, hval⟩ := pad6_take us k hus hk1 hk6
  refine ⟨dtok [s / 10, s] ++ '.' :: dtok (b :: bs), ?_, ?_⟩
  · rw [htake]
    have := lex_frac cls (digitChar (s / 10)) [digitChar s] (if comma then ',' else '.') (digitChar b) (bs.map digitChar) rest
      hsepc.1 hsepc.2 (drun_dtok cls [s / 10, s]) (drun_dtok cls (b :: bs)) he
    simpa [pad2, dtok, List.append_assoc] using this
  · rw [parsems_frac cls (s / 10) [s] b bs (by simp) hbs, hval, dval_pad2 s hs]

/-- fraction digit counts 1..6 -/
def timeFmtDom : TimeFmt → Prop
  | .frac _ k => 1 ≤ k ∧ k ≤ 6
  | _ => True

/-- the finish for `YYYY-MM-DD` and a time with `k` fraction digits, whichever way it was written -/
theorem fin_frac (yf : Bool) (year century : Int) (o : Opts) (tznames : List Token) (tzi : TzInfos) (ho : PlainOpts o tzi)
    (dflt : DT) {t : DT} (ht : t.Valid) (comma : Bool) (k : Nat) :
    finishOf (Info.default false yf year century) o tznames tzi dflt
      { vals := [t.y.toNat, t.m.toNat, t.d.toNat], century := true, yIdx := some 0 }
      { hour := some t.hh.toNat, minute := some t.mm.toNat, second := some t.ss.toNat,
        microsecond := some (t.us.toNat / 10 ^ (6 - k) * 10 ^ (6 - k)) } =
    .ok { dt := (TimeFmt.frac comma k).expect t dflt, tz := .naive, tokens := none } := by
  have N := dtNums ht
  have hus := valid_us ht
  have eu : ((t.us.toNat : Nat) : Int) = t.us := Int.toNat_of_nonneg hus.1
  have hq : t.us.toNat / 10 ^ (6 - k) * 10 ^ (6 - k) ≤ t.us.toNat := Nat.div_mul_le_self _ _
  have hcast : ((t.us.toNat / 10 ^ (6 - k) * 10 ^ (6 - k) : Nat) : Int) = t.us / 10 ^ (6 - k) * 10 ^ (6 - k) := by
    rw [Int.natCast_mul, Int.natCast_ediv, eu]; simp
  exact finish_t yf year century o tznames tzi dflt ht _ _ t.y.toNat _
    (by rw [ho.df]; exact resolve_Ymd _ _ _ _ _) (convertyear_full _ ht _ (Or.inl rfl)) rfl rfl (Or.inl rfl) ho.tz1
    (by simp only [TimeFmt.expect, fieldOr, N.eh, N.emi, N.es, hcast])
    (valid_fields ht (valid_hh ht) (valid_mm ht) (valid_ss ht)
      ⟨by rw [← hcast]; exact Int.natCast_nonneg _, by rw [← hcast]; have := hus.2; omega⟩)

theorem parse_isoX (yf : Bool) (year century : Int) (o : Opts) (tznames : List Token) (tzi : TzInfos)
    (ho : PlainOpts o tzi) (dflt : DT) (hdv : dflt.Valid) (t : DT) (ht : t.Valid) (sep : Char) (hsep : sep = 'T' ∨ sep = ' ')
    (f : TimeFmt) (hf : timeFmtDom f) (off : Off) (hoff : off.Dom) :
    parse cls (Info.default false yf year century) o tznames tzi dflt (renderIsoX sep f t off) =
      .ok { dt := f.expect t dflt, tz := if o.ignoretz then .naive else offDescr tznames off, tokens := none } := by
  have hso : StrictOpts o tzi := ⟨ho.fz, ho.fwt, ho.tz1, ho.tz2⟩
  cases f with
  | hms =>
    -- `iso_T_s` / `iso_sp_s`
    rcases hsep with rfl | rfl
    · have := tpl_iso_T_s cls yf year century o tznames tzi hso ho.df t dflt ht hdv off hoff
      simpa [str_iso_T_s, renderIsoX, isoDate, TimeFmt.render, TimeFmt.expect, offZone] using this
    · have := tpl_iso_sp_s cls yf year century o tznames tzi hso ho.df t dflt ht hdv off hoff
      simpa [str_iso_sp_s, renderIsoX, isoDate, TimeFmt.render, TimeFmt.expect, offZone] using this
  | hm =>
    rcases hsep with rfl | rfl
    · have := tpl_iso_T_min cls yf year century o tznames tzi hso ho.df t dflt ht hdv off hoff
      simpa [str_iso_T_min, renderIsoX, isoDate, TimeFmt.render, TimeFmt.expect, offZone] using this
    · have := tpl_iso_sp_min cls yf year century o tznames tzi hso ho.df t dflt ht hdv off hoff
      simpa [str_iso_sp_min, renderIsoX, isoDate, TimeFmt.render, TimeFmt.expect, offZone] using this
  | frac comma k =>
    -- the seconds and the fraction are one token `F`, which `_parsems` reads
    obtain ⟨hk1, hk6⟩ := hf
    have N := dtNums ht
    have e : renderIsoX sep (.frac comma k) t off = pad4 t.y.toNat ++ ['-'] ++ pad2 t.m.toNat ++ ['-'] ++ pad2 t.d.toNat ++ [sep] ++
        (dtok [t.hh.toNat / 10, t.hh.toNat] ++ (':' :: (pad2 t.mm.toNat ++ (':' ::
          (pad2 t.ss.toNat ++ [if comma then ',' else '.'] ++ (pad6 t.us.toNat).take k ++ off.render))))) := by
      simp [renderIsoX, isoDate, TimeFmt.render, pad2_dtok]
    obtain ⟨F, hlexF, hpF⟩ := frac_token cls t.ss.toNat t.us.toNat k (by have := N.bss; omega) (by have := valid_us ht; omega) hk1 hk6 comma off.render
      (fracEnds_off cls off)
    unfold parse lex
    rw [e, lex_isoDate cls _ _ _ sep hsep, lex_dtok cls _ _ _ (numEnds_ascii cls _ _ (by decide)), lex_punct cls ':' _ (by decide),
        lex_pad2 cls _ _ (numEnds_ascii cls _ _ (by decide)), lex_punct cls ':' _ (by decide), hlexF, lex_off]
    have hS : ([sep] : Token) = [' '] ∨ ([sep] : Token) = ['T'] := by rcases hsep with rfl | rfl <;> simp
    refine (tok_theorem cls false yf year century o tznames tzi hso dflt
      (isoDateTokens t.y.toNat t.m.toNat t.d.toNat [sep] ++ [dtok [t.hh.toNat / 10, t.hh.toNat], [':'], dtok [t.mm.toNat / 10, t.mm.toNat], [':'], F])
      11 rfl _ _ [5] (TimeFmt.expect (.frac comma k) t dflt) off hoff
      (run_date3_hms (l := _ ++ offTokens off) (by rfl) (Or.inl rfl) hS N.y N.m N.d (by decide) (by decide) (by decide)
        (Or.inr (Or.inr (by decide))) N.hh N.mm hpF (by decide) (by have := N.bmm; omega)) rfl rfl (Or.inl rfl) ?_).trans ?_
    · exact fin_frac yf year century o tznames tzi ho dflt ht comma k
    · simp [offZone]

end
end PM
