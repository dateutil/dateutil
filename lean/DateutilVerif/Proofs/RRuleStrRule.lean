/-
  Proofs/RRuleStrRule.lean — from the printed arguments back to the RULE: C13's text round trip composed with
  C01's constructor (`RRule.construct`, `RRule.origArgs`, `construct_origArgs`).
-/
import DateutilVerif.Proofs.RRuleOrig
import DateutilVerif.Proofs.RRuleStrWhole

namespace RRuleStr
open RRule (Args Rule construct origArgs construct_origArgs constructW resolveW)

def sixOf (d : DT) : Nat × Nat × Nat × Nat × Nat × Nat :=
  (d.y.toNat, d.m.toNat, d.d.toNat, d.hh.toNat, d.mm.toNat, d.ss.toNat)

/-- what `rrule.__str__` reads off a rule whose `_original_rule ∪ {freq, dtstart, interval, wkst, count, until}` is `o`
    (C01's `origArgs`) when `calendar.firstweekday()` is `k` at the time of the call: a recorded weekday `(wd, 0)` is the
    plain `WD`, `(wd, n)` is `WD(n)` -/
def strInOf (k : Int) (o : Args) : StrIn :=
  { dtstart := some (sixOf o.dtstart), freq := o.freq.toNat, interval := o.interval, wkst := o.wkst.getD 0,
    count := o.count, untilV := o.untilDT.map sixOf,
    orig := { bysetpos := o.bysetpos, bymonth := o.bymonth, bymonthday := o.bymonthday, byyearday := o.byyearday,
              byeaster := o.byeaster, byweekno := o.byweekno,
              byweekday := o.byweekday.map (fun l => l.map (fun w => (w.1, if w.2 == 0 then none else some w.2))),
              byhour := o.byhour, byminute := o.byminute, bysecond := o.bysecond },
    fwd := k }

/-- the keyword arguments `rrulestr` hands to `rrule()` (`pa`), as C01 arguments.  The two date VALUES are taken from `o`:
    that `parser.parse` reads the compact texts `showDT …` back as the datetimes they were printed from is C02's domain:
    `C13.date_text_read_back` (on C02's parser model; `compact_roundtrip` is about the driver's display helper). -/
def backArgs (o : Args) (pa : RArgs) : Args :=
  { freq := pa.freq.getD 0, dtstart := o.dtstart, tz := o.tz, interval := pa.interval.getD 1, wkst := pa.wkst,
    count := pa.count, untilDT := pa.untilV.bind (fun _ => o.untilDT),
    bysetpos := pa.bysetpos, bymonth := pa.bymonth, bymonthday := pa.bymonthday, byyearday := pa.byyearday,
    byeaster := pa.byeaster, byweekno := pa.byweekno,
    byweekday := pa.byweekday.map (fun l => l.map (fun w => (w.1, w.2.getD 0))),
    byhour := pa.byhour, byminute := pa.byminute, bysecond := pa.bysecond }

/-- no BY argument of `o` is an empty sequence — the rules D-C13-empty-by-list is NOT about -/
structure NoEmptyBy (o : Args) : Prop where
  bysetpos : o.bysetpos ≠ some []
  bymonth : o.bymonth ≠ some []
  bymonthday : o.bymonthday ≠ some []
  byyearday : o.byyearday ≠ some []
  byeaster : o.byeaster ≠ some []
  byweekno : o.byweekno ≠ some []
  byweekday : o.byweekday ≠ some []
  byhour : o.byhour ≠ some []
  byminute : o.byminute ≠ some []
  bysecond : o.bysecond ≠ some []

theorem normL_of_ne {α : Type} (v : Option (List α)) (h : v ≠ some []) : normL v = v := by
  rcases v with _ | _ | _
  · rfl
  · exact absurd rfl h
  · rfl

theorem construct_wkst (o : Args) (w : Option Int) (h : w.getD 0 = o.wkst.getD 0) :
    construct { o with wkst := w } = construct o := by
  cases o with
  | mk freq dtstart tz interval wkst count untilDT bysetpos bymonth bymonthday byyearday byeaster byweekno byweekday byhour byminute bysecond =>
    cases w <;> cases wkst <;> simp at h <;> (try subst h) <;> rfl

/-- printing (under ambient first weekday `k`) and reparsing gives the constructor the same arguments again, up to the
    spelling of the defaults (`interval` 1 is not printed; `wkst` MO is not printed when the ambient first weekday is Monday) -/
theorem backArgs_argsOf (po : ParseOpts) (k : Int) (o : Args) (hf : 0 ≤ o.freq) (hne : NoEmptyBy o) :
    backArgs o (argsOf po (strInOf k o)) =
      { o with wkst := if (o.wkst.getD 0 != 0 || k != 0) then some (o.wkst.getD 0) else none } := by
  cases o with
  | mk freq dtstart tz interval wkst count untilDT bysetpos bymonth bymonthday byyearday byeaster byweekno byweekday byhour byminute bysecond =>
    obtain ⟨n1, n2, n3, n4, n5, n6, n7, n8, n9, n10⟩ := hne
    have hbw : (byweekday.map (fun l => l.map (fun w : Int × Int => (w.1, if w.2 == 0 then (none : Option Int) else some w.2)))) ≠ some [] := by
      rcases byweekday with _ | _ | _
      · simp
      · exact absurd rfl n7
      · simp
    simp only [backArgs, argsOf, strInOf, normL_of_ne _ hbw, normL_of_ne _ n1, normL_of_ne _ n2, normL_of_ne _ n3, normL_of_ne _ n4,
      normL_of_ne _ n5, normL_of_ne _ n6, normL_of_ne _ n8, normL_of_ne _ n9, normL_of_ne _ n10, Option.getD_some,
      Int.toNat_of_nonneg hf]
    have h3 : (Option.map (fun t => (showDT t, po)) (Option.map sixOf untilDT)).bind (fun _ => untilDT) = untilDT := by
      cases untilDT <;> rfl
    -- a recorded `(wd, 0)` is printed as the plain weekday and read back as `(wd, 0)`
    have h4 : Option.map (fun l => List.map (fun w : Int × Option Int => (w.1, w.2.getD 0)) l)
        (Option.map (fun l => List.map (fun w : Int × Int => (w.1, if w.2 == 0 then (none : Option Int) else some w.2)) l) byweekday) = byweekday := by
      cases byweekday with
      | none => rfl
      | some l =>
        rw [Option.map_some, Option.map_some, List.map_map]
        refine congrArg some ((List.map_congr_left fun w _ => ?_).trans (List.map_id _))
        obtain ⟨a, b⟩ := w
        by_cases hb : b = 0 <;> simp [hb]
    simp only [h3, h4]
    by_cases hi : interval = 1 <;> simp [hi]

/-- the week start the reader's constructor resolves from the printed `WKST` (absent when `w = 0` and the writer's ambient first
    weekday `k` is 0) under its own ambient first weekday `k'` -/
theorem getD_printedWkst {w k k' : Int} (hw : w ≠ 0 ∨ k ≠ 0 ∨ k' = 0) :
    (if (w != 0 || k != 0) = true then some w else none).getD k' = w := by
  split
  · rfl
  · next h =>
    simp only [Bool.or_eq_true, bne_iff_ne, not_or, Decidable.not_not] at h
    rcases hw with hw | hw | hw
    · exact absurd h.1 hw
    · exact absurd h.2 hw
    · rw [hw, h.1]; rfl

theorem constructW_backArgs (k k' : Int) (a : Args) (r : Rule) (h : constructW k a = .ok r) (hsp : a.bysetpos ≠ some [])
    (hne : NoEmptyBy (origArgs (resolveW k a) r)) (hf : 0 ≤ (origArgs (resolveW k a) r).freq)
    (hw : r.wkst ≠ 0 ∨ k ≠ 0 ∨ k' = 0) (po : ParseOpts) :
    constructW k' (backArgs (origArgs (resolveW k a) r) (argsOf po (strInOf k (origArgs (resolveW k a) r)))) = .ok r := by
  show construct (resolveW k' (backArgs _ _)) = _
  rw [backArgs_argsOf po k _ hf hne]
  exact (construct_wkst (origArgs (resolveW k a) r) _ (congrArg (some · |>.getD 0) (getD_printedWkst hw))).trans
    (construct_origArgs (resolveW k a) r h hsp)

/-- **from the text back to the rule, written under ambient first weekday `k` and read under `k'`**
    (`calendar.setfirstweekday`; 0 is the interpreter's default).  Let `r` be the rule `rrule(**a)` builds under ambient `k`
    (C01's `constructW k a`), `o = origArgs (resolveW k a) r` what it records (`_original_rule` and the scalar attributes), and
    `str(r)` = `toStr (strInOf k o)`, taken under the same `k` (`__str__` prints `WKST=` whenever `_wkst ≠ 0` OR `k ≠ 0`).  Then `rrulestr(str(r))` (any `ignoretz` / `tzinfos` / `cache`, no unfold / forceset / compatible) is a
    single rule whose keyword arguments `pa`, handed to the constructor again under ambient `k'`, build exactly `r` — hence the
    same occurrences (C01: `iter` is a function of `r`) — whenever the text carries WKST (`r.wkst ≠ 0 ∨ k ≠ 0`: then the reading
    side's ambient value is irrelevant) or the reading side's week starts on Monday as well (`k' = 0`).
    Hypotheses, all explicit:
    * `NoEmptyBy o` — no BY argument is an empty sequence: this is exactly the class of D-C13-empty-by-list, where the
      statement is FALSE on the real code;
    * `a.bysetpos ≠ some []` — C01's `construct_origArgs` has it (an empty bysetpos is dropped from `_original_rule`);
    * `Printable (strInOf k o)`, `0 ≤ o.freq` — frequency and weekday numbers in range;
    * the DATE VALUES: `backArgs` takes dtstart / until from `o`, i.e. it assumes `parser.parse(showDT t)` is the datetime `t`
      was printed from — that step is C02's (`parser.parse`), tied here by the correspondence and the oracle only. -/
theorem parse_toStr_constructs_same_rule_cross (k k' : Int) (a : Args) (r : Rule) (h : constructW k a = .ok r)
    (hsp : a.bysetpos ≠ some [])
    (hne : NoEmptyBy (origArgs (resolveW k a) r)) (hpr : Printable (strInOf k (origArgs (resolveW k a) r)))
    (hf : 0 ≤ (origArgs (resolveW k a) r).freq) (hw : r.wkst ≠ 0 ∨ k ≠ 0 ∨ k' = 0)
    (o : Opts) (hu : o.unfold = false) (hfs : o.forceset = false) (hc : o.compatible = false) (kw : Bool) :
    ∃ pa dt, parseRfc (toStr (strInOf k (origArgs (resolveW k a) r))) o kw = .ok (.rule pa (some dt) o.cache) ∧
      constructW k' (backArgs (origArgs (resolveW k a) r) pa) = .ok r :=
  ⟨_, _, parseRfc_toStr _ hpr o hu hfs hc kw, constructW_backArgs k k' a r h hsp hne hf hw o.po⟩

/-- the case `k = k' = 0` (Monday, the interpreter's default), with C01's `construct` in place of `constructW 0` -/
theorem parse_toStr_constructs_same_rule (a : Args) (r : Rule) (h : construct a = .ok r) (hsp : a.bysetpos ≠ some [])
    (hne : NoEmptyBy (origArgs a r)) (hpr : Printable (strInOf 0 (origArgs a r))) (hf : 0 ≤ (origArgs a r).freq)
    (o : Opts) (hu : o.unfold = false) (hfs : o.forceset = false) (hc : o.compatible = false) (kw : Bool) :
    ∃ pa dt, parseRfc (toStr (strInOf 0 (origArgs a r))) o kw = .ok (.rule pa (some dt) o.cache) ∧
      construct (backArgs (origArgs a r) pa) = .ok r := by
  have h0 : constructW 0 a = .ok r := (construct_wkst a _ rfl).trans h
  obtain ⟨pa, dt, hp, hc'⟩ :=
    parse_toStr_constructs_same_rule_cross 0 0 a r h0 hsp hne hpr hf (Or.inr (Or.inr rfl)) o hu hfs hc kw
  exact ⟨pa, dt, hp, (construct_wkst _ _ rfl).symm.trans hc'⟩

/-- **the round trip under an ambient first weekday `k`**, written and read under the SAME `k` — with NO hypothesis on the
    week start: when `_wkst == 0` and `k ≠ 0` the text carries `WKST=MO`, so the reader does not fall back on its ambient value. -/
theorem parse_toStr_constructs_same_rule_ambient (k : Int) (a : Args) (r : Rule) (h : constructW k a = .ok r)
    (hsp : a.bysetpos ≠ some [])
    (hne : NoEmptyBy (origArgs (resolveW k a) r)) (hpr : Printable (strInOf k (origArgs (resolveW k a) r)))
    (hf : 0 ≤ (origArgs (resolveW k a) r).freq)
    (o : Opts) (hu : o.unfold = false) (hfs : o.forceset = false) (hc : o.compatible = false) (kw : Bool) :
    ∃ pa dt, parseRfc (toStr (strInOf k (origArgs (resolveW k a) r))) o kw = .ok (.rule pa (some dt) o.cache) ∧
      constructW k (backArgs (origArgs (resolveW k a) r) pa) = .ok r :=
  parse_toStr_constructs_same_rule_cross k k a r h hsp hne hpr hf
    (Or.inr (Decidable.em (k = 0)).symm) o hu hfs hc kw

/-- the keyword arguments `rrulestr` hands to `rrule()` for a text whose DTSTART line has NO zone (no TZID parameter, no `Z`):
    as `backArgs`, with the start's zone tag NAIVE (`tz := 0`) — what the reparsed start really is, whatever the rule's was -/
def backArgsNaive (o : Args) (pa : RArgs) : Args := { backArgs o pa with tz := 0 }

theorem construct_tz {a : Args} {r : Rule} (h : construct a = .ok r) : r.tz = a.tz := by
  obtain ⟨_, _, _, _, _, _, _, _, _, _, hr⟩ := RRule.construct_ok a r h
  rw [hr]

/-- **same occurrences**: for a rule with a NAIVE start built under ambient first weekday `k`, `rrulestr(str(rule))` (read under
    the same `k`) hands the constructor arguments — with a naive start, as the DTSTART text carries no zone — that build a
    rule `r'` whose iteration (C01's `iter` / `iterDT`: the values yielded during the first `fuel` periods and how the
    generator ended) equals the rule's for EVERY fuel: the same occurrences in the same order, the same end. -/
theorem same_occurrences_ambient (k : Int) (a : Args) (r : Rule) (h : constructW k a = .ok r) (hnaive : a.tz = 0)
    (hsp : a.bysetpos ≠ some [])
    (hne : NoEmptyBy (origArgs (resolveW k a) r)) (hpr : Printable (strInOf k (origArgs (resolveW k a) r)))
    (hf : 0 ≤ (origArgs (resolveW k a) r).freq)
    (o : Opts) (hu : o.unfold = false) (hfs : o.forceset = false) (hc : o.compatible = false) (kw : Bool) :
    ∃ pa r', parseRfc (toStr (strInOf k (origArgs (resolveW k a) r))) o kw =
        .ok (.rule pa (some (showDT (sixOf r.dtstart), [], o.po)) o.cache) ∧
      constructW k (backArgsNaive (origArgs (resolveW k a) r) pa) = .ok r' ∧
      ∀ fuel, RRule.iter r' fuel = RRule.iter r fuel ∧ RRule.iterDT r' fuel = RRule.iterDT r fuel := by
  have hb : ∀ pa, backArgsNaive (origArgs (resolveW k a) r) pa = backArgs (origArgs (resolveW k a) r) pa := by
    intro pa
    have htz : r.tz = 0 := (construct_tz (a := resolveW k a) h).trans hnaive
    show { backArgs (origArgs (resolveW k a) r) pa with tz := 0 } = _
    rw [← htz]; rfl
  exact ⟨_, r, parseRfc_toStr _ hpr o hu hfs hc kw,
    (congrArg _ (hb _)).trans (constructW_backArgs k k a r h hsp hne hf (Or.inr (Decidable.em (k = 0)).symm) o.po), fun _ => ⟨rfl, rfl⟩⟩

/-- the witness of D-C13-ambient-wkst: a WEEKLY rule with an explicit `wkst=MO`; built, printed and reparsed under
    `calendar.setfirstweekday(6)` it comes back with week start 0 and is the same rule (`__str__` prints `WKST=MO` there) -/
def ambientWitness : Args :=
  { freq := 2, dtstart := ⟨1997, 8, 5, 9, 0, 0, 0⟩, interval := 2, wkst := some 0, count := some 4,
    byweekday := some [(1, 0), (6, 0)] }

theorem ambient_wkst_witness_roundtrips :
    (do let r ← constructW 6 ambientWitness
        let o := origArgs (resolveW 6 ambientWitness) r
        let r' ← constructW 6 (backArgs o (argsOf {} (strInOf 6 o)))
        pure (r.wkst, r'.wkst, (argsOf {} (strInOf 6 o)).wkst, decide (r' = r))) = .ok (0, 0, some 0, true) := by decide +kernel

/-- … while a text written under the default first weekday (no `WKST=`) and read under another one is still rebuilt with the
    reader's week start: the text of a Monday-week rule written under `k = 0` is ambient-dependent on the reading side
    (RFC 5545: WKST defaults to MO; `rrule()` documents `calendar.firstweekday()` instead) -/
theorem cross_ambient_counterexample :
    (do let r ← constructW 0 ambientWitness
        let o := origArgs (resolveW 0 ambientWitness) r
        let r' ← constructW 6 (backArgs o (argsOf {} (strInOf 0 o)))
        pure (r.wkst, r'.wkst, decide (r' = r))) = .ok (0, 6, false) := by decide +kernel

end RRuleStr
