/-
  Proofs/FactoryInv.lean — invariants of the factory state machine (Model/Factory.lean):
  per-thread invariant `TI`, global invariant `GI`, the guarantee `Guar` every thread step gives
  to the other threads (rely/guarantee); the three kinds of step read off `step`; `GI` under each
  elementary update of the global state.
-/
import DateutilVerif.Model.Factory
import DateutilVerif.Proofs.ListSet

namespace Fact

/-- pcs at which the thread holds the cache lock -/
def inLocked : Pc → Bool
  | .xTouch | .xLen | .xEvict | .xRel | .xRelX => true
  | .lGet | .lTest | .lAlloc | .lInit | .lSdRead | .lSdWrite => true
  | .gGet | .gTest | .gAlloc | .gInit | .gCheck | .gStore | .gRelE => true
  | .sSet | .sLoop | .sPop | .sRel => true
  | .cWeak | .cStrong | .cRel => true
  | _ => false

/-- which factory kind can be at a pc -/
def kindOK (kd : Kind) : Pc → Prop
  | .lAcq | .lGet | .lTest | .lAlloc | .lInit | .lSdRead | .lSdWrite => kd = .lru
  | .xTouch | .xLen | .xEvict | .xRel | .xRet | .xRelX => kd ≠ .single
  | .gAcq | .gGet | .gTest | .gAlloc | .gInit | .gCheck | .gStore | .gRelE | .gRetE => kd = .gettz
  | .sAcq | .sSet | .sLoop | .sPop | .sRel => kd = .gettz
  | .cAcq | .cWeak | .cStrong | .cRel => kd = .gettz
  | .uTest | .uAlloc | .uInit | .uStore | .uRet => kd = .single
  | _ => True

def pcInv (res : Key → Res) (g : Glob) (th : Thread) : Prop :=
  match th.pc with
  | .lGet => g.strong.length ≤ g.cap
  | .lTest => (∀ i, th.inst = some i → g.weak th.key = some i) ∧ (th.inst = none → g.weak th.key = none)
                ∧ g.strong.length ≤ g.cap
  | .lAlloc => g.weak th.key = none ∧ g.strong.length ≤ g.cap
  | .lInit => g.weak th.key = none ∧ g.strong.length ≤ g.cap ∧ ∃ i, th.tmp = some i
  | .lSdRead => g.weak th.key = none ∧ g.strong.length ≤ g.cap ∧ ∃ i, th.tmp = some i ∧ i ∈ g.inited
  | .lSdWrite => g.weak th.key = none ∧ g.strong.length ≤ g.cap ∧ (∃ i, th.tmp = some i ∧ i ∈ g.inited)
                  ∧ th.seen = none
  | .xTouch => (∃ i, th.inst = some i ∧ g.weak th.key = some i) ∧ g.strong.length ≤ g.cap
  | .xLen => (∃ i, th.inst = some i ∧ g.weak th.key = some i) ∧ g.strong.length ≤ g.cap + 1
  | .xEvict => (∃ i, th.inst = some i ∧ g.weak th.key = some i) ∧ g.strong.length ≤ g.cap + 1 ∧ g.strong ≠ []
  | .xRel => (∃ i, th.inst = some i ∧ g.weak th.key = some i) ∧ g.strong.length ≤ g.cap
  | .xRelX => g.strong.length ≤ g.cap
  | .gGet => g.strong.length ≤ g.cap
  | .gTest => (∀ i, th.inst = some i → g.weak th.key = some i) ∧ (th.inst = none → g.weak th.key = none)
                ∧ g.strong.length ≤ g.cap
  | .gAlloc => g.weak th.key = none ∧ g.strong.length ≤ g.cap
  | .gInit => g.weak th.key = none ∧ g.strong.length ≤ g.cap ∧ (∃ i, th.tmp = some i) ∧ res th.key ≠ .none
  | .gCheck => g.weak th.key = none ∧ g.strong.length ≤ g.cap
                ∧ (res th.key ≠ .none → ∃ i, th.inst = some i ∧ i ∈ g.inited)
  | .gStore => g.weak th.key = none ∧ g.strong.length ≤ g.cap ∧ ∃ i, th.inst = some i ∧ i ∈ g.inited
  | .gRelE => g.strong.length ≤ g.cap
  | .sLoop => g.cap = th.arg
  | .sPop => g.cap = th.arg ∧ g.strong ≠ []
  | .sRel => g.strong.length ≤ g.cap
  | .cRel => g.strong.length ≤ g.cap
  | .fInit => ∃ i, th.tmp = some i
  | .uInit => ∃ i, th.tmp = some i
  | .uStore => ∃ i, th.tmp = some i ∧ i ∈ g.inited
  | .uRet => g.single ≠ none
  | _ => True

/-- every strong-cache entry is the live object of its key -/
def SW (g : Glob) : Prop := ∀ e ∈ g.strong, g.weak e.1 = some e.2

/-- … while a thread is inside a critical section (except between the two statements of cache_clear) -/
def TS (g : Glob) (th : Thread) : Prop := inLocked th.pc = true → th.pc ≠ .cStrong → SW g

structure TI (kd : Kind) (res : Key → Res) (t : Tid) (g : Glob) (th : Thread) : Prop where
  lockIff : inLocked th.pc = true ↔ g.lock = some t
  kind : kindOK kd th.pc
  instLt : ∀ i, th.inst = some i → i < g.next
  tmpLt : ∀ i, th.tmp = some i → i < g.next
  seenLt : ∀ i, th.seen = some i → i < g.next
  pc : pcInv res g th

structure GI (kd : Kind) (g : Glob) : Prop where
  heldWeak : kd ≠ .single → ∀ r ∈ g.held, r.ep = g.epoch → g.weak r.key = some r.id
  heldEp : ∀ r ∈ g.held, r.ep ≤ g.epoch
  heldUniq : kd ≠ .single → ∀ r ∈ g.held, ∀ r' ∈ g.held, r.key = r'.key → r.ep = r'.ep → r.id = r'.id
  weakInited : ∀ k i, g.weak k = some i → i ∈ g.inited
  lenFree : g.lock = none → g.strong.length ≤ g.cap
  weakLt : ∀ k i, g.weak k = some i → i < g.next
  strongLt : ∀ e ∈ g.strong, e.2 < g.next
  heldLt : ∀ r ∈ g.held, r.id < g.next
  singleLt : ∀ i, g.single = some i → i < g.next
  initedLt : ∀ i ∈ g.inited, i < g.next
  sharedInited : ∀ e ∈ g.shared, e.2 ∈ g.inited

/-- what a step of thread `t` guarantees to every other thread -/
structure Guar (kd : Kind) (t : Tid) (g g' : Glob) : Prop where
  weak : ∀ k, g'.weak k = g.weak k ∨ (g.weak k = none ∧ g.lock = some t) ∨ (kd = .gettz ∧ g.lock = some t)
  noLock : g.lock ≠ some t → g'.strong = g.strong ∧ g'.cap = g.cap ∧ g'.epoch = g.epoch ∧
            (g'.lock = g.lock ∨ (g.lock = none ∧ g'.lock = some t))
  hasLock : g.lock = some t → (g'.lock = some t ∨ g'.lock = none)
  next : g.next ≤ g'.next
  inited : ∀ i ∈ g.inited, i ∈ g'.inited
  single : g.single ≠ none → g'.single ≠ none

section Steps
variable {kd : Kind} {res : Key → Res} {s s' : State}

theorem step_thr {t : Tid} (h : step kd res s (.thr t) = some s') :
    ∃ th g' th', s.ths[t]? = some th ∧ tstep kd res t s.g th = some (g', th') ∧
      s' = { g := g', ths := s.ths.set t th' } := by
  simp only [step] at h
  split at h
  · cases h
  · next th hth =>
    split at h
    · cases h
    · next g' th' hstep => exact ⟨th, g', th', hth, hstep, (Option.some.inj h).symm⟩

theorem step_drop {t : Tid} {n : Nat} (h : step kd res s (.drop t n) = some s') :
    s' = { s with g := { s.g with held := s.g.held.filter fun r => !(r.owner == t && r.seq == n) } } := by
  simp only [step] at h
  split at h
  · exact (Option.some.inj h).symm
  · cases h

theorem step_collect {k : Key} (h : step kd res s (.collect k) = some s') :
    ∃ i, s.g.weak k = some i ∧ ¬ rooted s i = true ∧ s' = { s with g := { s.g with weak := upd s.g.weak k none } } := by
  simp only [step] at h
  split at h
  · next i hi =>
    split at h
    · cases h
    · next hr => exact ⟨i, hi, hr, (Option.some.inj h).symm⟩
  · cases h

end Steps

/-- `fun_cases` gives one goal per statement and outcome of `tstep`, the guards as hypotheses, in the
order of Model/Factory.lean; `cases h` then puts the successor state in place of `g'`, `th'` and
discards the disabled branches.  The case principle and its match auxiliaries are generated in the
module that uses `fun_cases tstep` first; two modules that generate them independently cannot be
imported together, so this first use sits below every module that needs them. -/
theorem tstep_mono {kd : Kind} {res : Key → Res} {t : Tid} {g g' : Glob} {th th' : Thread}
    (h : tstep kd res t g th = some (g', th')) :
    g.next ≤ g'.next ∧ (∀ i ∈ g.inited, i ∈ g'.inited) ∧ (g.single ≠ none → g'.single ≠ none) := by
  revert h
  fun_cases tstep kd res t g th <;> intro h <;> cases h <;>
    exact ⟨by simp, fun _ h => by simp [h], by simp⟩

theorem Guar.weak_eq {kd : Kind} {t : Tid} {g g' : Glob} (h : Guar kd t g g') (hl : g.lock ≠ some t) (k : Key) :
    g'.weak k = g.weak k := by
  rcases h.weak k with h | ⟨_, h⟩ | ⟨_, h⟩
  · exact h
  · exact absurd h hl
  · exact absurd h hl

theorem touch_length_le (od : List (Key × Id)) (k : Key) (d : Id) : (touch od k d).length ≤ od.length + 1 := by
  simp only [touch, List.length_append, List.length_cons, List.length_nil]
  have := List.length_filter_le (fun e : Key × Id => e.1 != k) od
  omega

theorem touch_ne_nil (od : List (Key × Id)) (k : Key) (d : Id) : touch od k d ≠ [] := by
  simp [touch]

theorem lookup_mem {od : List (Key × Id)} {k : Key} {v : Id} (h : od.lookup k = some v) : (k, v) ∈ od := by
  obtain ⟨l₁, l₂, rfl, -⟩ := List.lookup_eq_some_iff.mp h
  exact List.mem_append_right _ List.mem_cons_self

theorem mem_touch {od : List (Key × Id)} {k : Key} {d : Id} {e : Key × Id} (he : e ∈ touch od k d) :
    e ∈ od ∨ e = (k, d) := by
  simp only [touch, List.mem_append, List.mem_filter, List.mem_singleton] at he
  rcases he with ⟨h1, _⟩ | rfl
  · exact .inl h1
  · cases hl : od.lookup k with
    | none => exact .inr rfl
    | some v => exact .inl (lookup_mem hl)

theorem touch_snd_lt {od : List (Key × Id)} {k : Key} {d n : Id} (hod : ∀ e ∈ od, e.2 < n) (hd : d < n) :
    ∀ e ∈ touch od k d, e.2 < n := fun e he => by
  rcases mem_touch he with he | rfl
  · exact hod e he
  · exact hd

variable {kd : Kind} {res : Key → Res} {t : Tid} {g : Glob} {th : Thread}

theorem sw_touch {k : Key} {d : Id} (h : SW g) (hd : g.weak k = some d) :
    ∀ e ∈ touch g.strong k d, g.weak e.1 = some e.2 := fun e he => by
  rcases mem_touch he with he | rfl
  · exact h e he
  · exact hd

theorem sw_upd {k : Key} {v : Option Id} (h : SW g) (hk : g.weak k = none) :
    ∀ e ∈ g.strong, upd g.weak k v e.1 = some e.2 := fun e he => by
  have hw := h e he
  exact (upd_other _ _ _ _ fun hkk => by rw [hkk, hk] at hw; cases hw).trans hw

theorem SW.tail {e : Key × Id} {s : List (Key × Id)} (h : SW g) (hs : g.strong = e :: s) :
    SW { g with strong := s } :=
  fun e he => h e (hs ▸ List.mem_cons_of_mem _ he)

theorem pcInv_ite {c : Prop} [Decidable c] {p q : Pc} :
    pcInv res g { th with pc := if c then p else q } =
      if c then pcInv res g { th with pc := p } else pcInv res g { th with pc := q } := by
  split <;> rfl

/-- the test `if instance is None` that follows `instance = <weak>.get(key, None)` -/
theorem pcInv_test (hp : (∀ i, th.inst = some i → g.weak th.key = some i) ∧
      (th.inst = none → g.weak th.key = none) ∧ g.strong.length ≤ g.cap) :
    if th.inst.isNone = true then g.weak th.key = none ∧ g.strong.length ≤ g.cap
    else (∃ i, th.inst = some i ∧ g.weak th.key = some i) ∧ g.strong.length ≤ g.cap := by
  cases hi : th.inst with
  | none => exact ⟨hp.2.1 hi, hp.2.2⟩
  | some i => exact ⟨⟨i, rfl, hp.1 i hi⟩, hp.2.2⟩

namespace GI
variable (h : GI kd g)
include h

theorem acquire (t : Tid) : GI kd { g with lock := some t } := { h with lenFree := nofun }

theorem release (hl : g.strong.length ≤ g.cap) : GI kd { g with lock := none } := { h with lenFree := fun _ => hl }

theorem setLog (l : List Ev) : GI kd { g with log := l } := { h with }

theorem alloc : GI kd { g with next := g.next + 1 } :=
  { h with
    weakLt := fun k i hk => Nat.lt_succ_of_lt (h.weakLt k i hk)
    strongLt := fun e he => Nat.lt_succ_of_lt (h.strongLt e he)
    heldLt := fun r hr => Nat.lt_succ_of_lt (h.heldLt r hr)
    singleLt := fun i hi => Nat.lt_succ_of_lt (h.singleLt i hi)
    initedLt := fun i hi => Nat.lt_succ_of_lt (h.initedLt i hi) }

/-- the construction of object `i` finishes; a shared object is entered under its slot -/
theorem init {i : Id} (hi : i < g.next) (o : Option Nat) :
    GI kd { g with inited := i :: g.inited,
                   shared := match o with | some sl => (sl, i) :: g.shared | none => g.shared } :=
  have old : ∀ e ∈ g.shared, e.2 ∈ i :: g.inited := fun e he => List.mem_cons_of_mem _ (h.sharedInited e he)
  { h with
    weakInited := fun k j hk => List.mem_cons_of_mem _ (h.weakInited k j hk)
    initedLt := List.forall_mem_cons.mpr ⟨hi, h.initedLt⟩
    sharedInited := by
      cases o with
      | none => exact old
      | some sl => exact List.forall_mem_cons.mpr ⟨List.mem_cons_self, old⟩ }

/-- a new weak entry, for a key that had none: no held reference of this epoch is for that key -/
theorem setWeak {k : Key} {i : Id} (hk : g.weak k = none) (hi : i ∈ g.inited) (hlt : i < g.next) :
    GI kd { g with weak := upd g.weak k (some i) } := by
  have old : ∀ k' j, upd g.weak k (some i) k' = some j → j = i ∨ g.weak k' = some j := by
    intro k' j hj
    by_cases hkk : k' = k
    · rw [hkk, upd_same] at hj; exact .inl (Option.some.inj hj).symm
    · rw [upd_other _ _ _ _ hkk] at hj; exact .inr hj
  exact { h with
    heldWeak := fun hs r hr he => by
      have hw := h.heldWeak hs r hr he
      exact (upd_other _ _ _ _ fun hkk => by rw [hkk, hk] at hw; cases hw).trans hw
    weakInited := fun k' j hj => by
      rcases old k' j hj with rfl | hj
      · exact hi
      · exact h.weakInited k' j hj
    weakLt := fun k' j hj => by
      rcases old k' j hj with rfl | hj
      · exact hlt
      · exact h.weakLt k' j hj }

theorem clearWeak {k : Key} (hk : kd ≠ .single → ∀ r ∈ g.held, r.ep = g.epoch → r.key ≠ k) :
    GI kd { g with weak := upd g.weak k none } := by
  have old : ∀ k' j, upd g.weak k none k' = some j → g.weak k' = some j := by
    intro k' j hj
    by_cases hkk : k' = k
    · rw [hkk, upd_same] at hj; cases hj
    · rwa [upd_other _ _ _ _ hkk] at hj
  exact { h with
    heldWeak := fun hs r hr he => (upd_other _ _ _ _ (hk hs r hr he)).trans (h.heldWeak hs r hr he)
    weakInited := fun k' j hj => h.weakInited k' j (old k' j hj)
    weakLt := fun k' j hj => h.weakLt k' j (old k' j hj) }

theorem setStrong {s : List (Key × Id)} (hs : ∀ e ∈ s, e.2 < g.next) (hl : g.lock = none → s.length ≤ g.cap) :
    GI kd { g with strong := s } :=
  { h with strongLt := hs, lenFree := hl }

theorem setCap (n : Nat) (hl : g.lock ≠ none) : GI kd { g with cap := n } :=
  { h with lenFree := (absurd · hl) }

/-- a reference to the live object of its key (to any object, for the singleton) is handed out -/
theorem addHeld (r : Ref) (hep : r.ep = g.epoch) (hw : kd ≠ .single → g.weak r.key = some r.id)
    (hlt : r.id < g.next) : GI kd { g with held := g.held ++ [r] } := by
  have live : kd ≠ .single → ∀ r' ∈ g.held ++ [r], r'.ep = g.epoch → g.weak r'.key = some r'.id := fun hs =>
    List.forall_mem_append.mpr ⟨h.heldWeak hs, List.forall_mem_singleton.mpr fun _ => hw hs⟩
  exact { h with
    heldWeak := live
    heldEp := List.forall_mem_append.mpr ⟨h.heldEp, List.forall_mem_singleton.mpr (Nat.le_of_eq hep)⟩
    heldUniq := fun hs r1 h1 r2 h2 hkey he => by
      -- two references to one key in the epoch of the new one are to the live object of that key
      rcases List.mem_append.mp h1 with h1' | h1' <;> rcases List.mem_append.mp h2 with h2' | h2'
      · exact h.heldUniq hs r1 h1' r2 h2' hkey he
      · cases List.mem_singleton.mp h2'
        exact Option.some.inj ((live hs r1 h1 (he.trans hep)).symm.trans (hkey ▸ hw hs))
      · cases List.mem_singleton.mp h1'
        exact Option.some.inj ((hkey ▸ hw hs : g.weak r2.key = _).symm.trans (live hs r2 h2 (he.symm.trans hep)))
      · rw [List.mem_singleton.mp h1', List.mem_singleton.mp h2']
    heldLt := List.forall_mem_append.mpr ⟨h.heldLt, List.forall_mem_singleton.mpr hlt⟩ }

theorem filterHeld (p : Ref → Bool) : GI kd { g with held := g.held.filter p } :=
  { h with
    heldWeak := fun hs r hr => h.heldWeak hs r (List.mem_filter.mp hr).1
    heldEp := fun r hr => h.heldEp r (List.mem_filter.mp hr).1
    heldUniq := fun hs r hr r' hr' => h.heldUniq hs r (List.mem_filter.mp hr).1 r' (List.mem_filter.mp hr').1
    heldLt := fun r hr => h.heldLt r (List.mem_filter.mp hr).1 }

/-- `cache_clear` replaces the weak dictionary: a new epoch, in which no reference is held yet -/
theorem resetWeak : GI kd { g with weak := fun _ => none, epoch := g.epoch + 1 } :=
  { h with
    heldWeak := fun _ r hr he => absurd (he ▸ h.heldEp r hr) (Nat.not_succ_le_self _)
    heldEp := fun r hr => Nat.le_succ_of_le (h.heldEp r hr)
    weakInited := nofun
    weakLt := nofun }

theorem setSingle {i : Id} (hi : i < g.next) : GI kd { g with single := some i } :=
  { h with singleLt := fun _ hj => Option.some.inj hj ▸ hi }

end GI

end Fact
