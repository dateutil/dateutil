/-
  Proofs/RRuleWeeklyW.lean — WEEKLY with BYWEEKNO on the complement of D-C01c.  A period beginning in late December
  runs into the 7-day tail of the masks, where the week-number mask is right up to the next week start
  (`buildWnomask_marks`).
-/
import DateutilVerif.Proofs.RRuleWeeknoYearly

namespace RRule
open Cal

/-- WEEKLY argument sets with BYWEEKNO on the complement of D-C01c -/
structure WeeklyWArgs (a : Args) : Prop where
  freq : a.freq = 2
  interval : 1 ≤ a.interval
  valid : a.dtstart.Valid
  byeaster : a.byeaster = none
  monthday_nz : ∀ x ∈ a.bymonthday.getD [], x ≠ 0
  weekno : ∃ wl, a.byweekno = some wl ∧ wl ≠ [] ∧ WnoOk wl
  setpos : a.bysetpos = none ∨ weekdayOfOrd (Spec.RRule.startOrd a) = a.wkst.getD 0
  wkst : 0 ≤ a.wkst.getD 0 ∧ a.wkst.getD 0 ≤ 6
  until_ge : ∀ u, a.untilDT = some u → Spec.RRule.startMicros a ≤ u.toMicros

variable {a : Args} {r : Rule}

theorem WeeklyWArgs.base (wa : WeeklyWArgs a) : WeeklyBase a := ⟨wa.freq, wa.valid, wa.setpos, wa.wkst, wa.until_ge⟩

/-- what `rebuild` establishes: no nth mask, and the week-number mask right over the year and the readable part of its
    tail -/
def WeeklyWInv (a : Args) (r : Rule) (_y _m : Int) (info : Info) : Prop :=
  info.nwdaymask = none ∧ WeeknoMarks r.wkst (weeknosOf a) info (readEnd r info)

theorem ww_filter (wa : WeeklyWArgs a) (h : construct a = .ok r) :
    PeriodFilter a r 1 9999 (WeeklyWInv a r) (weekDays r 9999) where
  lo := by omega
  hi := by omega
  rebuild := fun y m hy1 hy2 _ _ => by
    have D := construct_dateFields h
    obtain ⟨hbw, ht⟩ := weekno_rule D wa.weekno
    obtain ⟨w, hw1, hw2⟩ := wnomaskOf_marks ht hbw (weeknos_facts wa.weekno).2.1 (by rw [D.wkst]; exact wa.wkst) hy1 hy2
    exact ⟨_, rebuild_eq r m hy1 hy2 hw1
      (buildNwdaymask_off (by rw [D.bynweekday]; exact bynweekday_plain fun _ _ => Or.inr (by rw [wa.freq]; omega)) ..)
      (eastermaskOf_off (D.easter_off wa.byeaster) ..), rfl, hw2 _ _⟩
  filtered := fun {y m info i} f inv hi =>
    have D := construct_dateFields h
    plain_filtered D (monthdayArg_nz wa.monthday_nz wa.valid) (fun _ _ => Or.inr (by rw [wa.freq]; omega)) f i hi.1
      (by have := hi.2.1; unfold readEnd at this; omega) inv.1 (weekno_miss_on D wa.weekno inv.2 hi.1 hi.2.1)
      (easter_miss_off D wa.byeaster ..)

/-- **`iter_eq_spec`, WEEKLY with BYWEEKNO** on the complement of D-C01c (`WnoOk` suffices also for the tail indices
    `yearlen ≤ i < readEnd`: `buildWnomask_marks`) -/
theorem iter_eq_spec_weekly_weekno (wa : WeeklyWArgs a) (h : construct a = .ok r) (n : Nat)
    (hn : W0 a + 7 * (n * a.interval) + 7 ≤ maxOrdinal + 1) :
    (iter r n).1 = Spec.RRule.occ a n := by
  have hv := wa.valid
  unfold DT.Valid ValidDate at hv
  exact weekly_refines h wa.base (ww_filter wa h) n hv.1.1 (by rw [maxOrdinal_eq]; exact hn)

-- a WeeklyWArgs instance whose first period (Mon 2024-12-30 .. Sun 2025-01-05, week 1 of 2025) reads the mask's tail
-- through the `if 1 in byweekno` block; 52 is listed together with −1 (complement of D-C01c)
example : WeeklyWArgs { freq := 2, dtstart := ⟨2024, 12, 30, 9, 0, 0, 0⟩, byweekno := some [1, 52, -1] } :=
  ⟨rfl, by decide, by decide, rfl, by intro x hx; simp at hx, ⟨[1, 52, -1], rfl, by decide, ⟨by decide, by decide⟩⟩,
   Or.inl rfl, by decide, by intro u hu; cases hu⟩
-- … and one with a Sunday week start, BYSETPOS (start on the week start), BYDAY and a last week running over the year end
example : WeeklyWArgs { freq := 2, dtstart := ⟨2025, 12, 28, 9, 0, 0, 0⟩, wkst := some 6, interval := 2,
                        byweekno := some [-1, 1, 53], byweekday := some [(0, 0), (4, 0)], bysetpos := some [-1] } :=
  ⟨rfl, by decide, by decide, rfl, by intro x hx; simp at hx, ⟨[-1, 1, 53], rfl, by decide, ⟨by decide, by decide⟩⟩,
   Or.inr (by decide), by decide, by intro u hu; cases hu⟩

end RRule
