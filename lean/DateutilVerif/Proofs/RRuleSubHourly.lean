/-
  Proofs/RRuleSubHourly.lean — HOURLY over any day filter, with or without BYHOUR: one turn of the loop takes the
  optional jump to the last on-grid hour of a removed day and then one step on the hours — `__mod_distance` to the
  least listed hour of the grid when BYHOUR is given (`reach`: there always is one within 24 steps for a list that
  passed `__construct_byset`), else `+interval`.
-/
import DateutilVerif.Proofs.RRuleSubStep

namespace RRule
open Cal

variable {a : Args} {r : Rule} {ylo yhi : Int} {Inv : Info → Prop}

/-- what HOURLY knows about the BY lists: BYHOUR (members 0..23; outside, `__mod_distance` can fall off its loop) was
    filtered by `__construct_byset`; BYMINUTE / BYSECOND members inside 0..59 (outside, the generator raises ValueError
    from `datetime.time` while iterating) make the hour's time set -/
theorem hourly_by (h : construct a = .ok r) (hf : a.freq = 4) (hi : 1 ≤ a.interval) (hv : a.dtstart.Valid)
    (hh : ∀ x ∈ a.byhour.getD [], 0 ≤ x ∧ x ≤ 23) (hm : minutesOk a) (hs : secondsOk a) (S : Nat)
    (hS : if a.byhour = none then 1 ≤ S else 24 ≤ S) : SubBy .hourly a r S := by
  obtain ⟨sp, bh, bm, bs, ts, _, h2, h3, h4, _, rfl⟩ := construct_ok a r h
  rw [hf] at h2 h3 h4
  unfold DT.Valid at hv
  have hacc : ∀ V k z : Int, V = a.dtstart.hh + k * a.interval + 24 * z →
      (!(truthy bh) || memO (V % 24) bh) = listedO a.byhour (V % 24) := fun V k z hV =>
    own_listed _ _ _ _ _ _ h2 (by omega) _ (orbit_digit _ _ _ V k z hV)
  have hlisted : ∀ w, SubFreq.listed .hourly a w = listedO a.byhour w := by
    intro w; simp only [SubFreq.listed, SubFreq.fix, listedF, Bool.and_true]
  refine ⟨fun V k z hV => by rw [hlisted]; exact hacc V k z hV, ?_, ?_⟩
  · intro hr m s hd hl
    simp only [SubFreq.Digits] at hd
    rw [hlisted] at hl
    simp only [SubFreq.tod] at hl ⊢
    unfold gettimeset htimeset
    rw [if_pos (by simp [hf])]
    dsimp only
    exact buildTimeset_eq _ _ _ _ _ _ (by simp) (normUnit_nodup _ _ _ _ _ _ _ h3) (normUnit_nodup _ _ _ _ _ _ _ h4)
      (restrict_sorted _ _ (unitVals_sorted ..)) (unitVals_sorted ..) (unitVals_sorted ..)
      (mem_restrict_listed _ _ (by omega) _ 24 hr (by omega) hl)
      (mem_normUnit_below _ _ _ _ _ _ _ (by omega) h3 (fun x hx => by have := hm x hx; omega) _ (by omega))
      (mem_normUnit_below _ _ _ _ _ _ _ (by omega) h4 (fun x hx => by have := hs x hx; omega) _ (by omega))
      (by intro x hx; simp at hx; omega)
      (fun x hx => by
        have := normUnit_below_range _ _ _ _ _ _ _ (by omega) h3 (by omega) (fun x hx => by have := hm x hx; omega) x hx
        omega)
      (fun x hx => by
        have := normUnit_below_range _ _ _ _ _ _ _ (by omega) h4 (by omega) (fun x hx => by have := hs x hx; omega) x hx
        omega)
  · -- from every grid hour a listed one is `S` steps away at most
    intro k
    simp only [SubFreq.tod, SubFreq.U, hlisted]
    cases hb : a.byhour with
    | none => rw [hb] at hS; exact ⟨1, by omega, by simpa using hS, rfl⟩
    | some l =>
      rw [hb] at hS h2 hh
      simp only [reduceCtorEq, ↓reduceIte] at hS
      have d1 : ((Int.gcd a.interval 24 : Nat) : Int) ∣ a.interval := Int.gcd_dvd_left a.interval 24
      obtain ⟨t, ht1, ht2, ht3⟩ := own_reach _ _ _ _ l _ h2 (by omega) (fun x hx => by have := hh x hx; omega)
        (a.dtstart.hh + (k : Int) * a.interval) (by
          have e : a.dtstart.hh + (k : Int) * a.interval - a.dtstart.hh = k * a.interval := by omega
          rw [e]; exact Int.emod_eq_zero_of_dvd (Int.dvd_trans d1 (Int.dvd_mul_left _ _)))
      refine ⟨t, ht1, by omega, ?_⟩
      have e : a.dtstart.hh + ((k + t : Nat) : Int) * a.interval =
          a.dtstart.hh + (k : Int) * a.interval + (t : Int) * a.interval := by
        push_cast; rw [Int.add_mul]; omega
      rw [e]
      exact ht3

/-- the HOURLY branch of "Handle frequency and interval" -/
theorem hourly_step (F : DayFilter a r ylo yhi Inv) (h : construct a = .ok r) (hf : a.freq = 4) (hi : 1 ≤ a.interval) {S : Nat}
    (B : SubBy .hourly a r S) (k : Nat) (st : State) (fl : Bool) (c : Option Int) (hg : SubGood .hourly F k st)
    (hb : curOrd st.cur * 24 + 23 + S * a.interval < (toOrdinal yhi 12 31 + 1) * 24) : SubStep .hourly F S k st fl c := by
  obtain ⟨hfr, hint, _⟩ := construct_fields a r h
  have hfreq : r.freq = 4 := by rw [hfr, hf]
  have hd := hg.digits
  simp only [SubFreq.Digits] at hd
  obtain ⟨hX0, hXle, hXt, _⟩ := SubFreq.jump_le .hourly a.interval st.cur.hour fl hi (by simp only [SubFreq.U]; omega)
  unfold SubStep
  simp only [SubFreq.tod, SubFreq.U] at hX0 hXle hXt ⊢
  generalize hs0 : SubFreq.jump .hourly a.interval st.cur.hour fl = s0 at *
  -- the search: `__mod_distance` or `+interval`, to the least accepted hour
  obtain ⟨ts, hts1, hts2, hts3⟩ := hg.reach B s0
  simp only [SubFreq.tod] at hts3
  have hcast : ∀ u : Nat, st.cur.hour + ((s0 + u : Nat) : Int) * a.interval =
      st.cur.hour + (s0 : Int) * a.interval + (u : Int) * a.interval := by
    intro u; push_cast; rw [Int.add_mul]; omega
  rw [hcast] at hts3
  obtain ⟨s, hs1, hs2, hs3, hs4, hs5⟩ := unitStep_exact a.interval r.byhour 24 (by omega) 24 rfl
    (st.cur.hour + (s0 : Int) * a.interval) ts hts1 hts3
  obtain ⟨D, hD⟩ : ∃ D, D = st.cur.hour + (s0 : Int) * a.interval + (s : Int) * a.interval := ⟨_, rfl⟩
  rw [← hD] at hs3 hs5
  have hsi : (0 : Int) ≤ (s : Int) * a.interval := Int.mul_nonneg (by omega) (by omega)
  have hsS : (s : Int) * a.interval ≤ S * a.interval := Int.mul_le_mul_of_nonneg_right (by omega) (by omega)
  have hD0 : 0 ≤ D := by omega
  obtain ⟨hts, st', hfix, hg'⟩ := hg.arrive B c (s0 + s) D
    (by show D = st.cur.hour + ((s0 + s : Nat) : Int) * a.interval; rw [hD, hcast]) hD0 (D % 24) st.cur.minute
    st.cur.second (by simp only [SubFreq.Digits]; omega) rfl hs3 (decide (D / 24 ≠ 0))
    (by intro hz; show D / 24 = 0; simpa using hz) (by simp only [SubFreq.U]; omega)
  simp only [SubFreq.U] at hts hfix
  refine ⟨st', s, hs1, by omega, ?_, by rw [← Nat.add_assoc] at hg'; exact hg', ?_⟩
  · rw [advance_hourly_eq r _ fl hfreq]
    dsimp only
    have hhour0 : (if fl = true then st.cur.hour + Py.fdiv (23 - st.cur.hour) r.interval * r.interval
        else st.cur.hour) = st.cur.hour + (s0 : Int) * a.interval := by
      cases fl with
      | false => rw [← hs0]; simp [SubFreq.jump]
      | true =>
        rw [if_pos rfl, hint, Py.fdiv_pos _ (by omega), hXt rfl]
        have e : (24 : Int) - 1 - st.cur.hour = 23 - st.cur.hour := by omega
        rw [e]
    rw [hhour0, hint, hs5]
    dsimp only
    rw [hts]
    dsimp only
    have hday : (if D / 24 ≠ 0 then st.cur.day + D / 24 else st.cur.day) = st.cur.day + D / 24 := by
      split
      · rfl
      · rename_i hz; have : D / 24 = 0 := by simpa using hz
        rw [this, Int.add_zero]
    rw [hday]
    exact hfix
  · intro t' h1 h2
    have := hs4 t' h1 h2
    rw [← hcast] at this
    have e := hg.accepts_eq B (s0 + t')
    simp only [SubFreq.tod, SubFreq.U] at e
    rw [← e]
    exact this

/-- **`iter_eq_spec`, HOURLY, over a day filter** (with or without BYHOUR, members 0..23): INTERVAL ≥ 1, a valid start in
    the filter's years, BYMINUTE / BYSECOND members 0..59.  One turn of the generator's loop may pass over several hours
    of the specification's grid: after a day that the BY-filter removed it jumps to the day's last on-grid hour, and
    `__mod_distance` moves to the least listed hour of the grid, at most `S` steps (1 without BYHOUR, else 24).  So `n`
    turns correspond to `m` periods with `n ≤ m ≤ J·n`, `23 + S ≤ J`: what has been yielded after `n` turns is exactly
    the specification's recurrence set of the first `m` periods. -/
theorem iter_eq_spec_hourly_filter (F : DayFilter a r ylo yhi Inv) (h : construct a = .ok r) (hf : a.freq = 4) (hi : 1 ≤ a.interval)
    (hv : a.dtstart.Valid) (hh : ∀ x ∈ a.byhour.getD [], 0 ≤ x ∧ x ≤ 23) (hm : minutesOk a) (hs : secondsOk a)
    (S J : Nat) (hS : if a.byhour = none then 1 ≤ S else 24 ≤ S) (hJ : 23 + S ≤ J) (n : Nat)
    (hlo : ylo ≤ a.dtstart.y)
    (hle : Spec.RRule.startOrd a * 24 + a.dtstart.hh + ((J * n + S : Nat) : Int) * a.interval + 23 < (toOrdinal yhi 12 31 + 1) * 24) :
    ∃ m, n ≤ m ∧ m ≤ J * n ∧ (iter r n).1 = Spec.RRule.occ a m := by
  have B := hourly_by h hf hi hv hh hm hs S hS
  exact iter_eq_spec_sub .hourly F h hf hi hv B J (by simp only [SubFreq.U]; omega)
    (fun k st fl c hg hb => hourly_step F h hf hi B k st fl c hg (by simp only [SubFreq.U] at hb; omega))
    n hlo (by simp only [SubFreq.T0, SubFreq.U, SubFreq.tod]; omega)

end RRule
