/-
  Proofs/ParserGenStep.lean — one iteration of the token loop of `parser._parse` (the body of `while i < len_l:`)
  re-translated from /repo's parser/_parser.py (Generated/ParserOps.lean: `Gen.P.parseStep`) = `PM.parseStep`
  (Model/Parser.lean), all seven arms (number, weekday, month name with its three continuations, AM/PM word, time-zone
  name with the `GMT+3` sign flip, numeric offset with the parenthesised name, jump / fuzzy skip / ValueError).
-/
import DateutilVerif.Proofs.ParserGenNum

namespace PGen
open PM Py

theorem intStrLen_eq (n : Int) : PPy.intStrLen n = (toString n).length := rfl
theorem eq_chain (a b s : Token) : (a = b ∧ b = s) = (a = s ∧ b = s) := by
  apply propext; constructor
  · rintro ⟨h1, h2⟩; exact ⟨h1.trans h2, h2⟩
  · rintro ⟨h1, h2⟩; exact ⟨h1.trans h2.symm, h2⟩

theorem toksSet_lt (l : List Token) (k : Nat) (h : k < l.length) (v : Token) : PPy.toksSet l k v = .ok (l.set k v) := by
  unfold PPy.toksSet; simp [h]

/-- `tzParenName` looks at `res.hour` and `res.tzname` only -/
def parenName (info : Info) (l : List Token) (i' : Nat) (hour : Option Nat) (tzname : Option Token) : Option Token :=
  PM.tzParenName info l l.length i' { hour := hour, tzname := tzname }

theorem tzParenName_eq (info : Info) (l : List Token) (res : Res) (i' : Nat) :
    PM.tzParenName info l l.length i' res = parenName info l i' res.hour res.tzname := rfl

/-- the look-ahead for a parenthesised zone name behind a numeric offset, `-0300 (BRST)`, at the position `i'` the offset
    spelling left the index at -/
theorem paren_cond (info : Info) (l : List Token) (res : Res) (i' : Nat) :
    (if ((i' + 5) < l.length) then
      Except.bind (PPy.toksAt l (((i' + 2) : Nat) : Int)) (fun tok_78 =>
        Except.bind (Gen.P.info_jump info tok_78) (fun q_79 =>
          (if (q_79 = true) then
            Except.bind (PPy.toksAt l (((i' + 3) : Nat) : Int)) (fun tok_80 =>
              (if ((some tok_80) = (some (PM.tk "("))) then
                  Except.bind (PPy.toksAt l (((i' + 5) : Nat) : Int)) (fun tok_81 =>
                    (if ((some tok_81) = (some (PM.tk ")"))) then
                    Except.bind (PPy.toksAt l (((i' + 4) : Nat) : Int)) (fun tok_82 =>
                      (if (3 ≤ tok_82.length) then
                        Except.bind (PPy.toksAt l (((i' + 4) : Nat) : Int)) (fun tok_83 =>
                          Except.bind (Gen.P.couldBeTzname info res.hour res.tzname none tok_83) (fun r_84 =>
                            .ok (decide (r_84 = true))))
                        else .ok false))
                    else .ok false))
                else .ok false))
            else .ok false)))
      else .ok false) = (.ok ((parenName info l i' res.hour res.tzname).isSome) : R Bool) := by
  unfold parenName PM.tzParenName
  by_cases h : i' + 5 < l.length
  · have h2 := List.getElem?_eq_getElem (show i' + 2 < l.length by omega)
    have h3 := List.getElem?_eq_getElem (show i' + 3 < l.length by omega)
    have h4 := List.getElem?_eq_getElem (show i' + 4 < l.length by omega)
    have h5 := List.getElem?_eq_getElem h
    simp only [h, if_true, toksAt_eq, tokAt_some h2, tokAt_some h3, tokAt_some h4, tokAt_some h5, h2, h3, h4, h5,
      bind_ok, info_jump_eq, couldBeTzname_eq, tk_lpar, tk_rpar, Option.some.injEq, ite_and_ok]
    split <;> simp_all
  · simp [h]
theorem paren_tok (info : Info) (l : List Token) (hour : Option Nat) (tzname : Option Token) (i' : Nat) (t4 : Token)
    (h : parenName info l i' hour tzname = some t4) : l[i' + 4]? = some t4 := by
  unfold parenName PM.tzParenName at h
  split at h
  · split at h
    · next h4 _ =>
      split at h
      · injection h with h; rw [← h, h4]
      · cases h
    · cases h
  · cases h

/-- `ymd.append(str(info.convertyear(value)), 'Y')`: with a century of at least 100 the converted year is not negative,
    so its text is a digit string and the translated `append(str)` is the model's `appendCore` on the number -/
theorem convert_append {β : Type} (cls : Char → CClass) (info : Info) (ymd : Ymd) (v : Nat) (hc : 100 ≤ info.century)
    (k : Ymd → R β) :
    Except.bind (Gen.convertyear ⟨info.century, info.year⟩ (v : Int) false) (fun y =>
        Except.bind (Gen.P.ymd_appendIntStr cls ymd y PM.Label.Y) k) =
      Except.bind (Gen.convertyear ⟨info.century, info.year⟩ (v : Int) false) (fun y =>
        Except.bind (ymd.appendCore (PPy.intStrLen y > 2) (.ok y.toNat) PM.Label.Y) k) := by
  cases hcv : Gen.convertyear ⟨info.century, info.year⟩ (v : Int) false with
  | error e => rfl
  | ok y =>
    have hy := convertyear_nonneg _ _ _ _ _ hc hcv
    simp only [bind_ok, appendIntStr_eq cls ymd y PM.Label.Y hy]



/-- `i + 4 < len_l and l[i+1] == l[i+3] == ' ' and info.pertain(l[i+2])`, as translated -/
theorem pertainAhead_eq (info : Info) (l : List Token) (i : Nat) :
    (if ((i + 4) < l.length) then
      Except.bind (PPy.toksAt l (((i + 1) : Nat) : Int)) (fun tok_22 =>
        Except.bind (PPy.toksAt l (((i + 3) : Nat) : Int)) (fun tok_23 =>
          (if (((some tok_22) = (some tok_23)) ∧ ((some tok_23) = (some (PM.tk " ")))) then
            Except.bind (PPy.toksAt l (((i + 2) : Nat) : Int)) (fun tok_24 =>
              Except.bind (Gen.P.info_pertain info tok_24) (fun q_25 =>
                .ok (decide (q_25 = true))))
            else .ok false)))
      else (.ok false : R Bool)) =
      .ok (decide (i + 4 < l.length ∧ tokIs l (i + 1) [' '] ∧ tokIs l (i + 3) [' '] ∧ (l[i + 2]?).any info.isPertain)) := by
  by_cases h : i + 4 < l.length
  · have h1 := List.getElem?_eq_getElem (show i + 1 < l.length by omega)
    have h2 := List.getElem?_eq_getElem (show i + 2 < l.length by omega)
    have h3 := List.getElem?_eq_getElem (show i + 3 < l.length by omega)
    simp only [h, if_true, toksAt_eq, tokAt_some h1, tokAt_some h2, tokAt_some h3, tokIs_some h1, tokIs_some h3, h2,
      bind_ok, info_pertain_eq, tk_space, Option.some.injEq, eq_chain, Option.any_some, true_and, decide_eq_true_eq]
    simp [ite_and_ok, Bool.and_assoc]
  · simp [h]

theorem ampmValid_some {hour ampm : Option Nat} {fuzzy : Bool} {h : Nat}
    (hv : PM.ampmValid hour ampm fuzzy = .ok (some h)) : hour = some h := by
  unfold PM.ampmValid at hv
  cases hour with
  | none => simp only [] at hv; split at hv <;> cases hv
  | some h' =>
    simp only [] at hv
    repeat' split at hv
    all_goals cases hv
    rfl

/-- the body of `while i < len_l:` in `parser._parse` = `PM.parseStep` (the model returns how many FURTHER
    tokens were consumed), for every parserinfo whose `_century` is at least 100 (`str(info.convertyear(value))` is then the
    text of a non-negative number). The proof walks the `if … elif …` chain of the body, one bullet per arm; the tokens
    behind `i` are looked at through `l[i + j]?`, case by case where an arm reads one. -/
theorem parseStep_eq (cls : Char → CClass) (info : Info) (fuzzy : Bool) (l : List Token) (i : Nat) (res : Res) (ymd : Ymd)
    (skipped : List Nat) (hc : 100 ≤ info.century) :
    Gen.P.parseStep cls info l i l.length res ymd skipped fuzzy =
      (PM.parseStep cls info fuzzy l.length i { l := l, res := res, ymd := ymd, skipped := skipped }).map
        (fun r => (r.2.l, i + r.1 + 1, r.2.res, r.2.ymd, r.2.skipped)) := by
  unfold Gen.P.parseStep PM.parseStep
  -- the guarded look-ups first: their lemmas (`paren_cond`, `pertainAhead_eq`, `guard_tokIs`) are stated on the text of the
  -- translation, which the rewrites below change; if this makes no progress, restate them from Generated/ParserOps.lean
  simp only [paren_cond, pertainAhead_eq, guard_tokIs l (i + 3) (i + 3) _ (Nat.le_refl _), guard_tokIs l (i + 2) (i + 2) _ (Nat.le_refl _)]
  simp only [toksAt_eq, bind_eq]
  cases h0 : l[i]? with
  | none => rw [tokAt_none h0]; rfl
  | some li =>
  simp only [tokAt_some h0, bind_ok, info_weekday_eq, info_month_eq, info_ampm_eq, info_jump_eq, couldBeTzname_eq, map_eq']
  cases hfl : PM.floatOk cls li with
  | true =>
    simp only [if_true, ne_eq, reduceCtorEq, not_false_eq_true, parseNumericToken_eq, map_eq', bind_assoc, bind_ok, pure_eq]
  | false =>
  simp only [Bool.false_eq_true, if_false, ne_eq, not_true_eq_false]
  cases hw : info.weekdayOf li with
  | some wd => simp only [reduceCtorEq, not_false_eq_true, if_true, bind_ok, pure_eq, Nat.add_zero]
  | none =>
  simp only [not_true_eq_false, if_false]
  cases hm : info.monthOf li with
  | some mv =>
    simp only [reduceCtorEq, not_false_eq_true, if_true, bind_ok, pure_eq, PPy.optNat, PM.stepMonth, appendNat_eq, bind_assoc, bind_eq]
    refine bind_congr rfl fun y => ?_
    cases h1 : l[i + 1]? with
    | none => simp only [Nat.not_lt.mpr (ge_of_none h1), if_false, bind_ok, Nat.add_zero]
    | some l1 =>
      simp only [lt_of_some h1, if_true, tokAt_some h1, tokIs_some h1, bind_ok, Option.some.injEq, tk_dash, tk_slash,
        decide_eq_true_eq, Bool.and_eq_true, appendTok_eq]
      repeat rw [bind_assoc]
      refine bind_ite_congr _ _ _ _ _ _ _ (fun _ => ?_) (fun _ => ?_)
      · -- `Jan-01[-99]`
        simp only [bind_assoc]
        refine bind_congr rfl fun l2 => bind_congr rfl fun y2 => ?_
        refine bind_ite_congr _ _ _ _ _ _ _ (fun _ => ?_) (fun _ => ?_)
        · simp only [bind_assoc, bind_ok, Nat.add_assoc]
        · simp only [bind_ok]
      repeat rw [bind_assoc]
      refine bind_ite_congr _ _ _ _ _ _ _ (fun _ => ?_) (fun _ => ?_)
      · -- `Jan of 01`
        cases h4 : l[i + 4]? with
        | none => simp only [tokAt_none h4, bind_err]
        | some l4 =>
          simp only [tokAt_some h4, bind_ok, bind_assoc, bind_ite, convert_append cls info _ _ hc, intStrLen_eq]
          rfl
      · simp only [bind_ok, Nat.add_zero]
  | none =>
  simp only [not_true_eq_false, if_false]
  cases ha : info.ampmOf li with
  | some ap =>
    simp only [reduceCtorEq, not_false_eq_true, if_true, PM.stepAmpm, ampmValid_eq, map_eq', bind_assoc, bind_eq, bind_ok, pure_eq]
    cases hav : PM.ampmValid res.hour res.ampm fuzzy with
    | error e => rfl
    | ok o =>
      cases o with
      | none => cases fuzzy <;> rfl
      | some h =>
        simp only [ampmValid_some hav, bind_ok, Option.isSome_some, if_true, PPy.optNat, natOfInt_adjust, PM.adjustAmpm, Nat.add_zero]
  | none =>
  simp only [not_true_eq_false, if_false]
  repeat rw [bind_assoc]
  refine bind_ite_congr _ _ _ _ _ _ _ (fun _ => ?_) (fun _ => ?_)
  · -- a time zone name
    simp only [PPy.optTok, bind_ok, info_tzoffset_eq, info_utczone_eq, PM.stepTzname, pure_eq]
    cases h1 : l[i + 1]? with
    | none => simp only [Nat.not_lt.mpr (ge_of_none h1), if_false, bind_ok, Bool.false_eq_true, Nat.add_zero]
    | some l1 =>
      simp only [lt_of_some h1, if_true, tokAt_some h1, bind_ok, Option.some.injEq, tk_plus, tk_dash, decide_eq_true_eq, toksSet_lt l (i + 1) (lt_of_some h1)]
      by_cases hs : l1 = ['+'] ∨ l1 = ['-'] <;> cases hu : info.isUtczone li <;> simp [hs, bind_ok]
  simp only [ite_and_ok, bind_ok, Bool.and_eq_true, decide_eq_true_eq, Option.some.injEq, tk_plus, tk_dash, tk_colon,
    Option.isSome_iff_ne_none, ne_eq]
  repeat rw [bind_assoc]
  refine bind_ite_congr _ _ _ _ _ _ _ (fun _ => ?_) (fun _ => ?_)
  · -- a numbered time zone
    simp only [PM.stepTzoffset, tzParenName_eq, bind_eq, pure_eq]
    cases h1 : l[i + 1]? with
    | none => simp only [PM.tzOffsetDigits, tokAt_none h1, bind_eq, bind_err]
    | some l1 =>
    simp only [tokAt_some h1, bind_ok, bind_assoc]
    refine bind_congr_map (fun hma => (hma.1, hma.2.1, i + hma.2.2)) ?_ fun hma => ?_
    · simp only [PM.tzOffsetDigits, tokAt_some h1, bind_eq, pure_eq, throw_eq, bind_ok, bind_assoc, bind_ite, bind_err,
        Nat.add_zero]
    · cases hp : parenName info l (i + hma.2.2) res.hour res.tzname with
      | none =>
        simp only [not_true_eq_false, if_false, bind_ok, Nat.add_assoc, Int.natCast_add, Int.natCast_mul]
        rfl
      | some t4 =>
        simp only [reduceCtorEq, not_false_eq_true, if_true, tokAt_some (paren_tok _ _ _ _ _ _ hp), bind_ok]
        simp only [Nat.add_assoc, Int.natCast_add, Int.natCast_mul]
        rfl
  · simp only [bind_ite, bind_err, bind_ok, throw_eq, pure_eq, Nat.add_zero, Bool.not_eq_true', Bool.or_eq_false_iff, not_or, Bool.not_eq_true]
end PGen
