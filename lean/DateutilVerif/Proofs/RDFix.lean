/-
  Proofs/RDFix.lean — the generated `_fix` (`Gen.fix`) as a chain of `carry` steps (`fix_eq`), the arithmetic of one
  carry, and what the chain does as a whole: the result is in normal form and has the same duration and month count.
  If /repo's `_fix` changes (a threshold, a divisor, the order of the carries) `fix_eq` stops checking.
-/
import DateutilVerif.Model.RelativeDelta

namespace RDP
open RDM

/-- one carry step of `_fix`: `(what stays in the field, what is carried up)`;
    `t` is the threshold tested (`abs(x) > t`), `k` the unit -/
def carry (x t k : Int) : Int × Int :=
  if Py.iabs x > t then ((x * Py.sign x) % k * Py.sign x, (x * Py.sign x) / k * Py.sign x) else (x, 0)

def cU (d : RD) := carry d.microseconds 999999 1000000
def cS (d : RD) := carry (d.seconds + (cU d).2) 59 60
def cM (d : RD) := carry (d.minutes + (cS d).2) 59 60
def cH (d : RD) := carry (d.hours + (cM d).2) 23 24
def cMo (d : RD) := carry d.months 11 12

/-- one `if abs(x) > t:` block of `_fix`, whatever `s`, `div`, `mod` held before: the field keeps `(carry x t k).1`,
    the next field up receives `(carry x t k).2` -/
theorem fix_block (x y t k s dv md : Int) :
    (if Py.iabs x > t then
        (Py.sign x, x * Py.sign x / k, x * Py.sign x % k, x * Py.sign x % k * Py.sign x,
          y + x * Py.sign x / k * Py.sign x)
      else (s, dv, md, x, y)).2.2.2 = ((carry x t k).1, y + (carry x t k).2) := by
  unfold carry
  split
  · rfl
  · exact congrArg (Prod.mk x) (Int.add_zero y).symm

/-- the months block, which keeps no `s`, `div`, `mod` -/
theorem fix_block_months (x y t k : Int) :
    (if Py.iabs x > t then (x * Py.sign x % k * Py.sign x, y + x * Py.sign x / k * Py.sign x) else (x, y))
      = ((carry x t k).1, y + (carry x t k).2) := by
  unfold carry
  split
  · rfl
  · exact congrArg (Prod.mk x) (Int.add_zero y).symm

/-- `_fix` field by field: µs → s → min → h → days and months → years, then `_has_time` -/
theorem fix_eq (d : RD) :
    Gen.fix d = { d with microseconds := (cU d).1, seconds := (cS d).1, minutes := (cM d).1, hours := (cH d).1,
                         days := d.days + (cH d).2, months := (cMo d).1, years := d.years + (cMo d).2,
                         hasTime := if (cH d).1 ≠ 0 ∨ (cM d).1 ≠ 0 ∨ (cS d).1 ≠ 0 ∨ (cU d).1 ≠ 0 ∨ d.hour ≠ none ∨
                           d.minute ≠ none ∨ d.second ≠ none ∨ d.microsecond ≠ none then 1 else 0 } := by
  unfold Gen.fix cH cM cS cU cMo
  simp only [fix_block, fix_block_months]

theorem fix_us (d : RD) : (Gen.fix d).microseconds = (cU d).1 := by rw [fix_eq]
theorem fix_s (d : RD) : (Gen.fix d).seconds = (cS d).1 := by rw [fix_eq]
theorem fix_m (d : RD) : (Gen.fix d).minutes = (cM d).1 := by rw [fix_eq]
theorem fix_h (d : RD) : (Gen.fix d).hours = (cH d).1 := by rw [fix_eq]
theorem fix_d (d : RD) : (Gen.fix d).days = d.days + (cH d).2 := by rw [fix_eq]
theorem fix_mo (d : RD) : (Gen.fix d).months = (cMo d).1 := by rw [fix_eq]
theorem fix_y (d : RD) : (Gen.fix d).years = d.years + (cMo d).2 := by rw [fix_eq]
theorem fix_leapdays (d : RD) : (Gen.fix d).leapdays = d.leapdays := by rw [fix_eq]
theorem fix_year (d : RD) : (Gen.fix d).year = d.year := by rw [fix_eq]
theorem fix_month (d : RD) : (Gen.fix d).month = d.month := by rw [fix_eq]
theorem fix_day (d : RD) : (Gen.fix d).day = d.day := by rw [fix_eq]
theorem fix_weekday (d : RD) : (Gen.fix d).weekday = d.weekday := by rw [fix_eq]
theorem fix_hour (d : RD) : (Gen.fix d).hour = d.hour := by rw [fix_eq]
theorem fix_minute (d : RD) : (Gen.fix d).minute = d.minute := by rw [fix_eq]
theorem fix_second (d : RD) : (Gen.fix d).second = d.second := by rw [fix_eq]
theorem fix_microsecond (d : RD) : (Gen.fix d).microsecond = d.microsecond := by rw [fix_eq]

theorem fix_hasTime (d : RD) : (Gen.fix d).hasTime = hasTimeOf (Gen.fix d) := by
  rw [fix_eq]; rfl

/-- `_set_months`: the months carry, into a `years` that is overwritten -/
theorem setMonths_eq (r : RD) (k : Int) :
    Gen.setMonths r k = { r with months := (carry k 11 12).1, years := (carry k 11 12).2 } := by
  unfold Gen.setMonths carry
  simp only []

/-- the arithmetic of one carry with threshold `k - 1`: Euclidean division of `|x|` by `k`, the sign put back on
    both parts -/
theorem carry_facts (x t k : Int) (hk : 0 < k) (ht : t = k - 1) :
    (-t ≤ (carry x t k).1 ∧ (carry x t k).1 ≤ t) ∧
    (carry x t k).1 + k * (carry x t k).2 = x ∧
    (0 ≤ x → 0 ≤ (carry x t k).1 ∧ 0 ≤ (carry x t k).2) ∧
    (x ≤ 0 → (carry x t k).1 ≤ 0 ∧ (carry x t k).2 ≤ 0) := by
  subst ht
  unfold carry
  split
  · rename_i hbig
    have ha : x * Py.sign x = Py.iabs x := by unfold Py.sign Py.iabs; split <;> omega
    rw [ha]
    have h1 := Int.emod_nonneg (Py.iabs x) (Int.ne_of_gt hk)
    have h2 := Int.emod_lt_of_pos (Py.iabs x) hk
    have h3 := Int.emod_add_mul_ediv (Py.iabs x) k
    have h4 : 0 ≤ Py.iabs x / k := Int.ediv_nonneg (by omega) (Int.le_of_lt hk)
    generalize Py.iabs x % k = r at *
    generalize Py.iabs x / k = q at *
    unfold Py.iabs at h3 hbig
    unfold Py.sign
    by_cases hx : x < 0 <;>
      simp only [hx, ↓reduceIte, Int.mul_neg, Int.mul_one] at h3 hbig ⊢ <;> omega
  · rename_i hsmall
    unfold Py.iabs at hsmall
    simp only []
    split at hsmall <;> omega

theorem carry_small (x t k : Int) (h : -t ≤ x ∧ x ≤ t) : carry x t k = (x, 0) := by
  unfold carry Py.iabs
  rw [if_neg]
  split <;> omega

/-- a carry commutes with negation, whatever the threshold and the unit: `|−x| = |x|` and the sign flips
    (`x = 0` apart, where nothing is carried) -/
theorem carry_neg_any (x t k : Int) : carry (-x) t k = (-(carry x t k).1, -(carry x t k).2) := by
  by_cases h0 : x = 0
  · subst h0
    show carry 0 t k = (-(carry 0 t k).1, -(carry 0 t k).2)
    unfold carry
    split <;> simp [Py.sign]
  · have hs : Py.sign (-x) = -Py.sign x := by unfold Py.sign; split <;> split <;> omega
    have ha : Py.iabs (-x) = Py.iabs x := by unfold Py.iabs; split <;> split <;> omega
    unfold carry
    rw [ha, hs, Int.neg_mul_neg]
    split
    · simp only [Int.mul_neg]
    · rfl

/-- `carry_neg_any` at the four units of `_fix` -/
theorem carry_neg (x t k : Int) (hk : k = 1000000 ∨ k = 60 ∨ k = 24 ∨ k = 12) :
    carry (-x) t k = (-(carry x t k).1, -(carry x t k).2) := carry_neg_any x t k

/-- after `_fix`, whatever the input: |µs| ≤ 999999, |s| ≤ 59, |min| ≤ 59, |h| ≤ 23, |months| ≤ 11 and `_has_time`
    says exactly whether a time field is set -/
theorem fix_normalised (d : RD) : Normalised (Gen.fix d) := by
  unfold Normalised
  rw [fix_us, fix_s, fix_m, fix_h, fix_mo]
  exact ⟨(carry_facts _ 999999 1000000 (by decide) rfl).1, (carry_facts _ 59 60 (by decide) rfl).1,
         (carry_facts _ 59 60 (by decide) rfl).1, (carry_facts _ 23 24 (by decide) rfl).1,
         (carry_facts _ 11 12 (by decide) rfl).1, fix_hasTime d⟩

/-- the carries preserve the duration in µs -/
theorem fix_usTotal (d : RD) : usTotal (Gen.fix d) = usTotal d := by
  unfold usTotal
  rw [fix_us, fix_s, fix_m, fix_h, fix_d]
  have h1 := (carry_facts d.microseconds 999999 1000000 (by decide) rfl).2.1
  have h2 := (carry_facts (d.seconds + (cU d).2) 59 60 (by decide) rfl).2.1
  have h3 := (carry_facts (d.minutes + (cS d).2) 59 60 (by decide) rfl).2.1
  have h4 := (carry_facts (d.hours + (cM d).2) 23 24 (by decide) rfl).2.1
  unfold cH cM cS at *
  generalize (carry (d.hours + _) 23 24) = a at *
  generalize (carry (d.minutes + _) 59 60) = b at *
  generalize (carry (d.seconds + _) 59 60) = c at *
  unfold cU at *
  generalize (carry d.microseconds 999999 1000000) = e at *
  omega

/-- … and the month count -/
theorem fix_monthTotal (d : RD) : monthTotal (Gen.fix d) = monthTotal d := by
  unfold monthTotal
  rw [fix_y, fix_mo]
  have h := (carry_facts d.months 11 12 (by decide) rfl).2.1
  unfold cMo; omega

end RDP
