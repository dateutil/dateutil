/-
  Proofs/RRuleOrig.lean — `replace()` without overrides rebuilds the same rule:
  `construct (origArgs a r) = .ok r` whenever `construct a = .ok r` (idempotence of the constructor's
  normalisation on `_original_rule`).  The only exception in the code is `bysetpos=()`, which
  `_original_rule` drops (the rebuilt rule has `_bysetpos = None` where the original has `()`): excluded by hypothesis.
-/
import DateutilVerif.Proofs.RRuleTimes

namespace RRule

theorem dedup_append {α} [BEq α] [LawfulBEq α] : ∀ (l acc : List α), (acc.reverse ++ l).Nodup →
    dedup acc l = acc.reverse ++ l := by
  intro l
  induction l with
  | nil => intro acc _; simp [dedup]
  | cons x xs ih =>
    intro acc h
    unfold dedup
    have hx : x ∉ acc := by
      intro hm
      rw [List.nodup_append] at h
      exact h.2.2 x (List.mem_reverse.mpr hm) x (List.mem_cons_self ..) rfl
    rw [if_neg (by intro hc; exact hx (List.contains_iff_mem.mp hc))]
    have : (x :: acc).reverse ++ xs = acc.reverse ++ x :: xs := by simp
    rw [ih (x :: acc) (by rw [this]; exact h), this]

theorem dedup_of_nodup {α} [BEq α] [LawfulBEq α] (l : List α) (h : l.Nodup) : dedup [] l = l := by
  have := dedup_append l [] (by simpa using h)
  simpa using this

theorem sortBy_of_sorted {α} {lt : α → α → Bool} {P : α → Prop} (so : StrictOn lt P) (l : List α)
    (hP : ∀ x ∈ l, P x) (hs : l.Pairwise (fun a b => lt a b = true)) : sortBy lt l = l :=
  sorted_ext so _ _ (sortBy_pairwise so l hP (pairwise_nodup so.irrefl l hs)) hs (fun x => mem_sortBy lt x l)

theorem sortBy_idem {α} {lt : α → α → Bool} {P : α → Prop} (so : StrictOn lt P) (l : List α)
    (hP : ∀ x ∈ l, P x) (hnd : l.Nodup) : sortBy lt (sortBy lt l) = sortBy lt l :=
  sortBy_of_sorted so _ (fun x hx => hP x ((mem_sortBy lt x l).mp hx)) (sortBy_pairwise so l hP hnd)

theorem sortedSet_idem (l : List Int) : sortedSet (sortedSet l) = sortedSet l := by
  have hnd := sortedSet_nodup l
  show sortBy ltInt (dedup [] (sortedSet l)) = sortedSet l
  rw [dedup_of_nodup _ hnd]
  exact sortBy_of_sorted strictInt _ (fun _ _ => trivial) (sortedSet_pairwise l)

theorem strictPair : StrictOn ltPair (fun _ => True) := by
  refine ⟨?_, ?_, ?_⟩
  · rintro ⟨a1, a2⟩ ⟨b1, b2⟩ ⟨c1, c2⟩
    simp only [ltPair, Bool.or_eq_true, decide_eq_true_eq, Bool.and_eq_true, beq_iff_eq]
    omega
  · rintro ⟨a1, a2⟩; simp [ltPair]
  · rintro ⟨a1, a2⟩ ⟨b1, b2⟩ _ _ hne
    simp only [ltPair, Bool.or_eq_true, decide_eq_true_eq, Bool.and_eq_true, beq_iff_eq,
      Bool.or_eq_false_iff, Bool.and_eq_false_iff, decide_eq_false_iff_not, beq_eq_false_iff_ne]
    intro h
    have : ¬ (a1 = b1 ∧ a2 = b2) := by intro ⟨e1, e2⟩; exact hne (by rw [e1, e2])
    omega

/-- insertion sort keeps duplicates; on an already (weakly) sorted list it is the identity -/
theorem sortBy_of_weak_sorted : ∀ (l : List Int), l.Pairwise (· ≤ ·) → sortBy ltInt l = l := by
  intro l
  induction l with
  | nil => intro _; rfl
  | cons x xs ih =>
    intro h
    rw [List.pairwise_cons] at h
    show insertBy ltInt x (sortBy ltInt xs) = x :: xs
    rw [ih h.2]
    cases xs with
    | nil => rfl
    | cons y ys =>
      unfold insertBy
      have := h.1 y (List.mem_cons_self ..)
      rw [if_neg (by simp [ltInt]; omega)]

theorem insertBy_weak (x : Int) : ∀ (l : List Int), l.Pairwise (· ≤ ·) → (insertBy ltInt x l).Pairwise (· ≤ ·) := by
  intro l
  induction l with
  | nil => intro _; simp [insertBy]
  | cons y ys ih =>
    intro h
    rw [List.pairwise_cons] at h
    unfold insertBy
    split
    · rename_i hlt
      rw [List.pairwise_cons]
      refine ⟨?_, ih h.2⟩
      intro z hz
      rcases (mem_insertBy ltInt x z ys).mp hz with rfl | hz
      · simp [ltInt] at hlt; omega
      · exact h.1 z hz
    · rename_i hlt
      have hxy : x ≤ y := by simp [ltInt] at hlt; omega
      rw [List.pairwise_cons]
      refine ⟨?_, List.pairwise_cons.mpr h⟩
      intro z hz
      rcases List.mem_cons.mp hz with rfl | hz
      · exact hxy
      · have := h.1 z hz; omega

theorem sortBy_weak (l : List Int) : (sortBy ltInt l).Pairwise (· ≤ ·) := by
  induction l with
  | nil => simp [sortBy]
  | cons x xs ih => exact insertBy_weak x _ ih

theorem sortBy_int_idem (l : List Int) : sortBy ltInt (sortBy ltInt l) = sortBy ltInt l :=
  sortBy_of_weak_sorted _ (sortBy_weak l)

theorem normUnit_idem (freq lvl interval start : Int) (arg : Option (List Int)) (base : Int)
    (res : Option (List Int)) (h : normUnit freq lvl interval start arg base = .ok res) :
    normUnit freq lvl interval start (arg.bind (fun _ => res)) base = .ok res := by
  cases arg with
  | none => exact h
  | some l =>
    simp only [Option.bind_some]
    unfold normUnit at h
    dsimp only at h
    by_cases hf : (freq == lvl) = true
    · rw [if_pos hf] at h
      split at h
      · rename_i c hc
        injection h with h; subst h
        unfold constructByset at hc
        dsimp only at hc
        split at hc
        · cases hc
        · rename_i hne
          injection hc with hc; subst hc
          -- every member of the filtered set is reachable, so filtering again changes nothing
          generalize hg : ((Int.gcd interval base : Nat) : Int) = g at hne ⊢
          have hreach : ∀ x ∈ sortBy ltInt (dedup [] (l.filter (fun num => g == 1 || Py.fmod (num - start) g == 0))),
              (g == 1 || Py.fmod (x - start) g == 0) = true := by
            intro x hx
            rw [mem_sortBy, mem_dedup] at hx
            exact (List.mem_filter.mp hx).2
          have hnd : (sortBy ltInt (dedup [] (l.filter (fun num => g == 1 || Py.fmod (num - start) g == 0)))).Nodup :=
            sortBy_nodup_int _ (dedup_nodup _ [] List.nodup_nil)
          unfold normUnit
          dsimp only
          rw [if_pos hf]
          unfold constructByset
          dsimp only
          rw [hg, List.filter_eq_self.mpr hreach, dedup_of_nodup _ hnd]
          have hne2 : (sortBy ltInt (dedup [] (l.filter (fun num => g == 1 || Py.fmod (num - start) g == 0)))).isEmpty = false := by
            rw [isEmpty_of_mem_iff _ (dedup [] (l.filter (fun num => g == 1 || Py.fmod (num - start) g == 0)))
              (fun x => mem_sortBy ltInt x _)]
            simpa using hne
          rw [hne2]
          simp only [Bool.false_eq_true, ↓reduceIte]
          rw [sortBy_idem strictInt _ (fun _ _ => trivial) (dedup_nodup _ [] List.nodup_nil)]
      · cases h
    · rw [if_neg hf] at h
      injection h with h; subst h
      unfold normUnit
      dsimp only
      rw [if_neg hf, sortedSet_idem]

theorem posneg_idem (l : List Int) :
    sortBy ltInt ((dedup [] (sortBy ltInt ((dedup [] l).filter (· > 0)) ++
        sortBy ltInt ((dedup [] l).filter (· < 0)))).filter (· > 0)) = sortBy ltInt ((dedup [] l).filter (· > 0)) ∧
    sortBy ltInt ((dedup [] (sortBy ltInt ((dedup [] l).filter (· > 0)) ++
        sortBy ltInt ((dedup [] l).filter (· < 0)))).filter (· < 0)) = sortBy ltInt ((dedup [] l).filter (· < 0)) := by
  have hndf : ∀ (p : Int → Bool), ((dedup [] l).filter p).Nodup :=
    fun p => (dedup_nodup l [] List.nodup_nil).sublist List.filter_sublist
  have hnd2 : ∀ (l2 : List Int) (p : Int → Bool), ((dedup [] l2).filter p).Nodup :=
    fun l2 p => (dedup_nodup l2 [] List.nodup_nil).sublist List.filter_sublist
  constructor
  · apply sorted_ext strictInt
    · exact sortBy_pairwise strictInt _ (fun _ _ => trivial) (hnd2 _ _)
    · exact sortBy_pairwise strictInt _ (fun _ _ => trivial) (hndf _)
    · intro x
      simp only [mem_sortBy, List.mem_filter, mem_dedup, List.mem_append, decide_eq_true_eq]
      constructor
      · rintro ⟨(⟨h1, h2⟩ | ⟨h1, h2⟩), h3⟩
        · exact ⟨h1, h2⟩
        · omega
      · rintro ⟨h1, h2⟩; exact ⟨Or.inl ⟨h1, h2⟩, h2⟩
  · apply sorted_ext strictInt
    · exact sortBy_pairwise strictInt _ (fun _ _ => trivial) (hnd2 _ _)
    · exact sortBy_pairwise strictInt _ (fun _ _ => trivial) (hndf _)
    · intro x
      simp only [mem_sortBy, List.mem_filter, mem_dedup, List.mem_append, decide_eq_true_eq]
      constructor
      · rintro ⟨(⟨h1, h2⟩ | ⟨h1, h2⟩), h3⟩
        · omega
        · exact ⟨h1, h2⟩
      · rintro ⟨h1, h2⟩; exact ⟨Or.inr ⟨h1, h2⟩, h2⟩

/-- the BYDAY list that `_original_rule` stores (plain weekdays, then nth ones) splits again into the
    same plain and nth lists -/
theorem weekdays_idem (a a' : Args) (hf : a'.freq = a.freq) (l : List (Int × Int)) :
    plainWeekdays a' ((sortBy ltInt (plainWeekdays a l)).map (fun w => (w, 0)) ++ sortBy ltPair (nthWeekdays a l)) =
      sortBy ltInt (plainWeekdays a l) ∧
    nthWeekdays a' ((sortBy ltInt (plainWeekdays a l)).map (fun w => (w, 0)) ++ sortBy ltPair (nthWeekdays a l)) =
      sortBy ltPair (nthWeekdays a l) := by
  have hP : (sortBy ltInt (plainWeekdays a l)).Nodup := sortBy_nodup_int _ (dedup_nodup _ [] List.nodup_nil)
  have hN : (sortBy ltPair (nthWeekdays a l)).Nodup :=
    pairwise_nodup strictPair.irrefl _ (sortBy_pairwise strictPair _ (fun _ _ => trivial) (dedup_nodup _ [] List.nodup_nil))
  have hNmem : ∀ w ∈ sortBy ltPair (nthWeekdays a l), (w.2 == 0 || decide (a.freq > 1)) = false := by
    intro w hw
    rw [mem_sortBy] at hw
    unfold nthWeekdays at hw
    rw [mem_dedup] at hw
    have := (List.mem_filter.mp hw).2
    simpa using this
  have f1 : ((sortBy ltInt (plainWeekdays a l)).map (fun w => ((w, 0) : Int × Int))).filter
      (fun w => w.2 == 0 || decide (a'.freq > 1)) = (sortBy ltInt (plainWeekdays a l)).map (fun w => (w, 0)) := by
    apply List.filter_eq_self.mpr; intro w hw
    simp only [List.mem_map] at hw; obtain ⟨x, _, rfl⟩ := hw; simp
  have f2 : (sortBy ltPair (nthWeekdays a l)).filter (fun w => w.2 == 0 || decide (a'.freq > 1)) = [] := by
    apply List.filter_eq_nil_iff.mpr; intro w hw
    rw [hf]; have := hNmem w hw; simp [this]
  have f3 : ((sortBy ltInt (plainWeekdays a l)).map (fun w => ((w, 0) : Int × Int))).filter
      (fun w => !(w.2 == 0 || decide (a'.freq > 1))) = [] := by
    apply List.filter_eq_nil_iff.mpr; intro w hw
    simp only [List.mem_map] at hw; obtain ⟨x, _, rfl⟩ := hw; simp
  have f4 : (sortBy ltPair (nthWeekdays a l)).filter (fun w => !(w.2 == 0 || decide (a'.freq > 1))) =
      sortBy ltPair (nthWeekdays a l) := by
    apply List.filter_eq_self.mpr; intro w hw
    rw [hf]; have := hNmem w hw; simp [this]
  constructor
  · show dedup [] ((List.filter (fun w : Int × Int => w.2 == 0 || decide (a'.freq > 1)) _).map (fun w : Int × Int => w.1)) = _
    rw [List.filter_append, f1, f2, List.append_nil, List.map_map]
    have hid : ∀ L : List Int, L.map ((fun x : Int × Int => x.1) ∘ fun w : Int => ((w, 0) : Int × Int)) = L := by
      intro L; induction L with
      | nil => rfl
      | cons x xs ih => rw [List.map_cons, ih]; rfl
    rw [hid]
    exact dedup_of_nodup _ hP
  · show dedup [] (List.filter (fun w : Int × Int => !(w.2 == 0 || decide (a'.freq > 1))) _) = _
    rw [List.filter_append, f3, f4, List.nil_append]
    exact dedup_of_nodup _ hN

theorem isEmpty_sortBy {α} (lt : α → α → Bool) (l : List α) : (sortBy lt l).isEmpty = l.isEmpty :=
  isEmpty_of_mem_iff _ _ (fun x => mem_sortBy lt x l)

/-- **`replace()` without overrides rebuilds the same rule**: the constructor applied to
    `_original_rule ∪ {interval, count, dtstart, freq, until, wkst}` returns the rule it came from
    (every frequency, every BY combination; `bysetpos=()` excluded — there `_original_rule` drops the
    key and the rebuilt rule has `None` where the original has `()`). -/
theorem construct_origArgs (a : Args) (r : Rule) (h : construct a = .ok r) (hsp : a.bysetpos ≠ some []) :
    construct (origArgs a r) = .ok r := by
  obtain ⟨sp, bh, bm, bs, ts, h1, h2, h3, h4, h5, hr⟩ := construct_ok a r h
  have hspe := (normBysetpos_ok a sp h1).1
  subst hspe
  have hfreq : r.freq = a.freq := by rw [hr]
  have hint : r.interval = a.interval := by rw [hr]
  have hds : r.dtstart = { a.dtstart with us := 0 } := by rw [hr]
  have hbsp : r.bysetpos = a.bysetpos := by rw [hr]
  have hbmth : r.bymonth = bymonthOf a := by rw [hr]
  have hbmd : r.bymonthday = bymonthdayOf a := by rw [hr]
  have hbnmd : r.bynmonthday = bynmonthdayOf a := by rw [hr]
  have hbyd : r.byyearday = a.byyearday.map sortedSet := by rw [hr]
  have hbe : r.byeaster = a.byeaster.map (sortBy ltInt) := by rw [hr]
  have hbwn : r.byweekno = a.byweekno.map sortedSet := by rw [hr]
  have hbwd : r.byweekday = byweekdayOf a := by rw [hr]
  have hbnwd : r.bynweekday = bynweekdayOf a := by rw [hr]
  have hbh : r.byhour = bh := by rw [hr]
  have hbmi : r.byminute = bm := by rw [hr]
  have hbs : r.bysecond = bs := by rw [hr]
  have e1 : normBysetpos (origArgs a r) = .ok a.bysetpos := by
    unfold origArgs normBysetpos
    dsimp only
    rw [hbsp]
    cases hb : a.bysetpos with
    | none => rfl
    | some l =>
      cases l with
      | nil => exact absurd hb hsp
      | cons p ps =>
        unfold normBysetpos at h1
        rw [hb] at h1
        dsimp only at h1
        simp only [truthy, ↓reduceIte]
        split at h1
        · rename_i hv; rw [if_pos hv]
        · cases h1
  have hnd : noDayParts (origArgs a r) = noDayParts a := by
    unfold origArgs noDayParts
    dsimp only
    rw [hbwn, hbyd, hbe]
    cases a.byweekno <;> cases a.byyearday <;> cases a.bymonthday <;> cases a.byweekday <;> cases a.byeaster <;>
      simp
  have e2 : normUnit (origArgs a r).freq 4 (origArgs a r).interval (origArgs a r).dtstart.hh (origArgs a r).byhour 24 = .ok bh := by
    show normUnit r.freq 4 r.interval r.dtstart.hh (a.byhour.bind (fun _ => r.byhour)) 24 = _
    rw [hfreq, hint, hds, hbh]; exact normUnit_idem _ _ _ _ _ _ _ h2
  have e3 : normUnit (origArgs a r).freq 5 (origArgs a r).interval (origArgs a r).dtstart.mm (origArgs a r).byminute 60 = .ok bm := by
    show normUnit r.freq 5 r.interval r.dtstart.mm (a.byminute.bind (fun _ => r.byminute)) 60 = _
    rw [hfreq, hint, hds, hbmi]; exact normUnit_idem _ _ _ _ _ _ _ h3
  have e4 : normUnit (origArgs a r).freq 6 (origArgs a r).interval (origArgs a r).dtstart.ss (origArgs a r).bysecond 60 = .ok bs := by
    show normUnit r.freq 6 r.interval r.dtstart.ss (a.bysecond.bind (fun _ => r.bysecond)) 60 = _
    rw [hfreq, hint, hds, hbs]; exact normUnit_idem _ _ _ _ _ _ _ h4
  have e5 : timesetOf (origArgs a r) bh bm bs = .ok ts := by
    unfold timesetOf at h5 ⊢
    show (if r.freq ≥ 4 then _ else _) = _
    rw [hfreq]; exact h5
  have g_month : bymonthOf (origArgs a r) = bymonthOf a := by
    unfold bymonthOf
    rw [hnd]
    show (if (noDayParts a && r.freq == 0 && (if noDayParts a && a.freq == 0 && a.bymonth.isNone then none else r.bymonth).isNone) = true
          then some [r.dtstart.m] else (if noDayParts a && a.freq == 0 && a.bymonth.isNone then none else r.bymonth)).map sortedSet = _
    rw [hfreq, hds, hbmth]
    by_cases c : (noDayParts a && a.freq == 0 && a.bymonth.isNone) = true
    · simp only [c, ↓reduceIte, Option.isNone_none, Bool.and_true]
      have : (noDayParts a && a.freq == 0) = true := by
        simp only [Bool.and_eq_true] at c ⊢; exact c.1
      simp only [this, ↓reduceIte]
    · have c' : (noDayParts a && a.freq == 0 && a.bymonth.isNone) = false := Bool.eq_false_iff.2 c
      have hb : bymonthOf a = a.bymonth.map sortedSet := by unfold bymonthOf; rw [c']; rfl
      simp only [c', Bool.false_eq_true, ↓reduceIte, hb]
      cases hbm : a.bymonth with
      | none =>
        simp only [Option.map_none, Option.isNone_none, Bool.and_true]
        rw [hbm] at c'
        simp only [Option.isNone_none, Bool.and_true] at c'
        rw [c']; rfl
      | some l => simp only [Option.map_some, Option.isNone_some, Bool.and_false, Bool.false_eq_true, ↓reduceIte, sortedSet_idem]
  have g_mdarg : monthdayArg (origArgs a r) =
      (if noDayParts a && (a.freq == 0 || a.freq == 1) then some [a.dtstart.d]
       else a.bymonthday.map (fun _ => bymonthdayOf a ++ bynmonthdayOf a)) := by
    unfold monthdayArg
    rw [hnd]
    show (if (noDayParts a && (r.freq == 0 || r.freq == 1)) = true then some [r.dtstart.d]
          else (if noDayParts a && (a.freq == 0 || a.freq == 1) then none
                else a.bymonthday.map (fun _ => r.bymonthday ++ r.bynmonthday))) = _
    rw [hfreq, hds, hbmd, hbnmd]
    split <;> rfl
  have g_md : bymonthdayOf (origArgs a r) = bymonthdayOf a ∧ bynmonthdayOf (origArgs a r) = bynmonthdayOf a := by
    unfold bymonthdayOf bynmonthdayOf
    rw [g_mdarg]
    by_cases c : (noDayParts a && (a.freq == 0 || a.freq == 1)) = true
    · have hm : monthdayArg a = some [a.dtstart.d] := by unfold monthdayArg; rw [if_pos c]
      rw [if_pos c, hm]; exact ⟨rfl, rfl⟩
    · have hm : monthdayArg a = a.bymonthday := by unfold monthdayArg; rw [if_neg c]
      rw [if_neg c, hm]
      cases hbm : a.bymonthday with
      | none => exact ⟨rfl, rfl⟩
      | some l =>
        have hA : bymonthdayOf a = sortBy ltInt ((dedup [] l).filter (fun x => x > 0)) := by
          unfold bymonthdayOf; rw [hm, hbm]
        have hB : bynmonthdayOf a = sortBy ltInt ((dedup [] l).filter (fun x => x < 0)) := by
          unfold bynmonthdayOf; rw [hm, hbm]
        simp only [Option.map_some, hA, hB]
        exact posneg_idem l
  have g_wdarg : weekdayArg (origArgs a r) =
      (if noDayParts a && a.freq == 2 then some [(a.dtstart.weekday, 0)]
       else a.byweekday.map (fun _ => ((byweekdayOf a).getD []).map (fun w => (w, 0)) ++ (bynweekdayOf a).getD [])) := by
    unfold weekdayArg
    rw [hnd]
    show (if (noDayParts a && r.freq == 2) = true then some [(r.dtstart.weekday, 0)]
          else (if noDayParts a && a.freq == 2 then none
                else a.byweekday.map (fun _ => (r.byweekday.getD []).map (fun w => (w, 0)) ++ r.bynweekday.getD []))) = _
    rw [hfreq, hds, hbwd, hbnwd]
    split <;> rfl
  have g_wd : byweekdayOf (origArgs a r) = byweekdayOf a ∧ bynweekdayOf (origArgs a r) = bynweekdayOf a := by
    unfold byweekdayOf bynweekdayOf
    rw [g_wdarg]
    by_cases c : (noDayParts a && a.freq == 2) = true
    · have hm : weekdayArg a = some [(a.dtstart.weekday, 0)] := by unfold weekdayArg; rw [if_pos c]
      have e : ∀ a1 a2 : Args, a1.freq = a2.freq → ∀ l, plainWeekdays a1 l = plainWeekdays a2 l ∧ nthWeekdays a1 l = nthWeekdays a2 l := by
        intro a1 a2 hf l; unfold plainWeekdays nthWeekdays; rw [hf]; exact ⟨rfl, rfl⟩
      have hfo : (origArgs a r).freq = a.freq := hfreq
      rw [if_pos c, hm]
      dsimp only
      rw [(e _ _ hfo _).1, (e _ _ hfo _).2]
      exact ⟨rfl, rfl⟩
    · have hm : weekdayArg a = a.byweekday := by unfold weekdayArg; rw [if_neg c]
      rw [if_neg c, hm]
      cases hbw : a.byweekday with
      | none => exact ⟨rfl, rfl⟩
      | some l =>
        have hA : byweekdayOf a = (if (plainWeekdays a l).isEmpty then none else some (sortBy ltInt (plainWeekdays a l))) := by
          unfold byweekdayOf; rw [hm, hbw]
        have hB : bynweekdayOf a = (if (plainWeekdays a l).isEmpty then some (sortBy ltPair (nthWeekdays a l))
            else if (nthWeekdays a l).isEmpty then none else some (sortBy ltPair (nthWeekdays a l))) := by
          unfold bynweekdayOf; rw [hm, hbw]
        simp only [Option.map_some]
        rw [hA, hB]
        -- the stored list is (sorted plain) ++ (sorted nth)
        have hX : ((if (plainWeekdays a l).isEmpty then none else some (sortBy ltInt (plainWeekdays a l)) : Option (List Int)).getD []) =
            sortBy ltInt (plainWeekdays a l) := by
          split
          · rename_i he
            have : plainWeekdays a l = [] := by cases hq : plainWeekdays a l with | nil => rfl | cons _ _ => rw [hq] at he; simp at he
            rw [this]; rfl
          · rfl
        have hY : ((if (plainWeekdays a l).isEmpty then some (sortBy ltPair (nthWeekdays a l))
            else if (nthWeekdays a l).isEmpty then none else some (sortBy ltPair (nthWeekdays a l)) : Option (List (Int × Int))).getD []) =
            sortBy ltPair (nthWeekdays a l) := by
          split
          · rfl
          · split
            · rename_i he
              have : nthWeekdays a l = [] := by cases hq : nthWeekdays a l with | nil => rfl | cons _ _ => rw [hq] at he; simp at he
              rw [this]; rfl
            · rfl
        rw [hX, hY]
        obtain ⟨w1, w2⟩ := weekdays_idem a (origArgs a r) hfreq l
        rw [w1, w2, isEmpty_sortBy, isEmpty_sortBy,
          sortBy_idem strictInt (plainWeekdays a l) (fun _ _ => trivial) (dedup_nodup _ [] List.nodup_nil),
          sortBy_idem strictPair (nthWeekdays a l) (fun _ _ => trivial) (dedup_nodup _ [] List.nodup_nil)]
        exact ⟨rfl, rfl⟩
  have g_yd : (origArgs a r).byyearday.map sortedSet = a.byyearday.map sortedSet := by
    show r.byyearday.map sortedSet = _
    rw [hbyd]; cases a.byyearday <;> simp [sortedSet_idem]
  have g_wn : (origArgs a r).byweekno.map sortedSet = a.byweekno.map sortedSet := by
    show r.byweekno.map sortedSet = _
    rw [hbwn]; cases a.byweekno <;> simp [sortedSet_idem]
  have g_e : (origArgs a r).byeaster.map (sortBy ltInt) = a.byeaster.map (sortBy ltInt) := by
    show r.byeaster.map (sortBy ltInt) = _
    rw [hbe]; cases a.byeaster <;> simp [sortBy_int_idem]
  have hpos := construct_interval_pos a r h
  unfold construct
  rw [if_neg (by show ¬ r.interval < 1; rw [hint]; omega)]
  unfold constructBody
  rw [e1, e2, e3, e4]
  simp only [bind, Except.bind]
  rw [e5]
  simp only [pure, Except.pure]
  rw [g_month, g_md.1, g_md.2, g_wd.1, g_wd.2, g_yd, g_wn, g_e]
  congr 1
  rw [hr]
  rfl

end RRule
