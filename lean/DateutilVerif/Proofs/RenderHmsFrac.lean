/-
  Proofs/RenderHmsFrac.lean — the unit notation with a fraction on the seconds, `YYYY-MM-DD HHhMMmSS(.|,)f…s<offset>`,
  for 1, 2, 4 and 6 fraction digits: ONE lexer token `SS.f…` (a comma after the two second digits is a decimal mark; the
  lexer writes it as a dot) which `_parse_numeric_token` hands — its length being none of 6, 8, 12, 14 — to `_find_hms_idx`,
  the `s` behind it to `_assign_hms`, and that to `_parsems`.  (3 and 5 digits: the token is 6 / 8 characters long and is
  taken for HHMMSS / YYYYMMDD — known finding D-C02-hms-fraction-token-length.)
-/
import DateutilVerif.Proofs.RenderCompactFrac

namespace PM
open Py PT

variable (cls : Char → CClass) [hc : AsciiOK cls]

/-- what the scan needs to know about the token `SS.f…` -/
structure SFTok (F : Token) (s us : Nat) : Prop where
  dec : ∃ d, toDecimal cls F = .ok d
  flt : floatOk cls F = true
  len : F.length = 4 ∨ F.length = 5 ∨ F.length = 7 ∨ F.length = 9
  dot : F.idxOf '.' = 2
  ss : parsems cls F = .ok (s, us)

/-- the token of `SS(.|,)f{k}` and what the scan reads from it, for 1, 2, 4 and 6 fraction digits -/
theorem sfrac_token (s us k : Nat) (hs : s < 100) (hus : us < 1000000)
    (hk : k = 1 ∨ k = 2 ∨ k = 4 ∨ k = 6) (comma : Bool) (rest : List Char) (he : FracEnds cls rest) :
    ∃ F : Token, scan cls .init (pad2 s ++ [if comma then ',' else '.'] ++ (pad6 us).take k ++ rest) =
        F :: scan cls .init rest ∧
      SFTok cls F s (us / 10 ^ (6 - k) * 10 ^ (6 - k)) := by
  have hcomma : (cls ',').isNum = false := by rw [AsciiOK.agree (cls := cls) ',' (by decide)]; decide
  have hdot : (cls '.').isNum = false := by rw [AsciiOK.agree (cls := cls) '.' (by decide)]; decide
  have hsepc : ((if comma then ',' else '.') = '.' ∨
      ((if comma then ',' else '.') = ',' ∧ (digitChar (s / 10) :: [digitChar s]).length ≥ 2)) ∧
      (cls (if comma then ',' else '.')).isNum = false := by
    cases comma <;> simp [hcomma, hdot]
  obtain ⟨b, bs, hbs, htake, hval⟩ := pad6_take us k hus (by omega) (by omega)
  have hbk : bs.length + 1 = k := by
    have := congrArg List.length htake
    simp only [List.length_take, pad6, List.length_cons, List.length_nil, length_dtok] at this
    omega
  refine ⟨dtok [s / 10, s] ++ '.' :: dtok (b :: bs), ?_, ?_⟩
  · rw [htake]
    have := lex_frac cls (digitChar (s / 10)) [digitChar s]
      (if comma then ',' else '.') (digitChar b) (bs.map digitChar) rest hsepc.1 hsepc.2 (drun_dtok cls [s / 10, s])
      (drun_dtok cls (b :: bs)) he
    simpa [pad2, dtok, List.append_assoc] using this
  · obtain ⟨dd, hnf⟩ := numForm_fracTok cls (s / 10) [s] (b :: bs)
    refine ⟨⟨dd, by simp [toDecimal, hnf]⟩, by simp [floatOk, hnf], ?_, by simpa using idxOf_dot_dtok_dot [s / 10, s] _, ?_⟩
    · have : (dtok [s / 10, s] ++ '.' :: dtok (b :: bs)).length = bs.length + 4 := by simp; omega
      rw [this]; omega
    · rw [parsems_frac cls (s / 10) [s] b bs (by simp) hbs, hval, dval_pad2 s hs]

/-- **`YYYY-MM-DD HHhMMmSS(.|,)f{k}s<offset>`**, k ∈ {1, 2, 4, 6}, every valid datetime, every offset spelling after a
    space: the datetime cut to the digits shown -/
theorem parse_hmsFrac (yf : Bool) (year century : Int) (o : Opts) (tznames : List Token) (tzi : TzInfos)
    (ho : PlainOpts o tzi) (dflt : DT) (_hdv : dflt.Valid) (t : DT) (ht : t.Valid) (comma : Bool) (k : Nat)
    (hk : k = 1 ∨ k = 2 ∨ k = 4 ∨ k = 6) (off : Off) (hoff : off.Dom) (hsp : off.Spaced) :
    parse cls (Info.default false yf year century) o tznames tzi dflt (renderHmsFrac comma k t off) =
      .ok { dt := (TimeFmt.frac comma k).expect t dflt, tz := if o.ignoretz then .naive else offDescr tznames off,
            tokens := none } := by
  have N := dtNums ht
  have hends : FracEnds cls ('s' :: off.render) := fracEnds_ascii cls _ _ (by decide)
  obtain ⟨F, hlexF, hF⟩ := sfrac_token cls t.ss.toNat t.us.toNat k (by have := N.bss; omega) (by have := valid_us ht; omega) hk comma
    ('s' :: off.render) hends
  have hs : StrictOpts o tzi := ⟨ho.fz, ho.fwt, ho.tz1, ho.tz2⟩
  have hsec : pad2 t.ss.toNat ++ [if comma then ',' else '.'] ++ (pad6 t.us.toNat).take k ++ ('s' :: off.render) =
      dtok [t.ss.toNat / 10] ++ (digitChar t.ss.toNat :: ([if comma then ',' else '.'] ++ (pad6 t.us.toNat).take k ++ ('s' :: off.render))) := by
    simp [pad2, dtok]
  have htime : pad2 t.hh.toNat ++ ('h' :: (pad2 t.mm.toNat ++ ('m' ::
        (pad2 t.ss.toNat ++ [if comma then ',' else '.'] ++ (pad6 t.us.toNat).take k ++ ('s' :: off.render))))) =
      dtok [t.hh.toNat / 10] ++ (digitChar t.hh.toNat :: ('h' :: (pad2 t.mm.toNat ++ ('m' ::
        (pad2 t.ss.toNat ++ [if comma then ',' else '.'] ++ (pad6 t.us.toNat).take k ++ ('s' :: off.render)))))) := by
    simp [pad2, dtok]
  have e : renderHmsFrac comma k t off = pad4 t.y.toNat ++ ['-'] ++ pad2 t.m.toNat ++ ['-'] ++ pad2 t.d.toNat ++ [' '] ++
      (dtok [t.hh.toNat / 10] ++ (digitChar t.hh.toNat :: ('h' :: (pad2 t.mm.toNat ++ ('m' ::
        (pad2 t.ss.toNat ++ [if comma then ',' else '.'] ++ (pad6 t.us.toNat).take k ++ ('s' :: off.render))))))) := by
    rw [← htime]; simp [renderHmsFrac, isoDate, List.append_assoc]
  unfold parse lex
  rw [e, lex_isoDate cls _ _ _ ' ' (Or.inr rfl), ← htime,
      lex_pad2 cls _ _ (numEnds_ascii cls _ _ (by decide)),
      lex_letter cls 'h' _ (by decide) (wordEnds_num cls _ _ ⟨_, _, pad2_dtok _⟩),
      lex_pad2 cls _ _ (numEnds_ascii cls _ _ (by decide)),
      lex_letter cls 'm' _ (by decide) (by rw [hsec]; exact wordEnds_num cls _ _ ⟨_, _, rfl⟩),
      hlexF,
      lex_letter cls 's' _ (by decide) (wordEnds_off cls off hsp), lex_off]
  have := tok_theorem cls false yf year century o tznames tzi hs dflt
    (isoDateTokens t.y.toNat t.m.toNat t.d.toNat [' '] ++
      [dtok [t.hh.toNat / 10, t.hh.toNat], ['h'], dtok [t.mm.toNat / 10, t.mm.toNat], ['m'], F, ['s']]) 12 rfl _ _ [5] _ off hoff
    ((loop_sep3_num (l := _ ++ offTokens off) (by rfl) (Or.inl rfl) N.y N.m N.d (by decide) (by decide) (by decide) rfl
        (Or.inr (Or.inr (by decide))) (by rfl) (hmsOf_num N.y)).trans
      ((loop_sp (by rfl)).trans
        ((loop_unit (by rfl) N.hh (by decide) (hms_h ..) (assignHms_h _ N.hh (by have := N.bh; omega))).trans
          ((loop_unit (by rfl) N.mm (by decide) (hms_m ..) (assignHms_m _ N.mm (by have := N.bmm; omega))).trans
            (loop_unit_tok (by rfl) hF.flt hF.dec (by have := hF.len; have := hF.dot; omega) (hms_s ..)
              (assignHms_s _ hF.dec hF.ss))))))
    rfl rfl (Or.inl rfl) (fin_frac yf year century o tznames tzi ho dflt ht comma k)
  simpa [offZone, List.append_assoc] using this

end PM
