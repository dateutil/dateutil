/-
  Proofs/RRuleDaily.lean — what the DAILY and WEEKLY refinements share about `fixDay`: inside datetime's range the month
  roll never hits the MAXYEAR return; and `DailyGood`, the DAILY state invariant read for plain DAILY (period `k` of the model is the
  day `start + k·interval`; `daily_good` in Proofs/RRuleSupported.lean).
-/
import DateutilVerif.Proofs.RRuleBridge
import DateutilVerif.Proofs.RRuleSetpos

namespace RRule
open Cal

theorem maxOrdinal_eq : toOrdinal 9999 12 31 = maxOrdinal := by decide

/-- inside datetime's range the month roll never hits the MAXYEAR return -/
theorem rollDays_total : ∀ (n : Nat) (y m d : Int),
    1 ≤ m → m ≤ 12 → 1 ≤ d → d ≤ n → y ≤ 9999 → toOrdinal y m d ≤ maxOrdinal →
    ∃ res, rollDays n y m d = some res := by
  intro n
  induction n with
  | zero => intro y m d _ _ h1 h2; omega
  | succ k ih =>
    intro y m d hm1 hm12 hd1 hdn hy hle
    unfold rollDays
    have hb := daysInMonth_bounds y m
    split
    · rename_i hgt
      have hs := daysBeforeMonth_succ y m hm1 hm12
      dsimp only
      split
      · rename_i h13
        have hm : m = 12 := by
          have : (m + 1 == 13) = true := h13
          simp at this; omega
        subst hm
        have hy' : y + 1 ≤ 9999 := by
          by_cases c : y = 9999
          · subst c
            have e : daysInMonth 9999 12 = 31 := by decide
            have hmono : toOrdinal 9999 12 31 < toOrdinal 9999 12 d := by
              unfold toOrdinal; omega
            rw [maxOrdinal_eq] at hmono; omega
          · omega
        rw [if_neg (by omega)]
        apply ih (y + 1) 1 (d - daysInMonth y 12) (by omega) (by omega) (by omega) (by omega) hy'
        have : toOrdinal (y + 1) 1 (d - daysInMonth y 12) = toOrdinal y 12 d := by
          unfold toOrdinal
          rw [daysBeforeYear_succ, daysBeforeMonth_1, ← daysBeforeMonth_13 y]
          have : (12 : Int) + 1 = 13 := by omega
          rw [this] at hs
          omega
        rw [this]; exact hle
      · rename_i h13
        have hm : m + 1 ≤ 12 := by
          have : ¬ ((m + 1 == 13) = true) := h13
          simp at this; omega
        apply ih y (m + 1) (d - daysInMonth y m) (by omega) hm (by omega) (by omega) hy
        have : toOrdinal y (m + 1) (d - daysInMonth y m) = toOrdinal y m d := by
          unfold toOrdinal; omega
        rw [this]; exact hle
    · exact ⟨_, rfl⟩

variable {a : Args} {r : Rule}

/-- "the model state at the start of period `k`" for a plain DAILY rule: what the invariant of the DAILY refinement
    (`DailyWGood`, Proofs/RRuleDailyW.lean) says for this family (`daily_good`) -/
structure DailyGood (a : Args) (r : Rule) (k : Nat) (st : State) : Prop where
  facts : YearFacts r st.cur.year st.info
  nwd : st.info.nwdaymask = none
  valid : ValidYMD st.cur.year st.cur.month st.cur.day
  ord : curOrd st.cur = Spec.RRule.startOrd a + k * a.interval
  timeset : st.timeset = Spec.RRule.timesOf a none none none

end RRule
