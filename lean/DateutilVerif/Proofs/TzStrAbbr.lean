/- Proofs/TzStrAbbr.lean — an invariant of the TZ-string parser model `TzStr.parse`: the abbreviations it returns are made of
   ASCII letters only (the abbreviation loop joins tokens that pass `isLetters`; nothing after the loop touches the
   abbreviations), so `EST+5EDT$` cannot yield the abbreviation `EDT$` (D-C08b, /repo commit 6d32996). -/
import DateutilVerif.Proofs.TzStrWk
namespace TzGen
open TzStr

/-- an abbreviation slot holds nothing, or ASCII letters only -/
def AOK (o : Option String) : Prop := ∀ a, o = some a → isLetters a = true

def ResOK (r : Res) : Prop := AOK r.stdabbr ∧ AOK r.dstabbr

theorem isLetters_append (a b : String) (ha : isLetters a = true) (hb : isLetters b = true) : isLetters (a ++ b) = true := by
  unfold isLetters at *
  simp only [String.toList_append, List.all_append, ha, hb, Bool.and_self]

theorem isLetters_join (ts : List String) (h : ∀ t ∈ ts, isLetters t = true) : isLetters (String.join ts) = true := by
  induction ts with
  | nil => simp [String.join, isLetters]
  | cons a t ih =>
    rw [String.join_cons]
    exact isLetters_append _ _ (h a (by simp)) (ih (fun x hx => h x (by simp [hx])))

/-- the tokens the abbreviation scan runs over are letter tokens -/
theorem skipAbbr_letters (L : List String) (i : Nat) :
    ∀ t ∈ (L.drop i).take (skipAbbr L i - i), isLetters t = true := by
  intro t ht
  unfold skipAbbr at ht
  have e : i + ((L.drop i).takeWhile (fun t => isLetters t)).length - i = ((L.drop i).takeWhile (fun t => isLetters t)).length := by omega
  rw [e] at ht
  have : (L.drop i).take ((L.drop i).takeWhile (fun t => isLetters t)).length = (L.drop i).takeWhile (fun t => isLetters t) := by
    generalize L.drop i = M
    induction M with
    | nil => rfl
    | cons a m ih =>
      simp only [List.takeWhile_cons]
      split
      · simp [ih]
      · simp
  rw [this] at ht
  generalize L.drop i = M at ht
  induction M with
  | nil => simp at ht
  | cons a m ih =>
    simp only [List.takeWhile_cons] at ht
    split at ht
    · rename_i hp
      rcases List.mem_cons.mp ht with rfl | h
      · exact hp
      · exact ih h
    · simp at ht

theorem parseTokens_abbrs (l0 : Array String) (res : Res) (h : parseTokens l0 = .ok (some res)) : ResOK res := by
  obtain ⟨st0, hab, e1, e2, _⟩ := parseTokens_inv l0 res h
  have hj := fun i => isLetters_join _ (skipAbbr_letters l0.toList i)
  have hnone : AOK none := fun _ ha => nomatch ha
  have hsome : ∀ i, AOK (some (String.join ((l0.toList.drop i).take (skipAbbr l0.toList i - i)))) :=
    fun i a ha => by cases ha; exact hj i
  have := abbrLoop_preserves ResOK l0
    (fun r i hq => And.intro (And.intro (hsome i) hq.2) (And.intro hq.1 (hsome i)))
    (fun _ _ hq => And.intro hq hq) 3 {} st0 hab (And.intro hnone hnone)
  unfold ResOK
  rw [e1, e2]
  exact this

theorem parse_abbrs (s : String) (res : Res) (h : TzStr.parse s = .ok (some res)) : ResOK res := parseTokens_abbrs _ _ h

end TzGen
