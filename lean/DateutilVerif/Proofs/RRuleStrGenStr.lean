/-
  Proofs/RRuleStrGenStr.lean — the source translation of `rrule.__str__` (`Gen.rruleStr`) equals the model's `toStr`
  on every rule in printable form.
-/
import DateutilVerif.Generated.RRuleStrKernels
import DateutilVerif.Proofs.RRuleStrRound

namespace RRuleStr

theorem wdName_length (k : Int) (h0 : 0 ≤ k) (h6 : k ≤ 6) : (wdName k).length = 2 :=
  (by decide +kernel : ∀ p ∈ weekdayMap, p.1.length = 2) _ (isWD_wdName k h0 h6)

theorem take2_weekdayRepr (w : WDay) (h0 : 0 ≤ w.1) (h6 : w.1 ≤ 6) : List.take 2 (weekdayRepr w) = wdName w.1 := by
  unfold weekdayRepr
  rw [List.take_append_of_le_length (by rw [wdName_length _ h0 h6]; exact Nat.le_refl 2), List.take_of_length_le (by rw [wdName_length _ h0 h6]; exact Nat.le_refl 2)]

theorem weekdayRepr_none (k : Int) : weekdayRepr (k, none) = wdName k := by simp [weekdayRepr]
theorem weekdayRepr_zero (k : Int) : weekdayRepr (k, some 0) = wdName k := by simp [weekdayRepr]

theorem freqnames_eq (f : Nat) : (Gen.FREQNAMES.getD f "").toList = FREQNAMES.getD f [] := by
  rw [← (by decide +kernel : Gen.FREQNAMES.map String.toList = FREQNAMES), List.getD_eq_getElem?_getD, List.getD_eq_getElem?_getD,
    List.getElem?_map]
  cases Gen.FREQNAMES[f]? <;> rfl

theorem showDT_sixGet (t : Nat × Nat × Nat × Nat × Nat × Nat) :
    pad 4 (sixGet t 0) ++ (pad 2 (sixGet t 1) ++ pad 2 (sixGet t 2) ++ ['T'] ++ pad 2 (sixGet t 3) ++ pad 2 (sixGet t 4) ++ pad 2 (sixGet t 5)) =
      showDT t := by
  obtain ⟨y, m, d, hh, mm, ss⟩ := t
  simp [showDT, sixGet, List.append_assoc]

/-- the element the translated weekday loop appends -/
theorem wdayConv_eq (w : WDay) (hw : NormalWDay w) : Gen.rruleStrWday w = showWDayStr w := by
  unfold Gen.rruleStrWday
  obtain ⟨k, n⟩ := w
  have hk := hw
  unfold NormalWDay at hk
  cases n with
  | none => simp [showWDayStr, weekdayRepr]
  | some n =>
    by_cases hn : n = 0
    · subst hn; simp [showWDayStr, weekdayRepr]
    · have ht := take2_weekdayRepr (k, some n) (by simpa using hk.1) (by simpa using hk.2.1)
      simp only [] at ht
      simp [showWDayStr, hn, ht]

theorem showDT_sixGet_after (p : List Char) (t : Nat × Nat × Nat × Nat × Nat × Nat) :
    (p ++ pad 4 (sixGet t 0)) ++ (pad 2 (sixGet t 1) ++ pad 2 (sixGet t 2) ++ ['T'] ++ pad 2 (sixGet t 3) ++ pad 2 (sixGet t 4) ++ pad 2 (sixGet t 5)) =
      p ++ showDT t := by
  rw [← showDT_sixGet t]; simp [List.append_assoc]

theorem lit_byday : lit "BYDAY" ++ ['='] = lit "BYDAY=" := by decide

/-- **the source translation of `rrule.__str__` is the model's `toStr`** on every rule in printable form (weekday numbers 0..6:
    outside that range the real `repr(weekday(k))` raises IndexError and the model prints `??`) -/
theorem gen_rruleStr_eq_toStr (x : StrIn) (hx : Printable x) : Gen.rruleStr x = toStr x := by
  have hwk : List.take 2 (weekdayRepr (x.wkst, none)) = wdName x.wkst := take2_weekdayRepr (x.wkst, none) hx.wkst0 hx.wkst6
  unfold Gen.rruleStr toStr rruleLineOf partsOf dtstartLines partOf byDayPart
  simp only [hwk, freqnames_eq, showDT_sixGet_after, List.nil_append]
  cases hb : x.orig.byweekday with
  | none => simp only [Option.map_none]; rfl
  | some l =>
    have hl := hx.byweekday l hb
    simp only [Option.map_some, List.map_id', List.isEmpty_map, lit_byday]
    rw [List.map_congr_left (l := l) (f := Gen.rruleStrWday) (g := showWDayStr) (fun w hw => wdayConv_eq w (hl w hw))]
    rfl

end RRuleStr
