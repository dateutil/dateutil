/-
  Proofs/RRuleSupported.lean — the summary statement: for every argument set in one of the proved families
  (`SupportedBy a f`, Spec/RRuleSupported.lean), the model's sequence is the specification's recurrence set.
-/
import DateutilVerif.Spec.RRuleSupported
import DateutilVerif.Proofs.RRuleDaily
import DateutilVerif.Proofs.RRuleYM
import DateutilVerif.Proofs.RRuleWeekly
import DateutilVerif.Proofs.RRuleNthMonthly
import DateutilVerif.Proofs.RRuleNthYearly
import DateutilVerif.Proofs.RRuleNthYM
import DateutilVerif.Proofs.RRuleEasterYearly
import DateutilVerif.Proofs.RRuleWeeknoYearly
import DateutilVerif.Proofs.RRuleHourlyBy
import DateutilVerif.Proofs.RRuleSecondly
import DateutilVerif.Proofs.RRuleMinutelyBy
import DateutilVerif.Proofs.RRuleDailyW
import DateutilVerif.Proofs.RRuleMonthlyW
import DateutilVerif.Proofs.RRuleMinutelyBH
import DateutilVerif.Proofs.RRuleSecondlyBHM
import DateutilVerif.Proofs.RRuleSecondlyBS
import DateutilVerif.Proofs.RRuleMinutelyBHM
import DateutilVerif.Proofs.RRuleWeeklyW
import DateutilVerif.Proofs.RRuleMonthlyE
import DateutilVerif.Proofs.RRuleNthWYearly
import DateutilVerif.Proofs.RRuleNthWYM
import DateutilVerif.Proofs.RRuleNthEYearly
import DateutilVerif.Proofs.RRuleNthEYM
import DateutilVerif.Proofs.RRuleWeeknoEYearly
import DateutilVerif.Proofs.RRuleWeeklyE
import DateutilVerif.Proofs.RRuleEDaily

namespace RRule
open Cal

variable {a : Args} {r : Rule}

/-- the state invariant of the DAILY refinement over the day filter of `WRule`s, read for plain DAILY -/
theorem daily_good {k : Nat} {st : State} (g : DailyWGood a r k st) : DailyGood a r k st :=
  ⟨g.facts, g.inv.1, g.valid, g.ord, g.timeset⟩

/-- **`iter_eq_spec`, DAILY portion.**  For every argument set with FREQ=DAILY, INTERVAL ≥ 1, a valid
    start, any BYMONTH / BYMONTHDAY (non-zero members) / BYYEARDAY / BYDAY / BYHOUR / BYMINUTE / BYSECOND,
    BYSETPOS, any COUNT / UNTIL, and no BYWEEKNO / BYEASTER: the values yielded during the first
    `n` periods are exactly the specification's recurrence set of those periods — for every `n`
    whose periods lie inside datetime's range. -/
theorem iter_eq_spec_daily (da : DailyArgs a) (h : construct a = .ok r) (n : Nat)
    (hn : Spec.RRule.startOrd a + n * a.interval ≤ maxOrdinal) :
    (iter r n).1 = Spec.RRule.occ a n :=
  iter_eq_spec_daily_w ⟨da.freq, da.interval, da.valid, Or.inl da.byweekno, da.byeaster, da.monthday_nz⟩ h n hn

theorem someWith_elim {α} {o : Option (List α)} {P : List α → Prop} (h : someWith o P) :
    ∃ l, o = some l ∧ l ≠ [] ∧ P l := by
  unfold someWith at h
  split at h
  · rename_i l; exact ⟨l, rfl, h.1, h.2⟩
  · exact absurd h id

theorem untilOk_elim (h : untilOk a) : ∀ u, a.untilDT = some u → Spec.RRule.startMicros a ≤ u.toMicros := by
  intro u hu; unfold untilOk at h; rw [hu] at h; exact h

theorem wArgOk_elim (h : wArgOk a) : WArg a := by
  rcases h with h | ⟨h1, h2, h3⟩
  · exact Or.inl h
  · obtain ⟨wl, hwl, hne, hok⟩ := someWith_elim h1
    exact Or.inr ⟨wl, hwl, hne, ⟨hok.1, hok.2⟩, h2, h3⟩

theorem optNonempty_elim {o : Option (List Int)} (h : optNonempty o) : o = none ∨ ∃ l, o = some l ∧ l ≠ [] := by
  rcases h with h | h
  · exact Or.inl h
  · obtain ⟨l, hl, hne, _⟩ := someWith_elim h
    exact Or.inr ⟨l, hl, hne⟩

theorem ne_none_elim {α} {o : Option α} (h : o ≠ none) : ∃ l, o = some l := by
  cases o with
  | none => exact absurd rfl h
  | some l => exact ⟨l, rfl⟩

theorem family_sound (f : Family) (h : family a = some f) : SupportedBy a f := by
  unfold family at h
  have := List.find?_some h
  exact of_decide_eq_true this

/-- **`iter_eq_spec` for every supported argument set**: if `a` lies in one of the proved families
    (`SupportedBy a f`, a decidable condition on the arguments alone) and the first `n` turns stay inside
    datetime's range (`inRange`), then what the model has yielded after `n` turns of the generator's loop is
    exactly the specification's recurrence set of the first `m` periods, where `m = n` for the calendar
    frequencies and `n ≤ m ≤ periodsPerTurn·n` for the sub-daily ones (turns that pass over empty periods). -/
theorem iter_eq_spec_supported (a : Args) (r : Rule) (h : construct a = .ok r) (f : Family)
    (hs : SupportedBy a f) (n : Nat) (hr : inRange a f n) :
    ∃ m, n ≤ m ∧ m ≤ f.periodsPerTurn * n ∧ (iter r n).1 = Spec.RRule.occ a m := by
  cases f with
  | daily =>
    obtain ⟨hf, ⟨hi, hv, hz⟩, h1, h2⟩ := hs
    exact ⟨n, by omega, by simp [Family.periodsPerTurn],
      iter_eq_spec_daily_w ⟨hf, hi, hv, wArgOk_elim h1, h2, hz⟩ h n hr⟩
  | weekly =>
    obtain ⟨hf, ⟨hi, hv, hz⟩, h1, h2, h3, h4, h5⟩ := hs
    exact ⟨n, by omega, by simp [Family.periodsPerTurn],
      iter_eq_spec_weekly ⟨⟨Or.inl hf, hi, hv, h1, h2, hz⟩, hf, h3, h4, untilOk_elim h5⟩ h n hr⟩
  | yearlyMonthly =>
    obtain ⟨hf, ⟨hi, hv, hz⟩, h1, h2, h3⟩ := hs
    exact ⟨n, by omega, by simp [Family.periodsPerTurn], iter_eq_spec_ym ⟨hf, hi, hv, h1, h2, hz, h3⟩ h n hr.1 hr.2⟩
  | monthlyNth =>
    obtain ⟨hf, ⟨hi, hv, hz⟩, h1, h2, h3⟩ := hs
    exact ⟨n, by omega, by simp [Family.periodsPerTurn],
      iter_eq_spec_monthly_nth ⟨hf, hi, hv, h1, h2, hz, someWith_elim h3⟩ h n hr⟩
  | yearlyNth =>
    obtain ⟨hf, ⟨hi, hv, hz⟩, h1, h2, h3, h4⟩ := hs
    exact ⟨n, by omega, by simp [Family.periodsPerTurn],
      iter_eq_spec_yearly_nth ⟨hf, hi, hv, h1, h2, hz, h3, someWith_elim h4⟩ h n hr⟩
  | yearlyBymonthNth =>
    obtain ⟨hf, ⟨hi, hv, hz⟩, h1, h2, h3, h4⟩ := hs
    exact ⟨n, by omega, by simp [Family.periodsPerTurn],
      iter_eq_spec_yearly_bymonth_nth ⟨hf, hi, hv, h1, h2, hz, someWith_elim h3, someWith_elim h4⟩ h n hr⟩
  | yearlyEaster =>
    obtain ⟨hf, ⟨hi, hv, hz⟩, h1, h2, h3⟩ := hs
    exact ⟨n, by omega, by simp [Family.periodsPerTurn],
      iter_eq_spec_yearly_easter ⟨hf, hi, hv, h1, hz, h2, someWith_elim h3⟩ h n hr.1 hr.2⟩
  | yearlyWeekno =>
    obtain ⟨hf, ⟨hi, hv, hz⟩, h1, h2, h3, h4⟩ := hs
    obtain ⟨wl, hwl, hne, hok⟩ := someWith_elim h4
    exact ⟨n, by omega, by simp [Family.periodsPerTurn],
      iter_eq_spec_yearly_weekno ⟨hf, hi, hv, h3, hz, h1, h2, ⟨wl, hwl, hne, ⟨hok.1, hok.2⟩⟩⟩ h n hr⟩
  | monthlyWeekno =>
    obtain ⟨hf, ⟨hi, hv, hz⟩, h1, h2, h3, h4⟩ := hs
    obtain ⟨wl, hwl, hne, hok⟩ := someWith_elim h4
    exact ⟨n, by omega, by simp [Family.periodsPerTurn],
      iter_eq_spec_monthly_weekno ⟨hf, hi, hv, h3, hz, h1, h2, ⟨wl, hwl, hne, ⟨hok.1, hok.2⟩⟩⟩ h n hr⟩
  | weeklyWeekno =>
    obtain ⟨hf, ⟨hi, hv, hz⟩, h1, h2, h3, h4, h5⟩ := hs
    obtain ⟨wl, hwl, hne, hok⟩ := someWith_elim h2
    exact ⟨n, by omega, by simp [Family.periodsPerTurn],
      iter_eq_spec_weekly_weekno ⟨hf, hi, hv, h1, hz, ⟨wl, hwl, hne, ⟨hok.1, hok.2⟩⟩, h3, h4, untilOk_elim h5⟩ h n hr⟩
  | hourly =>
    obtain ⟨hf, ⟨hi, hv, hz⟩, h1, h2, h3, h4, h5⟩ := hs
    exact iter_eq_spec_hourly ⟨hf, hi, hv, wArgOk_elim h1, h2, hz, h3, h4, h5⟩ h n hr
  | hourlyByhour =>
    obtain ⟨hf, ⟨hi, hv, hz⟩, h1, h2, h3, h4, h5⟩ := hs
    obtain ⟨l, hl, _, hlr⟩ := someWith_elim h3
    exact iter_eq_spec_hourly_byhour ⟨hf, hi, hv, wArgOk_elim h1, h2, hz, ⟨l, hl, hlr⟩, h4, h5⟩ h n hr
  | minutely =>
    obtain ⟨hf, ⟨hi, hv, hz⟩, h1, h2, h3, h4, h5⟩ := hs
    exact iter_eq_spec_minutely ⟨hf, hi, hv, wArgOk_elim h1, h2, hz, h3, h4, h5⟩ h n hr
  | minutelyByminute =>
    obtain ⟨hf, ⟨hi, hv, hz⟩, h1, h2, h3, h4, h5⟩ := hs
    obtain ⟨l, hl, _, hlr⟩ := someWith_elim h4
    exact iter_eq_spec_minutely_byminute ⟨hf, hi, hv, wArgOk_elim h1, h2, hz, h3, ⟨l, hl, hlr⟩, h5⟩ h n hr
  | minutelyByhour =>
    obtain ⟨hf, ⟨hi, hv, hz⟩, h1, h2, h3, h4, h5, h6⟩ := hs
    obtain ⟨l, hl, hne, _⟩ := someWith_elim h3
    exact iter_eq_spec_minutely_byhour ⟨hf, hi, hv, wArgOk_elim h1, h2, hz, ⟨l, hl, hne⟩, h4, h5, h6⟩ h n hr
  | minutelyByhm =>
    obtain ⟨hf, ⟨hi, hv, hz⟩, h1, h2, h3, h4, h5, h6⟩ := hs
    have hm4 : ∃ l, a.byminute = some l := by
      cases hb : a.byminute with
      | none => exact absurd hb h4
      | some l => exact ⟨l, rfl⟩
    exact iter_eq_spec_minutely_bhm ⟨hf, hi, hv, wArgOk_elim h1, h2, hz, optNonempty_elim h3, hm4, h5, h6⟩ h n hr
  | secondly =>
    obtain ⟨hf, ⟨hi, hv, hz⟩, h1, h2, h3, h4, h5⟩ := hs
    exact iter_eq_spec_secondly ⟨hf, hi, hv, wArgOk_elim h1, h2, hz, h3, h4, h5⟩ h n hr
  | secondlyByhm =>
    obtain ⟨hf, ⟨hi, hv, hz⟩, h1, h2, h3, h4, h5, h6⟩ := hs
    exact iter_eq_spec_secondly_bhm ⟨hf, hi, hv, wArgOk_elim h1, h2, hz, optNonempty_elim h3, optNonempty_elim h4, h5, h6⟩ h n hr
  | secondlyBysecond =>
    obtain ⟨hf, ⟨hi, hv, hz⟩, h1, h2, h3, h4, h5, h6⟩ := hs
    have hs5 : ∃ l, a.bysecond = some l := by
      cases hb : a.bysecond with
      | none => exact absurd hb h5
      | some l => exact ⟨l, rfl⟩
    exact iter_eq_spec_secondly_bysecond ⟨hf, hi, hv, wArgOk_elim h1, h2, hz, optNonempty_elim h3, optNonempty_elim h4, hs5, h6⟩ h n hr

  | dailyE =>
    obtain ⟨hf, ⟨⟨hi, hv, hz⟩, hw, he⟩⟩ := hs
    exact ⟨n, by omega, by simp [Family.periodsPerTurn],
      iter_eq_spec_daily_easter ⟨hf, hi, hv, hw, hz, someWith_elim he⟩ h n hr.1 hr.2⟩
  | hourlyE =>
    obtain ⟨hf, ⟨⟨hi, hv, hz⟩, hw, he⟩, h3, h4, h5⟩ := hs
    exact iter_eq_spec_hourly_easter ⟨hf, hi, hv, hw, someWith_elim he, hz, h3, h4, h5⟩ h n hr.1 hr.2
  | hourlyByhourE =>
    obtain ⟨hf, ⟨⟨hi, hv, hz⟩, hw, he⟩, h3, h4, h5⟩ := hs
    obtain ⟨l, hl, _, hlr⟩ := someWith_elim h3
    exact iter_eq_spec_hourly_byhour_easter ⟨hf, hi, hv, hw, someWith_elim he, hz, ⟨l, hl, hlr⟩, h4, h5⟩ h n hr.1 hr.2
  | minutelyE =>
    obtain ⟨hf, ⟨⟨hi, hv, hz⟩, hw, he⟩, h3, h4, h5⟩ := hs
    exact iter_eq_spec_minutely_easter ⟨hf, hi, hv, hw, someWith_elim he, hz, h3, h4, h5⟩ h n hr.1 hr.2
  | minutelyByminuteE =>
    obtain ⟨hf, ⟨⟨hi, hv, hz⟩, hw, he⟩, h3, h4, h5⟩ := hs
    obtain ⟨l, hl, _, hlr⟩ := someWith_elim h4
    exact iter_eq_spec_minutely_byminute_easter ⟨hf, hi, hv, hw, someWith_elim he, hz, h3, ⟨l, hl, hlr⟩, h5⟩ h n hr.1 hr.2
  | minutelyByhourE =>
    obtain ⟨hf, ⟨⟨hi, hv, hz⟩, hw, he⟩, h3, h4, h5, h6⟩ := hs
    obtain ⟨l, hl, hne, _⟩ := someWith_elim h3
    exact iter_eq_spec_minutely_byhour_easter ⟨hf, hi, hv, hw, someWith_elim he, hz, ⟨l, hl, hne⟩, h4, h5, h6⟩ h n hr.1 hr.2
  | minutelyByhmE =>
    obtain ⟨hf, ⟨⟨hi, hv, hz⟩, hw, he⟩, h3, h4, h5, h6⟩ := hs
    exact iter_eq_spec_minutely_bhm_easter
      ⟨hf, hi, hv, hw, someWith_elim he, hz, optNonempty_elim h3, ne_none_elim h4, h5, h6⟩ h n hr.1 hr.2
  | secondlyE =>
    obtain ⟨hf, ⟨⟨hi, hv, hz⟩, hw, he⟩, h3, h4, h5⟩ := hs
    exact iter_eq_spec_secondly_easter ⟨hf, hi, hv, hw, someWith_elim he, hz, h3, h4, h5⟩ h n hr.1 hr.2
  | secondlyByhmE =>
    obtain ⟨hf, ⟨⟨hi, hv, hz⟩, hw, he⟩, h3, h4, h5, h6⟩ := hs
    exact iter_eq_spec_secondly_bhm_easter
      ⟨hf, hi, hv, hw, someWith_elim he, hz, optNonempty_elim h3, optNonempty_elim h4, h5, h6⟩ h n hr.1 hr.2
  | secondlyBysecondE =>
    obtain ⟨hf, ⟨⟨hi, hv, hz⟩, hw, he⟩, h3, h4, h5, h6⟩ := hs
    exact iter_eq_spec_secondly_bysecond_easter
      ⟨hf, hi, hv, hw, someWith_elim he, hz, optNonempty_elim h3, optNonempty_elim h4, ne_none_elim h5, h6⟩ h n hr.1 hr.2
  | monthlyEaster =>
    obtain ⟨hf, ⟨⟨hi, hv, hz⟩, hw, he⟩, hp⟩ := hs
    exact ⟨n, by omega, by simp [Family.periodsPerTurn],
      iter_eq_spec_monthly_easter ⟨hf, hi, hv, hw, hz, hp, someWith_elim he⟩ h n hr.1 hr.2⟩
  | weeklyEaster =>
    obtain ⟨hf, ⟨hi, hv, hz⟩, hw, he, h3, h4, h5⟩ := hs
    exact ⟨n, by omega, by simp [Family.periodsPerTurn],
      iter_eq_spec_weekly_easter ⟨hf, hi, hv, hw, hz, someWith_elim he, h3, h4, untilOk_elim h5⟩ h n hr.1 hr.2⟩
  | monthlyNthWeekno =>
    obtain ⟨hf, ⟨hi, hv, hz⟩, he, hn, hw, hwn⟩ := hs
    obtain ⟨wl, hwl, hne, hok⟩ := someWith_elim hwn
    exact ⟨n, by omega, by simp [Family.periodsPerTurn],
      iter_eq_spec_monthly_nth_weekno ⟨hf, hi, hv, hw, he, hz, someWith_elim hn, ⟨wl, hwl, hne, ⟨hok.1, hok.2⟩⟩⟩ h n hr⟩
  | yearlyNthWeekno =>
    obtain ⟨hf, ⟨hi, hv, hz⟩, he, hm, hn, hw, hwn⟩ := hs
    obtain ⟨wl, hwl, hne, hok⟩ := someWith_elim hwn
    exact ⟨n, by omega, by simp [Family.periodsPerTurn],
      iter_eq_spec_yearly_nth_weekno ⟨hf, hi, hv, hw, he, hz, hm, someWith_elim hn, ⟨wl, hwl, hne, ⟨hok.1, hok.2⟩⟩⟩ h n hr⟩
  | yearlyBymonthNthWeekno =>
    obtain ⟨hf, ⟨hi, hv, hz⟩, he, hm, hn, hw, hwn⟩ := hs
    obtain ⟨wl, hwl, hne, hok⟩ := someWith_elim hwn
    exact ⟨n, by omega, by simp [Family.periodsPerTurn],
      iter_eq_spec_yearly_bymonth_nth_weekno
        ⟨hf, hi, hv, hw, he, hz, someWith_elim hm, someWith_elim hn, ⟨wl, hwl, hne, ⟨hok.1, hok.2⟩⟩⟩ h n hr⟩
  | monthlyNthEaster =>
    obtain ⟨hf, ⟨⟨hi, hv, hz⟩, hw, he⟩, hn⟩ := hs
    exact ⟨n, by omega, by simp [Family.periodsPerTurn],
      iter_eq_spec_monthly_nth_easter ⟨hf, hi, hv, hw, hz, someWith_elim hn, someWith_elim he⟩ h n hr.1 hr.2⟩
  | yearlyNthEaster =>
    obtain ⟨hf, ⟨⟨hi, hv, hz⟩, hw, he⟩, hm, hn⟩ := hs
    exact ⟨n, by omega, by simp [Family.periodsPerTurn],
      iter_eq_spec_yearly_nth_easter ⟨hf, hi, hv, hw, hz, hm, someWith_elim hn, someWith_elim he⟩ h n hr.1 hr.2⟩
  | yearlyBymonthNthEaster =>
    obtain ⟨hf, ⟨⟨hi, hv, hz⟩, hw, he⟩, hm, hn⟩ := hs
    exact ⟨n, by omega, by simp [Family.periodsPerTurn],
      iter_eq_spec_yearly_bymonth_nth_easter
        ⟨hf, hi, hv, hw, hz, someWith_elim hm, someWith_elim hn, someWith_elim he⟩ h n hr.1 hr.2⟩
  | yearlyWeeknoEaster =>
    obtain ⟨hf, ⟨hi, hv, hz⟩, hp, hw, hwn, he⟩ := hs
    obtain ⟨wl, hwl, hne, hok⟩ := someWith_elim hwn
    exact ⟨n, by omega, by simp [Family.periodsPerTurn],
      iter_eq_spec_yearly_weekno_easter
        ⟨hf, hi, hv, hw, hz, hp, ⟨wl, hwl, hne, ⟨hok.1, hok.2⟩⟩, someWith_elim he⟩ h n hr.1 hr.2⟩

end RRule
