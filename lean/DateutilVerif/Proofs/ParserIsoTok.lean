/-
  Proofs/ParserIsoTok.lean — the zero-padded decimal renderings `pad2 n`, `pad4 n` are numeric tokens
  with value `n` for any classification that agrees with ASCII on the characters involved, and the
  stock `parserinfo` tables contain none of them (for C02 `parse_render_iso`).
-/
import DateutilVerif.Proofs.ParserIsoRun

namespace PM
open Py PT

/-- the classification agrees with Python's on the characters of the ISO-like renderings -/
structure AsciiLike (cls : Char → CClass) : Prop where
  digit : ∀ j : Fin 10, cls (Char.ofNat (48 + j.val)) = .decDigit j.val
  dash : cls '-' = .other
  colon : cls ':' = .other
  tee : cls 'T' = .alpha
  space : cls ' ' = .space

theorem asciiCls_asciiLike : AsciiLike asciiCls :=
  ⟨by decide, by decide, by decide, by decide, by decide⟩

def isAsciiDigit (c : Char) : Bool := '0' ≤ c && c ≤ '9'

def firstIsDigit (t : Token) : Bool := match t with
  | c :: _ => isAsciiDigit c
  | [] => false

theorem digit_facts : ∀ j : Fin 10,
    Char.ofNat (48 + j.val) ≠ '.' ∧ Char.ofNat (48 + j.val) ≠ '\x00' ∧
    lowerChar (Char.ofNat (48 + j.val)) = Char.ofNat (48 + j.val) ∧ isAsciiDigit (Char.ofNat (48 + j.val)) = true := by
  decide

def dj (k : Nat) : Fin 10 := ⟨k % 10, Nat.mod_lt _ (by omega)⟩

theorem digitChar_eq (k : Nat) : digitChar k = Char.ofNat (48 + (dj k).val) := rfl

theorem digitVal_digitChar (cls : Char → CClass) (h : AsciiLike cls) (k : Nat) : digitVal cls (digitChar k) = some (k % 10) := by
  unfold digitVal
  rw [digitChar_eq, h.digit (dj k)]
  rfl

theorem isNum_digitChar (cls : Char → CClass) (h : AsciiLike cls) (k : Nat) : (cls (digitChar k)).isNum = true := by
  rw [digitChar_eq, h.digit (dj k)]; rfl

theorem digitChar_ne_dot (k : Nat) : digitChar k ≠ '.' := (digit_facts (dj k)).1
theorem digitChar_ne_nul (k : Nat) : digitChar k ≠ '\x00' := (digit_facts (dj k)).2.1
theorem lower_digitChar (k : Nat) : lowerChar (digitChar k) = digitChar k := (digit_facts (dj k)).2.2.1
theorem isAsciiDigit_digitChar (k : Nat) : isAsciiDigit (digitChar k) = true := (digit_facts (dj k)).2.2.2

/-! ### tables of the stock parserinfo contain no word that starts with a digit -/

theorem contains_false_of_first (l : List Token) (t : Token) (hl : ∀ k ∈ l, firstIsDigit k = false)
    (ht : firstIsDigit t = true) : l.contains t = false := by
  rw [List.contains_eq_mem]
  simp only [decide_eq_false_iff_not]
  intro hmem
  have := hl t hmem
  rw [ht] at this
  cases this

theorem lookupLast_none_of_first {β} (tbl : List (Token × β)) (t : Token) (hl : ∀ p ∈ tbl, firstIsDigit p.1 = false)
    (ht : firstIsDigit t = true) : lookupLast tbl t = none := by
  cases h : lookupLast tbl t with
  | none => rfl
  | some v =>
    exfalso
    unfold lookupLast at h
    have gen : ∀ (l : List (Token × β)) (acc : Option β), (∀ p ∈ l, firstIsDigit p.1 = false) →
        l.foldl (fun acc (kv : Token × β) => if kv.1 = t then some kv.2 else acc) acc = acc := by
      intro l
      induction l with
      | nil => intro acc _; rfl
      | cons a r ih =>
        intro acc hl
        simp only [List.foldl_cons]
        have ha : a.1 ≠ t := by
          intro heq
          have := hl a List.mem_cons_self
          rw [heq, ht] at this
          cases this
        simp only [ha, if_false]
        exact ih acc (fun p hp => hl p (List.mem_cons_of_mem _ hp))
    rw [gen tbl none hl] at h
    cases h

theorem jump_nodigit : ∀ k ∈ convertFlat Gen.PI_JUMP, firstIsDigit k = false := by decide
theorem months_nodigit : ∀ p ∈ convertGroups Gen.PI_MONTHS, firstIsDigit p.1 = false := by decide

/-- a fact about the stock tables and a concrete token: unfold to the dumped tables, then compute -/
macro "table_decide" : tactic =>
  `(tactic| (simp only [Info.hmsOf, Info.weekdayOf, Info.monthOf, Info.ampmOf, Info.isJump, Info.default]; decide))

theorem numTok_of (cls : Char → CClass) (df yf : Bool) (year century : Int) (t : Token) (n : Nat)
    (hne : t ≠ []) (hlen : t.length ≤ 4)
    (hdig : ∀ c ∈ t, ∃ k, c = digitChar k)
    (hval : digitsVal cls t 0 = some n) (hcls : AsciiLike cls) :
    NumTok cls (Info.default df yf year century) t n := by
  have hnodot : t.contains '.' = false := by
    rw [List.contains_eq_mem]
    simp only [decide_eq_false_iff_not]
    intro hm
    obtain ⟨k, hk⟩ := hdig _ hm
    exact digitChar_ne_dot k hk.symm
  have hsplit : ∀ (l : List Char), (∀ c ∈ l, ∃ k, c = digitChar k) → splitDot l = (l, none) := by
    intro l
    induction l with
    | nil => intro _; rfl
    | cons a r ih =>
      intro hl
      obtain ⟨k, hk⟩ := hl a List.mem_cons_self
      have : a ≠ '.' := by rw [hk]; exact digitChar_ne_dot k
      simp only [splitDot, this, if_false]
      rw [ih (fun c hc => hl c (List.mem_cons_of_mem _ hc))]
  have hlower : lower t = t := by
    unfold lower
    have : ∀ (l : List Char), (∀ c ∈ l, ∃ k, c = digitChar k) → l.map lowerChar = l := by
      intro l
      induction l with
      | nil => intro _; rfl
      | cons a r ih =>
        intro hl
        obtain ⟨k, hk⟩ := hl a List.mem_cons_self
        simp only [List.map_cons, ih (fun c hc => hl c (List.mem_cons_of_mem _ hc))]
        rw [hk, lower_digitChar]
    exact this t hdig
  have hfirst : firstIsDigit t = true := by
    cases t with
    | nil => exact absurd rfl hne
    | cons a r =>
      obtain ⟨k, hk⟩ := hdig a List.mem_cons_self
      simp only [firstIsDigit, hk, isAsciiDigit_digitChar]
  have hempty : t.isEmpty = false := by cases t <;> simp_all
  have hnum : numForm cls t = some ⟨n, 0⟩ := by
    unfold numForm
    rw [hsplit t hdig]
    simp [hempty, hval]
  refine ⟨?_, ?_, ?_, ?_, hnodot, ?_, ?_⟩
  · simp [floatOk, hnum]
  · simp [toDecimal, hnum]
  · unfold pyInt
    have : ¬ t.length > intMaxStrDigits := by unfold intMaxStrDigits; omega
    simp [hempty, this, hval]
  · unfold isDigitTok
    simp only [hempty, Bool.not_false, Bool.true_and, List.all_eq_true]
    intro c hc
    obtain ⟨k, hk⟩ := hdig c hc
    rw [hk]; exact isNum_digitChar cls hcls k
  · show (Info.default df yf year century).jump.contains (lower t) = false
    rw [hlower]
    exact contains_false_of_first _ _ jump_nodigit hfirst
  · show ((lookupLast (Info.default df yf year century).months (lower t)).map (· + 1)) = none
    rw [hlower, show (Info.default df yf year century).months = convertGroups Gen.PI_MONTHS from rfl,
        lookupLast_none_of_first _ _ months_nodigit hfirst]
    rfl

theorem numTok_pad2 (cls : Char → CClass) (hcls : AsciiLike cls) (df yf : Bool) (year century : Int) (n : Nat) (hn : n < 100) :
    NumTok cls (Info.default df yf year century) (pad2 n) n := by
  refine numTok_of cls df yf year century (pad2 n) n (by simp [pad2]) (by simp [pad2]) ?_ ?_ hcls
  · intro c hc
    simp only [pad2, List.mem_cons, List.mem_nil_iff, or_false] at hc
    rcases hc with rfl | rfl <;> exact ⟨_, rfl⟩
  · simp only [pad2, digitsVal, digitVal_digitChar cls hcls]
    congr 1
    omega

theorem numTok_pad4 (cls : Char → CClass) (hcls : AsciiLike cls) (df yf : Bool) (year century : Int) (n : Nat) (hn : n < 10000) :
    NumTok cls (Info.default df yf year century) (pad4 n) n := by
  refine numTok_of cls df yf year century (pad4 n) n (by simp [pad4]) (by simp [pad4]) ?_ ?_ hcls
  · intro c hc
    simp only [pad4, List.mem_cons, List.mem_nil_iff, or_false] at hc
    rcases hc with rfl | rfl | rfl | rfl <;> exact ⟨_, rfl⟩
  · simp only [pad4, digitsVal, digitVal_digitChar cls hcls]
    congr 1
    omega

theorem digRun_of (cls : Char → CClass) (hcls : AsciiLike cls) (t : List Char) (hdig : ∀ c ∈ t, ∃ k, c = digitChar k) :
    DigRun cls t := by
  intro c hc
  obtain ⟨k, hk⟩ := hdig c hc
  rw [hk]
  exact ⟨isNum_digitChar cls hcls k, digitChar_ne_nul k⟩

theorem punctOk_default (df yf : Bool) (year century : Int) : PunctOk (Info.default df yf year century) :=
  ⟨by table_decide, by table_decide⟩

theorem sepTok_T (cls : Char → CClass) (hcls : AsciiLike cls) (df yf : Bool) (year century : Int) :
    SepTok cls (Info.default df yf year century) ['T'] := by
  refine ⟨?_, by table_decide, by table_decide, by table_decide, by table_decide, by table_decide⟩
  have : digitVal cls 'T' = none := by unfold digitVal; rw [hcls.tee]
  simp [floatOk, numForm, splitDot, digitsVal, this, tk]

theorem sepTok_space (cls : Char → CClass) (hcls : AsciiLike cls) (df yf : Bool) (year century : Int) :
    SepTok cls (Info.default df yf year century) [' '] := by
  refine ⟨?_, by table_decide, by table_decide, by table_decide, by table_decide, by table_decide⟩
  have : digitVal cls ' ' = none := by unfold digitVal; rw [hcls.space]
  simp [floatOk, numForm, splitDot, digitsVal, this, tk]

end PM
