/- Proofs/TzifGenBuild.lean — the second part of the TRANSLATED `tzfile._read_tzfile` (`Gen.readTzfile_build`:
   ttinfo_std/dst/before, the dstoffset loop over the shared `_ttinfo` objects, trans_list, the wall-clock lists)
   against `TZ.build` of the hand model. -/
import DateutilVerif.Proofs.TzifGenEq
import DateutilVerif.Proofs.ZonesBuild

set_option linter.unusedSimpArgs false
set_option linter.unusedVariables false

namespace TzifGen
open Py TZ TzifPy

theorem ofT_default : ofT default = (default : TT) := rfl

theorem hget_map (ts : List TType) (r : Ref) : hget (ts.map ofT) r = ofT (ts.getD r default) := by
  unfold hget
  simp only [List.getD_eq_getElem?_getD, List.getElem?_map]
  cases ts[r]? <;> simp [ofT_default]

/-- a loop whose body leaves the state `s` alone (a `for` statement after its `break`) -/
theorem forEach_fixed {α σ} (body : α → σ → R σ) (s : σ) (h : ∀ x, body x s = .ok s) : ∀ l : List α, forEach body l s = .ok s
  | [] => rfl
  | x :: l => by simp only [forEach, h, Except.bind]; exact forEach_fixed body s h l

theorem loop4_brk (heap : Heap) (L : List Ref) (rs : List Ref) (b : Option Ref) :
    forEach (Gen.readTzfile_loop4_body heap L) rs (true, b) = .ok (true, b) :=
  forEach_fixed (Gen.readTzfile_loop4_body heap L) (true, b) (fun _ => rfl) rs

theorem loop4_list (heap : Heap) (L : List Ref) : ∀ (rs : List Ref) (b0 : Option Ref),
    forEach (Gen.readTzfile_loop4_body heap L) rs (false, b0) =
      .ok (match rs.find? (fun r => (hget heap r).isdst == 0) with
           | some ρ => (true, some ρ)
           | none => (false, b0))
  | [], b0 => rfl
  | r :: rs, b0 => by
      by_cases h : (hget heap r).isdst = 0
      · simp [forEach, Gen.readTzfile_loop4_body, h, pure, Except.pure, Except.bind, loop4_brk]
      · simp [forEach, Gen.readTzfile_loop4_body, h, pure, Except.pure, Except.bind, loop4_list heap L rs b0]

/-- `if out.ttinfo_dst and not out.ttinfo_std: out.ttinfo_std = out.ttinfo_dst` -/
def fixStd {α} : Option α → Option α → Option α
  | none, some d => some d
  | s, _ => s

theorem scanStdDst_find : ∀ (l : List TType) (std dst : Option TType),
    scanStdDst l std dst =
      (fixStd (std.or (l.find? (fun t => t.isdst == 0))) (dst.or (l.find? (fun t => t.isdst != 0))),
       dst.or (l.find? (fun t => t.isdst != 0)))
  | [], std, dst => by cases std <;> cases dst <;> simp [scanStdDst, fixStd]
  | t :: rest, std, dst => by
      by_cases h : t.isdst = 0 <;> cases std <;> cases dst <;>
        simp [scanStdDst, h, scanStdDst_find rest, fixStd, List.find?_cons]

theorem loop3_brk (heap : Heap) (tc : Int) (refs : List Ref) (is : List Int) (s d : Option Ref) :
    forEach (Gen.readTzfile_loop3_body heap tc refs) is (true, s, d) = .ok (true, s, d) :=
  forEach_fixed (Gen.readTzfile_loop3_body heap tc refs) (true, s, d) (fun _ => rfl) is

/-- one iteration of the backward scan keeps the first standard and the first daylight type seen, and breaks once it has both -/
theorem loop3_body_eq (heap : Heap) (tc : Int) (refs : List Ref) (i : Int) (ρ : Ref) (hg : lget refs i = .ok ρ)
    (std dst : Option Ref) :
    Gen.readTzfile_loop3_body heap tc refs i (false, std, dst) =
      .ok ((std.or (if (hget heap ρ).isdst == 0 then some ρ else none)).isSome &&
             (dst.or (if (hget heap ρ).isdst != 0 then some ρ else none)).isSome,
           std.or (if (hget heap ρ).isdst == 0 then some ρ else none),
           dst.or (if (hget heap ρ).isdst != 0 then some ρ else none)) := by
  unfold Gen.readTzfile_loop3_body
  by_cases h : (hget heap ρ).isdst = 0 <;> cases std <;> cases dst <;>
    simp [hg, h, bind, Except.bind, pure, Except.pure]

theorem or_find?_cons {α} (o : Option α) (p : α → Bool) (x : α) (l : List α) :
    (o.or (if p x then some x else none)).or (l.find? p) = o.or ((x :: l).find? p) := by
  cases o <;> cases h : p x <;> simp [List.find?_cons, h]

theorem loop3_list (heap : Heap) (tc : Int) (refs : List Ref) : ∀ (idxs : List Nat), (∀ i ∈ idxs, i < refs.length) →
    ∀ (std dst : Option Ref),
    ∃ brk, forEach (Gen.readTzfile_loop3_body heap tc refs) (idxs.map fun (i : Nat) => (i : Int)) (false, std, dst) =
      .ok (brk, std.or ((idxs.map (refs.getD · 0)).find? (fun r => (hget heap r).isdst == 0)),
                dst.or ((idxs.map (refs.getD · 0)).find? (fun r => (hget heap r).isdst != 0))) ∧
      (brk = true → (std.or ((idxs.map (refs.getD · 0)).find? (fun r => (hget heap r).isdst == 0))).isSome = true)
  | [], _, std, dst => ⟨false, by simp [forEach], by simp⟩
  | i :: idxs, hall, std, dst => by
      have hi : i < refs.length := hall i (by simp)
      have hg : lget refs (i : Int) = .ok (refs.getD i 0) := by
        rw [lget_nat, List.getElem?_eq_getElem hi]; simp [List.getD_eq_getElem?_getD, List.getElem?_eq_getElem hi]
      simp only [List.map_cons, forEach, loop3_body_eq heap tc refs i _ hg, Except.bind, ← or_find?_cons]
      generalize refs.getD i 0 = ρ
      generalize std.or (if ((hget heap ρ).isdst == 0) = true then some ρ else none) = std'
      generalize dst.or (if ((hget heap ρ).isdst != 0) = true then some ρ else none) = dst'
      cases hs : std'.isSome <;> cases hd : dst'.isSome
      all_goals try exact loop3_list heap tc refs idxs (fun j hj => hall j (by simp [hj])) std' dst'
      -- both found: the loop has broken, and later types do not matter
      obtain ⟨s, rfl⟩ := Option.isSome_iff_exists.mp hs
      obtain ⟨d, rfl⟩ := Option.isSome_iff_exists.mp hd
      exact ⟨true, by simp [loop3_brk], by simp⟩

theorem hget_cons_succ (t : TT) (ts : Heap) (r : Ref) : hget (t :: ts) (r + 1) = hget ts r := by simp [hget]

theorem hget_hmod_isdst (x : Int) : ∀ (h : Heap) (r r' : Ref),
    (hget (hmod (fun o => { o with dstoffset := x }) h r) r').isdst = (hget h r').isdst
  | [], _, _ => rfl
  | _ :: _, 0, 0 => rfl
  | _ :: _, 0, _ + 1 => rfl
  | _ :: _, _ + 1, 0 => rfl
  | t :: ts, r + 1, r' + 1 => by simp only [hmod, hget_cons_succ]; exact hget_hmod_isdst x ts r r'

theorem mapIdx_id {α} : ∀ (l : List α), List.mapIdx (fun _ t => t) l = l
  | [] => rfl
  | a :: l => by simp [List.mapIdx_cons, mapIdx_id l]

theorem hmod_map (x : Int) : ∀ (ts : List TType) (ρ : Ref),
    hmod (fun o => { o with dstoffset := x }) (ts.map ofT) ρ =
      (ts.mapIdx (fun j t => if j = ρ then { t with dstoff := x } else t)).map ofT
  | [], _ => rfl
  | t :: ts, 0 => by simp [hmod, List.mapIdx_cons, ofT, mapIdx_id]
  | t :: ts, ρ + 1 => by simp [hmod, List.mapIdx_cons, hmod_map x ts ρ]

/-- the translated loop's four `last…` names as functions of the model's loop state -/
def genSt (st : LoopSt) : Option Int × Option Int × Option Int × Option Int :=
  (st.lastdstoffset, st.lastdst, if st.lastdst.isSome then some st.lastoffset else none, st.lastbaseoffset)

theorem loop5_body_eq (utc : List Int) (refs : List Ref) (i : Int) (ρ : Ref) (heap : Heap) (st : LoopSt) (acc : List Int)
    (u : Int) (hu : lget utc i = .ok u) (hinv : st.lastbaseoffset.isSome = st.lastdst.isSome) :
    Gen.readTzfile_loop5_body utc refs (i, ρ) (heap, (genSt st).1, (genSt st).2.1, (genSt st).2.2.1, (genSt st).2.2.2, acc) =
      .ok ((match (loopStep st (hget heap ρ).offset (hget heap ρ).isdst).1 with
            | some x => hmod (fun o => { o with dstoffset := x }) heap ρ
            | none => heap),
           (genSt (loopStep st (hget heap ρ).offset (hget heap ρ).isdst).2.2).1,
           (genSt (loopStep st (hget heap ρ).offset (hget heap ρ).isdst).2.2).2.1,
           (genSt (loopStep st (hget heap ρ).offset (hget heap ρ).isdst).2.2).2.2.1,
           (genSt (loopStep st (hget heap ρ).offset (hget heap ρ).isdst).2.2).2.2.2,
           acc ++ [u + (loopStep st (hget heap ρ).offset (hget heap ρ).isdst).2.1]) := by
  obtain ⟨ld, lo, ldo, lb⟩ := st
  unfold Gen.readTzfile_loop5_body
  simp only [genSt, hu, hget_hmod_isdst, bind, Except.bind, pure, Except.pure]
  generalize ho : (hget heap ρ).offset = o
  generalize hd : (hget heap ρ).isdst = d
  rcases ld with _ | ld <;> rcases lb with _ | lb <;> simp at hinv
  · simp [loopStep, genSt, needInt, optTruthy, hd]
  · by_cases hd0 : d = 0
    · subst hd0
      simp only [loopStep, genSt, needInt, optTruthy, hd, hget_hmod_isdst]
      by_cases hc : ¬ o = lb ∧ ¬ 0 = ld <;> simp [hc, hd]
    · simp only [loopStep, genSt, needInt, optTruthy, hd, hget_hmod_isdst]
      have hd1 : (d != 0) = true := by simp [hd0]
      simp only [hd1, Option.isSome_some, ↓reduceIte]
      by_cases hld : ld = 0
      · subst hld
        by_cases hz : o - lo = 0
        · rcases ldo with _ | x
          · simp [hz, hget_hmod_isdst, hd]
            by_cases hc : ¬ o = lb ∧ ¬ d = 0 <;> simp [hc]
          · by_cases hx : x = 0
            · subst hx
              simp [hz, hget_hmod_isdst, hd]
              by_cases hc : ¬ o = lb ∧ ¬ d = 0 <;> simp [hc]
            · simp [hz, hx, hget_hmod_isdst, hd]
              by_cases hc : ¬ o - x = lb ∧ ¬ d = 0 <;> simp [hc]
        · simp [hz, hget_hmod_isdst, hd]
          by_cases hc : ¬ o - (o - lo) = lb ∧ ¬ d = 0 <;> simp [hc]
      · rcases ldo with _ | x
        · simp [hld, hget_hmod_isdst, hd]
          by_cases hc : ¬ o = lb ∧ ¬ d = ld <;> simp [hc]
        · by_cases hx : x = 0
          · subst hx
            simp [hld, hget_hmod_isdst, hd]
            by_cases hc : ¬ o = lb ∧ ¬ d = ld <;> simp [hc]
          · simp [hld, hx, hget_hmod_isdst, hd]
            by_cases hc : ¬ o - x = lb ∧ ¬ d = ld <;> simp [hc]

theorem loopStep_inv (st : LoopSt) (o d : Int) :
    (loopStep st o d).2.2.lastbaseoffset.isSome = (loopStep st o d).2.2.lastdst.isSome := by
  simp [loopStep]

theorem enumFrom_cons {α} (i : Nat) (x : α) (xs : List α) :
    enumFrom i (x :: xs) = ((i : Int), x) :: enumFrom (i + 1) xs := rfl

theorem loop5_from (utc : List Int) (refs : List Ref) (off isd : Ref → Int) :
    ∀ (rest : List Ref) (i : Nat) (ts : List TType) (st : LoopSt) (acc : List Int),
    (∀ ρ, (ts.getD ρ default).off = off ρ ∧ (ts.getD ρ default).isdst = isd ρ) →
    st.lastbaseoffset.isSome = st.lastdst.isSome →
    i + rest.length = utc.length →
    ∃ a b c d, forEach (Gen.readTzfile_loop5_body utc refs) (enumFrom i rest)
        (ts.map ofT, (genSt st).1, (genSt st).2.1, (genSt st).2.2.1, (genSt st).2.2.2, acc) =
      .ok ((applyAssign ts (rest.zip ((dstLoop st (rest.map fun ρ => (off ρ, isd ρ))).map (·.1)))).map ofT, a, b, c, d,
           acc ++ List.zipWith (· + ·) (utc.drop i) ((dstLoop st (rest.map fun ρ => (off ρ, isd ρ))).map (·.2)))
  | [], i, ts, st, acc, _, _, hlen => by
      exact ⟨(genSt st).1, (genSt st).2.1, (genSt st).2.2.1, (genSt st).2.2.2, by simp [enumFrom, forEach, dstLoop, applyAssign]⟩
  | ρ :: rest, i, ts, st, acc, hts, hinv, hlen => by
      have hi : i < utc.length := by simp at hlen; omega
      have hu : lget utc (i : Int) = .ok utc[i] := by rw [lget_nat, List.getElem?_eq_getElem hi]
      have hdrop : utc.drop i = utc[i] :: utc.drop (i + 1) := List.drop_eq_getElem_cons hi
      have ho : (hget (ts.map ofT) ρ).offset = off ρ := by rw [hget_map]; exact (hts ρ).1
      have hd : (hget (ts.map ofT) ρ).isdst = isd ρ := by rw [hget_map]; exact (hts ρ).2
      simp only [enumFrom_cons, forEach]
      rw [loop5_body_eq utc refs i ρ (ts.map ofT) st acc utc[i] hu hinv, ho, hd]
      simp only [Except.bind, List.map_cons, dstLoop, List.zip_cons_cons, hdrop, List.zipWith_cons_cons]
      rcases hass : (loopStep st (off ρ) (isd ρ)).1 with _ | x
      · obtain ⟨a, b, c, d, h⟩ := loop5_from utc refs off isd rest (i + 1) ts _ (acc ++ [utc[i] + (loopStep st (off ρ) (isd ρ)).2.1])
          hts (loopStep_inv st _ _) (by simp at hlen ⊢; omega)
        refine ⟨a, b, c, d, ?_⟩
        simp only [hass, applyAssign] at h ⊢
        rw [h]; simp
      · have hts' : ∀ k, ((ts.mapIdx (fun j t => if j = ρ then { t with dstoff := x } else t)).getD k default).off = off k ∧
            ((ts.mapIdx (fun j t => if j = ρ then { t with dstoff := x } else t)).getD k default).isdst = isd k := by
          intro k
          have := (relL_mapIdx ρ x ts).getD k
          rw [← this.1, ← this.2.1]; exact hts k
        obtain ⟨a, b, c, d, h⟩ := loop5_from utc refs off isd rest (i + 1) _ _ (acc ++ [utc[i] + (loopStep st (off ρ) (isd ρ)).2.1])
          hts' (loopStep_inv st _ _) (by simp at hlen ⊢; omega)
        refine ⟨a, b, c, d, ?_⟩
        simp only [hass, applyAssign, hmod_map] at h ⊢
        rw [h]; simp

theorem loop6_from (before : Option Ref) (heap : Heap) (utc : List Int) (refs : List Ref) :
    ∀ (rest : List Ref) (i : Nat) (prev : Int) (w : List Int × List Int),
    refs.drop i = rest → i + rest.length = utc.length →
    (i = 0 → rest ≠ [] → ∃ b, before = some b ∧ (hget heap b).offset = prev) →
    (0 < i → ∃ ρ', refs[i - 1]? = some ρ' ∧ (hget heap ρ').offset = prev) →
    forEach (Gen.readTzfile_loop6_body before heap utc refs) (enumFrom i rest) w =
      .ok (w.1 ++ (wallLists prev (utc.drop i) (rest.map fun ρ => (hget heap ρ).offset)).1,
           w.2 ++ (wallLists prev (utc.drop i) (rest.map fun ρ => (hget heap ρ).offset)).2)
  | [], i, prev, w, _, hlen, _, _ => by
      have : utc.drop i = [] := List.drop_eq_nil_of_le (by simp at hlen; omega)
      simp [enumFrom, forEach, this, wallLists]
  | ρ :: rest, i, prev, w, hdrop, hlen, h0, hpos => by
      have hi : i < utc.length := by simp at hlen; omega
      have hu : lget utc (i : Int) = .ok utc[i] := by rw [lget_nat, List.getElem?_eq_getElem hi]
      have hud : utc.drop i = utc[i] :: utc.drop (i + 1) := List.drop_eq_getElem_cons hi
      have hir : i < refs.length := by
        apply Nat.lt_of_not_le
        intro hc
        have : refs.drop i = [] := List.drop_eq_nil_of_le hc
        rw [this] at hdrop; cases hdrop
      have hrd : refs.drop i = refs[i] :: refs.drop (i + 1) := List.drop_eq_getElem_cons hir
      rw [hrd] at hdrop
      have hρ : refs[i] = ρ := (List.cons.inj hdrop).1
      have hrest : refs.drop (i + 1) = rest := (List.cons.inj hdrop).2
      have hbefore : (if (decide ((i : Int) > 0)) = true then do
            let t ← lget refs ((i : Int) - 1)
            pure (hget heap t).offset
          else do
            let t ← need before
            pure (hget heap t).offset : R Int) = .ok prev := by
        by_cases hz : i = 0
        · subst hz
          obtain ⟨b, hb1, hb2⟩ := h0 rfl (by simp)
          have hdec : decide (((0 : Nat) : Int) > 0) = false := by simp
          simp only [hdec, Bool.false_eq_true, ↓reduceIte, hb1, need, hb2, bind, Except.bind, pure, Except.pure]
        · have hp : 0 < i := Nat.pos_of_ne_zero hz
          obtain ⟨ρ', h1, h2⟩ := hpos hp
          have hc : ((i : Int) - 1) = ((i - 1 : Nat) : Int) := by omega
          have hdec : decide ((i : Int) > 0) = true := by simp; omega
          simp only [hdec, ↓reduceIte, hc, lget_nat, h1, h2, bind, Except.bind, pure, Except.pure]
      simp only [bind, Except.bind, pure, Except.pure] at hbefore
      simp only [enumFrom_cons, forEach, Gen.readTzfile_loop6_body, bind, Except.bind, pure, Except.pure, hbefore, hu]
      rw [loop6_from before heap utc refs rest (i + 1) ((hget heap ρ).offset) _ hrest (by simp at hlen ⊢; omega)
        (by intro h; omega) (by intro _; exact ⟨ρ, by simp [List.getElem?_eq_getElem hir, hρ], rfl⟩)]
      rw [hud]
      simp only [List.map_cons, wallLists, List.append_assoc, List.cons_append, List.nil_append]

theorem range_map_getD {α} (l : List α) (d : α) : (List.range' 0 l.length).map (l.getD · d) = l := by
  apply List.ext_getElem
  · simp
  · intro i h1 h2
    simp [List.getD_eq_getElem?_getD, List.getElem?_eq_getElem h2]

theorem fixStd_map {α β} (g : α → β) (s d : Option α) : (fixStd s d).map g = fixStd (s.map g) (d.map g) := by
  cases s <;> cases d <;> rfl

theorem rangeDown_eq (len : Nat) : rangeDown ((len : Int) - 1) = (List.range len).reverse.map fun (i : Nat) => (i : Int) := by
  simp [rangeDown, rangeUp, List.map_reverse]

theorem loop3_eq (heap : Heap) (refs : List Ref) :
    Gen.readTzfile_loop3 heap (refs.length : Int) refs none none =
      .ok (fixStd (refs.reverse.find? (fun r => (hget heap r).isdst == 0)) (refs.reverse.find? (fun r => (hget heap r).isdst != 0)),
           refs.reverse.find? (fun r => (hget heap r).isdst != 0)) := by
  unfold Gen.readTzfile_loop3
  rw [rangeDown_eq]
  obtain ⟨brk, h1, h2⟩ := loop3_list heap (refs.length : Int) refs (List.range refs.length).reverse
    (by intro i hi; simpa using hi) none none
  have hrs : (List.range refs.length).reverse.map (refs.getD · 0) = refs.reverse := by
    rw [List.map_reverse, List.range_eq_range', range_map_getD]
  rw [hrs] at h1 h2
  simp only [Option.none_or] at h1 h2
  rw [h1]
  simp only [bind, Except.bind, pure, Except.pure]
  cases brk with
  | true =>
      have := h2 rfl
      cases hs : refs.reverse.find? (fun r => (hget heap r).isdst == 0) with
      | none => rw [hs] at this; simp at this
      | some s => cases refs.reverse.find? (fun r => (hget heap r).isdst != 0) <;> simp [fixStd]
  | false =>
      cases refs.reverse.find? (fun r => (hget heap r).isdst == 0) <;>
        cases refs.reverse.find? (fun r => (hget heap r).isdst != 0) <;> simp [fixStd]

theorem loop4_eq (heap : Heap) (n : Nat) (hn : 0 < n) :
    Gen.readTzfile_loop4 heap (List.range' 0 n) none =
      .ok (some (((List.range' 0 n).find? (fun r => (hget heap r).isdst == 0)).getD 0)) := by
  unfold Gen.readTzfile_loop4
  rw [loop4_list]
  have h0 : lget (List.range' 0 n) 0 = .ok 0 := by
    have := lget_nat (List.range' 0 n) 0
    have hc : ((0 : Nat) : Int) = 0 := rfl
    rw [hc] at this
    rw [this]; simp [List.getElem?_range', hn]
  cases (List.range' 0 n).find? (fun r => (hget heap r).isdst == 0) <;>
    simp [bind, Except.bind, pure, Except.pure, h0]

theorem if6_eq (heap : Heap) (utc : List Int) (refs : List Ref) (n : Nat) :
    Gen.readTzfile_if6 none none none none heap (refs.length : Int) utc refs (List.range' 0 n) =
      .ok (if n = 0 then (none, none, none, none)
           else if utc = [] then (some 0, some 0, none, none)
           else (fixStd (refs.reverse.find? (fun r => (hget heap r).isdst == 0)) (refs.reverse.find? (fun r => (hget heap r).isdst != 0)),
                 none, some (((List.range' 0 n).find? (fun r => (hget heap r).isdst == 0)).getD 0),
                 refs.reverse.find? (fun r => (hget heap r).isdst != 0))) := by
  unfold Gen.readTzfile_if6
  by_cases hn : n = 0
  · subst hn; simp [pure, Except.pure]
  · have hpos : 0 < n := Nat.pos_of_ne_zero hn
    have hne : (List.range' 0 n).isEmpty = false := by
      cases n with
      | zero => exact absurd rfl hn
      | succ k => simp [List.range'_succ]
    have h0 : lget (List.range' 0 n) 0 = .ok 0 := by
      have := lget_nat (List.range' 0 n) 0
      have hc : ((0 : Nat) : Int) = 0 := rfl
      rw [hc] at this
      rw [this]; simp [List.getElem?_range', hpos]
    by_cases hu : utc = []
    · subst hu
      simp [hn, hne, h0, bind, Except.bind, pure, Except.pure]
    · have hue : utc.isEmpty = false := List.isEmpty_eq_false_iff.mpr hu
      simp [hn, hne, hu, hue, loop3_eq, loop4_eq heap n hpos, bind, Except.bind, pure, Except.pure]

theorem loop5_eq (utc : List Int) (refs : List Ref) (ts : List TType) (hlen : refs.length = utc.length) :
    ∃ a b c d, Gen.readTzfile_loop5 utc refs (ts.map ofT) none none none none [] =
      .ok ((applyAssign ts (refs.zip ((dstLoop {} (refs.map fun ρ => ((ts.getD ρ default).off, (ts.getD ρ default).isdst))).map (·.1)))).map ofT,
           a, b, c, d,
           List.zipWith (· + ·) utc ((dstLoop {} (refs.map fun ρ => ((ts.getD ρ default).off, (ts.getD ρ default).isdst))).map (·.2))) := by
  obtain ⟨a, b, c, d, h⟩ := loop5_from utc refs (fun ρ => (ts.getD ρ default).off) (fun ρ => (ts.getD ρ default).isdst)
    refs 0 ts {} [] (fun _ => ⟨rfl, rfl⟩) rfl (by simpa using hlen)
  refine ⟨a, b, c, d, ?_⟩
  unfold Gen.readTzfile_loop5
  have hg : genSt {} = (none, none, none, none) := rfl
  simp only [hg] at h
  simp only [enum, h, bind, Except.bind, pure, Except.pure, List.nil_append, List.drop_zero]

theorem loop6_eq (before : Option Ref) (heap : Heap) (utc : List Int) (refs : List Ref) (prev : Int)
    (hlen : refs.length = utc.length)
    (hb : refs ≠ [] → ∃ b, before = some b ∧ (hget heap b).offset = prev) :
    Gen.readTzfile_loop6 before heap utc refs ([], []) =
      .ok (wallLists prev utc (refs.map fun ρ => (hget heap ρ).offset)) := by
  unfold Gen.readTzfile_loop6
  have := loop6_from before heap utc refs refs 0 prev ([], []) rfl (by simpa using hlen) (fun _ h => hb h)
    (fun h => absurd h (Nat.lt_irrefl 0))
  simp only [enum, this, bind, Except.bind, pure, Except.pure, List.nil_append, List.drop_zero]

theorem deltaOk_map (ts : List TType) : (ts.map ofT).all (fun t => t.delta == t.offset) = true := by
  simp [List.all_map, ofT]

/-- the second part of the translated reader, started on what the first part hands over, builds the model's zone -/
theorem build_eq (r : Raw) (hok : Raw.ok r = true) (s0 d0 b0 : Option Ref) :
    (Gen.readTzfile_build s0 d0 b0 none (r.types.map ofT) (r.trans.length : Int) (r.trans.map (·.1)) (r.trans.map (·.2))
      (List.range' 0 r.types.length)).map (fun o => (o.view, o.deltaOk)) = .ok (build r, true) := by
  by_cases htr : r.trans = []
  · obtain ⟨trans, types⟩ := r
    simp only at htr; subst htr
    cases types with
    | nil =>
        have hif := if6_eq ([] : Heap) [] [] 0
        simp at hif
        simp [Gen.readTzfile_build, hif, Gen.readTzfile_loop5, Gen.readTzfile_loop6, enum, enumFrom, forEach, bind,
          Except.bind, pure, Except.pure, Except.map, Out.view, Out.deltaOk, build, finalTypes, assemble, applyAssign,
          dstLoop]
    | cons t0 ts =>
        have hif := if6_eq ((t0 :: ts).map ofT) [] [] (t0 :: ts).length
        simp only [Gen.readTzfile_build, List.map_nil, List.length_nil] at hif ⊢
        simp only [hif, bind, Except.bind]
        simp [Gen.readTzfile_loop5, Gen.readTzfile_loop6, enum, enumFrom, forEach, bind,
          Except.bind, pure, Except.pure, Except.map, Out.view, Out.deltaOk, build, finalTypes, assemble, applyAssign,
          dstLoop, hget_map, range_map_getD, deltaOk_map]
        have e : ofT t0 :: List.map ofT ts = (t0 :: ts).map ofT := rfl
        refine ⟨⟨?_, ?_⟩, by simp [ofT], by intro x _; simp [ofT]⟩
        · rw [e]; simp only [hget_map, toModel_ofT]; exact range_map_getD (t0 :: ts) default
        · rw [e, hget_map]; simp
  ·
    have hseq : r.trans.map (fun p => let t := r.types.getD p.2 default; (t.off, t.isdst)) =
        (r.trans.map (·.2)).map (fun ρ => ((r.types.getD ρ default).off, (r.types.getD ρ default).isdst)) := by
      simp [List.map_map, Function.comp_def]
    have hFTdef : finalTypes r = applyAssign r.types ((r.trans.map (·.2)).zip
        ((dstLoop {} ((r.trans.map (·.2)).map (fun ρ => ((r.types.getD ρ default).off, (r.types.getD ρ default).isdst)))).map (·.1))) := by
      unfold finalTypes; rw [hseq]
    have hbuild : build r = assemble (r.trans.map (·.1)) ((r.trans.map (·.2)).map (fun ρ => (finalTypes r).getD ρ default))
        (finalTypes r) := by
      unfold build; simp [List.map_map, Function.comp_def]
    have hall : ∀ ρ ∈ r.trans.map (·.2), ρ < r.types.length := by
      intro ρ hρ
      simp only [List.mem_map] at hρ
      obtain ⟨p, hp, rfl⟩ := hρ
      simp only [Raw.ok, List.all_eq_true, decide_eq_true_eq] at hok
      exact hok p hp
    have hlen : (r.trans.map (·.2)).length = (r.trans.map (·.1)).length := by simp
    have hlen2 : (r.trans.length : Int) = ((r.trans.map (·.2)).length : Int) := by simp
    have hrne : r.trans.map (·.2) ≠ [] := by simpa using htr
    have hune : r.trans.map (·.1) ≠ [] := by simpa using htr
    rw [hbuild, hlen2]
    generalize r.trans.map (·.2) = refs at *
    generalize r.trans.map (·.1) = utc at *
    have hFTg : ∀ k, ((finalTypes r).getD k default).off = (r.types.getD k default).off ∧
        ((finalTypes r).getD k default).isdst = (r.types.getD k default).isdst :=
      fun k => ⟨((relL_final r).getD k).1.symm, ((relL_final r).getD k).2.1.symm⟩
    have hFTl : (finalTypes r).length = r.types.length := (relL_final r).length.symm
    obtain ⟨a, b, c, d, h5⟩ := loop5_eq utc refs r.types hlen
    rw [← hFTdef] at h5
    have hseq2 : refs.map (fun ρ => ((r.types.getD ρ default).off, (r.types.getD ρ default).isdst)) =
        (refs.map (fun ρ => (finalTypes r).getD ρ default)).map (fun t => (t.off, t.isdst)) := by
      simp only [List.map_map, Function.comp_def, (hFTg _).1, (hFTg _).2]
    rw [hseq2] at h5
    generalize hFT : finalTypes r = FT at *
    have hnpos : 0 < r.types.length := by
      cases refs with
      | nil => exact absurd rfl hrne
      | cons ρ _ => exact Nat.lt_of_le_of_lt (Nat.zero_le _) (hall ρ (by simp))
    have hn0 : r.types.length ≠ 0 := Nat.ne_of_gt hnpos
    have hg : ∀ ρ, (hget (FT.map ofT) ρ).toModel = FT.getD ρ default := by intro ρ; rw [hget_map, toModel_ofT]
    have hisd : ∀ ρ, (hget (r.types.map ofT) ρ).isdst = (FT.getD ρ default).isdst := by
      intro ρ; rw [hget_map]; exact (hFTg ρ).2.symm
    have hFTr : (List.range' 0 r.types.length).map (fun ρ => FT.getD ρ default) = FT := by
      rw [← hFTl]; exact range_map_getD FT default
    have hif := if6_eq (r.types.map ofT) utc refs r.types.length
    simp only [hn0, hune, ↓reduceIte, hisd] at hif
    unfold Gen.readTzfile_build
    simp only [hif, h5, bind, Except.bind]
    generalize hρb : ((List.range' 0 r.types.length).find? (fun r => (FT.getD r default).isdst == 0)).getD 0 = ρb
    rw [loop6_eq (some ρb) (FT.map ofT) utc refs ((hget (FT.map ofT) ρb).offset) hlen (fun _ => ⟨ρb, rfl, rfl⟩)]
    simp only [pure, Except.pure, Except.map, Out.view, Out.deltaOk, deltaOk_map, hg, Except.ok.injEq, Prod.mk.injEq, and_true]
    have hFTne : FT ≠ [] := by intro h; rw [h] at hFTl; simp at hFTl; omega
    obtain ⟨t0, FT', hFTc⟩ : ∃ t0 FT', FT = t0 :: FT' := by
      cases FT with
      | nil => exact absurd rfl hFTne
      | cons t0 FT' => exact ⟨t0, FT', rfl⟩
    have hue : utc.isEmpty = false := List.isEmpty_eq_false_iff.mpr hune
    have hbefore : (match FT.find? (fun t => t.isdst == 0) with | some t => some t | none => FT.head?) =
        some (FT.getD ρb default) := by
      rw [← hρb]
      have hfm : FT.find? (fun t => t.isdst == 0) =
          ((List.range' 0 r.types.length).find? (fun ρ => (FT.getD ρ default).isdst == 0)).map (fun ρ => FT.getD ρ default) := by
        conv => lhs; rw [← hFTr]
        rw [List.find?_map]; rfl
      rw [hfm]
      cases hf : (List.range' 0 r.types.length).find? (fun ρ => (FT.getD ρ default).isdst == 0) with
      | some ρ => simp
      | none => rw [hFTc]; simp
    have hsd : scanStdDst (refs.map (fun ρ => FT.getD ρ default)).reverse none none =
        ((fixStd (refs.reverse.find? (fun r => (FT.getD r default).isdst == 0))
            (refs.reverse.find? (fun r => (FT.getD r default).isdst != 0))).map (fun ρ => FT.getD ρ default),
         (refs.reverse.find? (fun r => (FT.getD r default).isdst != 0)).map (fun ρ => FT.getD ρ default)) := by
      rw [scanStdDst_find, ← List.map_reverse, List.find?_map, List.find?_map]
      simp only [Option.none_or, fixStd_map]; rfl
    have hoff : ∀ ρ, (hget (FT.map ofT) ρ).offset = (FT.getD ρ default).off := by intro ρ; rw [hget_map]; rfl
    subst hFTc
    unfold assemble
    simp only [hsd, hue, List.isEmpty_cons, Bool.or_self, Bool.false_eq_true, ↓reduceIte, hbefore, hoff, hFTr, Option.map_some,
      List.map_map, Function.comp_def]
    generalize hfd : List.find? (fun t => t.isdst == 0) (t0 :: FT') = fd at hbefore ⊢
    cases fd with
    | some t => simp only [Option.some.injEq] at hbefore; simp only [hbefore]
    | none => simp only [List.head?_cons, Option.some.injEq] at hbefore; simp only [List.head?_cons]; rw [← hbefore]

end TzifGen
