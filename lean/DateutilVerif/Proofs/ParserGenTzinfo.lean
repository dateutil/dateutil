/-
  Proofs/ParserGenTzinfo.lean — `parser._build_tzinfo` re-translated from /repo's parser/_parser.py (Generated/ParserOps.lean:
  `Gen.P.buildTzinfo`: callable vs mapping, then the isinstance cascade tzinfo-or-None / text → `tz.tzstr` / int →
  `tz.tzoffset` / TypeError) against the model's `PM.buildTzinfo`: for a `tzinfos` that is a callable or a mapping, the zone
  descriptor of `naive.replace(tzinfo=<returned object>)` (or the exception) is the model's.
-/
import DateutilVerif.Generated.ParserOps

namespace PGen
open PM Py

/-- the isinstance cascade on the value the user's `tzinfos` gave -/
theorem tzinfo_cascade (name : Option Token) (d : TzData) : d ≠ .raises →
    (Except.bind (if (((PPy.isTzinfoObj d) = true) ∨ (d = PM.TzData.noneVal)) then
        (.ok (PPy.TzObj.data d) : R PPy.TzObj)
      else
        Except.bind (if ((PPy.isText d) = true) then
            Except.bind (PPy.mkTzstr d) (fun z_4 => .ok z_4)
          else
            Except.bind (if ((PPy.isInt d) = true) then
                Except.bind (PPy.mkTzoffset name d) (fun z_5 => .ok z_5)
              else .error .TypeError) (fun j_6 => .ok j_6)) (fun j_7 => .ok j_7)) (fun j_8 => .ok j_8)).map (PPy.descrOf name) =
    (match d with
      | .obj k => pure (.viaTzinfos (.obj k) name)
      | .noneVal => pure (.viaTzinfos .noneVal name)
      | .str s => do
        tzstrCtor s
        pure (.viaTzinfos (.str s) name)
      | .int n => fixedZone name n
      | .bad => throw .TypeError
      | .raises => throw .ValueError : R TzDescr) := by
  intro hd
  cases d with
  | obj k => rfl
  | noneVal => rfl
  | str s =>
    simp only [PPy.isTzinfoObj, PPy.isText, PPy.mkTzstr]
    cases tzstrCtor s <;> rfl
  | int n =>
    simp only [PPy.isTzinfoObj, PPy.isText, PPy.isInt, PPy.mkTzoffset, PM.fixedZone]
    cases offsetOk n <;> rfl
  | bad => rfl
  | raises => exact absurd rfl hd

/-- `parser._build_tzinfo`, for a callable or a mapping: the descriptor of the zone it builds = `PM.buildTzinfo` -/
theorem buildTzinfo_eq (info : Info) (tzi : TzInfos) (name : Option Token) (off : Option Int) (h : tzi ≠ .absent) :
    (Gen.P.buildTzinfo info tzi name off).map (PPy.descrOf name) = PM.buildTzinfo tzi name off := by
  unfold Gen.P.buildTzinfo PM.buildTzinfo
  have key : ∀ d : TzData, PPy.tziArrive d = .ok d ∨ (d = .raises ∧ PPy.tziArrive d = .error .ValueError) := by
    intro d; unfold PPy.tziArrive; by_cases hd : d = .raises <;> simp [hd]
  -- which value arrives
  have arrive : ∀ d : TzData, (∀ r : R TzData, r = PPy.tziArrive d →
      (Except.bind (Except.bind r (fun td => (.ok td : R TzData))) (fun j_3 =>
        Except.bind (if (((PPy.isTzinfoObj j_3) = true) ∨ (j_3 = PM.TzData.noneVal)) then
            (.ok (PPy.TzObj.data j_3) : R PPy.TzObj)
          else
            Except.bind (if ((PPy.isText j_3) = true) then
                Except.bind (PPy.mkTzstr j_3) (fun z_4 => .ok z_4)
              else
                Except.bind (if ((PPy.isInt j_3) = true) then
                    Except.bind (PPy.mkTzoffset name j_3) (fun z_5 => .ok z_5)
                  else .error .TypeError) (fun j_6 => .ok j_6)) (fun j_7 => .ok j_7)) (fun j_8 => .ok j_8))).map (PPy.descrOf name) =
      (match d with
        | .obj k => pure (.viaTzinfos (.obj k) name)
        | .noneVal => pure (.viaTzinfos .noneVal name)
        | .str s => do
          tzstrCtor s
          pure (.viaTzinfos (.str s) name)
        | .int n => fixedZone name n
        | .bad => throw .TypeError
        | .raises => throw .ValueError : R TzDescr)) := by
    intro d r hr
    rcases key d with hk | ⟨hd, hk⟩
    · rw [hr, hk]
      have hd : d ≠ .raises := by
        intro hd; subst hd; simp [PPy.tziArrive] at hk
      exact tzinfo_cascade name d hd
    · rw [hr, hk, hd]; rfl
  cases tzi with
  | absent => exact absurd rfl h
  | mapping entries =>
    simp only [PPy.tziCallable, Bool.false_eq_true, if_false, PPy.tziGet]
    exact arrive _ _ rfl
  | callable entries dflt =>
    simp only [PPy.tziCallable, if_true, PPy.tziCall]
    cases hl : lookupKey entries name with
    | some d => exact arrive d _ rfl
    | none =>
      cases dflt with
      | data d => exact arrive d _ rfl
      | echoOffset =>
        cases off with
        | none => exact arrive .noneVal (.ok .noneVal) (by simp [PPy.tziArrive])
        | some n => exact arrive (.int n) (.ok (.int n)) (by simp [PPy.tziArrive])

end PGen
