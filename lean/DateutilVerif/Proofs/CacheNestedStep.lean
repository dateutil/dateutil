/-
  Proofs/CacheNestedStep.lean — the invariant of the nested machine is preserved by every step of
  every runner (C11, nested cached objects).
-/
import DateutilVerif.Proofs.CacheNested
import DateutilVerif.Proofs.RSetHistory

namespace Nested
open Cache Queries

theorem set_get {α} (l : List α) (i j : Nat) (a x : α) (h : (l.set i a)[j]? = some x) :
    (i = j ∧ x = a) ∨ (i ≠ j ∧ l[j]? = some x) := by
  by_cases e : i = j
  · subst e
    by_cases hlt : i < l.length
    · rw [List.getElem?_set_self hlt] at h; cases h; exact Or.inl ⟨rfl, rfl⟩
    · rw [List.getElem?_eq_none (by simp; omega)] at h; cases h
  · rw [List.getElem?_set_ne e] at h; exact Or.inr ⟨e, h⟩

theorem step_threads {M M' : Cache.State} {t : Tid} (h : Cache.step M t = some M') :
    ∃ it it', M.its[t]? = some it ∧ M'.its[t]? = some it' ∧ stepIter M.sh t it = some (M'.sh, it') ∧
      (∀ t', t' ≠ t → M'.its[t']? = M.its[t']?) := by
  obtain ⟨it, sh', it', hit, hst, rfl⟩ := step_eq h
  exact ⟨it, it', hit, List.getElem?_set_self_of_getElem? hit, hst, fun t' e => List.getElem?_set_ne (Ne.symm e)⟩

theorem pcOf_other {M M' : Cache.State} {t t' : Tid} (h : Cache.step M t = some M') (e : t' ≠ t) :
    pcOf M' t' = pcOf M t' := by
  obtain ⟨_, _, _, _, _, hoth⟩ := step_threads h
  unfold pcOf; rw [hoth t' e]

/-- `pullLive` only looks at the owned iterators of the set -/
theorem pullLive_congr {ns ns' : NState} {S S' : SetM} (p : Pull) (hsubs : S'.subs = S.subs)
    (h : ∀ (m : Nat) (tid : Tid), S.subs[pullIdx p]? = some (m, tid) →
      (ns'.members[m]?).map (fun M => pcOf M tid) = (ns.members[m]?).map (fun M => pcOf M tid)) :
    pullLive ns' S' p = pullLive ns S p := by
  unfold pullLive
  rw [hsubs]
  cases hs : S.subs[pullIdx p]? with
  | none => rfl
  | some mt =>
    obtain ⟨m, tid⟩ := mt
    have := h m tid hs
    simp only []
    cases h1 : ns'.members[m]? with
    | none =>
      cases h2 : ns.members[m]? with
      | none => rfl
      | some M2 => rw [h1, h2] at this; simp at this
    | some M1 =>
      cases h2 : ns.members[m]? with
      | none => rw [h1, h2] at this; simp at this
      | some M2 =>
        rw [h1, h2] at this
        simp only [Option.map_some, Option.some.injEq] at this
        simp only [this]

theorem normPulls_head {ns : NState} {S : SetM} {l : List Pull} {p : Pull} {rest : List Pull}
    (h : normPulls ns S l = p :: rest) : pullLive ns S p = true := by
  induction l with
  | nil => simp [normPulls] at h
  | cons q qs ih =>
    unfold normPulls at h
    by_cases hq : pullLive ns S q = true
    · rw [if_pos hq] at h; cases h; exact hq
    · rw [if_neg hq] at h; exact ih h

/-- an owned iterator that is inside the critical section after a pull step has not completed the pull -/
theorem crit_not_fin {M M' : Cache.State} {tid : Tid} {it' : Iter} (h : Cache.step M tid = some M')
    (hit' : M'.its[tid]? = some it') (hc : it'.pc.inCrit = true) :
    ¬ (RSet.yieldedLen M tid < RSet.yieldedLen M' tid) ∧ pcOf M' tid ≠ .done ∧
    (RSet.inDispatch (pcOf M tid) = true → False) := by
  obtain ⟨it, it2, hit, hit2, hst, _⟩ := step_threads h
  rw [hit'] at hit2; cases hit2
  refine ⟨?_, ?_, ?_⟩
  · rw [RSet.yieldedLen_eq hit, RSet.yieldedLen_eq hit']
    rcases (stepIter_q hst).2 with e | ⟨x, e, hpc⟩
    · rw [e]; omega
    · have := yield_parked hst hpc
      rw [this] at hc; cases hc
  · rw [pcOf_eq hit']; intro hd; rw [hd] at hc; cases hc
  · intro hd
    rw [pcOf_eq hit] at hd
    have := (RSet.dispatch_step hd hst).2
    rw [this] at hc; cases hc

theorem ninv_member_step {ns : NState} (hi : NInv ns) {m : Nat} {t : Tid} {M M' : Cache.State}
    (hM : ns.members[m]? = some M) (hnsub : ¬ IsSub ns m t) (hst : Cache.step M t = some M') :
    NInv { ns with members := ns.members.set m M' } := by
  have hpc : ∀ (si : Nat) (S : SetM) (k m' : Nat) (tid : Tid), ns.sets[si]? = some S → S.subs[k]? = some (m', tid) →
      ((ns.members.set m M')[m']?).map (fun X => pcOf X tid) = (ns.members[m']?).map (fun X => pcOf X tid) := by
    intro si S k m' tid hS hk
    by_cases e : m = m'
    · subst e
      have hne : tid ≠ t := by intro e; subst e; exact hnsub ⟨si, S, k, hS, hk⟩
      rw [List.getElem?_set_self (lt_of_getElem?' hM), hM]
      simp only [Option.map_some, pcOf_other hst hne]
    · rw [List.getElem?_set_ne e]
  refine ⟨hi.noshare, ?_, hi.sinv, hi.at138, ?_, ?_, hi.subuniq⟩
  · intro m' X hX
    rcases set_get _ _ _ _ _ hX with ⟨_, rfl⟩ | ⟨_, hX'⟩
    · exact inv_step' (hi.minv m M hM) hst
    · exact hi.minv m' X hX'
  · intro si S p rest hS hp
    rw [pullLive_congr (ns := ns) (S := S) p rfl (fun m' tid hk => hpc si S _ m' tid hS hk)]
    exact hi.headok si S p rest hS hp
  · intro si S k m' tid X it hS hk hX hit hc
    rcases set_get _ _ _ _ _ hX with ⟨e, rfl⟩ | ⟨_, hX'⟩
    · subst e
      have hne : tid ≠ t := by intro e; subst e; exact hnsub ⟨si, S, k, hS, hk⟩
      obtain ⟨_, _, _, _, _, hoth⟩ := step_threads hst
      rw [hoth tid hne] at hit
      exact hi.subcrit si S k m tid M it hS hk hM hit hc
    · exact hi.subcrit si S k m' tid X it hS hk hX' hit hc

theorem ninv_pull_step {ns : NState} (hi : NInv ns) {si : Nat} {S : SetM} {p : Pull} {rest : List Pull}
    {m : Nat} {tid : Tid} {M M' : Cache.State}
    (hS : ns.sets[si]? = some S) (hp : S.pulls = p :: rest) (hsub : S.subs[pullIdx p]? = some (m, tid))
    (hM : ns.members[m]? = some M) (hst : Cache.step M tid = some M') (pulls' : List Pull) (fin : Bool)
    (hfin : fin = pullFin p M M' tid)
    (hpulls : pulls' = (if fin = true then normPulls { ns with members := ns.members.set m M' } S rest else p :: rest)) :
    NInv { ns with members := ns.members.set m M', sets := ns.sets.set si { S with pulls := pulls' } } := by
  have hmlt := lt_of_getElem?' hM
  have hslt := lt_of_getElem?' hS
  have hlive := hi.headok si S p rest hS hp
  -- owned iterators other than (m, tid) are untouched
  have hpc : ∀ (si' : Nat) (S' : SetM) (k m' : Nat) (tid' : Tid), ns.sets[si']? = some S' → S'.subs[k]? = some (m', tid') →
      (m', tid') ≠ (m, tid) →
      ((ns.members.set m M')[m']?).map (fun X => pcOf X tid') = (ns.members[m']?).map (fun X => pcOf X tid') := by
    intro si' S' k m' tid' hS' hk hne
    by_cases e : m = m'
    · subst e
      have hne' : tid' ≠ tid := by intro e; subst e; exact hne rfl
      rw [List.getElem?_set_self hmlt, hM]
      simp only [Option.map_some, pcOf_other hst hne']
    · rw [List.getElem?_set_ne e]
  obtain ⟨it, it', hit, hit', hsi, hoth⟩ := step_threads hst
  refine ⟨hi.noshare, ?_, ?_, ?_, ?_, ?_, ?_⟩
  · intro m' X hX
    rcases set_get _ _ _ _ _ hX with ⟨_, rfl⟩ | ⟨_, hX'⟩
    · exact inv_step' (hi.minv m M hM) hst
    · exact hi.minv m' X hX'
  · intro si' S' hS'
    rcases set_get _ _ _ _ _ hS' with ⟨_, rfl⟩ | ⟨_, hS''⟩
    · exact hi.sinv si S hS
    · exact hi.sinv si' S' hS''
  · intro si' S' hS' hne
    rcases set_get _ _ _ _ _ hS' with ⟨_, rfl⟩ | ⟨_, hS''⟩
    · exact hi.at138 si S hS (by rw [hp]; simp)
    · exact hi.at138 si' S' hS'' hne
  · -- headok
    intro si' S' q qs hS' hq
    rcases set_get _ _ _ _ _ hS' with ⟨_, rfl⟩ | ⟨hne, hS''⟩
    · simp only [] at hq
      rw [hpulls] at hq
      have hcongr : ∀ q', pullLive { ns with members := ns.members.set m M', sets := ns.sets.set si { S with pulls := pulls' } }
          { S with pulls := pulls' } q' = pullLive { ns with members := ns.members.set m M' } S q' :=
        fun q' => pullLive_congr q' rfl (fun _ _ _ => rfl)
      rw [hcongr]
      cases hf : fin with
      | true =>
        rw [hf] at hq
        simp only [↓reduceIte] at hq
        exact normPulls_head hq
      | false =>
        rw [hf] at hq hfin
        simp only [Bool.false_eq_true, ↓reduceIte] at hq
        cases hq
        -- the pull is still live
        unfold pullLive
        rw [hsub]
        simp only [List.getElem?_set_self hmlt]
        cases p with
        | next k =>
          simp only [pullFin] at hfin ⊢
          have := hfin.symm
          simp only [Bool.or_eq_false_iff, beq_eq_false_iff_ne] at this
          simp only [Bool.not_eq_true', beq_eq_false_iff_ne]
          exact this.2
        | create k =>
          simp only [pullFin] at hfin ⊢
          have := hfin.symm
          simpa using this
    · have := hi.headok si' S' q qs hS'' hq
      rw [← this]
      apply pullLive_congr q rfl
      intro m' tid' hk
      apply hpc si' S' _ m' tid' hS'' hk
      intro e
      cases e
      exact hne (hi.subuniq si si' S S' _ _ m tid hS hS'' hsub hk).1
  · -- subcrit
    intro si' S' k m' tid' X itx hS' hk hX hitx hc
    by_cases e : (m', tid') = (m, tid)
    · cases e
      -- the iterator that was just advanced: still in the critical section, so the pull goes on
      have hS'orig : ∃ S0, ns.sets[si']? = some S0 ∧ S0.subs = S'.subs := by
        rcases set_get _ _ _ _ _ hS' with ⟨e0, rfl⟩ | ⟨_, hS''⟩
        · subst e0; exact ⟨S, hS, rfl⟩
        · exact ⟨S', hS'', rfl⟩
      obtain ⟨S0, hS0, hsubs0⟩ := hS'orig
      have ⟨e1, e2⟩ := hi.subuniq si si' S S0 (pullIdx p) k m tid hS hS0 hsub (by rw [hsubs0]; exact hk)
      subst e1
      rcases set_get _ _ _ _ _ hS' with ⟨_, rfl⟩ | ⟨hne, _⟩
      · rw [List.getElem?_set_self hmlt] at hX
        cases hX
        rw [hit'] at hitx; cases hitx
        obtain ⟨c1, c2, c3⟩ := crit_not_fin hst hit' hc
        refine ⟨p, rest, ?_, e2⟩
        simp only []
        rw [hpulls]
        have hfin' : fin = false := by
          rw [hfin]
          cases p with
          | next k => simp [pullFin, c1, c2]
          | create k =>
            exfalso
            apply c3
            unfold pullLive at hlive
            rw [hsub] at hlive
            simpa [hM] using hlive
        rw [hfin']; simp
      · exact absurd rfl hne
    · -- another owned iterator: untouched
      have hitx' : ∃ X0, ns.members[m']? = some X0 ∧ X0.its[tid']? = some itx := by
        rcases set_get _ _ _ _ _ hX with ⟨e', rfl⟩ | ⟨_, hX'⟩
        · subst e'
          have hne' : tid' ≠ tid := by intro e'; subst e'; exact e rfl
          rw [hoth tid' hne'] at hitx
          exact ⟨M, hM, hitx⟩
        · exact ⟨X, hX', hitx⟩
      obtain ⟨X0, hX0, hitx0⟩ := hitx'
      rcases set_get _ _ _ _ _ hS' with ⟨_, rfl⟩ | ⟨_, hS''⟩
      · -- same set, other slot: it was not in the critical section (the head pull is on another slot)
        simp only [] at hk
        obtain ⟨q, qs, hq, hqk⟩ := hi.subcrit si S k m' tid' X0 itx hS hk hX0 hitx0 hc
        rw [hp] at hq; cases hq
        rw [hqk] at hsub
        rw [hk] at hsub; cases hsub
        exact absurd rfl e
      · exact hi.subcrit si' S' k m' tid' X0 itx hS'' hk hX0 hitx0 hc
  · intro s1 s2 S1 S2 k1 k2 m' tid' h1 h2 hk1 hk2
    have g : ∀ (sx : Nat) (Sx : SetM), (ns.sets.set si { S with pulls := pulls' })[sx]? = some Sx →
        ∃ S0, ns.sets[sx]? = some S0 ∧ S0.subs = Sx.subs := by
      intro sx Sx h
      rcases set_get _ _ _ _ _ h with ⟨e, rfl⟩ | ⟨_, h'⟩
      · subst e; exact ⟨S, hS, rfl⟩
      · exact ⟨Sx, h', rfl⟩
    obtain ⟨A, hA, eA⟩ := g s1 S1 h1
    obtain ⟨B, hB, eB⟩ := g s2 S2 h2
    exact hi.subuniq s1 s2 A B k1 k2 m' tid' hA hB (by rw [eA]; exact hk1) (by rw [eB]; exact hk2)

theorem ninv_flat_step {ns : NState} (hi : NInv ns) {si : Nat} {S : SetM} {t : Tid} {st' : Cache.State}
    (hS : ns.sets[si]? = some S) (hnot : ¬ ((pcOf S.st t == .l138 && !S.pulls.isEmpty) = true))
    (hst : Cache.step S.st t = some st') (S2 : SetM)
    (hS2 : S2 = if (pcOf st' t == .l138) = true
      then { S with st := st', pulls := normPulls ns { S with st := st' } (S.plan.getD st'.sh.genPos []) }
      else { S with st := st' }) :
    NInv { ns with sets := ns.sets.set si S2 } := by
  have hslt := lt_of_getElem?' hS
  obtain ⟨it, it', hit, hit', hsi, hoth⟩ := step_threads hst
  have hsubs2 : S2.subs = S.subs := by rw [hS2]; split <;> rfl
  have hst2 : S2.st = st' := by rw [hS2]; split <;> rfl
  -- line 138 is reached only when no pull is pending
  have hload : pcOf st' t = .l138 → S.pulls = [] := by
    intro hpc
    cases hpl : S.pulls with
    | nil => rfl
    | cons p rest =>
      exfalso
      obtain ⟨t0, it0, hit0, hpc0⟩ := hi.at138 si S hS (by rw [hpl]; simp)
      have hne : t0 ≠ t := by
        intro e; subst e
        apply hnot
        simp [pcOf_eq hit0, hpc0, hpl]
      rw [pcOf_eq hit'] at hpc
      have h137 := arrive_l138 hsi hpc
      have hInv := hi.sinv si S hS
      have l1 := (hInv.lockinv t it hit).mp (by rw [h137]; rfl)
      have l2 := (hInv.lockinv t0 it0 hit0).mp (by rw [hpc0]; rfl)
      rw [l1] at l2; cases l2; exact hne rfl
  have hpulls2 : (pcOf st' t == .l138) = false → S2.pulls = S.pulls := by
    intro h; rw [hS2, h]; rfl
  have hmem : ∀ q S', S'.subs = S.subs → pullLive { ns with sets := ns.sets.set si S2 } S' q = pullLive ns S q :=
    fun q S' h => pullLive_congr q h (fun _ _ _ => rfl)
  refine ⟨hi.noshare, hi.minv, ?_, ?_, ?_, ?_, ?_⟩
  · intro si' S' hS'
    rcases set_get _ _ _ _ _ hS' with ⟨_, rfl⟩ | ⟨_, hS''⟩
    · rw [hst2]; exact inv_step' (hi.sinv si S hS) hst
    · exact hi.sinv si' S' hS''
  · intro si' S' hS' hne
    rcases set_get _ _ _ _ _ hS' with ⟨_, rfl⟩ | ⟨_, hS''⟩
    · rw [hst2]
      cases hl : (pcOf st' t == .l138) with
      | true =>
        refine ⟨t, it', hit', ?_⟩
        have := (beq_iff_eq).mp hl
        rwa [pcOf_eq hit'] at this
      | false =>
        rw [hpulls2 hl] at hne
        obtain ⟨t0, it0, hit0, hpc0⟩ := hi.at138 si S hS hne
        have hne0 : t0 ≠ t := by
          intro e; subst e
          apply hnot
          cases hpl : S.pulls with
          | nil => exact absurd hpl hne
          | cons p rest => simp [pcOf_eq hit0, hpc0]
        exact ⟨t0, it0, by rw [hoth t0 hne0]; exact hit0, hpc0⟩
    · exact hi.at138 si' S' hS'' hne
  · intro si' S' q qs hS' hq
    rcases set_get _ _ _ _ _ hS' with ⟨_, rfl⟩ | ⟨_, hS''⟩
    · rw [hmem q _ hsubs2]
      cases hl : (pcOf st' t == .l138) with
      | true =>
        rw [hS2, hl] at hq
        simp only [↓reduceIte] at hq
        have := normPulls_head hq
        rw [← this]
        exact (pullLive_congr q rfl (fun _ _ _ => rfl)).symm
      | false =>
        rw [hpulls2 hl] at hq
        exact hi.headok si S q qs hS hq
    · have := hi.headok si' S' q qs hS'' hq
      rw [← this]
      exact pullLive_congr q rfl (fun _ _ _ => rfl)
  · intro si' S' k m tid X itx hS' hk hX hitx hc
    rcases set_get _ _ _ _ _ hS' with ⟨_, rfl⟩ | ⟨_, hS''⟩
    · rw [hsubs2] at hk
      obtain ⟨p, rest, hp, hpk⟩ := hi.subcrit si S k m tid X itx hS hk hX hitx hc
      cases hl : (pcOf st' t == .l138) with
      | true =>
        have := hload ((beq_iff_eq).mp hl)
        rw [this] at hp; cases hp
      | false => exact ⟨p, rest, by rw [hpulls2 hl]; exact hp, hpk⟩
    · exact hi.subcrit si' S' k m tid X itx hS'' hk hX hitx hc
  · intro s1 s2 S1 S2' k1 k2 m' tid' h1 h2 hk1 hk2
    have g : ∀ (sx : Nat) (Sx : SetM), (ns.sets.set si S2)[sx]? = some Sx →
        ∃ S0, ns.sets[sx]? = some S0 ∧ S0.subs = Sx.subs := by
      intro sx Sx h
      rcases set_get _ _ _ _ _ h with ⟨e, rfl⟩ | ⟨_, h'⟩
      · subst e; exact ⟨S, hS, hsubs2.symm⟩
      · exact ⟨Sx, h', rfl⟩
    obtain ⟨A, hA, eA⟩ := g s1 S1 h1
    obtain ⟨B, hB, eB⟩ := g s2 S2' h2
    exact hi.subuniq s1 s2 A B k1 k2 m' tid' hA hB (by rw [eA]; exact hk1) (by rw [eB]; exact hk2)

theorem ninv_step {ns ns' : NState} {r : Runner} {pc : PC} (hi : NInv ns) (hr : IsRunner ns r)
    (h : step ns r = some (ns', pc)) : NInv ns' := by
  have hsh := hi.noshare
  unfold step at h
  by_cases hlt : r.1 < ns.members.length
  · rw [if_pos hlt] at h
    rcases hr with ⟨_, hnsub, M, it, hM, hit⟩ | ⟨hge, _⟩
    · unfold memberStep at h
      rw [hM] at h
      simp only [] at h
      unfold lockStep at h
      simp only [hsh, Bool.false_and, Bool.false_eq_true, ↓reduceIte] at h
      cases hst : Cache.step M r.2 with
      | none => rw [hst] at h; cases h
      | some M' =>
        rw [hst] at h
        simp only [Option.some.injEq, Prod.mk.injEq] at h
        rw [← h.1]
        have key := ninv_member_step hi hM hnsub hst
        rw [hsh] at key
        exact key
    · omega
  · rw [if_neg hlt] at h
    unfold setStep at h
    cases hS : ns.sets[r.1 - ns.members.length]? with
    | none => rw [hS] at h; cases h
    | some S =>
      rw [hS] at h
      simp only [] at h
      by_cases hpull : (pcOf S.st r.2 == PC.l138 && !S.pulls.isEmpty) = true
      · rw [if_pos hpull] at h
        cases hp : S.pulls with
        | nil => rw [hp] at h; cases h
        | cons p rest =>
          rw [hp] at h
          simp only [] at h
          cases hsub : S.subs[pullIdx p]? with
          | none => rw [hsub] at h; cases h
          | some mt =>
            obtain ⟨m, tid⟩ := mt
            rw [hsub] at h
            simp only [] at h
            cases hM : ns.members[m]? with
            | none => rw [hM] at h; cases h
            | some M =>
              rw [hM] at h
              simp only [] at h
              unfold lockStep at h
              simp only [hsh, Bool.false_and, Bool.false_eq_true, ↓reduceIte] at h
              cases hst : Cache.step M tid with
              | none => rw [hst] at h; cases h
              | some M' =>
                rw [hst] at h
                simp only [Option.some.injEq, Prod.mk.injEq] at h
                rw [← h.1]
                have key := ninv_pull_step hi hS hp hsub hM hst _ _ rfl rfl
                rw [hsh] at key
                exact key
      · rw [if_neg hpull] at h
        unfold lockStep at h
        simp only [hsh, Bool.false_and, Bool.false_eq_true, ↓reduceIte] at h
        cases hst : Cache.step S.st r.2 with
        | none => rw [hst] at h; cases h
        | some st' =>
          rw [hst] at h
          simp only [Option.some.injEq, Prod.mk.injEq] at h
          rw [← h.1]
          have key := ninv_flat_step hi hS hpull hst _ rfl
          rw [hsh] at key
          exact key

/-- a state in which nothing has started: every object satisfies its flat invariant, no pull is pending, the owned
    iterators are outside the critical sections and have one owner each -/
structure Fresh (ns : NState) : Prop where
  noshare : ns.shared = false
  minv : ∀ (m : Nat) (M : Cache.State), ns.members[m]? = some M → Inv M
  sinv : ∀ (si : Nat) (S : SetM), ns.sets[si]? = some S → Inv S.st
  nopull : ∀ (si : Nat) (S : SetM), ns.sets[si]? = some S → S.pulls = []
  parked : ∀ (si : Nat) (S : SetM) (k m : Nat) (tid : Tid) (M : Cache.State) (it : Iter),
    ns.sets[si]? = some S → S.subs[k]? = some (m, tid) → ns.members[m]? = some M → M.its[tid]? = some it →
    it.pc.inCrit = false
  subuniq : ∀ (si si' : Nat) (S S' : SetM) (k k' m : Nat) (tid : Tid), ns.sets[si]? = some S → ns.sets[si']? = some S' →
    S.subs[k]? = some (m, tid) → S'.subs[k']? = some (m, tid) → si = si' ∧ k = k'

theorem ninv_fresh {ns : NState} (h : Fresh ns) : NInv ns := by
  refine ⟨h.noshare, h.minv, h.sinv, ?_, ?_, ?_, h.subuniq⟩
  · intro si S hS hne; exact absurd (h.nopull si S hS) hne
  · intro si S p rest hS hp; rw [h.nopull si S hS] at hp; cases hp
  · intro si S k m tid M it hS hk hM hit hc
    rw [h.parked si S k m tid M it hS hk hM hit] at hc; cases hc

/-- states reachable from a fresh one by steps of runners -/
inductive NReach (ns0 : NState) : NState → Prop
  | init : NReach ns0 ns0
  | step {ns ns' : NState} {r : Runner} {pc : PC} : NReach ns0 ns → IsRunner ns r → step ns r = some (ns', pc) → NReach ns0 ns'

theorem nreach_inv {ns0 ns : NState} (h0 : Fresh ns0) (h : NReach ns0 ns) : NInv ns := by
  induction h with
  | init => exact ninv_fresh h0
  | step _ hr hs ih => exact ninv_step ih hr hs

end Nested
