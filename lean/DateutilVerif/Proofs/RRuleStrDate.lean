/-
  Proofs/RRuleStrDate.lean — the date text `rrule.__str__` prints (`'%04d' % year + strftime('%m%dT%H%M%S')`, model `showDT`) is
  C02's compact template `YYYYMMDDTHHMMSS` (`PT.renderCompact .tHMS`), so C02's `parse_compact` applies to it:
  `parser.parse` reads the DTSTART / UNTIL text of `str(rule)` back as the naive datetime it was printed from.
-/
import DateutilVerif.Proofs.RenderCompact
import DateutilVerif.Proofs.RRuleStrRule

namespace RRuleStr

/-- C02's digit printer takes the last digit of its argument -/
theorem digitChar_pt {a b : Nat} (h : a = b % 10) : digitChar a = PT.digitChar b := by subst h; rfl

theorem digitChar_eq_pt (n : Nat) (h : n < 10) : digitChar n = PT.digitChar n := digitChar_pt (Nat.mod_eq_of_lt h).symm

theorem pad_eq (w n : Nat) : pad w n = List.replicate (w - (showNat n).length) '0' ++ showNat n := rfl

theorem pad_one (n : Nat) (h : n < 10) : pad 1 n = [digitChar n] := by
  rw [pad_eq, showNat_lt n h]; rfl

theorem pad_succ (w n : Nat) (hw : 1 ≤ w) : pad (w + 1) n = pad w (n / 10) ++ [digitChar (n % 10)] := by
  rw [pad_eq, pad_eq]
  by_cases h : n < 10
  · obtain ⟨v, rfl⟩ : ∃ v, w = v + 1 := ⟨w - 1, by omega⟩
    rw [showNat_lt n h, Nat.div_eq_of_lt h, Nat.mod_eq_of_lt h, showNat_lt 0 (by omega)]
    simp only [List.length_singleton, Nat.add_sub_cancel, List.replicate_succ']
    rfl
  · rw [showNat_ge n h, List.length_append, List.length_singleton, Nat.add_sub_add_right, List.append_assoc]

theorem pad2_eq_pt (n : Nat) (h : n < 100) : pad 2 n = PT.pad2 n := by
  rw [pad_succ 1 n (by omega), pad_one _ (by omega), digitChar_pt (b := n / 10) (by omega), digitChar_pt (b := n) rfl]
  rfl

theorem pad4_eq_pt (n : Nat) (h : n < 10000) : pad 4 n = PT.pad4 n := by
  rw [pad_succ 3 n (by omega), pad_succ 2 _ (by omega), pad_succ 1 _ (by omega), pad_one _ (by omega),
    digitChar_pt (b := n / 1000) (by omega), digitChar_pt (b := n / 100) (by omega), digitChar_pt (b := n / 10) (by omega),
    digitChar_pt (b := n) rfl]
  rfl

/-- the text `__str__` prints for a valid datetime is C02's compact template `YYYYMMDDTHHMMSS` -/
theorem showDT_eq_renderCompact (t : DT) (ht : t.Valid) : showDT (sixOf t) = PT.renderCompact .tHMS t := by
  obtain ⟨⟨hy1, hy2, hm1, hm2, hd1, hd2⟩, hh1, hh2, hmi1, hmi2, hs1, hs2, _, _⟩ := ht
  have hdim := (Cal.daysInMonth_bounds t.y t.m).2
  unfold showDT sixOf PT.renderCompact PT.compactDate
  simp only []
  rw [pad4_eq_pt _ (by omega), pad2_eq_pt t.m.toNat (by omega), pad2_eq_pt t.d.toNat (by omega),
    pad2_eq_pt t.hh.toNat (by omega), pad2_eq_pt t.mm.toNat (by omega), pad2_eq_pt t.ss.toNat (by omega)]
  simp [List.append_assoc]

end RRuleStr
