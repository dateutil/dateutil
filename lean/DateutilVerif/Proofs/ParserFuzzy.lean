/-
  Proofs/ParserFuzzy.lean — the strict scan is simulated by the fuzzy scan as long as no AM/PM
  word is met while an AM/PM flag is already set (for C15 `fuzzy_extends_strict_partial`).
-/
import DateutilVerif.Model.Parser

namespace PM
open Py

/-- at index `i` the scan does not meet a second AM/PM marker -/
def NoSecondMarker (info : Info) (st : PState) (i : Nat) : Prop :=
  st.res.ampm = none ∨ (st.l[i]?).bind info.ampmOf = none

instance (info : Info) (st : PState) (i : Nat) : Decidable (NoSecondMarker info st i) := by
  unfold NoSecondMarker; exact inferInstance

/-- whatever `x` returns, `y` returns too -/
def Sim {α} (x y : R α) : Prop := ∀ r, x = .ok r → y = .ok r

theorem sim_refl {α} (x : R α) : Sim x x := fun _ h => h
theorem sim_error {α} {e : PyErr} {y : R α} : Sim (.error e) y := fun _ h => nomatch h
theorem sim_bind {α β} {x x' : R α} {f g : α → R β} (hx : Sim x x') (h : ∀ a, x = .ok a → Sim (f a) (g a)) :
    Sim (x >>= f) (x' >>= g) := by
  cases x with
  | error e => exact sim_error
  | ok a => rw [hx a rfl]; exact h a rfl
theorem sim_ite {α} {c : Prop} [Decidable c] {a a' b b' : R α} (ha : c → Sim a a') (hb : ¬ c → Sim b b') :
    Sim (if c then a else b) (if c then a' else b') := by
  split
  · exact ha ‹_›
  · exact hb ‹_›

theorem dayOrFail_fuzzy (ymd : Ymd) (res : Res) (v : Dec) : Sim (dayOrFail false ymd res v) (dayOrFail true ymd res v) := by
  unfold dayOrFail
  exact sim_bind (sim_refl _) fun _ _ => sim_ite (fun _ => sim_refl _) fun _ => sim_error

theorem numAmpmOrDay_fuzzy (info : Info) (tokens : List Token) (idx : Nat) (v : Dec) (ymd : Ymd) (res : Res) :
    Sim (numAmpmOrDay info false tokens idx v ymd res) (numAmpmOrDay info true tokens idx v ymd res) := by
  unfold numAmpmOrDay
  split
  · exact sim_ite (fun _ => sim_refl _) fun _ => dayOrFail_fuzzy _ _ _
  · exact dayOrFail_fuzzy _ _ _

theorem parseNumericToken_fuzzy (cls : Char → CClass) (info : Info) (tokens : List Token) (idx : Nat) (ymd : Ymd)
    (res : Res) : Sim (parseNumericToken cls info false tokens idx ymd res) (parseNumericToken cls info true tokens idx ymd res) := by
  unfold parseNumericToken
  refine sim_bind (sim_refl _) fun s _ => sim_bind (sim_refl _) fun value _ => sim_ite (fun _ => sim_refl _) fun _ => sim_ite (fun _ => sim_refl _) fun _ =>
    sim_ite (fun _ => sim_refl _) fun _ => ?_
  split
  · exact sim_refl _
  · exact sim_ite (fun _ => sim_refl _) fun _ => sim_ite (fun _ => sim_refl _) fun _ => sim_ite (fun _ => sim_refl _) fun _ =>
      numAmpmOrDay_fuzzy _ _ _ _ _ _

theorem stepAmpm_fuzzy (i : Nat) (st : PState) (ap : Nat) (hno : st.res.ampm = none) :
    Sim (stepAmpm false i st ap) (stepAmpm true i st ap) := by
  unfold stepAmpm ampmValid
  rw [hno]
  cases st.res.hour with
  | none => exact sim_error
  | some hr =>
    by_cases h12 : hr ≤ 12
    · simp only [h12, decide_true, Bool.not_true, Bool.false_eq_true, if_false, Option.isSome_none, Bool.and_false]
      exact sim_refl _
    · simp only [h12, decide_false, Bool.not_false, if_true]
      exact sim_error

/-- one iteration: what the strict scan accepts, the fuzzy scan does identically -/
theorem parseStep_fuzzy (cls : Char → CClass) (info : Info) (lenL i : Nat) (st : PState)
    (hno : NoSecondMarker info st i) : Sim (parseStep cls info false lenL i st) (parseStep cls info true lenL i st) := by
  unfold parseStep
  refine sim_bind (sim_refl _) fun li hli => sim_ite (fun _ => ?_) fun _ => ?_
  · exact sim_bind (parseNumericToken_fuzzy _ _ _ _ _ _) fun _ _ => sim_refl _
  split
  · exact sim_refl _
  split
  · exact sim_refl _
  split
  · rename_i ap hap
    refine stepAmpm_fuzzy _ _ _ (hno.resolve_right fun hn => ?_)
    unfold tokAt at hli
    split at hli
    · rename_i t ht
      cases hli
      rw [ht, Option.bind_some, hap] at hn
      cases hn
    · cases hli
  refine sim_ite (fun _ => sim_refl _) fun _ => sim_ite (fun _ => sim_refl _) fun _ => ?_
  by_cases hj : info.isJump li = true
  · simp only [hj, Bool.true_or, Bool.not_true, Bool.false_eq_true, if_false, Bool.or_true]
    exact sim_refl _
  · simp only [hj, Bool.or_false, Bool.not_false, if_true]
    exact sim_error

/-- along the strict scan no second AM/PM marker is met (executable) -/
def singleMarkerRun (cls : Char → CClass) (info : Info) (lenL : Nat) : Nat → Nat → Nat → PState → Bool
  | 0, _, _, _ => true
  | fuel + 1, i, skip + 1, st => singleMarkerRun cls info lenL fuel (i + 1) skip st
  | fuel + 1, i, 0, st =>
    decide (NoSecondMarker info st i) &&
    match parseStep cls info false lenL i st with
    | .ok (adv, st') => singleMarkerRun cls info lenL fuel (i + 1) adv st'
    | .error _ => true

def SingleMarkerRun (cls : Char → CClass) (info : Info) (lenL fuel i skip : Nat) (st : PState) : Prop :=
  singleMarkerRun cls info lenL fuel i skip st = true

instance (cls : Char → CClass) (info : Info) (lenL fuel i skip : Nat) (st : PState) :
    Decidable (SingleMarkerRun cls info lenL fuel i skip st) := by unfold SingleMarkerRun; exact inferInstance

theorem parseLoop_fuzzy (cls : Char → CClass) (info : Info) (lenL : Nat) :
    ∀ (fuel i skip : Nat) (st st' : PState), SingleMarkerRun cls info lenL fuel i skip st →
      parseLoop cls info false lenL fuel i skip st = .ok st' → parseLoop cls info true lenL fuel i skip st = .ok st' := by
  intro fuel
  induction fuel with
  | zero => intro i skip st st' _ h; exact h
  | succ n ih =>
    intro i skip st st' hrun h
    unfold SingleMarkerRun at hrun ih
    cases skip with
    | succ k =>
      unfold parseLoop at h ⊢
      unfold singleMarkerRun at hrun
      exact ih _ _ _ _ hrun h
    | zero =>
      unfold parseLoop at h ⊢
      unfold singleMarkerRun at hrun
      simp only [Bool.and_eq_true, decide_eq_true_eq] at hrun
      cases hs : parseStep cls info false lenL i st with
      | error e => simp [hs] at h
      | ok r =>
        rw [parseStep_fuzzy cls info lenL i st hrun.1 r hs]
        simp only [hs] at h hrun
        exact ih _ _ _ _ hrun.2 h

end PM
