/-
  Proofs/TzStrNoRule.lean — `_tzparser.parse` on strings without a rule part: `STD offset` and `STD offset DST offset`.
-/
import DateutilVerif.Proofs.TzStrParseAbbr

namespace TzStr

/-- **`STD offset` parses to its abbreviation and offset** and nothing else -/
theorem parse_stdOnly (std : String) (so : Off) (hstd : IsAlpha std) (hso : so.sp.Ok) (s : String)
    (hs : s.toList = std.toList ++ (so.chunks.map (·.2)).flatten) :
    parse s = .ok (some { stdabbr := some std, stdoffset := some so.val }) := by
  have e : s = String.ofList ((((CK.alpha, std.toList) :: so.chunks).map (·.2)).flatten) := by
    rw [List.map_cons, List.flatten_cons, ← hs, String.ofList_toList]
  obtain ⟨g1, _, h1, _⟩ := off_good so hso
  unfold parse
  rw [e, tokens_chunks _ (good_cons .alpha std.toList _ (homog_alpha _ hstd) g1 (Or.inr h1))]
  generalize hl0 : (List.map (fun p => String.ofList p.2) ((CK.alpha, std.toList) :: so.chunks)).toArray = l
  have hlist : l.toList = std :: (toksOf so.chunks ++ []) := by
    rw [← hl0]
    simp [toksOf]
  obtain ⟨st, a1, a2, a3, a4⟩ := abbrLoop_std std so hstd hso l [] (by simp) hlist 2
  have hsz : l.size = st.i := by
    rw [a2, ← Array.length_toList, hlist]
    simp only [List.length_cons, List.length_append, List.length_nil]
    omega
  have a5 : abbrLoop l 2 st = some st := by
    rw [abbrLoop, hsz, if_neg (Nat.lt_irrefl _)]
  unfold parseTokens
  simp only [a1, a5, hsz, Nat.lt_irrefl, if_false, ge_iff_le, Nat.le_refl, if_true]
  rw [← hsz, a4.anyUnused (by omega), a3]

def noRuleChunks (std dst : String) (so dof : Off) : List Chunk :=
  (.alpha, std.toList) :: (so.chunks ++ ((.alpha, dst.toList) :: dof.chunks))

theorem noRuleChunks_good (std dst : String) (so dof : Off) (hstd : IsAlpha std) (hdst : IsAlpha dst)
    (hso : so.sp.Ok) (hdof : dof.sp.Ok) : GoodChunks (noRuleChunks std dst so dof) := by
  obtain ⟨g2, _, h2, _⟩ := off_good dof hdof
  obtain ⟨g1, l1, h1, ne1⟩ := off_good so hso
  have gz := good_cons .alpha dst.toList _ (homog_alpha _ hdst) g2 (Or.inr h2)
  have gw := good_append .digit _ _ g1 gz l1 (by intro y hy; simp at hy; rw [← hy]; simp)
  refine good_cons .alpha std.toList _ (homog_alpha _ hstd) gw (Or.inr ?_)
  intro y hy
  cases hc : so.chunks with
  | nil => exact absurd hc ne1
  | cons q r => simp [hc] at hy; rw [← hy]; exact h1 q (by rw [hc]; rfl)

/-- **`STD offset DST offset` parses to its two abbreviations and offsets and no rule**: arbitrary letter abbreviations,
    optional signs, each offset in any of its three spellings -/
theorem parse_noRule (std dst : String) (so dof : Off) (hstd : IsAlpha std) (hdst : IsAlpha dst)
    (hso : so.sp.Ok) (hdof : dof.sp.Ok) (s : String)
    (hs : s.toList = ((noRuleChunks std dst so dof).map (·.2)).flatten) :
    parse s = .ok (some { stdabbr := some std, stdoffset := some so.val, dstabbr := some dst,
                           dstoffset := some dof.val }) := by
  have e : s = String.ofList ((noRuleChunks std dst so dof).map (·.2)).flatten := by
    rw [← hs, String.ofList_toList]
  unfold parse
  rw [e, tokens_chunks _ (noRuleChunks_good std dst so dof hstd hdst hso hdof)]
  generalize hl0 : (List.map (fun p => String.ofList p.2) (noRuleChunks std dst so dof)).toArray = l
  have hlist : l.toList = std :: (toksOf so.chunks ++ (dst :: (toksOf (optOffChunks (some dof)) ++ []))) := by
    rw [← hl0]
    simp [noRuleChunks, toksOf, optOffChunks]
  obtain ⟨st, a1, a2, a3, a4⟩ := abbrLoop_spec std dst so (some dof) hstd hdst hso hdof l []
    (fun h => nomatch h) (by simp) hlist
  have hsz : l.size = st.i := by
    rw [a2, ← Array.length_toList, hlist]
    simp only [List.length_cons, List.length_append, List.length_nil]
    omega
  unfold parseTokens
  simp only [a1, hsz, Nat.lt_irrefl, if_false, ge_iff_le, Nat.le_refl, if_true]
  rw [← hsz, a4.anyUnused (by omega), a3]
  rfl

end TzStr
