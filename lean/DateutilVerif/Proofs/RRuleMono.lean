/-
  Proofs/RRuleMono.lean — strict monotonicity of the yielded sequence: the candidates of one period are
  drawn from `dayset × timeset` and are strictly increasing; and the "window" argument: periods whose values
  lie in disjoint increasing windows concatenate to a strictly increasing sequence.
-/
import DateutilVerif.Proofs.RRuleSorted
import DateutilVerif.Proofs.RRuleDayset
import DateutilVerif.Proofs.RRuleEmit

namespace RRule
open Cal

def secsLt (x y : Inst) : Prop := x.secs < y.secs

/-- an instant with a valid wall time -/
def InstOk (x : Inst) : Prop := ValidHMS (x.h, x.m, x.s)

theorem getIdx_mem {α} (l : List α) (i : Int) (x : α) (h : Py.getIdx l i = .ok x) : x ∈ l := by
  unfold Py.getIdx at h
  dsimp only at h
  generalize (if i < 0 then i + (l.length : Int) else i) = j at h
  split at h
  · cases h
  · split at h
    · rename_i y hy
      injection h with h; subst h
      exact List.mem_of_getElem? hy
    · cases h

theorem filterDays_sublist (r : Rule) (info : Info) : ∀ (ds days : List Int) (fl : Bool),
    filterDays r info ds = .ok (days, fl) → days.Sublist ds := by
  intro ds
  induction ds with
  | nil => intro days fl h; simp [filterDays] at h; rw [h.1]; exact List.Sublist.refl _
  | cons i is ih =>
    intro days fl h
    unfold filterDays at h
    split at h
    · cases h
    · split at h
      · cases h
      · rename_i l fl' hl
        split at h
        · injection h with h; injection h with h1 h2; subst h1
          exact (ih l fl' hl).cons i
        · injection h with h; injection h with h1 h2; subst h1
          exact (ih l fl' hl).cons_cons i

def mkInst (o : Int) (t : HMS) : Inst := { ord := o, h := t.1, m := t.2.1, s := t.2.2 }

/-- `x` is a day of `days` (which passed `date.fromordinal`) at a wall time of `ts` -/
def FromPeriod (yo : Int) (days : List Int) (ts : List HMS) (x : Inst) : Prop :=
  ∃ i ∈ days, ∃ t ∈ ts, x = mkInst (yo + i) t ∧ 1 ≤ yo + i ∧ yo + i ≤ Cal.maxOrdinal

theorem FromPeriod.mono {yo : Int} {days days' : List Int} {ts : List HMS} {x : Inst}
    (h : FromPeriod yo days ts x) (hs : ∀ i ∈ days, i ∈ days') : FromPeriod yo days' ts x := by
  obtain ⟨i, hi, rest⟩ := h
  exact ⟨i, hs i hi, rest⟩

theorem expandDays_mem (yo : Int) (ts : List HMS) : ∀ (days : List Int) (x : Inst),
    x ∈ (expandDays yo ts days).1 → FromPeriod yo days ts x := by
  intro days
  induction days with
  | nil => intro x hx; simp [expandDays] at hx
  | cons i is ih =>
    intro x hx
    unfold expandDays at hx
    unfold checkOrd at hx
    split at hx
    · rename_i e he; split at he <;> cases he
      simp at hx
    · rename_i o ho
      split at ho
      · rename_i hr
        injection ho with ho; subst ho
        dsimp only at hx
        rcases List.mem_append.mp hx with h | h
        · simp only [List.mem_map] at h
          obtain ⟨t, ht, rfl⟩ := h
          exact ⟨i, List.mem_cons_self .., t, ht, rfl, hr⟩
        · exact (ih x h).mono (fun j hj => List.mem_cons_of_mem _ hj)
      · cases ho

theorem mkInst_lt_same (o : Int) (a b : HMS) (ha : ValidHMS a) (hb : ValidHMS b) (h : ltHMS a b = true) :
    secsLt (mkInst o a) (mkInst o b) := by
  have := (ltHMS_iff a b ha hb).mp h
  unfold secsLt Inst.secs mkInst tod at *; dsimp only; omega

theorem mkInst_lt_days (o o' : Int) (a b : HMS) (ha : ValidHMS a) (hb : ValidHMS b) (h : o < o') :
    secsLt (mkInst o a) (mkInst o' b) := by
  unfold ValidHMS at ha hb
  unfold secsLt Inst.secs mkInst; dsimp only; omega

theorem expandDays_sorted (yo : Int) (ts : List HMS) (hts : TsOk ts) : ∀ (days : List Int),
    days.Pairwise (· < ·) → (expandDays yo ts days).1.Pairwise secsLt := by
  intro days
  induction days with
  | nil => intro _; simp [expandDays]
  | cons i is ih =>
    intro hd
    rw [List.pairwise_cons] at hd
    unfold expandDays
    split
    · simp
    · rename_i o ho
      have ho' : o = yo + i := by
        unfold checkOrd at ho; split at ho
        · injection ho with ho; exact ho.symm
        · cases ho
      subst ho'
      dsimp only
      rw [List.pairwise_append]
      refine ⟨?_, ih hd.2, ?_⟩
      · rw [List.pairwise_map]
        exact List.Pairwise.imp_of_mem (by
          intro a b ha hb hab
          exact mkInst_lt_same _ a b (hts.2 a ha) (hts.2 b hb) hab) hts.1
      · intro x hx y hy
        simp only [List.mem_map] at hx
        obtain ⟨t, ht, rfl⟩ := hx
        obtain ⟨j, hj, u, hu, rfl, _⟩ := expandDays_mem yo ts is y hy
        exact mkInst_lt_days _ _ t u (hts.2 t ht) (hts.2 u hu) (by have := hd.1 j hj; omega)

theorem strictInst : StrictOn ltInst InstOk := by
  refine ⟨?_, ?_, ?_⟩
  · intro a b c; simp only [ltInst, decide_eq_true_eq]; omega
  · intro a; simp [ltInst]
  · rintro ⟨oa, ha, ma, sa⟩ ⟨ob, hb, mb, sb⟩ va vb hne h
    unfold InstOk ValidHMS at va vb
    unfold ltInst at h ⊢
    rw [decide_eq_false_iff_not] at h
    rw [decide_eq_true_eq]
    unfold Inst.secs at h ⊢
    dsimp only at h ⊢ va vb
    have : ¬ (oa = ob ∧ ha = hb ∧ ma = mb ∧ sa = sb) := by
      intro ⟨e1, e2, e3, e4⟩; exact hne (by rw [e1, e2, e3, e4])
    omega

theorem selectPos_mem (yo : Int) (days : List Int) (ts : List HMS) (pos : Int) (x : Inst)
    (h : selectPos yo days ts pos = .ok (some x)) : FromPeriod yo days ts x := by
  unfold selectPos at h
  dsimp only at h
  split at h
  · rename_i i t hi ht
    unfold checkOrd at h
    split at h
    · rename_i o ho
      split at ho
      · rename_i hr
        injection ho with ho; subst ho
        injection h with h; injection h with h; subst h
        exact ⟨i, getIdx_mem _ _ _ hi, t, getIdx_mem _ _ _ ht, rfl, hr⟩
      · cases ho
    · cases h
  · injection h with h; cases h

theorem buildPoslist_spec (yo : Int) (days : List Int) (ts : List HMS) (hts : TsOk ts) (sp : List Int)
    (l : List Inst) (h : buildPoslist yo days ts sp = .ok l) :
    l.Pairwise secsLt ∧ ∀ x ∈ l, FromPeriod yo days ts x := by
  unfold buildPoslist at h
  -- invariant of the accumulation loop
  have hloop : ∀ (sp : List Int) (acc res : List Inst),
      (acc.Nodup ∧ ∀ x ∈ acc, FromPeriod yo days ts x) →
      poslistLoop yo days ts sp acc = .ok res →
      (res.Nodup ∧ ∀ x ∈ res, FromPeriod yo days ts x) := by
    intro sp
    induction sp with
    | nil => intro acc res hacc h; simp [poslistLoop] at h; subst h; exact hacc
    | cons p ps ih =>
      intro acc res hacc h
      unfold poslistLoop at h
      split at h
      · cases h
      · rename_i y hx
        apply ih _ res _ h
        split
        · exact hacc
        · rename_i hc
          refine ⟨?_, ?_⟩
          · rw [List.nodup_append]
            refine ⟨hacc.1, by simp, ?_⟩
            intro a ha b hb
            simp at hb; subst hb
            intro heq; subst heq
            exact hc (List.contains_iff_mem.mpr ha)
          · intro z hz
            rcases List.mem_append.mp hz with hz | hz
            · exact hacc.2 z hz
            · simp at hz; subst hz; exact selectPos_mem yo days ts p _ hx
      · exact ih acc res hacc h
  split at h
  · rename_i l0 hl0
    injection h with h; subst h
    obtain ⟨hnd, hmem⟩ := hloop sp [] l0 ⟨List.nodup_nil, by simp⟩ hl0
    have hok : ∀ y ∈ l0, InstOk y := by
      intro y hy
      obtain ⟨i, _, t, ht, rfl, _⟩ := hmem y hy
      exact hts.2 t ht
    refine ⟨?_, ?_⟩
    · exact (sortBy_pairwise strictInst l0 hok hnd).imp (by
        intro a b hab; simpa [ltInst, secsLt] using hab)
    · intro x hx; exact hmem x ((mem_sortBy ltInst x l0).mp hx)
  · cases h

/-- the candidates of a period are drawn from `dayset × timeset`, and strictly increasing when the day set is -/
theorem periodResults_spec (r : Rule) (st : State) (ds : List Int) (cands : List Inst)
    (pend : Option Py.PyErr) (fl : Bool)
    (hds : dayset r st.info st.cur = .ok ds) (hts : TsOk st.timeset)
    (h : periodResults r st = .ok (cands, pend, fl)) :
    (∀ x ∈ cands, FromPeriod st.info.yearordinal ds st.timeset x) ∧
    (ds.Pairwise (· < ·) → cands.Pairwise secsLt) := by
  unfold periodResults at h
  rw [hds] at h
  dsimp only at h
  split at h
  · cases h
  · rename_i days filtered hfd
    have hsub := filterDays_sublist r st.info ds days filtered hfd
    split at h
    · split at h
      · cases h
      · rename_i l hl
        injection h with h; injection h with h1 _; subst h1
        obtain ⟨hs, hm⟩ := buildPoslist_spec _ days st.timeset hts _ l hl
        exact ⟨fun x hx => (hm x hx).mono (fun _ hi => hsub.subset hi), fun _ => hs⟩
    · injection h with h; injection h with h1 _; subst h1
      exact ⟨fun x hx => (expandDays_mem _ _ days x hx).mono (fun _ hi => hsub.subset hi),
        fun hinc => expandDays_sorted _ _ hts days (hinc.sublist hsub)⟩

/-- what `step` yields is a sublist of the period's candidates -/
theorem step_sublist (r : Rule) (st : State) :
    (step r st).1 = [] ∨ ∃ cands pend fl, periodResults r st = .ok (cands, pend, fl) ∧ (step r st).1.Sublist cands := by
  unfold step
  split
  · left; rfl
  · rename_i cands pend fl hres
    right
    refine ⟨cands, pend, fl, hres, ?_⟩
    dsimp only
    have := emit_sublist r cands st.count
    split
    · exact this
    · split <;> exact this

theorem run_pairwise (r : Rule) (I : State → Prop) (lo : State → Int)
    (hlo : ∀ st, I st → ∀ x ∈ (step r st).1, lo st ≤ x.secs)
    (hsorted : ∀ st, I st → (step r st).1.Pairwise secsLt)
    (hnext : ∀ st st', I st → (step r st).2 = .ok st' →
      I st' ∧ lo st ≤ lo st' ∧ ∀ x ∈ (step r st).1, x.secs < lo st') :
    ∀ (n : Nat) (st : State), I st →
      (run r n st).1.Pairwise secsLt ∧ ∀ x ∈ (run r n st).1, lo st ≤ x.secs := by
  intro n
  induction n with
  | zero => intro st _; simp [run]
  | succ n ih =>
    intro st hI
    unfold run
    have h1 := hlo st hI
    have h2 := hsorted st hI
    have h3 := hnext st
    generalize step r st = sr at h1 h2 h3
    obtain ⟨out, res⟩ := sr
    cases res with
    | error s => exact ⟨h2, h1⟩
    | ok st' =>
      dsimp only
      obtain ⟨hI', hle, hup⟩ := h3 st' hI rfl
      obtain ⟨ihs, ihl⟩ := ih st' hI'
      refine ⟨?_, ?_⟩
      · rw [List.pairwise_append]
        refine ⟨h2, ihs, ?_⟩
        intro x hx y hy
        have := hup x hx
        have := ihl y hy
        unfold secsLt; omega
      · intro x hx
        rcases List.mem_append.mp hx with hx | hx
        · exact h1 x hx
        · have := ihl x hx; omega

end RRule
