/-
  Proofs/RenderFrame.lean — the token scan does not care what stands in front of the position it starts at:
  `parseLoop` on `pre ++ l` from index `pre.length + i` does what it does on `l` from `i`, all indices moved by
  `pre.length` (`parseLoop_shift`).  The scan looks behind the current token in one place only, `_find_hms_idx`
  (an h/m/s word one or two tokens back), so the one condition is that `pre` holds no such word.
-/
import DateutilVerif.Model.Parser

namespace PM
open Py

theorem getElem?_pre {α} (pre s : List α) (j : Nat) : (pre ++ s)[pre.length + j]? = s[j]? := by
  rw [List.getElem?_append_right (by omega)]; congr 1; omega
theorem getElem?_pre0 {α} (pre s : List α) : (pre ++ s)[pre.length]? = s[0]? := by
  have := getElem?_pre pre s 0; simpa using this

theorem getElem_pre {α} (pre s : List α) (j : Nat) (h : pre.length + j < (pre ++ s).length) :
    (pre ++ s)[pre.length + j]'h = s[j]'(by simp at h; omega) := by
  rw [List.getElem_append_right (by omega)]; congr 1; omega

/-- the scan state as it looks with `pre` in front of the token list and `sk0` skipped before -/
def PState.shift (pre : List Token) (sk0 : List Nat) (st : PState) : PState :=
  { st with l := pre ++ st.l, skipped := sk0 ++ st.skipped.map (pre.length + ·) }

section
variable (pre : List Token) (sk0 : List Nat) (st : PState)
theorem shift_l : (st.shift pre sk0).l = pre ++ st.l := rfl
theorem shift_res : (st.shift pre sk0).res = st.res := rfl
theorem shift_ymd : (st.shift pre sk0).ymd = st.ymd := rfl
theorem shift_skipped : (st.shift pre sk0).skipped = sk0 ++ st.skipped.map (pre.length + ·) := rfl
end

section
variable (cls : Char → CClass) (info : Info) (fz : Bool) (pre l : List Token)

theorem tokAt_pre (j : Nat) : tokAt (pre ++ l) (pre.length + j) = tokAt l j := by
  simp only [tokAt, getElem?_pre]

theorem tokIs_pre (j : Nat) (t : Token) : tokIs (pre ++ l) (pre.length + j) t = tokIs l j t := by
  simp only [tokIs, getElem?_pre]

theorem hmsAtIs_pre (j : Nat) : hmsAtIs info (pre ++ l) (pre.length + j) = hmsAtIs info l j := by
  simp only [hmsAtIs, getElem?_pre]

/-- behind the start there is no h/m/s word to find -/
theorem hms_behind (hpre : ∀ s ∈ pre, info.hmsOf s = none) (j : Nat) (hj : j < pre.length) :
    ((pre ++ l)[j]?).bind info.hmsOf = none := by
  rw [List.getElem?_append_left hj, List.getElem?_eq_getElem hj]
  exact hpre _ (List.getElem_mem hj)

theorem findHmsIdx_pre (hpre : ∀ s ∈ pre, info.hmsOf s = none) (i : Nat) :
    findHmsIdx info (pre.length + i) (pre ++ l) true =
      (findHmsIdx info i l true).map (fun r => (pre.length + r.1, r.2)) := by
  have e1 : pre.length + i + 1 = pre.length + (i + 1) := by omega
  have e2 : pre.length + i + 2 = pre.length + (i + 2) := by omega
  unfold findHmsIdx
  simp only [List.length_append, e1, e2, getElem?_pre, Nat.add_lt_add_iff_left]
  split
  · simp only [Option.map_map]; rfl
  split
  · simp only [Option.map_map]; rfl
  -- the two looks behind: inside `pre` they find nothing, at or behind the start they see the same tokens
  have hb : ∀ j, j < pre.length → (((pre ++ l)[j]?).bind info.hmsOf).isSome = false := fun j hj => by
    rw [hms_behind info pre l hpre j hj]; rfl
  rcases i with _ | _ | i
  · rw [if_neg (by rintro ⟨h, h'⟩; rw [hb _ (by omega)] at h'; cases h'),
        if_neg (by rintro ⟨h, _, _, h'⟩; rw [hb _ (by omega)] at h'; cases h')]
    simp
  · have e3 : pre.length + (0 + 1) - 1 = pre.length + 0 := by omega
    rw [if_neg (c := 1 < _ ∧ _) (by rintro ⟨h, _, _, h'⟩; rw [hb _ (by omega)] at h'; cases h')]
    simp only [e3, getElem?_pre]
    by_cases c : ((l[0]?).bind info.hmsOf).isSome = true <;> simp [c, Option.map_map, Function.comp_def]
  · have e3 : pre.length + (i + 1 + 1) - 1 = pre.length + (i + 1) := by omega
    have e4 : pre.length + (i + 1 + 1) - 2 = pre.length + i := by omega
    have e6 : i + 1 + 1 - 1 = i + 1 := by omega
    have e7 : i + 1 + 1 - 2 = i := by omega
    have g1 : pre.length + (i + 1 + 1) > 0 := by omega
    have g2 : 1 < pre.length + (i + 1 + 1) := by omega
    have g3 : i + 1 + 1 > 0 := by omega
    have g4 : 1 < i + 1 + 1 := by omega
    simp only [e3, e4, e6, e7, g1, g2, g3, g4, true_and, getElem?_pre, Nat.add_left_cancel_iff]
    split
    · simp [Option.map_map, Function.comp_def]
    · split
      · simp [Option.map_map, Function.comp_def]
      · rfl

theorem parseNumericToken_pre (hpre : ∀ s ∈ pre, info.hmsOf s = none) (i : Nat) (ymd : Ymd) (res : Res) :
    parseNumericToken cls info fz (pre ++ l) (pre.length + i) ymd res = parseNumericToken cls info fz l i ymd res := by
  have e1 : pre.length + i + 1 = pre.length + (i + 1) := by omega
  have e2 : pre.length + i + 2 = pre.length + (i + 2) := by omega
  have e3 : pre.length + i + 3 = pre.length + (i + 3) := by omega
  have e4 : pre.length + i + 4 = pre.length + (i + 4) := by omega
  unfold parseNumericToken numColon numSep numJump numAmpmOrDay
  simp only [tokAt_pre, List.length_append, e1, e2, e3, e4, tokIs_pre, hmsAtIs_pre, getElem?_pre,
    findHmsIdx_pre info pre l hpre, Nat.add_lt_add_iff_left, ge_iff_le, Nat.add_le_add_iff_left]
  cases findHmsIdx info i l true with
  | none => rfl
  | some r =>
    have e5 : (if i < r.1 then pre.length + r.1 else pre.length + i) - (pre.length + i) = (if i < r.1 then r.1 else i) - i := by
      split <;> omega
    simp only [Option.map_some, numHms, gt_iff_lt, Nat.add_lt_add_iff_left, e5]

variable (sk0 : List Nat)

theorem stepMonth_shift (lenL i : Nat) (st : PState) (mv : Nat) :
    stepMonth cls info (pre.length + lenL) (pre.length + i) (st.shift pre sk0) mv =
      (fun r => (r.1, r.2.shift pre sk0)) <$> stepMonth cls info lenL i st mv := by
  have e1 : pre.length + i + 1 = pre.length + (i + 1) := by omega
  have e2 : pre.length + i + 2 = pre.length + (i + 2) := by omega
  have e3 : pre.length + i + 3 = pre.length + (i + 3) := by omega
  have e4 : pre.length + i + 4 = pre.length + (i + 4) := by omega
  unfold stepMonth
  simp only [shift_l, shift_res, shift_ymd, shift_skipped, tokAt_pre, e1, e2, e3, e4, tokIs_pre, getElem?_pre,
    Nat.add_lt_add_iff_left, map_bind, map_pure, apply_ite (Functor.map (fun r : Nat × PState => (r.1, r.2.shift pre sk0)))]
  rfl

theorem shift_skip (i : Nat) (st : PState) :
    ({ l := pre ++ st.l, res := st.res, ymd := st.ymd,
       skipped := sk0 ++ st.skipped.map (pre.length + ·) ++ [pre.length + i] } : PState) =
      ({ st with skipped := st.skipped ++ [i] } : PState).shift pre sk0 := by
  simp only [PState.shift, List.map_append, List.map_cons, List.map_nil, List.append_assoc]

theorem stepAmpm_shift (i : Nat) (st : PState) (ap : Nat) :
    stepAmpm fz (pre.length + i) (st.shift pre sk0) ap = (fun r => (r.1, r.2.shift pre sk0)) <$> stepAmpm fz i st ap := by
  unfold stepAmpm
  simp only [shift_l, shift_res, shift_ymd, shift_skipped, map_bind]
  congr 1; funext ok
  cases ok with
  | some h => rfl
  | none => cases fz <;> simp only [Bool.false_eq_true, if_false, if_true, map_pure, shift_skip] <;> rfl

theorem stepTzname_shift (lenL i : Nat) (st : PState) (li : Token) :
    stepTzname info (pre.length + lenL) (pre.length + i) (st.shift pre sk0) li =
      ((stepTzname info lenL i st li).1, (stepTzname info lenL i st li).2.shift pre sk0) := by
  have e1 : pre.length + i + 1 = pre.length + (i + 1) := by omega
  unfold stepTzname
  simp only [shift_l, shift_res, e1, getElem?_pre, Nat.add_lt_add_iff_left, List.set_append_right _ _ (Nat.le_add_right _ _),
    Nat.add_sub_cancel_left]
  split
  · split <;> rfl
  · rfl

theorem tzOffsetDigits_pre (lenL i : Nat) :
    tzOffsetDigits cls (pre ++ l) (pre.length + lenL) (pre.length + i) = tzOffsetDigits cls l lenL i := by
  have e1 : pre.length + i + 1 = pre.length + (i + 1) := by omega
  have e2 : pre.length + i + 2 = pre.length + (i + 2) := by omega
  have e3 : pre.length + i + 3 = pre.length + (i + 3) := by omega
  unfold tzOffsetDigits
  simp only [e1, e2, e3, tokAt_pre, tokIs_pre, Nat.add_lt_add_iff_left]

theorem tzParenName_pre (lenL i : Nat) (res : Res) :
    tzParenName info (pre ++ l) (pre.length + lenL) (pre.length + i) res = tzParenName info l lenL i res := by
  have e2 : pre.length + i + 2 = pre.length + (i + 2) := by omega
  have e3 : pre.length + i + 3 = pre.length + (i + 3) := by omega
  have e4 : pre.length + i + 4 = pre.length + (i + 4) := by omega
  have e5 : pre.length + i + 5 = pre.length + (i + 5) := by omega
  unfold tzParenName
  simp only [e2, e3, e4, e5, getElem?_pre, Nat.add_lt_add_iff_left]

theorem stepTzoffset_shift (lenL i : Nat) (st : PState) (li : Token) :
    stepTzoffset cls info (pre.length + lenL) (pre.length + i) (st.shift pre sk0) li =
      (fun r => (r.1, r.2.shift pre sk0)) <$> stepTzoffset cls info lenL i st li := by
  unfold stepTzoffset
  simp only [shift_l, shift_res, tzOffsetDigits_pre, Nat.add_assoc, tzParenName_pre, map_bind]
  congr 1; funext hma
  split <;> rfl

/-- one step of the scan behind a prefix without h/m/s words -/
theorem parseStep_shift (hpre : ∀ s ∈ pre, info.hmsOf s = none) (lenL i : Nat) (st : PState) :
    parseStep cls info fz (pre.length + lenL) (pre.length + i) (st.shift pre sk0) =
      (fun r => (r.1, r.2.shift pre sk0)) <$> parseStep cls info fz lenL i st := by
  unfold parseStep
  simp only [shift_l, shift_res, shift_ymd, shift_skipped, tokAt_pre, parseNumericToken_pre cls info fz pre st.l hpre, map_bind]
  congr 1; funext li
  split
  · simp only [map_bind, map_pure]; rfl
  split
  · rfl
  split
  · exact stepMonth_shift cls info pre sk0 lenL i st _
  split
  · exact stepAmpm_shift fz pre sk0 i st _
  by_cases h1 : couldBeTzname info st.res.hour st.res.tzname st.res.tzoffset li = true
  · simp only [h1, if_true, stepTzname_shift, map_pure]
  by_cases h2 : st.res.hour.isSome = true ∧ (li = ['+'] ∨ li = ['-'])
  · simp only [h1, h2, Bool.false_eq_true, if_false]
    exact stepTzoffset_shift cls info pre sk0 lenL i st li
  by_cases h3 : (!(info.isJump li || fz)) = true
  · simp only [h1, h2, h3, Bool.false_eq_true, if_true, if_false]; rfl
  · simp only [h1, h2, h3, Bool.false_eq_true, if_false, shift_skip]; rfl

/-- **the frame lemma**: the scan behind a prefix without h/m/s words -/
theorem parseLoop_shift (hpre : ∀ s ∈ pre, info.hmsOf s = none) (lenL : Nat) :
    ∀ (fuel i skip : Nat) (st : PState),
      parseLoop cls info fz (pre.length + lenL) fuel (pre.length + i) skip (st.shift pre sk0) =
        (·.shift pre sk0) <$> parseLoop cls info fz lenL fuel i skip st := by
  intro fuel
  induction fuel with
  | zero => intro i skip st; rfl
  | succ fuel ih =>
    intro i skip st
    cases skip with
    | succ skip => exact ih (i + 1) skip st
    | zero =>
      unfold parseLoop
      rw [parseStep_shift cls info fz pre sk0 hpre]
      cases parseStep cls info fz lenL i st with
      | error e => rfl
      | ok r => exact ih (i + 1) r.1 r.2

end
end PM
