/-
  Proofs/RRuleMinutelyBH.lean — MINUTELY with BYHOUR and no BYMINUTE under the explicit reachability hypothesis
  `reachableHourM`: some minute of the grid falls in a listed hour.  The two argument classes as instances of
  Proofs/RRuleSubMinutely.lean.
-/
import DateutilVerif.Proofs.RRuleMinutely

namespace RRule
open Cal

structure MinutelyBHArgs (a : Args) : Prop where
  freq : a.freq = 5
  interval : 1 ≤ a.interval
  valid : a.dtstart.Valid
  weekno : WArg a
  byeaster : a.byeaster = none
  monthday_nz : ∀ x ∈ a.bymonthday.getD [], x ≠ 0
  hours : ∃ l, a.byhour = some l ∧ l ≠ []
  byminute : a.byminute = none
  seconds_ok : ∀ x ∈ a.bysecond.getD [], 0 ≤ x ∧ x ≤ 59
  reach : reachableHourM a

structure MinutelyBHEArgs (a : Args) : Prop where
  freq : a.freq = 5
  interval : 1 ≤ a.interval
  valid : a.dtstart.Valid
  byweekno : a.byweekno = none
  easter : ∃ el, a.byeaster = some el ∧ el ≠ [] ∧ ∀ o ∈ el, -80 ≤ o ∧ o ≤ 250
  monthday_nz : ∀ x ∈ a.bymonthday.getD [], x ≠ 0
  hours : ∃ l, a.byhour = some l ∧ l ≠ []
  byminute : a.byminute = none
  seconds_ok : ∀ x ∈ a.bysecond.getD [], 0 ≤ x ∧ x ≤ 59
  reach : reachableHourM a

variable {a : Args} {r : Rule}

theorem minutely_reach_byhour (hh : ∃ l, a.byhour = some l ∧ l ≠ []) (hbm : a.byminute = none)
    (hr : reachableHourM a) (k : Nat) :
    ∃ t : Nat, 1 ≤ t ∧ t ≤ 1440 ∧ SubFreq.listed .minutely a
      ((a.dtstart.hh * 60 + a.dtstart.mm + ((k + t : Nat) : Int) * a.interval) % 1440) = true := by
  unfold reachableHourM at hr
  rw [List.any_eq_true] at hr
  obtain ⟨j, _, hj⟩ := hr
  obtain ⟨l, hl, _⟩ := hh
  exact minutely_reach a j (by rw [hbm, hl]; rw [hl] at hj; simpa [listedO] using hj) k

/-- **`iter_eq_spec`, MINUTELY with BYHOUR** (no BYMINUTE) under `reachableHourM a`: `n ≤ m ≤ 2880·n` (at most 1439 grid minutes
    jumped over on a removed day, then at most 1440 / gcd(interval, 1440) to a listed one) -/
theorem iter_eq_spec_minutely_byhour (ma : MinutelyBHArgs a) (h : construct a = .ok r) (n : Nat)
    (hle : (Spec.RRule.startOrd a * 24 + a.dtstart.hh) * 60 + a.dtstart.mm + (2880 * n + 1440) * a.interval + 1439 <
      (maxOrdinal + 1) * 1440) :
    ∃ m, n ≤ m ∧ m ≤ 2880 * n ∧ (iter r n).1 = Spec.RRule.occ a m := by
  have hv := ma.valid
  unfold DT.Valid ValidDate at hv
  exact iter_eq_spec_minutely_filter (wFilter h (by rw [ma.freq]; omega) ma.interval ma.valid ma.weekno ma.byeaster ma.monthday_nz) h ma.freq ma.interval ma.valid (Or.inr ma.hours) ma.seconds_ok 1440 2880
    (minutely_reach_byhour ma.hours ma.byminute ma.reach) (by omega) n hv.1.1 hle

/-- **`iter_eq_spec_minutely_byhour_easter`**: `iter_eq_spec_minutely_byhour` with BYEASTER instead of "no
    BYEASTER" — offsets −80..250 (the complement of D-C01d), no BYWEEKNO, a start in a year ≥ 1583 and every
    visited day not after 31 December 4099 (where C19 ties `easter.easter` to Meeus/Jones/Butcher); everything
    else as there, `n ≤ m ≤ 2880·n`. -/
theorem iter_eq_spec_minutely_byhour_easter (ma : MinutelyBHEArgs a) (h : construct a = .ok r) (n : Nat)
    (hlo : 1583 ≤ a.dtstart.y)
    (hle : (Spec.RRule.startOrd a * 24 + a.dtstart.hh) * 60 + a.dtstart.mm + (2880 * n + 1440) * a.interval + 1439 <
      (Cal.toOrdinal 4099 12 31 + 1) * 1440) :
    ∃ m, n ≤ m ∧ m ≤ 2880 * n ∧ (iter r n).1 = Spec.RRule.occ a m :=
  iter_eq_spec_minutely_filter (eFilter h (by rw [ma.freq]; omega) ma.interval ma.valid ma.byweekno ma.easter ma.monthday_nz) h ma.freq ma.interval ma.valid (Or.inr ma.hours) ma.seconds_ok 1440 2880
    (minutely_reach_byhour ma.hours ma.byminute ma.reach) (by omega) n hlo hle

-- non-vacuity: the hypotheses are satisfiable
example : MinutelyBHEArgs { freq := 5, dtstart := ⟨2024, 1, 1, 10, 0, 0, 0⟩, byeaster := some [0, 1],
                            byhour := some [10, 16] } :=
  { freq := rfl, interval := (by decide), valid := (by decide), byweekno := rfl,
    easter := ⟨[0, 1], rfl, by simp, by intro o ho; simp at ho; omega⟩,
    monthday_nz := (by intro x hx; simp at hx), hours := ⟨[10, 16], rfl, by simp⟩, byminute := rfl,
    seconds_ok := (by intro x hx; simp at hx), reach := List.any_eq_true.mpr ⟨0, List.mem_range.mpr (by omega), by decide⟩ }

end RRule
