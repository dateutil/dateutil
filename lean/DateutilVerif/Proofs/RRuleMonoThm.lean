/-
  Proofs/RRuleMonoThm.lean — strict monotonicity: rules built by `construct` satisfy
  `RuleOk`, `init` establishes the invariant, and the theorem for the calendar frequencies.
-/
import DateutilVerif.Proofs.RRuleMonoCal
import DateutilVerif.Proofs.RRuleConstruct

namespace RRule
open Cal

/-- every rule built by the constructor with INTERVAL ≥ 1 and a week start in 0..6 -/
theorem construct_ruleOk (a : Args) (r : Rule) (h : construct a = .ok r) (hi : 1 ≤ a.interval)
    (hw : 0 ≤ a.wkst.getD 0 ∧ a.wkst.getD 0 ≤ 6) : RuleOk r := by
  obtain ⟨sp, bh, bm, bs, ts, h1, h2, h3, h4, h5, rfl⟩ := construct_ok a r h
  have n2 := normUnit_nodup _ _ _ _ _ _ _ h2
  have n3 := normUnit_nodup _ _ _ _ _ _ _ h3
  have n4 := normUnit_nodup _ _ _ _ _ _ _ h4
  refine ⟨hi, hw, ?_, n3, n4⟩
  intro hf
  dsimp only at hf ⊢
  unfold timesetOf at h5
  rw [if_neg (by omega)] at h5
  split at h5
  · rename_i t ht
    injection h5 with h5; subst h5
    exact (buildTimeset_ok _ _ _ t n2 n3 n4 ht).1
  · cases h5

/-- the initial state of a calendar-frequency rule satisfies the invariant -/
theorem init_calInv (r : Rule) (ok : RuleOk r) (hf : r.freq ≤ 3) (hv : r.dtstart.Valid) (st : State)
    (h : init r = .ok st) : CalInv r st := by
  unfold init at h
  simp only [bind, Except.bind] at h
  split at h
  · cases h
  · rename_i info hre
    rw [if_pos (by omega)] at h
    simp only [pure, Except.pure] at h
    injection h with h; subst h
    unfold DT.Valid ValidDate at hv
    exact ⟨rebuild_facts r _ _ info hre, ⟨hv.1.2.2.1, hv.1.2.2.2.1⟩, ok.timeset (by omega),
           fun _ => hv.1.2.2, fun _ => rfl⟩

/-- **strictly increasing, calendar frequencies**: for every rule built by the constructor from a
    valid start with INTERVAL ≥ 1 (any BY parts, any COUNT/UNTIL, also inside the known-defect
    classes), the values yielded in any number of periods are strictly increasing. -/
theorem iter_strictMono_calendar (a : Args) (r : Rule) (h : construct a = .ok r) (hi : 1 ≤ a.interval)
    (hw : 0 ≤ a.wkst.getD 0 ∧ a.wkst.getD 0 ≤ 6) (hv : a.dtstart.Valid)
    (hf : 0 ≤ a.freq ∧ a.freq ≤ 3) (n : Nat) :
    (iter r n).1.Pairwise secsLt := by
  have ok := construct_ruleOk a r h hi hw
  have hfr : r.freq = a.freq := (construct_fields a r h).1
  have hds : r.dtstart = { a.dtstart with us := 0 } := (construct_fields a r h).2.2.2.2.2.2.1
  have hv' : r.dtstart.Valid := by
    rw [hds]; unfold DT.Valid at hv ⊢; dsimp only
    exact ⟨hv.1, hv.2.1, hv.2.2.1, hv.2.2.2.1, hv.2.2.2.2.1, hv.2.2.2.2.2.1, hv.2.2.2.2.2.2.1, by omega, by omega⟩
  unfold iter
  split
  · exact List.Pairwise.nil
  · rename_i st hinit
    have inv := init_calInv r ok (by omega) hv' st hinit
    have hfr' : 0 ≤ r.freq ∧ r.freq ≤ 3 := by omega
    refine (run_pairwise r (CalInv r) (fun st => loOrd r st * 86400) ?_ ?_ ?_ n st inv).1
    · intro st inv x hx
      obtain ⟨hi', _, hwin, _, _⟩ := cal_window r ok hfr' st inv
      exact (hwin x hx).1
    · intro st inv
      obtain ⟨hi', _, _, hs, _⟩ := cal_window r ok hfr' st inv
      exact hs
    · intro st st' inv hst
      obtain ⟨hi', hlt, hwin, _, hnext⟩ := cal_window r ok hfr' st inv
      obtain ⟨inv', hle⟩ := hnext st' hst
      refine ⟨inv', ?_, ?_⟩
      · apply Int.mul_le_mul_of_nonneg_right <;> omega
      · intro x hx
        have := (hwin x hx).2
        have : hi' * 86400 ≤ loOrd r st' * 86400 := by apply Int.mul_le_mul_of_nonneg_right <;> omega
        omega

end RRule
