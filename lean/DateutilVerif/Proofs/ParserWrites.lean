/-
  Proofs/ParserWrites.lean — the only write `_parse` makes into its token list is the sign flip of the
  `TZNAME+N` arm (for C14: where aliasing of the token list could leak state from one call into the next).
-/
import DateutilVerif.Model.Parser
import DateutilVerif.Proofs.PySat

namespace PM
open Py

/-- every value `r` returns satisfies `P` (nothing is said about what it raises) -/
abbrev OkR {α} (P : α → Prop) (r : R α) : Prop := Sat r P (fun _ => True)

theorem tokAt_sat (l : List Token) (i : Nat) : OkR (fun t => l[i]? = some t) (tokAt l i) := by
  unfold tokAt
  split
  · exact .ok ‹_›
  · exact .err trivial

theorem OkR.elim {α} {P : α → Prop} {r : R α} (h : OkR P r) : ∀ a, r = .ok a → P a := fun _ ha => Sat.of_ok h ha

/- `Sat` unfolded is a `match` on the program: closed to `exact`, which would otherwise evaluate the program to see the arm -/
attribute [local irreducible] Sat

/-! the arms that return `{ st with … }` without touching `l` (nor, the AM/PM arm apart, the AM/PM flag) -/

theorem stepMonth_keeps (cls : Char → CClass) (info : Info) (lenL i : Nat) (st : PState) (mv : Nat) :
    OkR (fun r => r.2.l = st.l ∧ r.2.res = st.res) (stepMonth cls info lenL i st mv) := by
  unfold stepMonth
  refine Sat.bind .triv fun y _ => Sat.ite' (fun _ => ?_) fun _ => Sat.ok ⟨rfl, rfl⟩
  refine Sat.bind .triv fun l1 _ => Sat.ite' (fun _ => ?_) fun _ => Sat.ite' (fun _ => ?_) fun _ => Sat.ok ⟨rfl, rfl⟩
  · exact Sat.bind .triv fun _ _ => Sat.bind .triv fun _ _ => Sat.ite'
      (fun _ => Sat.bind .triv fun _ _ => Sat.bind .triv fun _ _ => Sat.ok ⟨rfl, rfl⟩) fun _ => Sat.ok ⟨rfl, rfl⟩
  · exact Sat.bind .triv fun _ _ => Sat.ite'
      (fun _ => Sat.bind .triv fun _ _ => Sat.bind .triv fun _ _ => Sat.bind .triv fun _ _ => Sat.ok ⟨rfl, rfl⟩) fun _ => Sat.ok ⟨rfl, rfl⟩

theorem stepAmpm_l (fuzzy : Bool) (i : Nat) (st : PState) (ap : Nat) : OkR (fun r => r.2.l = st.l) (stepAmpm fuzzy i st ap) := by
  unfold stepAmpm
  refine Sat.bind .triv fun o _ => ?_
  split
  · exact Sat.ok rfl
  · exact Sat.ite' (fun _ => Sat.ok rfl) fun _ => Sat.ok rfl

theorem stepTzoffset_keeps (cls : Char → CClass) (info : Info) (lenL i : Nat) (st : PState) (li : Token) :
    OkR (fun r => r.2.l = st.l ∧ r.2.res.ampm = st.res.ampm) (stepTzoffset cls info lenL i st li) := by
  unfold stepTzoffset
  refine Sat.bind .triv fun hma _ => ?_
  dsimp only
  split <;> exact Sat.ok ⟨rfl, rfl⟩

/-- one iteration leaves the token list alone, except that after a zone name a following `+` / `-` token at
    `i + 1` is replaced by the opposite sign -/
theorem parseStep_writes (cls : Char → CClass) (info : Info) (fuzzy : Bool) (lenL i : Nat) (st : PState) (r : Nat × PState)
    (h : parseStep cls info fuzzy lenL i st = .ok r) :
    r.2.l = st.l ∨
    ∃ name sign, st.l[i]? = some name ∧ couldBeTzname info st.res.hour st.res.tzname st.res.tzoffset name = true ∧
      st.l[i + 1]? = some sign ∧ (sign = ['+'] ∨ sign = ['-']) ∧
      r.2.l = st.l.set (i + 1) (if sign = ['+'] then ['-'] else ['+']) := by
  revert r h
  refine OkR.elim ?_
  unfold parseStep
  refine Sat.bind (tokAt_sat _ _) fun li hli => Sat.ite' (fun _ => Sat.bind .triv fun _ _ => Sat.ok (Or.inl rfl)) fun _ => ?_
  split
  · exact Sat.ok (Or.inl rfl)
  split
  · exact Sat.mono (stepMonth_keeps _ _ _ _ _ _) (fun _ h => Or.inl h.1) (fun _ _ => trivial)
  split
  · exact Sat.mono (stepAmpm_l _ _ _ _) (fun _ => Or.inl) (fun _ _ => trivial)
  refine Sat.ite' (fun hcb => ?_) fun _ => Sat.ite' (fun _ => Sat.mono (stepTzoffset_keeps _ _ _ _ _ _) (fun _ h => Or.inl h.1) (fun _ _ => trivial)) fun _ =>
    Sat.ite' (fun _ => Sat.err trivial) fun _ => Sat.ok (Or.inl rfl)
  refine Sat.ok ?_
  unfold stepTzname
  dsimp only
  split
  · rename_i l1 hl1
    split
    · rename_i hsign
      have hx1 : st.l[i + 1]? = some l1 := by
        split at hl1
        · exact hl1
        · cases hl1
      exact Or.inr ⟨li, l1, hli, hcb, hx1, hsign, rfl⟩
    · exact Or.inl rfl
  · exact Or.inl rfl
end PM
