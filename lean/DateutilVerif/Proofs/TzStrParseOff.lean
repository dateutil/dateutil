/-
  Proofs/TzStrParseOff.lean — `parseOffset` on every spelling of an offset, over an abstract token array given by a
  list decomposition `pre ++ (segment ++ post)`; the values of the offset and time spellings; the coverage steps
  `cov_one` / `cov_skip` (`ruleTime` is in Proofs/TzStrParseRule.lean).
-/
import DateutilVerif.Proofs.TzStrParseFacts

namespace TzStr

def OffSp.val : OffSp → Int
  | .h n => n.val * 3600
  | .hhmm _ a b => a * 3600 + b * 60
  | .colon a b => a.val * 3600 + b.val * 60

/-- the parser's sign convention: "-" means EAST (+), "+" or no sign mean WEST (−) -/
def Off.val (o : Off) : Int := o.sp.val * (if o.sign = some false then 1 else -1)

def TimeSp.val : TimeSp → Int
  | .h n => n.val * 3600
  | .hhmm _ a b => a * 3600 + b * 60
  | .hm a b => a.val * 3600 + b.val * 60
  | .hms a b c => a.val * 3600 + b.val * 60 + c.val

theorem cov_step {l : Array String} {st st' : St} (hc : Cov l st) (hi : st.i ≤ st'.i)
    (hused : ∀ k ∈ st.used, k ∈ st'.used)
    (hnew : ∀ k, st.i ≤ k → k < st'.i → k < l.size → (k ∈ st'.used ∨ l[k]? = some "," ∨ l[k]? = some ":")) :
    Cov l st' := by
  intro k hk hs
  by_cases h : k < st.i
  · rcases hc k h hs with a | a | a
    · exact Or.inl (hused k a)
    · exact Or.inr (Or.inl a)
    · exact Or.inr (Or.inr a)
  · exact hnew k (by omega) hk hs

/-- one token consumed and recorded as used -/
theorem cov_one {l : Array String} {st : St} (hc : Cov l st) {n : Nat} (hi : st.i = n) :
    Cov l { st with used := st.used ++ [n], i := n + 1 } := by
  apply cov_step hc (by simp [hi]) (by intro k hk; simp [hk])
  intro k h1 h2 _
  have : k = n := by simp at h2; omega
  left; simp [this]

/-- one "," / ":" (or the end of the tokens) passed over -/
theorem cov_skip {l : Array String} {st : St} (hc : Cov l st) {n : Nat} (hi : st.i = n)
    (h : n < l.size → l[n]? = some "," ∨ l[n]? = some ":") : Cov l { st with i := n + 1 } := by
  apply cov_step hc (by simp [hi]) (by intro k hk; exact hk)
  intro k h1 h2 h3
  have : k = n := by simp at h2; omega
  subst this
  exact Or.inr (h h3)

/-- the model's `parseOffset` after the optional sign (`parseOffset_eq` splits it there) -/
def offCore (l : Array String) (st : St) (signal : Int) : P (Int × St) := do
  let i := st.i
  let t ← tok l i
  let len := t.length
  if len == 4 then do
    let a ← pyInt (strTake t 2)
    let b ← pyInt (strDrop t 2)
    pure ((a * 3600 + b * 60) * signal, { st with used := st.used ++ [i], i := i + 1 })
  else if i + 1 < l.size && l[i + 1]? == some ":" then do
    let a ← pyInt t
    let t2 ← tok l (i + 2)
    let b ← pyInt t2
    pure ((a * 3600 + b * 60) * signal, { st with used := st.used ++ [i, i + 2], i := i + 3 })
  else if len ≤ 2 then do
    let a ← pyInt (strTake t 2)
    pure (a * 3600 * signal, { st with used := st.used ++ [i], i := i + 1 })
  else none

theorem parseOffset_eq (l : Array String) (st : St) :
    parseOffset l st =
      (match l[st.i]? with
       | none => none
       | some t =>
         if t == "+" || t == "-" then
           offCore l { st with used := st.used ++ [st.i], i := st.i + 1 } (if t == "+" then -1 else 1)
         else offCore l st (-1)) := by
  unfold parseOffset offCore
  cases h : l[st.i]? with
  | none => simp [tok, h, bind, Option.bind]
  | some t =>
      by_cases hs : (t == "+" || t == "-") = true
      · simp only [tok, h, bind, Option.bind, hs, if_true, pure]
      · simp only [tok, h, bind, Option.bind, hs, if_false, pure, Bool.false_eq_true]

theorem not_colon_of_head {post : List String} (hp : post.head? ≠ some ":") : (post[0]? == some ":") = false := by
  cases post with
  | nil => rfl
  | cons x t =>
      simp only [List.head?_cons, ne_eq, Option.some.injEq] at hp
      simp [hp]

theorem offCore_spec (sp : OffSp) (l : Array String) (pre post : List String) (st : St) (signal : Int)
    (hl : l.toList = pre ++ (toksOf sp.chunks ++ post)) (hi : st.i = pre.length) (hok : sp.Ok)
    (hp : post.head? ≠ some ":") (hc : Cov l st) :
    ∃ st', offCore l st signal = some (sp.val * signal, st') ∧
      st'.i = pre.length + (toksOf sp.chunks).length ∧ st'.res = st.res ∧ Cov l st' := by
  have hpc := not_colon_of_head hp
  cases sp with
  | h n =>
      obtain ⟨hn0, hlen⟩ := hok
      have hn : pyInt n.tok = some n.val := hn0
      simp only [OffSp.chunks, numC, toksOf_cons, toksOf_nil, String.ofList_toList, List.cons_append,
        List.nil_append] at hl
      have g0 := get_at hl 0
      have g1 := get_at hl 1
      have hs := size_at hl
      simp only [List.getElem?_cons_zero, List.getElem?_cons_succ, Nat.add_zero, List.length_cons] at g0 g1 hs
      have h4 : (n.tok.length == 4) = false := by apply beq_eq_false_iff_ne.mpr; omega
      refine ⟨{ st with used := st.used ++ [pre.length], i := pre.length + 1 }, ?_, by simp [OffSp.chunks, toksOf], rfl, ?_⟩
      · unfold offCore
        simp only [tok, hi, g0, g1, bind, Option.bind, h4, hpc, Bool.and_false, Bool.false_eq_true, if_false,
          hlen, if_true, strTake_short n.tok hlen, hn, pure, OffSp.val]
      · exact cov_one hc hi
  | hhmm t a b =>
      obtain ⟨hd, hlen, ha, hb⟩ := hok
      simp only [OffSp.chunks, toksOf_cons, toksOf_nil, String.ofList_toList, List.cons_append,
        List.nil_append] at hl
      have g0 := get_at hl 0
      simp only [List.getElem?_cons_zero, Nat.add_zero] at g0
      have h4 : (t.length == 4) = true := by simp [hlen]
      refine ⟨{ st with used := st.used ++ [pre.length], i := pre.length + 1 }, ?_, by simp [OffSp.chunks, toksOf], rfl, ?_⟩
      · unfold offCore
        simp only [tok, hi, g0, bind, Option.bind, h4, if_true, ha, hb, pure, OffSp.val]
      · exact cov_one hc hi
  | colon a b =>
      obtain ⟨ha0, hb0, hlen, _, _⟩ := hok
      have ha : pyInt a.tok = some a.val := ha0
      have hb : pyInt b.tok = some b.val := hb0
      simp only [OffSp.chunks, numC, pC, toksOf_cons, toksOf_nil, String.ofList_toList, List.cons_append,
        List.nil_append] at hl
      have g0 := get_at hl 0
      have g1 := get_at hl 1
      have g2 := get_at hl 2
      have hs := size_at hl
      have ec : String.ofList [':'] = ":" := rfl
      simp only [List.getElem?_cons_zero, List.getElem?_cons_succ, Nat.add_zero, List.length_cons, ec] at g0 g1 g2 hs
      have h4 : (a.tok.length == 4) = false := by apply beq_eq_false_iff_ne.mpr; exact hlen
      have hlt : decide (pre.length + 1 < l.size) = true := by simp; omega
      refine ⟨{ st with used := st.used ++ [pre.length, pre.length + 2], i := pre.length + 3 }, ?_,
        by simp [OffSp.chunks, toksOf], rfl, ?_⟩
      · unfold offCore
        simp only [tok, hi, g0, g1, g2, bind, Option.bind, h4, hlt, beq_self_eq_true, Bool.and_self, if_true,
          Bool.false_eq_true, if_false, ha, hb, pure, OffSp.val]
      · apply cov_step hc (by simp [hi]) (by intro k hk; simp [hk])
        intro k h1 h2 _
        simp only [hi] at h1
        have : k = pre.length ∨ k = pre.length + 1 ∨ k = pre.length + 2 := by simp at h2; omega
        rcases this with e | e | e
        · left; simp [e]
        · right; right; rw [e]; exact g1
        · left; simp [e]

theorem parseOffset_spec (o : Off) (l : Array String) (pre post : List String) (st : St)
    (hl : l.toList = pre ++ (toksOf o.chunks ++ post)) (hi : st.i = pre.length) (hok : o.sp.Ok)
    (hp : post.head? ≠ some ":") (hc : Cov l st) :
    ∃ st', parseOffset l st = some (o.val, st') ∧
      st'.i = pre.length + (toksOf o.chunks).length ∧ st'.res = st.res ∧ Cov l st' := by
  obtain ⟨sign, sp⟩ := o
  have hdt : ∀ t : String, (toksOf sp.chunks)[0]? = some t → (t == "+" || t == "-") = false := by
    intro t ht
    have hd : IsDig t := by
      cases sp with
      | h n => simp [OffSp.chunks, numC, toksOf] at ht; rw [← ht]; exact n.isDig hok.1
      | hhmm t' a b => simp [OffSp.chunks, toksOf] at ht; rw [← ht]; exact hok.1
      | colon a b => simp [OffSp.chunks, numC, toksOf] at ht; rw [← ht]; exact a.isDig hok.1
    have := digTok_of t hd
    simp [this.plus, this.minus]
  cases sign with
  | none =>
      simp only [Off.chunks, signChunks, List.nil_append] at hl ⊢
      obtain ⟨st', h1, h2, h3, h4⟩ := offCore_spec sp l pre post st (-1) hl hi hok hp hc
      refine ⟨st', ?_, h2, h3, h4⟩
      rw [parseOffset_eq, hi]
      have g0 := get_at hl 0
      simp only [Nat.add_zero] at g0
      have hne : (toksOf sp.chunks ++ post)[0]? = (toksOf sp.chunks)[0]? := by
        cases sp <;> simp [OffSp.chunks, toksOf]
      rw [hne] at g0
      cases ht : (toksOf sp.chunks)[0]? with
      | none => cases sp <;> simp [OffSp.chunks, toksOf] at ht
      | some t =>
          rw [ht] at g0
          simp only [g0, hdt t ht, Bool.false_eq_true, if_false]
          rw [h1]; simp [Off.val]
  | some bsign =>
      have hsgn : toksOf (signChunks (some bsign)) = [if bsign then "+" else "-"] := by cases bsign <;> rfl
      simp only [Off.chunks, toksOf_append, hsgn, List.cons_append, List.nil_append, List.length_cons] at hl ⊢
      have g0 := get_at hl 0
      simp only [List.getElem?_cons_zero, Nat.add_zero] at g0
      have hl' : l.toList = (pre ++ [if bsign then "+" else "-"]) ++ (toksOf sp.chunks ++ post) := by
        rw [hl]; simp
      have hc' : Cov l { st with used := st.used ++ [st.i], i := st.i + 1 } := cov_one hc rfl
      obtain ⟨st', h1, h2, h3, h4⟩ := offCore_spec sp l (pre ++ [if bsign then "+" else "-"]) post
        { st with used := st.used ++ [st.i], i := st.i + 1 } (if bsign then -1 else 1) hl' (by simp [hi]) hok hp hc'
      refine ⟨st', ?_, by rw [h2]; simp; omega, h3, h4⟩
      rw [parseOffset_eq, hi, g0]
      cases bsign with
      | true => simp only [if_true, beq_self_eq_true, Bool.true_or]; rw [← hi]; simpa [Off.val] using h1
      | false =>
          have : ("-" == "+") = false := by decide
          simp only [Bool.false_eq_true, if_false, this, beq_self_eq_true, Bool.or_true, if_true]
          rw [← hi]; simpa [Off.val] using h1

end TzStr
