/-
  Proofs/RRuleMonthlyW.lean — MONTHLY with BYWEEKNO on the complement of D-C01c (plain BYDAY / BYMONTHDAY allowed):
  the period filter of Proofs/RRuleWeeknoYearly.lean, read by the MONTHLY refinement.
-/
import DateutilVerif.Proofs.RRuleWeeknoYearly
import DateutilVerif.Proofs.RRuleYM

namespace RRule
open Cal

variable {r : Rule}

/-- MONTHLY argument sets with BYWEEKNO on the complement of D-C01c -/
structure WeeknoMArgs (a : Args) : Prop where
  freq : a.freq = 1
  interval : 1 ≤ a.interval
  valid : a.dtstart.Valid
  wkst : 0 ≤ a.wkst.getD 0 ∧ a.wkst.getD 0 ≤ 6
  monthday_nz : ∀ x ∈ a.bymonthday.getD [], x ≠ 0
  byeaster : a.byeaster = none
  plain : ∀ w ∈ a.byweekday.getD [], w.2 = 0
  weekno : ∃ wl, a.byweekno = some wl ∧ wl ≠ [] ∧ WnoOk wl

variable {a : Args}

theorem WeeknoMArgs.ym (wa : WeeknoMArgs a) : WeeknoYMArgs a :=
  ⟨Or.inr wa.freq, wa.interval, wa.valid, wa.wkst, wa.monthday_nz, wa.byeaster, wa.plain, wa.weekno⟩

/-- "the model state at the start of period `k`" -/
structure WeeknoMGood (a : Args) (r : Rule) (k : Nat) (st : State) : Prop where
  facts : YearFacts r st.cur.year st.info
  month : 1 ≤ st.cur.month ∧ st.cur.month ≤ 12
  timeset : st.timeset = Spec.RRule.timesOf a none none none
  idx : st.cur.year * 12 + (st.cur.month - 1) = a.dtstart.y * 12 + (a.dtstart.m - 1) + k * a.interval
  nwd : st.info.nwdaymask = none
  mask : ∃ mask, st.info.wnomask = some mask ∧ (mask.length : Int) = st.info.yearlen + 7 ∧
    ∀ j : Int, 0 ≤ j → j < st.info.yearlen →
      Py.getIdx mask j = .ok (if weekClause r.wkst (weeknosOf a) (st.info.yearordinal + j) = true then 1 else 0)

/-- the state invariant of the MONTHLY refinement, read for this family -/
theorem wm_good (wa : WeeknoMArgs a) {k : Nat} {st : State} (g : PeriodGood (WeeknoInv a r) a r k st) :
    WeeknoMGood a r k st :=
  ⟨g.facts, g.month, g.timeset, g.monthly wa.freq, g.inv.1, g.inv.2⟩

/-- **`iter_eq_spec`, MONTHLY with BYWEEKNO on the complement of D-C01c**: FREQ=MONTHLY, INTERVAL ≥ 1, a valid start, any
    week start 0..6, any BYMONTH / BYMONTHDAY (non-zero) / BYYEARDAY / plain BYDAY / BYHOUR / BYMINUTE / BYSECOND /
    BYSETPOS, any COUNT / UNTIL, no nth BYDAY / BYEASTER -/
theorem iter_eq_spec_monthly_weekno (wa : WeeknoMArgs a) (h : construct a = .ok r) (n : Nat)
    (hm : (a.dtstart.y * 12 + (a.dtstart.m - 1) + n * a.interval) / 12 ≤ 9999) :
    (iter r n).1 = Spec.RRule.occ a n := by
  have hv := wa.valid
  unfold DT.Valid ValidDate at hv
  exact monthly_refines h wa.freq wa.valid ((wy_filter wa.ym h).mono monthDays_year) n hv.1.1 hm

end RRule
