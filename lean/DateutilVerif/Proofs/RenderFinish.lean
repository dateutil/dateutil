/-
  Proofs/RenderFinish.lean — everything `parser.parse` does after the token scan, as a function of the scan's
  result (`finishOf`); the zone fields an offset suffix leaves do not influence the date and time (`finish_tz`).
-/
import DateutilVerif.Proofs.RenderSuffix
import DateutilVerif.Proofs.LexRender

namespace PM
open Py PT

/-- `parser.parse` once `_parse` has returned its result record: `_build_naive`, `_build_tzaware` -/
def afterValidate (o : Opts) (tznames : List Token) (tzi : TzInfos) (dflt : DT) (res2 : Res) : R Result :=
  if res2.len = 0 then .error .ParserError else
  match buildNaive res2 dflt with
  | .error .ValueError => .error .ParserError
  | .error e => .error e
  | .ok naive =>
    if o.ignoretz then .ok { dt := naive, tz := .naive, tokens := none }
    else match buildTzaware tznames tzi res2 with
      | .error .ValueError => .error .ParserError
      | .error e => .error e
      | .ok z => .ok { dt := naive, tz := z, tokens := none }

/-- `_parse` after the loop, `validate`, then the rest (strict parse, no token tuple) -/
def finishOf (info : Info) (o : Opts) (tznames : List Token) (tzi : TzInfos) (dflt : DT) (ymd : Ymd) (res : Res) : R Result :=
  match (ymd.resolve (o.yearfirst.getD info.yearfirst) (o.dayfirst.getD info.dayfirst)) with
  | .error e => if caughtInParse e then .error .ParserError else .error e
  | .ok (y, m, d) =>
    match validate info { res with centurySpecified := ymd.century, year := y, month := m, day := d } with
    | .error e => .error e
    | .ok res2 => afterValidate o tznames tzi dflt res2

/-- `parse` without a token tuple once the scan has returned (strict or fuzzy) -/
theorem parseResult_of_loop (cls : Char → CClass) (info : Info) (o : Opts) (tznames : List Token) (tzi : TzInfos) (dflt : DT)
    (l : List Token) (st : PState) (fz : Bool) (hfz : o.fuzzy = fz) (hfwt : o.fuzzyWithTokens = false)
    (hloop : parseLoop cls info fz l.length l.length 0 0 { l := l } = .ok st) :
    parseResult cls info o tznames tzi dflt l = finishOf info o tznames tzi dflt st.ymd st.res := by
  unfold parseResult parseTokens parseTry finishOf afterValidate
  simp only [hfz, hfwt, Bool.or_false, hloop, bind, Except.bind, throw, throwThe, MonadExceptOf.throw]
  cases hr : st.ymd.resolve (o.yearfirst.getD info.yearfirst) (o.dayfirst.getD info.dayfirst) with
  | error e =>
    simp only []
    by_cases hc : caughtInParse e = true <;> simp [hc]
  | ok ymdv =>
    obtain ⟨y, m, d⟩ := ymdv
    simp only [pure, Except.pure]
    cases hv : validate info { st.res with centurySpecified := st.ymd.century, year := y, month := m, day := d } with
    | error e => simp
    | ok res2 =>
      simp only [Bool.false_eq_true, if_false]
      by_cases hlen : res2.len = 0
      · simp [hlen]
      · simp only [hlen, if_false]
        cases hb : buildNaive res2 dflt with
        | error e => cases e <;> simp
        | ok naive =>
          simp only []
          by_cases hig : o.ignoretz = true
          · simp [hig]
          · simp only [hig, if_false, Bool.false_eq_true]
            cases buildTzaware tznames tzi res2 with
            | ok z => simp
            | error e => cases e <;> simp

/-- the zone the suffix must give (`naive` when `ignoretz`) -/
def offZone (o : Opts) (tznames : List Token) (off : Off) : TzDescr :=
  if o.ignoretz then .naive else offDescr tznames off

theorem offZone_naive (o : Opts) (tznames : List Token) : offZone o tznames .naive = .naive := by
  unfold offZone; split <;> rfl

/-- the zone part of `parserinfo.validate` -/
def tzNorm (info : Info) (res : Res) : Res :=
  let noName := res.tzname.isNone || res.tzname == some []
  if (res.tzoffset == some 0 && noName) || res.tzname == some ['Z'] || res.tzname == some ['z'] then
    { res with tzname := some (tk "UTC"), tzoffset := some 0 }
  else if res.tzoffset != some 0 && !noName && res.tzname.any info.isUtczone then
    { res with tzoffset := some 0 }
  else res

theorem validate_eq (info : Info) (res : Res) :
    validate info res =
      match res.year with
      | some y => (Gen.convertyear ⟨info.century, info.year⟩ (y : Int) res.centurySpecified).map
                    (fun y' => tzNorm info { res with year := some y'.toNat })
      | none => .ok (tzNorm info res) := by
  unfold validate tzNorm
  cases hy : res.year with
  | none => simp only [bind, Except.bind, pure, Except.pure]; split <;> (try split) <;> simp [hy]
  | some y =>
    simp only [bind, Except.bind, pure, Except.pure]
    cases Gen.convertyear ⟨info.century, info.year⟩ (y : Int) res.centurySpecified with
    | error e => rfl
    | ok v => simp only [Except.map]; split <;> (try split) <;> rfl

/-- zone name after `validate` for an offset suffix -/
def normName (off : Off) : Option Token :=
  match off.seconds with
  | some n => if n = 0 then some ['U', 'T', 'C'] else none
  | none => none

theorem off_seconds_ok (off : Off) (hoff : off.Dom) : ∀ n, off.seconds = some n → offsetOk n = true := by
  intro n hn
  rcases off with _ | sp | _ | ⟨sp, neg, oh⟩ | ⟨sp, neg, oh, om⟩ | ⟨sp, neg, oh, om⟩ <;> simp only [Off.seconds] at hn
  · cases hn
  · cases hn; decide
  · cases hn; decide
  all_goals simp only [Off.Dom] at hoff
  all_goals simp only [Option.some.injEq] at hn
  all_goals subst hn
  · have := offsetOk_hm oh 0 (by omega) (by omega)
    cases neg <;> simp [this.2.2.1, this.2.2.2.1]
  · have := offsetOk_hm oh om (by omega) (by omega)
    cases neg <;> simp [this.1, this.2.1]
  · have := offsetOk_hm oh om (by omega) (by omega)
    cases neg <;> simp [this.1, this.2.1]

theorem tzNorm_off (df yf : Bool) (year century : Int) (R : Res) (htn : R.tzname = none) (hto : R.tzoffset = none) (off : Off) :
    tzNorm (Info.default df yf year century) { R with tzname := offName off, tzoffset := offSecs off } =
      { R with tzname := normName off, tzoffset := off.seconds } := by
  rcases off with _ | sp | _ | ⟨sp, neg, oh⟩ | ⟨sp, neg, oh, om⟩ | ⟨sp, neg, oh, om⟩
  · cases R; simp_all [tzNorm, offName, offSecs, normName, Off.seconds]
  · simp +decide [tzNorm, offName, offSecs, normName, Off.seconds, tk]
  · simp +decide [tzNorm, offName, offSecs, normName, Off.seconds, utc_UTC]
  · obtain ⟨n, hn⟩ : ∃ n, Off.seconds (.hh sp neg oh) = some n := ⟨_, rfl⟩
    simp only [tzNorm, offName, offSecs, normName, hn]
    by_cases h0 : n = 0 <;> simp +decide [h0, tk]
  · obtain ⟨n, hn⟩ : ∃ n, Off.seconds (.hhmm sp neg oh om) = some n := ⟨_, rfl⟩
    simp only [tzNorm, offName, offSecs, normName, hn]
    by_cases h0 : n = 0 <;> simp +decide [h0, tk]
  · obtain ⟨n, hn⟩ : ∃ n, Off.seconds (.hhcmm sp neg oh om) = some n := ⟨_, rfl⟩
    simp only [tzNorm, offName, offSecs, normName, hn]
    by_cases h0 : n = 0 <;> simp +decide [h0, tk]

theorem buildTzaware_off (tznames : List Token) (tzi : TzInfos) (R : Res) (off : Off) (hoff : off.Dom)
    (htz1 : tzi.applies none = false) (htz2 : tzi.applies (some ['U', 'T', 'C']) = false) :
    buildTzaware tznames tzi { R with tzname := normName off, tzoffset := off.seconds } = .ok (offDescr tznames off) := by
  have hok := off_seconds_ok off hoff
  unfold buildTzaware offDescr normName
  cases hs : off.seconds with
  | none => simp [htz1, nameTruthy]
  | some n =>
    have := hok n hs
    by_cases hn : n = 0
    · subst hn
      by_cases hu : ['U', 'T', 'C'] ∈ tznames <;> simp +decide [htz2, nameTruthy, utcOrLocal, hu]
    · simp [hn, htz1, nameTruthy, fixedZone, this]

/-- after the (identical) year conversion the two records differ in the zone fields only -/
theorem afterValidate_tz (df yf : Bool) (year century : Int) (o : Opts) (tznames : List Token) (tzi : TzInfos) (dflt : DT)
    (dt : DT) (off : Off) (hoff : off.Dom)
    (htz1 : tzi.applies none = false) (htz2 : tzi.applies (some ['U', 'T', 'C']) = false)
    (RR : Res) (h1 : RR.tzname = none) (h2 : RR.tzoffset = none) (h3 : RR.hour.isSome = true)
    (hR : afterValidate o tznames tzi dflt (tzNorm (Info.default df yf year century) RR) = .ok { dt := dt, tz := .naive, tokens := none }) :
    afterValidate o tznames tzi dflt
        (tzNorm (Info.default df yf year century) { RR with tzname := offName off, tzoffset := offSecs off }) =
      .ok { dt := dt, tz := offZone o tznames off, tokens := none } := by
  have hnorm0 : tzNorm (Info.default df yf year century) RR = RR := by
    cases RR; simp_all [tzNorm]
  rw [tzNorm_off df yf year century RR h1 h2 off]
  rw [hnorm0] at hR
  unfold afterValidate at hR ⊢
  obtain ⟨hv, hhv⟩ : ∃ hv, RR.hour = some hv := by cases hx : RR.hour <;> simp_all
  have hlen : ({ RR with tzname := normName off, tzoffset := off.seconds } : Res).len ≠ 0 := by simp [Res.len, hhv]
  have hlen0 : RR.len ≠ 0 := by simp [Res.len, hhv]
  simp only [hlen, hlen0, if_false] at hR ⊢
  have hbn : buildNaive { RR with tzname := normName off, tzoffset := off.seconds } dflt = buildNaive RR dflt := rfl
  rw [hbn]
  cases hb : buildNaive RR dflt with
  | error e => rw [hb] at hR; cases e <;> simp at hR
  | ok naive =>
    rw [hb] at hR
    simp only [] at hR ⊢
    rw [buildTzaware_off tznames tzi RR off hoff htz1 htz2]
    by_cases hig : o.ignoretz = true
    · simp only [hig, if_true] at hR ⊢
      simp only [Except.ok.injEq, Result.mk.injEq] at hR
      simp [offZone, hig, hR.1]
    · simp only [hig, if_false, Bool.false_eq_true] at hR ⊢
      cases hz : buildTzaware tznames tzi RR with
      | error e => rw [hz] at hR; cases e <;> simp at hR
      | ok z =>
        rw [hz] at hR
        simp only [Except.ok.injEq, Result.mk.injEq] at hR
        simp [offZone, hig, hR.1]

/-- the zone fields left by an offset suffix change the zone of the result and nothing else -/
theorem finish_tz (df yf : Bool) (year century : Int) (o : Opts) (tznames : List Token) (tzi : TzInfos) (dflt : DT)
    (ymd : Ymd) (r : Res) (dt : DT) (off : Off) (hoff : off.Dom)
    (htz1 : tzi.applies none = false) (htz2 : tzi.applies (some ['U', 'T', 'C']) = false)
    (htn : r.tzname = none) (hto : r.tzoffset = none) (hh : r.hour.isSome = true)
    (h : finishOf (Info.default df yf year century) o tznames tzi dflt ymd r = .ok { dt := dt, tz := .naive, tokens := none }) :
    finishOf (Info.default df yf year century) o tznames tzi dflt ymd { r with tzname := offName off, tzoffset := offSecs off } =
      .ok { dt := dt, tz := offZone o tznames off, tokens := none } := by
  unfold finishOf at h ⊢
  cases hr : ymd.resolve (o.yearfirst.getD (Info.default df yf year century).yearfirst)
      (o.dayfirst.getD (Info.default df yf year century).dayfirst) with
  | error e => rw [hr] at h; by_cases hc : caughtInParse e = true <;> simp [hc] at h
  | ok ymdv =>
    obtain ⟨y, m, d⟩ := ymdv
    rw [hr] at h
    simp only [validate_eq] at h ⊢
    cases y with
    | none =>
      simp only [] at h ⊢
      exact afterValidate_tz df yf year century o tznames tzi dflt dt off hoff htz1 htz2
        { r with centurySpecified := ymd.century, year := none, month := m, day := d } htn hto hh h
    | some yv =>
      simp only [] at h ⊢
      cases hc : Gen.convertyear ⟨(Info.default df yf year century).century, (Info.default df yf year century).year⟩ (yv : Int) ymd.century with
      | error e => rw [hc] at h; simp [Except.map] at h
      | ok v =>
        rw [hc] at h
        simp only [Except.map] at h ⊢
        exact afterValidate_tz df yf year century o tznames tzi dflt dt off hoff htz1 htz2
          { r with centurySpecified := ymd.century, year := some v.toNat, month := m, day := d } htn hto hh h

end PM
