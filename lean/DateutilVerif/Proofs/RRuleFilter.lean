/-
  Proofs/RRuleFilter.lean — the BY-filter of `rrule._iter` (the test `if (bymonth and …) or (byweekno and …) or …:
  dayset[i] = None`) in calendar terms.  For any rule, over the whole year and its 7-day tail, the day at mask index `i` survives exactly when the date `yearordinal + i` satisfies
  BYMONTH, BYDAY (plain), BYMONTHDAY (positive or counted from the month's end) and BYYEARDAY (positive or from the
  year's end) — `simpleOk` — and none of the three computed masks (BYWEEKNO, nth BYDAY, BYEASTER) misses it
  (`dayFiltered_eq`).  Each mask clause has its own lemmas: absent, or a 0/1 list `Marked` by a predicate.  Likewise
  `rebuild` is the three mask builders on `baseInfo` (`rebuild_eq`).
-/
import DateutilVerif.Proofs.RRuleDayset
import DateutilVerif.Proofs.RRuleLists

namespace RRule
open Cal RRule.Tables

theorem YearFacts.ord_pos {r : Rule} {y : Int} {info : Info} (f : YearFacts r y info) : 1 ≤ toOrdinal y 1 1 :=
  toOrdinal_pos _ _ _ f.year_lo ⟨by omega, by omega, by omega, by have := daysInMonth_bounds y 1; omega⟩

/-- none of the three computed masks is consulted -/
structure SimpleRule (r : Rule) : Prop where
  byweekno : truthy r.byweekno = false
  bynweekday : truthy r.bynweekday = false
  byeaster : truthy r.byeaster = false

/-- the four table-backed clauses (BYMONTH, plain BYDAY, BYMONTHDAY, BYYEARDAY) of any rule, on the calendar; for a
    `SimpleRule` they are the whole filter -/
def simpleOk (r : Rule) (ord : Int) : Bool :=
  (!truthy r.bymonth || memO (fromOrdinal ord).2.1 r.bymonth) &&
  (!truthy r.byweekday || memO (weekdayOfOrd ord) r.byweekday) &&
  (!(!r.bymonthday.isEmpty || !r.bynmonthday.isEmpty) ||
     r.bymonthday.contains (fromOrdinal ord).2.2 ||
     r.bynmonthday.contains ((fromOrdinal ord).2.2 -
        daysInMonth (fromOrdinal ord).1 (fromOrdinal ord).2.1 - 1)) &&
  (!truthy r.byyearday ||
     memO (ord - toOrdinal (fromOrdinal ord).1 1 1 + 1) r.byyearday ||
     memO (ord - toOrdinal (fromOrdinal ord).1 1 1 + 1 - daysInYear (fromOrdinal ord).1 - 1) r.byyearday)

theorem orR_ok (b : Bool) (k : Unit → Py.R Bool) : orR (.ok b) k = if b then .ok true else k () := by
  cases b <;> rfl

theorem orR_ok_ok (a b : Bool) : orR (.ok a) (fun _ => .ok b) = .ok (a || b) := by
  rw [orR_ok]; cases a <;> rfl

/-- the nth-weekday clause of `dayFiltered`.  Not a `maskMiss`: rrule.py tests the mask itself (`if self.nwdaymask`), which
    `rebuild` leaves unset when no range applies, not `bynweekday` -/
def nthMiss (info : Info) (i : Int) : Py.R Bool :=
  match info.nwdaymask with
  | some (x :: xs) =>
    (match Py.getIdx (x :: xs) i with
     | .ok v => .ok (v == 0)
     | .error e => .error e)
  | _ => .ok false

/-- the optional list is a 0/1 mask that marks `P` on the indices `0 ≤ j < n`; `n` says how far the mask can be trusted:
    the year (`yearlen`, nth mask), the year and its 7-day tail (`yearlen + 7`, Easter mask), or up to the next week
    start in the tail (`readEnd`, week-number mask) -/
def Marked (o : Option (List Int)) (n : Int) (P : Int → Prop) [DecidablePred P] : Prop :=
  ∃ m, o = some m ∧ ∀ j, 0 ≤ j → j < n → Py.getIdx m j = .ok (if P j then 1 else 0)

theorem getIdx_int (l : List Int) (j : Int) (h0 : 0 ≤ j) (h1 : j < l.length) :
    Py.getIdx l j = .ok (l[j.toNat]'(by omega)) := by
  unfold Py.getIdx
  dsimp only
  rw [if_neg (show ¬ j < 0 by omega), if_neg (by omega), List.getElem?_eq_getElem (by omega)]

theorem getIdx_ok_len (l : List Int) (j : Int) (v : Int) (h0 : 0 ≤ j) (h : Py.getIdx l j = .ok v) : j < l.length := by
  unfold Py.getIdx at h
  dsimp only at h
  rw [if_neg (show ¬ j < 0 by omega)] at h
  split at h
  · cases h
  · rename_i hc; omega

theorem maskMiss_off {c : Bool} (h : c = false) (o : Option (List Int)) (i : Int) : maskMiss c o i = .ok false := by
  rw [h]; rfl

theorem maskMiss_val {c : Bool} (h : c = true) {o : Option (List Int)} {m : List Int} (hm : o = some m) {i v : Int}
    (hg : Py.getIdx m i = .ok v) : maskMiss c o i = .ok (v == 0) := by
  unfold maskMiss
  rw [if_pos h, hm]; dsimp only; rw [hg]

theorem maskMiss_marked {c : Bool} (h : c = true) {o : Option (List Int)} {n : Int} {P : Int → Prop} [DecidablePred P]
    (hm : Marked o n P) {i : Int} (h0 : 0 ≤ i) (h1 : i < n) : maskMiss c o i = .ok (!decide (P i)) := by
  obtain ⟨m, hm, hg⟩ := hm
  rw [maskMiss_val h hm (hg i h0 h1)]
  by_cases c : P i <;> simp [c]

theorem maskMiss_getElem {c : Bool} (h : c = true) {o : Option (List Int)} {mask : List Int} (hm : o = some mask)
    {i : Int} (h0 : 0 ≤ i) (h1 : i < mask.length) : maskMiss c o i = .ok (mask[i.toNat]'(by omega) == 0) :=
  maskMiss_val h hm (getIdx_int mask i h0 h1)

theorem nthMiss_none {info : Info} (h : info.nwdaymask = none) (i : Int) : nthMiss info i = .ok false := by
  unfold nthMiss; rw [h]

theorem nthMiss_marked {info : Info} {n : Int} {P : Int → Prop} [DecidablePred P]
    (hm : Marked info.nwdaymask n P) {i : Int} (h0 : 0 ≤ i) (h1 : i < n) : nthMiss info i = .ok (!decide (P i)) := by
  obtain ⟨m, hm, hg⟩ := hm
  have hgi := hg i h0 h1
  unfold nthMiss; rw [hm]
  cases m with
  | nil => have := getIdx_ok_len [] i _ h0 hgi; simp at this; omega
  | cons x xs =>
    dsimp only; rw [hgi]
    by_cases c : P i <;> simp [c]

theorem wnomaskOf_off {r : Rule} (h : truthy r.byweekno = false) (y : Int) (b : Info) : wnomaskOf r y b = .ok none := by
  unfold wnomaskOf
  split
  · rename_i h'; rw [h'] at h; cases h
  · rfl

theorem eastermaskOf_off {r : Rule} (h : truthy r.byeaster = false) (y : Int) (b : Info) :
    eastermaskOf r y b = .ok none := by
  unfold eastermaskOf
  split
  · rename_i h'; rw [h'] at h; cases h
  · rfl

theorem buildNwdaymask_off {r : Rule} (h : truthy r.bynweekday = false) (yl : Int) (mr wd : List Int) (m : Int) :
    buildNwdaymask r yl mr wd m = .ok none := by
  unfold buildNwdaymask
  split
  · rename_i h'; rw [h'] at h; cases h
  · rfl

/-- inside 1..9999 `rebuild` is the three mask builders on `baseInfo` -/
theorem rebuild_eq (r : Rule) {y : Int} (m : Int) (h1 : 1 ≤ y) (h2 : y ≤ 9999)
    {w n e : Option (List Int)} (hw : wnomaskOf r y (baseInfo y) = .ok w)
    (hn : buildNwdaymask r (baseInfo y).yearlen (baseInfo y).mrange (baseInfo y).wdaymask m = .ok n)
    (he : eastermaskOf r y (baseInfo y) = .ok e) :
    rebuild r y m = .ok { baseInfo y with wnomask := w, nwdaymask := n, eastermask := e } := by
  unfold rebuild
  rw [if_neg (by omega), hw]; dsimp only; rw [hn]; dsimp only; rw [he]

/-- without nth BYDAY members `rebuild` sets no nth-weekday mask -/
theorem rebuild_nwd_off {r : Rule} (h : truthy r.bynweekday = false) {y m : Int} {info : Info}
    (hre : rebuild r y m = .ok info) : info.nwdaymask = none := by
  unfold rebuild at hre
  rw [buildNwdaymask_off h] at hre
  split at hre
  · cases hre
  · split at hre
    · cases hre
    · dsimp only at hre
      split at hre
      · cases hre
      · cases hre; rfl

theorem rebuild_simple (r : Rule) (hs : SimpleRule r) (y m : Int) (h1 : 1 ≤ y) (h2 : y ≤ 9999) :
    ∃ info, rebuild r y m = .ok info ∧ info.nwdaymask = none ∧ info.wnomask = none ∧ info.eastermask = none :=
  ⟨_, rebuild_eq r m h1 h2 (wnomaskOf_off hs.byweekno ..) (buildNwdaymask_off hs.bynweekday ..)
    (eastermaskOf_off hs.byeaster ..), rfl, rfl, rfl⟩

variable {r : Rule} {y : Int} {info : Info}

/-- the BYYEARDAY clause of `dayFiltered` (index arithmetic on the year and its 7-day tail) in terms of the date -/
theorem yeardayMiss_date (f : YearFacts r y info) (i : Int) (h0 : 0 ≤ i) (h1 : i < info.yearlen + 7) :
    (decide (i < info.yearlen) && !memO (i + 1) r.byyearday && !memO (-info.yearlen + i) r.byyearday ||
      decide (i ≥ info.yearlen) && !memO (i + 1 - info.yearlen) r.byyearday &&
        !memO (-info.nextyearlen + i - info.yearlen) r.byyearday) =
      !(memO (info.yearordinal + i - toOrdinal (fromOrdinal (info.yearordinal + i)).1 1 1 + 1) r.byyearday ||
        memO (info.yearordinal + i - toOrdinal (fromOrdinal (info.yearordinal + i)).1 1 1 + 1 -
              daysInYear (fromOrdinal (info.yearordinal + i)).1 - 1) r.byyearday) := by
  have hdate := date_of_index y i f.year_lo h0 (by rw [← f.yearlen]; exact h1)
  rw [← f.yearordinal] at hdate
  rw [hdate]
  by_cases c : i < info.yearlen
  · have c' : i < daysInYear y := by rw [← f.yearlen]; exact c
    rw [if_pos c']
    have e1 : info.yearordinal + i - toOrdinal y 1 1 + 1 = i + 1 := by rw [f.yearordinal]; omega
    have e2 : i + 1 - daysInYear y - 1 = -info.yearlen + i := by rw [f.yearlen]; omega
    dsimp only
    rw [e1, e2]
    have c2 : ¬ (i ≥ info.yearlen) := by omega
    simp [c, c2]
  · have c' : ¬ i < daysInYear y := by rw [← f.yearlen]; exact c
    rw [if_neg c']
    dsimp only
    have e1 : info.yearordinal + i - toOrdinal (y + 1) 1 1 + 1 = i + 1 - info.yearlen := by
      rw [toOrdinal_next_year, f.yearordinal, f.yearlen]; omega
    have e2 : i + 1 - info.yearlen - daysInYear (y + 1) - 1 = -info.nextyearlen + i - info.yearlen := by
      rw [f.nextyearlen]; omega
    rw [e1, e2]
    have c2 : i ≥ info.yearlen := by omega
    simp [c, c2]

theorem ite_ok (c a b : Bool) : (if c = true then (.ok a : Py.R Bool) else .ok b) = .ok (if c = true then a else b) := by
  cases c <;> rfl

theorem miss_not (t m : Bool) : (if t = true then !m else false) = !(!t || m) := by cases t <;> rfl

theorem miss_not2 (g c d : Bool) : (if g = true then (if c = true then false else !d) else false) = !(!g || c || d) := by
  cases g <;> cases c <;> rfl

/-- **the BY-filter, in calendar terms**: the four table-backed clauses are `simpleOk` of the date, whatever the three
    computed masks say -/
theorem dayFiltered_eq (f : YearFacts r y info) (i : Int) (h0 : 0 ≤ i) (h1 : i < info.yearlen + 7) {w n e : Bool}
    (hw : maskMiss (truthy r.byweekno) info.wnomask i = .ok w) (hn : nthMiss info i = .ok n)
    (he : maskMiss (truthy r.byeaster) info.eastermask i = .ok e) :
    dayFiltered r info i = .ok (!(simpleOk r (info.yearordinal + i) && !w && !n && !e)) := by
  have hlen : info.yearlen ≤ 366 := by rw [f.yearlen]; unfold daysInYear; split <;> omega
  unfold dayFiltered
  show orR _ (fun _ => orR _ fun _ => orR _ fun _ => orR (nthMiss info i) _) = _
  rw [mmask_date f i h0 h1, wdaymask_date f i h0 (by omega), mdaymask_date f i h0 h1,
      nmdaymask_date f i h0 h1, hw, hn, he, yeardayMiss_date f i h0 h1]
  dsimp only
  -- every clause is `.ok` of a Boolean: collect them, and negate clause by clause
  simp only [ite_ok, orR_ok_ok, miss_not, miss_not2]
  unfold simpleOk
  rw [Bool.or_assoc (!truthy r.byyearday)]
  generalize (!truthy r.bymonth || memO _ r.bymonth) = c1
  generalize (!truthy r.byweekday || memO _ r.byweekday) = c2
  generalize (!(!r.bymonthday.isEmpty || !r.bynmonthday.isEmpty) || _ || _) = c3
  generalize (!truthy r.byyearday || _) = c4
  cases c1 <;> cases c2 <;> cases c3 <;> cases c4 <;> cases w <;> cases n <;> cases e <;> rfl

theorem dayFiltered_simple (hs : SimpleRule r) (f : YearFacts r y info) (hnw : info.nwdaymask = none)
    (i : Int) (h0 : 0 ≤ i) (h1 : i < info.yearlen + 7) :
    dayFiltered r info i = .ok (!simpleOk r (info.yearordinal + i)) := by
  rw [dayFiltered_eq f i h0 h1 (maskMiss_off hs.byweekno ..) (nthMiss_none hnw i) (maskMiss_off hs.byeaster ..)]
  simp only [Bool.not_false, Bool.and_true]

end RRule
