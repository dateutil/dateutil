/-
  Proofs/RRuleStrTzid.lean — the TZID pre-scan (`re.findall('TZID=(?P<name>[^:;]+)[:;]', text, re.IGNORECASE)`), the name
  table and the parameter loop of `_parse_date_value`: the name handed to the `tzids` lookup is the parameter value as
  written, whatever the letter case of `TZID` / of the name and wherever the parameter stands.
-/
import DateutilVerif.Proofs.RRuleStrText
import DateutilVerif.Proofs.RRuleStrGen

namespace RRuleStr
open ICal (upper)
open StrPy

theorem findallAux_fuel (ic : Bool) (items : List ReItem) : ∀ (n : Nat) (s : Str), s.length < n → ∀ m, s.length < m →
    findallAux ic items n s = findallAux ic items m s := by
  intro n
  induction n with
  | zero => intro s h; omega
  | succ n ih =>
    intro s hn m hm
    obtain ⟨m', rfl⟩ : ∃ m', m = m' + 1 := ⟨m - 1, by omega⟩
    cases s with
    | nil => simp [findallAux]
    | cons c r =>
      have hr : r.length < n := by simp at hn; omega
      have hr' : r.length < m' := by simp at hm; omega
      unfold findallAux
      split
      · rename_i g rest _
        by_cases hl : rest.length < (c :: r).length
        · have h1 : rest.length < n := by simp at hl; omega
          have h2 : rest.length < m' := by simp at hl; omega
          simp only [hl, if_true, ih rest h1 m' h2]
        · simp only [hl, if_false, ih r hr m' hr']
      · exact ih r hr m' hr'

theorem findall_skip {ic : Bool} {items : List ReItem} {c : Char} {r : Str} (h : matchItems ic items (c :: r) = none) :
    findall ic items (c :: r) = findall ic items r := by
  unfold findall
  conv => lhs; unfold findallAux
  simp only [h, List.length_cons]

theorem findall_match {ic : Bool} {items : List ReItem} {c : Char} {r g rest : Str}
    (h : matchItems ic items (c :: r) = some (some g, rest)) (hl : rest.length < (c :: r).length) :
    findall ic items (c :: r) = g :: findall ic items rest := by
  unfold findall
  conv => lhs; unfold findallAux
  have hl' : rest.length < r.length + 1 := by simpa using hl
  simp only [h, List.length_cons, hl', if_true]
  rw [findallAux_fuel ic items (r.length + 1) rest hl' (rest.length + 1) (by omega)]

theorem up_eq_upperChar (c : Char) : up c = upperChar c := rfl

theorem up_eq_colon (c : Char) : up c = ':' ↔ c = ':' := by
  rw [up_eq_upperChar, char_eq_iff, upperChar_toNat, char_eq_iff]
  have : (':' : Char).toNat = 58 := by decide
  rw [this]; split <;> omega

theorem up_eq_semi (c : Char) : up c = ';' ↔ c = ';' := by
  rw [up_eq_upperChar, char_eq_iff, upperChar_toNat, char_eq_iff]
  have : (';' : Char).toNat = 59 := by decide
  rw [this]; split <;> omega

/-- the character class `[^:;]` under IGNORECASE -/
def nameChar (x : Char) : Bool := !([':', ';'].any (eqc true x))

theorem nameChar_iff (x : Char) : nameChar x = true ↔ (x ≠ ':' ∧ x ≠ ';') := by
  have h1 : up ':' = ':' := by decide
  have h2 : up ';' = ';' := by decide
  simp [nameChar, eqc, h1, h2, up_eq_colon, up_eq_semi]

theorem takeWhile_name (name post : List Char) (d : Char) (hname : ∀ c ∈ name, c ≠ ':' ∧ c ≠ ';') (hd : d = ':' ∨ d = ';') :
    (name ++ d :: post).takeWhile nameChar = name := by
  induction name with
  | nil =>
    have : nameChar d = false := by
      rw [Bool.eq_false_iff, Ne, nameChar_iff]; rcases hd with rfl | rfl <;> simp
    simp [this]
  | cons c cs ih =>
    have hc : nameChar c = true := (nameChar_iff c).2 (hname c (by simp))
    simp only [List.cons_append, List.takeWhile_cons, hc, if_true]
    rw [ih (fun x hx => hname x (by simp [hx]))]

/-- literal characters at the head of a pattern consume a text that spells them, in any letter case under IGNORECASE -/
theorem matchItems_chrs : ∀ (cs kw : List Char) (its : List ReItem) (s : Str), upper kw = cs → upper cs = cs →
    matchItems true (cs.map .chr ++ its) (kw ++ s) = matchItems true its s
  | [], [], _, _, _, _ => rfl
  | [], _ :: _, _, _, h, _ => by cases h
  | _ :: _, [], _, _, h, _ => by cases h
  | c :: cs, x :: kw, its, s, h, hc => by
    injection h with hx hkw
    injection hc with hcc hcs
    have : eqc true x c = true := by
      show (up x == up c) = true
      rw [show up x = c from hx, show up c = c from hcc]; exact beq_self_eq_true c
    simp only [List.map_cons, List.cons_append, matchItems, this, if_true]
    exact matchItems_chrs cs kw its s hkw hcs

/-- `TZID=` in any letter case, a non-empty name without `:` `;`, then `:` or `;`: the pattern matches, the group is the name AS
    WRITTEN, and matching resumes behind the delimiter -/
theorem match_tzid (kw name post : List Char) (d : Char) (hkw : upper kw = lit "TZID=") (hne : name ≠ [])
    (hname : ∀ c ∈ name, c ≠ ':' ∧ c ≠ ';') (hd : d = ':' ∨ d = ';') :
    matchItems true tzidPattern (kw ++ name ++ d :: post) = some (some name, post) := by
  have hrun : (name ++ d :: post).takeWhile (fun d => !([':', ';'].any (eqc true d))) = name := takeWhile_name name post d hname hd
  have hdrop : (name ++ d :: post).drop name.length = d :: post := by simp
  have hemp : name.isEmpty = false := by cases name with | nil => exact absurd rfl hne | cons => rfl
  have hdd : [':', ';'].any (eqc true d) = true := by rcases hd with rfl | rfl <;> decide
  rw [List.append_assoc]
  refine (matchItems_chrs (lit "TZID=") kw [.plusNot [':', ';'], .oneOf [':', ';']] _ hkw (by decide)).trans ?_
  simp only [matchItems, hrun, hemp, hdrop, hdd, Bool.false_eq_true, if_false, if_true]

/-- no occurrence of the pattern STARTS inside the first `n` characters of `s` -/
def NoMatchBefore (n : Nat) (s : List Char) : Prop := ∀ k, k < n → matchItems true tzidPattern (s.drop k) = none

instance (n : Nat) (s : List Char) : Decidable (NoMatchBefore n s) := by unfold NoMatchBefore; exact inferInstance

/-- **the pre-scan finds the name as written**: in `pre ++ kw ++ name ++ d :: post` with `kw` = `TZID=` in any letter case, a
    non-empty `name` free of `:` `;`, `d` one of them, and no earlier occurrence starting inside `pre`, `re.findall` yields
    `name` first and goes on behind the delimiter -/
theorem findTzids_found (pre kw name post : List Char) (d : Char) (hkw : upper kw = lit "TZID=") (hne : name ≠ [])
    (hname : ∀ c ∈ name, c ≠ ':' ∧ c ≠ ';') (hd : d = ':' ∨ d = ';')
    (hpre : NoMatchBefore pre.length (pre ++ (kw ++ name ++ d :: post))) :
    findTzids (pre ++ (kw ++ name ++ d :: post)) = name :: findTzids post := by
  unfold findTzids
  induction pre with
  | nil =>
    have hm := match_tzid kw name post d hkw hne hname hd
    have hk : kw ≠ [] := by rintro rfl; revert hkw; decide
    obtain ⟨c, r, hcr⟩ : ∃ c r, kw ++ name ++ d :: post = c :: r := by
      cases kw with
      | nil => exact absurd rfl hk
      | cons c r => exact ⟨c, r ++ name ++ d :: post, by simp⟩
    simp only [List.nil_append]
    rw [hcr] at hm ⊢
    refine findall_match hm ?_
    rw [← hcr]; simp; omega
  | cons x pre ih =>
    have h0 := hpre 0 (by simp)
    simp only [List.drop_zero, List.cons_append] at h0
    simp only [List.cons_append]
    rw [findall_skip h0]
    exact ih (fun k hk => by
      have := hpre (k + 1) (by simp; omega)
      simpa using this)

theorem tzidLookup_cons (x : List Char × List Char) (t : List (List Char × List Char)) (k : List Char) :
    tzidLookup (x :: t) k = (tzidLookup t k).or (if x.1 == k then some x.2 else none) := by
  unfold tzidLookup
  simp only [List.reverse_cons, List.find?_append]
  cases h : t.reverse.find? (·.1 == k) with
  | some p => simp
  | none => by_cases hx : x.1 == k <;> simp [hx]

theorem tzidLookup_mem {t : List (List Char × List Char)} {k v : List Char} (h : tzidLookup t k = some v) : (k, v) ∈ t := by
  unfold tzidLookup at h
  cases hf : t.reverse.find? (·.1 == k) with
  | none => simp [hf] at h
  | some p =>
    simp [hf] at h
    have hm := List.mem_of_find?_eq_some hf
    have hp := List.find?_some hf
    simp at hp hm
    subst h; subst hp
    exact hm

/-- the table built from a text whose first occurrence is `name`: looking up `upper name` gives `name`, provided every later
    occurrence of the same name (up to letter case) is spelled the same way (a later entry overwrites an earlier one) -/
theorem tzidLookup_first (name : List Char) (later : List (List Char))
    (hsame : ∀ n ∈ later, upper n = upper name → n = name) :
    tzidLookup ((name :: later).map (fun n => (upper n, n))) (upper name) = some name := by
  rw [List.map_cons, tzidLookup_cons]
  cases h : tzidLookup (later.map (fun n => (upper n, n))) (upper name) with
  | none => simp
  | some v =>
    have hm := tzidLookup_mem h
    simp only [List.mem_map, Prod.mk.injEq] at hm
    obtain ⟨n, hn, hu, rfl⟩ := hm
    simp [hsame n hn hu]

/-- the body of the loop over `parms` -/
def tzStep (t : List (List Char × List Char)) (cur : Option (List Char)) (p : List Char) : Option (List Char) :=
  if startsWith p (lit "TZID=") then
    match tzidLookup t (afterLastTzid p) with
    | some n => some n
    | none => cur
  else cur

theorem resolveTzid_eq_foldl (t : List (List Char × List Char)) (parms : List (List Char)) :
    resolveTzid t parms = parms.foldl (tzStep t) none := rfl

theorem tzStep_foldl_skip (t : List (List Char × List Char)) (l : List (List Char)) (cur : Option (List Char))
    (h : ∀ p ∈ l, startsWith p (lit "TZID=") = false) : l.foldl (tzStep t) cur = cur := by
  induction l with
  | nil => rfl
  | cons p ps ih =>
    simp only [List.foldl_cons, tzStep, h p (by simp), Bool.false_eq_true, if_false]
    exact ih (fun q hq => h q (by simp [hq]))

/-- parameter order is irrelevant: with exactly one `TZID=` parameter, anywhere among other parameters, the loop looks up the
    text after its (last) `TZID=` -/
theorem resolveTzid_one (t : List (List Char × List Char)) (l1 l2 : List (List Char)) (p : List Char)
    (h1 : ∀ q ∈ l1, startsWith q (lit "TZID=") = false) (h2 : ∀ q ∈ l2, startsWith q (lit "TZID=") = false)
    (hp : startsWith p (lit "TZID=") = true) :
    resolveTzid t (l1 ++ p :: l2) = tzidLookup t (afterLastTzid p) := by
  rw [resolveTzid_eq_foldl, List.foldl_append, tzStep_foldl_skip t l1 none h1, List.foldl_cons, tzStep_foldl_skip t l2 _ h2]
  simp only [tzStep, hp, if_true]
  cases tzidLookup t (afterLastTzid p) <;> rfl

/-- `rule_tzids[key]` is the table lookup, KeyError when there is no entry -/
theorem dictGet_eq (t : Dict) (k : Str) :
    dictGet t k = match tzidLookup t k with | some n => .ok n | none => .error .KeyError := by
  unfold dictGet tzidLookup; cases t.reverse.find? (·.1 == k) <;> rfl

/-- which function does the lookup, by the kind of the `tzids` argument (`other`: neither None, callable nor a mapping) -/
def lookupOf : TzidsKind → Option Lookup
  | .none => some .gettz
  | .callable => some .call
  | .mapping => some .get
  | .other => none

def isValueParm (p : List Char) : Bool := p == lit "VALUE=DATE-TIME" || p == lit "VALUE=DATE"

/-- one iteration of `for parm in parms:` on the carried `(TZID, value_found)` -/
def stepSpec (lk : Lookup) (t : Dict) (st : Option Zone × Bool) (p : List Char) : Py.R (Option Zone × Bool) :=
  if startsWith p (lit "TZID=") then
    match tzidLookup t (afterLastTzid p) with
    | some n => .ok (some (.looked lk n), st.2)
    | none => .ok st
  else if !isValueParm p then .error .ValueError
  else if st.2 then .error .ValueError else .ok (st.1, true)

def restParms (parms : List (List Char)) : List (List Char) := parms.filter (fun p => !startsWith p (lit "TZID="))

def badParms (parms : List (List Char)) (vf : Bool) : Bool :=
  (restParms parms).any (fun p => !isValueParm p) || decide ((restParms parms).length + (if vf then 1 else 0) > 1)

def zStep (lk : Lookup) (t : Dict) (z : Option Zone) (p : List Char) : Option Zone :=
  if startsWith p (lit "TZID=") then
    match tzidLookup t (afterLastTzid p) with
    | some n => some (.looked lk n)
    | none => z
  else z

theorem foldlM_stepSpec (lk : Lookup) (t : Dict) : ∀ (parms : List (List Char)) (z : Option Zone) (vf : Bool),
    parms.foldlM (stepSpec lk t) (z, vf) =
      if badParms parms vf then .error .ValueError else .ok (parms.foldl (zStep lk t) z, vf || !(restParms parms).isEmpty) := by
  intro parms
  induction parms with
  | nil => intro z vf; cases vf <;> simp [badParms, restParms, pure, Except.pure]
  | cons p ps ih =>
    intro z vf
    rw [List.foldlM_cons]
    by_cases hp : startsWith p (lit "TZID=") = true
    · have hrest : restParms (p :: ps) = restParms ps := by simp [restParms, hp]
      have hbad : badParms (p :: ps) vf = badParms ps vf := by simp [badParms, hrest]
      cases hl : tzidLookup t (afterLastTzid p) with
      | none =>
        simp only [stepSpec, hp, if_true, hl, bind, Except.bind, ih, hbad, hrest, List.foldl_cons, zStep]
      | some n =>
        simp only [stepSpec, hp, if_true, hl, bind, Except.bind, ih, hbad, hrest, List.foldl_cons, zStep]
    · have hp' : startsWith p (lit "TZID=") = false := by simpa using hp
      have hrest : restParms (p :: ps) = p :: restParms ps := by simp [restParms, hp']
      by_cases hv : isValueParm p = true
      · cases vf with
        | true =>
          have : badParms (p :: ps) true = true := by simp [badParms, hrest]
          simp [stepSpec, hp', hv, bind, Except.bind, this]
        | false =>
          have hb : badParms (p :: ps) false = badParms ps true := by
            simp only [badParms, hrest, List.any_cons, hv, Bool.not_true, Bool.false_or, List.length_cons]
            congr 1
          simp [stepSpec, hp', hv, bind, Except.bind, ih, hb, hrest, zStep]
      · have hv' : isValueParm p = false := by simpa using hv
        have : badParms (p :: ps) vf = true := by simp [badParms, hrest, hv']
        simp [stepSpec, hp', hv', bind, Except.bind, this]

theorem zStep_foldl (lk : Lookup) (t : Dict) (parms : List (List Char)) (cur : Option (List Char)) :
    parms.foldl (zStep lk t) (cur.map (Zone.looked lk)) = (parms.foldl (tzStep t) cur).map (Zone.looked lk) := by
  induction parms generalizing cur with
  | nil => rfl
  | cons p ps ih =>
    simp only [List.foldl_cons]
    have : zStep lk t (cur.map (Zone.looked lk)) p = (tzStep t cur p).map (Zone.looked lk) := by
      unfold zStep tzStep
      by_cases hp : startsWith p (lit "TZID=") = true
      · simp only [hp, if_true]; cases tzidLookup t (afterLastTzid p) <;> rfl
      · simp only [hp]; rfl
    rw [this, ih]

theorem dateParmsOk_eq (parms : List (List Char)) :
    dateParmsOk parms = if badParms parms false then .error .ValueError else .ok () := by
  unfold dateParmsOk badParms restParms isValueParm
  simp only [Bool.false_eq_true, if_false, Nat.add_zero]
  by_cases h1 : ((parms.filter (fun p => !startsWith p (lit "TZID="))).any
      (fun p => !(p == lit "VALUE=DATE-TIME" || p == lit "VALUE=DATE"))) = true
  · simp only [h1, if_true, Bool.true_or]
  · have h1' : ((parms.filter (fun p => !startsWith p (lit "TZID="))).any
        (fun p => !(p == lit "VALUE=DATE-TIME" || p == lit "VALUE=DATE"))) = false := by simpa using h1
    simp only [h1', Bool.false_eq_true, if_false, Bool.false_or]
    by_cases h2 : (parms.filter (fun p => !startsWith p (lit "TZID="))).length > 1 <;> simp [h2]

/-- **the translated parameter loop is the model's**: for a `tzids` argument that is None, a callable or a mapping, the loop of
    `_parse_date_value` fails (ValueError) exactly when `dateParmsOk` does, and otherwise ends with the zone
    `<that lookup>(resolveTzid table parms)` (no zone when `resolveTzid` finds none) and `value_found` = "there was a VALUE parameter" -/
theorem gen_dateParms_eq_model (parms : List (List Char)) (t : Dict) (k : TzidsKind) (lk : Lookup) (hk : lookupOf k = some lk) :
    Gen.rrsDateParms parms t k =
      match dateParmsOk parms with
      | .error _ => .error .ValueError
      | .ok _ => .ok ((resolveTzid t parms).map (Zone.looked lk), !(restParms parms).isEmpty) := by
  have hfold : ∀ F : Option Zone × Bool → List Char → Py.R (Option Zone × Bool), (∀ st p, F st p = stepSpec lk t st p) →
      (parms.foldlM F (none, false) >>= fun (x : Option Zone × Bool) => (Except.ok (x.1, x.2) : Py.R (Option Zone × Bool))) =
      match dateParmsOk parms with
      | .error _ => .error .ValueError
      | .ok _ => .ok ((resolveTzid t parms).map (Zone.looked lk), !(restParms parms).isEmpty) := by
    intro F hF
    have : F = stepSpec lk t := by funext st p; exact hF st p
    subst this
    rw [foldlM_stepSpec, dateParmsOk_eq]
    by_cases hb : badParms parms false = true
    · simp [hb, bind, Except.bind]
    · have hb' : badParms parms false = false := by simpa using hb
      have hz := zStep_foldl lk t parms none
      simp only [Option.map_none] at hz
      simp [hb', bind, Except.bind, hz, resolveTzid_eq_foldl]
  unfold Gen.rrsDateParms
  refine hfold _ ?_
  rintro ⟨z, vf⟩ p
  dsimp only
  have hl : lit "TZID=" = ['T', 'Z', 'I', 'D', '='] := by decide
  have hv : isValueParm p = ([['V', 'A', 'L', 'U', 'E', '=', 'D', 'A', 'T', 'E', '-', 'T', 'I', 'M', 'E'],
      ['V', 'A', 'L', 'U', 'E', '=', 'D', 'A', 'T', 'E']].contains p) := by
    unfold isValueParm
    rw [show lit "VALUE=DATE-TIME" = ['V', 'A', 'L', 'U', 'E', '=', 'D', 'A', 'T', 'E', '-', 'T', 'I', 'M', 'E'] from by decide,
      show lit "VALUE=DATE" = ['V', 'A', 'L', 'U', 'E', '=', 'D', 'A', 'T', 'E'] from by decide]
    simp only [List.contains, List.elem]
    cases (p == ['V', 'A', 'L', 'U', 'E', '=', 'D', 'A', 'T', 'E', '-', 'T', 'I', 'M', 'E']) <;>
      cases (p == ['V', 'A', 'L', 'U', 'E', '=', 'D', 'A', 'T', 'E']) <;> rfl
  unfold stepSpec afterLastTzid RRuleStr.startsWith
  rw [hl, hv, dictGet_eq]
  unfold StrPy.startsWith
  split
  · -- a TZID parameter: only the choice of the lookup function depends on the kind of `tzids`
    cases tzidLookup t (afterLast ['T', 'Z', 'I', 'D', '='] p) with
    | none => rfl
    | some n => cases k <;> cases hk <;> rfl
  · rfl

/-- **the WHOLE translated `_parse_date_value`**: it fails (ValueError) exactly when the parameters are unacceptable (`dateParmsOk`), and
    otherwise parses every `,`-separated value (`parse` = `parser.parse` with the caller's `ignoretz` / `tzinfos`, OverflowError turned
    into ValueError) and attaches the zone `<lookup>(resolveTzid table parms)` by the translated attach statement -/
theorem gen_parseDateValue_eq {D : Type} (parse : List Char → Py.R (D × Option Zone)) (value : List Char) (parms : List (List Char))
    (t : Dict) (k : TzidsKind) (lk : Lookup) (hk : lookupOf k = some lk) :
    Gen.rrsParseDateValue parse value parms t k =
      match dateParmsOk parms with
      | .error _ => .error .ValueError
      | .ok _ => (ICal.splitOnChar ',' value).mapM (fun d =>
          (match parse d with | .error .OverflowError => .error .ValueError | r => r) >>= fun date =>
          (Gen.rrsAttach ((resolveTzid t parms).map (Zone.looked lk)) date.2) >>= fun z => .ok (date.1, z)) := by
  unfold Gen.rrsParseDateValue
  rw [gen_dateParms_eq_model parms t k lk hk]
  cases dateParmsOk parms <;> rfl

theorem mapM_ok {α β : Type} (g : α → β) : ∀ (l : List α), l.mapM (fun a => (.ok (g a) : Py.R β)) = .ok (l.map g)
  | [] => rfl
  | a :: l => by rw [List.mapM_cons, mapM_ok g l]; rfl

/-- … in particular, for date texts that `parser.parse` reads as NAIVE datetimes (the compact form `__str__` prints: `date_text_read_back`),
    every value gets exactly the zone of the line's TZID parameter (none without one): the model's `(value, parms)` + `tzidOf` -/
theorem gen_parseDateValue_naive {D : Type} (f : List Char → D) (value : List Char) (parms : List (List Char))
    (t : Dict) (k : TzidsKind) (lk : Lookup) (hk : lookupOf k = some lk) (hp : dateParmsOk parms = .ok ()) :
    Gen.rrsParseDateValue (fun d => .ok (f d, none)) value parms t k =
      .ok ((ICal.splitOnChar ',' value).map (fun d => (f d, (resolveTzid t parms).map (Zone.looked lk)))) := by
  rw [gen_parseDateValue_eq _ value parms t k lk hk, hp]
  simp only [bind, Except.bind]
  have : ∀ z : Option Zone, Gen.rrsAttach z none = .ok z := by intro z; cases z <;> rfl
  simp only [this]
  exact mapM_ok _ _

end RRuleStr
