/-
  Proofs/TzStrParseRule.lean — `ruleTime` and `stdRule` on every spelling of a rule with an optional
  `/time`, over an abstract token array given by a list decomposition.
-/
import DateutilVerif.Proofs.TzStrParseOff

namespace TzStr

/-- the first half of the model's `stdRule` (the `Mm.w.d | Jn | n` part), split off by `stdRule_eq` so that each half is
    specified over its own list decomposition -/
def ruleHead (l : Array String) (st : St) : P (Attr × List Nat × Nat) := do
  let i := st.i
  let t ← tok l i
  (if t == "J" then do
      let used := st.used ++ [i]
      let i := i + 1
      let n ← pyInt (← tok l i)
      pure (({ jyday := some n } : Attr), used, i)
    else if t == "M" then do
      let used := st.used ++ [i]
      let i := i + 1
      let m ← pyInt (← tok l i)
      let used := used ++ [i]
      let i := i + 1
      let s1 ← tok l i
      if !(s1 == "-" || s1 == ".") then none else
      let used := used ++ [i]
      let i := i + 1
      let w ← pyInt (← tok l i)
      let w := if w == 5 then -1 else w
      let used := used ++ [i]
      let i := i + 1
      let s2 ← tok l i
      if !(s2 == "-" || s2 == ".") then none else
      let used := used ++ [i]
      let i := i + 1
      let d ← pyInt (← tok l i)
      pure (({ month := some m, week := some w, weekday := some (Py.fmod (d - 1) 7) } : Attr), used, i)
    else do
      let n ← pyInt t
      pure (({ yday := some (n + 1) } : Attr), st.used, i))

/-- the second half of `stdRule`: the optional `/time`, then "," or the end of the tokens -/
def ruleTail (l : Array String) (x : Attr) (st : St) : P (Attr × St) := do
  let (x, st) ← (if st.i < l.size && l[st.i]? == some "/" then do
      let st := { st with used := st.used ++ [st.i], i := st.i + 1 }
      let (tm, st) ← ruleTime l st
      pure ({ x with time := some tm }, st)
    else pure (x, st))
  if !(st.i == l.size || l[st.i]? == some ",") then none else
  pure (x, { st with i := st.i + 1 })

theorem stdRule_eq (l : Array String) (st : St) :
    stdRule l st = (do
      let (x, used, i) ← ruleHead l st
      ruleTail l x { st with used := used ++ [i], i := i + 1 }) := by
  unfold stdRule ruleHead ruleTail
  simp only [bind, Option.bind, pure]
  cases tok l st.i with
  | none => rfl
  | some t =>
    by_cases hJ : (t == "J") = true
    · simp only [hJ, if_true]
    · simp only [hJ, Bool.false_eq_true, if_false]

def RuleSp.attr : RuleSp → Option Int → Attr
  | .M m w d, t => { month := some m.val, week := some (if w.val == 5 then -1 else w.val),
                     weekday := some (Py.fmod (d.val - 1) 7), time := t }
  | .J n, t => { jyday := some n.val, time := t }
  | .N n, t => { yday := some (n.val + 1), time := t }

theorem ruleTime_spec (t : TimeSp) (l : Array String) (pre post : List String) (st : St)
    (hl : l.toList = pre ++ (toksOf t.body ++ post)) (hi : st.i = pre.length) (hok : t.Ok)
    (hp : post.head? ≠ some ":") (hc : Cov l st) :
    ∃ st', ruleTime l st = some (t.val, st') ∧
      st'.i = pre.length + (toksOf t.body).length ∧ st'.res = st.res ∧ Cov l st' := by
  have hpc := not_colon_of_head hp
  have ec : String.ofList [':'] = ":" := rfl
  cases t with
  | h n =>
      obtain ⟨hn0, hlen⟩ := hok
      have hn : pyInt n.tok = some n.val := hn0
      simp only [TimeSp.body, numC, toksOf_cons, toksOf_nil, String.ofList_toList, List.cons_append,
        List.nil_append] at hl
      have g0 := get_at hl 0
      have g1 := get_at hl 1
      simp only [List.getElem?_cons_zero, List.getElem?_cons_succ, Nat.add_zero] at g0 g1
      have h4 : (n.tok.length == 4) = false := by apply beq_eq_false_iff_ne.mpr; omega
      refine ⟨{ st with used := st.used ++ [pre.length], i := pre.length + 1 }, ?_, by simp [TimeSp.body, toksOf], rfl, ?_⟩
      · unfold ruleTime
        simp only [tok, hi, g0, g1, bind, Option.bind, h4, hpc, Bool.and_false, Bool.false_eq_true, if_false,
          hlen, if_true, strTake_short n.tok hlen, hn, pure, TimeSp.val]
      · exact cov_one hc hi
  | hhmm t a b =>
      obtain ⟨hd, hlen, ha, hb⟩ := hok
      simp only [TimeSp.body, toksOf_cons, toksOf_nil, String.ofList_toList, List.cons_append,
        List.nil_append] at hl
      have g0 := get_at hl 0
      simp only [List.getElem?_cons_zero, Nat.add_zero] at g0
      have h4 : (t.length == 4) = true := by simp [hlen]
      refine ⟨{ st with used := st.used ++ [pre.length], i := pre.length + 1 }, ?_, by simp [TimeSp.body, toksOf], rfl, ?_⟩
      · unfold ruleTime
        simp only [tok, hi, g0, bind, Option.bind, h4, if_true, ha, hb, pure, TimeSp.val]
      · exact cov_one hc hi
  | hm a b =>
      obtain ⟨ha0, hb0, hlen⟩ := hok
      have ha : pyInt a.tok = some a.val := ha0
      have hb : pyInt b.tok = some b.val := hb0
      simp only [TimeSp.body, numC, pC, toksOf_cons, toksOf_nil, String.ofList_toList, List.cons_append,
        List.nil_append] at hl
      have g0 := get_at hl 0
      have g1 := get_at hl 1
      have g2 := get_at hl 2
      have g3 := get_at hl 3
      have hs := size_at hl
      simp only [List.getElem?_cons_zero, List.getElem?_cons_succ, Nat.add_zero, List.length_cons, ec] at g0 g1 g2 g3 hs
      have h4 : (a.tok.length == 4) = false := by apply beq_eq_false_iff_ne.mpr; exact hlen
      have hlt : decide (pre.length + 1 < l.size) = true := by simp; omega
      refine ⟨{ st with used := st.used ++ [pre.length] ++ [pre.length + 2], i := pre.length + 2 + 1 }, ?_,
        by simp [TimeSp.body, toksOf], rfl, ?_⟩
      · unfold ruleTime
        simp only [tok, hi, g0, g1, g2, g3, bind, Option.bind, h4, hlt, beq_self_eq_true, Bool.and_self, if_true,
          Bool.false_eq_true, if_false, ha, hb, pure, TimeSp.val, hpc, Bool.and_false]
      · exact cov_one (cov_skip (cov_one hc hi) rfl (fun _ => Or.inr g1)) rfl
  | hms a b c =>
      obtain ⟨ha0, hb0, hc0, hlen⟩ := hok
      have ha : pyInt a.tok = some a.val := ha0
      have hb : pyInt b.tok = some b.val := hb0
      have hcc : pyInt c.tok = some c.val := hc0
      simp only [TimeSp.body, numC, pC, toksOf_cons, toksOf_nil, String.ofList_toList, List.cons_append,
        List.nil_append] at hl
      have g0 := get_at hl 0
      have g1 := get_at hl 1
      have g2 := get_at hl 2
      have g3 := get_at hl 3
      have g4 := get_at hl 4
      have hs := size_at hl
      simp only [List.getElem?_cons_zero, List.getElem?_cons_succ, Nat.add_zero, List.length_cons, ec] at g0 g1 g2 g3 g4 hs
      have h4 : (a.tok.length == 4) = false := by apply beq_eq_false_iff_ne.mpr; exact hlen
      have hlt : decide (pre.length + 1 < l.size) = true := by simp; omega
      have hlt2 : decide (pre.length + 2 + 1 < l.size) = true := by simp; omega
      refine ⟨{ st with used := st.used ++ [pre.length] ++ [pre.length + 2] ++ [pre.length + 2 + 2], i := pre.length + 2 + 2 + 1 }, ?_,
        by simp [TimeSp.body, toksOf], rfl, ?_⟩
      · unfold ruleTime
        simp only [tok, hi, g0, g1, g2, g3, g4, bind, Option.bind, h4, hlt, hlt2, beq_self_eq_true, Bool.and_self, if_true,
          Bool.false_eq_true, if_false, ha, hb, hcc, pure, TimeSp.val]
      · exact cov_one (cov_skip (cov_one (cov_skip (cov_one hc hi) rfl (fun _ => Or.inr g1)) rfl) rfl (fun _ => Or.inr g3)) rfl


theorem ruleHead_spec (r : RuleSp) (l : Array String) (pre post : List String) (st : St)
    (hl : l.toList = pre ++ (toksOf r.chunks ++ post)) (hi : st.i = pre.length) (hok : r.Ok) (hc : Cov l st) :
    ∃ used' i', ruleHead l st = some (r.attr none, used', i') ∧
      i' + 1 = pre.length + (toksOf r.chunks).length ∧
      Cov l { st with used := used' ++ [i'], i := i' + 1 } := by
  have eM : String.ofList ['M'] = "M" := rfl
  have eJ : String.ofList ['J'] = "J" := rfl
  have eD : String.ofList ['.'] = "." := rfl
  cases r with
  | N n =>
      have hn : pyInt n.tok = some n.val := hok.1
      have hd := digTok_of n.tok (n.isDig hok.1)
      simp only [RuleSp.chunks, numC, toksOf_cons, toksOf_nil, String.ofList_toList, List.cons_append,
        List.nil_append] at hl
      have g0 := get_at hl 0
      simp only [List.getElem?_cons_zero, Nat.add_zero] at g0
      refine ⟨st.used, pre.length, ?_, by simp [RuleSp.chunks, toksOf], ?_⟩
      · unfold ruleHead
        simp only [tok, hi, g0, bind, Option.bind, hd.eqJ, hd.eqM, Bool.false_eq_true, if_false, hn, pure, RuleSp.attr]
      · exact cov_one hc hi
  | J n =>
      have hn : pyInt n.tok = some n.val := hok.1
      simp only [RuleSp.chunks, numC, toksOf_cons, toksOf_nil, String.ofList_toList, List.cons_append,
        List.nil_append, eJ] at hl
      have g0 := get_at hl 0
      have g1 := get_at hl 1
      simp only [List.getElem?_cons_zero, List.getElem?_cons_succ, Nat.add_zero] at g0 g1
      refine ⟨st.used ++ [pre.length], pre.length + 1, ?_, by simp [RuleSp.chunks, toksOf], ?_⟩
      · unfold ruleHead
        simp only [tok, hi, g0, g1, bind, Option.bind, beq_self_eq_true, if_true, hn, pure, RuleSp.attr]
      · exact cov_one (cov_one hc hi) rfl
  | M m w d =>
      have hm : pyInt m.tok = some m.val := hok.1
      have hw : pyInt w.tok = some w.val := hok.2.1
      have hdd : pyInt d.tok = some d.val := hok.2.2
      simp only [RuleSp.chunks, numC, pC, toksOf_cons, toksOf_nil, String.ofList_toList, List.cons_append,
        List.nil_append, eM, eD] at hl
      have g0 := get_at hl 0
      have g1 := get_at hl 1
      have g2 := get_at hl 2
      have g3 := get_at hl 3
      have g4 := get_at hl 4
      have g5 := get_at hl 5
      simp only [List.getElem?_cons_zero, List.getElem?_cons_succ, Nat.add_zero] at g0 g1 g2 g3 g4 g5
      have hJ : ("M" == "J") = false := by decide
      have hdot : (!("." == "-" || "." == ".")) = false := by decide
      refine ⟨st.used ++ [pre.length] ++ [pre.length + 1] ++ [pre.length + 1 + 1] ++ [pre.length + 1 + 1 + 1] ++
          [pre.length + 1 + 1 + 1 + 1], pre.length + 1 + 1 + 1 + 1 + 1, ?_, by simp [RuleSp.chunks, toksOf], ?_⟩
      · unfold ruleHead
        simp only [tok, hi, g0, g1, g2, g3, g4, g5, bind, Option.bind, hJ, Bool.false_eq_true, if_false,
          beq_self_eq_true, if_true, hm, hw, hdd, pure, RuleSp.attr]
        simp
      · exact cov_one (cov_one (cov_one (cov_one (cov_one (cov_one hc hi) rfl) rfl) rfl) rfl) rfl

theorem ruleTail_spec (tm : Option TimeSp) (l : Array String) (pre post : List String) (x : Attr) (st : St)
    (hl : l.toList = pre ++ (toksOf (timeChunks tm) ++ post)) (hi : st.i = pre.length)
    (hend : post = [] ∨ post.head? = some ",") (hok : optOk TimeSp.Ok tm) (hc : Cov l st) :
    ∃ st', ruleTail l x st = some ((match tm with | none => x | some t => { x with time := some t.val }), st') ∧
      st'.i = pre.length + (toksOf (timeChunks tm)).length + 1 ∧ st'.res = st.res ∧ Cov l st' := by
  have hp : post.head? ≠ some ":" := by
    rcases hend with e | e
    · rw [e]; simp
    · rw [e]; simp
  -- where `post` starts, the tokens end or a "," stands
  have key : ∀ p, l.size = p + post.length → l[p]? = post[0]? → p = l.size ∨ l[p]? = some "," := by
    intro p hs g
    rcases hend with e | e
    · subst e; left; simpa using hs.symm
    · cases post with
      | nil => simp at e
      | cons q r => simp at e; subst e; right; simpa using g
  have eS : String.ofList ['/'] = "/" := rfl
  cases tm with
  | none =>
      simp only [timeChunks, toksOf_nil, List.nil_append] at hl
      have g0 := get_at hl 0
      have hs := size_at hl
      simp only [Nat.add_zero] at g0
      have hk := key pre.length hs g0
      have hslash : (decide (pre.length < l.size) && l[pre.length]? == some "/") = false := by
        rcases hk with e | e
        · simp [← e]
        · simp [e]
      have hfin : (!(pre.length == l.size || l[pre.length]? == some ",")) = false := by
        rcases hk with e | e
        · simp [← e]
        · simp [e]
      refine ⟨{ st with i := pre.length + 1 }, ?_, by simp [timeChunks, toksOf], rfl,
        cov_skip hc hi (fun hlt => Or.inl (hk.resolve_left (by omega)))⟩
      unfold ruleTail
      simp only [hi, hslash, Bool.false_eq_true, if_false, bind, Option.bind, pure, hfin]
  | some t =>
      have hokt : t.Ok := hok
      simp only [timeChunks, toksOf_cons, eS, List.cons_append] at hl
      have g0 := get_at hl 0
      have hs := size_at hl
      simp only [List.getElem?_cons_zero, Nat.add_zero, List.length_cons] at g0 hs
      have hslash : (decide (pre.length < l.size) && l[pre.length]? == some "/") = true := by
        simp [g0]; omega
      have hl' : l.toList = (pre ++ ["/"]) ++ (toksOf t.body ++ post) := by rw [hl]; simp
      obtain ⟨st2, r1, r2, r3, r4⟩ := ruleTime_spec t l (pre ++ ["/"]) post
        { st with used := st.used ++ [pre.length], i := pre.length + 1 } hl' (by simp) hokt hp (cov_one hc hi)
      have hs2 : l.size = st2.i + post.length := by
        rw [r2, hs, List.length_append, List.length_append]; simp; omega
      have gE := get_at hl' (toksOf t.body).length
      rw [← r2] at gE
      have gE' : l[st2.i]? = post[0]? := by
        rw [gE, List.getElem?_append_right (Nat.le_refl _)]; simp
      have hk := key st2.i hs2 gE'
      have hfin : (!(st2.i == l.size || l[st2.i]? == some ",")) = false := by
        rcases hk with e | e
        · simp [← e]
        · simp [e]
      refine ⟨{ st2 with i := st2.i + 1 }, ?_, by simp [r2, timeChunks, toksOf]; omega, by simp [r3],
        cov_skip r4 rfl (fun hlt => Or.inl (hk.resolve_left (by omega)))⟩
      unfold ruleTail
      simp only [hi, hslash, if_true, bind, Option.bind, r1, pure, hfin, Bool.false_eq_true, if_false]

/-- **one rule with optional `/time`**, followed by "," or the end of the tokens -/
theorem stdRule_spec (r : RuleSp) (tm : Option TimeSp) (l : Array String) (pre post : List String) (st : St)
    (hl : l.toList = pre ++ (toksOf r.chunks ++ (toksOf (timeChunks tm) ++ post))) (hi : st.i = pre.length)
    (hend : post = [] ∨ post.head? = some ",") (hr : r.Ok) (ht : optOk TimeSp.Ok tm) (hc : Cov l st) :
    ∃ st', stdRule l st = some (r.attr (tm.map TimeSp.val), st') ∧
      st'.i = pre.length + (toksOf r.chunks).length + (toksOf (timeChunks tm)).length + 1 ∧
      st'.res = st.res ∧ Cov l st' := by
  obtain ⟨used', i', h1, h2, h3⟩ := ruleHead_spec r l pre _ st hl hi hr hc
  have hl' : l.toList = (pre ++ toksOf r.chunks) ++ (toksOf (timeChunks tm) ++ post) := by rw [hl]; simp
  obtain ⟨st', t1, t2, t3, t4⟩ := ruleTail_spec tm l (pre ++ toksOf r.chunks) post (r.attr none)
    { st with used := used' ++ [i'], i := i' + 1 } hl' (by simp; omega) hend ht h3
  refine ⟨st', ?_, by rw [t2]; simp, by simp [t3], t4⟩
  rw [stdRule_eq]
  simp only [h1, bind, Option.bind, t1]
  cases tm <;> cases r <;> rfl

end TzStr
