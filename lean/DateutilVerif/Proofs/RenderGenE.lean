/-
  Proofs/RenderGenE.lean — `YYYY-MM-DD` followed by a time in unit letters or on the 12-hour clock: `HHhMMmSSs`, `HHhMMm`,
  `h:MMam`, `h AM`, `ham`, `HH:MM:SS AM` (templates `hms_letters`, `hm_letters`, `ampm_short`, `ampm_hour`, `ampm_hour_tight`,
  `ampm_hms_sp` of C02).  A one-digit hour before an AM/PM word is read together with it, a two-digit one first as `HH` after a
  complete date and then adjusted by the word: hence the two cases in `ampm_hour` / `ampm_hour_tight`.
-/
import DateutilVerif.Proofs.RenderSentence
import DateutilVerif.Proofs.RenderFin

namespace PM
open Py PT

def core_hms_letters (t : DT) : List Token :=
  [y4 t.y.toNat, ['-'], dtok [t.m.toNat / 10, t.m.toNat], ['-'], dtok [t.d.toNat / 10, t.d.toNat], [' '], dtok [t.hh.toNat / 10, t.hh.toNat], ['h'], dtok [t.mm.toNat / 10, t.mm.toNat], ['m'], dtok [t.ss.toNat / 10, t.ss.toNat], ['s']]

theorem lex_hms_letters (cls : Char → CClass) [AsciiOK cls] (t : DT) (rest : List Char) (he : WordEnds cls rest) :
    scan cls .init (str_hms_letters t rest) = core_hms_letters t ++ scan cls .init rest := by
  unfold str_hms_letters core_hms_letters
  rw [lex_pad4 cls _ _ (numEnds_ascii cls _ _ (by decide)),
      lex_punct cls '-' _ (by decide),
      lex_pad2 cls _ _ (numEnds_ascii cls _ _ (by decide)),
      lex_punct cls '-' _ (by decide),
      lex_pad2 cls _ _ (numEnds_sp cls _),
      lex_sp,
      lex_pad2 cls _ _ (numEnds_ascii cls _ _ (by decide)),
      lex_letter cls 'h' _ (by decide) (wordEnds_num cls _ _ (by first | exact ⟨_, _, rfl⟩ | exact ⟨_, _, pad2_dtok _⟩ | exact ⟨_, _, pad4_dtok _⟩ | (unfold dec12; split <;> exact ⟨_, _, rfl⟩))),
      lex_pad2 cls _ _ (numEnds_ascii cls _ _ (by decide)),
      lex_letter cls 'm' _ (by decide) (wordEnds_num cls _ _ (by first | exact ⟨_, _, rfl⟩ | exact ⟨_, _, pad2_dtok _⟩ | exact ⟨_, _, pad4_dtok _⟩ | (unfold dec12; split <;> exact ⟨_, _, rfl⟩))),
      lex_pad2 cls _ _ (numEnds_ascii cls _ _ (by decide)),
      lex_letter cls 's' _ (by decide) he]
  rfl

theorem rend_hms_letters (cls : Char → CClass) [AsciiOK cls] (yf : Bool) (year century : Int) (o : Opts) (tznames : List Token) (tzi : TzInfos)
    (ho : StrictOpts o tzi) (hdf : o.dayfirst.getD false = false) (t dflt : DT) (ht : t.Valid) :
    Rendering cls false yf year century o tznames tzi dflt (str_hms_letters t) (core_hms_letters t) (WordEnds cls) (fun _ => True)
      ({ t with us := 0 }) := by
  have N := dtNums ht
  refine ⟨fun rest => by simp [str_hms_letters], lex_hms_letters cls t,
    { hour := some t.hh.toNat, minute := some t.mm.toNat, second := some t.ss.toNat, microsecond := some 0 }, { vals := [t.y.toNat, t.m.toNat, t.d.toNat], century := true, yIdx := some 0 }, [5],
    rfl, rfl, rfl, rfl, fun fz suf _ => ?_, ?_⟩
  · refine (loop_sep3_num (l := core_hms_letters t ++ suf) (by rfl) (Or.inl rfl) N.y N.m N.d (by decide) (by decide) (by decide) rfl
      (Or.inr (Or.inr (by decide))) (by rfl) (hmsOf_num N.y)).trans ?_
    refine (loop_sp (by rfl)).trans ?_
    refine (loop_unit (by rfl) N.hh (by decide) (hms_h ..) (assignHms_h _ N.hh (by have := N.bh; omega))).trans ?_
    refine (loop_unit (by rfl) N.mm (by decide) (hms_m ..) (assignHms_m _ N.mm (by have := N.bmm; omega))).trans ?_
    exact loop_unit (by rfl) N.ss (by decide) (hms_s ..) (assignHms_s_num _ N.ss (by decide))
  · refine finish_t yf year century o tznames tzi dflt ht _ _ t.y.toNat _ ?_ (convertyear_full _ ht _ (Or.inl rfl)) rfl rfl (Or.inl rfl)
      ho.tz1 ?_ (valid_fields ht (valid_hh ht) (valid_mm ht) (valid_ss ht) ⟨by decide, by decide⟩)
    · rw [hdf]; exact resolve_Ymd _ _ _ _ _
    · simp only [fieldOr, N.eh, N.emi, N.es]; rfl

theorem tpl_hms_letters (cls : Char → CClass) [AsciiOK cls] (yf : Bool) (year century : Int) (o : Opts) (tznames : List Token) (tzi : TzInfos)
    (ho : StrictOpts o tzi) (hdf : o.dayfirst.getD false = false) (t dflt : DT) (ht : t.Valid) (_hdv : dflt.Valid) (off : Off) (hoff : off.Dom) (hsp : off.Spaced) :
    parse cls (Info.default false yf year century) o tznames tzi dflt (str_hms_letters t off.render) =
      .ok { dt := { t with us := 0 }, tz := offZone o tznames off, tokens := none } :=
  (rend_hms_letters cls yf year century o tznames tzi ho hdf t dflt ht).tpl ho off hoff (wordEnds_off cls off hsp) trivial

/-- C15, **a sentence containing one date**: any number of filler words, `hms_letters`, any number of filler words -/
theorem sentence_hms_letters (cls : Char → CClass) [AsciiOK cls] (yf : Bool) (year century : Int) (o : Opts) (tznames : List Token) (tzi : TzInfos)
    (hf : (o.fuzzy || o.fuzzyWithTokens) = true) (htz1 : tzi.applies none = false) (htz2 : tzi.applies (some ['U', 'T', 'C']) = false)
    (hdf : o.dayfirst.getD false = false) (t dflt : DT) (ht : t.Valid) (_hdv : dflt.Valid) (lead ws : List Token) (hlead : ∀ w ∈ lead, fillerWord w = true) (hws : ∀ w ∈ ws, fillerWord w = true) :
    SentenceAnswer cls (Info.default false yf year century) o tznames tzi dflt (leadChars lead ++ str_hms_letters t (fillerChars ws)) ({ t with us := 0 })
      (leadToks lead).length ((leadToks lead).length + 12) :=
  (rend_hms_letters cls yf year century { o with fuzzy := false, fuzzyWithTokens := false } tznames tzi ⟨rfl, rfl, htz1, htz2⟩ hdf t dflt ht).sentence
    hf lead ws hlead hws (wordEnds_filler cls ws) trivial

def core_hm_letters (t : DT) : List Token :=
  [y4 t.y.toNat, ['-'], dtok [t.m.toNat / 10, t.m.toNat], ['-'], dtok [t.d.toNat / 10, t.d.toNat], [' '], dtok [t.hh.toNat / 10, t.hh.toNat], ['h'], dtok [t.mm.toNat / 10, t.mm.toNat], ['m']]

theorem lex_hm_letters (cls : Char → CClass) [AsciiOK cls] (t : DT) (rest : List Char) (he : WordEnds cls rest) :
    scan cls .init (str_hm_letters t rest) = core_hm_letters t ++ scan cls .init rest := by
  unfold str_hm_letters core_hm_letters
  rw [lex_pad4 cls _ _ (numEnds_ascii cls _ _ (by decide)),
      lex_punct cls '-' _ (by decide),
      lex_pad2 cls _ _ (numEnds_ascii cls _ _ (by decide)),
      lex_punct cls '-' _ (by decide),
      lex_pad2 cls _ _ (numEnds_sp cls _),
      lex_sp,
      lex_pad2 cls _ _ (numEnds_ascii cls _ _ (by decide)),
      lex_letter cls 'h' _ (by decide) (wordEnds_num cls _ _ (by first | exact ⟨_, _, rfl⟩ | exact ⟨_, _, pad2_dtok _⟩ | exact ⟨_, _, pad4_dtok _⟩ | (unfold dec12; split <;> exact ⟨_, _, rfl⟩))),
      lex_pad2 cls _ _ (numEnds_ascii cls _ _ (by decide)),
      lex_letter cls 'm' _ (by decide) he]
  rfl

theorem rend_hm_letters (cls : Char → CClass) [AsciiOK cls] (yf : Bool) (year century : Int) (o : Opts) (tznames : List Token) (tzi : TzInfos)
    (ho : StrictOpts o tzi) (hdf : o.dayfirst.getD false = false) (t dflt : DT) (ht : t.Valid) (hdv : dflt.Valid) :
    Rendering cls false yf year century o tznames tzi dflt (str_hm_letters t) (core_hm_letters t) (WordEnds cls) (fun _ => True)
      ({ t with ss := dflt.ss, us := dflt.us }) := by
  have N := dtNums ht
  refine ⟨fun rest => by simp [str_hm_letters], lex_hm_letters cls t, { hour := some t.hh.toNat, minute := some t.mm.toNat },
    { vals := [t.y.toNat, t.m.toNat, t.d.toNat], century := true, yIdx := some 0 }, [5], rfl, rfl, rfl, rfl, fun fz suf _ => ?_, ?_⟩
  · refine (loop_sep3_num (l := core_hm_letters t ++ suf) (by rfl) (Or.inl rfl) N.y N.m N.d (by decide) (by decide) (by decide) rfl
      (Or.inr (Or.inr (by decide))) (by rfl) (hmsOf_num N.y)).trans ?_
    refine (loop_sp (by rfl)).trans ?_
    refine (loop_unit (by rfl) N.hh (by decide) (hms_h ..) (assignHms_h _ N.hh (by have := N.bh; omega))).trans ?_
    exact loop_unit (by rfl) N.mm (by decide) (hms_m ..) (assignHms_m _ N.mm (by have := N.bmm; omega))
  · refine finish_t yf year century o tznames tzi dflt ht _ _ t.y.toNat _ ?_ (convertyear_full _ ht _ (Or.inl rfl)) rfl rfl (Or.inl rfl)
      ho.tz1 ?_ (valid_fields ht (valid_hh ht) (valid_mm ht) (valid_ss hdv) (valid_us hdv))
    · rw [hdf]; exact resolve_Ymd _ _ _ _ _
    · simp only [fieldOr, N.eh, N.emi]

theorem tpl_hm_letters (cls : Char → CClass) [AsciiOK cls] (yf : Bool) (year century : Int) (o : Opts) (tznames : List Token) (tzi : TzInfos)
    (ho : StrictOpts o tzi) (hdf : o.dayfirst.getD false = false) (t dflt : DT) (ht : t.Valid) (hdv : dflt.Valid) (off : Off) (hoff : off.Dom) (hsp : off.Spaced) :
    parse cls (Info.default false yf year century) o tznames tzi dflt (str_hm_letters t off.render) =
      .ok { dt := { t with ss := dflt.ss, us := dflt.us }, tz := offZone o tznames off, tokens := none } :=
  (rend_hm_letters cls yf year century o tznames tzi ho hdf t dflt ht hdv).tpl ho off hoff (wordEnds_off cls off hsp) trivial

/-- C15, **a sentence containing one date**: any number of filler words, `hm_letters`, any number of filler words -/
theorem sentence_hm_letters (cls : Char → CClass) [AsciiOK cls] (yf : Bool) (year century : Int) (o : Opts) (tznames : List Token) (tzi : TzInfos)
    (hf : (o.fuzzy || o.fuzzyWithTokens) = true) (htz1 : tzi.applies none = false) (htz2 : tzi.applies (some ['U', 'T', 'C']) = false)
    (hdf : o.dayfirst.getD false = false) (t dflt : DT) (ht : t.Valid) (hdv : dflt.Valid) (lead ws : List Token) (hlead : ∀ w ∈ lead, fillerWord w = true) (hws : ∀ w ∈ ws, fillerWord w = true) :
    SentenceAnswer cls (Info.default false yf year century) o tznames tzi dflt (leadChars lead ++ str_hm_letters t (fillerChars ws)) ({ t with ss := dflt.ss, us := dflt.us })
      (leadToks lead).length ((leadToks lead).length + 10) :=
  (rend_hm_letters cls yf year century { o with fuzzy := false, fuzzyWithTokens := false } tznames tzi ⟨rfl, rfl, htz1, htz2⟩ hdf t dflt ht hdv).sentence
    hf lead ws hlead hws (wordEnds_filler cls ws) trivial

def core_ampm_short (t : DT) : List Token :=
  [y4 t.y.toNat, ['-'], dtok [t.m.toNat / 10, t.m.toNat], ['-'], dtok [t.d.toNat / 10, t.d.toNat], [' '], dayTok (h12 t.hh.toNat), [':'], dtok [t.mm.toNat / 10, t.mm.toNat], (apLow t.hh.toNat)]

theorem lex_ampm_short (cls : Char → CClass) [AsciiOK cls] (t : DT) (rest : List Char) (he : WordEnds cls rest) :
    scan cls .init (str_ampm_short t rest) = core_ampm_short t ++ scan cls .init rest := by
  unfold str_ampm_short core_ampm_short
  rw [lex_pad4 cls _ _ (numEnds_ascii cls _ _ (by decide)),
      lex_punct cls '-' _ (by decide),
      lex_pad2 cls _ _ (numEnds_ascii cls _ _ (by decide)),
      lex_punct cls '-' _ (by decide),
      lex_pad2 cls _ _ (numEnds_sp cls _),
      lex_sp,
      lex_dec12' cls _ _ (numEnds_ascii cls _ _ (by decide)),
      lex_punct cls ':' _ (by decide),
      lex_pad2 cls _ _ (numEnds_word cls _ _ (apLow_alpha _)),
      lex_alpha cls _ _ (apLow_alpha _) he]
  rfl

theorem rend_ampm_short (cls : Char → CClass) [AsciiOK cls] (yf : Bool) (year century : Int) (o : Opts) (tznames : List Token) (tzi : TzInfos)
    (ho : StrictOpts o tzi) (hdf : o.dayfirst.getD false = false) (t dflt : DT) (ht : t.Valid) (hdv : dflt.Valid) :
    Rendering cls false yf year century o tznames tzi dflt (str_ampm_short t) (core_ampm_short t) (WordEnds cls) (fun _ => True)
      ({ t with ss := dflt.ss, us := dflt.us }) := by
  have N := dtNums ht
  have hq := h12_bounds t.hh.toNat
  obtain ⟨nh, hnh, hH⟩ := isNum_dayTok (h12 t.hh.toNat) (by omega)
  refine ⟨fun rest => by simp [str_ampm_short], lex_ampm_short cls t,
    { hour := some t.hh.toNat, minute := some t.mm.toNat, ampm := some (if t.hh.toNat < 12 then 0 else 1) }, { vals := [t.y.toNat, t.m.toNat, t.d.toNat], century := true, yIdx := some 0 }, [5], rfl, rfl, rfl, rfl,
    fun fz suf _ => ?_, ?_⟩
  · refine (loop_sep3_num (l := core_ampm_short t ++ suf) (by rfl) (Or.inl rfl) N.y N.m N.d (by decide) (by decide) (by decide) rfl
      (Or.inr (Or.inr (by decide))) (by rfl) (hmsOf_num N.y)).trans ?_
    refine (loop_sp (by rfl)).trans ?_
    refine (loop_colon2 (by rfl) (ne_colon_of_len (apLow_ok cls false yf year century _).len) hH N.mm (by omega)
      (by have := N.bmm; omega) (by rfl) (hms_sp ..)).trans ?_
    exact loop_ampm (by rfl) (apLow_ok cls false yf year century _) rfl hq.2 rfl (adjustAmpm_h12 _ N.bh)
  · refine finish_t yf year century o tznames tzi dflt ht _ _ t.y.toNat _ ?_ (convertyear_full _ ht _ (Or.inl rfl)) rfl rfl (Or.inl rfl)
      ho.tz1 ?_ (valid_fields ht (valid_hh ht) (valid_mm ht) (valid_ss hdv) (valid_us hdv))
    · rw [hdf]; exact resolve_Ymd _ _ _ _ _
    · simp only [fieldOr, N.eh, N.emi]

theorem tpl_ampm_short (cls : Char → CClass) [AsciiOK cls] (yf : Bool) (year century : Int) (o : Opts) (tznames : List Token) (tzi : TzInfos)
    (ho : StrictOpts o tzi) (hdf : o.dayfirst.getD false = false) (t dflt : DT) (ht : t.Valid) (hdv : dflt.Valid) (off : Off) (hoff : off.Dom) (hsp : off.Spaced) :
    parse cls (Info.default false yf year century) o tznames tzi dflt (str_ampm_short t off.render) =
      .ok { dt := { t with ss := dflt.ss, us := dflt.us }, tz := offZone o tznames off, tokens := none } :=
  (rend_ampm_short cls yf year century o tznames tzi ho hdf t dflt ht hdv).tpl ho off hoff (wordEnds_off cls off hsp) trivial

/-- C15, **a sentence containing one date**: any number of filler words, `ampm_short`, any number of filler words -/
theorem sentence_ampm_short (cls : Char → CClass) [AsciiOK cls] (yf : Bool) (year century : Int) (o : Opts) (tznames : List Token) (tzi : TzInfos)
    (hf : (o.fuzzy || o.fuzzyWithTokens) = true) (htz1 : tzi.applies none = false) (htz2 : tzi.applies (some ['U', 'T', 'C']) = false)
    (hdf : o.dayfirst.getD false = false) (t dflt : DT) (ht : t.Valid) (hdv : dflt.Valid) (lead ws : List Token) (hlead : ∀ w ∈ lead, fillerWord w = true) (hws : ∀ w ∈ ws, fillerWord w = true) :
    SentenceAnswer cls (Info.default false yf year century) o tznames tzi dflt (leadChars lead ++ str_ampm_short t (fillerChars ws)) ({ t with ss := dflt.ss, us := dflt.us })
      (leadToks lead).length ((leadToks lead).length + 10) :=
  (rend_ampm_short cls yf year century { o with fuzzy := false, fuzzyWithTokens := false } tznames tzi ⟨rfl, rfl, htz1, htz2⟩ hdf t dflt ht hdv).sentence
    hf lead ws hlead hws (wordEnds_filler cls ws) trivial

def core_ampm_hour (t : DT) : List Token :=
  [y4 t.y.toNat, ['-'], dtok [t.m.toNat / 10, t.m.toNat], ['-'], dtok [t.d.toNat / 10, t.d.toNat], [' '], dayTok (h12 t.hh.toNat), [' '], (apWord t.hh.toNat)]

theorem lex_ampm_hour (cls : Char → CClass) [AsciiOK cls] (t : DT) (rest : List Char) (he : WordEnds cls rest) :
    scan cls .init (str_ampm_hour t rest) = core_ampm_hour t ++ scan cls .init rest := by
  unfold str_ampm_hour core_ampm_hour
  rw [lex_pad4 cls _ _ (numEnds_ascii cls _ _ (by decide)),
      lex_punct cls '-' _ (by decide),
      lex_pad2 cls _ _ (numEnds_ascii cls _ _ (by decide)),
      lex_punct cls '-' _ (by decide),
      lex_pad2 cls _ _ (numEnds_sp cls _),
      lex_sp,
      lex_dec12' cls _ _ (numEnds_sp cls _),
      lex_sp,
      lex_alpha cls _ _ (apWord_alpha _) he]
  rfl

theorem rend_ampm_hour (cls : Char → CClass) [AsciiOK cls] (yf : Bool) (year century : Int) (o : Opts) (tznames : List Token) (tzi : TzInfos)
    (ho : StrictOpts o tzi) (hdf : o.dayfirst.getD false = false) (t dflt : DT) (ht : t.Valid) (hdv : dflt.Valid) :
    Rendering cls false yf year century o tznames tzi dflt (str_ampm_hour t) (core_ampm_hour t) (WordEnds cls) (fun _ => True)
      ({ t with mm := dflt.mm, ss := dflt.ss, us := dflt.us }) := by
  have N := dtNums ht
  have hq := h12_bounds t.hh.toNat
  refine ⟨fun rest => by simp [str_ampm_hour], lex_ampm_hour cls t,
    { hour := some t.hh.toNat, ampm := if h12 t.hh.toNat < 10 then none else some (if t.hh.toNat < 12 then 0 else 1) }, { vals := [t.y.toNat, t.m.toNat, t.d.toNat], century := true, yIdx := some 0 },
    if h12 t.hh.toNat < 10 then [5] else [5, 7], by split <;> rfl, rfl, rfl, rfl, fun fz suf _ => ?_, ?_⟩
  · refine (loop_sep3_num (l := core_ampm_hour t ++ suf) (by rfl) (Or.inl rfl) N.y N.m N.d (by decide) (by decide) (by decide) rfl
      (Or.inr (Or.inr (by decide))) (by rfl) (hmsOf_num N.y)).trans ?_
    refine (loop_sp (by rfl)).trans ?_
    by_cases h10 : h12 t.hh.toNat < 10
    · rw [if_pos h10, if_pos h10]
      exact loop_jump_ampm (by rfl) (isNum_dayTok1 _ h10) (by decide) (Or.inr (Or.inl (by decide)))
        (apWord_ok cls false yf year century _) (adjustAmpm_h12 _ N.bh) (by rfl) (hms_sp ..)
    · rw [if_neg h10, if_neg h10]
      refine (loop_hour2 (by rfl) (isNum_dayTok2 _ h10 (by omega)) rfl rfl ⟨by decide, hms_sp ..⟩).trans ?_
      refine (loop_sp (by rfl)).trans ?_
      exact loop_ampm (by rfl) (apWord_ok cls false yf year century _) rfl hq.2 rfl (adjustAmpm_h12 _ N.bh)
  · refine finish_t yf year century o tznames tzi dflt ht _ _ t.y.toNat _ ?_ (convertyear_full _ ht _ (Or.inl rfl)) rfl rfl (Or.inl rfl)
      ho.tz1 ?_ (valid_fields ht (valid_hh ht) (valid_mm hdv) (valid_ss hdv) (valid_us hdv))
    · rw [hdf]; exact resolve_Ymd _ _ _ _ _
    · simp only [fieldOr, N.eh]

theorem tpl_ampm_hour (cls : Char → CClass) [AsciiOK cls] (yf : Bool) (year century : Int) (o : Opts) (tznames : List Token) (tzi : TzInfos)
    (ho : StrictOpts o tzi) (hdf : o.dayfirst.getD false = false) (t dflt : DT) (ht : t.Valid) (hdv : dflt.Valid) (off : Off) (hoff : off.Dom) (hsp : off.Spaced) :
    parse cls (Info.default false yf year century) o tznames tzi dflt (str_ampm_hour t off.render) =
      .ok { dt := { t with mm := dflt.mm, ss := dflt.ss, us := dflt.us }, tz := offZone o tznames off, tokens := none } :=
  (rend_ampm_hour cls yf year century o tznames tzi ho hdf t dflt ht hdv).tpl ho off hoff (wordEnds_off cls off hsp) trivial

/-- C15, **a sentence containing one date**: any number of filler words, `ampm_hour`, any number of filler words -/
theorem sentence_ampm_hour (cls : Char → CClass) [AsciiOK cls] (yf : Bool) (year century : Int) (o : Opts) (tznames : List Token) (tzi : TzInfos)
    (hf : (o.fuzzy || o.fuzzyWithTokens) = true) (htz1 : tzi.applies none = false) (htz2 : tzi.applies (some ['U', 'T', 'C']) = false)
    (hdf : o.dayfirst.getD false = false) (t dflt : DT) (ht : t.Valid) (hdv : dflt.Valid) (lead ws : List Token) (hlead : ∀ w ∈ lead, fillerWord w = true) (hws : ∀ w ∈ ws, fillerWord w = true) :
    SentenceAnswer cls (Info.default false yf year century) o tznames tzi dflt (leadChars lead ++ str_ampm_hour t (fillerChars ws)) ({ t with mm := dflt.mm, ss := dflt.ss, us := dflt.us })
      (leadToks lead).length ((leadToks lead).length + 9) :=
  (rend_ampm_hour cls yf year century { o with fuzzy := false, fuzzyWithTokens := false } tznames tzi ⟨rfl, rfl, htz1, htz2⟩ hdf t dflt ht hdv).sentence
    hf lead ws hlead hws (wordEnds_filler cls ws) trivial

def core_ampm_hour_tight (t : DT) : List Token :=
  [y4 t.y.toNat, ['-'], dtok [t.m.toNat / 10, t.m.toNat], ['-'], dtok [t.d.toNat / 10, t.d.toNat], [' '], dayTok (h12 t.hh.toNat), (apLow t.hh.toNat)]

theorem lex_ampm_hour_tight (cls : Char → CClass) [AsciiOK cls] (t : DT) (rest : List Char) (he : WordEnds cls rest) :
    scan cls .init (str_ampm_hour_tight t rest) = core_ampm_hour_tight t ++ scan cls .init rest := by
  unfold str_ampm_hour_tight core_ampm_hour_tight
  rw [lex_pad4 cls _ _ (numEnds_ascii cls _ _ (by decide)),
      lex_punct cls '-' _ (by decide),
      lex_pad2 cls _ _ (numEnds_ascii cls _ _ (by decide)),
      lex_punct cls '-' _ (by decide),
      lex_pad2 cls _ _ (numEnds_sp cls _),
      lex_sp,
      lex_dec12' cls _ _ (numEnds_word cls _ _ (apLow_alpha _)),
      lex_alpha cls _ _ (apLow_alpha _) he]
  rfl

theorem rend_ampm_hour_tight (cls : Char → CClass) [AsciiOK cls] (yf : Bool) (year century : Int) (o : Opts) (tznames : List Token) (tzi : TzInfos)
    (ho : StrictOpts o tzi) (hdf : o.dayfirst.getD false = false) (t dflt : DT) (ht : t.Valid) (hdv : dflt.Valid) :
    Rendering cls false yf year century o tznames tzi dflt (str_ampm_hour_tight t) (core_ampm_hour_tight t) (WordEnds cls) (fun _ => True)
      ({ t with mm := dflt.mm, ss := dflt.ss, us := dflt.us }) := by
  have N := dtNums ht
  have hq := h12_bounds t.hh.toNat
  refine ⟨fun rest => by simp [str_ampm_hour_tight], lex_ampm_hour_tight cls t,
    { hour := some t.hh.toNat, ampm := if h12 t.hh.toNat < 10 then none else some (if t.hh.toNat < 12 then 0 else 1) }, { vals := [t.y.toNat, t.m.toNat, t.d.toNat], century := true, yIdx := some 0 },
    [5], rfl, rfl, rfl, rfl, fun fz suf _ => ?_, ?_⟩
  · refine (loop_sep3_num (l := core_ampm_hour_tight t ++ suf) (by rfl) (Or.inl rfl) N.y N.m N.d (by decide) (by decide) (by decide) rfl
      (Or.inr (Or.inr (by decide))) (by rfl) (hmsOf_num N.y)).trans ?_
    refine (loop_sp (by rfl)).trans ?_
    by_cases h10 : h12 t.hh.toNat < 10
    · rw [if_pos h10]
      exact loop_num_ampm (by rfl) (isNum_dayTok1 _ h10) (by decide) (Or.inr (Or.inl (by decide)))
        (apLow_ok cls false yf year century _) (by omega) (adjustAmpm_h12 _ N.bh) (by rfl) (hms_sp ..)
    · rw [if_neg h10]
      refine (loop_hour2 (by rfl) (isNum_dayTok2 _ h10 (by omega)) rfl rfl
        ⟨fun e => (by have := (apLow_ok cls false yf year century t.hh.toNat).len; rw [e] at this; cases this),
         (apLow_ok cls false yf year century _).hms⟩).trans ?_
      exact loop_ampm (by rfl) (apLow_ok cls false yf year century _) rfl hq.2 rfl (adjustAmpm_h12 _ N.bh)
  · refine finish_t yf year century o tznames tzi dflt ht _ _ t.y.toNat _ ?_ (convertyear_full _ ht _ (Or.inl rfl)) rfl rfl (Or.inl rfl)
      ho.tz1 ?_ (valid_fields ht (valid_hh ht) (valid_mm hdv) (valid_ss hdv) (valid_us hdv))
    · rw [hdf]; exact resolve_Ymd _ _ _ _ _
    · simp only [fieldOr, N.eh]

theorem tpl_ampm_hour_tight (cls : Char → CClass) [AsciiOK cls] (yf : Bool) (year century : Int) (o : Opts) (tznames : List Token) (tzi : TzInfos)
    (ho : StrictOpts o tzi) (hdf : o.dayfirst.getD false = false) (t dflt : DT) (ht : t.Valid) (hdv : dflt.Valid) (off : Off) (hoff : off.Dom) (hsp : off.Spaced) :
    parse cls (Info.default false yf year century) o tznames tzi dflt (str_ampm_hour_tight t off.render) =
      .ok { dt := { t with mm := dflt.mm, ss := dflt.ss, us := dflt.us }, tz := offZone o tznames off, tokens := none } :=
  (rend_ampm_hour_tight cls yf year century o tznames tzi ho hdf t dflt ht hdv).tpl ho off hoff (wordEnds_off cls off hsp) trivial

/-- C15, **a sentence containing one date**: any number of filler words, `ampm_hour_tight`, any number of filler words -/
theorem sentence_ampm_hour_tight (cls : Char → CClass) [AsciiOK cls] (yf : Bool) (year century : Int) (o : Opts) (tznames : List Token) (tzi : TzInfos)
    (hf : (o.fuzzy || o.fuzzyWithTokens) = true) (htz1 : tzi.applies none = false) (htz2 : tzi.applies (some ['U', 'T', 'C']) = false)
    (hdf : o.dayfirst.getD false = false) (t dflt : DT) (ht : t.Valid) (hdv : dflt.Valid) (lead ws : List Token) (hlead : ∀ w ∈ lead, fillerWord w = true) (hws : ∀ w ∈ ws, fillerWord w = true) :
    SentenceAnswer cls (Info.default false yf year century) o tznames tzi dflt (leadChars lead ++ str_ampm_hour_tight t (fillerChars ws)) ({ t with mm := dflt.mm, ss := dflt.ss, us := dflt.us })
      (leadToks lead).length ((leadToks lead).length + 8) :=
  (rend_ampm_hour_tight cls yf year century { o with fuzzy := false, fuzzyWithTokens := false } tznames tzi ⟨rfl, rfl, htz1, htz2⟩ hdf t dflt ht hdv).sentence
    hf lead ws hlead hws (wordEnds_filler cls ws) trivial

def core_ampm_hms_sp (t : DT) : List Token :=
  [y4 t.y.toNat, ['-'], dtok [t.m.toNat / 10, t.m.toNat], ['-'], dtok [t.d.toNat / 10, t.d.toNat], [' '], dtok [h12 t.hh.toNat / 10, h12 t.hh.toNat], [':'], dtok [t.mm.toNat / 10, t.mm.toNat], [':'], dtok [t.ss.toNat / 10, t.ss.toNat], [' '], (apWord t.hh.toNat)]

theorem lex_ampm_hms_sp (cls : Char → CClass) [AsciiOK cls] (t : DT) (rest : List Char) (he : WordEnds cls rest) :
    scan cls .init (str_ampm_hms_sp t rest) = core_ampm_hms_sp t ++ scan cls .init rest := by
  unfold str_ampm_hms_sp core_ampm_hms_sp
  rw [lex_pad4 cls _ _ (numEnds_ascii cls _ _ (by decide)),
      lex_punct cls '-' _ (by decide),
      lex_pad2 cls _ _ (numEnds_ascii cls _ _ (by decide)),
      lex_punct cls '-' _ (by decide),
      lex_pad2 cls _ _ (numEnds_sp cls _),
      lex_sp,
      lex_pad2 cls _ _ (numEnds_ascii cls _ _ (by decide)),
      lex_punct cls ':' _ (by decide),
      lex_pad2 cls _ _ (numEnds_ascii cls _ _ (by decide)),
      lex_punct cls ':' _ (by decide),
      lex_pad2 cls _ _ (numEnds_sp cls _),
      lex_sp,
      lex_alpha cls _ _ (apWord_alpha _) he]
  rfl

theorem rend_ampm_hms_sp (cls : Char → CClass) [AsciiOK cls] (yf : Bool) (year century : Int) (o : Opts) (tznames : List Token) (tzi : TzInfos)
    (ho : StrictOpts o tzi) (hdf : o.dayfirst.getD false = false) (t dflt : DT) (ht : t.Valid) :
    Rendering cls false yf year century o tznames tzi dflt (str_ampm_hms_sp t) (core_ampm_hms_sp t) (WordEnds cls) (fun _ => True)
      ({ t with us := 0 }) := by
  have N := dtNums ht
  have hq := h12_bounds t.hh.toNat
  refine ⟨fun rest => by simp [str_ampm_hms_sp], lex_ampm_hms_sp cls t,
    { hour := some t.hh.toNat, minute := some t.mm.toNat, second := some t.ss.toNat, microsecond := some 0, ampm := some (if t.hh.toNat < 12 then 0 else 1) },
    { vals := [t.y.toNat, t.m.toNat, t.d.toNat], century := true, yIdx := some 0 }, [5, 11], rfl, rfl, rfl, rfl, fun fz suf _ => ?_, ?_⟩
  · refine (run_date3_hms (l := core_ampm_hms_sp t ++ suf) (fuel := suf.length + 2) (by rfl) (Or.inl rfl) (Or.inl rfl) N.y N.m N.d
      (by decide) (by decide) (by decide) (Or.inr (Or.inr (by decide))) (isNum_pad2 _ (by omega)) N.mm (parsems_num N.ss (by decide))
      (by decide) (by have := N.bmm; omega)).trans ?_
    refine (loop_sp (by rfl)).trans ?_
    exact loop_ampm (by rfl) (apWord_ok cls false yf year century _) rfl hq.2 rfl (adjustAmpm_h12 _ N.bh)
  · refine finish_t yf year century o tznames tzi dflt ht _ _ t.y.toNat _ ?_ (convertyear_full _ ht _ (Or.inl rfl)) rfl rfl (Or.inl rfl)
      ho.tz1 ?_ (valid_fields ht (valid_hh ht) (valid_mm ht) (valid_ss ht) ⟨by decide, by decide⟩)
    · rw [hdf]; exact resolve_Ymd _ _ _ _ _
    · simp only [fieldOr, N.eh, N.emi, N.es]; rfl

theorem tpl_ampm_hms_sp (cls : Char → CClass) [AsciiOK cls] (yf : Bool) (year century : Int) (o : Opts) (tznames : List Token) (tzi : TzInfos)
    (ho : StrictOpts o tzi) (hdf : o.dayfirst.getD false = false) (t dflt : DT) (ht : t.Valid) (_hdv : dflt.Valid) (off : Off) (hoff : off.Dom) (hsp : off.Spaced) :
    parse cls (Info.default false yf year century) o tznames tzi dflt (str_ampm_hms_sp t off.render) =
      .ok { dt := { t with us := 0 }, tz := offZone o tznames off, tokens := none } :=
  (rend_ampm_hms_sp cls yf year century o tznames tzi ho hdf t dflt ht).tpl ho off hoff (wordEnds_off cls off hsp) trivial

/-- C15, **a sentence containing one date**: any number of filler words, `ampm_hms_sp`, any number of filler words -/
theorem sentence_ampm_hms_sp (cls : Char → CClass) [AsciiOK cls] (yf : Bool) (year century : Int) (o : Opts) (tznames : List Token) (tzi : TzInfos)
    (hf : (o.fuzzy || o.fuzzyWithTokens) = true) (htz1 : tzi.applies none = false) (htz2 : tzi.applies (some ['U', 'T', 'C']) = false)
    (hdf : o.dayfirst.getD false = false) (t dflt : DT) (ht : t.Valid) (_hdv : dflt.Valid) (lead ws : List Token) (hlead : ∀ w ∈ lead, fillerWord w = true) (hws : ∀ w ∈ ws, fillerWord w = true) :
    SentenceAnswer cls (Info.default false yf year century) o tznames tzi dflt (leadChars lead ++ str_ampm_hms_sp t (fillerChars ws)) ({ t with us := 0 })
      (leadToks lead).length ((leadToks lead).length + 13) :=
  (rend_ampm_hms_sp cls yf year century { o with fuzzy := false, fuzzyWithTokens := false } tznames tzi ⟨rfl, rfl, htz1, htz2⟩ hdf t dflt ht).sentence
    hf lead ws hlead hws (wordEnds_filler cls ws) trivial

end PM
