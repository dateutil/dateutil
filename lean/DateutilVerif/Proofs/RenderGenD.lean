/-
  Proofs/RenderGenD.lean — dates with a month word, with `HH:MM[:SS]`: `DD-Mon-YYYY HH:MM`, `DD-Mon-YY`, `D Month YYYY HH:MM`,
  `Mon D YYYY HH:MM:SS` (templates `dd-Mon-Y_hm`, `dd-Mon-yy`, `d_Month_Y_hm`, `Mon_d_Y_hms` of C02; where the year is read
  as a Decimal, for years from 100 on: D-C02 is the excluded class).
-/
import DateutilVerif.Proofs.RenderSentence
import DateutilVerif.Proofs.RenderFin

namespace PM
open Py PT

def core_dd_Mon_Y_hm (t : DT) : List Token :=
  [dtok [t.d.toNat / 10, t.d.toNat], ['-'], (monAbbr t.m.toNat), ['-'], y4 t.y.toNat, [' '], dtok [t.hh.toNat / 10, t.hh.toNat], [':'], dtok [t.mm.toNat / 10, t.mm.toNat]]

theorem lex_dd_Mon_Y_hm (cls : Char → CClass) [AsciiOK cls] (t : DT) (hAlA : isAlphaWord (monAbbr t.m.toNat) = true) (rest : List Char) (he : NumEnds cls rest) :
    scan cls .init (str_dd_Mon_Y_hm t rest) = core_dd_Mon_Y_hm t ++ scan cls .init rest := by
  unfold str_dd_Mon_Y_hm core_dd_Mon_Y_hm
  rw [lex_pad2 cls _ _ (numEnds_ascii cls _ _ (by decide)),
      lex_punct cls '-' _ (by decide),
      lex_alpha cls _ _ hAlA (wordEnds_ascii cls _ _ (by decide)),
      lex_punct cls '-' _ (by decide),
      lex_pad4 cls _ _ (numEnds_sp cls _),
      lex_sp,
      lex_pad2 cls _ _ (numEnds_ascii cls _ _ (by decide)),
      lex_punct cls ':' _ (by decide),
      lex_pad2 cls _ _ he]
  rfl

theorem rend_dd_Mon_Y_hm (cls : Char → CClass) [AsciiOK cls] (yf : Bool) (year century : Int) (o : Opts) (tznames : List Token) (tzi : TzInfos)
    (ho : StrictOpts o tzi)  (t dflt : DT) (ht : t.Valid) (hdv : dflt.Valid) :
    Rendering cls false yf year century o tznames tzi dflt (str_dd_Mon_Y_hm t) (core_dd_Mon_Y_hm t) (NumEnds cls) (Suf1 (Info.default false yf year century))
      ({ t with ss := dflt.ss, us := dflt.us }) := by
  have N := dtNums ht
  obtain ⟨hMoA, hAlA⟩ := monWordA cls yf year century t.m.toNat N.bm.1 N.bm.2
  refine ⟨fun rest => by simp [str_dd_Mon_Y_hm], lex_dd_Mon_Y_hm cls t hAlA, { hour := some t.hh.toNat, minute := some t.mm.toNat },
    { vals := [t.d.toNat, t.m.toNat, t.y.toNat], century := true, mIdx := some 1, yIdx := some 2 }, [5], rfl, rfl, rfl, rfl,
    fun fz suf hs => ?_, ?_⟩
  · refine (loop_sep3_mon (l := core_dd_Mon_Y_hm t ++ suf) (by rfl) (Or.inl rfl) N.d hMoA N.y (by decide) (by have := N.bm; omega)
      (by decide) rfl (by rfl) (hmsOf_num N.d)).trans ?_
    refine (loop_sp (by rfl)).trans ?_
    exact loop_colon2 (by rfl) (suf1_colon hs) N.hh N.mm (by decide) (by have := N.bmm; omega) (by rfl) (hms_sp ..)
  · refine finish_t yf year century o tznames tzi dflt ht _ _ t.y.toNat _ (resolve_dMy true _ _ _ _ _ N.bd.2 (Or.inl rfl))
      (convertyear_full _ ht _ (Or.inl rfl)) rfl rfl (Or.inl rfl) ho.tz1 ?_ (valid_fields ht (valid_hh ht) (valid_mm ht) (valid_ss hdv) (valid_us hdv))
    simp only [fieldOr, N.eh, N.emi]

theorem tpl_dd_Mon_Y_hm (cls : Char → CClass) [AsciiOK cls] (yf : Bool) (year century : Int) (o : Opts) (tznames : List Token) (tzi : TzInfos)
    (ho : StrictOpts o tzi)  (t dflt : DT) (ht : t.Valid) (hdv : dflt.Valid) (off : Off) (hoff : off.Dom) :
    parse cls (Info.default false yf year century) o tznames tzi dflt (str_dd_Mon_Y_hm t off.render) =
      .ok { dt := { t with ss := dflt.ss, us := dflt.us }, tz := offZone o tznames off, tokens := none } :=
  (rend_dd_Mon_Y_hm cls yf year century o tznames tzi ho  t dflt ht hdv).tpl ho off hoff (numEnds_off cls off) (suf1_off false yf year century off)

/-- C15, **a sentence containing one date**: any number of filler words, `dd-Mon-Y_hm`, any number of filler words -/
theorem sentence_dd_Mon_Y_hm (cls : Char → CClass) [AsciiOK cls] (yf : Bool) (year century : Int) (o : Opts) (tznames : List Token) (tzi : TzInfos)
    (hf : (o.fuzzy || o.fuzzyWithTokens) = true) (htz1 : tzi.applies none = false) (htz2 : tzi.applies (some ['U', 'T', 'C']) = false)
     (t dflt : DT) (ht : t.Valid) (hdv : dflt.Valid) (lead ws : List Token) (hlead : ∀ w ∈ lead, fillerWord w = true) (hws : ∀ w ∈ ws, fillerWord w = true) :
    SentenceAnswer cls (Info.default false yf year century) o tznames tzi dflt (leadChars lead ++ str_dd_Mon_Y_hm t (fillerChars ws)) ({ t with ss := dflt.ss, us := dflt.us })
      (leadToks lead).length ((leadToks lead).length + 9) :=
  (rend_dd_Mon_Y_hm cls yf year century { o with fuzzy := false, fuzzyWithTokens := false } tznames tzi ⟨rfl, rfl, htz1, htz2⟩  t dflt ht hdv).sentence
    hf lead ws hlead hws (numEnds_filler cls ws) (suf1_filler false yf year century ws)

def core_dd_Mon_yy (t : DT) : List Token :=
  [dtok [t.d.toNat / 10, t.d.toNat], ['-'], (monAbbr t.m.toNat), ['-'], dtok [(t.y.toNat % 100) / 10, t.y.toNat % 100]]

theorem lex_dd_Mon_yy (cls : Char → CClass) [AsciiOK cls] (t : DT) (hAlA : isAlphaWord (monAbbr t.m.toNat) = true) (rest : List Char) (he : NumEnds cls rest) :
    scan cls .init (str_dd_Mon_yy t rest) = core_dd_Mon_yy t ++ scan cls .init rest := by
  unfold str_dd_Mon_yy core_dd_Mon_yy
  rw [lex_pad2 cls _ _ (numEnds_ascii cls _ _ (by decide)),
      lex_punct cls '-' _ (by decide),
      lex_alpha cls _ _ hAlA (wordEnds_ascii cls _ _ (by decide)),
      lex_punct cls '-' _ (by decide),
      lex_pad2 cls _ _ he]
  rfl

theorem tpl_dd_Mon_yy (cls : Char → CClass) [AsciiOK cls] (yf : Bool) (year century : Int) (o : Opts) (tznames : List Token) (tzi : TzInfos)
    (ho : StrictOpts o tzi) (hyf : o.yearfirst.getD yf = false) (t dflt : DT) (ht : t.Valid) (hdv : dflt.Valid) (hwin : Gen.convertyear ⟨century, year⟩ (t.y % 100) false = .ok t.y) :
    parse cls (Info.default false yf year century) o tznames tzi dflt (str_dd_Mon_yy t []) =
      .ok { dt := { t with hh := dflt.hh, mm := dflt.mm, ss := dflt.ss, us := dflt.us }, tz := .naive, tokens := none } := by
  have N := dtNums ht
  obtain ⟨hMoA, hAlA⟩ := monWordA cls yf year century t.m.toNat N.bm.1 N.bm.2
  refine tpl_date cls _ o tznames tzi ho.fz ho.fwt dflt _ (core_dd_Mon_yy t) _ _ _ _
    (by simpa [scan_init_nil] using lex_dd_Mon_yy cls t hAlA [] trivial)
    (loop_sep3_mon (fuel := 0) (l := core_dd_Mon_yy t) (by rfl) (Or.inl rfl) N.d hMoA N.yy (by decide) (by have := N.bm; omega)
      (by decide) rfl (by rfl) (hmsOf_num N.d)) ?_
  refine finish_t yf year century o tznames tzi dflt ht _ _ (t.y.toNat % 100) _ ?_ (convertyear_yy _ ht hwin) rfl rfl (Or.inl rfl)
    ho.tz1 rfl (valid_fields ht (valid_hh hdv) (valid_mm hdv) (valid_ss hdv) (valid_us hdv))
  rw [hyf]; exact resolve_dMy false _ _ _ _ _ N.bd.2 (Or.inr (Or.inl rfl))

def core_d_Month_Y_hm (t : DT) : List Token :=
  [dayTok t.d.toNat, [' '], (monFull t.m.toNat), [' '], y4 t.y.toNat, [' '], dtok [t.hh.toNat / 10, t.hh.toNat], [':'], dtok [t.mm.toNat / 10, t.mm.toNat]]

theorem lex_d_Month_Y_hm (cls : Char → CClass) [AsciiOK cls] (t : DT) (hAlF : isAlphaWord (monFull t.m.toNat) = true) (rest : List Char) (he : NumEnds cls rest) :
    scan cls .init (str_d_Month_Y_hm t rest) = core_d_Month_Y_hm t ++ scan cls .init rest := by
  unfold str_d_Month_Y_hm core_d_Month_Y_hm
  rw [lex_dec12' cls _ _ (numEnds_sp cls _),
      lex_sp,
      lex_alpha cls _ _ hAlF (wordEnds_sp cls _),
      lex_sp,
      lex_pad4 cls _ _ (numEnds_sp cls _),
      lex_sp,
      lex_pad2 cls _ _ (numEnds_ascii cls _ _ (by decide)),
      lex_punct cls ':' _ (by decide),
      lex_pad2 cls _ _ he]
  rfl

theorem rend_d_Month_Y_hm (cls : Char → CClass) [AsciiOK cls] (yf : Bool) (year century : Int) (o : Opts) (tznames : List Token) (tzi : TzInfos)
    (ho : StrictOpts o tzi) (hyf : o.yearfirst.getD yf = false) (t dflt : DT) (ht : t.Valid) (hdv : dflt.Valid) (hy : 100 ≤ t.y) :
    Rendering cls false yf year century o tznames tzi dflt (str_d_Month_Y_hm t) (core_d_Month_Y_hm t) (NumEnds cls) (Suf1 (Info.default false yf year century))
      ({ t with ss := dflt.ss, us := dflt.us }) := by
  have N := dtNums ht
  obtain ⟨hMoF, hAlF⟩ := monWordF cls yf year century t.m.toNat N.bm.1 N.bm.2
  obtain ⟨nd, hnd, hD⟩ := isNum_dayTok t.d.toNat (by have := N.bd; omega)
  refine ⟨fun rest => by simp [str_d_Month_Y_hm], lex_d_Month_Y_hm cls t hAlF, { hour := some t.hh.toNat, minute := some t.mm.toNat },
    { vals := [t.d.toNat, t.m.toNat, t.y.toNat], century := decide (100 < t.y.toNat), mIdx := some 1,
      yIdx := if decide (100 < t.y.toNat) then some 2 else none }, [3], rfl, rfl, rfl, rfl, fun fz suf hs => ?_, ?_⟩
  · refine (loop_jump (l := core_d_Month_Y_hm t ++ suf) (by rfl) hD (by omega) (Or.inl (by simp)) (Or.inl rfl) ⟨hMoF.hms, hMoF.ampm⟩
      (decide_eq_false (by have := N.bd; omega)) (Or.inl rfl) (by rfl) (hmsOf_num hD)).trans ?_
    refine (loop_month (by rfl) hMoF (by have := N.bm; omega) (by decide) (isPertain_num N.y) rfl).trans ?_
    refine (loop_sp (by rfl)).trans ?_
    refine (loop_jump (by rfl) N.y (by decide) (Or.inl (by simp [Ymd.push])) (Or.inl rfl) ⟨hmsOf_num N.hh, ampmOf_num N.hh⟩ rfl
      (Or.inr (by rfl)) (by rfl) (hms_sp ..)).trans ?_
    exact loop_colon2 (by rfl) (suf1_colon hs) N.hh N.mm (by decide) (by have := N.bmm; omega) (by rfl) (hms_sp ..)
  · refine finish_t yf year century o tznames tzi dflt ht _ _ t.y.toNat _ ?_ (convertyear_full _ ht _ (Or.inr hy)) rfl rfl (Or.inl rfl)
      ho.tz1 ?_ (valid_fields ht (valid_hh ht) (valid_mm ht) (valid_ss hdv) (valid_us hdv))
    · rw [hyf]; exact resolve_dMy _ _ _ _ _ _ N.bd.2 (Or.inr (Or.inl rfl))
    · simp only [fieldOr, N.eh, N.emi]

theorem tpl_d_Month_Y_hm (cls : Char → CClass) [AsciiOK cls] (yf : Bool) (year century : Int) (o : Opts) (tznames : List Token) (tzi : TzInfos)
    (ho : StrictOpts o tzi) (hyf : o.yearfirst.getD yf = false) (t dflt : DT) (ht : t.Valid) (hdv : dflt.Valid) (hy : 100 ≤ t.y) (off : Off) (hoff : off.Dom) :
    parse cls (Info.default false yf year century) o tznames tzi dflt (str_d_Month_Y_hm t off.render) =
      .ok { dt := { t with ss := dflt.ss, us := dflt.us }, tz := offZone o tznames off, tokens := none } :=
  (rend_d_Month_Y_hm cls yf year century o tznames tzi ho hyf t dflt ht hdv hy).tpl ho off hoff (numEnds_off cls off) (suf1_off false yf year century off)

/-- C15, **a sentence containing one date**: any number of filler words, `d_Month_Y_hm`, any number of filler words -/
theorem sentence_d_Month_Y_hm (cls : Char → CClass) [AsciiOK cls] (yf : Bool) (year century : Int) (o : Opts) (tznames : List Token) (tzi : TzInfos)
    (hf : (o.fuzzy || o.fuzzyWithTokens) = true) (htz1 : tzi.applies none = false) (htz2 : tzi.applies (some ['U', 'T', 'C']) = false)
    (hyf : o.yearfirst.getD yf = false) (t dflt : DT) (ht : t.Valid) (hdv : dflt.Valid) (hy : 100 ≤ t.y) (lead ws : List Token) (hlead : ∀ w ∈ lead, fillerWord w = true) (hws : ∀ w ∈ ws, fillerWord w = true) :
    SentenceAnswer cls (Info.default false yf year century) o tznames tzi dflt (leadChars lead ++ str_d_Month_Y_hm t (fillerChars ws)) ({ t with ss := dflt.ss, us := dflt.us })
      (leadToks lead).length ((leadToks lead).length + 9) :=
  (rend_d_Month_Y_hm cls yf year century { o with fuzzy := false, fuzzyWithTokens := false } tznames tzi ⟨rfl, rfl, htz1, htz2⟩ hyf t dflt ht hdv hy).sentence
    hf lead ws hlead hws (numEnds_filler cls ws) (suf1_filler false yf year century ws)

def core_Mon_d_Y_hms (t : DT) : List Token :=
  [(monAbbr t.m.toNat), [' '], dayTok t.d.toNat, [' '], y4 t.y.toNat, [' '], dtok [t.hh.toNat / 10, t.hh.toNat], [':'], dtok [t.mm.toNat / 10, t.mm.toNat], [':'], dtok [t.ss.toNat / 10, t.ss.toNat]]

theorem lex_Mon_d_Y_hms (cls : Char → CClass) [AsciiOK cls] (t : DT) (hAlA : isAlphaWord (monAbbr t.m.toNat) = true) (rest : List Char) (he : NumEnds cls rest) :
    scan cls .init (str_Mon_d_Y_hms t rest) = core_Mon_d_Y_hms t ++ scan cls .init rest := by
  unfold str_Mon_d_Y_hms core_Mon_d_Y_hms
  rw [lex_alpha cls _ _ hAlA (wordEnds_sp cls _),
      lex_sp,
      lex_dec12' cls _ _ (numEnds_sp cls _),
      lex_sp,
      lex_pad4 cls _ _ (numEnds_sp cls _),
      lex_sp,
      lex_pad2 cls _ _ (numEnds_ascii cls _ _ (by decide)),
      lex_punct cls ':' _ (by decide),
      lex_pad2 cls _ _ (numEnds_ascii cls _ _ (by decide)),
      lex_punct cls ':' _ (by decide),
      lex_pad2 cls _ _ he]
  rfl

theorem rend_Mon_d_Y_hms (cls : Char → CClass) [AsciiOK cls] (yf : Bool) (year century : Int) (o : Opts) (tznames : List Token) (tzi : TzInfos)
    (ho : StrictOpts o tzi)  (t dflt : DT) (ht : t.Valid) (hy : 100 ≤ t.y) :
    Rendering cls false yf year century o tznames tzi dflt (str_Mon_d_Y_hms t) (core_Mon_d_Y_hms t) (NumEnds cls) (fun _ => True)
      ({ t with us := 0 }) := by
  have N := dtNums ht
  obtain ⟨hMoA, hAlA⟩ := monWordA cls yf year century t.m.toNat N.bm.1 N.bm.2
  obtain ⟨nd, hnd, hD⟩ := isNum_dayTok t.d.toNat (by have := N.bd; omega)
  refine ⟨fun rest => by simp [str_Mon_d_Y_hms], lex_Mon_d_Y_hms cls t hAlA,
    { hour := some t.hh.toNat, minute := some t.mm.toNat, second := some t.ss.toNat, microsecond := some 0 },
    { vals := [t.m.toNat, t.d.toNat, t.y.toNat], century := decide (100 < t.y.toNat), mIdx := some 0,
      yIdx := if decide (100 < t.y.toNat) then some 2 else none }, [1], rfl, rfl, rfl, rfl, fun fz suf _ => ?_, ?_⟩
  · refine (loop_month (l := core_Mon_d_Y_hms t ++ suf) (by rfl) hMoA (by have := N.bm; omega) (by decide) (isPertain_num hD) rfl).trans ?_
    refine (loop_sp (by rfl)).trans ?_
    refine (loop_jump (by rfl) hD (by omega) (Or.inl (by simp)) (Or.inl rfl) ⟨hmsOf_num N.y, ampmOf_num N.y⟩
      (decide_eq_false (by have := N.bd; omega)) (Or.inl rfl) (by rfl) (hms_sp ..)).trans ?_
    refine (loop_jump (by rfl) N.y (by decide) (Or.inl (by simp [Ymd.push])) (Or.inl rfl) ⟨hmsOf_num N.hh, ampmOf_num N.hh⟩ rfl
      (Or.inr (by rfl)) (by rfl) (hms_sp ..)).trans ?_
    exact loop_colon3 (by rfl) N.hh N.mm (parsems_num N.ss (by decide)) (by decide) (by have := N.bmm; omega) (by rfl) (hms_sp ..)
  · refine finish_t yf year century o tznames tzi dflt ht _ _ t.y.toNat _ (resolve_Mdy _ _ _ _ _ _ N.bd.2)
      (convertyear_full _ ht _ (Or.inr hy)) rfl rfl (Or.inl rfl) ho.tz1 ?_ (valid_fields ht (valid_hh ht) (valid_mm ht) (valid_ss ht) ⟨by decide, by decide⟩)
    simp only [fieldOr, N.eh, N.emi, N.es]; rfl

theorem tpl_Mon_d_Y_hms (cls : Char → CClass) [AsciiOK cls] (yf : Bool) (year century : Int) (o : Opts) (tznames : List Token) (tzi : TzInfos)
    (ho : StrictOpts o tzi)  (t dflt : DT) (ht : t.Valid) (_hdv : dflt.Valid) (hy : 100 ≤ t.y) (off : Off) (hoff : off.Dom) :
    parse cls (Info.default false yf year century) o tznames tzi dflt (str_Mon_d_Y_hms t off.render) =
      .ok { dt := { t with us := 0 }, tz := offZone o tznames off, tokens := none } :=
  (rend_Mon_d_Y_hms cls yf year century o tznames tzi ho  t dflt ht hy).tpl ho off hoff (numEnds_off cls off) trivial

/-- C15, **a sentence containing one date**: any number of filler words, `Mon_d_Y_hms`, any number of filler words -/
theorem sentence_Mon_d_Y_hms (cls : Char → CClass) [AsciiOK cls] (yf : Bool) (year century : Int) (o : Opts) (tznames : List Token) (tzi : TzInfos)
    (hf : (o.fuzzy || o.fuzzyWithTokens) = true) (htz1 : tzi.applies none = false) (htz2 : tzi.applies (some ['U', 'T', 'C']) = false)
     (t dflt : DT) (ht : t.Valid) (_hdv : dflt.Valid) (hy : 100 ≤ t.y) (lead ws : List Token) (hlead : ∀ w ∈ lead, fillerWord w = true) (hws : ∀ w ∈ ws, fillerWord w = true) :
    SentenceAnswer cls (Info.default false yf year century) o tznames tzi dflt (leadChars lead ++ str_Mon_d_Y_hms t (fillerChars ws)) ({ t with us := 0 })
      (leadToks lead).length ((leadToks lead).length + 11) :=
  (rend_Mon_d_Y_hms cls yf year century { o with fuzzy := false, fuzzyWithTokens := false } tznames tzi ⟨rfl, rfl, htz1, htz2⟩  t dflt ht hy).sentence
    hf lead ws hlead hws (numEnds_filler cls ws) trivial

end PM
