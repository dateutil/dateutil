/-
  Proofs/RenderCompactFrac.lean — a compact time with a fraction, `HHMMSS(.|,)f{1..6}`, after `YYYYMMDDT`, `YYYY-MM-DDT` or
  `YYYY-MM-DD `: ONE lexer token `HHMMSS.f…` (a comma is a decimal mark after any run of ≥ 2 digits; the lexer writes it as
  a dot), which `_parse_numeric_token` takes by its shape (`len > 6 and find('.') == 6`) as hour, minute and `_parsems`.
-/
import DateutilVerif.Proofs.RenderIsoFinal

namespace PM
open Py PT

variable (cls : Char → CClass) [hc : AsciiOK cls]

/-- what the scan needs to know about the token `HHMMSS.f…` -/
structure CFTok (F : Token) (h mi s us : Nat) : Prop where
  dec : ∃ d, toDecimal cls F = .ok d
  flt : floatOk cls F = true
  len : 6 < F.length
  dot : F.idxOf '.' = 6
  hh : pyInt cls (sl F 0 2) = .ok h
  mm : pyInt cls (sl F 2 4) = .ok mi
  ss : parsems cls (F.drop 4) = .ok (s, us)

theorem splitDot_dtok_dot (xs : List Nat) (r : List Char) : splitDot (dtok xs ++ '.' :: r) = (dtok xs, some r) := by
  induction xs with
  | nil => simp [dtok, splitDot]
  | cons x xs ih =>
    simp only [dtok, List.map_cons, List.cons_append, splitDot, digitChar_ne_dot x, if_false] at ih ⊢
    rw [ih]

theorem numForm_fracTok (a : Nat) (as : List Nat) (bs : List Nat) :
    ∃ d, numForm cls (dtok (a :: as) ++ '.' :: dtok bs) = some d := by
  unfold numForm
  rw [splitDot_dtok_dot]
  have he : (dtok (a :: as)).isEmpty = false := rfl
  have hcat : dtok (a :: as) ++ dtok bs = dtok ((a :: as) ++ bs) := by simp [dtok]
  simp only [he, Bool.false_and, Bool.false_eq_true, if_false, hcat, digitsVal_dtok]
  exact ⟨_, rfl⟩

theorem idxOf_dot_dtok_dot (xs : List Nat) (r : List Char) : (dtok xs ++ '.' :: r).idxOf '.' = xs.length := by
  rw [List.idxOf_append]
  simp [dot_notin_dtok xs]

/-- the token of `HHMMSS(.|,)f{k}` and what the scan reads from it, for 1 to 6 fraction digits -/
theorem cfrac_token (h mi s us k : Nat) (hh : h < 100) (hmi : mi < 100) (hs : s < 100) (hus : us < 1000000)
    (hk1 : 1 ≤ k) (hk6 : k ≤ 6) (comma : Bool) (rest : List Char) (he : FracEnds cls rest) :
    ∃ F : Token, scan cls .init (pad2 h ++ pad2 mi ++ pad2 s ++ [if comma then ',' else '.'] ++ (pad6 us).take k ++ rest) =
        F :: scan cls .init rest ∧
      CFTok cls F h mi s (us / 10 ^ (6 - k) * 10 ^ (6 - k)) := by
  have hcomma : (cls ',').isNum = false := by rw [AsciiOK.agree (cls := cls) ',' (by decide)]; decide
  have hdot : (cls '.').isNum = false := by rw [AsciiOK.agree (cls := cls) '.' (by decide)]; decide
  have hsepc : ((if comma then ',' else '.') = '.' ∨
      ((if comma then ',' else '.') = ',' ∧ (digitChar (h / 10) :: [digitChar h, digitChar (mi / 10), digitChar mi, digitChar (s / 10), digitChar s]).length ≥ 2)) ∧
      (cls (if comma then ',' else '.')).isNum = false := by
    cases comma <;> simp [hcomma, hdot]
  obtain ⟨b, bs, hbs, htake, hval⟩ := pad6_take us k hus hk1 hk6
  refine ⟨dtok [h / 10, h, mi / 10, mi, s / 10, s] ++ '.' :: dtok (b :: bs), ?_, ?_⟩
  · rw [htake]
    have := lex_frac cls (digitChar (h / 10)) [digitChar h, digitChar (mi / 10), digitChar mi, digitChar (s / 10), digitChar s]
      (if comma then ',' else '.') (digitChar b) (bs.map digitChar) rest hsepc.1 hsepc.2
      (drun_dtok cls [h / 10, h, mi / 10, mi, s / 10, s]) (drun_dtok cls (b :: bs)) he
    simpa [pad2, dtok, List.append_assoc] using this
  · obtain ⟨dd, hnf⟩ := numForm_fracTok cls (h / 10) [h, mi / 10, mi, s / 10, s] (b :: bs)
    refine ⟨⟨dd, by simp [toDecimal, hnf]⟩, by simp [floatOk, hnf], by simp, by simpa using idxOf_dot_dtok_dot [h / 10, h, mi / 10, mi, s / 10, s] _, ?_, ?_, ?_⟩
    · have : sl (dtok [h / 10, h, mi / 10, mi, s / 10, s] ++ '.' :: dtok (b :: bs)) 0 2 = dtok [h / 10, h] := by simp [sl, dtok]
      rw [this, pyInt_dtok cls _ _ (by simp), dval_pad2 h hh]
    · have : sl (dtok [h / 10, h, mi / 10, mi, s / 10, s] ++ '.' :: dtok (b :: bs)) 2 4 = dtok [mi / 10, mi] := by simp [sl, dtok]
      rw [this, pyInt_dtok cls _ _ (by simp), dval_pad2 mi hmi]
    · have : (dtok [h / 10, h, mi / 10, mi, s / 10, s] ++ '.' :: dtok (b :: bs)).drop 4 = dtok [s / 10, s] ++ '.' :: dtok (b :: bs) := by
        simp [dtok]
      rw [this, parsems_frac cls (s / 10) [s] b bs (by simp) hbs, hval, dval_pad2 s hs]

/-- the token `HHMMSS.f…`, read by its shape: hour, minute, second and fraction -/
theorem loop_six_frac {df yf : Bool} {year century : Int} {fz : Bool} {lenL : Nat} {l : List Token} {res : Res} {ymd : Ymd}
    {sk : List Nat} {i fuel : Nat} {F : Token} {h mi s us : Nat} (l0 : l[i]? = some F) (hF : CFTok cls F h mi s us) :
    parseLoop cls (Info.default df yf year century) fz lenL (fuel + 1) i 0 { l := l, res := res, ymd := ymd, skipped := sk } =
      parseLoop cls (Info.default df yf year century) fz lenL fuel (i + 1) 0
        { l := l, res := { res with hour := some h, minute := some mi, second := some s, microsecond := some us }, ymd := ymd,
          skipped := sk } := by
  obtain ⟨⟨dd, hdec⟩, hflt, hlen, hdot, hhh, hmm, hss⟩ := hF
  refine loop_of_step cls _ fz lenL (adv := 0) ?_ fuel
  have l2 : F.length ≠ 2 := by omega
  have l4 : F.length ≠ 4 := by omega
  have hc : F.contains '.' = true := by
    rw [List.contains_eq_mem, decide_eq_true_eq]
    exact List.idxOf_lt_length_iff.mp (by omega)
  unfold parseStep parseNumericToken
  simp only [tokAt, l0, bind, Except.bind, hflt, if_true, hdec, l2, l4, or_self, false_and, and_false, if_false, hlen, hdot,
    and_self, or_true, numSix, hc, Bool.not_true, Bool.false_eq_true, hhh, hmm, hss, pure, Except.pure]

/-- **`<date>HHMMSS(.|,)f{1..6}<offset>`** for the three date heads, every valid datetime, every offset spelling: the
    datetime cut to the digits shown -/
theorem parse_cfrac (yf : Bool) (year century : Int) (o : Opts) (tznames : List Token) (tzi : TzInfos)
    (ho : PlainOpts o tzi) (dflt : DT) (_hdv : dflt.Valid) (t : DT) (ht : t.Valid) (hd : CFHead) (comma : Bool) (k : Nat)
    (hk1 : 1 ≤ k) (hk6 : k ≤ 6) (off : Off) (hoff : off.Dom) :
    parse cls (Info.default false yf year century) o tznames tzi dflt (renderCFrac hd comma k t off) =
      .ok { dt := (TimeFmt.frac comma k).expect t dflt, tz := if o.ignoretz then .naive else offDescr tznames off,
            tokens := none } := by
  have N := dtNums ht
  obtain ⟨F, hlexF, hF⟩ := cfrac_token cls t.hh.toNat t.mm.toNat t.ss.toNat t.us.toNat k (by have := N.bh; omega)
    (by have := N.bmm; omega) (by have := N.bss; omega) (by have := valid_us ht; omega) hk1 hk6 comma off.render (fracEnds_off cls off)
  have hs : StrictOpts o tzi := ⟨ho.fz, ho.fwt, ho.tz1, ho.tz2⟩
  have hfin := fin_frac yf year century o tznames tzi ho dflt ht comma k
  -- the time characters start with a digit: `dtok [h / 10] ++ …`
  have htime : pad2 t.hh.toNat ++ pad2 t.mm.toNat ++ pad2 t.ss.toNat ++ [if comma then ',' else '.'] ++ (pad6 t.us.toNat).take k ++ off.render =
      dtok [t.hh.toNat / 10] ++ (digitChar t.hh.toNat :: (pad2 t.mm.toNat ++ pad2 t.ss.toNat ++ [if comma then ',' else '.'] ++
        (pad6 t.us.toNat).take k ++ off.render)) := by simp [pad2, dtok]
  -- behind an ISO date and `T` or a space
  have hiso : ∀ S : Char, S = 'T' ∨ S = ' ' →
      parseResult cls (Info.default false yf year century) o tznames tzi dflt
        (isoDateTokens t.y.toNat t.m.toNat t.d.toNat [S] ++ [F] ++ offTokens off) =
      .ok { dt := (TimeFmt.frac comma k).expect t dflt, tz := offZone o tznames off, tokens := none } := by
    intro S hS
    refine tok_theorem cls false yf year century o tznames tzi hs dflt (isoDateTokens t.y.toNat t.m.toNat t.d.toNat [S] ++ [F]) 7 rfl
      _ _ [5] _ off hoff ?_ rfl rfl (Or.inl rfl) hfin
    refine (loop_sep3_num (l := _ ++ offTokens off) (by rfl) (Or.inl rfl) N.y N.m N.d (by decide) (by decide) (by decide) rfl
      (Or.inr (Or.inr (by decide))) (by rfl) (hmsOf_num N.y)).trans ?_
    rcases hS with rfl | rfl
    · exact (loop_T (by rfl) rfl).trans (loop_six_frac cls (by rfl) hF)
    · exact (loop_sp (by rfl)).trans (loop_six_frac cls (by rfl) hF)
  unfold parse lex
  cases hd with
  | compactT =>
    have e : renderCFrac .compactT comma k t off = dtok (date8 t.y.toNat t.m.toNat t.d.toNat) ++ ('T' ::
        (pad2 t.hh.toNat ++ pad2 t.mm.toNat ++ pad2 t.ss.toNat ++ [if comma then ',' else '.'] ++ (pad6 t.us.toNat).take k ++ off.render)) := by
      simp [renderCFrac, CFHead.render, compactDate, date8, pad4, pad2, dtok]
    rw [e, date8, lex_dtok cls _ _ _ (numEnds_ascii cls _ _ (by decide)),
        lex_letter cls 'T' _ (by decide) (by rw [htime]; exact wordEnds_num cls _ _ ⟨_, _, rfl⟩), hlexF, lex_off]
    refine tok_theorem cls false yf year century o tznames tzi hs dflt
      [dtok [t.y.toNat / 1000, t.y.toNat / 100, t.y.toNat / 10, t.y.toNat, t.m.toNat / 10, t.m.toNat, t.d.toNat / 10, t.d.toNat], ['T'], F]
      3 rfl _ _ [1] _ off hoff ?_ rfl rfl (Or.inl rfl) hfin
    refine (loop_eight (l := _ ++ offTokens off) (by rfl) (dval_pad4 _ N.by') (dval_pad2 _ (by have := N.bm; omega))
      (dval_pad2 _ (by have := N.bd; omega))).trans ?_
    refine (loop_T (by rfl) rfl).trans ?_
    exact loop_six_frac cls (by rfl) hF
  | isoT =>
    have e : renderCFrac .isoT comma k t off = pad4 t.y.toNat ++ ['-'] ++ pad2 t.m.toNat ++ ['-'] ++ pad2 t.d.toNat ++ ['T'] ++
        (dtok [t.hh.toNat / 10] ++ (digitChar t.hh.toNat :: (pad2 t.mm.toNat ++ pad2 t.ss.toNat ++ [if comma then ',' else '.'] ++
          (pad6 t.us.toNat).take k ++ off.render))) := by
      rw [← htime]; simp [renderCFrac, CFHead.render]
    rw [e, lex_isoDate cls _ _ _ 'T' (Or.inl rfl), ← htime, hlexF, lex_off]
    simpa [List.append_assoc, offZone] using hiso 'T' (Or.inl rfl)
  | isoSp =>
    have e : renderCFrac .isoSp comma k t off = pad4 t.y.toNat ++ ['-'] ++ pad2 t.m.toNat ++ ['-'] ++ pad2 t.d.toNat ++ [' '] ++
        (dtok [t.hh.toNat / 10] ++ (digitChar t.hh.toNat :: (pad2 t.mm.toNat ++ pad2 t.ss.toNat ++ [if comma then ',' else '.'] ++
          (pad6 t.us.toNat).take k ++ off.render))) := by
      rw [← htime]; simp [renderCFrac, CFHead.render]
    rw [e, lex_isoDate cls _ _ _ ' ' (Or.inr rfl), ← htime, hlexF, lex_off]
    simpa [List.append_assoc, offZone] using hiso ' ' (Or.inr rfl)

end PM
