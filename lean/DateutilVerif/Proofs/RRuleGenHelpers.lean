/-
  Proofs/RRuleGenHelpers.lean — the functions re-translated from rrule.py by harness/translate_rr.py
  (Generated/RRuleKernels.lean) against the hand model: `rrule.__construct_byset`, `rrule.__mod_distance`,
  `_iterinfo.htimeset / mtimeset / stimeset`.
-/
import DateutilVerif.Generated.RRuleKernels
import DateutilVerif.Proofs.RRuleLists

namespace RRuleGen
open RRule RrPy

theorem dedup_eq_foldl {α} [BEq α] [LawfulBEq α] (xs acc : List α) : dedup acc xs = xs.foldl setAdd acc.reverse := by
  induction xs generalizing acc with
  | nil => simp [dedup]
  | cons x xs ih =>
    by_cases h : x ∈ acc <;> simp [dedup, setAdd, h, ih]

theorem foldl_filter_setAdd (P : Int → Bool) (l acc : List Int) :
    l.foldl (fun c num => if P num = true then setAdd c num else c) acc = (l.filter P).foldl setAdd acc := by
  induction l generalizing acc with
  | nil => rfl
  | cons x xs ih =>
    by_cases h : P x = true
    · simp [List.filter, h, ih]
    · simp [List.filter, h, ih]

theorem constructByset_loop (r : Rule) (base start : Int) (hg : RrPy.gcd r.interval base ≠ 0) (l cset : List Int) :
    Gen.constructByset_loop1 r base start l cset =
      .ok (l.foldl (fun c num => if (RrPy.gcd r.interval base == 1 ||
              Py.fmod (num - start) (RrPy.gcd r.interval base) == 0) = true then setAdd c num else c) cset) := by
  induction l generalizing cset with
  | nil => rfl
  | cons x xs ih =>
    simp only [Gen.constructByset_loop1, List.foldl_cons]
    by_cases h1 : RrPy.gcd r.interval base = 1
    · simp [h1, ih, bind, Except.bind, pure, Except.pure]
    · simp [h1, hg, ih, bind, Except.bind, pure, Except.pure, RrPy.divmodR, Py.divmod]
      by_cases h2 : Py.fmod (x - start) (RrPy.gcd r.interval base) = 0 <;> simp [h2]

theorem byset_tail (L : List Int) :
    (if ((L.length : Int) = 0) then throw Py.PyErr.ValueError else pure L : Py.R (List Int)) =
      if L.isEmpty = true then Except.error Py.PyErr.ValueError else Except.ok L := by
  cases L with
  | nil => rfl
  | cons a b =>
    have : ((((a :: b).length : Nat) : Int) = 0) = False := by simp; omega
    simp only [this, List.isEmpty_cons]; rfl

/-- `rrule.__construct_byset` as translated on this run = the model's `constructByset` (for every `base ≠ 0`; the code calls it
    with 24 and 60.  With `base = 0 = interval` Python divides by zero, which the model does not represent). -/
theorem gen_constructByset_eq_model (r : Rule) (start : Int) (byxxx : List Int) (base : Int) (hb : base ≠ 0) :
    Gen.constructByset r start byxxx base = RRule.constructByset r.interval start byxxx base := by
  have hg : RrPy.gcd r.interval base ≠ 0 := by
    unfold RrPy.gcd
    intro h
    have : Int.gcd r.interval base = 0 := by exact_mod_cast h
    rw [Int.gcd_eq_zero_iff] at this
    exact hb this.2
  unfold Gen.constructByset RRule.constructByset
  simp only [constructByset_loop r base start hg, bind, Except.bind, foldl_filter_setAdd, dedup_eq_foldl, List.reverse_nil]
  simp only [RrPy.gcd]
  exact byset_tail _

theorem modDistance_loop (r : Rule) (base : Int) (byxxx : List Int) (hb : base ≠ 0) (l : List Int) (value acc : Int) :
    Gen.modDistance_loop1 r base byxxx l value acc =
      .ok (match RRule.modDistance r.interval byxxx base l.length acc value with
           | some p => RrPy.Flow.ret (some p)
           | none => RrPy.Flow.next ()) := by
  induction l generalizing value acc with
  | nil => rfl
  | cons x xs ih =>
    simp only [Gen.modDistance_loop1, RrPy.divmodR, hb, if_false, bind, Except.bind, List.length_cons, RRule.modDistance]
    by_cases h : (Py.divmod (value + r.interval) base).2 ∈ byxxx
    · simp [h, pure, Except.pure]
    · simp [h, ih]


/-- `rrule.__mod_distance` as translated on this run = the model's `modDistance` with the loop bound `base` (for every `base ≠ 0`;
    the code calls it with 24 and 60).  `none` = the function falls off its loop and returns `None`. -/
theorem gen_modDistance_eq_model (r : Rule) (value : Int) (byxxx : List Int) (base : Int) (hb : base ≠ 0) :
    Gen.modDistance r value byxxx base = .ok (RRule.modDistance r.interval byxxx base base.toNat 0 value) := by
  unfold Gen.modDistance
  simp only [modDistance_loop r base byxxx hb, bind, Except.bind, length_intRange]
  have : (base + 1 - 1).toNat = base.toNat := by congr 1; omega
  rw [this]
  cases RRule.modDistance r.interval byxxx base base.toNat 0 value <;> rfl

theorem checkTimes_append (a b : List HMS) :
    checkTimes (a ++ b) = (match checkTimes a with
      | .error e => .error e
      | .ok la => match checkTimes b with
        | .error e => .error e
        | .ok lb => .ok (la ++ lb)) := by
  induction a with
  | nil => simp [checkTimes]; cases checkTimes b <;> rfl
  | cons t ts ih =>
    simp only [List.cons_append, checkTimes, ih]
    cases mkTime t.1 t.2.1 t.2.2 with
    | error e => rfl
    | ok t' =>
      cases checkTimes ts with
      | error e => rfl
      | ok la => cases checkTimes b <;> rfl

theorem seconds_loop (f : Int → Py.R HMS) (loop : List Int → List HMS → Py.R (List HMS))
    (hnil : ∀ acc, loop [] acc = .ok acc)
    (hcons : ∀ x xs acc, loop (x :: xs) acc = (f x).bind fun t => loop xs (acc ++ [t]))
    (g : Int → HMS) (hf : ∀ x, f x = mkTime (g x).1 (g x).2.1 (g x).2.2) (ss : List Int) (acc : List HMS) :
    loop ss acc = (match checkTimes (ss.map g) with
      | .ok l => .ok (acc ++ l)
      | .error e => .error e) := by
  induction ss generalizing acc with
  | nil => simp [hnil, checkTimes]
  | cons x xs ih =>
    simp only [hcons, hf, List.map_cons, checkTimes]
    cases mkTime (g x).1 (g x).2.1 (g x).2.2 with
    | error e => rfl
    | ok t =>
      simp only [Except.bind, ih]
      cases checkTimes (xs.map g) with
      | error e => rfl
      | ok l => simp

theorem htimeset_loop2 (r : Rule) (h m : Int) (ss : List Int) (acc : List HMS) :
    Gen.htimeset_loop2 r h m ss acc = (match checkTimes (ss.map fun s => (h, m, s)) with
      | .ok l => .ok (acc ++ l)
      | .error e => .error e) :=
  seconds_loop (fun s => mkTime h m s) (Gen.htimeset_loop2 r h m) (fun _ => rfl) (fun _ _ _ => rfl)
    (fun s => (h, m, s)) (fun _ => rfl) ss acc

theorem mtimeset_loop1 (r : Rule) (h m : Int) (ss : List Int) (acc : List HMS) :
    Gen.mtimeset_loop1 r h m ss acc = (match checkTimes (ss.map fun s => (h, m, s)) with
      | .ok l => .ok (acc ++ l)
      | .error e => .error e) :=
  seconds_loop (fun s => mkTime h m s) (Gen.mtimeset_loop1 r h m) (fun _ => rfl) (fun _ _ _ => rfl)
    (fun s => (h, m, s)) (fun _ => rfl) ss acc

theorem htimeset_loop1 (r : Rule) (h : Int) (ss : List Int) (hs : r.bysecond = some ss) (ms : List Int) (acc : List HMS) :
    Gen.htimeset_loop1 r h ms acc = (match checkTimes (ms.flatMap fun m => ss.map fun s => (h, m, s)) with
      | .ok l => .ok (acc ++ l)
      | .error e => .error e) := by
  induction ms generalizing acc with
  | nil => simp [Gen.htimeset_loop1, checkTimes, pure, Except.pure]
  | cons m ms ih =>
    simp only [Gen.htimeset_loop1, hs, RrPy.iterO, bind, Except.bind, htimeset_loop2, List.flatMap_cons, checkTimes_append]
    cases checkTimes (ss.map fun s => (h, m, s)) with
    | error e => rfl
    | ok l1 =>
      simp only [ih]
      cases checkTimes (ms.flatMap fun m => ss.map fun s => (h, m, s)) with
      | error e => rfl
      | ok l2 => simp

/-- `_iterinfo.htimeset` as translated on this run = the model's `htimeset` (HOURLY rules always carry BYMINUTE and BYSECOND
    tuples: `construct` fills them from dtstart; on `None` Python raises TypeError where the model reads `()`). -/
theorem gen_htimeset_eq_model (r : Rule) (self : RrPy.II) (hour minute second : Int)
    (hm : r.byminute.isSome) (hs : r.bysecond.isSome) :
    Gen.htimeset r self hour minute second = RRule.htimeset r hour := by
  obtain ⟨ms, hm⟩ := Option.isSome_iff_exists.mp hm
  obtain ⟨ss, hs⟩ := Option.isSome_iff_exists.mp hs
  unfold Gen.htimeset RRule.htimeset buildTimeset productHMS
  simp only [hm, RrPy.iterO, bind, Except.bind, htimeset_loop1 r hour ss hs, hs, Option.getD_some,
    List.flatMap_cons, List.flatMap_nil, List.append_nil, List.nil_append]
  cases checkTimes (ms.flatMap fun m => ss.map fun s => (hour, m, s)) <;> rfl

/-- `_iterinfo.mtimeset` as translated on this run = the model's `mtimeset` (MINUTELY rules always carry a BYSECOND tuple). -/
theorem gen_mtimeset_eq_model (r : Rule) (self : RrPy.II) (hour minute second : Int) (hs : r.bysecond.isSome) :
    Gen.mtimeset r self hour minute second = RRule.mtimeset r hour minute := by
  obtain ⟨ss, hs⟩ := Option.isSome_iff_exists.mp hs
  unfold Gen.mtimeset RRule.mtimeset buildTimeset productHMS
  simp only [hs, RrPy.iterO, bind, Except.bind, mtimeset_loop1, Option.getD_some,
    List.flatMap_cons, List.flatMap_nil, List.append_nil, List.nil_append]
  cases checkTimes (ss.map fun s => (hour, minute, s)) <;> rfl

/-- `_iterinfo.stimeset` as translated on this run = the model's `stimeset`. -/
theorem gen_stimeset_eq_model (r : Rule) (self : RrPy.II) (hour minute second : Int) :
    Gen.stimeset r self hour minute second = RRule.stimeset hour minute second := rfl

end RRuleGen
