/-
  Proofs/RRuleNthWYM.lean — YEARLY with BYMONTH, nth BYDAY counted inside each listed month, TOGETHER with BYWEEKNO
  (nth members only = outside D-C01a; BYWEEKNO on the complement of D-C01c): both computed masks, filter
  `simpleOk ∧ nth clause ∧ week clause`.  Argument side reduced to `NthYMArgs` by dropping BYWEEKNO (`stripWno`).
-/
import DateutilVerif.Proofs.RRuleNthWMonthly
import DateutilVerif.Proofs.RRuleNthYM

namespace RRule
open Cal

/-- YEARLY with BYMONTH, BYDAY of nth weekdays only, BYWEEKNO on the complement of D-C01c -/
structure NthWYMArgs (a : Args) : Prop where
  freq : a.freq = 0
  interval : 1 ≤ a.interval
  valid : a.dtstart.Valid
  wkst : 0 ≤ a.wkst.getD 0 ∧ a.wkst.getD 0 ≤ 6
  byeaster : a.byeaster = none
  monthday_nz : ∀ x ∈ a.bymonthday.getD [], x ≠ 0
  months : ∃ lm, a.bymonth = some lm ∧ lm ≠ [] ∧ ∀ m ∈ lm, 1 ≤ m ∧ m ≤ 12
  weekdays : ∃ l, a.byweekday = some l ∧ l ≠ [] ∧ ∀ w ∈ l, (0 ≤ w.1 ∧ w.1 ≤ 6) ∧ w.2 ≠ 0
  weekno : ∃ wl, a.byweekno = some wl ∧ wl ≠ [] ∧ WnoOk wl

variable {a : Args} {r : Rule} {y : Int} {info : Info}

/-- "the model state at the start of period `k`" -/
structure NthWYMGood (a : Args) (r : Rule) (k : Nat) (st : State) : Prop where
  facts : YearFacts r st.cur.year st.info
  timeset : st.timeset = Spec.RRule.timesOf a none none none
  year : st.cur.year = a.dtstart.y + k * a.interval
  masks : ∃ nmask wmask, st.info.nwdaymask = some nmask ∧ (nmask.length : Int) = st.info.yearlen ∧
    (∀ j : Int, 0 ≤ j → j < st.info.yearlen →
      Py.getIdx nmask j = .ok (if ∃ m' ∈ monthsOf (stripWno a), ∃ wn ∈ nwlOf (stripWno a),
          marks st.info (daysBeforeMonth st.cur.year m')
            (daysBeforeMonth st.cur.year m' + daysInMonth st.cur.year m' - 1) j wn then 1 else 0)) ∧
    st.info.wnomask = some wmask ∧ (wmask.length : Int) = st.info.yearlen + 7 ∧
    (∀ j : Int, 0 ≤ j → j < st.info.yearlen →
      Py.getIdx wmask j = .ok (if weekClause r.wkst (weeknosOf a) (st.info.yearordinal + j) = true then 1 else 0))

/-- what `rebuild` establishes here: the nth-weekday mask of the listed months and the week-number mask of the year -/
def NthWYMInv (a : Args) (r : Rule) (y m : Int) (info : Info) : Prop :=
  NthYMInv (stripWno a) y m info ∧ WeeknoMarks r.wkst (weeknosOf a) info info.yearlen

theorem nwym_filter (na : NthWYMArgs a) (h : construct a = .ok r) :
    PeriodFilter a r 1 9999 (NthWYMInv a r) yearDays where
  lo := by omega
  hi := by omega
  rebuild := fun y m hy1 hy2 _ _ => by
    have D := construct_dateFields h
    obtain ⟨n, hn, hN⟩ := nthYM_build D na.freq na.weekdays na.months hy1 hy2 m
    obtain ⟨w, hw, hW⟩ := wnomaskOf_in D na.weekno na.wkst hy1 hy2
    exact ⟨_, rebuild_eq r m hy1 hy2 hw hn (eastermaskOf_off (D.easter_off na.byeaster) ..), hN _ _, hW _ _⟩
  filtered := fun {y m info i} f inv hi =>
    have D := construct_dateFields h
    nth_filtered D (monthdayArg_nz na.monthday_nz na.valid) (nwl_facts (Or.inl na.freq) na.weekdays).2.2.2.1 f i
      hi.1 hi.2 inv.1.marked (nthYM_part D na.freq na.weekdays na.months f hi)
      (weekno_miss_on D na.weekno inv.2 hi.1 hi.2) (easter_miss_off D na.byeaster ..)

/-- the state invariant of the YEARLY refinement, read for this family -/
theorem nwym_good (na : NthWYMArgs a) {k : Nat} {st : State} (g : PeriodGood (NthWYMInv a r) a r k st) :
    NthWYMGood a r k st := by
  obtain ⟨⟨nm, a1, a2, a3⟩, wm, b1, b2, b3⟩ := g.inv
  exact ⟨g.facts, g.timeset, g.yearly na.freq, nm, wm, a1, a2, a3, b1, b2, b3⟩

/-- **`iter_eq_spec`, YEARLY with BYMONTH, nth weekdays counted inside each listed month, and BYWEEKNO** (nth members
    only; BYWEEKNO on the complement of D-C01c; a week start 0..6) -/
theorem iter_eq_spec_yearly_bymonth_nth_weekno (na : NthWYMArgs a) (h : construct a = .ok r) (n : Nat)
    (hy : a.dtstart.y + n * a.interval ≤ 9999) :
    (iter r n).1 = Spec.RRule.occ a n := by
  have hv := na.valid
  unfold DT.Valid ValidDate at hv
  exact yearly_refines h na.freq na.valid (nwym_filter na h) n hv.1.1 hy

-- an NthWYMArgs instance: the 4th Thursday of November when it falls in week 47 or 48
example : NthWYMArgs { freq := 0, dtstart := ⟨2024, 11, 1, 9, 0, 0, 0⟩, bymonth := some [11],
                       byweekday := some [(3, 4)], byweekno := some [47, 48] } :=
  ⟨rfl, by decide, by decide, by decide, rfl, by intro x hx; simp at hx, ⟨[11], rfl, by decide, by decide⟩,
   ⟨[(3, 4)], rfl, by decide, by decide⟩, ⟨[47, 48], rfl, by decide, ⟨by decide, by decide⟩⟩⟩

end RRule
