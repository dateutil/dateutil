/-
  Proofs/RRuleWFilter.lean — the day filter (Proofs/RRuleDayFilter.lean) of the rules without nth BYDAY and BYEASTER
  whose BYWEEKNO is absent or lies on the complement of D-C01c.  `rebuild` keeps the invariant `WInv` (no nth mask; the
  week-number mask marks the listed weeks), under which the filter of a day of the year is `simpleOk ∧ wclause`; on the
  argument side that is the specification's `dateOk` (`dateOk_plain` of Proofs/RRuleBridge.lean); `wFilter` packs the two.
-/
import DateutilVerif.Proofs.RRuleWeeknoYearly
import DateutilVerif.Proofs.RRuleDaily
import DateutilVerif.Proofs.RRuleDayFilter

namespace RRule
open Cal

/-- BYWEEKNO absent, or on the complement of D-C01c with a week start 0..6 -/
def WArg (a : Args) : Prop :=
  a.byweekno = none ∨ ∃ wl, a.byweekno = some wl ∧ wl ≠ [] ∧ WnoOk wl ∧ 0 ≤ a.wkst.getD 0 ∧ a.wkst.getD 0 ≤ 6

structure WRule (r : Rule) : Prop where
  bynweekday : truthy r.bynweekday = false
  byeaster : truthy r.byeaster = false
  weekno : truthy r.byweekno = false ∨
    (truthy r.byweekno = true ∧ ∃ wl, r.byweekno = some wl ∧ WnoOk wl ∧ 0 ≤ r.wkst ∧ r.wkst ≤ 6)

/-- the BYWEEKNO clause of a rule (true when there is none) -/
def wclause (r : Rule) (ord : Int) : Bool :=
  if truthy r.byweekno then weekClause r.wkst (r.byweekno.getD []) ord else true

/-- what `rebuild` establishes for a `WRule` -/
def WInv (r : Rule) (info : Info) : Prop :=
  info.nwdaymask = none ∧
  (truthy r.byweekno = false → info.wnomask = none) ∧
  (truthy r.byweekno = true → ∃ mask, info.wnomask = some mask ∧ (mask.length : Int) = info.yearlen + 7 ∧
    ∀ j : Int, 0 ≤ j → j < info.yearlen →
      Py.getIdx mask j = .ok (if weekClause r.wkst (r.byweekno.getD []) (info.yearordinal + j) = true then 1 else 0))

variable {r : Rule} {y : Int} {info : Info}

theorem WRule.simple (hw : WRule r) (h : truthy r.byweekno = false) : SimpleRule r := ⟨h, hw.bynweekday, hw.byeaster⟩

theorem WRule.weeknoRule (hw : WRule r) (h : truthy r.byweekno = true) : WeeknoRule r := ⟨h, hw.bynweekday, hw.byeaster⟩

theorem rebuild_w (hw : WRule r) (y m : Int) (hy1 : 1 ≤ y) (hy2 : y ≤ 9999) :
    ∃ info, rebuild r y m = .ok info ∧ WInv r info := by
  rcases hw.weekno with h | ⟨h, wl, hwl, hok, hk⟩
  · obtain ⟨info, hre, h1, h2, _⟩ := rebuild_simple r (hw.simple h) y m hy1 hy2
    refine ⟨info, hre, ?_⟩
    unfold WInv
    exact ⟨h1, fun _ => h2, fun h' => by rw [h] at h'; cases h'⟩
  · obtain ⟨info, mask, hre, h1, h2, h3, h4⟩ := rebuild_weekno (hw.weeknoRule h) wl hwl hok hk y m hy1 hy2
    refine ⟨info, hre, ?_⟩
    unfold WInv
    refine ⟨h1, fun h' => (by rw [h] at h'; cases h'), fun _ => ⟨mask, h2, h3, ?_⟩⟩
    rw [hwl]; exact h4

theorem dayFiltered_w (hw : WRule r) (f : YearFacts r y info) (inv : WInv r info) (i : Int) (h0 : 0 ≤ i)
    (h1 : i < info.yearlen) :
    dayFiltered r info i = .ok (!(simpleOk r (info.yearordinal + i) && wclause r (info.yearordinal + i))) := by
  unfold wclause
  by_cases h : truthy r.byweekno = true
  · obtain ⟨mask, hm, hlen, hspec⟩ := inv.2.2 h
    rw [dayFiltered_weekno (hw.weeknoRule h) f mask inv.1 hm i h0 h1 (by omega), if_pos h]
    have hgi := hspec i h0 h1
    rw [getIdx_int mask i h0 (by omega)] at hgi
    injection hgi with hgi
    rw [hgi]
    congr 2
    by_cases c : weekClause r.wkst (r.byweekno.getD []) (info.yearordinal + i) = true
    · rw [if_pos c, c]; rfl
    · rw [if_neg c]
      have : weekClause r.wkst (r.byweekno.getD []) (info.yearordinal + i) = false := by
        cases hq : weekClause r.wkst (r.byweekno.getD []) (info.yearordinal + i) with
        | false => rfl
        | true => exact absurd hq c
      rw [this]; rfl
  · have h' : truthy r.byweekno = false := by
      cases hq : truthy r.byweekno with
      | false => rfl
      | true => exact absurd hq h
    rw [dayFiltered_simple (hw.simple h') f inv.1 i h0 (by omega), if_neg h, Bool.and_true]

theorem wclause_eq_weeknoPart (a : Args) (r : Rule) (hbw : r.byweekno = a.byweekno.map sortedSet)
    (hwk : r.wkst = a.wkst.getD 0) (ord : Int) : wclause r ord = weeknoPart a ord := by
  unfold wclause weeknoPart
  rw [hbw, hwk]
  rcases hq : a.byweekno with _ | (_ | ⟨x, xs⟩)
  · rfl
  · rfl
  · have ht : truthy (Option.map sortedSet (some (x :: xs))) = true := by
      rw [Option.map_some, truthy_eq_not_isEmpty, isEmpty_sortedSet]; rfl
    rw [if_pos ht]
    unfold weekClause
    simp only [Option.map_some, Option.getD_some, contains_sortedSet]
    rfl

theorem wrule_of (a : Args) (r : Rule) (hwa : WArg a) (hbw : r.byweekno = a.byweekno.map sortedSet)
    (hwk : r.wkst = a.wkst.getD 0) (hn : truthy r.bynweekday = false) (he : truthy r.byeaster = false) : WRule r := by
  refine ⟨hn, he, ?_⟩
  rcases hwa with h | ⟨wl, hwl, hne, hok, hk⟩
  · left; rw [hbw, h]; rfl
  · right
    refine ⟨?_, sortedSet wl, by rw [hbw, hwl]; rfl, ?_, by rw [hwk]; exact hk⟩
    · rw [hbw, hwl, Option.map_some, truthy_eq_not_isEmpty, isEmpty_sortedSet]
      cases wl with
      | nil => exact absurd rfl hne
      | cons _ _ => rfl
    · exact ⟨fun h => by simp only [mem_sortedSet] at h ⊢; exact hok.last h,
             fun h => by simp only [mem_sortedSet] at h ⊢; exact hok.first h⟩

theorem wrule_of_construct {a : Args} (h : construct a = .ok r) (hf : 3 ≤ a.freq) (hw : WArg a)
    (he : a.byeaster = none) : WRule r := by
  have hd := construct_nth_demoted a r h (by omega)
  obtain ⟨_, _, _, _, _, _, _, _, _, _, rfl⟩ := construct_ok a r h
  refine wrule_of a _ hw rfl rfl ?_ (by rw [he]; rfl)
  rcases hd with hd | hd <;> rw [hd] <;> rfl

theorem wOk_of_construct {a : Args} (h : construct a = .ok r) (hf : 3 ≤ a.freq) (hv : a.dtstart.Valid)
    (he : a.byeaster = none) (hz : ∀ x ∈ a.bymonthday.getD [], x ≠ 0) (ord : Int) (ho : 1 ≤ ord) :
    (simpleOk r ord && wclause r ord) = Spec.RRule.dateOk a ord := by
  have D := construct_dateFields h
  rw [dateOk_plain D (monthdayArg_nz hz hv) (fun _ _ => Or.inr (by omega)) ord ho, easterPart_none he, Bool.and_true,
    wclause_eq_weeknoPart a r D.byweekno D.wkst]

/-- the day filter of a rule at FREQ ≥ DAILY without BYEASTER whose BYWEEKNO is absent or harmless: all of
    datetime's years -/
theorem wFilter {a : Args} (h : construct a = .ok r) (hf : 3 ≤ a.freq) (hi : 1 ≤ a.interval) (hv : a.dtstart.Valid)
    (hw : WArg a) (he : a.byeaster = none) (hz : ∀ x ∈ a.bymonthday.getD [], x ≠ 0) :
    DayFilter a r 1 9999 (WInv r) where
  lo := by omega
  hi := by omega
  rebuild := fun y m h1 h2 _ _ => rebuild_w (wrule_of_construct h hf hw he) y m h1 h2
  filtered := fun {y _ info i} f inv hi' => by
    have h1y := year_start_mono 1 y f.year_lo
    have e : toOrdinal 1 1 1 = 1 := by decide
    rw [dayFiltered_w (wrule_of_construct h hf hw he) f inv i hi'.1 hi'.2,
      wOk_of_construct h hf hv he hz _ (by rw [f.yearordinal]; have := hi'.1; omega)]

end RRule
