/-
  Proofs/RRuleNthYM.lean — YEARLY with BYMONTH and nth weekdays counted inside each listed month
  ("the 4th Thursday of November", "the last Monday of May"): the mask over several month ranges.
-/
import DateutilVerif.Proofs.RRuleNthYearly

namespace RRule
open Cal

variable {r : Rule} {y : Int} {info : Info}

/-- the `(first, last)` slice of a month, as `rebuild` takes it from `mrange` -/
def monthRange (y m : Int) : List Int := [daysBeforeMonth y m, daysBeforeMonth y (m + 1)]

theorem ranges_ok (f : YearFacts r y info) : ∀ (months : List Int), (∀ m ∈ months, 1 ≤ m ∧ m ≤ 12) →
    months.mapM (fun m => Py.slice info.mrange (some (m - 1)) (some (m + 1)) none) = .ok (months.map (monthRange y)) := by
  intro months
  induction months with
  | nil => intro _; rfl
  | cons m ms ih =>
    intro hb
    have hm := hb m (List.mem_cons_self ..)
    rw [List.mapM_cons, f.mrange, mrange_slice _ m hm.1 hm.2]
    have := ih (fun x hx => hb x (List.mem_cons_of_mem _ hx))
    rw [f.mrange] at this
    simp only [bind, Except.bind, this, pure, Except.pure, List.map_cons]
    rfl

/-- what `rebuild` does with one range: all pairs of BYDAY inside it (a range is a 2-element slice) -/
def markRange (wdaymask : List Int) (nwl : List (Int × Int)) (mask : List Int) (rg : List Int) : Py.R (List Int) :=
  match rg with
  | [first, last] => nwl.foldlM (markNth wdaymask first (last - 1)) mask
  | _ => .error .ValueError

theorem foldlM_congr {g1 g2 : List Int → List Int → Py.R (List Int)} (a : List Int) (l : List (List Int))
    (h : ∀ m rg, g1 m rg = g2 m rg) : List.foldlM g1 a l = List.foldlM g2 a l := by
  have : g1 = g2 := funext fun m => funext fun rg => h m rg
  rw [this]

/-- all pairs of BYDAY inside all listed months -/
theorem ranges_fold (f : YearFacts r y info) (nwl : List (Int × Int))
    (hok : ∀ wn ∈ nwl, (0 ≤ wn.1 ∧ wn.1 ≤ 6) ∧ wn.2 ≠ 0) :
    ∀ (months : List Int) (mask : List Int),
    (∀ m ∈ months, 1 ≤ m ∧ m ≤ 12) → (mask.length : Int) = info.yearlen →
    ∃ mask', (months.map (monthRange y)).foldlM (markRange info.wdaymask nwl) mask = .ok mask' ∧
      mask'.length = mask.length ∧
      ∀ j : Int, 0 ≤ j → j < info.yearlen →
        Py.getIdx mask' j = (if ∃ m ∈ months, ∃ wn ∈ nwl, marks info (daysBeforeMonth y m)
            (daysBeforeMonth y m + daysInMonth y m - 1) j wn then .ok 1 else Py.getIdx mask j) := by
  intro months
  induction months with
  | nil => intro mask _ _; exact ⟨mask, rfl, rfl, by intro j _ _; simp⟩
  | cons m ms ih =>
    intro mask hb hlen
    have hm := hb m (List.mem_cons_self ..)
    have hs := daysBeforeMonth_succ y m hm.1 hm.2
    have hbd := daysInMonth_bounds y m
    have hdbm0 := daysBeforeMonth_mono y 1 m (by omega) hm.1 (by omega)
    rw [daysBeforeMonth_1] at hdbm0
    have hdbm1 := daysBeforeMonth_mono y (m + 1) 13 (by omega) (by omega) (by omega)
    rw [daysBeforeMonth_13, ← f.yearlen] at hdbm1
    have e2 : daysBeforeMonth y (m + 1) - 1 = daysBeforeMonth y m + daysInMonth y m - 1 := by rw [hs]
    obtain ⟨m1, h1, hl1, hg1⟩ := markNth_fold f (daysBeforeMonth y m) (daysBeforeMonth y m + daysInMonth y m - 1)
      hdbm0 (by omega) nwl mask hlen hok
    obtain ⟨m2, h2, hl2, hg2⟩ := ih m1 (fun x hx => hb x (List.mem_cons_of_mem _ hx)) (by rw [hl1]; exact hlen)
    refine ⟨m2, ?_, by rw [hl2, hl1], ?_⟩
    · rw [List.map_cons, List.foldlM_cons]
      unfold monthRange
      simp only [bind, Except.bind, markRange, e2, h1]
      exact h2
    · intro j hj0 hj1
      rw [hg2 j hj0 hj1, hg1 j hj0 hj1]
      by_cases c1 : ∃ m' ∈ ms, ∃ wn ∈ nwl, marks info (daysBeforeMonth y m')
          (daysBeforeMonth y m' + daysInMonth y m' - 1) j wn
      · rw [if_pos c1, if_pos]
        obtain ⟨m', hm', rest⟩ := c1
        exact ⟨m', List.mem_cons_of_mem _ hm', rest⟩
      · rw [if_neg c1]
        by_cases c2 : ∃ wn ∈ nwl, marks info (daysBeforeMonth y m) (daysBeforeMonth y m + daysInMonth y m - 1) j wn
        · rw [if_pos c2, if_pos ⟨m, List.mem_cons_self .., c2⟩]
        · rw [if_neg c2, if_neg]
          rintro ⟨m', hm', rest⟩
          rcases List.mem_cons.mp hm' with rfl | hm'
          · exact c2 rest
          · exact c1 ⟨m', hm', rest⟩

/-- **the nth-weekday mask of a YEARLY rule with BYMONTH**: marked exactly the nth weekdays of the
    listed months, each counted inside its own month -/
theorem nwdaymask_yearly_bymonth (f : YearFacts r y info) (hf : r.freq = 0) (months : List Int)
    (hbm : r.bymonth = some months) (hmne : months ≠ []) (hmb : ∀ m ∈ months, 1 ≤ m ∧ m ≤ 12)
    (nwl : List (Int × Int)) (hne : nwl ≠ [])
    (hnw : r.bynweekday = some nwl) (hok : ∀ wn ∈ nwl, (0 ≤ wn.1 ∧ wn.1 ≤ 6) ∧ wn.2 ≠ 0) (month : Int) :
    ∃ mask, buildNwdaymask r info.yearlen info.mrange info.wdaymask month = .ok (some mask) ∧
      (mask.length : Int) = info.yearlen ∧
      ∀ j : Int, 0 ≤ j → j < info.yearlen →
        Py.getIdx mask j = .ok (if ∃ m ∈ months, ∃ wn ∈ nwl, marks info (daysBeforeMonth y m)
            (daysBeforeMonth y m + daysInMonth y m - 1) j wn then 1 else 0) := by
  have hyl := f.yearlen
  have hylen : 365 ≤ info.yearlen ∧ info.yearlen ≤ 366 := by rw [hyl]; unfold daysInYear; split <;> omega
  have htr : truthy r.bymonth = true := by
    rw [hbm]; cases months with
    | nil => exact absurd rfl hmne
    | cons _ _ => rfl
  have hlen0 : ((List.replicate info.yearlen.toNat (0 : Int)).length : Int) = info.yearlen := by
    rw [List.length_replicate]; omega
  unfold buildNwdaymask
  rw [hnw]
  cases hnwl : nwl with
  | nil => exact absurd hnwl hne
  | cons nw0 nws =>
    subst hnwl
    simp only [bind, Except.bind]
    rw [if_pos (by simp [hf]), htr]
    simp only [↓reduceIte, hbm, Option.getD_some, ranges_ok f months hmb]
    have hne2 : (months.map (monthRange y)).isEmpty = false := by
      cases months with
      | nil => exact absurd rfl hmne
      | cons _ _ => rfl
    simp only [hne2, Bool.false_eq_true, ↓reduceIte, pure, Except.pure]
    obtain ⟨mask, h1, hl2, h3⟩ := ranges_fold f (nw0 :: nws) hok months _ hmb hlen0
    generalize hX : (List.foldlM (m := Except Py.PyErr) _
      (List.replicate info.yearlen.toNat (0 : Int)) (List.map (monthRange y) months) : Py.R (List Int)) = X
    have hXm : X = Except.ok mask := by
      rw [← hX, ← h1]
      apply foldlM_congr
      intro m rg
      rcases rg with _ | ⟨a1, _ | ⟨a2, _ | ⟨a3, t⟩⟩⟩ <;> rfl
    subst hXm
    refine ⟨mask, rfl, by rw [hl2]; exact hlen0, ?_⟩
    intro j hj0 hj1
    rw [h3 j hj0 hj1]
    split
    · rfl
    · rw [getIdx_int _ j hj0 (by rw [hlen0]; exact hj1)]
      simp

/-- YEARLY argument sets with BYMONTH and nth weekdays counted inside each listed month -/
structure NthYMArgs (a : Args) : Prop where
  freq : a.freq = 0
  interval : 1 ≤ a.interval
  valid : a.dtstart.Valid
  byweekno : a.byweekno = none
  byeaster : a.byeaster = none
  monthday_nz : ∀ x ∈ a.bymonthday.getD [], x ≠ 0
  months : ∃ lm, a.bymonth = some lm ∧ lm ≠ [] ∧ ∀ m ∈ lm, 1 ≤ m ∧ m ≤ 12
  weekdays : ∃ l, a.byweekday = some l ∧ l ≠ [] ∧ ∀ w ∈ l, (0 ≤ w.1 ∧ w.1 ≤ 6) ∧ w.2 ≠ 0

variable {a : Args}

/-- the month list of the constructed rule -/
def monthsOf (a : Args) : List Int := sortedSet (a.bymonth.getD [])

/-- BYMONTH given, non-empty, members 1..12 -/
def MonthsGiven (a : Args) : Prop := ∃ lm, a.bymonth = some lm ∧ lm ≠ [] ∧ ∀ m ∈ lm, 1 ≤ m ∧ m ≤ 12

theorem months_facts (hm : MonthsGiven a) :
    monthsOf a ≠ [] ∧ (∀ m, m ∈ monthsOf a ↔ m ∈ a.bymonth.getD []) ∧ (∀ m ∈ monthsOf a, 1 ≤ m ∧ m ≤ 12) := by
  obtain ⟨lm, hlm, hne, hb⟩ := hm
  have hmem : ∀ m, m ∈ monthsOf a ↔ m ∈ lm := by
    intro m; unfold monthsOf; rw [hlm, Option.getD_some, mem_sortedSet]
  refine ⟨?_, by rw [hlm]; exact hmem, fun m hm => hb m ((hmem m).mp hm)⟩
  intro hnil
  cases lm with
  | nil => exact hne rfl
  | cons x xs => have := (hmem x).mpr (List.mem_cons_self ..); rw [hnil] at this; simp at this

theorem bymonth_given (D : DateFields a r) (hm : MonthsGiven a) : r.bymonth = some (monthsOf a) := by
  obtain ⟨lm, hlm, _, _⟩ := hm
  rw [D.bymonth]; unfold bymonthOf monthsOf; rw [hlm]; simp

/-- "the model state at the start of period `k`" -/
structure NthYMGood (a : Args) (r : Rule) (k : Nat) (st : State) : Prop where
  facts : YearFacts r st.cur.year st.info
  timeset : st.timeset = Spec.RRule.timesOf a none none none
  year : st.cur.year = a.dtstart.y + k * a.interval
  mask : ∃ mask, st.info.nwdaymask = some mask ∧ (mask.length : Int) = st.info.yearlen ∧
    ∀ j : Int, 0 ≤ j → j < st.info.yearlen →
      Py.getIdx mask j = .ok (if ∃ m' ∈ monthsOf a, ∃ wn ∈ nwlOf a, marks st.info (daysBeforeMonth st.cur.year m')
          (daysBeforeMonth st.cur.year m' + daysInMonth st.cur.year m' - 1) j wn then 1 else 0)

/-- what `rebuild` establishes for a YEARLY rule with BYMONTH and nth weekdays: the nth-weekday mask marks the nth
    weekdays of each listed month -/
def NthYMInv (a : Args) (y _m : Int) (info : Info) : Prop :=
  NthMarks info (fun j => ∃ m' ∈ monthsOf a, ∃ wn ∈ nwlOf a, marks info (daysBeforeMonth y m')
    (daysBeforeMonth y m' + daysInMonth y m' - 1) j wn)

/-- the YEARLY nth-weekday mask inside `rebuild`, for nth-only BYDAY with BYMONTH -/
theorem nthYM_build (D : DateFields a r) (hf : a.freq = 0) (hw : NthOnly a) (hm : MonthsGiven a) (hy1 : 1 ≤ y)
    (hy2 : y ≤ 9999) (m : Int) :
    ∃ n, buildNwdaymask r (baseInfo y).yearlen (baseInfo y).mrange (baseInfo y).wdaymask m = .ok n ∧ ∀ w e,
      NthYMInv a y m { baseInfo y with wnomask := w, nwdaymask := n, eastermask := e } := by
  obtain ⟨hne, _, hok, _, hnw⟩ := nwl_facts (Or.inl hf) hw
  obtain ⟨hmne, _, hmb⟩ := months_facts hm
  obtain ⟨mask, n1, n2, n3⟩ := nwdaymask_yearly_bymonth (baseInfo_facts r y hy1 hy2) (by rw [D.freq, hf]) _
    (bymonth_given D hm) hmne hmb _ hne (by rw [D.bynweekday]; exact hnw) hok m
  exact ⟨_, n1, fun _ _ => ⟨mask, rfl, n2, n3⟩⟩

/-- on the days of the year that pass the calendar predicate (so lie in a listed month) the marks are the BYDAY part
    of `dateOk`: only the date's own month can mark it -/
theorem nthYM_part (D : DateFields a r) (hf : a.freq = 0) (hw : NthOnly a) (hm : MonthsGiven a)
    (f : YearFacts r y info) {m i : Int} (hi : yearDays y m info i) (hs : simpleOk r (info.yearordinal + i) = true) :
    (∃ m' ∈ monthsOf a, ∃ wn ∈ nwlOf a, marks info (daysBeforeMonth y m')
      (daysBeforeMonth y m' + daysInMonth y m' - 1) i wn) ↔ weekdayPart a (info.yearordinal + i) = true := by
  have hi1 : i < daysInYear y := by rw [← f.yearlen]; exact hi.2
  obtain ⟨hidx, hm1, hm12, hd1, hd2⟩ := monthDay_spec y i hi.1 hi1
  have hfo : fromOrdinal (toOrdinal y 1 1 + i) =
      (y, (monthDayOfYday (isLeap y) i).1, (monthDayOfYday (isLeap y) i).2) := date_of_yday y i f.year_lo hi.1 hi1
  rw [← f.yearordinal] at hfo
  obtain ⟨_, _, hmb⟩ := months_facts hm
  generalize (monthDayOfYday (isLeap y) i).1 = m0 at *
  generalize (monthDayOfYday (isLeap y) i).2 = d0 at *
  -- the calendar predicate admits the date's month
  have hm0 : m0 ∈ monthsOf a := by
    unfold simpleOk at hs
    rw [hfo, bymonth_given D hm] at hs
    simp only [Bool.and_eq_true, Bool.or_eq_true] at hs
    rcases hs.1.1.1 with h | h
    · have := (months_facts hm).1
      cases hq : monthsOf a with
      | nil => exact absurd hq this
      | cons _ _ => rw [hq] at h; simp [truthy] at h
    · exact List.contains_iff_mem.mp h
  have honly : (∃ m' ∈ monthsOf a, ∃ wn ∈ nwlOf a, marks info (daysBeforeMonth y m')
        (daysBeforeMonth y m' + daysInMonth y m' - 1) i wn) ↔
      ∃ wn ∈ nwlOf a, marks info (daysBeforeMonth y m0) (daysBeforeMonth y m0 + daysInMonth y m0 - 1) i wn := by
    constructor
    · rintro ⟨m', hm', wn, hwn, hmk⟩
      have hb' := hmb m' hm'
      have : m' = m0 := by
        obtain ⟨h1, h2, _, _⟩ := hmk
        by_cases c1 : m' < m0
        · have := daysBeforeMonth_mono y (m' + 1) m0 (by omega) (by omega) (by omega)
          have := daysBeforeMonth_succ y m' hb'.1 hb'.2
          omega
        · by_cases c2 : m0 < m'
          · have := daysBeforeMonth_mono y (m0 + 1) m' (by omega) (by omega) (by omega)
            have := daysBeforeMonth_succ y m0 hm1 hm12
            omega
          · omega
      subst this
      exact ⟨wn, hwn, hmk⟩
    · rintro ⟨wn, hwn, hmk⟩
      exact ⟨m0, hm0, wn, hwn, hmk⟩
  rw [honly]
  obtain ⟨lm, hlm, hlne, _⟩ := hm
  exact weekdayPart_nth (Or.inl hf) hw _ _ (marks_month_iff a f.yearordinal f.year_lo ⟨hm1, hm12⟩ (by omega) (by omega)
    (by unfold Spec.RRule.months; rw [hlm, hf]; cases lm with | nil => exact absurd rfl hlne | cons _ _ => rfl)
    (by rw [hf]; omega))

theorem nthym_filter (na : NthYMArgs a) (h : construct a = .ok r) : PeriodFilter a r 1 9999 (NthYMInv a) yearDays where
  lo := by omega
  hi := by omega
  rebuild := fun y m hy1 hy2 _ _ => by
    have D := construct_dateFields h
    obtain ⟨n, hn, hN⟩ := nthYM_build D na.freq na.weekdays na.months hy1 hy2 m
    exact ⟨_, rebuild_eq r m hy1 hy2 (wnomaskOf_off (D.weekno_off na.byweekno) ..) hn
      (eastermaskOf_off (D.easter_off na.byeaster) ..), hN _ _⟩
  filtered := fun {y m info i} f inv hi =>
    have D := construct_dateFields h
    nth_filtered D (monthdayArg_nz na.monthday_nz na.valid) (nwl_facts (Or.inl na.freq) na.weekdays).2.2.2.1 f i
      hi.1 hi.2 inv.marked (nthYM_part D na.freq na.weekdays na.months f hi) (weekno_miss_off D na.byweekno ..)
      (easter_miss_off D na.byeaster ..)

/-- the state invariant of the YEARLY refinement, read for this family -/
theorem nthym_good (na : NthYMArgs a) {k : Nat} {st : State} (g : PeriodGood (NthYMInv a) a r k st) :
    NthYMGood a r k st :=
  ⟨g.facts, g.timeset, g.yearly na.freq, g.inv⟩

/-- **`iter_eq_spec`, YEARLY with BYMONTH and nth weekdays counted inside each listed month** ("the 4th
    Thursday of November", "the last Monday of May"): FREQ=YEARLY, INTERVAL ≥ 1, a valid start, BYMONTH
    (members 1..12), BYDAY consisting of nth weekdays only, any BYYEARDAY / BYHOUR / BYMINUTE / BYSECOND /
    BYSETPOS, any COUNT / UNTIL, no BYMONTHDAY / BYWEEKNO / BYEASTER: exactly the specification's set. -/
theorem iter_eq_spec_yearly_bymonth_nth (na : NthYMArgs a) (h : construct a = .ok r) (n : Nat)
    (hy : a.dtstart.y + n * a.interval ≤ 9999) :
    (iter r n).1 = Spec.RRule.occ a n := by
  have hv := na.valid
  unfold DT.Valid ValidDate at hv
  exact yearly_refines h na.freq na.valid (nthym_filter na h) n hv.1.1 hy

end RRule
