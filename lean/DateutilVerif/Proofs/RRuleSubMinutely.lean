/-
  Proofs/RRuleSubMinutely.lean — MINUTELY over any day filter, with any of BYHOUR / BYMINUTE.  The reachability loop
  (`for j in range(rep_rate // gcd(interval, rep_rate))` of the MINUTELY branch), started at minute `W = hour·60 + minute` of the day, visits the grid minutes `W + t·interval`: each
  pass steps on the minutes (`__mod_distance` over BYMINUTE when given, passing over grid minutes whose minute is not
  listed; else `+interval`) and then tests the hour.  It stops at the LEAST `t ≥ 1` whose hour and minute are accepted,
  provided one occurs within `fuel` grid steps (every pass makes ≥ 1).  The orbit of `+interval` on the minutes of the day
  has period `1440 / gcd(interval, 1440)` — the loop's own bound — so a listed minute anywhere on the grid is met in time
  (`orbit_window`).
-/
import DateutilVerif.Proofs.RRuleSubStep

namespace RRule
open Cal

theorem accepts_minutely_shift (r : Rule) (V c : Int) :
    SubFreq.accepts .minutely r (V - 1440 * c) = SubFreq.accepts .minutely r V := by
  obtain ⟨e1, e2⟩ : (V - 1440 * c) / 60 % 24 = V / 60 % 24 ∧ (V - 1440 * c) % 60 = V % 60 := by omega
  simp only [SubFreq.accepts, e1, e2]

/-- one pass of the loop whose step on the minutes returned `(nh, mi')` -/
theorem minutelyLoop_succ (r : Rule) (n : Nat) (minute hour day : Int) (fx : Bool) (nh mi' : Int)
    (hstep : (if truthy r.byminute then modDistance r.interval (r.byminute.getD []) 60 60 0 minute
      else some (Py.divmod (minute + r.interval) 60)) = some (nh, mi')) (hmi : 0 ≤ mi' ∧ mi' ≤ 59)
    (V : Int) (hV : V = hour * 60 + nh * 60 + mi') :
    minutelyLoop r (n + 1) minute hour day fx =
      if (!(truthy r.byhour) || memO (V / 60 % 24) r.byhour) = true then
        .ok (V % 60, V / 60 % 24, (if V / 1440 ≠ 0 then day + V / 1440 else day),
          (if V / 1440 ≠ 0 then true else fx))
      else minutelyLoop r n (V % 60) (V / 60 % 24) (if V / 1440 ≠ 0 then day + V / 1440 else day)
          (if V / 1440 ≠ 0 then true else fx) := by
  obtain ⟨nd, hnd⟩ : ∃ nd, nd = (hour + nh) / 24 := ⟨_, rfl⟩
  obtain ⟨hr', hhr'⟩ : ∃ hr', hr' = (hour + nh) % 24 := ⟨_, rfl⟩
  obtain ⟨a1, a2, a3⟩ : V % 60 = mi' ∧ V / 60 % 24 = hr' ∧ V / 1440 = nd := by omega
  rw [a1, a2, a3]
  conv => lhs; unfold minutelyLoop
  dsimp only
  rw [hstep]
  simp only [Py.divmod, Py.fdiv_pos _ (by decide : (0 : Int) < 24), Py.fmod_pos _ (by decide : (0 : Int) < 24)]
  rw [← hnd, ← hhr']

/-- one pass of the loop on the grid: `d ≥ 1` steps on, over grid minutes whose minute is not listed, then the test -/
theorem minutelyLoop_pass (r : Rule) (hi : 1 ≤ r.interval) (n : Nat) (minute hour day : Int) (fx : Bool)
    (hm0 : 0 ≤ minute) (h0 : 0 ≤ hour)
    (hex : ∃ ts : Nat, 1 ≤ ts ∧ SubFreq.accepts .minutely r (hour * 60 + minute + ts * r.interval) = true) :
    ∃ d : Nat, 1 ≤ d ∧
      (∀ t' : Nat, 1 ≤ t' → t' < d → SubFreq.accepts .minutely r (hour * 60 + minute + t' * r.interval) = false) ∧
      minutelyLoop r (n + 1) minute hour day fx =
        if SubFreq.accepts .minutely r (hour * 60 + minute + d * r.interval) = true then
          .ok ((hour * 60 + minute + d * r.interval) % 60, (hour * 60 + minute + d * r.interval) / 60 % 24,
            (if (hour * 60 + minute + d * r.interval) / 1440 ≠ 0 then day + (hour * 60 + minute + d * r.interval) / 1440
             else day), (if (hour * 60 + minute + d * r.interval) / 1440 ≠ 0 then true else fx))
        else minutelyLoop r n ((hour * 60 + minute + d * r.interval) % 60)
          ((hour * 60 + minute + d * r.interval) / 60 % 24)
          (if (hour * 60 + minute + d * r.interval) / 1440 ≠ 0 then day + (hour * 60 + minute + d * r.interval) / 1440
           else day) (if (hour * 60 + minute + d * r.interval) / 1440 ≠ 0 then true else fx) := by
  obtain ⟨ts, hts1, hts3⟩ := hex
  obtain ⟨W, hW⟩ : ∃ W, W = hour * 60 + minute := ⟨_, rfl⟩
  rw [← hW] at hts3 ⊢
  -- the minute of a grid minute depends on `minute` only
  have hmin : ∀ u : Nat, (W + (u : Int) * r.interval) % 60 = (minute + (u : Int) * r.interval) % 60 := by
    intro u; generalize (u : Int) * r.interval = P; omega
  have hacc : ∀ V, SubFreq.accepts .minutely r V = ((!(truthy r.byhour) || memO (V / 60 % 24) r.byhour) &&
      (!(truthy r.byminute) || memO (V % 60) r.byminute)) := fun V => rfl
  obtain ⟨s, hs1, _, hs3, hs4, hs5⟩ := unitStep_exact r.interval r.byminute 60 (by omega) 60 rfl minute ts hts1
    (by rw [hacc, Bool.and_eq_true, hmin] at hts3; exact hts3.2)
  refine ⟨s, hs1, fun u h1 h2 => by rw [hacc, hmin, hs4 u h1 h2, Bool.and_false], ?_⟩
  have hsi : (0 : Int) ≤ (s : Int) * r.interval := Int.mul_nonneg (by omega) (by omega)
  rw [minutelyLoop_succ r n minute hour day fx _ _ hs5 (by omega) (W + (s : Int) * r.interval)
    (by rw [hW]; generalize (s : Int) * r.interval = P; omega), hacc (W + (s : Int) * r.interval), hmin, hs3,
    Bool.and_true]

/-- **the MINUTELY loop stops at the least accepted grid minute** within its fuel -/
theorem minutelyLoop_least (r : Rule) (hi : 1 ≤ r.interval) (n : Nat) (minute hour day : Int) (fx : Bool)
    (hm0 : 0 ≤ minute) (h0 : 0 ≤ hour)
    (hex : ∃ t : Nat, 1 ≤ t ∧ t ≤ n ∧ SubFreq.accepts .minutely r (hour * 60 + minute + t * r.interval) = true) :
    ∃ t : Nat, 1 ≤ t ∧ t ≤ n ∧ SubFreq.accepts .minutely r (hour * 60 + minute + t * r.interval) = true ∧
      (∀ t' : Nat, 1 ≤ t' → t' < t → SubFreq.accepts .minutely r (hour * 60 + minute + t' * r.interval) = false) ∧
      minutelyLoop r n minute hour day fx =
        .ok ((hour * 60 + minute + t * r.interval) % 60, (hour * 60 + minute + t * r.interval) / 60 % 24,
             day + (hour * 60 + minute + t * r.interval) / 1440,
             fx || decide ((hour * 60 + minute + t * r.interval) / 1440 ≠ 0)) :=
  search_least (σ := Int × Int) (fun n s day fx => minutelyLoop r n s.1 s.2 day fx) (fun s => s.2 * 60 + s.1)
    (fun V => (V % 60, V / 60 % 24)) (fun s d f => (s.1, s.2, d, f)) (fun s => 0 ≤ s.1 ∧ 0 ≤ s.2)
    (SubFreq.accepts .minutely r) 1440 r.interval (by omega) hi (fun s hs => by omega)
    (fun V hV => by dsimp only; omega)
    (fun V c => ⟨accepts_minutely_shift r V c, by
      obtain ⟨e1, e2⟩ : (V - 1440 * c) % 60 = V % 60 ∧ (V - 1440 * c) / 60 % 24 = V / 60 % 24 := by omega
      rw [e1, e2]⟩)
    (fun n s day fx hP hex => minutelyLoop_pass r hi n s.1 s.2 day fx hP.1 hP.2 hex) n (minute, hour) day fx ⟨hm0, h0⟩ hex

theorem listed_minutely (a : Args) (V : Int) :
    SubFreq.listed .minutely a (V % 1440) = (listedO a.byhour (V / 60 % 24) && listedO a.byminute (V % 60)) := by
  obtain ⟨e1, e2⟩ : V % 1440 / 60 = V / 60 % 24 ∧ V % 1440 % 60 = V % 60 := by omega
  simp only [SubFreq.listed, SubFreq.fix, listedF, Bool.and_true, e1, e2]

/-- a listed minute anywhere on the grid (`reachableMM`, `reachableHourM`) is at most a day's worth of steps away
    from every grid minute -/
theorem minutely_reach (a : Args) (j : Nat)
    (hj : (listedO a.byhour ((a.dtstart.hh * 60 + a.dtstart.mm + (j : Int) * a.interval) / 60 % 24) &&
      listedO a.byminute ((a.dtstart.hh * 60 + a.dtstart.mm + (j : Int) * a.interval) % 60)) = true) (k : Nat) :
    ∃ t : Nat, 1 ≤ t ∧ t ≤ 1440 ∧ SubFreq.listed .minutely a
      ((a.dtstart.hh * 60 + a.dtstart.mm + ((k + t : Nat) : Int) * a.interval) % 1440) = true := by
  obtain ⟨t, ht1, ht2, ht3⟩ := SubFreq.reach_day .minutely a j (by rw [← listed_minutely] at hj; exact hj) k
  simp only [SubFreq.U] at ht2
  exact ⟨t, ht1, by omega, ht3⟩

variable {a : Args} {r : Rule} {ylo yhi : Int} {Inv : Info → Prop}

/-- what MINUTELY knows about the BY lists: BYHOUR (absent or non-empty) is kept as a sorted set, BYMINUTE was filtered
    by `__construct_byset`; BYSECOND members inside 0..59 make the minute's time set.  That from every grid minute a
    listed one is at most `S` steps away is the family's to say. -/
theorem minutely_by (h : construct a = .ok r) (hf : a.freq = 5) (hv : a.dtstart.Valid)
    (hh : a.byhour = none ∨ ∃ l, a.byhour = some l ∧ l ≠ []) (hs : secondsOk a) (S : Nat)
    (hS : ∀ k : Nat, ∃ t : Nat, 1 ≤ t ∧ t ≤ S ∧ SubFreq.listed .minutely a
      ((a.dtstart.hh * 60 + a.dtstart.mm + ((k + t : Nat) : Int) * a.interval) % 1440) = true) :
    SubBy .minutely a r S := by
  obtain ⟨sp, bh, bm, bs, ts, _, h2, h3, h4, _, rfl⟩ := construct_ok a r h
  rw [hf] at h2 h3 h4
  unfold DT.Valid at hv
  have hlisted : ∀ w, SubFreq.listed .minutely a w = (listedO a.byhour (w / 60) && listedO a.byminute (w % 60)) := by
    intro w; simp only [SubFreq.listed, SubFreq.fix, listedF, Bool.and_true]
  refine ⟨?_, ?_, hS⟩
  · intro V k z hV
    simp only [SubFreq.tod, SubFreq.U] at hV
    simp only [SubFreq.accepts, SubFreq.U, listed_minutely]
    rw [above_listed _ _ _ _ _ _ _ (by omega) h2 hh,
      own_listed _ _ _ _ _ _ h3 (by omega) _ (orbit_digit _ _ _ V k (a.dtstart.hh + 24 * z) (by omega))]
  · intro hr m s hd hl
    simp only [SubFreq.Digits] at hd
    obtain ⟨e1, e2⟩ : (hr * 60 + m) / 60 = hr ∧ (hr * 60 + m) % 60 = m := by omega
    simp only [SubFreq.tod, hlisted, e1, e2, Bool.and_eq_true] at hl
    simp only [SubFreq.tod, SubFreq.times, SubFreq.fix, e1, e2]
    unfold gettimeset mtimeset
    rw [if_neg (by simp [hf]), if_pos (by simp [hf])]
    dsimp only
    exact buildTimeset_eq _ _ _ _ _ _ (by simp) (by simp) (normUnit_nodup _ _ _ _ _ _ _ h4)
      (restrict_sorted _ _ (unitVals_sorted ..)) (restrict_sorted _ _ (unitVals_sorted ..)) (unitVals_sorted ..)
      (mem_restrict_listed _ _ (by omega) _ 24 hr (by omega) hl.1)
      (mem_restrict_listed _ _ (by omega) _ 60 m (by omega) hl.2)
      (mem_normUnit_below _ _ _ _ _ _ _ (by omega) h4 (fun x hx => by have := hs x hx; omega) _ (by omega))
      (by intro x hx; simp at hx; omega) (by intro x hx; simp at hx; omega)
      (fun x hx => by
        have := normUnit_below_range _ _ _ _ _ _ _ (by omega) h4 (by omega) (fun x hx => by have := hs x hx; omega) x hx
        omega)

/-- the state invariant in MINUTELY's own terms -/
theorem SubGood.minutely {F : DayFilter a r ylo yhi Inv} {k : Nat} {st : State} (hg : SubGood .minutely F k st) :
    (curOrd st.cur * 24 + st.cur.hour) * 60 + st.cur.minute =
      (Spec.RRule.startOrd a * 24 + a.dtstart.hh) * 60 + a.dtstart.mm + k * a.interval ∧
    st.timeset = Spec.RRule.timesOf a (some st.cur.hour) (some st.cur.minute) none := by
  have hd := hg.digits
  have hi := hg.idx
  have ht := hg.timeset
  simp only [SubFreq.Digits, SubFreq.U, SubFreq.tod, SubFreq.T0, SubFreq.times, SubFreq.fix] at hd hi ht
  obtain ⟨e1, e2⟩ : (st.cur.hour * 60 + st.cur.minute) / 60 = st.cur.hour ∧
      (st.cur.hour * 60 + st.cur.minute) % 60 = st.cur.minute := by omega
  rw [e1, e2] at ht
  exact ⟨by omega, ht⟩

/-- the MINUTELY branch of "Handle frequency and interval" -/
theorem minutely_step (F : DayFilter a r ylo yhi Inv) (h : construct a = .ok r) (hf : a.freq = 5) (hi : 1 ≤ a.interval) {S : Nat}
    (B : SubBy .minutely a r S) (k : Nat) (st : State) (fl : Bool) (c : Option Int) (hg : SubGood .minutely F k st)
    (hb : curOrd st.cur * 1440 + 1439 + S * a.interval < (toOrdinal yhi 12 31 + 1) * 1440) : SubStep .minutely F S k st fl c := by
  obtain ⟨hfr, hint, _⟩ := construct_fields a r h
  have hfreq : r.freq = 5 := by rw [hfr, hf]
  have hd := hg.digits
  simp only [SubFreq.Digits] at hd
  obtain ⟨hX0, hXle, hXt, _⟩ := SubFreq.jump_le .minutely a.interval (st.cur.hour * 60 + st.cur.minute) fl hi
    (by simp only [SubFreq.U]; omega)
  unfold SubStep
  simp only [SubFreq.tod, SubFreq.U] at hX0 hXle hXt ⊢
  generalize hs0 : SubFreq.jump .minutely a.interval (st.cur.hour * 60 + st.cur.minute) fl = s0 at *
  have hcast : ∀ u : Nat, st.cur.hour * 60 + st.cur.minute + ((s0 + u : Nat) : Int) * a.interval =
      st.cur.hour * 60 + (st.cur.minute + (s0 : Int) * a.interval) + (u : Int) * a.interval := by
    intro u; push_cast; rw [Int.add_mul]; omega
  -- the reachability loop, within its own bound, to the least accepted minute
  obtain ⟨tf, htf1, htf2, htf3⟩ := hg.reach_fuel B s0
  obtain ⟨ts, hts1, hts2, hts3⟩ := hg.reach B s0
  simp only [SubFreq.tod, SubFreq.U] at htf2 htf3 hts3
  rw [hcast] at htf3 hts3
  obtain ⟨hreps, _⟩ := reps_eq a.interval 1440 (by omega)
  obtain ⟨t, ht1, _, ht3, ht4, ht5⟩ := minutelyLoop_least r (by rw [hint]; exact hi)
    (Py.fdiv 1440 ((Int.gcd a.interval 1440 : Nat) : Int)).toNat (st.cur.minute + (s0 : Int) * a.interval) st.cur.hour
    st.cur.day false (by omega) hd.1.1 ⟨tf, htf1, by omega, by rw [hint]; exact htf3⟩
  rw [hint] at ht3 ht4 ht5
  have htS : t ≤ S := by
    by_cases hc : t ≤ ts
    · omega
    · have := ht4 ts hts1 (by omega)
      rw [hts3] at this; cases this
  obtain ⟨D, hD⟩ : ∃ D, D = st.cur.hour * 60 + (st.cur.minute + (s0 : Int) * a.interval) + (t : Int) * a.interval :=
    ⟨_, rfl⟩
  rw [← hD] at ht3 ht5
  have hti : (0 : Int) ≤ (t : Int) * a.interval := Int.mul_nonneg (by omega) (by omega)
  have htSi : (t : Int) * a.interval ≤ S * a.interval := Int.mul_le_mul_of_nonneg_right (by omega) (by omega)
  have hD0 : 0 ≤ D := by omega
  obtain ⟨hts, st', hfix, hg'⟩ := hg.arrive B c (s0 + t) D
    (by show D = st.cur.hour * 60 + st.cur.minute + ((s0 + t : Nat) : Int) * a.interval; rw [hD, hcast]) hD0
    (D / 60 % 24) (D % 60) st.cur.second (by simp only [SubFreq.Digits]; omega)
    (by simp only [SubFreq.tod, SubFreq.U]; omega) ht3 (false || decide (D / 1440 ≠ 0))
    (by intro hz; show D / 1440 = 0; simpa using hz) (by simp only [SubFreq.U]; omega)
  simp only [SubFreq.U] at hts hfix
  refine ⟨st', t, ht1, htS, ?_, by rw [← Nat.add_assoc] at hg'; exact hg', ?_⟩
  · rw [advance_minutely_eq r _ fl hfreq]
    dsimp only
    have hmin0 : (if fl = true then st.cur.minute +
        Py.fdiv (1439 - (st.cur.hour * 60 + st.cur.minute)) r.interval * r.interval else st.cur.minute) =
        st.cur.minute + (s0 : Int) * a.interval := by
      cases fl with
      | false => rw [← hs0]; simp [SubFreq.jump]
      | true =>
        rw [if_pos rfl, hint, Py.fdiv_pos _ (by omega), hXt rfl]
        have e : (1440 : Int) - 1 - (st.cur.hour * 60 + st.cur.minute) = 1439 - (st.cur.hour * 60 + st.cur.minute) := by
          omega
        rw [e]
    rw [hmin0, hint, ht5]
    dsimp only
    rw [hts]
    dsimp only
    exact hfix
  · intro t' h1 h2
    have := ht4 t' h1 h2
    rw [← hcast] at this
    have e := hg.accepts_eq B (s0 + t')
    simp only [SubFreq.tod, SubFreq.U] at e
    rw [← e]
    exact this

/-- **`iter_eq_spec`, MINUTELY, over a day filter** (any of BYHOUR, absent or non-empty, and BYMINUTE): INTERVAL ≥ 1,
    a valid start in the filter's years, BYSECOND members 0..59, and from every grid minute a listed one at most `S`
    steps away (`hS`; on the complement the rule is empty and `_iter` raises ValueError at the first `next()`).  As for
    HOURLY, `n` turns of the generator's loop correspond to `m` periods, `n ≤ m ≤ J·n` with `1439 + S ≤ J`. -/
theorem iter_eq_spec_minutely_filter (F : DayFilter a r ylo yhi Inv) (h : construct a = .ok r) (hf : a.freq = 5)
    (hi : 1 ≤ a.interval) (hv : a.dtstart.Valid) (hh : a.byhour = none ∨ ∃ l, a.byhour = some l ∧ l ≠ [])
    (hs : secondsOk a) (S J : Nat)
    (hS : ∀ k : Nat, ∃ t : Nat, 1 ≤ t ∧ t ≤ S ∧ SubFreq.listed .minutely a
      ((a.dtstart.hh * 60 + a.dtstart.mm + ((k + t : Nat) : Int) * a.interval) % 1440) = true)
    (hJ : 1439 + S ≤ J) (n : Nat) (hlo : ylo ≤ a.dtstart.y)
    (hle : (Spec.RRule.startOrd a * 24 + a.dtstart.hh) * 60 + a.dtstart.mm + ((J * n + S : Nat) : Int) * a.interval + 1439 <
      (toOrdinal yhi 12 31 + 1) * 1440) :
    ∃ m, n ≤ m ∧ m ≤ J * n ∧ (iter r n).1 = Spec.RRule.occ a m := by
  have B := minutely_by h hf hv hh hs S hS
  exact iter_eq_spec_sub .minutely F h hf hi hv B J (by simp only [SubFreq.U]; omega)
    (fun k st fl c hg hb => minutely_step F h hf hi B k st fl c hg (by simp only [SubFreq.U] at hb; omega))
    n hlo (by simp only [SubFreq.T0, SubFreq.U, SubFreq.tod]; omega)

end RRule
