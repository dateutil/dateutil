/-
  Proofs/RRuleWeeknoYearly.lean — YEARLY with BYWEEKNO on the complement of D-C01c: the week-number mask inside
  `rebuild`, the bridge to `dateOk` (for YEARLY and MONTHLY alike) and the period filter.
-/
import DateutilVerif.Proofs.RRuleWeeknoMask
import DateutilVerif.Proofs.RRulePeriod

namespace RRule
open Cal

/-- BYWEEKNO is the only computed mask (plain BYDAY allowed) -/
structure WeeknoRule (r : Rule) : Prop where
  byweekno : truthy r.byweekno = true
  bynweekday : truthy r.bynweekday = false
  byeaster : truthy r.byeaster = false

variable {r : Rule} {y : Int} {info : Info}

/-- the BY-filter with a week-number mask, inside the year -/
theorem dayFiltered_weekno (hr : WeeknoRule r) (f : YearFacts r y info) (mask : List Int)
    (hnw : info.nwdaymask = none) (hm : info.wnomask = some mask) (i : Int) (h0 : 0 ≤ i) (h1 : i < info.yearlen)
    (hlen : info.yearlen ≤ (mask.length : Int)) :
    dayFiltered r info i =
      .ok (!(simpleOk r (info.yearordinal + i) && (mask[i.toNat]'(by omega) != 0))) := by
  rw [dayFiltered_eq f i h0 (by omega) (maskMiss_getElem hr.byweekno hm h0 (by omega)) (nthMiss_none hnw i)
    (maskMiss_off hr.byeaster ..)]
  simp only [Bool.not_false, Bool.and_true]
  rfl

/-- the week-number mask of `info` marks, on the indices below `n`, the days whose week number (from the start or the
    end of the week-year) is in `wl` -/
def WeeknoMarks (wkst : Int) (wl : List Int) (info : Info) (n : Int) : Prop :=
  ∃ mask, info.wnomask = some mask ∧ (mask.length : Int) = info.yearlen + 7 ∧
    ∀ j : Int, 0 ≤ j → j < n →
      Py.getIdx mask j = .ok (if weekClause wkst wl (info.yearordinal + j) = true then 1 else 0)

theorem WeeknoMarks.marked {wkst : Int} {wl : List Int} {n : Int} (h : WeeknoMarks wkst wl info n) :
    Marked info.wnomask n (fun j => weekClause wkst wl (info.yearordinal + j) = true) := by
  obtain ⟨mask, hm, _, hspec⟩ := h
  exact ⟨mask, hm, hspec⟩

theorem WeeknoMarks.mono {wkst : Int} {wl : List Int} {n n' : Int} (hn : n' ≤ n) (h : WeeknoMarks wkst wl info n) :
    WeeknoMarks wkst wl info n' := by
  obtain ⟨mask, hm, hl, hspec⟩ := h
  exact ⟨mask, hm, hl, fun j hj0 hj1 => hspec j hj0 (by omega)⟩

/-- the week-number mask inside `rebuild`, for a non-empty BYWEEKNO tuple on the complement of D-C01c: right over the
    year and the readable part of its tail -/
theorem wnomaskOf_marks (ht : truthy r.byweekno = true) {wl : List Int} (hwl : r.byweekno = some wl) (hc : WnoOk wl)
    (hwk : 0 ≤ r.wkst ∧ r.wkst ≤ 6) {y : Int} (hy1 : 1 ≤ y) (hy2 : y ≤ 9999) :
    ∃ w, wnomaskOf r y (baseInfo y) = .ok w ∧ ∀ n e,
      WeeknoMarks r.wkst wl { baseInfo y with wnomask := w, nwdaymask := n, eastermask := e }
        (readEnd r (baseInfo y)) := by
  obtain ⟨mask, h1, h2, h3⟩ := buildWnomask_marks (baseInfo_facts r y hy1 hy2) r.wkst hwk wl hc
  refine ⟨some mask, ?_, fun _ _ => ⟨mask, rfl, h2, h3⟩⟩
  unfold wnomaskOf
  rw [hwl] at ht ⊢
  cases wl with
  | nil => cases ht
  | cons o os => dsimp only; rw [h1]

/-- … in particular inside the year -/
theorem wnomaskOf_year (ht : truthy r.byweekno = true) {wl : List Int} (hwl : r.byweekno = some wl) (hc : WnoOk wl)
    (hwk : 0 ≤ r.wkst ∧ r.wkst ≤ 6) {y : Int} (hy1 : 1 ≤ y) (hy2 : y ≤ 9999) :
    ∃ w, wnomaskOf r y (baseInfo y) = .ok w ∧ ∀ n e,
      WeeknoMarks r.wkst wl { baseInfo y with wnomask := w, nwdaymask := n, eastermask := e } (baseInfo y).yearlen := by
  obtain ⟨w, hw1, hw2⟩ := wnomaskOf_marks ht hwl hc hwk hy1 hy2
  exact ⟨w, hw1, fun n e => (hw2 n e).mono (by unfold readEnd; omega)⟩

/-- `rebuild` of a week-number rule on the complement of D-C01c: succeeds for every year 1..9999 -/
theorem rebuild_weekno (hr : WeeknoRule r) (wl : List Int) (hwl : r.byweekno = some wl) (hc : WnoOk wl)
    (hwk : 0 ≤ r.wkst ∧ r.wkst ≤ 6) (y m : Int) (hy1 : 1 ≤ y) (hy2 : y ≤ 9999) :
    ∃ info mask, rebuild r y m = .ok info ∧ info.nwdaymask = none ∧ info.wnomask = some mask ∧
      (mask.length : Int) = info.yearlen + 7 ∧
      ∀ j : Int, 0 ≤ j → j < info.yearlen →
        Py.getIdx mask j = .ok (if weekClause r.wkst wl (info.yearordinal + j) = true then 1 else 0) := by
  obtain ⟨w, hw1, hw2⟩ := wnomaskOf_year hr.byweekno hwl hc hwk hy1 hy2
  obtain ⟨mask, hm, hlen, hspec⟩ := hw2 none none
  exact ⟨_, mask, rebuild_eq r m hy1 hy2 hw1 (buildNwdaymask_off hr.bynweekday ..) (eastermaskOf_off hr.byeaster ..),
    rfl, hm, hlen, hspec⟩

/-- YEARLY argument sets with BYWEEKNO on the complement of D-C01c -/
structure WeeknoYArgs (a : Args) : Prop where
  freq : a.freq = 0
  interval : 1 ≤ a.interval
  valid : a.dtstart.Valid
  wkst : 0 ≤ a.wkst.getD 0 ∧ a.wkst.getD 0 ≤ 6
  monthday_nz : ∀ x ∈ a.bymonthday.getD [], x ≠ 0
  byeaster : a.byeaster = none
  plain : ∀ w ∈ a.byweekday.getD [], w.2 = 0
  weekno : ∃ wl, a.byweekno = some wl ∧ wl ≠ [] ∧ WnoOk wl

variable {a : Args}

/-- what the YEARLY and the MONTHLY class with BYWEEKNO share: the conditions of `WeeknoYArgs` at either frequency -/
structure WeeknoYMArgs (a : Args) : Prop where
  freq : a.freq = 0 ∨ a.freq = 1
  interval : 1 ≤ a.interval
  valid : a.dtstart.Valid
  wkst : 0 ≤ a.wkst.getD 0 ∧ a.wkst.getD 0 ≤ 6
  monthday_nz : ∀ x ∈ a.bymonthday.getD [], x ≠ 0
  byeaster : a.byeaster = none
  plain : ∀ w ∈ a.byweekday.getD [], w.2 = 0
  weekno : ∃ wl, a.byweekno = some wl ∧ wl ≠ [] ∧ WnoOk wl

theorem WeeknoYArgs.ym (wa : WeeknoYArgs a) : WeeknoYMArgs a :=
  ⟨Or.inl wa.freq, wa.interval, wa.valid, wa.wkst, wa.monthday_nz, wa.byeaster, wa.plain, wa.weekno⟩

def weeknosOf (a : Args) : List Int := sortedSet (a.byweekno.getD [])

theorem weeknos_facts (h : ∃ wl, a.byweekno = some wl ∧ wl ≠ [] ∧ WnoOk wl) :
    (∀ o, o ∈ weeknosOf a ↔ o ∈ a.byweekno.getD []) ∧ WnoOk (weeknosOf a) ∧ truthy (some (weeknosOf a)) = true := by
  obtain ⟨wl, hwl, hne, hok⟩ := h
  have hmem : ∀ o, o ∈ weeknosOf a ↔ o ∈ wl := by
    intro o; unfold weeknosOf; rw [hwl, Option.getD_some, mem_sortedSet]
  refine ⟨by rw [hwl]; exact hmem, ⟨?_, ?_⟩, ?_⟩
  · intro h; simp only [hmem] at h ⊢; exact hok.last h
  · intro h; simp only [hmem] at h ⊢; exact hok.first h
  · rw [truthy_eq_not_isEmpty]; unfold weeknosOf
    rw [hwl, Option.getD_some, isEmpty_sortedSet]
    cases wl with
    | nil => exact absurd rfl hne
    | cons _ _ => rfl

theorem weekno_rule (D : DateFields a r) (hw : ∃ wl, a.byweekno = some wl ∧ wl ≠ [] ∧ WnoOk wl) :
    r.byweekno = some (weeknosOf a) ∧ truthy r.byweekno = true := by
  have hb : r.byweekno = some (weeknosOf a) := by
    obtain ⟨wl, hwl, _, _⟩ := hw
    rw [D.byweekno]; unfold weeknosOf; rw [hwl]; rfl
  exact ⟨hb, by rw [hb]; exact (weeknos_facts hw).2.2⟩

/-- the BYWEEKNO part of `dateOk` -/
theorem weeknoPart_some (hw : ∃ wl, a.byweekno = some wl ∧ wl ≠ [] ∧ WnoOk wl) (ord : Int) :
    weeknoPart a ord = weekClause (a.wkst.getD 0) (weeknosOf a) ord := by
  obtain ⟨wl, hwl, hne, _⟩ := hw
  unfold weeknoPart weekClause weeknosOf
  rw [hwl, Option.getD_some, contains_sortedSet, contains_sortedSet]
  cases wl with
  | nil => exact absurd rfl hne
  | cons x xs => rfl

/-- a week-number mask that marks the listed weeks misses a day exactly when the BYWEEKNO part of `dateOk` fails -/
theorem weekno_miss_on (D : DateFields a r) (hw : ∃ wl, a.byweekno = some wl ∧ wl ≠ [] ∧ WnoOk wl) {n : Int}
    (hm : WeeknoMarks r.wkst (weeknosOf a) info n) {i : Int} (h0 : 0 ≤ i) (h1 : i < n) :
    maskMiss (truthy r.byweekno) info.wnomask i = .ok (!weeknoPart a (info.yearordinal + i)) := by
  rw [maskMiss_marked (weekno_rule D hw).2 hm.marked h0 h1, weeknoPart_some hw, D.wkst, Bool.decide_eq_true]

/-- the week-number mask inside `rebuild`, read inside the year -/
theorem wnomaskOf_in (D : DateFields a r) (hw : ∃ wl, a.byweekno = some wl ∧ wl ≠ [] ∧ WnoOk wl)
    (hk : 0 ≤ a.wkst.getD 0 ∧ a.wkst.getD 0 ≤ 6) (hy1 : 1 ≤ y) (hy2 : y ≤ 9999) :
    ∃ w, wnomaskOf r y (baseInfo y) = .ok w ∧ ∀ n e,
      WeeknoMarks r.wkst (weeknosOf a) { baseInfo y with wnomask := w, nwdaymask := n, eastermask := e }
        (baseInfo y).yearlen :=
  wnomaskOf_year (weekno_rule D hw).2 (weekno_rule D hw).1 (weeknos_facts hw).2.1 (by rw [D.wkst]; exact hk) hy1 hy2

theorem WeeknoYMArgs.monthdayArg_nz (wa : WeeknoYMArgs a) : ∀ x ∈ (monthdayArg a).getD [], x ≠ 0 :=
  RRule.monthdayArg_nz wa.monthday_nz wa.valid

theorem WeeknoYMArgs.plainDays (wa : WeeknoYMArgs a) : ∀ w ∈ (weekdayArg a).getD [], w.2 = 0 ∨ a.freq > 1 := by
  rw [weekdayArg_of_ne2 (by rcases wa.freq with h | h <;> omega)]
  exact fun w hw => Or.inl (wa.plain w hw)

/-- "the model state at the start of period `k`" -/
structure WeeknoGood (a : Args) (r : Rule) (k : Nat) (st : State) : Prop where
  facts : YearFacts r st.cur.year st.info
  timeset : st.timeset = Spec.RRule.timesOf a none none none
  year : st.cur.year = a.dtstart.y + k * a.interval
  nwd : st.info.nwdaymask = none
  mask : ∃ mask, st.info.wnomask = some mask ∧ (mask.length : Int) = st.info.yearlen + 7 ∧
    ∀ j : Int, 0 ≤ j → j < st.info.yearlen →
      Py.getIdx mask j = .ok (if weekClause r.wkst (weeknosOf a) (st.info.yearordinal + j) = true then 1 else 0)

/-- what `rebuild` establishes for a `WeeknoRule` of the argument set `a`: no nth mask, and the week-number mask marks
    the days of the year whose week number (from the start or the end of the week-year) is listed -/
def WeeknoInv (a : Args) (r : Rule) (_y _m : Int) (info : Info) : Prop :=
  info.nwdaymask = none ∧ WeeknoMarks r.wkst (weeknosOf a) info info.yearlen

theorem wy_filter (wa : WeeknoYMArgs a) (h : construct a = .ok r) :
    PeriodFilter a r 1 9999 (WeeknoInv a r) yearDays where
  lo := by omega
  hi := by omega
  rebuild := fun y m hy1 hy2 _ _ => by
    have D := construct_dateFields h
    obtain ⟨w, hw1, hw2⟩ := wnomaskOf_in D wa.weekno wa.wkst hy1 hy2
    exact ⟨_, rebuild_eq r m hy1 hy2 hw1 (buildNwdaymask_off (by rw [D.bynweekday]; exact bynweekday_plain wa.plainDays) ..)
      (eastermaskOf_off (D.easter_off wa.byeaster) ..), rfl, hw2 _ _⟩
  filtered := fun {y m info i} f inv hi =>
    have D := construct_dateFields h
    plain_filtered D wa.monthdayArg_nz wa.plainDays f i hi.1 (by have := hi.2; omega) inv.1
      (weekno_miss_on D wa.weekno inv.2 hi.1 hi.2) (easter_miss_off D wa.byeaster ..)

/-- the state invariant of the YEARLY refinement, read for this family -/
theorem wy_good (wa : WeeknoYArgs a) {k : Nat} {st : State} (g : PeriodGood (WeeknoInv a r) a r k st) :
    WeeknoGood a r k st :=
  ⟨g.facts, g.timeset, g.yearly wa.freq, g.inv.1, g.inv.2⟩

/-- **`iter_eq_spec`, YEARLY with BYWEEKNO on the complement of D-C01c** (a listed 52/53 comes with −1,
    a listed −52/−53 comes with 1): FREQ=YEARLY, INTERVAL ≥ 1, a valid start, any week start, any
    BYMONTH / BYMONTHDAY (non-zero) / BYYEARDAY / plain BYDAY / BYHOUR / BYMINUTE / BYSECOND / BYSETPOS, any
    COUNT / UNTIL, no nth BYDAY / BYEASTER: exactly the specification's recurrence set (weeks of at least four
    days, numbered from the start or the end of the week-year). -/
theorem iter_eq_spec_yearly_weekno (wa : WeeknoYArgs a) (h : construct a = .ok r) (n : Nat)
    (hy : a.dtstart.y + n * a.interval ≤ 9999) :
    (iter r n).1 = Spec.RRule.occ a n := by
  have hv := wa.valid
  unfold DT.Valid ValidDate at hv
  exact yearly_refines h wa.freq wa.valid (wy_filter wa.ym h) n hv.1.1 hy

end RRule
