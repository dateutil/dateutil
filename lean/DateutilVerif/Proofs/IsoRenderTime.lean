/- Proofs/IsoRenderTime.lean — the `_parse_isotime` loop on the printed time forms: one iteration per printed
   field, the hour-minute(-second(-fraction)) forms in basic and extended format at once. -/
import DateutilVerif.Proofs.IsoTzSound
namespace Iso
open IsoSpec

theorem parseTzstr_render (o : OffForm) (x : Fields) (v : Off) (hw : offWF o x = true)
    (hv : offDenote o x = some v) : parseTzstr (renderOff o x) true = .ok v := by
  have ho : o ≠ .naive := by rintro rfl; cases hv
  rw [offDenote_eq o x ho] at hv
  cases hv
  exact parseTzstr_render_z o x true ho hw

/-- the offset part after a time: nothing (naive) or a zone designator that `_parse_tzstr` reads -/
def OffTail (t : Bytes) (tz : Option Off) : Prop :=
  (t = [] ∧ tz = none) ∨
  (∃ b r v, t = b :: r ∧ (b = 45 ∨ b = 43 ∨ b = 90 ∨ b = 122) ∧ parseTzstr t true = .ok v ∧ tz = some v)

theorem OffTail.nondigit {t : Bytes} {tz : Option Off} (ht : OffTail t tz) :
    t = [] ∨ ∃ b r, t = b :: r ∧ isDigit b = false := by
  rcases ht with ⟨rfl, _⟩ | ⟨b, r, v, rfl, hb, _, _⟩
  · exact Or.inl rfl
  · refine Or.inr ⟨b, r, rfl, ?_⟩
    rcases hb with rfl | rfl | rfl | rfl <;> decide

theorem offTail_render (o : OffForm) (x : Fields) (hw : offWF o x = true) :
    OffTail (renderOff o x) (offDenote o x) := by
  by_cases hn : o = .naive
  · subst hn; exact Or.inl ⟨rfl, rfl⟩
  · have hp := parseTzstr_render_z o x true hn hw
    rw [offDenote_eq o x hn]
    right
    cases o with
    | naive => exact absurd rfl hn
    | Z => exact ⟨90, [], _, rfl, by simp, hp, rfl⟩
    | z => exact ⟨122, [], _, rfl, by simp, hp, rfl⟩
    | hh => exact ⟨signByte x.neg, _, _, rfl, by cases x.neg <;> simp [signByte], hp, rfl⟩
    | hhmm => exact ⟨signByte x.neg, pad2 x.oh ++ pad2 x.om, _, by simp [renderOff], by cases x.neg <;> simp [signByte], hp, rfl⟩
    | hhcmm => exact ⟨signByte x.neg, pad2 x.oh ++ [58] ++ pad2 x.om, _, by simp [renderOff], by cases x.neg <;> simp [signByte], hp, rfl⟩

/-- the optional `:` of the extended formats -/
def colon : Bool → Bytes
  | true => [58]
  | false => []

theorem timeLoop_tail (k : Nat) (ks : List Nat) (t : Bytes) (hs : Bool) (c : TComps) (tz : Option Off)
    (hk : k ≠ 0) (hc : c.tz = none) (ht : OffTail t tz) :
    timeLoop (k :: ks) t hs c = .ok ({ c with tz := tz }, []) := by
  rcases ht with ⟨rfl, rfl⟩ | ⟨b, r, v, rfl, hb, hp, rfl⟩
  · cases c; simp at hc; subst hc; simp [timeLoop]
  · have : isTzStart (b :: r) = true := by
      rcases hb with rfl | rfl | rfl | rfl <;> simp [isTzStart, cDash, cPlus, cZ, cz]
    simp [timeLoop, this, hk, hp]

theorem timeLoop_h (ks : List Nat) (n : Nat) (rest : Bytes) (hs : Bool) (c : TComps) (hn : n < 100) :
    timeLoop (0 :: ks) (pad2 n ++ rest) hs c = timeLoop ks rest hs { c with h := n } := by
  simp [timeLoop, pad2, isTzStart, sepStep, parseDigits_2 _ hn, setComp, cDash, cPlus, cZ, cz]

/-- the minute: a colon here sets `has_sep` -/
theorem timeLoop_m (ext : Bool) (ks : List Nat) (n : Nat) (rest : Bytes) (c : TComps) (hn : n < 100) :
    timeLoop (1 :: ks) (colon ext ++ (pad2 n ++ rest)) false c = timeLoop ks rest ext { c with m := n } := by
  cases ext <;>
    simp [timeLoop, colon, pad2, isTzStart, sepStep, parseDigits_2 _ hn, setComp, cDash, cPlus, cZ, cz, cColon]

/-- the second: a colon is there exactly if `has_sep` -/
theorem timeLoop_s (ext : Bool) (ks : List Nat) (n : Nat) (rest : Bytes) (c : TComps) (hn : n < 100) :
    timeLoop (2 :: ks) (colon ext ++ (pad2 n ++ rest)) ext c = timeLoop ks rest ext { c with s := n } := by
  cases ext <;>
    simp [timeLoop, colon, pad2, isTzStart, sepStep, parseDigits_2 _ hn, setComp, cDash, cPlus, cZ, cz, cColon]

theorem takeWhile_digits (ds : List Nat) (t : Bytes) (ht : t = [] ∨ ∃ b r, t = b :: r ∧ isDigit b = false) :
    (ds.map dch ++ t).takeWhile isDigit = ds.map dch := by
  induction ds with
  | nil =>
    rcases ht with rfl | ⟨b, r, rfl, hb⟩
    · simp
    · simp [hb]
  | cons d ds ih => simp [ih]

theorem fracMicros_def (ds : List Nat) :
    fracMicros ds = ofDigits (ds.take 6) * 10 ^ (6 - (ds.take 6).length) := rfl

theorem fracMicros_eq (ds : List Nat) (hd : ∀ d ∈ ds, d ≤ 9) :
    digitsVal ((ds.map dch).take 6) * 10 ^ (6 - ((ds.map dch).take 6).length) = fracMicros ds := by
  rw [← List.map_take, List.length_map, digitsVal_map_dch _ fun d h => hd d (List.mem_of_mem_take h),
    fracMicros_def]

theorem timeLoop_f3 (ks : List Nat) (mark : Nat) (ds : List Nat) (t : Bytes) (hs : Bool) (c : TComps)
    (hm : mark = 46 ∨ mark = 44) (hne : ds ≠ []) (hd : ∀ d ∈ ds, d ≤ 9)
    (ht : t = [] ∨ ∃ b r, t = b :: r ∧ isDigit b = false) :
    timeLoop (3 :: ks) (mark :: (ds.map dch ++ t)) hs c = timeLoop ks t hs { c with us := fracMicros ds } := by
  have hts : isTzStart (mark :: (ds.map dch ++ t)) = false := by
    rcases hm with rfl | rfl <;> simp [isTzStart, cDash, cPlus, cZ, cz]
  have hmf : matchFraction (mark :: (ds.map dch ++ t)) = some (ds.map dch, t) := by
    have hm' : mark = cDot ∨ mark = cComma := by simpa [cDot, cComma] using hm
    simp [matchFraction, hm', takeWhile_digits ds t ht, hne]
  rw [← fracMicros_eq ds hd]
  simp only [timeLoop]
  simp [hts, sepStep, hmf, setComp]

/-- the hour-minute, hour-minute-second and fraction forms, in extended or basic format -/
def hmForm : Bool → TimeForm
  | true => .hmExt
  | false => .hmBas
def hmsForm : Bool → TimeForm
  | true => .hmsExt
  | false => .hmsBas
def hmsfForm : Bool → Bool → TimeForm
  | true, comma => .hmsfExt comma
  | false, comma => .hmsfBas comma

theorem renderTime_hmForm (ext : Bool) (x : Fields) :
    renderTime (hmForm ext) x = pad2 x.hh ++ (colon ext ++ pad2 x.mm) := by
  cases ext <;> simp [hmForm, renderTime, colon]
theorem renderTime_hmsForm (ext : Bool) (x : Fields) :
    renderTime (hmsForm ext) x = pad2 x.hh ++ (colon ext ++ (pad2 x.mm ++ (colon ext ++ pad2 x.ss))) := by
  cases ext <;> simp [hmsForm, renderTime, colon]
theorem renderTime_hmsfForm (ext comma : Bool) (x : Fields) :
    renderTime (hmsfForm ext comma) x =
      pad2 x.hh ++ (colon ext ++ (pad2 x.mm ++ (colon ext ++ (pad2 x.ss ++ (fracMark comma :: x.frac.map dch))))) := by
  cases ext <;> simp [hmsfForm, renderTime, colon]

theorem timeLoop_render (tf : TimeForm) (x : Fields) (t : Bytes) (tz : Option Off) (htf : tf ≠ .none)
    (hh : (timeShown tf x).1 < 100) (hm : (timeShown tf x).2.1 < 100) (hs : (timeShown tf x).2.2.1 < 100)
    (hfr : tf.hasFrac = true → x.frac ≠ [] ∧ ∀ d ∈ x.frac, d ≤ 9) (ht : OffTail t tz) :
    ¬ (renderTime tf x ++ t).length < 2 ∧
    timeLoop [0, 1, 2, 3, 4, 5] (renderTime tf x ++ t) false {} =
      .ok ({ h := (timeShown tf x).1, m := (timeShown tf x).2.1, s := (timeShown tf x).2.2.1,
             us := (timeShown tf x).2.2.2, tz := tz }, []) := by
  have len : ∀ r : Bytes, ¬ (pad2 x.hh ++ r).length < 2 := by intro r; simp [pad2]
  have h1 : ∀ ks, x.hh < 100 → ¬ (renderTime .h x ++ t).length < 2 ∧
      timeLoop (0 :: 1 :: ks) (renderTime .h x ++ t) false {} = .ok ({ h := x.hh, tz := tz }, []) := by
    intro ks hh
    rw [renderTime, timeLoop_h _ _ _ _ _ hh, timeLoop_tail _ _ _ _ _ tz (by decide) rfl ht]
    exact ⟨len _, rfl⟩
  have h2 : ∀ ext ks, x.hh < 100 → x.mm < 100 → ¬ (renderTime (hmForm ext) x ++ t).length < 2 ∧
      timeLoop (0 :: 1 :: 2 :: ks) (renderTime (hmForm ext) x ++ t) false {} =
      .ok ({ h := x.hh, m := x.mm, tz := tz }, []) := by
    intro ext ks hh hm
    rw [renderTime_hmForm, List.append_assoc, List.append_assoc, timeLoop_h _ _ _ _ _ hh, timeLoop_m _ _ _ _ _ hm,
      timeLoop_tail _ _ _ _ _ tz (by decide) rfl ht]
    exact ⟨len _, rfl⟩
  have h3 : ∀ ext ks, x.hh < 100 → x.mm < 100 → x.ss < 100 → ¬ (renderTime (hmsForm ext) x ++ t).length < 2 ∧
      timeLoop (0 :: 1 :: 2 :: 3 :: ks) (renderTime (hmsForm ext) x ++ t) false {} =
      .ok ({ h := x.hh, m := x.mm, s := x.ss, tz := tz }, []) := by
    intro ext ks hh hm hs
    rw [renderTime_hmsForm, List.append_assoc, List.append_assoc, List.append_assoc, List.append_assoc,
      timeLoop_h _ _ _ _ _ hh, timeLoop_m _ _ _ _ _ hm, timeLoop_s _ _ _ _ _ hs,
      timeLoop_tail _ _ _ _ _ tz (by decide) rfl ht]
    exact ⟨len _, rfl⟩
  have h4 : ∀ ext cm ks, x.hh < 100 → x.mm < 100 → x.ss < 100 → (x.frac ≠ [] ∧ ∀ d ∈ x.frac, d ≤ 9) →
      ¬ (renderTime (hmsfForm ext cm) x ++ t).length < 2 ∧
      timeLoop (0 :: 1 :: 2 :: 3 :: 4 :: ks) (renderTime (hmsfForm ext cm) x ++ t) false {} =
      .ok ({ h := x.hh, m := x.mm, s := x.ss, us := fracMicros x.frac, tz := tz }, []) := by
    intro ext cm ks hh hm hs hf
    rw [renderTime_hmsfForm, List.append_assoc, List.append_assoc, List.append_assoc, List.append_assoc,
      List.append_assoc, List.cons_append, timeLoop_h _ _ _ _ _ hh, timeLoop_m _ _ _ _ _ hm, timeLoop_s _ _ _ _ _ hs,
      timeLoop_f3 _ _ _ _ _ _ (by cases cm <;> simp [fracMark]) hf.1 hf.2 ht.nondigit,
      timeLoop_tail _ _ _ _ _ tz (by decide) rfl ht]
    exact ⟨len _, rfl⟩
  cases tf with
  | none => exact absurd rfl htf
  | h => exact h1 _ hh
  | hmExt => exact h2 true _ hh hm
  | hmBas => exact h2 false _ hh hm
  | hmsExt => exact h3 true _ hh hm hs
  | hmsBas => exact h3 false _ hh hm hs
  | hmsfExt cm => exact h4 true cm _ hh hm hs (hfr rfl)
  | hmsfBas cm => exact h4 false cm _ hh hm hs (hfr rfl)

theorem timeWF_iff (tf : TimeForm) (x : Fields) : timeWF tf x = true ↔
    (((timeShown tf x).1 ≤ 23 ∧ (timeShown tf x).2.1 ≤ 59 ∧ (timeShown tf x).2.2.1 ≤ 59) ∨
     ((timeShown tf x).1 = 24 ∧ (timeShown tf x).2.1 = 0 ∧ (timeShown tf x).2.2.1 = 0 ∧ (timeShown tf x).2.2.2 = 0)) ∧
    (tf.hasFrac = true → x.frac ≠ [] ∧ ∀ d ∈ x.frac, d ≤ 9) := by
  cases hf : tf.hasFrac <;> simp [timeWF, hf]

theorem parseIsotime_render (tf : TimeForm) (x : Fields) (t : Bytes) (tz : Option Off)
    (htf : tf ≠ .none) (hw : timeWF tf x = true) (ht : OffTail t tz) :
    parseIsotime (renderTime tf x ++ t) =
      .ok { h := (timeShown tf x).1, m := (timeShown tf x).2.1, s := (timeShown tf x).2.2.1,
            us := (timeShown tf x).2.2.2, tz := tz } := by
  obtain ⟨hrange, hfr⟩ := (timeWF_iff tf x).mp hw
  obtain ⟨hlen, hloop⟩ := timeLoop_render tf x t tz htf (by omega) (by omega) (by omega) hfr ht
  rw [parseIsotime, if_neg hlen, hloop]
  simp only []
  rw [if_neg (by simp), if_neg (by omega)]

end Iso
