/-
  Proofs/RRuleNthEYearly.lean — YEARLY with nth BYDAY TOGETHER with BYEASTER (nth members only = outside D-C01a; offsets
  −80..250, years 1583..4099), without BYMONTH: the nth weekday is counted inside the year (with BYMONTH: see
  RRuleNthEYM.lean).  Both computed masks.
-/
import DateutilVerif.Proofs.RRuleNthEMonthly
import DateutilVerif.Proofs.RRuleNthYM

namespace RRule
open Cal

variable {a : Args} {r : Rule} {y : Int} {info : Info}

structure NthEYArgs (a : Args) : Prop where
  freq : a.freq = 0
  interval : 1 ≤ a.interval
  valid : a.dtstart.Valid
  byweekno : a.byweekno = none
  monthday_nz : ∀ x ∈ a.bymonthday.getD [], x ≠ 0
  bymonth : a.bymonth = none
  weekdays : ∃ l, a.byweekday = some l ∧ l ≠ [] ∧ ∀ w ∈ l, (0 ≤ w.1 ∧ w.1 ≤ 6) ∧ w.2 ≠ 0
  easter : ∃ el, a.byeaster = some el ∧ el ≠ [] ∧ ∀ o ∈ el, -80 ≤ o ∧ o ≤ 250

structure NthEYGood (a : Args) (r : Rule) (k : Nat) (st : State) : Prop where
  facts : YearFacts r st.cur.year st.info
  timeset : st.timeset = Spec.RRule.timesOf a none none none
  year : st.cur.year = a.dtstart.y + k * a.interval
  masks : ∃ nmask emask, st.info.nwdaymask = some nmask ∧ (nmask.length : Int) = st.info.yearlen ∧
    (∀ j : Int, 0 ≤ j → j < st.info.yearlen →
      Py.getIdx nmask j = .ok (if ∃ wn ∈ nwlOf (stripEas a), marks st.info 0 (st.info.yearlen - 1) j wn then 1 else 0)) ∧
    st.info.eastermask = some emask ∧ st.info.yearlen ≤ (emask.length : Int) ∧
    (∀ j : Int, 0 ≤ j → j < st.info.yearlen →
      Py.getIdx emask j =
        .ok (if (st.info.yearordinal + j - Spec.RRule.easterOrd st.cur.year) ∈ eastersOf a then 1 else 0))

/-- what `rebuild` establishes here: the nth-weekday mask and the Easter mask of the year -/
def NthEYInv (a : Args) (y m : Int) (info : Info) : Prop := NthYInv (stripEas a) y m info ∧ EasterMarks a y info

theorem ney_filter (na : NthEYArgs a) (h : construct a = .ok r) : PeriodFilter a r 1583 4099 (NthEYInv a) yearDays where
  lo := by omega
  hi := by omega
  rebuild := fun y m hy1 hy2 _ _ => by
    have D := construct_dateFields h
    obtain ⟨n, hn, hN⟩ := nthY_build D na.freq na.weekdays na.bymonth (by omega : 1 ≤ y) (by omega : y ≤ 9999) m
    obtain ⟨e, he, hE⟩ := eastermaskOf_in D na.easter hy1 hy2
    exact ⟨_, rebuild_eq r m (by omega) (by omega) (wnomaskOf_off (D.weekno_off na.byweekno) ..) hn he, hN _ _, hE _ _⟩
  filtered := fun {y m info i} f inv hi =>
    have D := construct_dateFields h
    nth_filtered D (monthdayArg_nz na.monthday_nz na.valid) (nwl_facts (Or.inl na.freq) na.weekdays).2.2.2.1 f i
      hi.1 hi.2 inv.1.marked (fun _ => nthY_part na.freq na.weekdays na.bymonth f hi) (weekno_miss_off D na.byweekno ..)
      (easter_miss_on D na.easter f inv.2.marked hi.1 hi.2 hi.2)

/-- the state invariant of the YEARLY refinement, read for this family -/
theorem ney_good (na : NthEYArgs a) {k : Nat} {st : State} (g : PeriodGood (NthEYInv a) a r k st) :
    NthEYGood a r k st := by
  obtain ⟨⟨nm, a1, a2, a3⟩, em, b1, b2, b3⟩ := g.inv
  exact ⟨g.facts, g.timeset, g.yearly na.freq, nm, em, a1, a2, a3, b1, b2, b3⟩

/-- **`iter_eq_spec`, YEARLY (no BYMONTH) with nth weekdays counted inside the year and BYEASTER** -/
theorem iter_eq_spec_yearly_nth_easter (na : NthEYArgs a) (h : construct a = .ok r) (n : Nat)
    (hlo : 1583 ≤ a.dtstart.y) (hy : a.dtstart.y + n * a.interval ≤ 4099) :
    (iter r n).1 = Spec.RRule.occ a n := by
  exact yearly_refines h na.freq na.valid (ney_filter na h) n hlo hy

example : NthEYArgs { freq := 0, dtstart := ⟨2024, 1, 1, 9, 0, 0, 0⟩, byweekday := some [(4, 13), (4, 14), (4, 15)],
                      byeaster := some [-2] } :=
  ⟨rfl, by decide, by decide, rfl, by intro x hx; simp at hx, rfl, ⟨[(4, 13), (4, 14), (4, 15)], rfl, by decide, by decide⟩,
   ⟨[-2], rfl, by decide, by decide⟩⟩

end RRule
