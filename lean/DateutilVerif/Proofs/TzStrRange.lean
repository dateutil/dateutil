/-
  Proofs/TzStrRange.lean — a `tzstr` zone (Model/TzStr.lean) as a `RangeZone` (Model/Zones.lean),
  the calendar facts relating `yearOf` to year starts, and "daylight time by the year's pair"
  = POSIX `isDstAt` when the transitions of the neighbouring years lie inside their own years.
-/
import DateutilVerif.Model.TzStr
import DateutilVerif.Spec.Posix
import DateutilVerif.Proofs.RangeZone
import DateutilVerif.Proofs.Calendar

namespace TZ
open Cal

/-- seconds between ordinal 0 (Model/TzStr, Spec/Posix) and the epoch (Model/Zones) -/
def epochShift : Int := 719163 * 86400

def abbrBytes (o : Option String) : List UInt8 := (o.getD "").toUTF8.toList

/-- the `tzrangebase` view of a tzstr / tzrange zone.  `transitions(year)` raising (years 1 and
    9999, where the weekday search may leave datetime's range) is outside every theorem's domain and
    is mapped to `none` here. -/
def ofTzStr (z : TzStr.Zone) : RangeZone :=
  { stdOff := z.stdOff, dstOff := z.dstOff, hasdst := z.hasdst,
    transitions := fun y => match TzStr.transitions z y with
      | .ok (some (a, b)) => some (a - epochShift, b - epochShift)
      | _ => none,
    stdAbbr := abbrBytes z.stdAbbr, dstAbbr := abbrBytes z.dstAbbr }

/-- UTC instant (seconds since ordinal 0) at which year `y` starts -/
def ys (y : Int) : Int := toOrdinal y 1 1 * 86400

theorem yearOf_shift (t : Int) : yearOf t = (fromOrdinal ((t + epochShift) / 86400)).1 := by
  unfold yearOf epochShift
  rw [Py.fdiv_pos t (by omega : (0 : Int) < 86400)]
  congr 2
  omega

theorem valid11 (y : Int) : ValidYMD y 1 1 := by
  have := daysInMonth_bounds y 1
  exact ⟨by omega, by omega, by omega, by omega⟩

/-- the year of an ordinal is the unique `y` whose year contains it -/
theorem year_of_ordinal (n y : Int) (h1 : 1 ≤ n) :
    (fromOrdinal n).1 = y ↔ (toOrdinal y 1 1 ≤ n ∧ n < toOrdinal (y + 1) 1 1) := by
  obtain ⟨e, hv, _⟩ := toOrdinal_fromOrdinal n h1
  generalize (fromOrdinal n).1 = Y at *
  generalize (fromOrdinal n).2.1 = m at *
  generalize (fromOrdinal n).2.2 = d at *
  have lo : toOrdinal Y 1 1 ≤ n := by
    rw [← e]
    by_cases c : m = 1 ∧ d = 1
    · rw [c.1, c.2]; exact Int.le_refl _
    · exact Int.le_of_lt (toOrdinal_lt_of_lex Y 1 1 Y m d (valid11 Y) hv
        (Or.inr ⟨rfl, by obtain ⟨a, _, c', _⟩ := hv; omega⟩))
  have hi : n < toOrdinal (Y + 1) 1 1 := by
    rw [← e]; exact toOrdinal_lt_of_lex Y m d (Y + 1) 1 1 hv (valid11 _) (Or.inl (by omega))
  constructor
  · intro h; subst h; exact ⟨lo, hi⟩
  · intro ⟨a, b⟩
    by_cases c1 : Y < y
    · have := year_start_mono (Y + 1) y (by omega); omega
    by_cases c2 : y < Y
    · have := year_start_mono (y + 1) Y (by omega); omega
    omega

theorem fromOrdinal_year_nonpos (n : Int) (h : n ≤ 0) : (fromOrdinal n).1 ≤ 1 := by
  unfold fromOrdinal
  simp only []
  generalize hn400 : (n - 1) / 146097 = n400
  generalize hr : (n - 1) % 146097 = r
  generalize hn100 : r / 36524 = n100
  generalize hr2 : r % 36524 = r2
  generalize hn4 : r2 / 1461 = n4
  generalize hr3 : r2 % 1461 = r3
  generalize hn1 : r3 / 365 = n1
  split <;> simp only [] <;> omega

/-- `yearOf t = y` ⇔ the instant lies in year `y` (UTC, seconds since ordinal 0) -/
theorem yearOf_iff (t y : Int) (h : 86400 ≤ t + epochShift) :
    yearOf t = y ↔ (ys y ≤ t + epochShift ∧ t + epochShift < ys (y + 1)) := by
  rw [yearOf_shift, year_of_ordinal _ _ (by omega)]
  unfold ys
  constructor <;> intro ⟨a, b⟩ <;> constructor <;> omega

open Posix in
/-- both transitions of year `y` lie inside year `y` (UTC) -/
def Inside (s : Posix.Spec) (y : Int) : Prop :=
  ys y ≤ startUtc s y ∧ startUtc s y < ys (y + 1) ∧ ys y ≤ endUtc s y ∧ endUtc s y < ys (y + 1)

open Posix in
/-- **the year's pair decides like POSIX.**  `T` lies in year `Y`; in `Y−1`, `Y`, `Y+1` the
    transitions lie inside their own years and come in the same order.  Then "daylight by the pair
    of year `Y`" (either order: `[start, end)` or the complement of `[end, start)`) is POSIX's
    `isDstAt`. -/
theorem naive_eq_posix (s : Posix.Spec) (Y T : Int) (hT1 : ys Y ≤ T) (hT2 : T < ys (Y + 1))
    (hyear : (fromOrdinal (T / 86400)).1 = Y)
    (i0 : Inside s (Y - 1)) (i1 : Inside s Y) (i2 : Inside s (Y + 1))
    (o0 : startUtc s (Y - 1) < endUtc s (Y - 1) ↔ startUtc s Y < endUtc s Y)
    (o2 : startUtc s (Y + 1) < endUtc s (Y + 1) ↔ startUtc s Y < endUtc s Y) :
    RangeZone.naiveIsdst T (startUtc s Y, endUtc s Y) = isDstAt s T := by
  have e : Y - 1 + 1 = Y := by omega
  obtain ⟨a0, a1, a2, a3⟩ := i0
  obtain ⟨b0, b1, b2, b3⟩ := i1
  obtain ⟨c0, c1, c2, c3⟩ := i2
  rw [e] at a1 a3
  have := year_start_mono (Y + 1) (Y + 1 + 1) (by omega)
  unfold ys at *
  rw [Bool.eq_iff_iff, RangeZone.naiveIsdst_iff]
  unfold isDstAt inDstOfYear
  simp only [hyear, e, Bool.or_eq_true]
  by_cases hN : startUtc s Y < endUtc s Y
  · simp only [hN, o0.mpr hN, o2.mpr hN, if_true, decide_eq_true_eq, true_and, not_true_eq_false, false_and, or_false]
    omega
  · have h0 : ¬ startUtc s (Y - 1) < endUtc s (Y - 1) := fun h => hN (o0.mp h)
    have h2 : ¬ startUtc s (Y + 1) < endUtc s (Y + 1) := fun h => hN (o2.mp h)
    simp only [hN, h0, h2, if_false, decide_eq_true_eq, false_and, not_false_eq_true, true_and, false_or]
    omega

open Posix in
/-- both transitions of year `y` lie inside year `y` with a margin `m` at both ends -/
def InsideM (s : Posix.Spec) (y m : Int) : Prop :=
  ys y + m ≤ startUtc s y ∧ startUtc s y + m ≤ ys (y + 1) ∧
  ys y + m ≤ endUtc s y ∧ endUtc s y + m ≤ ys (y + 1)

theorem InsideM.inside {s : Posix.Spec} {y m : Int} (h : InsideM s y m) (hm : 0 < m) : Inside s y := by
  obtain ⟨a, b, c, d⟩ := h
  exact ⟨by omega, by omega, by omega, by omega⟩

theorem naiveIsdst_shift (x a b k : Int) :
    RangeZone.naiveIsdst (x - k) (a - k, b - k) = RangeZone.naiveIsdst x (a, b) := by
  rw [Bool.eq_iff_iff, RangeZone.naiveIsdst_iff, RangeZone.naiveIsdst_iff]
  omega

open Posix in
/-- **the wall-clock year's pair decides like the UTC year's pair.**  `T` lies in year `Y`, the
    wall reading `T + o` (`o` the standard or the daylight offset) in year `Y−1`, `Y` or `Y+1`; in
    all three years the transitions keep a margin `m ≥ |std|, |dst|, saving` from the year ends and
    come in the same order.  Then the pair of the wall-clock year makes, at that reading, the same
    naive decision and the same repeated-interval decision as the pair of year `Y`. -/
theorem decisions_cohere (s : Posix.Spec) (m Y T o : Int) (hT1 : ys Y ≤ T) (hT2 : T < ys (Y + 1))
    (hsav : s.stdOff < s.dstOff) (ho : o = s.stdOff ∨ o = s.dstOff)
    (hstd : -m ≤ s.stdOff) (hdst : s.dstOff ≤ m) (hsave : s.dstOff - s.stdOff ≤ m)
    (i0 : InsideM s (Y - 1) m) (i1 : InsideM s Y m) (i2 : InsideM s (Y + 1) m)
    (o0 : startUtc s (Y - 1) < endUtc s (Y - 1) ↔ startUtc s Y < endUtc s Y)
    (o2 : startUtc s (Y + 1) < endUtc s (Y + 1) ↔ startUtc s Y < endUtc s Y) :
    ∃ y', (ys y' ≤ T + o ∧ T + o < ys (y' + 1)) ∧ (y' = Y - 1 ∨ y' = Y ∨ y' = Y + 1) ∧
      RangeZone.naiveIsdst (T + o) (startUtc s y' + s.stdOff, endUtc s y' + s.stdOff) =
        RangeZone.naiveIsdst (T + o) (startUtc s Y + s.stdOff, endUtc s Y + s.stdOff) ∧
      (decide (endUtc s y' + s.stdOff ≤ T + o) && decide (T + o < endUtc s y' + s.stdOff + (s.dstOff - s.stdOff))) =
        (decide (endUtc s Y + s.stdOff ≤ T + o) && decide (T + o < endUtc s Y + s.stdOff + (s.dstOff - s.stdOff))) := by
  have e : Y - 1 + 1 = Y := by omega
  obtain ⟨a0, a1, a2, a3⟩ := i0
  obtain ⟨b0, b1, b2, b3⟩ := i1
  obtain ⟨c0, c1, c2, c3⟩ := i2
  rw [e] at a1 a3
  have ho' : s.stdOff ≤ o ∧ o ≤ s.dstOff := by rcases ho with h | h <;> omega
  by_cases hlo : T + o < ys Y
  · refine ⟨Y - 1, ⟨by omega, by rw [e]; exact hlo⟩, Or.inl rfl, ?_, ?_⟩
    · rw [Bool.eq_iff_iff, RangeZone.naiveIsdst_iff, RangeZone.naiveIsdst_iff]
      omega
    · rw [Bool.eq_iff_iff]
      simp only [Bool.and_eq_true, decide_eq_true_eq]
      omega
  by_cases hhi : ys (Y + 1) ≤ T + o
  · refine ⟨Y + 1, ⟨hhi, by omega⟩, Or.inr (Or.inr rfl), ?_, ?_⟩
    · rw [Bool.eq_iff_iff, RangeZone.naiveIsdst_iff, RangeZone.naiveIsdst_iff]
      omega
    · rw [Bool.eq_iff_iff]
      simp only [Bool.and_eq_true, decide_eq_true_eq]
      omega
  · exact ⟨Y, ⟨by omega, by omega⟩, Or.inr (Or.inl rfl), rfl, rfl⟩

theorem amb_shift (x b sav k : Int) :
    (decide (b - k ≤ x - k) && decide (x - k < b - k + sav)) = (decide (b ≤ x) && decide (x < b + sav)) := by
  rw [Bool.eq_iff_iff]; simp only [Bool.and_eq_true, decide_eq_true_eq]; omega

theorem ys_ge (y : Int) (h : 1 ≤ y) : 86400 ≤ ys y := by
  have := year_start_mono 1 y h
  have e : toOrdinal 1 1 1 = 1 := by decide
  unfold ys; omega

end TZ
