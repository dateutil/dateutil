/- Proofs/IsoScan.lean — `_parse_isodate_common` and `_parse_isodate_uncommon` cut into stages (after the year:
   month, day; week, ordinal), each a function of the remaining suffix, so that every argument about the scanners
   goes stage by stage; and the stages on a printed field followed by anything. -/
import DateutilVerif.Proofs.IsoDigits
namespace Iso
open IsoSpec Py

/-! `hasSep` is `has_sep` of the Python code: the date is in extended format. -/

/-- `_parse_isodate_common` from the day on; `r` is the suffix after the month -/
def commonDay (hasSep : Bool) (y m : Int) (r : Bytes) : R ((Int × Int × Int) × Bytes) :=
  if hasSep && r.take 1 != [cDash] then .error .ValueError else do
  let r := if hasSep then r.drop 1 else r
  if r.length < 2 then .error .ValueError else do
  let d ← parseDigits (r.take 2) 2
  .ok ((y, m, d), r.drop 2)

/-- `_parse_isodate_common` from the month on; `r` is the suffix after the year and its dash -/
def commonMonth (hasSep : Bool) (y : Int) (r : Bytes) : R ((Int × Int × Int) × Bytes) :=
  if r.length < 2 then .error .ValueError else do
  let m ← parseDigits (r.take 2) 2
  let r := r.drop 2
  if r = [] then (if hasSep then .ok ((y, m, 1), r) else .error .ValueError) else commonDay hasSep y m r

theorem parseIsodateCommon_stages (s : Bytes) : parseIsodateCommon s =
    (if s.length < 4 then .error .ValueError else do
     let y ← parseDigits (s.take 4) 4
     let r := s.drop 4
     if r = [] then .ok ((y, 1, 1), r) else
     commonMonth (r.take 1 == [cDash]) y (if r.take 1 == [cDash] then r.drop 1 else r)) := rfl

/-- the week branch of `_parse_isodate_uncommon` from the day on; `r` is the suffix after the week number -/
def uncommonWeekDay (hasSep : Bool) (year weekno : Int) (r : Bytes) : R ((Int × Int × Int) × Bytes) :=
  if r ≠ [] then
    if (r.take 1 == [cDash]) != hasSep then .error .ValueError else do
    let r := if hasSep then r.drop 1 else r
    let dayno ← parseDigits (r.take 1) 1
    let base ← calculateWeekdate year weekno dayno
    .ok (base, r.drop 1)
  else do
    let base ← calculateWeekdate year weekno 1
    .ok (base, r)

/-- the week branch of `_parse_isodate_uncommon`; `r` is the suffix after the `W` -/
def uncommonWeek (hasSep : Bool) (year : Int) (r : Bytes) : R ((Int × Int × Int) × Bytes) := do
  let weekno ← parseDigits (r.take 2) 2
  uncommonWeekDay hasSep year weekno (r.drop 2)

/-- the ordinal branch of `_parse_isodate_uncommon` after the field has been read -/
def ordinalResult (year ord : Int) (t : Bytes) : R ((Int × Int × Int) × Bytes) :=
  if ord < 1 ∨ ord > 365 + (if Cal.isLeap year then 1 else 0) then .error .ValueError
  else do
    let jan1 ← mkDateOrd year 1 1
    let o ← ordChecked (jan1 + (ord - 1))
    .ok (Cal.fromOrdinal o, t)

/-- the ordinal branch of `_parse_isodate_uncommon`; `r` is the suffix after the year and its dash -/
def uncommonOrdinal (year : Int) (r : Bytes) : R ((Int × Int × Int) × Bytes) :=
  if r.length < 3 then .error .ValueError else do
  let ordinalDay ← parseDigits (r.take 3) 3
  ordinalResult year ordinalDay (r.drop 3)

theorem parseIsodateUncommon_stages (s : Bytes) : parseIsodateUncommon s =
    (if s.length < 4 then .error .ValueError else do
     let year ← parseDigits (s.take 4) 4
     let r := s.drop 4
     let hasSep : Bool := r.take 1 == [cDash]
     let r := if hasSep then r.drop 1 else r
     if r.take 1 == [cW] then uncommonWeek hasSep year (r.drop 1) else uncommonOrdinal year r) := rfl

/-- the optional `-` of the extended formats -/
def dash : Bool → Bytes
  | true => [45]
  | false => []

/-- the calendar, week and ordinal date forms, in extended or basic format -/
def calForm : Bool → DateForm
  | true => .calExt
  | false => .calBas
def weekDForm : Bool → DateForm
  | true => .weekExtD
  | false => .weekBasD
def weekForm : Bool → DateForm
  | true => .weekExt
  | false => .weekBas
def ordForm : Bool → DateForm
  | true => .ordExt
  | false => .ordBas

theorem renderDate_calForm (ext : Bool) (x : Fields) :
    renderDate (calForm ext) x = pad4 x.year ++ (dash ext ++ (pad2 x.a ++ (dash ext ++ pad2 x.b))) := by
  cases ext <;> simp [calForm, renderDate, dash]
theorem renderDate_weekDForm (ext : Bool) (x : Fields) :
    renderDate (weekDForm ext) x = pad4 x.year ++ (dash ext ++ (87 :: (pad2 x.a ++ (dash ext ++ pad1 x.b)))) := by
  cases ext <;> simp [weekDForm, renderDate, dash]
theorem renderDate_weekForm (ext : Bool) (x : Fields) :
    renderDate (weekForm ext) x = pad4 x.year ++ (dash ext ++ (87 :: pad2 x.a)) := by
  cases ext <;> simp [weekForm, renderDate, dash]
theorem renderDate_ordForm (ext : Bool) (x : Fields) :
    renderDate (ordForm ext) x = pad4 x.year ++ (dash ext ++ pad3 x.a) := by
  cases ext <;> simp [ordForm, renderDate, dash]

theorem dateWF_calForm (sw ext : Bool) (x : Fields) :
    dateWF sw (calForm ext) x = decide (Cal.ValidDate x.year x.a x.b) := by cases ext <;> rfl
theorem dateWF_weekDForm (sw ext : Bool) (x : Fields) :
    dateWF sw (weekDForm ext) x =
      (decide (1 ≤ x.year ∧ x.year ≤ 9999 ∧ 1 ≤ x.a ∧ x.a ≤ 53 ∧ 1 ≤ x.b ∧ x.b ≤ 7) &&
       (!sw || decide ((x.a : Int) ≤ isoWeeksInYear x.year))) := by cases ext <;> rfl
theorem dateWF_weekForm (sw ext : Bool) (x : Fields) :
    dateWF sw (weekForm ext) x =
      (decide (1 ≤ x.year ∧ x.year ≤ 9999 ∧ 1 ≤ x.a ∧ x.a ≤ 53) &&
       (!sw || decide ((x.a : Int) ≤ isoWeeksInYear x.year))) := by cases ext <;> rfl
theorem dateWF_ordForm (sw ext : Bool) (x : Fields) :
    dateWF sw (ordForm ext) x =
      decide (1 ≤ x.year ∧ x.year ≤ 9999 ∧ 1 ≤ x.a ∧ (x.a : Int) ≤ Cal.daysInYear x.year) := by cases ext <;> rfl

theorem dateOrdinal_calForm (ext : Bool) (x : Fields) :
    dateOrdinal (calForm ext) x = Cal.toOrdinal x.year x.a x.b := by cases ext <;> rfl
theorem dateOrdinal_weekDForm (ext : Bool) (x : Fields) :
    dateOrdinal (weekDForm ext) x = Cal.isoWeek1Monday x.year + ((x.a : Int) - 1) * 7 + ((x.b : Int) - 1) := by
  cases ext <;> rfl
theorem dateOrdinal_weekForm (ext : Bool) (x : Fields) :
    dateOrdinal (weekForm ext) x = Cal.isoWeek1Monday x.year + ((x.a : Int) - 1) * 7 := by cases ext <;> rfl
theorem dateOrdinal_ordForm (ext : Bool) (x : Fields) :
    dateOrdinal (ordForm ext) x = Cal.toOrdinal x.year 1 1 + ((x.a : Int) - 1) := by cases ext <;> rfl

theorem skip_dash (ext : Bool) (r : Bytes) (hr : (r.take 1 == [cDash]) = false) :
    ((dash ext ++ r).take 1 == [cDash]) = ext ∧
    (if ext = true then (dash ext ++ r).drop 1 else dash ext ++ r) = r := by
  cases ext
  · exact ⟨hr, rfl⟩
  · exact ⟨rfl, rfl⟩

theorem parseIsodateCommon_year (y : Nat) (hy : y < 10000) (r : Bytes) :
    parseIsodateCommon (pad4 y ++ r) =
      if r = [] then .ok (((y : Int), 1, 1), r) else
      commonMonth (r.take 1 == [cDash]) y (if r.take 1 == [cDash] then r.drop 1 else r) := by
  simp [parseIsodateCommon_stages, pad4, parseDigits_4 _ hy, bind, Except.bind]
  intro h; omega

theorem parseIsodateUncommon_year (y : Nat) (hy : y < 10000) (r : Bytes) :
    parseIsodateUncommon (pad4 y ++ r) =
      if (if r.take 1 == [cDash] then r.drop 1 else r).take 1 == [cW]
      then uncommonWeek (r.take 1 == [cDash]) y ((if r.take 1 == [cDash] then r.drop 1 else r).drop 1)
      else uncommonOrdinal y (if r.take 1 == [cDash] then r.drop 1 else r) := by
  simp [parseIsodateUncommon_stages, pad4, parseDigits_4 _ hy, bind, Except.bind]
  intro h; omega

theorem commonMonth_pad2 (ext : Bool) (y : Int) (a : Nat) (ha : a < 100) (r : Bytes) :
    commonMonth ext y (pad2 a ++ r) =
      if r = [] then (if ext then .ok ((y, (a : Int), 1), r) else .error .ValueError)
      else commonDay ext y a r := by
  simp [commonMonth, pad2, parseDigits_2 _ ha, bind, Except.bind]
  intro h; omega

theorem commonDay_pad2 (ext : Bool) (y m : Int) (b : Nat) (hb : b < 100) (t : Bytes) :
    commonDay ext y m (dash ext ++ (pad2 b ++ t)) = .ok ((y, m, (b : Int)), t) := by
  cases ext <;> simp [commonDay, dash, pad2, parseDigits_2 _ hb, cDash, bind, Except.bind]

/-- a week date: the month field starts with `W` -/
theorem commonMonth_W (ext : Bool) (y : Int) (r : Bytes) : commonMonth ext y (87 :: r) = .error .ValueError := by
  unfold commonMonth
  split
  · rfl
  · rw [parseDigits_nondigit _ _ (by cases r <;> simp [isDigit])]; rfl

theorem uncommonWeek_pad2 (ext : Bool) (y : Int) (a : Nat) (ha : a < 100) (r : Bytes) :
    uncommonWeek ext y (pad2 a ++ r) = uncommonWeekDay ext y a r := by
  simp [uncommonWeek, pad2, parseDigits_2 _ ha, bind, Except.bind]

theorem uncommonWeekDay_pad1 (ext : Bool) (y w : Int) (b : Nat) (hb : b < 10) (t : Bytes) :
    uncommonWeekDay ext y w (dash ext ++ (pad1 b ++ t)) =
      (calculateWeekdate y w b).bind fun base => .ok (base, t) := by
  cases ext <;> simp [uncommonWeekDay, dash, pad1, parseDigits_1 _ hb, cDash, bind, Except.bind]

theorem uncommonOrdinal_pad3 (y : Int) (a : Nat) (ha : a < 1000) (t : Bytes) :
    uncommonOrdinal y (pad3 a ++ t) = ordinalResult y a t := by
  simp [uncommonOrdinal, pad3, parseDigits_3 _ ha, bind, Except.bind]
  intro h; omega

end Iso
