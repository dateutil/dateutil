/-
  Proofs/RenderGenB.lean — two-digit years: `DD/MM/YY HH:MM` under `dayfirst` and `YYMMDD` under `yearfirst` (templates
  `eu_yy`, `yymmdd` of C02), for every year inside the window of `parserinfo.convertyear`.
-/
import DateutilVerif.Proofs.RenderSentence
import DateutilVerif.Proofs.RenderFin

namespace PM
open Py PT

def core_eu_yy (t : DT) : List Token :=
  [dtok [t.d.toNat / 10, t.d.toNat], ['/'], dtok [t.m.toNat / 10, t.m.toNat], ['/'], dtok [(t.y.toNat % 100) / 10, t.y.toNat % 100], [' '], dtok [t.hh.toNat / 10, t.hh.toNat], [':'], dtok [t.mm.toNat / 10, t.mm.toNat]]

theorem lex_eu_yy (cls : Char → CClass) [AsciiOK cls] (t : DT) (rest : List Char) (he : NumEnds cls rest) :
    scan cls .init (str_eu_yy t rest) = core_eu_yy t ++ scan cls .init rest := by
  unfold str_eu_yy core_eu_yy
  rw [lex_pad2 cls _ _ (numEnds_ascii cls _ _ (by decide)),
      lex_punct cls '/' _ (by decide),
      lex_pad2 cls _ _ (numEnds_ascii cls _ _ (by decide)),
      lex_punct cls '/' _ (by decide),
      lex_pad2 cls _ _ (numEnds_sp cls _),
      lex_sp,
      lex_pad2 cls _ _ (numEnds_ascii cls _ _ (by decide)),
      lex_punct cls ':' _ (by decide),
      lex_pad2 cls _ _ he]
  rfl

theorem rend_eu_yy (cls : Char → CClass) [AsciiOK cls] (yf : Bool) (year century : Int) (o : Opts) (tznames : List Token) (tzi : TzInfos)
    (ho : StrictOpts o tzi) (hdf : o.dayfirst.getD false = true) (hyf : o.yearfirst.getD yf = false) (t dflt : DT) (ht : t.Valid) (hdv : dflt.Valid) (hwin : Gen.convertyear ⟨century, year⟩ (t.y % 100) false = .ok t.y) :
    Rendering cls false yf year century o tznames tzi dflt (str_eu_yy t) (core_eu_yy t) (NumEnds cls) (Suf1 (Info.default false yf year century))
      ({ t with ss := dflt.ss, us := dflt.us }) := by
  have N := dtNums ht
  refine ⟨fun rest => by simp [str_eu_yy], lex_eu_yy cls t, _, _, [5], rfl, rfl, rfl, rfl, fun fz suf hs =>
    run_date3_hm (l := core_eu_yy t ++ suf) (by rfl) (suf1_colon hs) (Or.inr (Or.inl rfl)) (Or.inl rfl) N.d N.m N.yy (by decide)
      (by decide) (by decide) (Or.inl (by decide)) N.hh N.mm (by decide) (by have := N.bmm; omega), ?_⟩
  refine finish_t yf year century o tznames tzi dflt ht _ _ (t.y.toNat % 100) _ ?_ (convertyear_yy _ ht hwin) rfl rfl (Or.inl rfl)
    ho.tz1 ?_ (valid_fields ht (valid_hh ht) (valid_mm ht) (valid_ss hdv) (valid_us hdv))
  · rw [hdf, hyf]; exact resolve_dmy _ _ _ _ N.bd.2 N.bm.2
  · simp only [fieldOr, N.eh, N.emi]

theorem tpl_eu_yy (cls : Char → CClass) [AsciiOK cls] (yf : Bool) (year century : Int) (o : Opts) (tznames : List Token) (tzi : TzInfos)
    (ho : StrictOpts o tzi) (hdf : o.dayfirst.getD false = true) (hyf : o.yearfirst.getD yf = false) (t dflt : DT) (ht : t.Valid) (hdv : dflt.Valid) (hwin : Gen.convertyear ⟨century, year⟩ (t.y % 100) false = .ok t.y) (off : Off) (hoff : off.Dom) :
    parse cls (Info.default false yf year century) o tznames tzi dflt (str_eu_yy t off.render) =
      .ok { dt := { t with ss := dflt.ss, us := dflt.us }, tz := offZone o tznames off, tokens := none } :=
  (rend_eu_yy cls yf year century o tznames tzi ho hdf hyf t dflt ht hdv hwin).tpl ho off hoff (numEnds_off cls off) (suf1_off false yf year century off)

/-- C15, **a sentence containing one date**: any number of filler words, `eu_yy`, any number of filler words -/
theorem sentence_eu_yy (cls : Char → CClass) [AsciiOK cls] (yf : Bool) (year century : Int) (o : Opts) (tznames : List Token) (tzi : TzInfos)
    (hf : (o.fuzzy || o.fuzzyWithTokens) = true) (htz1 : tzi.applies none = false) (htz2 : tzi.applies (some ['U', 'T', 'C']) = false)
    (hdf : o.dayfirst.getD false = true) (hyf : o.yearfirst.getD yf = false) (t dflt : DT) (ht : t.Valid) (hdv : dflt.Valid) (hwin : Gen.convertyear ⟨century, year⟩ (t.y % 100) false = .ok t.y) (lead ws : List Token) (hlead : ∀ w ∈ lead, fillerWord w = true) (hws : ∀ w ∈ ws, fillerWord w = true) :
    SentenceAnswer cls (Info.default false yf year century) o tznames tzi dflt (leadChars lead ++ str_eu_yy t (fillerChars ws)) ({ t with ss := dflt.ss, us := dflt.us })
      (leadToks lead).length ((leadToks lead).length + 9) :=
  (rend_eu_yy cls yf year century { o with fuzzy := false, fuzzyWithTokens := false } tznames tzi ⟨rfl, rfl, htz1, htz2⟩ hdf hyf t dflt ht hdv hwin).sentence
    hf lead ws hlead hws (numEnds_filler cls ws) (suf1_filler false yf year century ws)

def core_yymmdd (t : DT) : List Token :=
  [dtok [(t.y.toNat % 100) / 10, t.y.toNat % 100, t.m.toNat / 10, t.m.toNat, t.d.toNat / 10, t.d.toNat]]

theorem lex_yymmdd (cls : Char → CClass) [AsciiOK cls] (t : DT) (rest : List Char) (he : NumEnds cls rest) :
    scan cls .init (str_yymmdd t rest) = core_yymmdd t ++ scan cls .init rest := by
  unfold str_yymmdd core_yymmdd
  simp only [digs_dtok, List.cons_append, List.nil_append]
  rw [lex_dtok cls _ _ _ he]

theorem tpl_yymmdd (cls : Char → CClass) [AsciiOK cls] (yf : Bool) (year century : Int) (o : Opts) (tznames : List Token) (tzi : TzInfos)
    (ho : StrictOpts o tzi) (hdf : o.dayfirst.getD false = false) (hyf : o.yearfirst.getD yf = true) (t dflt : DT) (ht : t.Valid) (hdv : dflt.Valid) (hwin : Gen.convertyear ⟨century, year⟩ (t.y % 100) false = .ok t.y) :
    parse cls (Info.default false yf year century) o tznames tzi dflt (str_yymmdd t []) =
      .ok { dt := { t with hh := dflt.hh, mm := dflt.mm, ss := dflt.ss, us := dflt.us }, tz := .naive, tokens := none } := by
  have N := dtNums ht
  refine tpl_date cls _ o tznames tzi ho.fz ho.fwt dflt _ (core_yymmdd t) _ _ _ _
    (by simpa [scan_init_nil] using lex_yymmdd cls t [] trivial)
    (loop_six_date (fuel := 0) (l := core_yymmdd t) (by rfl) (dval_pad2 _ (Nat.mod_lt _ (by decide))) (dval_pad2 _ (by have := N.bm; omega))
      (dval_pad2 _ (by have := N.bd; omega))) ?_
  refine finish_t yf year century o tznames tzi dflt ht _ _ (t.y.toNat % 100) _ ?_ (convertyear_yy _ ht hwin) rfl rfl (Or.inl rfl)
    ho.tz1 rfl (valid_fields ht (valid_hh hdv) (valid_mm hdv) (valid_ss hdv) (valid_us hdv))
  rw [hdf, hyf]; exact resolve_ymd _ _ _ _ N.bm.2 N.bd.2

end PM
