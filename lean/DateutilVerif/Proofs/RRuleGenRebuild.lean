/-
  Proofs/RRuleGenRebuild.lean — the re-translated `_iterinfo.rebuild` (Generated/RRuleKernels.lean: sections
  `rebuild_if1 … rebuild_if7` and `rebuild`) against the hand model's `rebuild`.
-/
import DateutilVerif.Proofs.RRuleGenLoops
import DateutilVerif.Proofs.RRuleTables
import DateutilVerif.Proofs.Calendar

namespace RRuleGen
open RRule RrPy

theorem sliceIndices_from (k n : Int) (h0 : 0 ≤ k) (h1 : k ≤ n) :
    Py.sliceIndices (some k) none none n = .ok (k, n, 1) := by
  simp only [Py.sliceIndices, Option.getD_none]
  rw [if_neg (by decide), if_neg (by decide : ¬ (1 : Int) < 0), if_neg (by omega), if_neg (by omega),
    if_neg (by decide), if_neg (by decide)]

theorem filterMap_rangeList {α} (l : List α) (k m : Nat) :
    ((List.range m).map (fun (j : Nat) => (k : Int) + (j : Int) * 1)).filterMap (fun i => l[i.toNat]?) =
      (l.drop k).take m := by
  induction m with
  | zero => rfl
  | succ m ih =>
    rw [List.range_succ, List.map_append, List.filterMap_append, ih, List.take_add_one, List.getElem?_drop]
    have : ((k : Int) + (m : Int) * 1).toNat = k + m := by omega
    simp only [List.map_cons, List.map_nil, List.filterMap_cons, List.filterMap_nil, this]
    cases l[k + m]? <;> rfl

/-- `l[k:]` is `l.drop k` -/
theorem slice_from {α} (l : List α) (k : Int) (h0 : 0 ≤ k) (h1 : k ≤ l.length) :
    Py.slice l (some k) none none = .ok (l.drop k.toNat) := by
  simp only [Py.slice, sliceIndices_from k l.length h0 h1, bind, Except.bind, Py.rangeList]
  rw [if_pos (by decide)]
  have : (if k < l.length then (((l.length : Int) - k + 1 - 1) / 1).toNat else 0) = l.length - k.toNat := by
    split <;> omega
  have hk : k = (k.toNat : Int) := by omega
  rw [this, hk, filterMap_rangeList, List.take_of_length_le (by rw [List.length_drop]; omega), ← hk]

theorem rebuild_if1_eq (leap : Bool) (wday : Int) (h0 : 0 ≤ wday) (h1 : wday < 7) :
    Gen.rebuild_if1 (365 + RrPy.b2i leap) wday =
      .ok (if leap then Gen.M366MASK else Gen.M365MASK, if leap then Gen.MDAY366MASK else Gen.MDAY365MASK,
           if leap then Gen.NMDAY366MASK else Gen.NMDAY365MASK, Gen.WDAYMASK.drop wday.toNat,
           if leap then Gen.M366RANGE else Gen.M365RANGE) := by
  cases leap <;> simp [Gen.rebuild_if1, RrPy.b2i, slice_from Gen.WDAYMASK wday h0 (by rw [RRule.Tables.lengths.2.2.2.2.2.2.1]; omega), bind, Except.bind, pure, Except.pure]

/-- the model's `buildWnomask` written with `bind` (same `let`s) -/
theorem buildWnomask_bind (wkst : Int) (l : List Int) (year yearlen yearweekday : Int) (wdaymask : List Int) :
    buildWnomask wkst l year yearlen yearweekday wdaymask =
      (let mask0 : List Int := List.replicate (yearlen + 7).toNat 0
       let firstwkst := Py.fmod (7 - yearweekday + wkst) 7
       let no1wkst := if firstwkst ≥ 4 then 0 else firstwkst
       let wyearlen := if firstwkst ≥ 4 then yearlen + Py.fmod (yearweekday - wkst) 7 else yearlen - firstwkst
       let numweeks := Py.fdiv wyearlen 7 + Py.fdiv (Py.fmod wyearlen 7) 4
       let back := if no1wkst ≠ firstwkst then 7 - firstwkst else 0
       (l.foldlM (wnoStep wdaymask wkst no1wkst numweeks back) mask0).bind fun mask1 =>
       (if l.contains 1 ∧ no1wkst + numweeks * 7 - back < yearlen
           then markWeek wdaymask wkst 7 mask1 (no1wkst + numweeks * 7 - back) else .ok mask1).bind fun mask2 =>
       if no1wkst ≠ 0 ∧ l.contains (lnumweeksOf wkst l year yearlen yearweekday no1wkst) then
         (intRange 0 no1wkst).foldlM (fun mask i => setIdx mask i 1) mask2
       else .ok mask2) := by
  unfold buildWnomask
  dsimp only
  split
  · simp only [*, error_bind]
  · simp only [*, ok_bind]
    split <;> simp only [*, error_bind, ok_bind]

theorem wnomaskOf_some (r : Rule) (year : Int) (b : Info) (w : Int) (ws : List Int) (h : r.byweekno = some (w :: ws)) :
    wnomaskOf r year b = okSome (buildWnomask r.wkst (w :: ws) year b.yearlen b.yearweekday b.wdaymask) := by
  unfold wnomaskOf okSome
  rw [h]
  dsimp only
  split <;> simp only [*]

theorem bind_ok_id {α} (x : Py.R α) : (x.bind fun v => Except.ok v) = x := by cases x <;> rfl
theorem bind_okSome (x : Py.R (List Int)) : (x.bind fun v => Except.ok (some v)) = okSome x := by cases x <;> rfl

theorem okSome_ite (c : Prop) [Decidable c] (x y : Py.R (List Int)) :
    okSome (if c then x else y) = if c then okSome x else okSome y := by split <;> rfl

/-- the code computes `lnumweeks` in a nested `if` before testing it; the model tests the nested value -/
theorem lnum_tail {β} (c0 c1 c2 : Prop) [Decidable c0] [Decidable c1] [Decidable c2] (a b d : Int) (l : List Int)
    (x y : Py.R β) :
    (if c0 then
        Except.bind (if c1 then (if c2 then (Except.ok a : Py.R Int) else .ok b) else .ok d)
          (fun n => if l.contains n = true then x else y)
      else y) =
      if c0 ∧ l.contains (if c1 then (if c2 then a else b) else d) = true then x else y := by
  by_cases h0 : c0 <;> by_cases h1 : c1 <;> by_cases h2 : c2 <;> simp [h0, h1, h2]

theorem rebuild_if2_eq (r : Rule) (b : Info) (year : Int) :
    Gen.rebuild_if2 r b.wdaymask b.yearlen b.yearweekday year = wnomaskOf r year b := by
  match hb : r.byweekno with
  | none => simp [Gen.rebuild_if2, wnomaskOf, hb, truthy, pure, Except.pure]
  | some [] => simp [Gen.rebuild_if2, wnomaskOf, hb, truthy, pure, Except.pure]
  | some (w :: ws) =>
    rw [wnomaskOf_some r year b w ws hb, buildWnomask_bind]
    unfold Gen.rebuild_if2
    simp only [hb, truthy, not_true_eq_false, if_false, Py.fmod_pos _ (by decide : (0 : Int) < 7),
      Py.fdiv_pos _ (by decide : (0 : Int) < 7), Py.fdiv_pos _ (by decide : (0 : Int) < 4), Py.divmod, RrPy.iterO, RrPy.inO,
      RrPy.repeatL, bind, pure, Except.pure, ok_bind, rebuild_loop1_eq, rebuild_loop3_eq, rebuild_loop4_eq,
      okSome_bind_left, okSome_bind, okSome_ite, okSome_ok, length_intRange, lnumweeksOf]
    generalize hfw : (7 - b.yearweekday + r.wkst) % 7 = fw
    have e7 : ((7 : Int) - 0).toNat = 7 := rfl
    simp only [e7]
    by_cases h4 : fw ≥ 4
    · have hf0 : ¬ (0 : Int) = fw := by omega
      simp only [h4, hf0, if_true, if_false, ok_bind, ne_eq, not_true_eq_false, not_false_eq_true, false_and, Int.zero_add]
      by_cases h1 : (w :: ws).contains 1 = true
      · simp only [h1, if_true, true_and, bind_ok_id, bind_okSome, okSome_ite, okSome_ok]
      · simp only [h1, if_false, false_and, Bool.false_eq_true, bind_ok_id, bind_okSome, okSome_ite, okSome_ok, ok_bind]
    · have hff : ¬ fw ≠ fw := by simp
      -- fold the model's `if leap then 1 else 0` to `b2i`; were `b2i` unfolded, simp would rewrite the conditions of the
      -- enclosing `if`s but not their `Decidable` instances, and `rw [lnum_tail]` could not match such an `ite`
      have hb2i : ∀ c : Bool, (if c = true then (1 : Int) else 0) = RrPy.b2i c := fun c => rfl
      simp only [h4, hff, if_true, if_false, ok_bind, ne_eq, not_true_eq_false, not_false_eq_true, Int.sub_zero, hb2i]
      generalize hnw : (b.yearlen - fw) / 7 + (b.yearlen - fw) % 7 / 4 = nw
      congr 1; funext v
      by_cases h1 : (w :: ws).contains 1 = true
      · by_cases hlt : fw + nw * 7 < b.yearlen
        · simp only [h1, hlt, if_true, and_self, okSome_bind_left]
          congr 1; funext m
          rw [lnum_tail, rebuild_loop4_eq]; simp only [Bool.not_eq_true', Bool.not_eq_true]
        · simp only [h1, hlt, if_true, if_false, and_false, ok_bind]
          rw [lnum_tail, rebuild_loop4_eq]; simp only [Bool.not_eq_true', Bool.not_eq_true]
      · simp only [h1, if_false, false_and, Bool.false_eq_true, ok_bind]
        rw [lnum_tail, rebuild_loop4_eq]; simp only [Bool.not_eq_true', Bool.not_eq_true]

theorem eastermaskOf_some (r : Rule) (year : Int) (b : Info) (e : Int) (es : List Int) (h : r.byeaster = some (e :: es)) :
    eastermaskOf r year b = okSome (buildEastermask (e :: es) year b.yearlen b.yearordinal) := by
  unfold eastermaskOf okSome
  rw [h]
  dsimp only
  split <;> simp only [*]

theorem rebuild_if7_eq (r : Rule) (em : Option (List Int)) (b : Info) (year : Int) :
    Gen.rebuild_if7 r em b.yearlen b.yearordinal year =
      if truthy r.byeaster = true then eastermaskOf r year b else .ok em := by
  match hb : r.byeaster with
  | none => simp [Gen.rebuild_if7, hb, truthy, pure, Except.pure]
  | some [] => simp [Gen.rebuild_if7, hb, truthy, pure, Except.pure]
  | some (e :: es) =>
    rw [eastermaskOf_some r year b e es hb]
    unfold Gen.rebuild_if7 buildEastermask
    simp only [hb, truthy, if_true, RrPy.easterDate, RrPy.iterO, RrPy.repeatL, RrPy.mkDate, RrPy.toordinal, bind, pure,
      Except.pure, ok_bind, rebuild_loop8_eq, okSome_bind]
    cases Gen.easter year 3 with
    | error err => rfl
    | ok d =>
      simp only [ok_bind]
      by_cases hv : Cal.validDate d.1 d.2.1 d.2.2 = true
      · simp only [hv, if_true, not_true_eq_false, if_false, ok_bind, bind_ok_id]
      · have hv' : Cal.validDate d.1 d.2.1 d.2.2 = false := by simpa using hv
        simp only [hv']
        rfl

theorem rangeStep_eq (wdaymask : List Int) (nwl : List (Int × Int)) :
    (fun (mask : List Int) (rg : List Int) =>
      match rg with
      | [first, last] => nwl.foldlM (markNth wdaymask first (last - 1)) mask
      | _ => throw Py.PyErr.ValueError) = rangeStep wdaymask nwl := by
  funext mask rg
  unfold rangeStep
  match rg with
  | [] => rfl
  | [_] => rfl
  | [_, _] => rfl
  | _ :: _ :: _ :: _ => rfl

/-- the ranges the model's `buildNwdaymask` works on -/
def nwRanges (r : Rule) (yearlen : Int) (mrange : List Int) (month : Int) : Py.R (List (List Int)) :=
  if r.freq == 0 then
    if truthy r.bymonth then
      (r.bymonth.getD []).mapM (fun m => Py.slice mrange (some (m - 1)) (some (m + 1)) none)
    else pure [[0, yearlen]]
  else if r.freq == 1 then
    (Py.slice mrange (some (month - 1)) (some (month + 1)) none).bind fun s => pure [s]
  else pure []

theorem buildNwdaymask_some (r : Rule) (yearlen : Int) (mrange wdaymask : List Int) (month : Int)
    (nw0 : Int × Int) (nws : List (Int × Int)) (h : r.bynweekday = some (nw0 :: nws)) :
    buildNwdaymask r yearlen mrange wdaymask month =
      (nwRanges r yearlen mrange month).bind fun ranges =>
        if ranges.isEmpty then .ok none
        else okSome (ranges.foldlM (rangeStep wdaymask (nw0 :: nws)) (List.replicate yearlen.toNat 0)) := by
  unfold buildNwdaymask nwRanges
  rw [h]
  simp only [bind, pure, Except.pure]
  by_cases h0 : r.freq = 0
  · by_cases hm : truthy r.bymonth = true
    · simp only [h0, hm, beq_self_eq_true, if_true]
      congr 1; funext ranges
      by_cases he : ranges.isEmpty = true
      · simp [he]
      · simp only [he, Bool.false_eq_true, if_false, bind_okSome]
        congr 2
    · simp only [h0, hm, beq_self_eq_true, if_true, Bool.false_eq_true, if_false, ok_bind, List.isEmpty_cons, bind_okSome]
      congr 2
  · by_cases h1 : r.freq = 1
    · have h01 : ¬ ((1 : Int) = 0) := by decide
      simp only [h1, beq_iff_eq, h01, if_false, if_true, beq_self_eq_true]
      cases Py.slice mrange (some (month - 1)) (some (month + 1)) none with
      | error e => rfl
      | ok s =>
        simp only [ok_bind, List.isEmpty_cons, Bool.false_eq_true, if_false, bind_okSome]
        congr 2
    · simp [h0, h1]

theorem buildNwdaymask_untruthy (r : Rule) (yl : Int) (mr wd : List Int) (m : Int) (h : ¬ truthy r.bynweekday = true) :
    buildNwdaymask r yl mr wd m = .ok none := by
  match hn : r.bynweekday with
  | none => simp [buildNwdaymask, hn, pure, Except.pure]
  | some [] => simp [buildNwdaymask, hn, pure, Except.pure]
  | some (a :: b) => simp [hn, truthy] at h

/-- what `month` holds after the nth-weekday block: `for month in rr._bymonth` REBINDS the parameter, so YEARLY rules
    with BYMONTH and nth weekdays record the last BYMONTH member in `lastmonth` -/
def nwMonth (r : Rule) (month : Int) : Int :=
  if r.freq = 0 ∧ truthy r.bymonth = true then (r.bymonth.getD []).getLast?.getD month else month

theorem rebuild_if4_eq (r : Rule) (month : Int) (mrange : List Int) (yearlen : Int) :
    Gen.rebuild_if4 r month [] mrange yearlen =
      (nwRanges r yearlen mrange month).bind fun rs => .ok (nwMonth r month, rs) := by
  unfold Gen.rebuild_if4 nwRanges nwMonth
  by_cases h0 : r.freq = 0
  · match hm : r.bymonth with
    | none => simp [h0, truthy, pure, Except.pure]
    | some [] => simp [h0, truthy, pure, Except.pure]
    | some (x :: xs) =>
      simp only [h0, truthy, if_true, RrPy.iterO, bind, pure, Except.pure, ok_bind, rebuild_loop5_eq, beq_self_eq_true,
        Option.getD_some, List.nil_append, and_self]
      cases List.mapM (fun m => Py.slice mrange (some (m - 1)) (some (m + 1)) none) (x :: xs) <;> rfl
  · by_cases h1 : r.freq = 1
    · have h01 : ¬ ((1 : Int) = 0) := by decide
      simp only [h1, h01, if_false, if_true, beq_iff_eq, beq_self_eq_true, false_and, bind, pure, Except.pure]
      cases Py.slice mrange (some (month - 1)) (some (month + 1)) none <;> rfl
    · simp [h0, h1, pure, Except.pure]

theorem rebuild_if5_gen (r : Rule) (nwl : List (Int × Int)) (hn : r.bynweekday = some nwl) (ranges : List (List Int))
    (nw0 : Option (List Int)) (wdaymask : List Int) (yearlen : Int) :
    Gen.rebuild_if5 r ranges nw0 wdaymask yearlen =
      if ranges.isEmpty then .ok nw0
      else okSome (ranges.foldlM (rangeStep wdaymask nwl) (List.replicate yearlen.toNat 0)) := by
  unfold Gen.rebuild_if5
  by_cases he : ranges.isEmpty = true
  · simp [he, pure, Except.pure]
  · simp only [he, Bool.not_eq_true, Bool.false_eq_true, if_false]
    have he' : ranges.isEmpty = false := by simpa using he
    simp only [he', if_true, RrPy.repeatL, bind, pure, Except.pure, rebuild_loop6_eq r nwl hn, bind_ok_id]

/-- the ranges are not empty for YEARLY and MONTHLY -/
theorem nwRanges_nonempty (r : Rule) (yl : Int) (mr : List Int) (month : Int) (hf : r.freq = 0 ∨ r.freq = 1)
    (rs : List (List Int)) (h : nwRanges r yl mr month = .ok rs) : rs.isEmpty = false := by
  unfold nwRanges at h
  rcases hf with hf | hf
  · simp only [hf, beq_self_eq_true, if_true] at h
    match hm : r.bymonth with
    | none => simp [hm, truthy, pure, Except.pure] at h; subst h; rfl
    | some [] => simp [hm, truthy, pure, Except.pure] at h; subst h; rfl
    | some (x :: xs) =>
      simp only [hm, truthy, if_true, Option.getD_some, List.mapM_cons, bind] at h
      cases h1 : Py.slice mr (some (x - 1)) (some (x + 1)) none with
      | error e => rw [h1] at h; cases h
      | ok a =>
        rw [h1] at h
        simp only [ok_bind] at h
        cases h2 : List.mapM (fun m => Py.slice mr (some (m - 1)) (some (m + 1)) none) xs with
        | error e => rw [h2] at h; cases h
        | ok b => rw [h2] at h; simp only [ok_bind, pure, Except.pure] at h; cases h; rfl
  · have n10 : ¬ ((1 : Int) = 0) := by decide
    simp only [hf, beq_iff_eq, n10, if_false, if_true] at h
    cases h1 : Py.slice mr (some (month - 1)) (some (month + 1)) none with
    | error e => rw [h1] at h; cases h
    | ok a => rw [h1] at h; simp only [ok_bind, pure, Except.pure] at h; cases h; rfl

/-- sections 4-6 from any incoming `lastmonth`, `lastyear`, nth-weekday slot -/
theorem rebuild_if6_gen (r : Rule) (month year : Int) (lm ly : Option Int) (mrange wdaymask : List Int)
    (nw0 : Option (List Int)) (yearlen : Int) (hnw : nw0 = none ∨ r.freq = 0 ∨ r.freq = 1) :
    Gen.rebuild_if6 r month lm ly mrange nw0 wdaymask yearlen year =
      if truthy r.bynweekday = true ∧ (some month ≠ lm ∨ some year ≠ ly) then
        (buildNwdaymask r yearlen mrange wdaymask month).bind fun nw => .ok (nwMonth r month, nw)
      else .ok (month, nw0) := by
  unfold Gen.rebuild_if6
  by_cases hc : truthy r.bynweekday = true ∧ (some month ≠ lm ∨ some year ≠ ly)
  · simp only [hc, if_true]
    match hn : r.bynweekday with
    | none => simp [hn, truthy] at hc
    | some [] => simp [hn, truthy] at hc
    | some (nw0' :: nws) =>
      rw [buildNwdaymask_some r yearlen mrange wdaymask month nw0' nws hn]
      have hc' := hc
      rw [hn] at hc'
      simp only [bind, pure, Except.pure, rebuild_if4_eq, rebuild_if5_gen r (nw0' :: nws) hn]
      cases hr : nwRanges r yearlen mrange month with
      | error e => rfl
      | ok rs =>
        simp only [ok_bind]
        by_cases he : rs.isEmpty = true
        · have : nw0 = none := by
            rcases hnw with h | h | h
            · exact h
            · have := nwRanges_nonempty r yearlen mrange month (Or.inl h) rs hr; simp [he] at this
            · have := nwRanges_nonempty r yearlen mrange month (Or.inr h) rs hr; simp [he] at this
          simp [he, this]
        · simp only [he, Bool.false_eq_true, if_false]
  · simp only [hc, if_false, pure, Except.pure]

theorem rebuild_bind (r : Rule) (year month : Int) :
    RRule.rebuild r year month =
      if year < 1 ∨ year > 9999 then .error .ValueError
      else
        (wnomaskOf r year (baseInfo year)).bind fun wno =>
        (buildNwdaymask r (baseInfo year).yearlen (baseInfo year).mrange (baseInfo year).wdaymask month).bind fun nwd =>
        (eastermaskOf r year (baseInfo year)).bind fun em =>
        .ok { baseInfo year with wnomask := wno, nwdaymask := nwd, eastermask := em } := by
  unfold RRule.rebuild
  split
  · rfl
  · split
    · simp only [*, error_bind]
    · simp only [*, ok_bind]
      split
      · simp only [*, error_bind]
      · simp only [*, ok_bind]
        split <;> simp only [*, error_bind, ok_bind]

theorem validDate_jan1 (year : Int) : Cal.validDate year 1 1 = decide (¬ (year < 1 ∨ year > 9999)) := by
  simp [Cal.validDate, Cal.ValidDate, Cal.ValidYMD, Cal.daysInMonth]

/-- section 3 from any incoming slots: recomputed when the year differs from `lastyear`, kept otherwise -/
theorem rebuild_if3_eq (r : Rule) (ly : Option Int) (md mm mr : List Int) (nyl : Int) (nmd wd : List Int)
    (wno : Option (List Int)) (yl yo yw year : Int) :
    Gen.rebuild_if3 r ly md mm mr nyl nmd wd wno yl yo yw year =
      if some year ≠ ly then
        (if year < 1 ∨ year > 9999 then .error .ValueError else
          (wnomaskOf r year (baseInfo year)).bind fun w =>
            .ok ((baseInfo year).yearlen, (baseInfo year).nextyearlen, (baseInfo year).yearordinal,
                 (baseInfo year).yearweekday, (baseInfo year).mmask, (baseInfo year).mdaymask, (baseInfo year).nmdaymask,
                 (baseInfo year).wdaymask, (baseInfo year).mrange, w))
      else .ok (yl, nyl, yo, yw, mm, md, nmd, wd, mr, wno) := by
  unfold Gen.rebuild_if3
  by_cases hne : some year ≠ ly
  · simp only [hne, if_true, RrPy.mkDate, validDate_jan1, bind, pure, Except.pure, not_false_eq_true]
    by_cases hy : year < 1 ∨ year > 9999
    · simp [hy]
    · have h0 := (Cal.weekdayOfOrd_range (Cal.toOrdinal year 1 1)).1
      have h1 := (Cal.weekdayOfOrd_range (Cal.toOrdinal year 1 1)).2
      have e1 := rebuild_if1_eq (Cal.isLeap year) (Cal.weekdayOfOrd (Cal.toOrdinal year 1 1)) h0 h1
      have e2 : Gen.rebuild_if2 r (Gen.WDAYMASK.drop (Cal.weekdayOfOrd (Cal.toOrdinal year 1 1)).toNat)
          (365 + RrPy.b2i (Cal.isLeap year)) (Cal.weekdayOfOrd (Cal.toOrdinal year 1 1)) year =
          wnomaskOf r year (baseInfo year) := by
        rw [← rebuild_if2_eq r (baseInfo year) year]
        cases hl : Cal.isLeap year <;> simp [baseInfo, hl, RrPy.b2i]
      simp only [hy, decide_true, decide_false, not_false_eq_true, if_true, if_false, ok_bind, RrPy.toordinal, RrPy.weekday, e1, e2]
      cases wnomaskOf r year (baseInfo year) with
      | error e => rfl
      | ok w =>
        simp only [ok_bind, baseInfo]
        cases Cal.isLeap year <;> cases Cal.isLeap (year + 1) <;> simp [RrPy.b2i]
  · simp [hne, pure, Except.pure]

/-- **`_iterinfo.rebuild` as translated on this run, called on a fresh `_iterinfo`, is the model's `rebuild`**: the same
    exception or the same twelve slots, with `lastyear = year` and `lastmonth` = the month (the last BYMONTH member for
    YEARLY rules with BYMONTH and nth weekdays — the loop variable of `for month in rr._bymonth` shadows the parameter). -/
theorem gen_rebuild_fresh (r : Rule) (year month : Int) :
    Gen.rebuild r {} year month =
      (RRule.rebuild r year month).bind fun info =>
        .ok (RrPy.II.ofInfo info (some year) (some (if truthy r.bynweekday = true then nwMonth r month else month))) := by
  rw [rebuild_bind]
  unfold Gen.rebuild
  have hne : some year ≠ (none : Option Int) := by simp
  have he : (if truthy r.byeaster = true then eastermaskOf r year (baseInfo year) else Except.ok none) =
      eastermaskOf r year (baseInfo year) := by
    unfold eastermaskOf
    match r.byeaster with
    | none => rfl
    | some [] => rfl
    | some (_ :: _) => rfl
  simp only [bind, pure, Except.pure, rebuild_if3_eq]
  rw [if_pos hne]
  by_cases hy : year < 1 ∨ year > 9999
  · rw [if_pos hy, if_pos hy]; rfl
  · rw [if_neg hy, if_neg hy]
    cases wnomaskOf r year (baseInfo year) with
    | error e => rfl
    | ok wno =>
      simp only [ok_bind]
      rw [rebuild_if6_gen r month year none none _ _ none _ (Or.inl rfl), rebuild_if7_eq r none (baseInfo year) year, he]
      by_cases ht : truthy r.bynweekday = true
      · rw [if_pos ⟨ht, Or.inl (by simp)⟩, if_pos ht]
        cases buildNwdaymask r (baseInfo year).yearlen (baseInfo year).mrange (baseInfo year).wdaymask month with
        | error e => rfl
        | ok nwd =>
          simp only [ok_bind]
          cases eastermaskOf r year (baseInfo year) <;> rfl
      · rw [if_neg (fun h => ht h.1), if_neg ht, buildNwdaymask_untruthy r _ _ _ month ht]
        simp only [ok_bind]
        cases eastermaskOf r year (baseInfo year) <;> rfl

end RRuleGen
