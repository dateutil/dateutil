/-
  Proofs/RRuleModDistance.lean — exactness of `rrule.__mod_distance`: starting from `value`, the loop
  visits `(value + t·interval) mod base` for `t = 1, 2, …` and returns at the LEAST `t` whose value is
  in the BY list, together with the carry `(value + t·interval) div base`; it falls off the loop
  (Python `None`, then `TypeError` at the unpacking) iff none of the values visited within its fuel is listed
  (`modDistance_exact`; the code's fuel is `base`, and the values repeat after `base` steps: `unitStep_exact`).
  For a list that passed `__construct_byset` (members congruent to the start modulo gcd(interval, base))
  and a current value on the orbit of the start, a listed member in `0..base−1` is always found.
-/
import DateutilVerif.Model.RRule

namespace RRule

theorem shift_emod (X base q : Int) : (X - base * q) % base = X % base := by
  have : X - base * q = X + base * (-q) := by rw [Int.mul_neg]; omega
  rw [this, Int.add_mul_emod_self_left]

theorem shift_ediv (X base q : Int) (hb : 0 < base) : (X - base * q) / base = X / base - q := by
  have : X - base * q = X + base * (-q) := by rw [Int.mul_neg]; omega
  rw [this, Int.add_mul_ediv_left _ _ (by omega)]; omega

theorem modDistance_exact (interval : Int) (byxxx : List Int) (base : Int) (hb : 0 < base) :
    ∀ (n : Nat) (acc v : Int),
    (∃ s : Nat, 1 ≤ s ∧ s ≤ n ∧ byxxx.contains ((v + s * interval) % base) = true ∧
      (∀ t : Nat, 1 ≤ t → t < s → byxxx.contains ((v + t * interval) % base) = false) ∧
      modDistance interval byxxx base n acc v =
        some (acc + (v + s * interval) / base, (v + s * interval) % base)) ∨
    ((∀ t : Nat, 1 ≤ t → t ≤ n → byxxx.contains ((v + t * interval) % base) = false) ∧
      modDistance interval byxxx base n acc v = none) := by
  intro n
  induction n with
  | zero => intro acc v; right; exact ⟨by intro t h1 h2; omega, rfl⟩
  | succ n ih =>
    intro acc v
    unfold modDistance
    simp only [Py.divmod, Py.fdiv_pos _ hb, Py.fmod_pos _ hb]
    by_cases hc : byxxx.contains ((v + interval) % base) = true
    · left
      refine ⟨1, by omega, by omega, by simpa using hc, by intro t h1 h2; omega, ?_⟩
      rw [if_pos hc]; simp
    · rw [if_neg hc]
      have hcf : byxxx.contains ((v + interval) % base) = false := by
        cases hq : byxxx.contains ((v + interval) % base) with
        | false => rfl
        | true => exact absurd hq hc
      -- the recursive call starts from (v + interval) % base = v + interval − base·q
      have hdecomp : (v + interval) % base = v + interval - base * ((v + interval) / base) := by
        have := Int.emod_add_mul_ediv (v + interval) base; omega
      have key : ∀ s : Nat, (v + interval) % base + (s : Int) * interval =
          (v + ((s + 1 : Nat) : Int) * interval) - base * ((v + interval) / base) := by
        intro s; rw [hdecomp]; push_cast; rw [Int.add_mul]; omega
      rcases ih (acc + (v + interval) / base) ((v + interval) % base) with ⟨s, h1, h2, h3, h4, h5⟩ | ⟨h1, h2⟩
      · left
        refine ⟨s + 1, by omega, by omega, ?_, ?_, ?_⟩
        · rw [key, shift_emod] at h3; exact h3
        · intro t ht1 ht2
          by_cases ht : t = 1
          · subst ht; simpa using hcf
          · have := h4 (t - 1) (by omega) (by omega)
            rw [key, shift_emod] at this
            have e : t - 1 + 1 = t := by omega
            rw [e] at this; exact this
        · rw [h5, key, shift_emod, shift_ediv _ _ _ hb]
          congr 2; omega
      · right
        refine ⟨?_, h2⟩
        intro t ht1 ht2
        by_cases ht : t = 1
        · subst ht; simpa using hcf
        · have := h1 (t - 1) (by omega) (by omega)
          rw [key, shift_emod] at this
          have e : t - 1 + 1 = t := by omega
          rw [e] at this; exact this

/-- **the step on the frequency's own unit** (`__mod_distance` when the BY list is given, else `+interval`): it
    stops at the LEAST `s ≥ 1` whose value passes the list's test, as soon as some step does (the values repeat
    after `base` steps, so `__mod_distance` cannot fall off its loop then) -/
theorem unitStep_exact (interval : Int) (by_ : Option (List Int)) (base : Int) (hb : 0 < base) (n : Nat)
    (hn : (n : Int) = base) (v : Int) (ts : Nat) (hts1 : 1 ≤ ts)
    (hts : (!(truthy by_) || memO ((v + ts * interval) % base) by_) = true) :
    ∃ s : Nat, 1 ≤ s ∧ s ≤ ts ∧ (!(truthy by_) || memO ((v + s * interval) % base) by_) = true ∧
      (∀ t : Nat, 1 ≤ t → t < s → (!(truthy by_) || memO ((v + t * interval) % base) by_) = false) ∧
      (if truthy by_ then modDistance interval (by_.getD []) base n 0 v
       else some (Py.divmod (v + interval) base)) = some ((v + s * interval) / base, (v + s * interval) % base) := by
  cases htr : truthy by_ with
  | false =>
    refine ⟨1, by omega, hts1, rfl, by intro t h1 h2; omega, ?_⟩
    simp [Py.divmod, Py.fdiv_pos _ hb, Py.fmod_pos _ hb]
  | true =>
    obtain ⟨l, rfl⟩ : ∃ l, by_ = some l := by
      cases by_ with
      | none => cases htr
      | some l => exact ⟨l, rfl⟩
    rw [htr] at hts
    simp only [Bool.not_true, Bool.false_or, memO, if_pos, Option.getD_some] at hts ⊢
    rcases modDistance_exact interval l base hb n 0 v with ⟨s, hs1, hs2, hs3, hs4, hs5⟩ | ⟨hnone, _⟩
    · refine ⟨s, hs1, ?_, hs3, hs4, by rw [hs5, Int.zero_add]⟩
      by_cases hc : s ≤ ts
      · exact hc
      · have := hs4 ts hts1 (by omega)
        rw [this] at hts; cases hts
    · exfalso
      have hn0 : 0 < n := by omega
      -- fold `ts` back into the first period of the orbit: t0 = ((ts − 1) mod n) + 1 visits the same value
      obtain ⟨t0, ht0⟩ : ∃ t0 : Nat, t0 = (ts - 1) % n + 1 := ⟨_, rfl⟩
      have hmod := Nat.mod_lt (ts - 1) hn0
      have hdm := Nat.mod_add_div (ts - 1) n
      have ht01 : 1 ≤ t0 ∧ t0 ≤ n := by omega
      obtain ⟨q, hq⟩ : ∃ q : Nat, ts = t0 + n * q := ⟨(ts - 1) / n, by omega⟩
      have e : (v + (ts : Int) * interval) % base = (v + (t0 : Int) * interval) % base := by
        rw [hq]; push_cast
        rw [hn, Int.add_mul, Int.mul_assoc, ← Int.add_assoc, Int.add_mul_emod_self_left]
      rw [e, hnone t0 ht01.1 ht01.2] at hts
      cases hts

theorem bezout (m n : Nat) : ∃ x y : Int, (Nat.gcd m n : Int) = m * x + n * y := by
  induction m, n using Nat.gcd.induction with
  | H0 n => exact ⟨0, 1, by simp⟩
  | H1 m n _ ih =>
    obtain ⟨x, y, h⟩ := ih
    refine ⟨y - (n / m : Nat) * x, x, ?_⟩
    rw [Nat.gcd_rec, h, Int.natCast_emod, Int.emod_def, Int.sub_mul, Int.mul_sub, Int.natCast_ediv, Int.mul_assoc]
    omega

/-- what the filter `(x − start) % gcd(interval, base) == 0` of `__construct_byset` is for: from any `W`, a target
    congruent to `W` modulo the gcd is reached in `1..base` steps of `interval` (Bézout) -/
theorem reach (interval base W x : Int) (hb : 0 < base)
    (hg : (x - W) % ((Int.gcd interval base : Nat) : Int) = 0) :
    ∃ s : Nat, 1 ≤ s ∧ (s : Int) ≤ base ∧ (W + (s : Int) * interval) % base = x % base := by
  obtain ⟨u0, v, huv⟩ := bezout interval.natAbs base.natAbs
  have e2 : ((base.natAbs : Nat) : Int) = base := Int.natAbs_of_nonneg (by omega)
  obtain ⟨u, hu⟩ : ∃ u, ((interval.natAbs : Nat) : Int) * u0 = interval * u := by
    rcases Int.natAbs_eq interval with h | h
    · exact ⟨u0, by rw [← h]⟩
    · exact ⟨-u0, by
        have e : ((interval.natAbs : Nat) : Int) = -interval := by omega
        rw [e, Int.neg_mul, Int.mul_neg]⟩
  rw [hu, e2] at huv
  obtain ⟨q, hq⟩ := Int.dvd_of_emod_eq_zero hg
  have hg' : ((Int.gcd interval base : Nat) : Int) = interval * u + base * v := huv
  rw [hg', Int.add_mul, Int.mul_assoc, Int.mul_assoc] at hq
  -- `s ≡ u·q (mod base)` inside `1..base`
  obtain ⟨s0, hs0⟩ : ∃ s0, s0 = (u * q) % base := ⟨_, rfl⟩
  have hs0r : 0 ≤ s0 ∧ s0 < base := by
    rw [hs0]; exact ⟨Int.emod_nonneg _ (by omega), Int.emod_lt_of_pos _ hb⟩
  have hdec : u * q = s0 + base * ((u * q) / base) := by rw [hs0]; exact (Int.emod_add_mul_ediv _ _).symm
  obtain ⟨s, c, hs1, hs2, hsc⟩ : ∃ (s : Nat) (c : Int), 1 ≤ s ∧ (s : Int) ≤ base ∧ (s : Int) = u * q - base * c := by
    by_cases hz : s0 = 0
    · exact ⟨base.toNat, (u * q) / base - 1, by omega, by omega, by rw [Int.mul_sub]; omega⟩
    · exact ⟨s0.toNat, (u * q) / base, by omega, by omega, by omega⟩
  refine ⟨s, hs1, hs2, ?_⟩
  apply Int.emod_eq_emod_iff_emod_sub_eq_zero.mpr
  apply Int.emod_eq_zero_of_dvd
  refine ⟨-(v * q) - c * interval, ?_⟩
  rw [hsc, Int.sub_mul, Int.mul_sub, Int.mul_neg, Int.mul_comm (u * q) interval, Int.mul_assoc base c interval]
  omega

end RRule
