/-
  Proofs/RRuleTables.lean — the module-level tables of rrule.py (dumped from the imported module on
  every run into `Gen.*`) against the calendar of `Base/Calendar.lean`: every table is compared,
  by evaluation, with the tabulation of the calendar function it stands for.
-/
import DateutilVerif.Generated.Tables
import DateutilVerif.Base.Calendar

namespace RRule.Tables
open Cal

/-- `Cal.daysInMonth` as a function of the leap flag -/
def dimL (leap : Bool) (m : Int) : Int :=
  if m == 2 then (if leap then 29 else 28)
  else if m == 4 || m == 6 || m == 9 || m == 11 then 30 else 31

theorem daysInMonth_eq_dimL (y m : Int) : daysInMonth y m = dimL (isLeap y) m := by
  unfold daysInMonth dimL; rfl

def ylen (leap : Bool) : Int := if leap then 366 else 365

def mmaskOf (leap : Bool) : List Int := if leap then Gen.M366MASK else Gen.M365MASK
def mdaymaskOf (leap : Bool) : List Int := if leap then Gen.MDAY366MASK else Gen.MDAY365MASK
def nmdaymaskOf (leap : Bool) : List Int := if leap then Gen.NMDAY366MASK else Gen.NMDAY365MASK
def mrangeOf (leap : Bool) : List Int := if leap then Gen.M366RANGE else Gen.M365RANGE

/-- expected month at mask index `i` (the 7 extra days are next year's 1..7 January) -/
def monthAt (leap : Bool) (i : Int) : Int := if i < ylen leap then monthOfYday leap i else 1
/-- expected day of month at mask index `i` -/
def mdayAt (leap : Bool) (i : Int) : Int :=
  if i < ylen leap then (monthDayOfYday leap i).2 else i - ylen leap + 1
/-- expected negative day of month (−1 = last day) at mask index `i` -/
def nmdayAt (leap : Bool) (i : Int) : Int :=
  if i < ylen leap then (monthDayOfYday leap i).2 - dimL leap (monthOfYday leap i) - 1
  else i - ylen leap + 1 - 31 - 1

/-- The table whose entry `i` is `f i`, for `i = 0 .. n-1`. -/
def tabulate (f : Int → Int) (n : Nat) : List Int := (List.range n).map (fun (k : Nat) => f k)

theorem getIdx_tabulate (f : Int → Int) (n : Nat) (i : Int) (h0 : 0 ≤ i) (h1 : i < n) :
    Py.getIdx (tabulate f n) i = .ok (f i) := by
  have hi : i.toNat < n := by omega
  simp only [Py.getIdx, tabulate, List.length_map, List.length_range]
  rw [if_neg (by omega), if_neg (by omega), List.getElem?_map, List.getElem?_range hi]
  simp only [Option.map_some, Int.toNat_of_nonneg h0]

/-! Each dumped table is the tabulation of its calendar function, checked in one walk along the table.
    373 = 366 + 7 and 372 = 365 + 7: rrule.py appends the first week of the next year to every year mask
    (a WEEKLY period may run over the year end); `WDAYMASK` is `[0..6] * 55`, 385 entries. -/

theorem mmask_eq : ∀ leap, mmaskOf leap = tabulate (monthAt leap) (if leap then 373 else 372) := by
  decide +kernel
theorem mdaymask_eq : ∀ leap, mdaymaskOf leap = tabulate (mdayAt leap) (if leap then 373 else 372) := by
  decide +kernel
theorem nmdaymask_eq : ∀ leap, nmdaymaskOf leap = tabulate (nmdayAt leap) (if leap then 373 else 372) := by
  decide +kernel
theorem wdaymask_eq : Gen.WDAYMASK = tabulate (· % 7) 385 := by decide +kernel
theorem mrange_eq : ∀ leap, mrangeOf leap =
    tabulate (fun m => dbmTable (m + 1) + (if m + 1 > 2 && leap then 1 else 0)) 13 := by decide +kernel

theorem lengths : Gen.M366MASK.length = 373 ∧ Gen.M365MASK.length = 372 ∧ Gen.MDAY366MASK.length = 373 ∧
    Gen.MDAY365MASK.length = 372 ∧ Gen.NMDAY366MASK.length = 373 ∧ Gen.NMDAY365MASK.length = 372 ∧
    Gen.WDAYMASK.length = 385 ∧ Gen.M366RANGE.length = 13 ∧ Gen.M365RANGE.length = 13 := by decide +kernel

theorem ylen_add_seven (leap : Bool) : ylen leap + 7 = ((if leap then 373 else 372 : Nat) : Int) := by
  cases leap <;> rfl

/-- **month mask**: every entry of `M366MASK` / `M365MASK` is the month of that day of the year
    (and January for the 7 days of the following year) -/
theorem mmask_spec (leap : Bool) (i : Int) (h0 : 0 ≤ i) (h1 : i < ylen leap + 7) :
    Py.getIdx (mmaskOf leap) i = .ok (monthAt leap i) := by
  rw [mmask_eq]; exact getIdx_tabulate _ _ i h0 (ylen_add_seven leap ▸ h1)

theorem mdaymask_spec (leap : Bool) (i : Int) (h0 : 0 ≤ i) (h1 : i < ylen leap + 7) :
    Py.getIdx (mdaymaskOf leap) i = .ok (mdayAt leap i) := by
  rw [mdaymask_eq]; exact getIdx_tabulate _ _ i h0 (ylen_add_seven leap ▸ h1)

theorem nmdaymask_spec (leap : Bool) (i : Int) (h0 : 0 ≤ i) (h1 : i < ylen leap + 7) :
    Py.getIdx (nmdaymaskOf leap) i = .ok (nmdayAt leap i) := by
  rw [nmdaymask_eq]; exact getIdx_tabulate _ _ i h0 (ylen_add_seven leap ▸ h1)

/-- **weekday mask**: `WDAYMASK[i] = i mod 7` on all 385 entries -/
theorem wdaymask_spec (i : Int) (h0 : 0 ≤ i) (h1 : i < 385) : Py.getIdx Gen.WDAYMASK i = .ok (i % 7) := by
  rw [wdaymask_eq]; exact getIdx_tabulate _ _ i h0 h1

/-- **month ranges**: `M36xRANGE[m]` = days before month `m+1` (13 entries) -/
theorem mrange_spec (leap : Bool) (m : Int) (h0 : 0 ≤ m) (h1 : m ≤ 12) :
    Py.getIdx (mrangeOf leap) m = .ok (dbmTable (m + 1) + (if m + 1 > 2 && leap then 1 else 0)) := by
  rw [mrange_eq]; exact getIdx_tabulate _ _ m h0 (by omega)

end RRule.Tables
