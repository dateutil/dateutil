/-
  Proofs/ZonesRaw.lean — lifting the index-level facts to `Raw` tables and `Spec.pre`:
  the spec's offset at an instant is the offset of its segment; `Spec.pre` is duplicate-free;
  coverage of wall times.
-/
import DateutilVerif.Proofs.ZonesBuild
import DateutilVerif.Proofs.ZonesWall
import DateutilVerif.Proofs.SpecPre

namespace TZ
open Spec

/-- for every instant, the spec's offset in force is the offset of the instant's segment -/
theorem offsetAt_eq (r : Raw) (hwf : Spec.wf r = true) {b s f : TType}
    (hf : firstType r = some f) (hfb : Rel f b) (hc : Coherent (build r) b s) (hw : WFz (build r) b)
    (t : Int) : offsetAt r t = some (Bo (build r) b (bisectRight (build r).utc t)) := by
  by_cases hlt : bisectRight (build r).utc t < (build r).utc.length
  · obtain ⟨ty, hty, hrel⟩ := typeAt_rel r hwf hf hfb hc hw t hlt
    simp only [offsetAt, hty, Option.map_some]
    rw [hrel.1, hc.ttOf_off _ (by omega) (Or.inl hlt)]
  · have hle := bisectRight_le (build r).utc t
    have heq : bisectRight (build r).utc t = (build r).utc.length := by omega
    have hpos := hc.npos
    have hb := bisectRight_spec t (hc.utc_sorted hw)
    have hutc : (build r).utc = r.trans.map (fun p => p.1) := rfl
    have hn : (build r).utc.length = r.trans.length := by simp [hutc]
    have hty : typeAt r t = r.types[(r.trans.getD (r.trans.length - 1) default).2]? := by
      unfold typeAt
      rw [filter_le_eq_take r.trans t _ (by rw [← hutc]; exact hb), heq, hn,
        getLast?_take _ _ (by omega) (Nat.le_refl _),
        getElem?_eq_some_getD (by omega) default]
    have hok := trans_type_lt r hwf (r.trans.length - 1) (by omega)
    rw [getElem?_eq_some_getD hok default] at hty
    simp only [offsetAt, hty, Option.map_some]
    have htt : (build r).tts.getD ((build r).utc.length - 1) default
        = (finalTypes r).getD (r.trans.getD (r.trans.length - 1) default).2 default := by
      show (r.trans.map _).getD _ _ = _
      rw [hn, getD_map_lt _ _ _ (by omega) default default]
    rw [heq]
    unfold Bo A
    rw [if_neg (by omega), htt]
    exact congrArg some ((relL_final r).getD _).1

theorem fromutcSpec_iff (r : Raw) (hwf : Spec.wf r = true) {b s f : TType}
    (hf : firstType r = some f) (hfb : Rel f b) (hc : Coherent (build r) b s) (hw : WFz (build r) b)
    (t w : Int) : fromutcSpec r t = some w ↔ w = t + Bo (build r) b (bisectRight (build r).utc t) := by
  unfold fromutcSpec
  rw [offsetAt_eq r hwf hf hfb hc hw t]
  simp only [Option.map_some, Option.some.injEq]
  constructor <;> intro h <;> omega

theorem nodup_eraseDups_aux : ∀ (n : Nat) (l : List Int), l.length ≤ n → l.eraseDups.Nodup := by
  intro n
  induction n with
  | zero => intro l h; have : l = [] := List.eq_nil_of_length_eq_zero (by omega)
            subst this; simp
  | succ k ih =>
      intro l h
      cases l with
      | nil => simp
      | cons a as =>
          rw [List.eraseDups_cons, List.nodup_cons]
          refine ⟨?_, ih _ ?_⟩
          · rw [List.mem_eraseDups, List.mem_filter]
            intro ⟨_, h2⟩; simp at h2
          · have := List.length_filter_le (fun b => !b == a) as
            simp only [List.length_cons] at h; omega

theorem pre_nodup (r : Raw) (w : Int) : (pre r w).Nodup := by
  unfold pre
  exact List.Nodup.sublist List.filter_sublist (nodup_eraseDups_aux _ _ (Nat.le_refl _))

/-- a duplicate-free list in which any two of three members coincide has at most two elements -/
theorem length_le_two_of {l : List Int} (hn : l.Nodup)
    (h : ∀ a ∈ l, ∀ b ∈ l, ∀ c ∈ l, a = b ∨ a = c ∨ b = c) : l.length ≤ 2 := by
  match l, hn, h with
  | [], _, _ => simp
  | [_], _, _ => simp
  | [_, _], _, _ => simp
  | a :: b :: c :: rest, hn, h =>
      exfalso
      simp only [List.nodup_cons, List.mem_cons, not_or] at hn
      have := h a (by simp) b (by simp) c (by simp)
      omega

theorem length_eq_two_iff {l : List Int} (hn : l.Nodup) (h2 : l.length ≤ 2) :
    l.length = 2 ↔ ∃ a b, a ≠ b ∧ a ∈ l ∧ b ∈ l := by
  match l, hn, h2 with
  | [], _, _ => simp
  | [x], _, _ =>
      simp only [List.length_cons, List.length_nil, List.mem_singleton]
      constructor
      · intro h; omega
      · intro ⟨a, b, hab, ha, hb⟩; exact absurd (ha.trans hb.symm) hab
  | [x, y], hn, _ =>
      simp only [List.nodup_cons, List.mem_singleton] at hn
      constructor
      · intro _; exact ⟨x, y, hn.1, by simp, by simp⟩
      · intro _; rfl
  | _ :: _ :: _ :: _, _, h2 => simp at h2

theorem U_mem {z : TzFile} (i : Nat) (hi : i < z.utc.length) : U z i ∈ z.utc := by
  unfold U
  rw [List.getD_eq_getElem?_getD, List.getElem?_eq_getElem hi]
  exact List.getElem_mem hi

theorem mem_U {z : TzFile} {u : Int} (h : u ∈ z.utc) : ∃ i, i < z.utc.length ∧ U z i = u := by
  obtain ⟨i, hi, e⟩ := List.mem_iff_getElem.mp h
  refine ⟨i, hi, ?_⟩
  unfold U
  rw [List.getD_eq_getElem?_getD, List.getElem?_eq_getElem hi]
  exact e

section
variable {z : TzFile} {b s : TType} (hc : Coherent z b s) (hwf : WFz z b)
include hc hwf

theorem Coherent.utc_lt (i j : Nat) (hij : i < j) (hj : j < z.utc.length) : U z i < U z j := by
  have h1 := hc.utc_strict hwf i (by omega)
  by_cases e : j = i + 1
  · subst e; exact h1
  · have := hc.utc_sorted hwf (i + 1) j (by omega) hj
    simp only [U] at *; omega

theorem Coherent.count_at (i : Nat) (hi : i < z.utc.length) : bisectRight z.utc (U z i) = i + 1 := by
  rw [hc.count_utc hwf _ _ (by omega)]
  exact ⟨fun _ => by simp, fun hn => hc.utc_lt hwf i (i + 1) (by omega) hn⟩

theorem Coherent.count_before (i : Nat) (hi : i < z.utc.length) : bisectRight z.utc (U z i - 1) = i := by
  rw [hc.count_utc hwf _ _ (by omega)]
  exact ⟨fun h0 => by have := hc.utc_lt hwf (i - 1) i (by omega) hi; omega, fun _ => by omega⟩

end

/-- wall times the tzfile theorems cover: all of them when `ttinfo_std` is the last transition's
    type, otherwise those below the wall reading at which the last transition takes effect -/
def CovWall (r : Raw) (w : Int) : Prop :=
  LastStd (build r) ∨ ∃ u ob oa, lastTime r = some u ∧ offsetAt r (u - 1) = some ob ∧
    offsetAt r u = some oa ∧ w < u + min ob oa

theorem last_is_U (r : Raw) {b s : TType} (hc : Coherent (build r) b s) (u : Int)
    (hlast : lastTime r = some u) : U (build r) ((build r).utc.length - 1) = u := by
  have hutc : (build r).utc = r.trans.map (fun p => p.1) := rfl
  unfold lastTime at hlast
  unfold U
  rw [hutc, List.getD_eq_getElem?_getD, ← List.getLast?_eq_getElem?, List.getLast?_map]
  cases hl : r.trans.getLast? with
  | none => rw [hl] at hlast; simp at hlast
  | some p => rw [hl] at hlast; simp at hlast; simp [hlast]

theorem covWall_covered (r : Raw) (hwf : Spec.wf r = true) {b s f : TType}
    (hf : firstType r = some f) (hfb : Rel f b) (hc : Coherent (build r) b s) (hw : WFz (build r) b)
    (w : Int) (hcov : CovWall r w) (x : Int) (hx : x ≤ w) (fold : Bool) :
    Covered (build r) s (bisectRight (wallOf (build r) fold) x) := by
  rcases hcov with h | ⟨u, ob, oa, h1, h2, h3, h4⟩
  · right; unfold LastStd at h; rw [hc.hs] at h; exact Option.some.inj h
  · left
    have hpos := hc.npos
    have hu := last_is_U r hc u h1
    have e1 := offsetAt_eq r hwf hf hfb hc hw u
    have e2 := offsetAt_eq r hwf hf hfb hc hw (u - 1)
    rw [← hu, hc.count_at hw _ (by omega)] at e1
    rw [← hu, hc.count_before hw _ (by omega)] at e2
    rw [← hu] at h2 h3
    rw [h3] at e1; rw [h2] at e2
    have eo := Option.some.inj e1
    have eb := Option.some.inj e2
    have en : (build r).utc.length - 1 + 1 = (build r).utc.length := by omega
    rw [en] at eo
    have hk : bisectRight (wallOf (build r) fold) x ≤ (build r).utc.length := by
      rw [← hc.wallOf_len fold]; exact bisectRight_le _ _
    by_cases e : bisectRight (wallOf (build r) fold) x = (build r).utc.length
    · exfalso
      cases fold with
      | false =>
          have := ((hc.count_w0 hw x _ (Nat.le_refl _)).mp e).1 hpos
          simp only [Hi] at this; omega
      | true =>
          have := ((hc.count_w1 hw x _ (Nat.le_refl _)).mp e).1 hpos
          simp only [Hi, Lo, en] at this; omega
    · omega

end TZ
