/- Proofs/TzObjEqStr.lean — `tzrange.__init__/transitions/__eq__`, `tzstr._delta` and `tzstr.__init__` TRANSLATED from tz/tz.py
   (Generated/TzObjKernels.lean, regenerated on every run) equal the hand models `TzStr.tzrange`, `TzStr.transitions`,
   `TzStr.zoneEq`, `TzStr.delta`, `TzStr.tzstr` of Model/TzStr.lean / Model/TzRange.lean.

   Both constructors are cut at the same places on the two sides: the pair of offsets (`offs`), then the rules; `_delta` is
   the keyword dictionary of the rule's date, then its `seconds` entry (`delta_seconds`). -/
import DateutilVerif.Generated.TzObjKernels
import DateutilVerif.Proofs.TzGenEqGeneric
namespace TzGen
open Py DtPy ObjPy TzStr

theorem mulM_div (v : Int) : v * M / M = v := by unfold M; omega
theorem add3600 (v : Int) : v * M + 1 * 3600 * M = (v + 3600) * M := by unfold M; omega
theorem tdCheck0 : tdCheck 0 = .ok () := by unfold tdCheck tdLimit; simp
theorem zeroM : (0 : Int) = 0 * M := by simp

/-- `timedelta(seconds=v)` succeeds: the value itself -/
def chk (v : Int) : R Int := match tdCheck v with | .ok _ => .ok v | .error e => .error e

/-- the two offsets of `tzrange.__init__`, in seconds (the default DST offset is one hour ahead of a given standard offset) -/
def offs (so : Option Int) (da : Option String) (d : Option Int) : R (Int × Int) :=
  Except.bind (match so with | some v => chk v | none => .ok 0) fun stdOff =>
  Except.bind (match d with
           | some v => chk v
           | none => .ok (if abbrTruthy da && so.isSome then stdOff + 3600 else 0)) fun dstOff =>
  .ok (stdOff, dstOff)

/-- `timedelta(seconds=o)` guarded by `if o is not None` -/
theorem td_opt (o : Option Int) {α} (e : R Int) (k : Int → R α) :
    Except.bind (if o ≠ none then Except.bind (needInt o) fun t => Except.bind (tdOfSeconds t) fun x => .ok x else e) k =
      match o with
      | some v => Except.bind (chk v) fun u => k (u * M)
      | none => Except.bind e k := by
  cases o with
  | none => rfl
  | some v => cases h : tdCheck v <;> simp [needInt, tdOfSeconds, chk, Except.bind, h]

theorem bind_ok {α β} (a : α) (k : α → R β) : Except.bind (.ok a) k = k a := rfl

theorem ite_ok_bind {α β} (c : Prop) [Decidable c] (a b : α) (k : α → R β) :
    Except.bind (if c then .ok a else .ok b) k = k (if c then a else b) := by
  split <;> rfl

/-- the rules `tzrange.__init__` substitutes for `start=None` / `end=None` when there is a DST abbreviation -/
def startDflt : Delta := { seconds := 7200, month := some 4, day := some 1, weekday := some (6, 1) }
def endDflt : Delta := { seconds := 3600, month := some 10, day := some 31, weekday := some (6, -1) }

/-- the translated constructor: offsets, then the default rules; `start`/`end` other than `None` are kept as given -/
theorem init_eq (sa : Option String) (so : Option Int) (da : Option String) (d : Option Int) (st en : DArg) :
    Gen.tzrange_init sa so da d st en =
      Except.bind (offs so da d) fun p =>
        let st' := if strTruthy da = true ∧ st = .none then .delta startDflt else st
        let en' := if strTruthy da = true ∧ en = .none then .delta endDflt else en
        .ok (sa, da, p.1 * M, p.2 * M, st', en', decide (st'.truthy = true)) := by
  have hs : ObjPy.relativedelta
      { hours := some (some 2), month := some (some 4), day := some (some 1), weekday := some (some 6, some 1) } =
      .ok startDflt := rfl
  have he : ObjPy.relativedelta
      { hours := some (some 1), month := some (some 10), day := some (some 31), weekday := some (some 6, some (-1)) } =
      .ok endDflt := rfl
  unfold Gen.tzrange_init offs
  simp only [hs, he, bind_ok, td_opt, ite_ok_bind]
  rcases so with _ | v1 <;> rcases d with _ | v2 <;> simp only []
  · simp [Except.bind]
  · cases chk v2 <;> simp [Except.bind]
  · cases chk v1 <;> simp [Except.bind, strTruthy]
    split <;> simp [Int.add_mul]
  · cases chk v1 <;> cases chk v2 <;> simp [Except.bind]

theorem tzrange_offs (sa : Option String) (so : Option Int) (da : Option String) (d : Option Int) (st en : Option Delta) :
    TzStr.tzrange sa so da d st en = Except.bind (offs so da d) fun p =>
      let sd := if abbrTruthy da && st.isNone then some startDflt else st
      .ok { stdAbbr := sa, dstAbbr := da, stdOff := p.1, dstOff := p.2, start := sd,
            «end» := if abbrTruthy da && en.isNone then some endDflt else en,
            hasdst := match sd with | some d => d.truthy | none => false } := by
  unfold TzStr.tzrange offs chk
  rcases so with _ | v1 <;> rcases d with _ | v2 <;> simp only [bind, pure, Except.pure]
  · cases abbrTruthy da <;> rfl
  · cases tdCheck v2 <;> rfl
  · cases tdCheck v1 <;> cases abbrTruthy da <;> rfl
  · cases tdCheck v1 <;> cases tdCheck v2 <;> rfl

theorem tzrange_init_eq (sa : Option String) (so : Option Int) (da : Option String) (d : Option Int)
    (st en : Option Delta) :
    (Gen.tzrange_init sa so da d (DArg.ofOpt st) (DArg.ofOpt en)).map zoneOf = TzStr.tzrange sa so da d st en := by
  rw [init_eq, tzrange_offs]
  cases offs so da d with
  | error e => rfl
  | ok p =>
    cases st <;> cases en <;> cases hda : abbrTruthy da <;>
      simp [Except.bind, Except.map, zoneOf, strTruthy, hda, DArg.ofOpt, DArg.toOpt, DArg.truthy, mulM_div]

theorem tzrange_transitions_eq (z : Zone) (year : Int)
    (hz : z.hasdst = true → z.start.isSome ∧ z.«end».isSome) :
    Gen.tzrange_transitions z year = TzStr.transitions z year := by
  unfold Gen.tzrange_transitions TzStr.transitions
  cases hh : z.hasdst with
  | false => simp
  | true =>
    obtain ⟨h1, h2⟩ := hz hh
    obtain ⟨s, hs⟩ := Option.isSome_iff_exists.mp h1
    obtain ⟨e, he⟩ := Option.isSome_iff_exists.mp h2
    simp only [hs, he, jan1, jan1Add, not_true_eq_false, if_false]
    by_cases hy : year < 1 ∨ year > 9999
    · simp [hy, Except.bind, applyDelta, baseInstant, bind]
    · simp [hy, Except.bind, bind]

theorem mulM_inj (a b : Int) : (a * M = b * M) ↔ a = b := by unfold M; omega

theorem tzrange_eq_eq (a b : Zone) : Gen.tzrange_eq a b = .ok (zoneEq a b) := by
  unfold Gen.tzrange_eq zoneEq
  simp only [tdSeconds, mulM_inj]
  congr 1
  rw [Bool.eq_iff_iff]
  simp [and_assoc]

theorem td_fields (a : Int) : tdFieldSeconds (a * M) + tdFieldDays (a * M) * 86400 = a := by
  unfold tdFieldSeconds tdFieldDays M; omega

/-- the last two steps of `_delta`: `seconds` is the rule's time (02:00 by default), less the saving for the end rule -/
theorem delta_seconds (time : Option Int) (isend : Bool) (stdOff dstOff : Int) (kw : Kw) {α} (k : Kw → R α) :
    (Except.bind (if time ≠ none then .ok { kw with seconds := some time } else .ok { kw with seconds := some (some 7200) })
      fun kw => Except.bind (if b2i isend ≠ 0 then
          Except.bind (kwGetInt kw.seconds) fun t =>
            .ok { kw with seconds := some (some (t - (tdFieldSeconds (dstOff * M - stdOff * M) +
              tdFieldDays (dstOff * M - stdOff * M) * 86400))) }
        else .ok kw) k) =
      k { kw with seconds := some (some (time.getD 7200 - if isend then dstOff - stdOff else 0)) } := by
  rw [← Int.sub_mul, td_fields]
  cases time <;> cases isend <;> simp [Except.bind, kwGetInt, b2i]

theorem tzstr_delta_eq (x : Attr) (isend : Bool) (stdOff dstOff : Int)
    (hwk : x.month.isSome → x.weekday.isSome → x.week.isSome) :
    Gen.tzstr_delta (stdOff * M) (dstOff * M) x (b2i isend) = TzStr.delta x isend stdOff dstOff := by
  obtain ⟨month, week, weekday, yday, jyday, day, time⟩ := x
  unfold Gen.tzstr_delta
  simp only [delta_seconds]
  unfold TzStr.delta
  rcases month with _ | m
  · rcases yday with _ | yd
    · rcases jyday with _ | jd
      · cases isend <;> simp [Except.bind, relativedelta, b2i, bind]
      · by_cases hj : jd = 0 <;> simp [Except.bind, relativedelta, bind, hj]
        cases ydayToMonthDay jd <;> rfl
    · by_cases hy : yd = 0 <;> simp [Except.bind, relativedelta, bind, hy]
      cases ydayToMonthDay yd <;> simp
  · rcases weekday with _ | wd
    · rcases day with _ | dd
      · simp [Except.bind, relativedelta, bind, optIntTruthy]
      · by_cases hdd : dd = 0 <;> simp [Except.bind, relativedelta, bind, optIntTruthy, hdd]
    · obtain ⟨wk, rfl⟩ := Option.isSome_iff_exists.mp (hwk rfl rfl)
      by_cases hwk0 : 0 < wk <;> simp [Except.bind, relativedelta, bind, needInt, hwk0]

/-- a rule with a weekday has a week (what `_tzparser.parse` produces) -/
def WkOk (x : Attr) : Prop := x.month.isSome → x.weekday.isSome → x.week.isSome

/-- what `tzstr` passes: `start=False, end=False` are kept, so `hasdst` is false at that point -/
theorem init_false (sa : Option String) (so : Option Int) (da : Option String) (d : Option Int) :
    Gen.tzrange_init sa so da d .false_ .false_ =
      Except.bind (offs so da d) fun p => .ok (sa, da, p.1 * M, p.2 * M, DArg.false_, DArg.false_, false) := by
  rw [init_eq]; simp [DArg.truthy]

/-- the rules part of `tzstr.__init__`: no rule without a DST abbreviation; an end rule only if the start delta is truthy -/
theorem tzstr_rules (sa da : Option String) (a b : Int) (st en : Attr) (h1 : WkOk st) (h2 : WkOk en) :
    Except.map zoneOf (Except.bind (if ¬ (strTruthy da = true) then .ok (DArg.none, DArg.none)
        else Except.bind (Gen.tzstr_delta (a * M) (b * M) st 0) fun t4 =>
          if (DArg.delta t4).truthy = true then
            Except.bind (Gen.tzstr_delta (a * M) (b * M) en 1) fun t5 => .ok (DArg.delta t4, DArg.delta t5)
          else .ok (DArg.delta t4, DArg.false_)) fun (sd, ed) =>
      .ok (sa, da, a * M, b * M, sd, ed, decide (sd.truthy = true))) =
    (if !(match da with | none => false | some a => !a.isEmpty) then
      .ok { stdAbbr := sa, dstAbbr := da, stdOff := a, dstOff := b, start := none, «end» := none, hasdst := false }
    else do
      let sd ← delta st false a b
      if !sd.truthy then
        .ok { stdAbbr := sa, dstAbbr := da, stdOff := a, dstOff := b, start := some sd, «end» := none, hasdst := false }
      else do
      let ed ← delta en true a b
      .ok { stdAbbr := sa, dstAbbr := da, stdOff := a, dstOff := b, start := some sd, «end» := some ed, hasdst := true }) := by
  have e0 : Gen.tzstr_delta (a * M) (b * M) st 0 = delta st false a b := tzstr_delta_eq st false a b h1
  have e1 : Gen.tzstr_delta (a * M) (b * M) en 1 = delta en true a b := tzstr_delta_eq en true a b h2
  rw [e0, e1]
  have hda : strTruthy da = (match da with | none => false | some a => !a.isEmpty) := by cases da <;> rfl
  rw [← hda]
  cases strTruthy da
  · simp [Except.map, Except.bind, zoneOf, mulM_div, DArg.toOpt, DArg.truthy]
  · cases delta st false a b with
    | error e => rfl
    | ok sd =>
      cases hsd : sd.truthy
      · simp [Except.map, Except.bind, zoneOf, mulM_div, DArg.toOpt, DArg.truthy, hsd, bind]
      · cases delta en true a b <;> simp [Except.map, Except.bind, zoneOf, mulM_div, DArg.toOpt, DArg.truthy, hsd, bind]

/-- the GMT/UTC sign flip of `tzstr.__init__` (only when an offset is present) -/
theorem flip_eq (res : Res) (posix : Bool) :
    (if (res.stdabbr = some "GMT" ∨ res.stdabbr = some "UTC") ∧ ¬ posix = true ∧ res.stdoffset ≠ none then
        Except.bind (needInt res.stdoffset) fun v => Except.ok ({ res with stdoffset := some (v * -1) } : Res)
      else Except.ok res) =
    Except.ok { res with stdoffset := if (res.stdabbr == some "GMT" || res.stdabbr == some "UTC") && !posix
                  then res.stdoffset.map (· * -1) else res.stdoffset } := by
  obtain ⟨sa, so, da, d, st, en, u, dep⟩ := res
  by_cases hg : sa = some "GMT" ∨ sa = some "UTC" <;> cases so <;> cases posix <;> simp [hg, needInt, Except.bind]

theorem tzstr_init_eq (s : String) (posix : Bool)
    (hres : ∀ res, TzStr.parse s = .ok (some res) → WkOk res.start ∧ WkOk res.«end») :
    (Gen.tzstr_init s posix).map zoneOf = TzStr.tzstr s posix := by
  unfold Gen.tzstr_init TzStr.tzstr
  cases hp : TzStr.parse s with
  | error e => rfl
  | ok r =>
    cases r with
    | none => rfl
    | some res =>
      obtain ⟨hw1, hw2⟩ := hres res hp
      by_cases hu : res.anyUnused = true
      · simp only [bind_ok, bind, hu, if_true]; rfl
      · simp only [bind_ok, bind, if_neg hu, flip_eq, init_false]
        have key := fun a b => tzstr_rules res.stdabbr res.dstabbr a b res.start res.«end» hw1 hw2
        generalize (if ((res.stdabbr == some "GMT" || res.stdabbr == some "UTC") && !posix) = true then
              Option.map (fun x => x * -1) res.stdoffset else res.stdoffset) = so
        rcases so with _ | v1 <;> rcases res.dstoffset with _ | v2 <;>
          simp only [offs, chk, Option.getD_none, Option.getD_some, tdCheck0, bind_ok, pure, Except.pure, ite_ok_bind]
        · exact key 0 _
        · cases tdCheck v2
          · rfl
          · exact key 0 v2
        · cases tdCheck v1
          · rfl
          · exact key v1 _
        · cases tdCheck v1
          · rfl
          · cases tdCheck v2
            · rfl
            · exact key v1 v2
end TzGen
