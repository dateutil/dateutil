/-
  Proofs/RRuleMinutelyBHM.lean — MINUTELY with BYMINUTE and optionally BYHOUR (in particular both together, the case
  `MinutelyByArgs` and `MinutelyBHArgs` exclude) under the explicit reachability hypothesis `reachableMM`: some minute of
  the grid has listed hour and minute.  The two argument classes as instances of Proofs/RRuleSubMinutely.lean.
-/
import DateutilVerif.Proofs.RRuleMinutely

namespace RRule
open Cal

structure MinutelyBHMArgs (a : Args) : Prop where
  freq : a.freq = 5
  interval : 1 ≤ a.interval
  valid : a.dtstart.Valid
  weekno : WArg a
  byeaster : a.byeaster = none
  monthday_nz : ∀ x ∈ a.bymonthday.getD [], x ≠ 0
  hours : a.byhour = none ∨ ∃ l, a.byhour = some l ∧ l ≠ []
  minutes : ∃ l, a.byminute = some l
  seconds_ok : ∀ x ∈ a.bysecond.getD [], 0 ≤ x ∧ x ≤ 59
  reach : reachableMM a

structure MinutelyBHMEArgs (a : Args) : Prop where
  freq : a.freq = 5
  interval : 1 ≤ a.interval
  valid : a.dtstart.Valid
  byweekno : a.byweekno = none
  easter : ∃ el, a.byeaster = some el ∧ el ≠ [] ∧ ∀ o ∈ el, -80 ≤ o ∧ o ≤ 250
  monthday_nz : ∀ x ∈ a.bymonthday.getD [], x ≠ 0
  hours : a.byhour = none ∨ ∃ l, a.byhour = some l ∧ l ≠ []
  minutes : ∃ l, a.byminute = some l
  seconds_ok : ∀ x ∈ a.bysecond.getD [], 0 ≤ x ∧ x ≤ 59
  reach : reachableMM a

variable {a : Args} {r : Rule}

theorem minutely_reach_mm (hr : reachableMM a) (k : Nat) :
    ∃ t : Nat, 1 ≤ t ∧ t ≤ 1440 ∧ SubFreq.listed .minutely a
      ((a.dtstart.hh * 60 + a.dtstart.mm + ((k + t : Nat) : Int) * a.interval) % 1440) = true := by
  unfold reachableMM at hr
  rw [List.any_eq_true] at hr
  obtain ⟨j, _, hj⟩ := hr
  exact minutely_reach a j hj k

/-- **`iter_eq_spec`, MINUTELY with BYMINUTE and optionally BYHOUR** under `reachableMM a`: `n ≤ m ≤ 2880·n`
    (1439 + 1440, as in `iter_eq_spec_minutely_byhour`) -/
theorem iter_eq_spec_minutely_bhm (ma : MinutelyBHMArgs a) (h : construct a = .ok r) (n : Nat)
    (hle : (Spec.RRule.startOrd a * 24 + a.dtstart.hh) * 60 + a.dtstart.mm + (2880 * n + 1440) * a.interval + 1439 <
      (maxOrdinal + 1) * 1440) :
    ∃ m, n ≤ m ∧ m ≤ 2880 * n ∧ (iter r n).1 = Spec.RRule.occ a m := by
  have hv := ma.valid
  unfold DT.Valid ValidDate at hv
  exact iter_eq_spec_minutely_filter (wFilter h (by rw [ma.freq]; omega) ma.interval ma.valid ma.weekno ma.byeaster ma.monthday_nz) h ma.freq ma.interval ma.valid ma.hours ma.seconds_ok 1440 2880
    (minutely_reach_mm ma.reach) (by omega) n hv.1.1 hle

/-- **`iter_eq_spec_minutely_bhm_easter`**: `iter_eq_spec_minutely_bhm` with BYEASTER instead of "no BYEASTER" —
    offsets −80..250 (the complement of D-C01d), no BYWEEKNO, a start in a year ≥ 1583 and every visited day not
    after 31 December 4099 (where C19 ties `easter.easter` to Meeus/Jones/Butcher); everything else as there, `n ≤
    m ≤ 2880·n`. -/
theorem iter_eq_spec_minutely_bhm_easter (ma : MinutelyBHMEArgs a) (h : construct a = .ok r) (n : Nat)
    (hlo : 1583 ≤ a.dtstart.y)
    (hle : (Spec.RRule.startOrd a * 24 + a.dtstart.hh) * 60 + a.dtstart.mm + (2880 * n + 1440) * a.interval + 1439 <
      (Cal.toOrdinal 4099 12 31 + 1) * 1440) :
    ∃ m, n ≤ m ∧ m ≤ 2880 * n ∧ (iter r n).1 = Spec.RRule.occ a m :=
  iter_eq_spec_minutely_filter (eFilter h (by rw [ma.freq]; omega) ma.interval ma.valid ma.byweekno ma.easter ma.monthday_nz) h ma.freq ma.interval ma.valid ma.hours ma.seconds_ok 1440 2880
    (minutely_reach_mm ma.reach) (by omega) n hlo hle

-- a MinutelyBHMArgs instance: every 25 minutes from 09:00, only at 9:00, 9:30, 17:00, 17:30
-- (reachability by the explicit witness j = 0, the start itself)
example : MinutelyBHMArgs { freq := 5, dtstart := ⟨2024, 1, 1, 9, 0, 0, 0⟩, interval := 25, byhour := some [9, 17],
                            byminute := some [0, 30] } :=
  ⟨rfl, by decide, by decide, Or.inl rfl, rfl, by intro x hx; simp at hx, Or.inr ⟨[9, 17], rfl, by decide⟩,
   ⟨[0, 30], rfl⟩, by intro x hx; simp at hx,
   List.any_eq_true.mpr ⟨0, List.mem_range.mpr (by omega), by decide⟩⟩
-- … and one whose start is not itself listed: from 09:05 every 25 minutes, hour 17 at minute 0 or 30 only
-- (witness j = 19: 09:05 + 475 min = 17:00)
example : MinutelyBHMArgs { freq := 5, dtstart := ⟨2024, 1, 1, 9, 5, 0, 0⟩, interval := 25, byhour := some [17],
                            byminute := some [0, 30], bysecond := some [0, 15] } :=
  ⟨rfl, by decide, by decide, Or.inl rfl, rfl, by intro x hx; simp at hx, Or.inr ⟨[17], rfl, by decide⟩,
   ⟨[0, 30], rfl⟩, by decide,
   List.any_eq_true.mpr ⟨19, List.mem_range.mpr (by omega), by decide⟩⟩

-- non-vacuity: the hypotheses are satisfiable
example : MinutelyBHMEArgs { freq := 5, dtstart := ⟨2024, 1, 1, 9, 0, 0, 0⟩, interval := 25, byeaster := some [0, 1],
                             byhour := some [9, 17], byminute := some [0, 30] } :=
  { freq := rfl, interval := (by decide), valid := (by decide), byweekno := rfl,
    easter := ⟨[0, 1], rfl, by simp, by intro o ho; simp at ho; omega⟩,
    monthday_nz := (by intro x hx; simp at hx), hours := Or.inr ⟨[9, 17], rfl, by decide⟩,
    minutes := ⟨[0, 30], rfl⟩, seconds_ok := (by intro x hx; simp at hx),
    reach := List.any_eq_true.mpr ⟨0, List.mem_range.mpr (by omega), by decide⟩ }

end RRule
