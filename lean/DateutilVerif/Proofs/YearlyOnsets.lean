/-
  Proofs/YearlyOnsets.lean — the recurrence set (C01's specification `Spec.RRule.occ`) of
      DTSTART:<y0>0101T<hhmmss>   RRULE:FREQ=YEARLY;BYMONTH=m;BYDAY=nWD
  is one instant per year, at the POSIX rule date `Posix.ruleOrdinal y (.M m w d)` (week 5 ↔ n = −1,
  POSIX day 0 = Sunday ↔ weekday 6), strictly increasing.
-/
import DateutilVerif.Spec.RRule
import DateutilVerif.Spec.Posix
import DateutilVerif.Proofs.TzStrRange

namespace Onsets
open RRule Spec.RRule Cal

/-- the argument set of the VTIMEZONE sub-component's rule -/
def yearlyNth (y0 hh mm ss m wd n : Int) : Args :=
  { freq := 0, dtstart := { y := y0, m := 1, d := 1, hh := hh, mm := mm, ss := ss },
    bymonth := some [m], byweekday := some [(wd, n)] }

/-- RRULE `n` of a POSIX week number (5 = last) -/
def nthOfWeek (w : Int) : Int := if w = 5 then -1 else w
/-- `relativedelta` / rrule weekday (Monday = 0) of a POSIX day (Sunday = 0) -/
def wdOfPosix (d : Int) : Int := (d + 6) % 7

theorem dateOk_iff (y0 hh mm ss m wd n ord : Int) :
    dateOk (yearlyNth y0 hh mm ss m wd n) ord = true ↔
      ((fromOrdinal ord).2.1 = m ∧ wd = weekdayOfOrd ord ∧
        (n = 0 ∨ if 0 < n then (ord - toOrdinal (fromOrdinal ord).1 (fromOrdinal ord).2.1 1) / 7 + 1 = n
          else -((toOrdinal (fromOrdinal ord).1 (fromOrdinal ord).2.1
                  (daysInMonth (fromOrdinal ord).1 (fromOrdinal ord).2.1) - ord) / 7 + 1) = n)) := by
  simp [dateOk, months, monthdays, weekdays, noDayParts, yearlyNth, nthOk]

/-- day of the month chosen by POSIX `Mm.w.d`, given the ordinal of the 1st and the month length -/
def posixDay (first dim w d : Int) : Int :=
  let day := 1 + (wdOfPosix d - weekdayOfOrd first) % 7 + 7 * (w - 1)
  if day > dim then day - 7 else day

theorem posixDay_ok (first dim w d : Int) (hd : 28 ≤ dim ∧ dim ≤ 31) (hw : 1 ≤ w ∧ w ≤ 5)
    (hdp : 0 ≤ d ∧ d ≤ 6) :
    1 ≤ posixDay first dim w d ∧ posixDay first dim w d ≤ dim ∧
    weekdayOfOrd (first + posixDay first dim w d - 1) = wdOfPosix d ∧
    (if 0 < nthOfWeek w then (posixDay first dim w d - 1) / 7 + 1 = nthOfWeek w
     else -((dim - posixDay first dim w d) / 7 + 1) = nthOfWeek w) := by
  unfold posixDay nthOfWeek wdOfPosix weekdayOfOrd
  simp only
  by_cases h5 : w = 5
  · subst h5
    simp only [if_true, show ¬ ((0 : Int) < -1) from by omega, if_false]
    split <;> omega
  · simp only [h5, if_false]
    have : 0 < w := by omega
    simp only [this, if_true]
    split <;> omega

theorem nth_unique (first dim d1 d2 wd n : Int) (hd : 28 ≤ dim ∧ dim ≤ 31)
    (h1 : 1 ≤ d1 ∧ d1 ≤ dim) (h2 : 1 ≤ d2 ∧ d2 ≤ dim)
    (w1 : weekdayOfOrd (first + d1 - 1) = wd) (w2 : weekdayOfOrd (first + d2 - 1) = wd)
    (c1 : if 0 < n then (d1 - 1) / 7 + 1 = n else -((dim - d1) / 7 + 1) = n)
    (c2 : if 0 < n then (d2 - 1) / 7 + 1 = n else -((dim - d2) / 7 + 1) = n) : d1 = d2 := by
  unfold weekdayOfOrd at w1 w2
  by_cases hn : 0 < n
  · simp only [hn, if_true] at c1 c2; omega
  · simp only [hn, if_false] at c1 c2; omega

theorem ruleOrdinal_eq (y m w d : Int) :
    Posix.ruleOrdinal y (.M m w d) =
      toOrdinal y m 1 + posixDay (toOrdinal y m 1) (daysInMonth y m) w d - 1 := rfl

theorem toOrdinal_day (y m d : Int) : toOrdinal y m d = toOrdinal y m 1 + d - 1 := by
  unfold toOrdinal; omega

theorem in_year_decomp (ord y : Int) (hy : 1 ≤ y) (h1 : toOrdinal y 1 1 ≤ ord)
    (h2 : ord < toOrdinal (y + 1) 1 1) :
    (fromOrdinal ord).1 = y ∧ ValidYMD y (fromOrdinal ord).2.1 (fromOrdinal ord).2.2 ∧
    toOrdinal y (fromOrdinal ord).2.1 (fromOrdinal ord).2.2 = ord := by
  have hp : 1 ≤ ord := by have := toOrdinal_pos y 1 1 hy (TZ.valid11 y); omega
  have hY := (TZ.year_of_ordinal ord y hp).mpr ⟨h1, h2⟩
  obtain ⟨e, v, _⟩ := toOrdinal_fromOrdinal ord hp
  rw [hY] at e v
  exact ⟨hY, v, e⟩

/-- the POSIX rule date lies in its month, hence in its year -/
theorem rule_in_year (y m w d : Int) (hy : 1 ≤ y) (hm : 1 ≤ m ∧ m ≤ 12) (hw : 1 ≤ w ∧ w ≤ 5)
    (hd : 0 ≤ d ∧ d ≤ 6) :
    toOrdinal y 1 1 ≤ Posix.ruleOrdinal y (.M m w d) ∧
    Posix.ruleOrdinal y (.M m w d) < toOrdinal (y + 1) 1 1 ∧
    fromOrdinal (Posix.ruleOrdinal y (.M m w d)) =
      (y, m, posixDay (toOrdinal y m 1) (daysInMonth y m) w d) := by
  obtain ⟨p1, p2, _, _⟩ := posixDay_ok (toOrdinal y m 1) (daysInMonth y m) w d (daysInMonth_bounds y m) hw hd
  have hv : ValidYMD y m (posixDay (toOrdinal y m 1) (daysInMonth y m) w d) := ⟨hm.1, hm.2, p1, p2⟩
  have e : Posix.ruleOrdinal y (.M m w d) = toOrdinal y m (posixDay (toOrdinal y m 1) (daysInMonth y m) w d) := by
    rw [ruleOrdinal_eq, toOrdinal_day y m (posixDay _ _ _ _)]
  rw [e]
  refine ⟨?_, toOrdinal_lt_of_lex _ _ _ _ _ _ hv (TZ.valid11 _) (Or.inl (by omega)),
    fromOrdinal_toOrdinal y m _ hy hv⟩
  by_cases c : m = 1 ∧ posixDay (toOrdinal y m 1) (daysInMonth y m) w d = 1
  · rw [c.1, c.2] at *; exact Int.le_refl _
  · exact Int.le_of_lt (toOrdinal_lt_of_lex y 1 1 y m _ (TZ.valid11 y) hv (Or.inr ⟨rfl, by omega⟩))

theorem filter_singleton {l : List Int} {p : Int → Bool} {r : Int} (hn : l.Nodup) (hr : r ∈ l)
    (hp : p r = true) (hu : ∀ x ∈ l, p x = true → x = r) : l.filter p = [r] := by
  induction l with
  | nil => simp at hr
  | cons a t ih =>
      rw [List.nodup_cons] at hn
      by_cases e : a = r
      · subst e
        rw [List.filter_cons, if_pos hp]
        congr 1
        rw [List.filter_eq_nil_iff]
        intro x hx hpx
        have := hu x (List.mem_cons_of_mem _ hx) hpx
        subst this; exact hn.1 hx
      · have hpa : ¬ p a = true := fun h => e (hu a (by simp) h)
        rw [List.filter_cons, if_neg hpa]
        have hr' : r ∈ t := by
          rcases List.mem_cons.mp hr with h | h
          · exact absurd h.symm e
          · exact h
        exact ih hn.2 hr' (fun x hx => hu x (List.mem_cons_of_mem _ hx))

theorem intRange_nodup (a b : Int) : (intRange a b).Nodup := by
  unfold intRange
  exact List.Pairwise.map _ (fun x y h => by omega) List.nodup_range

theorem mem_intRange (a b x : Int) : x ∈ intRange a b ↔ a ≤ x ∧ x < b := by
  unfold intRange
  simp only [List.mem_map, List.mem_range]
  constructor
  · intro ⟨k, hk, e⟩; omega
  · intro ⟨h1, h2⟩; exact ⟨(x - a).toNat, by omega, by omega⟩

/-- **one candidate date per year**: the days of year `y` admitted by the rule are exactly the
    POSIX rule date -/
theorem filter_year (y0 hh mm ss m w d y : Int) (hy : 1 ≤ y) (hm : 1 ≤ m ∧ m ≤ 12)
    (hw : 1 ≤ w ∧ w ≤ 5) (hd : 0 ≤ d ∧ d ≤ 6) :
    (intRange (toOrdinal y 1 1) (toOrdinal (y + 1) 1 1)).filter
        (dateOk (yearlyNth y0 hh mm ss m (wdOfPosix d) (nthOfWeek w))) =
      [Posix.ruleOrdinal y (.M m w d)] := by
  obtain ⟨r1, r2, r3⟩ := rule_in_year y m w d hy hm hw hd
  obtain ⟨p1, p2, p3, p4⟩ := posixDay_ok (toOrdinal y m 1) (daysInMonth y m) w d (daysInMonth_bounds y m) hw hd
  have hn0 : nthOfWeek w ≠ 0 := by unfold nthOfWeek; split <;> omega
  apply filter_singleton (intRange_nodup _ _) ((mem_intRange _ _ _).mpr ⟨r1, r2⟩)
  · rw [dateOk_iff, r3]
    simp only
    refine ⟨trivial, ?_, Or.inr ?_⟩
    · rw [ruleOrdinal_eq]; exact p3.symm
    · rw [ruleOrdinal_eq, toOrdinal_day y m (daysInMonth y m)]
      have e1 : toOrdinal y m 1 + posixDay (toOrdinal y m 1) (daysInMonth y m) w d - 1 - toOrdinal y m 1
          = posixDay (toOrdinal y m 1) (daysInMonth y m) w d - 1 := by omega
      have e2 : toOrdinal y m 1 + daysInMonth y m - 1 -
          (toOrdinal y m 1 + posixDay (toOrdinal y m 1) (daysInMonth y m) w d - 1)
          = daysInMonth y m - posixDay (toOrdinal y m 1) (daysInMonth y m) w d := by omega
      rw [e1, e2]; exact p4
  · intro x hx hpx
    obtain ⟨x1, x2⟩ := (mem_intRange _ _ _).mp hx
    obtain ⟨q1, q2, q3⟩ := in_year_decomp x y hy x1 x2
    rw [dateOk_iff, q1] at hpx
    obtain ⟨hmo, hwd, hnth⟩ := hpx
    rw [hmo] at q2 q3 hnth
    generalize (fromOrdinal x).2.2 = dd at q2 q3
    have hnth' := hnth.resolve_left hn0
    rw [toOrdinal_day y m dd] at q3
    rw [toOrdinal_day y m (daysInMonth y m)] at hnth'
    have e1 : x - toOrdinal y m 1 = dd - 1 := by omega
    have e2 : toOrdinal y m 1 + daysInMonth y m - 1 - x = daysInMonth y m - dd := by omega
    rw [e1, e2] at hnth'
    have := nth_unique (toOrdinal y m 1) (daysInMonth y m) dd _ (wdOfPosix d) (nthOfWeek w)
      (daysInMonth_bounds y m) ⟨q2.2.2.1, q2.2.2.2⟩ ⟨p1, p2⟩ (by rw [q3]; exact hwd.symm) p3 hnth' p4
    rw [ruleOrdinal_eq, ← this]; omega

/-- the occurrence of year `y` -/
def inst (hh mm ss m w d y : Int) : Inst := { ord := Posix.ruleOrdinal y (.M m w d), h := hh, m := mm, s := ss }

theorem cand_eq (y0 hh mm ss m w d : Int) (k : Int) (hy : 1 ≤ y0 + k) (hm : 1 ≤ m ∧ m ≤ 12)
    (hw : 1 ≤ w ∧ w ≤ 5) (hd : 0 ≤ d ∧ d ≤ 6) :
    sel (yearlyNth y0 hh mm ss m (wdOfPosix d) (nthOfWeek w)) k = [inst hh mm ss m w d (y0 + k)] := by
  unfold sel selOf cand candAt
  have hsp : periodSpan (yearlyNth y0 hh mm ss m (wdOfPosix d) (nthOfWeek w)) (k * 1) =
      (toOrdinal (y0 + k) 1 1, toOrdinal (y0 + k + 1) 1 1, none, none, none) := by
    simp [periodSpan, yearlyNth]
  have hts : timesOf (yearlyNth y0 hh mm ss m (wdOfPosix d) (nthOfWeek w)) none none none = [(hh, mm, ss)] := by
    simp [timesOf, restrict, hours, minutes, seconds, yearlyNth]
  have hi : (yearlyNth y0 hh mm ss m (wdOfPosix d) (nthOfWeek w)).interval = 1 := rfl
  have hb : (yearlyNth y0 hh mm ss m (wdOfPosix d) (nthOfWeek w)).bysetpos = none := rfl
  simp only [hi, hb, hsp, hts, filter_year y0 hh mm ss m w d (y0 + k) hy hm hw hd]
  simp [inst]

theorem maxOrd_eq : toOrdinal 10000 1 1 = maxOrdinal + 1 := by decide

theorem push_inst (y0 hh mm ss m w d y : Int) (c : Cut) (hc : c.done = false) (hy0 : 1 ≤ y0)
    (hy : y0 ≤ y) (hy2 : y ≤ 9999) (hm : 1 ≤ m ∧ m ≤ 12) (hw : 1 ≤ w ∧ w ≤ 5) (hd : 0 ≤ d ∧ d ≤ 6) :
    push (yearlyNth y0 hh mm ss m (wdOfPosix d) (nthOfWeek w)) 0 maxOrdinal c (inst hh mm ss m w d y) =
      { out := inst hh mm ss m w d y :: c.out, n := c.n + 1, done := false } := by
  obtain ⟨r1, r2, _⟩ := rule_in_year y m w d (by omega) hm hw hd
  have h0 := Cal.year_start_mono y0 y hy
  have h1 := Cal.year_start_mono (y + 1) 10000 (by omega)
  have hpos := toOrdinal_pos y0 1 1 hy0 (TZ.valid11 y0)
  rw [maxOrd_eq] at h1
  unfold push
  have hu : afterUntil (yearlyNth y0 hh mm ss m (wdOfPosix d) (nthOfWeek w)) (inst hh mm ss m w d y) = false := rfl
  have hcd : ∀ n, countDone (yearlyNth y0 hh mm ss m (wdOfPosix d) (nthOfWeek w)) n = false := fun _ => rfl
  have hst : ¬ (inst hh mm ss m w d y).micros < startMicros (yearlyNth y0 hh mm ss m (wdOfPosix d) (nthOfWeek w)) := by
    simp only [Inst.micros, Inst.secs, inst, startMicros, DT.toMicros, DT.ordinal, DT.timeMicros, DT.usPerDay,
      yearlyNth]
    omega
  have hmax : ¬ (inst hh mm ss m w d y).ord > maxOrdinal := by simp only [inst]; omega
  have hlo : (0 : Int) ≤ (inst hh mm ss m w d y).ord := by simp only [inst]; omega
  simp only [hc, hu, hcd, hst, hmax, hlo, Bool.false_eq_true, if_false, if_true]

/-- **the recurrence set of the yearly rule**: one instant per year, at the POSIX rule date -/
theorem occ_eq (y0 hh mm ss m w d : Int) (N : Nat) (hy0 : 1 ≤ y0) (hN : y0 + N ≤ 10000)
    (hm : 1 ≤ m ∧ m ≤ 12) (hw : 1 ≤ w ∧ w ≤ 5) (hd : 0 ≤ d ∧ d ≤ 6) :
    occ (yearlyNth y0 hh mm ss m (wdOfPosix d) (nthOfWeek w)) N =
      (List.range N).map (fun (k : Nat) => inst hh mm ss m w d (y0 + k)) := by
  unfold occ
  have key : ∀ n : Nat, y0 + n ≤ 10000 →
      (List.range n).foldl (fun c (k : Nat) =>
        (sel (yearlyNth y0 hh mm ss m (wdOfPosix d) (nthOfWeek w)) (k : Int)).foldl
          (push (yearlyNth y0 hh mm ss m (wdOfPosix d) (nthOfWeek w)) 0 maxOrdinal) c)
        { out := [], n := 0, done := false } =
      { out := ((List.range n).map (fun (k : Nat) => inst hh mm ss m w d (y0 + k))).reverse,
        n := n, done := false } := by
    intro n
    induction n with
    | zero => intro _; rfl
    | succ j ih =>
        intro hj
        rw [List.range_succ, List.foldl_append, ih (by omega)]
        simp only [List.foldl_cons, List.foldl_nil]
        rw [cand_eq y0 hh mm ss m w d j (by omega) hm hw hd]
        simp only [List.foldl_cons, List.foldl_nil]
        rw [push_inst y0 hh mm ss m w d (y0 + j) _ rfl hy0 (by omega) (by omega) hm hw hd]
        simp
  rw [key N hN]
  simp

end Onsets
