/- Proofs/IsoReview.lean — the datetime-level inverse law with the fraction tied to the datetime's microsecond, and the
   law for a date alone. -/
import DateutilVerif.Proofs.IsoDatetime
namespace Iso
open Cal IsoSpec Py

theorem digits6_le9 (n : Nat) : ∀ d ∈ digits6 n, d ≤ 9 := by
  rw [digits6_eq]; exact digitsN_le9 6 n

/-- `t` truncated to what a time form with `k` fraction digits shows -/
def truncDTk (tf : TimeForm) (k : Nat) (t : DT) : DT :=
  { t with mm := if tf.hasM then t.mm else 0, ss := if tf.hasS then t.ss else 0,
           us := if tf.hasFrac then t.us - t.us % 10 ^ (6 - k) else 0 }

/-- the datetime-level inverse law with the fraction digits tied to the datetime's microsecond: rendering the
    first `k ≤ 6` digits of `t.us` and parsing returns `t` with the microsecond truncated to `10^(6-k)` -/
theorem isoparse_inverts_datetime_us (t : DT) (ht : t.Valid) (df : DateForm) (hc : df.complete = true)
    (tf : TimeForm) (htf : tf ≠ .none) (k : Nat) (h1 : 1 ≤ k) (h6 : k ≤ 6)
    (o : OffForm) (xo : Fields) (how : offWF o xo = true) (sep : Nat) (hsep : df = .ordBas → isDigit sep = false)
    (cfg : Option Nat) (hcfg : cfg = none ∨ cfg = some sep) :
    isoparse cfg (render ⟨df, tf, o, sep⟩ (dtFields df t ((digits6 t.us.toNat).take k) xo)) =
      .ok ⟨truncDTk tf k t, offDenote o xo⟩ := by
  have hus : 0 ≤ t.us ∧ t.us ≤ 999999 := ⟨ht.2.2.2.2.2.2.2.1, ht.2.2.2.2.2.2.2.2⟩
  have hfrac : tf.hasFrac = true → (digits6 t.us.toNat).take k ≠ [] ∧ ∀ d ∈ (digits6 t.us.toNat).take k, d ≤ 9 := by
    intro _
    refine ⟨List.ne_nil_of_length_pos ?_, fun d hd => digits6_le9 _ d (List.mem_of_mem_take hd)⟩
    rw [List.length_take, digits6_eq, length_digitsN]; omega
  rw [isoparse_inverts_datetime_core t ht df hc tf htf _ hfrac o xo how sep hsep cfg hcfg]
  congr 2
  unfold truncDT truncDTk
  have hfm := fracMicros_take t.us.toNat k (by omega) h1 h6
  have hcast : ((fracMicros ((digits6 t.us.toNat).take k) : Nat) : Int) = t.us - t.us % 10 ^ (6 - k) := by
    rw [hfm, Int.ofNat_sub (Nat.mod_le _ _), Int.natCast_emod, Int.natCast_pow, Int.toNat_of_nonneg hus.1]
    rfl
  rw [hcast]

/-- … and with all six digits (plus any further digits, which are ignored) the datetime comes back exactly -/
theorem isoparse_inverts_datetime_exact (t : DT) (ht : t.Valid) (df : DateForm) (hc : df.complete = true)
    (tf : TimeForm) (htf : tf.hasFrac = true) (extra : List Nat) (hex : ∀ d ∈ extra, d ≤ 9)
    (o : OffForm) (xo : Fields) (how : offWF o xo = true) (sep : Nat) (hsep : df = .ordBas → isDigit sep = false)
    (cfg : Option Nat) (hcfg : cfg = none ∨ cfg = some sep) :
    isoparse cfg (render ⟨df, tf, o, sep⟩ (dtFields df t (digits6 t.us.toNat ++ extra) xo)) =
      .ok ⟨t, offDenote o xo⟩ := by
  have hus : 0 ≤ t.us ∧ t.us ≤ 999999 := ⟨ht.2.2.2.2.2.2.2.1, ht.2.2.2.2.2.2.2.2⟩
  have hne : tf ≠ .none := by intro h; subst h; cases htf
  have hfrac : tf.hasFrac = true → digits6 t.us.toNat ++ extra ≠ [] ∧ ∀ d ∈ digits6 t.us.toNat ++ extra, d ≤ 9 := by
    intro _
    refine ⟨List.ne_nil_of_length_pos (by rw [List.length_append, digits6_eq, length_digitsN]; omega), fun d hd => ?_⟩
    rcases List.mem_append.mp hd with h | h
    · exact digits6_le9 _ d h
    · exact hex d h
  rw [isoparse_inverts_datetime_core t ht df hc tf hne _ hfrac o xo how sep hsep cfg hcfg]
  congr 2
  have hM : tf.hasM = true := by cases tf <;> first | rfl | cases htf
  have hS : tf.hasS = true := by cases tf <;> first | rfl | cases htf
  unfold truncDT
  rw [fracMicros_extra _ _ (by omega)]
  simp only [hM, hS, htf, if_true, Int.toNat_of_nonneg hus.1]

/-- a date alone: for every valid date and every complete date form fed with the date's own fields, parsing the
    rendering returns that date at midnight -/
theorem isoparse_inverts_date (y m d : Int) (hv : ValidDate y m d) (df : DateForm) (hc : df.complete = true)
    (cfg : Option Nat) :
    isoparse cfg (render ⟨df, .none, .naive, 84⟩ (dateFieldsOf df y m d)) = .ok ⟨{ y, m, d }, none⟩ := by
  obtain ⟨hW, _, hD⟩ := final_dateonly df _ y m d [] (dateFieldsOf_scan df hc y m d hv)
  rw [isoparse_render_core ⟨df, .none, .naive, 84⟩ _ cfg hW (fun h => absurd rfl h) (fun h => absurd rfl h), hD]
end Iso
