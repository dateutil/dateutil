/-
  Proofs/RRuleMonoSub.lean — strict monotonicity for the sub-daily frequencies.
  `__mod_distance` and the MINUTELY / SECONDLY reachability loops move the cursor forward by a
  positive multiple of INTERVAL units; the time set of the new period carries the cursor's
  hour / minute / second; so consecutive periods occupy disjoint, increasing unit windows.
-/
import DateutilVerif.Proofs.RRuleMonoThm

namespace RRule
open Cal

/-- `__mod_distance`: the result is `j ≥ 1` steps of `interval` further, written in base `base` -/
theorem modDistance_spec (interval : Int) (byxxx : List Int) (base : Int) (hb : 0 < base) :
    ∀ (n : Nat) (acc v acc' v' : Int), modDistance interval byxxx base n acc v = some (acc', v') →
    ∃ j : Int, 1 ≤ j ∧ acc' * base + v' = acc * base + v + j * interval ∧ 0 ≤ v' ∧ v' < base := by
  intro n
  induction n with
  | zero => intro acc v acc' v' h; simp [modDistance] at h
  | succ n ih =>
    intro acc v acc' v' h
    unfold modDistance at h
    dsimp only at h
    have hd := divmod_spec (v + interval) base hb
    split at h
    · injection h with h; injection h with h1 h2
      subst h1; subst h2
      refine ⟨1, by omega, ?_, hd.2.1, hd.2.2⟩
      rw [Int.add_mul]; omega
    · obtain ⟨j, hj, e, r1, r2⟩ := ih _ _ _ _ h
      refine ⟨j + 1, by omega, ?_, r1, r2⟩
      rw [e, Int.add_mul, Int.add_mul]; omega

/-- one unit step (`__mod_distance` or the plain `divmod`) of the sub-daily advance -/
theorem unitStep_spec (interval : Int) (by_ : Option (List Int)) (base v : Int) (hb : 0 < base)
    (q v' : Int)
    (h : (if truthy by_ then modDistance interval (by_.getD []) base base.toNat 0 v
          else some (Py.divmod (v + interval) base)) = some (q, v')) :
    ∃ j : Int, 1 ≤ j ∧ q * base + v' = v + j * interval ∧ 0 ≤ v' ∧ v' < base := by
  split at h
  · obtain ⟨j, hj, e, r1, r2⟩ := modDistance_spec interval _ base hb _ _ _ _ _ h
    exact ⟨j, hj, by omega, r1, r2⟩
  · injection h with h
    have hd := divmod_spec (v + interval) base hb
    rw [h] at hd
    dsimp only at hd
    exact ⟨1, by omega, by omega, hd.2.1, hd.2.2⟩

/-- `fixDay` with either flag: the cursor's day number is kept and the cursor ends on a valid date -/
theorem fixDay_any (r : Rule) (st st' : State) (b : Bool) (h : fixDay r st b = .ok st')
    (hm1 : 1 ≤ st.cur.month) (hm12 : st.cur.month ≤ 12) (hd1 : 1 ≤ st.cur.day)
    (hb : b = false → ValidYMD st.cur.year st.cur.month st.cur.day)
    (f : YearFacts r st.cur.year st.info) :
    curOrd st'.cur = curOrd st.cur ∧ ValidYMD st'.cur.year st'.cur.month st'.cur.day ∧
    YearFacts r st'.cur.year st'.info ∧
    st'.cur.hour = st.cur.hour ∧ st'.cur.minute = st.cur.minute ∧ st'.cur.second = st.cur.second ∧
    st'.timeset = st.timeset := by
  cases b with
  | true =>
    have := fixDay_spec r st st' h hm1 hm12 hd1 f
    exact ⟨this.1, this.2.1, this.2.2.1, this.2.2.2.1, this.2.2.2.2.1, this.2.2.2.2.2.1, this.2.2.2.2.2.2.2⟩
  | false =>
    unfold fixDay at h
    simp at h
    subst h
    exact ⟨rfl, hb rfl, f, rfl, rfl, rfl, rfl⟩

/-- the invariant of the sub-daily frequencies -/
structure SubInv (r : Rule) (st : State) : Prop where
  facts : YearFacts r st.cur.year st.info
  valid : ValidYMD st.cur.year st.cur.month st.cur.day
  ts : TsOk st.timeset
  hour : 0 ≤ st.cur.hour ∧ st.cur.hour ≤ 23
  minute : 0 ≤ st.cur.minute ∧ st.cur.minute ≤ 59
  second : 0 ≤ st.cur.second ∧ st.cur.second ≤ 59
  tsh : ∀ t ∈ st.timeset, t.1 = st.cur.hour
  tsm : 5 ≤ r.freq → ∀ t ∈ st.timeset, t.2.1 = st.cur.minute
  tss : 6 ≤ r.freq → ∀ t ∈ st.timeset, t.2.2 = st.cur.second

/-- start (in seconds) of the hour / minute / second the cursor stands on -/
def loSub (r : Rule) (st : State) : Int :=
  curOrd st.cur * 86400 + st.cur.hour * 3600 +
    (if 5 ≤ r.freq then st.cur.minute * 60 else 0) + (if 6 ≤ r.freq then st.cur.second else 0)

def unitSecs (r : Rule) : Int := if r.freq = 4 then 3600 else if r.freq = 5 then 60 else 1

/-- the items of a sub-daily period lie in the cursor's unit window and are strictly increasing -/
theorem sub_items (r : Rule) (hf : 4 ≤ r.freq ∧ r.freq ≤ 6) (st : State) (inv : SubInv r st) :
    (∀ x ∈ (step r st).1, loSub r st ≤ x.secs ∧ x.secs < loSub r st + unitSecs r) ∧
    (step r st).1.Pairwise secsLt := by
  have hd := dayset_daily st.cur (by omega) inv.facts inv.valid
  have hone : [curOrd st.cur - st.info.yearordinal].Pairwise (· < ·) := by simp
  refine ⟨?_, ?_⟩
  · intro x hx
    rcases step_sublist r st with h | ⟨cands, pend, fl, hres, hsub⟩
    · rw [h] at hx; simp at hx
    · obtain ⟨i, hi, t, ht, rfl, _⟩ := (periodResults_spec r st _ cands pend fl hd inv.ts hres).1 x (hsub.subset hx)
      simp at hi; subst hi
      have hv := inv.ts.2 t ht
      unfold ValidHMS at hv
      have h1 := inv.tsh t ht
      have e : st.info.yearordinal + (curOrd st.cur - st.info.yearordinal) = curOrd st.cur := by omega
      rw [e]
      unfold loSub unitSecs Inst.secs mkInst
      dsimp only
      by_cases f4 : r.freq = 4
      · rw [if_neg (by omega), if_neg (by omega), if_pos f4]; omega
      · by_cases f5 : r.freq = 5
        · have h2 := inv.tsm (by omega) t ht
          rw [if_pos (by omega), if_neg (by omega), if_neg f4, if_pos f5]; omega
        · have h2 := inv.tsm (by omega) t ht
          have h3 := inv.tss (by omega) t ht
          rw [if_pos (by omega), if_pos (by omega), if_neg f4, if_neg f5]; omega
  · rcases step_sublist r st with h | ⟨cands, pend, fl, hres, hsub⟩
    · rw [h]; exact List.Pairwise.nil
    · exact ((periodResults_spec r st _ cands pend fl hd inv.ts hres).2 hone).sublist hsub

/-- the time set of a sub-daily period carries the cursor's hour (and minute, and second) -/
theorem gettimeset_spec (r : Rule) (ok : RuleOk r) (hf : 4 ≤ r.freq ∧ r.freq ≤ 6) (h m s : Int)
    (ts : List HMS) (hts : gettimeset r h m s = .ok ts) :
    TsOk ts ∧ (∀ t ∈ ts, t.1 = h) ∧ (5 ≤ r.freq → ∀ t ∈ ts, t.2.1 = m) ∧ (6 ≤ r.freq → ∀ t ∈ ts, t.2.2 = s) := by
  unfold gettimeset at hts
  by_cases f4 : r.freq = 4
  · rw [if_pos (by simp [f4])] at hts
    unfold htimeset at hts
    obtain ⟨h1, h2⟩ := buildTimeset_ok _ _ _ ts (by simp) ok.byminute ok.bysecond hts
    exact ⟨h1, fun t ht => by have := (h2 t ht).1; simpa using this, by intro; omega, by intro; omega⟩
  · rw [if_neg (by simp [f4])] at hts
    by_cases f5 : r.freq = 5
    · rw [if_pos (by simp [f5])] at hts
      unfold mtimeset at hts
      obtain ⟨h1, h2⟩ := buildTimeset_ok _ _ _ ts (by simp) (by simp) ok.bysecond hts
      exact ⟨h1, fun t ht => by have := (h2 t ht).1; simpa using this,
             fun _ t ht => by have := (h2 t ht).2.1; simpa using this, by intro; omega⟩
    · rw [if_neg (by simp [f5])] at hts
      unfold stimeset at hts
      simp only [bind, Except.bind, pure, Except.pure] at hts
      unfold mkTime at hts
      split at hts
      · cases hts
      · rename_i t ht
        split at ht
        · rename_i hv
          injection ht with ht; subst ht
          injection hts with hts; subst hts
          refine ⟨⟨by simp, ?_⟩, ?_, ?_, ?_⟩
          · intro t ht; simp at ht; subst ht; exact hv
          · intro t ht; simp at ht; subst ht; rfl
          · intro _ t ht; simp at ht; subst ht; rfl
          · intro _ t ht; simp at ht; subst ht; rfl
        · cases ht

theorem fdiv_jump_nonneg (x interval : Int) (hx : 0 ≤ x) (hi : 1 ≤ interval) :
    0 ≤ Py.fdiv x interval * interval := by
  rw [Py.fdiv_pos x (by omega)]
  exact Int.mul_nonneg (Int.ediv_nonneg hx (by omega)) (by omega)

/-- **HOURLY**: the next period starts at least one hour later -/
theorem hourly_next (r : Rule) (ok : RuleOk r) (f4 : r.freq = 4) (st st' : State) (inv : SubInv r st)
    (c : Option Int) (fl : Bool) (h : advance r { st with count := c } fl = .ok st') :
    SubInv r st' ∧ loSub r st + 3600 ≤ loSub r st' := by
  have hi := ok.interval
  obtain ⟨hm1, hm12, hd1, hd2⟩ := inv.valid
  rw [advance_hourly_eq r _ fl f4] at h
  dsimp only at h
  generalize hh0 : (if fl = true then st.cur.hour + Py.fdiv (23 - st.cur.hour) r.interval * r.interval
                    else st.cur.hour) = hour0 at h
  have hge : st.cur.hour ≤ hour0 := by
    rw [← hh0]; split
    · have := fdiv_jump_nonneg (23 - st.cur.hour) r.interval (by have := inv.hour; omega) hi; omega
    · omega
  split at h
  · cases h
  · rename_i ndays hour hstep
    have e24 : (24 : Int).toNat = 24 := rfl
    obtain ⟨j, hj, e, r1, r2⟩ := unitStep_spec r.interval r.byhour 24 hour0 (by omega) ndays hour (by rw [e24]; exact hstep)
    have hjpos : 1 ≤ j * r.interval := by
      have := Int.mul_le_mul hj hi (by omega) (by omega); omega
    have hnd : 0 ≤ ndays := by have := inv.hour; omega
    split at h
    · cases h
    · rename_i ts hts
      obtain ⟨t1, t2, t3, t4⟩ := gettimeset_spec r ok (by omega) _ _ _ ts hts
      have hfix := fixDay_any r _ st' _ h hm1 hm12 (by dsimp only; split <;> omega)
        (by intro hb; dsimp only
            have : ndays = 0 := by simpa using hb
            rw [if_neg (by omega)]; exact inv.valid) inv.facts
      obtain ⟨eo, v, f', eh, em, es, ets⟩ := hfix
      dsimp only at eh em es ets
      have eo' : curOrd st'.cur = curOrd st.cur + ndays := by
        rw [eo]
        have := curOrd_day st.cur (if ndays ≠ 0 then st.cur.day + ndays else st.cur.day)
        dsimp only at this ⊢
        unfold curOrd at this ⊢; dsimp only at this ⊢
        rw [this]; split <;> omega
      refine ⟨⟨f', v, by rw [ets]; exact t1, by rw [eh]; omega, by rw [em]; exact inv.minute,
               by rw [es]; exact inv.second, by rw [ets, eh]; exact t2,
               by intro h5; omega, by intro h6; omega⟩, ?_⟩
      unfold loSub
      rw [if_neg (by omega), if_neg (by omega), if_neg (by omega), if_neg (by omega), eo', eh]
      have := inv.hour
      omega

/-- the MINUTELY reachability loop moves forward by at least one minute and ends on a valid
    hour / minute; the fix-day flag is set whenever the day changed -/
theorem minutelyLoop_spec (r : Rule) (hi : 1 ≤ r.interval) : ∀ (n : Nat) (minute hour day : Int) (fx : Bool)
    (m' h' d' : Int) (fx' : Bool), 0 ≤ minute → 0 ≤ hour ∧ hour ≤ 23 →
    minutelyLoop r n minute hour day fx = .ok (m', h', d', fx') →
    ((day * 24 + hour) * 60 + minute + 1 ≤ (d' * 24 + h') * 60 + m' ∧
      0 ≤ h' ∧ h' ≤ 23 ∧ 0 ≤ m' ∧ m' ≤ 59 ∧ day ≤ d') ∧ (d' ≠ day → fx' = true) ∧ (fx = true → fx' = true) := by
  intro n
  induction n with
  | zero => intro minute hour day fx m' h' d' fx' _ _ h; simp [minutelyLoop] at h
  | succ n ih =>
    intro minute hour day fx m' h' d' fx' hmin hhour h
    unfold minutelyLoop at h
    dsimp only at h
    split at h
    · cases h
    · rename_i nhours minute1 hstep
      have e60 : (60 : Int).toNat = 60 := rfl
      obtain ⟨j, hj, e, r1, r2⟩ := unitStep_spec r.interval r.byminute 60 minute (by omega) nhours minute1
        (by rw [e60]; exact hstep)
      have hjpos : 1 ≤ j * r.interval := by
        have := Int.mul_le_mul hj hi (by omega) (by omega); omega
      have hnh : 0 ≤ nhours := by omega
      have hd := divmod_spec (hour + nhours) 24 (by omega)
      generalize Py.divmod (hour + nhours) 24 = dh at h hd
      obtain ⟨q, hr⟩ := dh
      dsimp only at h hd
      have hq : 0 ≤ q := by omega
      have eday : (if q ≠ 0 then day + q else day) = day + q := by split <;> omega
      rw [eday] at h
      split at h
      · injection h with h
        injection h with h1 h; injection h with h2 h; injection h with h3 h4
        subst h1; subst h2; subst h3; subst h4
        refine ⟨by omega, ?_, ?_⟩
        · intro hne; rw [if_pos (by omega)]
        · intro hfx; split <;> simp [hfx]
      · obtain ⟨a, a7, a8⟩ := ih _ _ _ _ _ _ _ _ r1 ⟨hd.2.1, by omega⟩ h
        refine ⟨by omega, ?_, ?_⟩
        · intro hne
          by_cases c : d' = day + q
          · apply a8; rw [if_pos (by omega)]
          · exact a7 c
        · intro hfx; apply a8; split <;> simp [hfx]

/-- **MINUTELY**: the next period starts at least one minute later -/
theorem minutely_next (r : Rule) (ok : RuleOk r) (f5 : r.freq = 5) (st st' : State) (inv : SubInv r st)
    (c : Option Int) (fl : Bool) (h : advance r { st with count := c } fl = .ok st') :
    SubInv r st' ∧ loSub r st + 60 ≤ loSub r st' := by
  have hi := ok.interval
  obtain ⟨hm1, hm12, hd1, hd2⟩ := inv.valid
  rw [advance_minutely_eq r _ fl f5] at h
  dsimp only at h
  generalize hm0 : (if fl = true then
      st.cur.minute + Py.fdiv (1439 - (st.cur.hour * 60 + st.cur.minute)) r.interval * r.interval
      else st.cur.minute) = minute0 at h
  have hge : st.cur.minute ≤ minute0 := by
    rw [← hm0]; split
    · have := fdiv_jump_nonneg (1439 - (st.cur.hour * 60 + st.cur.minute)) r.interval
        (by have := inv.hour; have := inv.minute; omega) hi
      omega
    · omega
  split at h
  · cases h
  · rename_i minute hour day fixday hloop
    obtain ⟨⟨a1, a2, a3, a4, a5, a6⟩, a7, _⟩ := minutelyLoop_spec r hi _ _ _ _ _ _ _ _ _
      (by have := inv.minute; omega) inv.hour hloop
    split at h
    · cases h
    · rename_i ts hts
      obtain ⟨t1, t2, t3, t4⟩ := gettimeset_spec r ok (by omega) _ _ _ ts hts
      have hfix := fixDay_any r _ st' _ h hm1 hm12 (by dsimp only; omega)
        (by intro hb; dsimp only
            have : day = st.cur.day := by
              by_cases c : day = st.cur.day
              · exact c
              · have := a7 c; rw [hb] at this; cases this
            rw [this]; exact inv.valid) inv.facts
      obtain ⟨eo, v, f', eh, em, es, ets⟩ := hfix
      dsimp only at eh em es ets
      have eo' : curOrd st'.cur = curOrd st.cur + (day - st.cur.day) := by
        rw [eo]; exact curOrd_day st.cur day
      refine ⟨⟨f', v, by rw [ets]; exact t1, by rw [eh]; omega, by rw [em]; omega,
               by rw [es]; exact inv.second, by rw [ets, eh]; exact t2,
               by intro _; rw [ets, em]; exact t3 (by omega), by intro h6; omega⟩, ?_⟩
      unfold loSub
      rw [if_pos (by omega), if_neg (by omega), if_pos (by omega), if_neg (by omega), eo', eh, em]
      omega

/-- the SECONDLY reachability loop moves forward by at least one second and ends on a valid
    hour / minute / second; the fix-day flag is set whenever the day changed -/
theorem secondlyLoop_spec (r : Rule) (hi : 1 ≤ r.interval) : ∀ (n : Nat) (second minute hour day : Int) (fx : Bool)
    (s' m' h' d' : Int) (fx' : Bool), 0 ≤ second → 0 ≤ minute ∧ minute ≤ 59 → 0 ≤ hour ∧ hour ≤ 23 →
    secondlyLoop r n second minute hour day fx = .ok (s', m', h', d', fx') →
    ((day * 24 + hour) * 60 + minute) * 60 + second + 1 ≤ ((d' * 24 + h') * 60 + m') * 60 + s' ∧
    0 ≤ h' ∧ h' ≤ 23 ∧ 0 ≤ m' ∧ m' ≤ 59 ∧ 0 ≤ s' ∧ s' ≤ 59 ∧ day ≤ d' ∧
    (d' ≠ day → fx' = true) ∧ (fx = true → fx' = true) := by
  intro n
  induction n with
  | zero => intro second minute hour day fx s' m' h' d' fx' _ _ _ h; simp [secondlyLoop] at h
  | succ n ih =>
    intro second minute hour day fx s' m' h' d' fx' hsec hmin hhour h
    unfold secondlyLoop at h
    dsimp only at h
    split at h
    · cases h
    · rename_i nminutes second1 hstep
      have e60 : (60 : Int).toNat = 60 := rfl
      obtain ⟨j, hj, e, r1, r2⟩ := unitStep_spec r.interval r.bysecond 60 second (by omega) nminutes second1
        (by rw [e60]; exact hstep)
      have hjpos : 1 ≤ j * r.interval := by
        have := Int.mul_le_mul hj hi (by omega) (by omega); omega
      have hnm : 0 ≤ nminutes := by omega
      have hdm := divmod_spec (minute + nminutes) 60 (by omega)
      generalize Py.divmod (minute + nminutes) 60 = dm at h hdm
      obtain ⟨q, mr⟩ := dm
      dsimp only at h hdm
      have hq : 0 ≤ q := by omega
      by_cases hq0 : q = 0
      · subst hq0
        simp only [ne_eq, not_true_eq_false, ↓reduceIte, false_and] at h
        split at h
        · injection h with h
          injection h with h1 h; injection h with h2 h; injection h with h3 h; injection h with h4 h5
          subst h1; subst h2; subst h3; subst h4; subst h5
          exact ⟨by omega, hhour.1, hhour.2, by omega, by omega, r1, by omega, by omega,
                 by intro hne; exact absurd rfl hne, fun hfx => hfx⟩
        · obtain ⟨a1, a2, a3, a4, a5, a6, a7, a8, a9, a10⟩ :=
            ih _ _ _ _ _ _ _ _ _ _ r1 ⟨hdm.2.1, by omega⟩ hhour h
          exact ⟨by omega, a2, a3, a4, a5, a6, a7, a8, a9, a10⟩
      · have hqne : q ≠ 0 := hq0
        simp only [ne_eq, hqne, not_false_eq_true, ↓reduceIte, true_and] at h
        have hdh := divmod_spec (hour + q) 24 (by omega)
        generalize Py.divmod (hour + q) 24 = dh at h hdh
        obtain ⟨p, hr⟩ := dh
        dsimp only at h hdh
        have hp : 0 ≤ p := by omega
        have eday : (if ¬ p = 0 then day + p else day) = day + p := by split <;> omega
        rw [eday] at h
        split at h
        · injection h with h
          injection h with h1 h; injection h with h2 h; injection h with h3 h; injection h with h4 h5
          subst h1; subst h2; subst h3; subst h4; subst h5
          refine ⟨by omega, by omega, by omega, by omega, by omega, r1, by omega, by omega, ?_, ?_⟩
          · intro hne; rw [if_pos (by omega)]
          · intro hfx; split <;> simp [hfx]
        · obtain ⟨a1, a2, a3, a4, a5, a6, a7, a8, a9, a10⟩ :=
            ih _ _ _ _ _ _ _ _ _ _ r1 ⟨hdm.2.1, by omega⟩ ⟨hdh.2.1, by omega⟩ h
          refine ⟨by omega, a2, a3, a4, a5, a6, a7, by omega, ?_, ?_⟩
          · intro hne
            by_cases c : d' = day + p
            · apply a10; rw [if_pos (by omega)]
            · exact a9 c
          · intro hfx; apply a10; split <;> simp [hfx]

/-- **SECONDLY**: the next period starts at least one second later -/
theorem secondly_next (r : Rule) (ok : RuleOk r) (f6 : r.freq = 6) (st st' : State) (inv : SubInv r st)
    (c : Option Int) (fl : Bool) (h : advance r { st with count := c } fl = .ok st') :
    SubInv r st' ∧ loSub r st + 1 ≤ loSub r st' := by
  have hi := ok.interval
  obtain ⟨hm1, hm12, hd1, hd2⟩ := inv.valid
  rw [advance_secondly_eq r _ fl f6] at h
  dsimp only at h
  generalize hs0 : (if fl = true then
      st.cur.second + Py.fdiv (86399 - (st.cur.hour * 3600 + st.cur.minute * 60 + st.cur.second)) r.interval * r.interval
      else st.cur.second) = second0 at h
  have hge : st.cur.second ≤ second0 := by
    rw [← hs0]; split
    · have := fdiv_jump_nonneg (86399 - (st.cur.hour * 3600 + st.cur.minute * 60 + st.cur.second)) r.interval
        (by have := inv.hour; have := inv.minute; have := inv.second; omega) hi
      omega
    · omega
  split at h
  · cases h
  · rename_i second minute hour day fixday hloop
    obtain ⟨a1, a2, a3, a4, a5, a6, a7, a8, a9, _⟩ := secondlyLoop_spec r hi _ _ _ _ _ _ _ _ _ _ _
      (by have := inv.second; omega) inv.minute inv.hour hloop
    split at h
    · cases h
    · rename_i ts hts
      obtain ⟨t1, t2, t3, t4⟩ := gettimeset_spec r ok (by omega) _ _ _ ts hts
      have hfix := fixDay_any r _ st' _ h hm1 hm12 (by dsimp only; omega)
        (by intro hb; dsimp only
            have : day = st.cur.day := by
              by_cases c : day = st.cur.day
              · exact c
              · have := a9 c; rw [hb] at this; cases this
            rw [this]; exact inv.valid) inv.facts
      obtain ⟨eo, v, f', eh, em, es, ets⟩ := hfix
      dsimp only at eh em es ets
      have eo' : curOrd st'.cur = curOrd st.cur + (day - st.cur.day) := by
        rw [eo]; exact curOrd_day st.cur day
      refine ⟨⟨f', v, by rw [ets]; exact t1, by rw [eh]; omega, by rw [em]; omega,
               by rw [es]; omega, by rw [ets, eh]; exact t2,
               by intro _; rw [ets, em]; exact t3 (by omega),
               by intro _; rw [ets, es]; exact t4 (by omega)⟩, ?_⟩
      unfold loSub
      rw [if_pos (by omega), if_pos (by omega), if_pos (by omega), if_pos (by omega), eo', eh, em, es]
      omega

end RRule
