/-
  Proofs/RenderSuffix.lean — the token scan over an offset suffix (`Z`, ` UTC`, `±HH`, `±HHMM`, `±HH:MM`, each
  optionally after a space), whatever came before it: proved once, used by every template of C02.
-/
import DateutilVerif.Proofs.RenderStep
import DateutilVerif.Proofs.RenderFrame

namespace PM
open Py PT

/-- `tzname`, `tzoffset` the suffix leaves in the result record, and the indices it adds to the skipped list -/
def offName : Off → Option Token
  | .z _ => some ['Z']
  | .utc => some ['U', 'T', 'C']
  | _ => none
def offSecs (off : Off) : Option Int :=
  match off with
  | .hh _ _ _ => off.seconds
  | .hhmm _ _ _ _ => off.seconds
  | .hhcmm _ _ _ _ => off.seconds
  | _ => none
def offLeadSpace : Off → Bool
  | .z sp => sp
  | .utc => true
  | .hh sp _ _ => sp
  | .hhmm sp _ _ _ => sp
  | .hhcmm sp _ _ _ => sp
  | .naive => false

/-- the offset digits `HH`, `HHMM`, `HH:MM` behind a sign at the end of `pre ++ …` -/
theorem tzDigits_hh (cls : Char → CClass) [AsciiOK cls] (pre : List Token) (S : Token) (h : Nat) (hh : h < 100) :
    tzOffsetDigits cls (pre ++ [S, dtok [h / 10, h]]) (pre.length + 2) pre.length = .ok (h, 0, 0) := by
  simp [tzOffsetDigits, tokAt, tokIs, pyInt_dtok, dval_pad2 h hh, bind, Except.bind, pure, Except.pure]

theorem tzDigits_hhmm (cls : Char → CClass) [AsciiOK cls] (pre : List Token) (S : Token) (h m : Nat) (hh : h < 100) (hm : m < 100) :
    tzOffsetDigits cls (pre ++ [S, dtok [h / 10, h, m / 10, m]]) (pre.length + 2) pre.length = .ok (h, m, 0) := by
  simp [tzOffsetDigits, tokAt, pyInt_dtok, dval_pad2 h hh, dval_pad2 m hm, bind, Except.bind, pure, Except.pure]

theorem tzDigits_hhcmm (cls : Char → CClass) [AsciiOK cls] (pre : List Token) (S : Token) (h m : Nat) (hh : h < 100) (hm : m < 100) :
    tzOffsetDigits cls (pre ++ [S, dtok [h / 10, h], [':'], dtok [m / 10, m]]) (pre.length + 4) pre.length = .ok (h, m, 2) := by
  simp [tzOffsetDigits, tokAt, tokIs, pyInt_dtok, dval_pad2 h hh, dval_pad2 m hm, bind, Except.bind, pure, Except.pure,
    ]

/-- the zone part of an offset suffix (without the space that may stand in front of it), behind an hour -/
theorem suffix_zone (cls : Char → CClass) [AsciiOK cls] (df yf : Bool) (year century : Int) (pre : List Token) (r : Res) (y : Ymd)
    (sk : List Nat) (off : Off) (hoff : off.Dom) (hne : off ≠ .naive) (toks : List Token)
    (htoks : offTokens off = (if offLeadSpace off then [[' ']] else []) ++ toks) (lenL : Nat) (hl : lenL = pre.length + toks.length)
    (hh : r.hour.isSome = true) (htn : r.tzname = none) (hto : r.tzoffset = none) :
    parseLoop cls (Info.default df yf year century) false lenL toks.length pre.length 0
        { l := pre ++ toks, res := r, ymd := y, skipped := sk } =
      .ok { l := pre ++ toks, res := { r with tzname := offName off, tzoffset := offSecs off }, ymd := y, skipped := sk } := by
  obtain ⟨hr, hhr⟩ : ∃ hr, r.hour = some hr := by cases h : r.hour <;> simp_all
  have hcbZ : ∀ Z, Z = ['Z'] ∨ Z = ['U', 'T', 'C'] →
      couldBeTzname (Info.default df yf year century) r.hour r.tzname r.tzoffset Z = true := by
    intro Z hZ; rw [hhr, htn, hto]; rcases hZ with rfl | rfl <;> simp [cbt_Z, cbt_UTC]
  subst hl
  rcases off with _ | sp | _ | ⟨sp, neg, oh⟩ | ⟨sp, neg, oh, om⟩ | ⟨sp, neg, oh, om⟩
  · exact absurd rfl hne
  · -- `Z`
    obtain rfl : toks = [['Z']] := by cases sp <;> simpa [offTokens, spT, offLeadSpace] using htoks.symm
    refine (loop_of_step cls _ false _ (step_tzname_end (by simp []) (by simp) (fl_Z cls) (wd_Z ..) (mo_Z ..) (ap_Z ..)
      (hcbZ _ (Or.inl rfl))) 0).trans ?_
    simp [parseLoop, offName, offSecs, tzo_Z]
  · obtain rfl : toks = [['U', 'T', 'C']] := by simpa [offTokens, offLeadSpace] using htoks.symm
    refine (loop_of_step cls _ false _ (step_tzname_end (by simp []) (by simp) (fl_UTC cls) (wd_UTC ..) (mo_UTC ..)
      (ap_UTC ..) (hcbZ _ (Or.inr rfl))) 0).trans ?_
    simp [parseLoop, offName, offSecs, tzo_UTC]
  · obtain rfl : toks = [[sgn neg], dtok [oh / 10, oh]] := by cases sp <;> simpa [offTokens, spT, offLeadSpace] using htoks.symm
    simp only [Off.Dom] at hoff
    refine (loop_of_step cls _ false _ (step_tzoffset_end (S := [sgn neg]) (h := oh) (m := 0) (k := 0) (by simp [])
      (by cases neg <;> simp [sgn]) hhr (tzDigits_hh cls pre _ oh (by omega)) (by simp)) 0).trans ?_
    cases neg <;> simp [parseLoop, offName, offSecs, Off.seconds, sgn, htn]
  · obtain rfl : toks = [[sgn neg], dtok [oh / 10, oh, om / 10, om]] := by
      cases sp <;> simpa [offTokens, spT, offLeadSpace] using htoks.symm
    simp only [Off.Dom] at hoff
    refine (loop_of_step cls _ false _ (step_tzoffset_end (S := [sgn neg]) (h := oh) (m := om) (k := 0) (by simp [])
      (by cases neg <;> simp [sgn]) hhr (tzDigits_hhmm cls pre _ oh om (by omega) (by omega)) (by simp)) 0).trans ?_
    cases neg <;> simp [parseLoop, offName, offSecs, Off.seconds, sgn, htn]
  · obtain rfl : toks = [[sgn neg], dtok [oh / 10, oh], [':'], dtok [om / 10, om]] := by
      cases sp <;> simpa [offTokens, spT, offLeadSpace] using htoks.symm
    simp only [Off.Dom] at hoff
    refine (loop_of_step cls _ false _ (step_tzoffset_end (S := [sgn neg]) (h := oh) (m := om) (k := 2) (by simp [])
      (by cases neg <;> simp [sgn]) hhr (tzDigits_hhcmm cls pre _ oh om (by omega) (by omega)) (by simp)) 0).trans ?_
    cases neg <;> simp [parseLoop, offName, offSecs, Off.seconds, sgn, htn]

theorem suffix_run (cls : Char → CClass) [AsciiOK cls] (df yf : Bool) (year century : Int) (pre : List Token) (r : Res) (y : Ymd)
    (sk : List Nat) (off : Off) (hoff : off.Dom) (lenL i : Nat) (hi : i = pre.length)
    (hl : lenL = pre.length + (offTokens off).length) (hh : r.hour.isSome = true) (htn : r.tzname = none) (hto : r.tzoffset = none) :
    parseLoop cls (Info.default df yf year century) false lenL (offTokens off).length i 0
        { l := pre ++ offTokens off, res := r, ymd := y, skipped := sk } =
      .ok { l := pre ++ offTokens off, res := { r with tzname := offName off, tzoffset := offSecs off }, ymd := y,
            skipped := if offLeadSpace off then sk ++ [i] else sk } := by
  subst hi
  by_cases hne : off = .naive
  · subst hne; cases r; simp_all [offTokens, offName, offSecs, offLeadSpace, parseLoop]
  obtain ⟨toks, htoks⟩ : ∃ toks, offTokens off = (if offLeadSpace off then [[' ']] else []) ++ toks := by
    rcases off with _ | sp | _ | ⟨sp, neg, oh⟩ | ⟨sp, neg, oh, om⟩ | ⟨sp, neg, oh, om⟩ <;> (try cases sp) <;>
      exact ⟨_, by simp [offTokens, spT, offLeadSpace]; rfl⟩
  cases hsp : offLeadSpace off
  · -- no space in front
    rw [hsp] at htoks
    simp only [Bool.false_eq_true, if_false, List.nil_append] at htoks ⊢
    rw [htoks] at hl ⊢
    exact suffix_zone cls df yf year century pre r y sk off hoff hne toks (by rw [hsp, htoks]; rfl) lenL hl hh htn hto
  · -- a space, skipped, then the zone
    rw [hsp] at htoks
    simp only [if_true] at htoks ⊢
    rw [htoks] at hl ⊢
    refine (loop_sp (fuel := toks.length) (by simp [])).trans ?_
    have := suffix_zone cls df yf year century (pre ++ [[' ']]) r y (sk ++ [pre.length]) off hoff hne toks (by rw [hsp, htoks]; rfl) lenL
      (by simp at hl ⊢; omega) hh htn hto
    simpa [List.append_assoc] using this

end PM
