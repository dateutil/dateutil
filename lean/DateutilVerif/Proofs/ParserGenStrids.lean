/-
  Proofs/ParserGenStrids.lean — `_ymd._resolve_from_stridxs` re-translated from /repo's parser/_parser.py
  (Generated/ParserOps.lean) = `PM.Ymd.resolveFromStridxs`, on every dict `resolve_ymd` can hand it (the labelled
  indices in the order y, m, d), whatever the indices and the members are.
-/
import DateutilVerif.Proofs.ParserGenYmd

namespace PGen
open PM Py

/-- `assert len(missing) == len(key) == 1; key = key[0]; val = missing[0]` -/
theorem assertOne {β : Type} (missing : List Nat) (key : List Char) (F : Char → Nat → R β) :
    (if ¬ ((missing.length = key.length) ∧ (key.length = 1)) then (.error .AssertionError : R β) else
      Except.bind (Py.getIdx key (0 : Int)) (fun k => Except.bind (Py.getIdx missing (0 : Int)) (fun v => F k v))) =
    (match missing, key with
     | [v], [k] => F k v
     | _, _ => .error .AssertionError) := by
  match missing, key with
  | [v], [k] => simp [Py.getIdx, bind_ok]
  | [], [] => rfl
  | [], _ :: _ => rfl
  | _ :: _ :: _, [] => simp
  | _ :: _ :: _, [_] => simp
  | _ :: _ :: _, _ :: _ :: _ => simp
  | [v], [] => simp
  | [v], _ :: _ :: _ => simp

theorem at_err {self : Ymd} {i : Int} {e : PyErr} (h : self.at i = .error e) : e = .IndexError := by
  unfold PM.Ymd.at Py.getIdx at h
  simp only [] at h
  repeat' split at h
  all_goals first | (injection h with h; exact h.symm) | cases h

/-- `_ymd._resolve_from_stridxs`, on the dict `resolve_ymd` builds = `PM.Ymd.resolveFromStridxs`.
    The dict comprehension looks the members up in the order of the dict, the model in the order y, m, d: every failing
    look-up raises the same IndexError (`at_err`), so the order does not show. -/
theorem resolveFromStridxs_eq (self : Ymd) :
    Gen.P.ymd_resolveFromStridxs self self.strids = self.resolveFromStridxs := by
  unfold Gen.P.ymd_resolveFromStridxs PM.Ymd.resolveFromStridxs PM.completeStrids PM.Ymd.strids
  simp only [assertOne, show List.range 3 = [0, 1, 2] from rfl]
  rcases self with ⟨vals, c, d, m, y⟩
  cases y with
  | none =>
    cases m with
    | none =>
      cases d with
      | none =>
        simp [PPy.dictCompM, PPy.dictFind, bind_ok, bind_eq, pure_eq, throw_eq, bind_ite]
        split <;> rfl
      | some di =>
        simp [PPy.dictCompM, PPy.dictGet, PPy.dictFind, bind_ok, bind_err, bind_eq, pure_eq, map_eq', throw_eq, bind_ite]
        split
        · cases PM.Ymd.at _ (di : Int) <;> rfl
        · rfl
    | some mi =>
      cases d with
      | none =>
        simp [PPy.dictCompM, PPy.dictGet, PPy.dictFind, bind_ok, bind_err, bind_eq, pure_eq, map_eq', throw_eq, bind_ite]
        split
        · cases PM.Ymd.at _ (mi : Int) <;> rfl
        · rfl
      | some di =>
        simp only [List.nil_append, List.cons_append, List.length_cons, List.length_nil, List.map_cons,
          List.map_nil, and_true, decide_not, Bool.decide_eq_true, (by decide : List.filter (fun x => !['m', 'd'].contains x) ['y', 'm', 'd'] = ['y'])]
        by_cases h3 : vals.length = 3
        · simp only [h3, if_true]
          generalize List.filter (fun x => ![mi, di].contains x) [0, 1, 2] = ms
          rcases ms with _ | ⟨v, _ | ⟨w, r⟩⟩
          · rfl
          · simp [PPy.dictSet, PPy.dictCompM, PPy.dictGet, PPy.dictFind, bind_ok, bind_eq, pure_eq, map_eq', throw_eq]
            cases h1 : PM.Ymd.at _ (mi : Int) <;> cases h2 : PM.Ymd.at _ (di : Int) <;> cases h4 : PM.Ymd.at _ (v : Int) <;>
              (try cases at_err h1) <;> (try cases at_err h2) <;> (try cases at_err h4) <;> rfl
          · rfl
        · simp [h3, PPy.dictCompM, PPy.dictGet, PPy.dictFind, bind_ok, bind_err, bind_eq, pure_eq, map_eq', throw_eq, bind_ite]
          split
          · cases PM.Ymd.at _ (mi : Int) <;> cases PM.Ymd.at _ (di : Int) <;> rfl
          · rfl
  | some yi =>
    cases m with
    | none =>
      cases d with
      | none =>
        simp [PPy.dictCompM, PPy.dictGet, PPy.dictFind, bind_ok, bind_err, bind_eq, pure_eq, map_eq', throw_eq, bind_ite]
        split
        · cases PM.Ymd.at _ (yi : Int) <;> rfl
        · rfl
      | some di =>
        simp only [List.nil_append, List.append_nil, List.cons_append, List.length_cons, List.length_nil, List.map_cons,
          List.map_nil, and_true, decide_not, Bool.decide_eq_true, (by decide : List.filter (fun x => !['y', 'd'].contains x) ['y', 'm', 'd'] = ['m'])]
        by_cases h3 : vals.length = 3
        · simp only [h3, if_true]
          generalize List.filter (fun x => ![yi, di].contains x) [0, 1, 2] = ms
          rcases ms with _ | ⟨v, _ | ⟨w, r⟩⟩
          · rfl
          · simp [PPy.dictSet, PPy.dictCompM, PPy.dictGet, PPy.dictFind, bind_ok, bind_eq, pure_eq, map_eq', throw_eq]
            cases h1 : PM.Ymd.at _ (yi : Int) <;> cases h2 : PM.Ymd.at _ (di : Int) <;> cases h4 : PM.Ymd.at _ (v : Int) <;>
              (try cases at_err h1) <;> (try cases at_err h2) <;> (try cases at_err h4) <;> rfl
          · rfl
        · simp [h3, PPy.dictCompM, PPy.dictGet, PPy.dictFind, bind_ok, bind_err, bind_eq, pure_eq, map_eq', throw_eq, bind_ite]
          split
          · cases PM.Ymd.at _ (yi : Int) <;> cases PM.Ymd.at _ (di : Int) <;> rfl
          · rfl
    | some mi =>
      cases d with
      | none =>
        simp only [List.nil_append, List.append_nil, List.cons_append, List.length_cons, List.length_nil, List.map_cons,
          List.map_nil, and_true, decide_not, Bool.decide_eq_true, (by decide : List.filter (fun x => !['y', 'm'].contains x) ['y', 'm', 'd'] = ['d'])]
        by_cases h3 : vals.length = 3
        · simp only [h3, if_true]
          generalize List.filter (fun x => ![yi, mi].contains x) [0, 1, 2] = ms
          rcases ms with _ | ⟨v, _ | ⟨w, r⟩⟩
          · rfl
          · simp [PPy.dictSet, PPy.dictCompM, PPy.dictGet, PPy.dictFind, bind_ok, bind_eq, pure_eq, map_eq', throw_eq]
            cases h1 : PM.Ymd.at _ (yi : Int) <;> cases h2 : PM.Ymd.at _ (mi : Int) <;> cases h4 : PM.Ymd.at _ (v : Int) <;>
              (try cases at_err h1) <;> (try cases at_err h2) <;> (try cases at_err h4) <;> rfl
          · rfl
        · simp [h3, PPy.dictCompM, PPy.dictGet, PPy.dictFind, bind_ok, bind_err, bind_eq, pure_eq, map_eq', throw_eq, bind_ite]
          split
          · cases PM.Ymd.at _ (yi : Int) <;> cases PM.Ymd.at _ (mi : Int) <;> rfl
          · rfl
      | some di =>
        simp [PPy.dictCompM, PPy.dictGet, PPy.dictFind, bind_ok, bind_err, bind_eq, pure_eq, map_eq', throw_eq, bind_ite]
        split
        · cases PM.Ymd.at _ (yi : Int) <;> cases PM.Ymd.at _ (mi : Int) <;> cases PM.Ymd.at _ (di : Int) <;> rfl
        · rfl
end PGen
