/-
  Proofs/RRuleConstructSet.lean — the constructed rule depends only on the SET of members of each BY list
  (`set(bymonth)`, `set(byhour)` … in `rrule.__init__`): permuting a list or repeating members changes nothing, on the
  success side and on every error side (`__construct_byset` finding nothing reachable, `datetime.time` failures in the
  time set, BYSETPOS validation, INTERVAL < 1).  BYSETPOS is kept as given (`tuple(bysetpos)`) and BYEASTER is
  `tuple(sorted(byeaster))` with duplicates kept, so those two are compared as equal / as permutations.
-/
import DateutilVerif.Proofs.RRuleOrig

namespace RRule

/-- both absent, or both given with the same members -/
def sameMembers {α} (o o' : Option (List α)) : Prop :=
  (o = none ∧ o' = none) ∨ ∃ l l', o = some l ∧ o' = some l' ∧ ∀ x, x ∈ l ↔ x ∈ l'

/-- two argument sets that differ only in the order and multiplicity of the members of their BY lists -/
structure SetEquiv (a a' : Args) : Prop where
  freq : a.freq = a'.freq
  dtstart : a.dtstart = a'.dtstart
  tz : a.tz = a'.tz
  interval : a.interval = a'.interval
  wkst : a.wkst = a'.wkst
  count : a.count = a'.count
  untilDT : a.untilDT = a'.untilDT
  bysetpos : a.bysetpos = a'.bysetpos
  byeaster : (a.byeaster = none ∧ a'.byeaster = none) ∨
    ∃ l l', a.byeaster = some l ∧ a'.byeaster = some l' ∧ l.Perm l'
  bymonth : sameMembers a.bymonth a'.bymonth
  bymonthday : sameMembers a.bymonthday a'.bymonthday
  byyearday : sameMembers a.byyearday a'.byyearday
  byweekno : sameMembers a.byweekno a'.byweekno
  byweekday : sameMembers a.byweekday a'.byweekday
  byhour : sameMembers a.byhour a'.byhour
  byminute : sameMembers a.byminute a'.byminute
  bysecond : sameMembers a.bysecond a'.bysecond

theorem sortBy_dedup_ext {α} [BEq α] [LawfulBEq α] {lt : α → α → Bool} (so : StrictOn lt (fun _ => True))
    (l l' : List α) (h : ∀ x, x ∈ l ↔ x ∈ l') : sortBy lt (dedup [] l) = sortBy lt (dedup [] l') := by
  apply sorted_ext so
  · exact sortBy_pairwise so _ (fun _ _ => trivial) (dedup_nodup l [] List.nodup_nil)
  · exact sortBy_pairwise so _ (fun _ _ => trivial) (dedup_nodup l' [] List.nodup_nil)
  · intro x; rw [mem_sortBy, mem_sortBy, mem_dedup, mem_dedup]; exact h x

theorem isEmpty_dedup_ext {α} [BEq α] [LawfulBEq α] (l l' : List α) (h : ∀ x, x ∈ l ↔ x ∈ l') :
    (dedup [] l).isEmpty = (dedup [] l').isEmpty :=
  isEmpty_of_mem_iff _ _ (by intro x; rw [mem_dedup, mem_dedup]; exact h x)

/-- `sorted(x for x in set(l) if p(x))` -/
theorem sortBy_filter_dedup_ext (p : Int → Bool) (l l' : List Int) (h : ∀ x, x ∈ l ↔ x ∈ l') :
    sortBy ltInt ((dedup [] l).filter p) = sortBy ltInt ((dedup [] l').filter p) := by
  apply sorted_ext strictInt
  · exact sortBy_pairwise strictInt _ (fun _ _ => trivial) ((dedup_nodup l [] List.nodup_nil).filter _)
  · exact sortBy_pairwise strictInt _ (fun _ _ => trivial) ((dedup_nodup l' [] List.nodup_nil).filter _)
  · intro x; rw [mem_sortBy, mem_sortBy, List.mem_filter, List.mem_filter, mem_dedup, mem_dedup, h x]

theorem sameMembers_refl {α} (o : Option (List α)) : sameMembers o o := by
  cases o with
  | none => exact Or.inl ⟨rfl, rfl⟩
  | some l => exact Or.inr ⟨l, l, rfl, rfl, fun _ => Iff.rfl⟩

theorem sameMembers_isNone {α} {o o' : Option (List α)} (h : sameMembers o o') : o.isNone = o'.isNone := by
  rcases h with ⟨h1, h2⟩ | ⟨l, l', h1, h2, _⟩ <;> rw [h1, h2] <;> rfl

theorem sameMembers_sortedSet {o o' : Option (List Int)} (h : sameMembers o o') :
    o.map sortedSet = o'.map sortedSet := by
  rcases h with ⟨h1, h2⟩ | ⟨l, l', h1, h2, hm⟩
  · rw [h1, h2]
  · rw [h1, h2]
    show some (sortedSet l) = some (sortedSet l')
    unfold sortedSet
    rw [sortBy_dedup_ext strictInt l l' hm]

theorem insertBy_perm {α} (lt : α → α → Bool) (x : α) : ∀ l : List α, (insertBy lt x l).Perm (x :: l) := by
  intro l
  induction l with
  | nil => exact List.Perm.refl _
  | cons y ys ih =>
    unfold insertBy
    split
    · exact (List.Perm.cons y ih).trans (List.Perm.swap x y ys)
    · exact List.Perm.refl _

theorem sortBy_perm {α} (lt : α → α → Bool) : ∀ l : List α, (sortBy lt l).Perm l := by
  intro l
  induction l with
  | nil => exact List.Perm.refl _
  | cons x xs ih =>
    have : sortBy lt (x :: xs) = insertBy lt x (sortBy lt xs) := rfl
    rw [this]
    exact (insertBy_perm lt x _).trans (List.Perm.cons x ih)

/-- `sorted(l)` (duplicates kept) of two permutations of each other -/
theorem sortBy_perm_eq (l l' : List Int) (h : l.Perm l') : sortBy ltInt l = sortBy ltInt l' := by
  apply List.Perm.eq_of_pairwise (le := (· ≤ ·))
  · intro a b _ _ h1 h2; omega
  · exact sortBy_weak l
  · exact sortBy_weak l'
  · exact ((sortBy_perm ltInt l).trans h).trans (sortBy_perm ltInt l').symm

theorem normUnit_congr (freq lvl interval start base : Int) {o o' : Option (List Int)} (h : sameMembers o o') :
    normUnit freq lvl interval start o base = normUnit freq lvl interval start o' base := by
  rcases h with ⟨h1, h2⟩ | ⟨l, l', h1, h2, hm⟩
  · rw [h1, h2]
  · rw [h1, h2]
    unfold normUnit
    dsimp only
    have hs : sortedSet l = sortedSet l' := by unfold sortedSet; rw [sortBy_dedup_ext strictInt l l' hm]
    rw [hs]
    split
    · unfold constructByset
      dsimp only
      have hf : ∀ x, x ∈ l.filter (fun num => ((Int.gcd interval base : Nat) : Int) == 1 ||
            Py.fmod (num - start) ((Int.gcd interval base : Nat) : Int) == 0) ↔
          x ∈ l'.filter (fun num => ((Int.gcd interval base : Nat) : Int) == 1 ||
            Py.fmod (num - start) ((Int.gcd interval base : Nat) : Int) == 0) := by
        intro x; rw [List.mem_filter, List.mem_filter, hm x]
      rw [isEmpty_dedup_ext _ _ hf]
      by_cases c : (dedup [] (l'.filter (fun num => ((Int.gcd interval base : Nat) : Int) == 1 ||
            Py.fmod (num - start) ((Int.gcd interval base : Nat) : Int) == 0))).isEmpty = true
      · rw [if_pos c, if_pos c]
      · rw [if_neg c, if_neg c]
        dsimp only
        rw [sortBy_dedup_ext strictInt _ _ hf]
    · rfl

theorem noDayParts_congr {a a' : Args} (h : SetEquiv a a') : noDayParts a = noDayParts a' := by
  unfold noDayParts
  have he : a.byeaster.isNone = a'.byeaster.isNone := by
    rcases h.byeaster with ⟨h1, h2⟩ | ⟨l, l', h1, h2, _⟩ <;> rw [h1, h2] <;> rfl
  rw [sameMembers_isNone h.byweekno, sameMembers_isNone h.byyearday, sameMembers_isNone h.bymonthday,
    sameMembers_isNone h.byweekday, he]

theorem bymonthOf_congr {a a' : Args} (h : SetEquiv a a') : bymonthOf a = bymonthOf a' := by
  unfold bymonthOf
  rw [noDayParts_congr h, h.freq, sameMembers_isNone h.bymonth, h.dtstart]
  split
  · rfl
  · exact sameMembers_sortedSet h.bymonth

theorem monthdayArg_congr {a a' : Args} (h : SetEquiv a a') : sameMembers (monthdayArg a) (monthdayArg a') := by
  unfold monthdayArg
  rw [noDayParts_congr h, h.freq, h.dtstart]
  split
  · exact sameMembers_refl _
  · exact h.bymonthday

theorem bymonthdayOf_congr {a a' : Args} (h : SetEquiv a a') : bymonthdayOf a = bymonthdayOf a' := by
  unfold bymonthdayOf
  rcases monthdayArg_congr h with ⟨h1, h2⟩ | ⟨l, l', h1, h2, hm⟩
  · rw [h1, h2]
  · rw [h1, h2]
    exact sortBy_filter_dedup_ext _ l l' hm

theorem bynmonthdayOf_congr {a a' : Args} (h : SetEquiv a a') : bynmonthdayOf a = bynmonthdayOf a' := by
  unfold bynmonthdayOf
  rcases monthdayArg_congr h with ⟨h1, h2⟩ | ⟨l, l', h1, h2, hm⟩
  · rw [h1, h2]
  · rw [h1, h2]
    exact sortBy_filter_dedup_ext _ l l' hm

theorem weekdayArg_congr {a a' : Args} (h : SetEquiv a a') : sameMembers (weekdayArg a) (weekdayArg a') := by
  unfold weekdayArg
  rw [noDayParts_congr h, h.freq, h.dtstart]
  split
  · exact sameMembers_refl _
  · exact h.byweekday

/-- the plain weekdays before `set()`: same members -/
theorem plain_mem {a a' : Args} (h : SetEquiv a a') (l l' : List (Int × Int)) (hm : ∀ x, x ∈ l ↔ x ∈ l') :
    ∀ x, x ∈ (l.filter (fun w => w.2 == 0 || a.freq > 1)).map (·.1) ↔
      x ∈ (l'.filter (fun w => w.2 == 0 || a'.freq > 1)).map (·.1) := by
  intro x
  rw [h.freq]
  simp only [List.mem_map, List.mem_filter]
  constructor
  · rintro ⟨w, ⟨hw, hp⟩, rfl⟩; exact ⟨w, ⟨(hm w).mp hw, hp⟩, rfl⟩
  · rintro ⟨w, ⟨hw, hp⟩, rfl⟩; exact ⟨w, ⟨(hm w).mpr hw, hp⟩, rfl⟩

theorem nth_mem {a a' : Args} (h : SetEquiv a a') (l l' : List (Int × Int)) (hm : ∀ x, x ∈ l ↔ x ∈ l') :
    ∀ x, x ∈ l.filter (fun w => !(w.2 == 0 || a.freq > 1)) ↔
      x ∈ l'.filter (fun w => !(w.2 == 0 || a'.freq > 1)) := by
  intro x
  rw [h.freq, List.mem_filter, List.mem_filter, hm x]

theorem byweekdayOf_congr {a a' : Args} (h : SetEquiv a a') : byweekdayOf a = byweekdayOf a' := by
  unfold byweekdayOf
  rcases weekdayArg_congr h with ⟨h1, h2⟩ | ⟨l, l', h1, h2, hm⟩
  · rw [h1, h2]
  · rw [h1, h2]
    dsimp only
    unfold plainWeekdays
    rw [isEmpty_dedup_ext _ _ (plain_mem h l l' hm), sortBy_dedup_ext strictInt _ _ (plain_mem h l l' hm)]

theorem bynweekdayOf_congr {a a' : Args} (h : SetEquiv a a') : bynweekdayOf a = bynweekdayOf a' := by
  unfold bynweekdayOf
  rcases weekdayArg_congr h with ⟨h1, h2⟩ | ⟨l, l', h1, h2, hm⟩
  · rw [h1, h2]
  · rw [h1, h2]
    dsimp only
    unfold plainWeekdays nthWeekdays
    rw [isEmpty_dedup_ext _ _ (plain_mem h l l' hm), isEmpty_dedup_ext _ _ (nth_mem h l l' hm),
      sortBy_dedup_ext strictPair _ _ (nth_mem h l l' hm)]

theorem byeaster_congr {a a' : Args} (h : SetEquiv a a') :
    a.byeaster.map (sortBy ltInt) = a'.byeaster.map (sortBy ltInt) := by
  rcases h.byeaster with ⟨h1, h2⟩ | ⟨l, l', h1, h2, hp⟩
  · rw [h1, h2]
  · rw [h1, h2]
    show some (sortBy ltInt l) = some (sortBy ltInt l')
    rw [sortBy_perm_eq l l' hp]

theorem timesetOf_congr {a a' : Args} (h : SetEquiv a a') (bh bm bs : Option (List Int)) :
    timesetOf a bh bm bs = timesetOf a' bh bm bs := by
  unfold timesetOf
  rw [h.freq]

theorem normBysetpos_congr {a a' : Args} (h : SetEquiv a a') : normBysetpos a = normBysetpos a' := by
  unfold normBysetpos
  rw [h.bysetpos]

/-- **`set()` semantics of the constructor**: two argument sets whose BY lists have the same members (BYSETPOS equal,
    BYEASTER a permutation) construct the same rule, or fail with the same exception -/
theorem construct_perm_dup_invariant (a a' : Args) (h : SetEquiv a a') : construct a = construct a' := by
  unfold construct constructBody
  have e1 := normBysetpos_congr h
  have e2 : normUnit a.freq 4 a.interval a.dtstart.hh a.byhour 24 =
      normUnit a'.freq 4 a'.interval a'.dtstart.hh a'.byhour 24 := by
    rw [normUnit_congr _ _ _ _ _ h.byhour, h.freq, h.interval, h.dtstart]
  have e3 : normUnit a.freq 5 a.interval a.dtstart.mm a.byminute 60 =
      normUnit a'.freq 5 a'.interval a'.dtstart.mm a'.byminute 60 := by
    rw [normUnit_congr _ _ _ _ _ h.byminute, h.freq, h.interval, h.dtstart]
  have e4 : normUnit a.freq 6 a.interval a.dtstart.ss a.bysecond 60 =
      normUnit a'.freq 6 a'.interval a'.dtstart.ss a'.bysecond 60 := by
    rw [normUnit_congr _ _ _ _ _ h.bysecond, h.freq, h.interval, h.dtstart]
  have e5 : ∀ bh bm bs, timesetOf a bh bm bs = timesetOf a' bh bm bs := timesetOf_congr h
  simp only [e5]
  rw [e1, e2, e3, e4, bymonthOf_congr h, bymonthdayOf_congr h, bynmonthdayOf_congr h, byweekdayOf_congr h,
    bynweekdayOf_congr h, byeaster_congr h, sameMembers_sortedSet h.byyearday, sameMembers_sortedSet h.byweekno,
    h.freq, h.interval, h.wkst, h.dtstart, h.tz, h.count, h.untilDT]

-- a permuted BYHOUR with a repeated member and a repeated BYSECOND: same rule (here evaluated, not just proved)
example : SetEquiv { freq := 3, dtstart := ⟨2024, 1, 1, 9, 0, 0, 0⟩, byhour := some [20, 8, 20], bysecond := some [5, 5] }
                   { freq := 3, dtstart := ⟨2024, 1, 1, 9, 0, 0, 0⟩, byhour := some [8, 20], bysecond := some [5] } :=
  ⟨rfl, rfl, rfl, rfl, rfl, rfl, rfl, rfl, Or.inl ⟨rfl, rfl⟩, Or.inl ⟨rfl, rfl⟩, Or.inl ⟨rfl, rfl⟩, Or.inl ⟨rfl, rfl⟩,
   Or.inl ⟨rfl, rfl⟩, Or.inl ⟨rfl, rfl⟩,
   Or.inr ⟨_, _, rfl, rfl, by intro x; simp only [List.mem_cons, List.mem_nil_iff, or_false]; omega⟩, Or.inl ⟨rfl, rfl⟩,
   Or.inr ⟨_, _, rfl, rfl, by intro x; simp only [List.mem_cons, List.mem_nil_iff, or_false]; omega⟩⟩

end RRule
