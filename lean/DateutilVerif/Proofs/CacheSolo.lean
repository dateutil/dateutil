/-
  Proofs/CacheSolo.lean — one thread of the cached-iterator machine run alone while every other
  thread is parked outside the critical section (the single-threaded use of a cached rule:
  queries run to completion, `next()` calls on kept iterators).  Used by the histories of C10.
-/
import DateutilVerif.Proofs.CacheGlobal

namespace Cache
open Queries Py

@[simp] theorem finish_q (sh : Shared) (it : Iter) : (finish sh it).q = it.q := rfl
@[simp] theorem finish_yielded (sh : Shared) (it : Iter) : (finish sh it).yielded = it.yielded := rfl
@[simp] theorem crashWith_q (it : Iter) (e : PyErr) : (crashWith it e).q = it.q := rfl
@[simp] theorem crashWith_yielded (it : Iter) (e : PyErr) : (crashWith it e).yielded = it.yielded := rfl
@[simp] theorem receive_q (sh : Shared) (it : Iter) (x : Int) (n : PC) : (receive sh it x n).q = it.q := by
  unfold receive; simp only []; split <;> rfl
@[simp] theorem receive_yielded (sh : Shared) (it : Iter) (x : Int) (n : PC) :
    (receive sh it x n).yielded = it.yielded ++ [x] := by
  unfold receive; simp only []; split <;> rfl

theorem yield_parked {sh sh' : Shared} {t : Tid} {it it' : Iter}
    (h : stepIter sh t it = some (sh', it')) (hpc : it.pc = .l145 ∨ it.pc = .l148 ∨ it.pc = .listIter) :
    it'.pc.inCrit = false := by
  unfold stepIter at h
  rcases hpc with hpc | hpc | hpc <;> rw [hpc] at h <;> cases h <;> split <;>
    first | rfl | exact receive_inCrit rfl

theorem stepIter_q {sh sh' : Shared} {t : Tid} {it it' : Iter}
    (h : stepIter sh t it = some (sh', it')) :
    it'.q = it.q ∧ (it'.yielded = it.yielded ∨
      (∃ x, it'.yielded = it.yielded ++ [x] ∧ (it.pc = .l145 ∨ it.pc = .l148 ∨ it.pc = .listIter))) := by
  revert h
  fun_cases stepIter sh t it <;> intro h <;> (try cases h) <;>
    first
    | exact ⟨rfl, .inl rfl⟩
    | (split <;> exact ⟨rfl, .inl rfl⟩)
    | skip
  · split                                                              -- listIter
    · exact ⟨rfl, .inl rfl⟩
    · exact ⟨receive_q .., .inr ⟨_, receive_yielded .., .inr (.inr ‹_›)⟩⟩
  · revert h                                                           -- l138
    fun_cases step138 sh it <;> intro h <;> cases h <;> exact ⟨rfl, .inl rfl⟩
  · split                                                              -- l145
    · exact ⟨receive_q .., .inr ⟨_, receive_yielded .., .inl ‹_›⟩⟩
    · exact ⟨rfl, .inl rfl⟩
  · split                                                              -- l148
    · exact ⟨receive_q .., .inr ⟨_, receive_yielded .., .inr (.inl ‹_›)⟩⟩
    · exact ⟨rfl, .inl rfl⟩

/-- thread `t` may run: the invariant holds and every OTHER thread is outside the critical section -/
structure Solo (s : State) (t : Tid) : Prop where
  inv : Inv s
  parked : ∀ (t' : Tid) (it' : Iter), t' ≠ t → s.its[t']? = some it' → it'.pc.inCrit = false

theorem solo_enabled {s : State} {t : Tid} {it : Iter} (hs : Solo s t) (hit : s.its[t]? = some it)
    (hnd : it.pc ≠ .done) : ∃ s', step s t = some s' := by
  unfold step
  rw [hit]
  simp only []
  cases hst : stepIter s.sh t it with
  | some p => exact ⟨_, rfl⟩
  | none =>
    exfalso
    rcases stepIter_none hst with hd | ⟨h132, hl⟩
    · exact hnd hd
    · cases hlock : s.sh.lock with
      | none => exact hl hlock
      | some o =>
        obtain ⟨ito, hito⟩ := hs.inv.owner o hlock
        have hcrit := (hs.inv.lockinv o ito hito).mpr hlock
        by_cases e : o = t
        · subst e
          rw [hit] at hito; cases hito
          rw [h132] at hcrit; simp [PC.inCrit] at hcrit
        · rw [hs.parked o ito e hito] at hcrit; cases hcrit

theorem solo_step {s s' : State} {t : Tid} (hs : Solo s t) (h : step s t = some s') :
    Solo s' t ∧ s'.sh.src = s.sh.src ∧ s'.its.length = s.its.length ∧
    (∀ t', t' ≠ t → s'.its[t']? = s.its[t']?) ∧
    (∀ it, s.its[t]? = some it → ∃ it', s'.its[t]? = some it' ∧ it'.q = it.q ∧
        mu s.sh.src.length it' < mu s.sh.src.length it ∧
        (it'.yielded = it.yielded ∨ (∃ x, it'.yielded = it.yielded ++ [x] ∧ it'.pc.inCrit = false))) := by
  have hi' := inv_step' hs.inv h
  have hsrc := (measure_step hs.inv h).2
  obtain ⟨it, sh', it', hit, hst, rfl⟩ := step_eq h
  have hother : ∀ t', t' ≠ t → (s.its.set t it')[t']? = s.its[t']? :=
    fun t' e => List.getElem?_set_ne (Ne.symm e)
  refine ⟨⟨hi', ?_⟩, hsrc, by simp, hother, ?_⟩
  · intro t' it2 e h2
    simp only [] at h2
    rw [hother t' e] at h2
    exact hs.parked t' it2 e h2
  · intro it0 hit0
    rw [hit] at hit0; cases hit0
    have hq := stepIter_q hst
    refine ⟨it', List.getElem?_set_self_of_getElem? hit, hq.1, stepIter_mu hst hs.inv.sinv (hs.inv.linv t it hit), ?_⟩
    rcases hq.2 with h | ⟨x, hx, hpc⟩
    · exact Or.inl h
    · exact Or.inr ⟨x, hx, yield_parked hst hpc⟩

theorem inv_add_iter {s : State} (hi : Inv s) (it0 : Iter) (hl0 : LInv s.sh it0) (hp0 : it0.pc.inCrit = false) :
    Inv { s with its := s.its ++ [it0] } := by
  have hget : ∀ (t : Tid) (it : Iter), (s.its ++ [it0])[t]? = some it →
      s.its[t]? = some it ∨ (t = s.its.length ∧ it = it0) := fun t it h =>
    (List.getElem?_concat_cases h).imp_left (·.2)
  have hold : ∀ {t : Tid} {it : Iter}, s.its[t]? = some it → (s.its ++ [it0])[t]? = some it := fun h =>
    (List.getElem?_append_left (List.getElem?_eq_some_iff.mp h).1).trans h
  have hfree : s.sh.lock ≠ some s.its.length := fun hl => by
    obtain ⟨ito, hito⟩ := hi.owner _ hl
    rw [List.getElem?_eq_none (Nat.le_refl _)] at hito; cases hito
  refine ⟨hi.sinv, fun t it h => ?_, fun t it h => ?_, fun t hl => (hi.owner t hl).imp fun _ => hold⟩
  · rcases hget t it h with h | ⟨_, rfl⟩
    · exact hi.linv t it h
    · exact hl0
  · rcases hget t it h with h | ⟨rfl, rfl⟩
    · exact hi.lockinv t it h
    · exact iff_of_false (by rw [hp0]; nofun) hfree

theorem inv_add {s : State} (hi : Inv s) (q : Query) : Inv { s with its := s.its ++ [{ q := q }] } :=
  inv_add_iter hi { q := q } ⟨rfl, rfl, rfl⟩ rfl

/-- every thread's measure is below the fuel the history machine gives it -/
theorem mu_bound {sh : Shared} {it : Iter} (hl : LInv sh it) :
    mu sh.src.length it ≤ (sh.src.length + 1) * 40 + 46 := by
  obtain ⟨_, hl⟩ := hl
  rw [mu_congr rfl]
  cases hpc : it.pc <;> simp only [mu]
  case listIter =>
    -- the list iterator has at most `src` left
    simp only [hpc] at hl
    have : (it.yielded ++ it.pending).length = sh.src.length := by rw [hl.1]
    simp only [List.length_append] at this
    omega
  all_goals first
    | exact Nat.add_le_add (Nat.mul_le_mul_right _ (Nat.sub_le _ _)) (by decide)
    | omega

end Cache
