/-
  Proofs/RenderSentence.lean — C15 "fuzzy parsing of a sentence containing one date returns that date", for sentences made of
  filler words, one rendering, filler words: the class of filler words is DECIDABLE (`fillerWord`), the scan over any number of
  them is proved once by induction (`inert_run`, `inert_seg`), the scan behind the words in front is the scan at position 0
  (`lead_run`, from `parseLoop_shift`), and `tpl_sentence` lifts every template whose scan is proved for an admissible suffix
  (the C02 schema) to the sentence.  `Rendering` bundles what is proved about one template; its theorem for offsets and its
  theorem for sentences are `Rendering.tpl` and `Rendering.sentence`.
-/
import DateutilVerif.Proofs.RenderPrep

namespace PM
open Py PT

/-- what the scan needs to know about one token it is to skip -/
structure Inert (cls : Char → CClass) (info : Info) (w : Token) : Prop where
  flt : floatOk cls w = false
  wd : info.weekdayOf w = none
  mo : info.monthOf w = none
  ap : info.ampmOf w = none
  tz : ∀ h n o, couldBeTzname info h n o w = false
  pm : w ≠ ['+'] ∧ w ≠ ['-']

section
variable (cls : Char → CClass) [AsciiOK cls] (df yf : Bool) (year century : Int)
local notation "I" => Info.default df yf year century

theorem inert_sp : Inert cls (I) [' '] := by
  refine ⟨?_, by simp, by simp, by simp, ?_, by decide⟩
  · rw [floatOk_ascii cls [' '] (by decide)]; decide
  · intro h n o; simp [couldBeTzname]; intro _ _ _; tbl

theorem inert_filler (w : Token) (h : fillerWord w = true) : Inert cls (I) w := by
  simp only [fillerWord, Bool.and_eq_true, Bool.not_eq_true', Option.isNone_iff_eq_none] at h
  obtain ⟨⟨⟨⟨⟨⟨ha, hf⟩, hwd⟩, hmo⟩, hhms⟩, hap⟩, htz⟩ := h
  refine ⟨floatOk_alpha cls w ha hf, by rw [weekdayOf_stock]; exact hwd, by rw [monthOf_stock]; exact hmo,
    by rw [ampmOf_stock]; exact hap, ?_, ?_⟩
  · intro hh n o
    have hu : (I).UTCZONE = stock.UTCZONE := rfl
    simp only [couldBeTzname, hu]
    cases hl : decide (w.length ≤ 5) <;> simp_all
  · constructor <;> (rintro rfl; simp [isAlphaWord] at ha; revert ha; decide)

theorem hms_filler (w : Token) (h : fillerWord w = true) : (I).hmsOf w = none := by
  simp only [fillerWord, Bool.and_eq_true, Bool.not_eq_true', Option.isNone_iff_eq_none] at h
  rw [hmsOf_stock]; exact h.1.1.2

/-- one inert token in fuzzy mode: skipped, nothing else changes -/
theorem inert_step (info : Info) (pre : List Token) (w : Token) (rest : List Token) (r : Res) (y : Ymd) (sk : List Nat) (lenL : Nat)
    (hw : Inert cls info w) :
    parseStep cls info true lenL pre.length { l := pre ++ w :: rest, res := r, ymd := y, skipped := sk } =
      .ok (0, { l := pre ++ w :: rest, res := r, ymd := y, skipped := sk ++ [pre.length] }) := by
  obtain ⟨hflt, hwd, hmo, hap, htz, hp1, hp2⟩ := hw
  have hat : (pre ++ w :: rest)[pre.length]? = some w := by simp
  unfold parseStep
  simp [tokAt, hflt, hwd, hmo, hap, htz, hp1, hp2, bind, Except.bind, pure, Except.pure]

theorem inert_fillerToks (ws : List Token) (hws : ∀ w ∈ ws, fillerWord w = true) : ∀ v ∈ fillerToks ws, Inert cls (I) v := by
  intro v hv
  simp only [fillerToks, List.mem_flatMap, List.mem_cons, List.mem_nil_iff, or_false] at hv
  obtain ⟨w, hw, hv | hv⟩ := hv
  · subst hv; exact inert_sp cls df yf year century
  · subst hv; exact inert_filler cls df yf year century v (hws v hw)

/-- a run of inert tokens in the middle of the list: all skipped, in order, and the scan goes on behind them -/
theorem inert_seg (info : Info) (lenL : Nat) (r : Res) (y : Ymd) (fs : List Token) (hfs : ∀ w ∈ fs, Inert cls info w)
    (tail : List Token) (m : Nat) :
    ∀ (pre : List Token) (sk : List Nat),
    parseLoop cls info true lenL (fs.length + m) pre.length 0 { l := pre ++ (fs ++ tail), res := r, ymd := y, skipped := sk } =
    parseLoop cls info true lenL m (pre.length + fs.length) 0
      { l := pre ++ (fs ++ tail), res := r, ymd := y, skipped := sk ++ List.range' pre.length fs.length } := by
  induction fs with
  | nil => intro pre sk; simp
  | cons w rest ih =>
    intro pre sk
    have hw := hfs w List.mem_cons_self
    have hrest : ∀ v ∈ rest, Inert cls info v := fun v hv => hfs v (List.mem_cons_of_mem _ hv)
    have e1 : (w :: rest).length + m = (rest.length + m) + 1 := by simp only [List.length_cons]; omega
    rw [e1]
    conv => lhs; unfold parseLoop
    have hstep := inert_step cls info pre w (rest ++ tail) r y sk lenL hw
    simp only [List.cons_append] at hstep ⊢
    rw [hstep]
    have := ih hrest (pre ++ [w]) (sk ++ [pre.length])
    simp only [List.length_append, List.length_singleton, List.append_assoc, List.singleton_append] at this
    simp only [this, List.length_cons, List.range'_succ]
    congr 1
    omega

/-- any number of inert tokens at the end of the list: all skipped, in order -/
theorem inert_run (info : Info) (lenL : Nat) (r : Res) (y : Ymd) (fs : List Token) (hfs : ∀ w ∈ fs, Inert cls info w)
    (pre : List Token) (sk : List Nat) :
    parseLoop cls info true lenL fs.length pre.length 0 { l := pre ++ fs, res := r, ymd := y, skipped := sk } =
      .ok { l := pre ++ fs, res := r, ymd := y, skipped := sk ++ List.range' pre.length fs.length } := by
  have := inert_seg cls info lenL r y fs hfs [] 0 pre sk
  simpa [parseLoop] using this

theorem inert_leadToks (us : List Token) (hus : ∀ w ∈ us, fillerWord w = true) : ∀ v ∈ leadToks us, Inert cls (I) v := by
  intro v hv
  simp only [leadToks, List.mem_flatMap, List.mem_cons, List.mem_nil_iff, or_false] at hv
  obtain ⟨w, hw, hv | hv⟩ := hv
  · subst hv; exact inert_filler cls df yf year century v (hus v hw)
  · subst hv; exact inert_sp cls df yf year century

/-- lexing the words in front, whatever follows -/
theorem lex_lead (us : List Token) (hus : ∀ w ∈ us, fillerWord w = true) (rest : List Char) :
    scan cls .init (leadChars us ++ rest) = leadToks us ++ scan cls .init rest := by
  induction us with
  | nil => simp [leadChars, leadToks]
  | cons w more ih =>
    have hw : isAlphaWord w = true := by
      have := hus w List.mem_cons_self
      simp only [fillerWord, Bool.and_eq_true] at this
      exact this.1.1.1.1.1.1
    have hmore : ∀ v ∈ more, fillerWord v = true := fun v hv => hus v (List.mem_cons_of_mem _ hv)
    have e : leadChars (w :: more) ++ rest = w ++ (' ' :: (leadChars more ++ rest)) := by simp [leadChars]
    rw [e, lex_alpha cls w _ hw (wordEnds_sp cls _), lex_sp, ih hmore]
    simp [leadToks]

theorem lex_filler (ws : List Token) (hws : ∀ w ∈ ws, fillerWord w = true) :
    scan cls .init (fillerChars ws) = fillerToks ws := by
  induction ws with
  | nil => simp [fillerChars, fillerToks, scan_init_nil]
  | cons w rest ih =>
    have hw : isAlphaWord w = true := by
      have := hws w List.mem_cons_self
      simp only [fillerWord, Bool.and_eq_true] at this
      exact this.1.1.1.1.1.1
    have hrest : ∀ v ∈ rest, fillerWord v = true := fun v hv => hws v (List.mem_cons_of_mem _ hv)
    have hends : WordEnds cls (fillerChars rest) := by
      cases rest with
      | nil => exact wordEnds_nil cls
      | cons v vs => simp only [fillerChars, List.flatMap_cons, List.cons_append]; exact wordEnds_sp cls _
    have e : fillerChars (w :: rest) = ' ' :: (w ++ fillerChars rest) := by simp [fillerChars]
    rw [e, lex_sp, lex_alpha cls w _ hw hends, ih hrest]
    simp [fillerToks]

theorem numEnds_filler (ws : List Token) : NumEnds cls (fillerChars ws) := by
  cases ws with
  | nil => exact numEnds_nil cls
  | cons v vs => simp only [fillerChars, List.flatMap_cons, List.cons_append]; exact numEnds_sp cls _

theorem wordEnds_filler (ws : List Token) : WordEnds cls (fillerChars ws) := by
  cases ws with
  | nil => exact wordEnds_nil cls
  | cons v vs => simp only [fillerChars, List.flatMap_cons, List.cons_append]; exact wordEnds_sp cls _

theorem suf1_filler (ws : List Token) : Suf1 (I) (fillerToks ws) := by
  cases ws with
  | nil => exact Or.inl rfl
  | cons v vs => exact Or.inr ⟨[' '], v :: fillerToks vs, by simp [fillerToks], by decide, by simp, by simp⟩

end

/-- `_recombine_skipped` never fails on indices of the token list -/
theorem recombine_go_ok (tokens : List Token) (skipped : List Nat) :
    ∀ (rest : List Nat) (i : Nat) (acc : List Token), (∀ k ∈ rest, k < tokens.length) → (i > 0 → acc ≠ []) →
      ∃ r, recombineSkipped.go tokens skipped rest i acc = .ok r := by
  intro rest
  induction rest with
  | nil => intro i acc _ _; exact ⟨acc, by simp [recombineSkipped.go]⟩
  | cons idx rest ih =>
    intro i acc hr hacc
    have hidx : idx < tokens.length := hr idx List.mem_cons_self
    have hrest : ∀ k ∈ rest, k < tokens.length := fun k hk => hr k (List.mem_cons_of_mem _ hk)
    have ht : tokAt tokens idx = .ok tokens[idx] := by simp [tokAt, hidx]
    simp only [recombineSkipped.go, ht, bind, Except.bind]
    by_cases hc : i > 0 ∧ (skipped[i - 1]?).map (· + 1) = some idx
    · simp only [hc, and_self, if_true]
      have hne := hacc hc.1
      cases hrev : acc.reverse with
      | nil => simp at hrev; exact absurd hrev hne
      | cons last revInit => exact ih (i + 1) _ hrest (fun _ => by simp)
    · simp only [hc, if_false]
      exact ih (i + 1) _ hrest (fun _ => by simp)

theorem recombine_ok (tokens : List Token) (skipped : List Nat) (h : ∀ k ∈ skipped, k < tokens.length) :
    ∃ r, recombineSkipped tokens skipped = .ok r := by
  unfold recombineSkipped
  exact recombine_go_ok tokens skipped _ 0 [] (fun k hk => h k ((List.mergeSort_perm skipped _).mem_iff.mp hk)) (by simp)

/-- the fuzzy parse with the token tuple, once the scan has returned and the skipped tokens are recombined -/
theorem parseResult_of_loop_fwt (cls : Char → CClass) (info : Info) (o : Opts) (tznames : List Token) (tzi : TzInfos) (dflt : DT)
    (l : List Token) (st : PState) (hfwt : o.fuzzyWithTokens = true)
    (hloop : parseLoop cls info true l.length l.length 0 0 { l := l } = .ok st)
    (toks : List Token) (hre : recombineSkipped st.l st.skipped = .ok toks) (dt : DT) (tz : TzDescr)
    (hfin : finishOf info o tznames tzi dflt st.ymd st.res = .ok { dt := dt, tz := tz, tokens := none }) :
    parseResult cls info o tznames tzi dflt l = .ok { dt := dt, tz := tz, tokens := some toks } := by
  unfold finishOf afterValidate at hfin
  unfold parseResult parseTokens parseTry
  simp only [hfwt, Bool.or_true, hloop, bind, Except.bind, throw, throwThe, MonadExceptOf.throw]
  cases hr : st.ymd.resolve (o.yearfirst.getD info.yearfirst) (o.dayfirst.getD info.dayfirst) with
  | error e =>
    simp only [hr] at hfin
    by_cases hc : caughtInParse e = true <;> simp [hc] at hfin
  | ok ymdv =>
    obtain ⟨y, m, d⟩ := ymdv
    simp only [hr] at hfin
    simp only [pure, Except.pure]
    cases hv : validate info { st.res with centurySpecified := st.ymd.century, year := y, month := m, day := d } with
    | error e => simp [hv] at hfin
    | ok res2 =>
      simp only [hv] at hfin
      simp only [if_true, hre]
      by_cases hlen : res2.len = 0
      · simp [hlen] at hfin
      · simp only [hlen, if_false] at hfin ⊢
        cases hb : buildNaive res2 dflt with
        | error e => cases e <;> simp [hb] at hfin
        | ok naive =>
          simp only [hb] at hfin ⊢
          by_cases hig : o.ignoretz = true
          · simp only [hig, if_true] at hfin ⊢
            injection hfin with hfin
            injection hfin with h1 h2 h3
            simp [h1, h2]
          · simp only [hig, if_false, Bool.false_eq_true] at hfin ⊢
            cases hz : buildTzaware tznames tzi res2 with
            | error e => cases e <;> simp [hz] at hfin
            | ok z =>
              simp only [hz] at hfin ⊢
              injection hfin with hfin
              injection hfin with h1 h2 h3
              simp [h1, h2]

/-- **the answer for a sentence**: `parse` returns the datetime `dt` (naive), and — when `fuzzy_with_tokens` is asked for — the token
    tuple `toks`, which is `_recombine_skipped` of a list of skipped indices that contains EVERY token in front of position `a` and
    EVERY token from position `b` on (the words around the rendering, which occupies positions `a … b-1`) -/
def SentenceAnswer (cls : Char → CClass) (info : Info) (o : Opts) (tznames : List Token) (tzi : TzInfos) (dflt : DT)
    (text : List Char) (dt : DT) (a b : Nat) : Prop :=
  ∃ (toks : List Token) (sk : List Nat), recombineSkipped (lex cls text) sk = .ok toks ∧
    (∀ i, (i < a ∨ (b ≤ i ∧ i < (lex cls text).length)) → i ∈ sk) ∧
    parse cls info o tznames tzi dflt text = .ok { dt := dt, tz := .naive, tokens := if o.fuzzyWithTokens then some toks else none }

/-- `finishOf` does not look at the fuzzy flags -/
theorem finishOf_strict (info : Info) (o : Opts) (tznames : List Token) (tzi : TzInfos) (dflt : DT) (ymd : Ymd) (res : Res) :
    finishOf info o tznames tzi dflt ymd res =
      finishOf info { o with fuzzy := false, fuzzyWithTokens := false } tznames tzi dflt ymd res := rfl

/-- the scan of a token list with filler words (each followed by a space) in front of it: the words are skipped, and behind
    them the scan does what it does on the list alone, by `parseLoop_shift` (filler words are no h/m/s words) -/
theorem lead_run (cls : Char → CClass) [AsciiOK cls] (df yf : Bool) (year century : Int) (lead : List Token)
    (hlead : ∀ w ∈ lead, fillerWord w = true) (l : List Token) (st : PState)
    (h : parseLoop cls (Info.default df yf year century) true l.length l.length 0 0 { l := l } = .ok st) :
    parseLoop cls (Info.default df yf year century) true (leadToks lead ++ l).length (leadToks lead ++ l).length 0 0
        { l := leadToks lead ++ l } =
      .ok (st.shift (leadToks lead) (List.range' 0 (leadToks lead).length)) := by
  have hin := inert_leadToks cls df yf year century lead hlead
  have hhms : ∀ s ∈ leadToks lead, (Info.default df yf year century).hmsOf s = none := by
    intro s hs
    simp only [leadToks, List.mem_flatMap, List.mem_cons, List.mem_nil_iff, or_false] at hs
    obtain ⟨w, hw, rfl | rfl⟩ := hs
    · exact hms_filler df yf year century _ (hlead _ hw)
    · exact hms_sp df yf year century
  have s1 := inert_seg cls (Info.default df yf year century) ((leadToks lead).length + l.length) {} {} (leadToks lead) hin l
    l.length [] []
  have s2 := parseLoop_shift cls (Info.default df yf year century) true (leadToks lead) (List.range' 0 (leadToks lead).length)
    hhms l.length l.length 0 0 { l := l }
  simp only [PState.shift, List.map_nil, List.append_nil, Nat.add_zero] at s2
  simp only [List.length_nil, List.nil_append, Nat.zero_add] at s1
  rw [List.length_append, s1, s2, h]
  rfl

/-- **the sentence schema**: a rendering whose token scan is proved (in fuzzy mode) for the filler behind it as suffix, with any
    number of filler words in front and behind, parses with `fuzzy=True` or `fuzzy_with_tokens=True` to what the rendering
    alone parses to; the token tuple is `_recombine_skipped` of the skipped indices — every token in front, the rendering's
    own separators `skC` (moved behind the words in front), every token behind. -/
theorem tpl_sentence (cls : Char → CClass) [AsciiOK cls] (df yf : Bool) (year century : Int) (o : Opts) (tznames : List Token)
    (tzi : TzInfos) (hf : (o.fuzzy || o.fuzzyWithTokens) = true) (dflt : DT)
    (str : List Char) (core : List Token) (n : Nat) (hn : core.length = n)
    (rC : Res) (yC : Ymd) (skC : List Nat) (hsk : ∀ k ∈ skC, k < n) (dt : DT)
    (lead ws : List Token) (hlead : ∀ w ∈ lead, fillerWord w = true) (hws : ∀ w ∈ ws, fillerWord w = true)
    (hlex : scan cls .init (str ++ fillerChars ws) = core ++ scan cls .init (fillerChars ws))
    (hcore : parseLoop cls (Info.default df yf year century) true ((fillerToks ws).length + n) ((fillerToks ws).length + n) 0 0
        { l := core ++ fillerToks ws } =
      parseLoop cls (Info.default df yf year century) true ((fillerToks ws).length + n) (fillerToks ws).length n 0
        { l := core ++ fillerToks ws, res := rC, ymd := yC, skipped := skC })
    (hfin : finishOf (Info.default df yf year century) { o with fuzzy := false, fuzzyWithTokens := false } tznames tzi dflt yC rC =
      .ok { dt := dt, tz := .naive, tokens := none }) :
    SentenceAnswer cls (Info.default df yf year century) o tznames tzi dflt (leadChars lead ++ (str ++ fillerChars ws)) dt
      (leadToks lead).length ((leadToks lead).length + n) := by
  have hlexall : lex cls (leadChars lead ++ (str ++ fillerChars ws)) = leadToks lead ++ (core ++ fillerToks ws) := by
    unfold lex; rw [lex_lead cls lead hlead, hlex, lex_filler cls ws hws]
  unfold SentenceAnswer parse
  rw [hlexall]
  have hlen0 : (core ++ fillerToks ws).length = (fillerToks ws).length + n := by simp [hn]; omega
  have hlen : (leadToks lead ++ (core ++ fillerToks ws)).length = (leadToks lead).length + ((fillerToks ws).length + n) := by
    rw [List.length_append, hlen0]
  have hloop0 : parseLoop cls (Info.default df yf year century) true (core ++ fillerToks ws).length (core ++ fillerToks ws).length 0 0
      { l := core ++ fillerToks ws } =
      .ok { l := core ++ fillerToks ws, res := rC, ymd := yC, skipped := skC ++ List.range' n (fillerToks ws).length } := by
    rw [hlen0, hcore, ← hn]
    exact inert_run cls _ _ rC yC (fillerToks ws) (inert_fillerToks cls df yf year century ws hws) core skC
  have hloop := lead_run cls df yf year century lead hlead _ _ hloop0
  generalize leadToks lead = pre at hloop hlen ⊢
  obtain ⟨toks, hre⟩ := recombine_ok (pre ++ (core ++ fillerToks ws))
    (List.range' 0 pre.length ++ (skC ++ List.range' n (fillerToks ws).length).map (pre.length + ·)) (by
    intro k hk
    rw [hlen]
    simp only [List.mem_append, List.mem_map, List.mem_range'_1] at hk
    rcases hk with h | ⟨j, h | h, rfl⟩
    · omega
    · have := hsk j h; omega
    · omega)
  refine ⟨toks, _, hre, ?_, ?_⟩
  · intro i hi
    simp only [List.mem_append, List.mem_map, List.mem_range'_1]
    rcases hi with hi | ⟨h1, h2⟩
    · exact Or.inl ⟨by omega, by omega⟩
    · rw [hlen] at h2
      exact Or.inr ⟨i - pre.length, Or.inr ⟨by omega, by omega⟩, by omega⟩
  by_cases hfwt : o.fuzzyWithTokens = true
  · rw [parseResult_of_loop_fwt cls _ o tznames tzi dflt _ _ hfwt hloop toks hre dt .naive (by rw [finishOf_strict]; exact hfin)]
    simp [hfwt]
  · have hfz : o.fuzzy = true := by
      cases h1 : o.fuzzy <;> cases h2 : o.fuzzyWithTokens <;> simp_all
    have hfwt' : o.fuzzyWithTokens = false := by simpa using hfwt
    rw [parseResult_of_loop cls _ o tznames tzi dflt _ _ true hfz hfwt' hloop]
    show finishOf _ _ _ _ _ yC rC = _
    rw [finishOf_strict, hfin]
    simp [hfwt']

/-- what is proved about one rendering with a time of day, `str rest` for a datetime, under given options: how it lexes
    (whatever `rest` satisfying `Ends` follows), what the scan does on its tokens `core` with a suffix satisfying `Suf` behind
    them, and what the finish makes of the scan's result.  From it follow the theorem for every offset suffix (`Rendering.tpl`)
    and the theorem for a sentence around it (`Rendering.sentence`).  (`str` is a function of what follows because the printers
    `PT.str_*` are; `tpl_*` / `sentence_*` take `dflt.Valid` also where no field comes from the default, so that all entries of
    `C02.TemplateThm` / `C15.SentenceThm` have one shape.) -/
structure Rendering (cls : Char → CClass) (df yf : Bool) (year century : Int) (o : Opts) (tznames : List Token) (tzi : TzInfos)
    (dflt : DT) (str : List Char → List Char) (core : List Token) (Ends : List Char → Prop) (Suf : List Token → Prop) (dt : DT) :
    Prop where
  app : ∀ rest, str rest = str [] ++ rest
  lex : ∀ rest, Ends rest → scan cls .init (str rest) = core ++ scan cls .init rest
  run : ∃ (rC : Res) (yC : Ymd) (skC : List Nat), skC.all (· < core.length) = true ∧ rC.tzname = none ∧ rC.tzoffset = none ∧
    rC.hour.isSome = true ∧
    (∀ (fz : Bool) (suf : List Token), Suf suf →
      parseLoop cls (Info.default df yf year century) fz (suf.length + core.length) (suf.length + core.length) 0 0
          { l := core ++ suf } =
        parseLoop cls (Info.default df yf year century) fz (suf.length + core.length) suf.length core.length 0
          { l := core ++ suf, res := rC, ymd := yC, skipped := skC }) ∧
    finishOf (Info.default df yf year century) o tznames tzi dflt yC rC = .ok { dt := dt, tz := .naive, tokens := none }

section
variable {cls : Char → CClass} [AsciiOK cls] {df yf : Bool} {year century : Int} {o : Opts} {tznames : List Token} {tzi : TzInfos}
  {dflt : DT} {str : List Char → List Char} {core : List Token} {Ends : List Char → Prop} {Suf : List Token → Prop} {dt : DT}

/-- the rendering followed by an offset -/
theorem Rendering.tpl (c : Rendering cls df yf year century o tznames tzi dflt str core Ends Suf dt) (ho : StrictOpts o tzi)
    (off : Off) (hoff : off.Dom) (he : Ends off.render) (hs : Suf (offTokens off)) :
    parse cls (Info.default df yf year century) o tznames tzi dflt (str off.render) =
      .ok { dt := dt, tz := offZone o tznames off, tokens := none } := by
  obtain ⟨rC, yC, skC, _, htn, hto, hh, hrun, hfin⟩ := c.run
  have hl := c.lex _ he
  rw [c.app] at hl ⊢
  exact tpl_theorem cls df yf year century o tznames tzi ho dflt (str []) core core.length rfl rC yC skC dt off hoff hl
    (hrun false _ hs) htn hto (Or.inl hh) hfin

/-- the rendering between filler words, fuzzy -/
theorem Rendering.sentence
    (c : Rendering cls df yf year century { o with fuzzy := false, fuzzyWithTokens := false } tznames tzi dflt str core Ends Suf dt)
    (hf : (o.fuzzy || o.fuzzyWithTokens) = true) (lead ws : List Token) (hlead : ∀ w ∈ lead, fillerWord w = true)
    (hws : ∀ w ∈ ws, fillerWord w = true) (he : Ends (fillerChars ws)) (hs : Suf (fillerToks ws)) :
    SentenceAnswer cls (Info.default df yf year century) o tznames tzi dflt (leadChars lead ++ str (fillerChars ws)) dt
      (leadToks lead).length ((leadToks lead).length + core.length) := by
  obtain ⟨rC, yC, skC, hsk, _, _, _, hrun, hfin⟩ := c.run
  have hl := c.lex _ he
  rw [c.app] at hl ⊢
  exact tpl_sentence cls df yf year century o tznames tzi hf dflt (str []) core core.length rfl rC yC skC
    (fun k hk => of_decide_eq_true (List.all_eq_true.mp hsk k hk)) dt lead ws hlead hws hl (hrun true _ hs) hfin
end

end PM
