/-
  Proofs/ParserGenHms.lean — `parser._find_hms_idx`, `_parse_hms`, `_assign_tzname` re-translated from /repo's
  parser/_parser.py (Generated/ParserOps.lean) against the hand model (Model/Parser.lean: `findHmsIdx`, the index /
  unit arithmetic of `numHms`, `assignFold`).
-/
import DateutilVerif.Proofs.ParserGenSmall

namespace PGen
open PM Py

theorem hmsAtIs_some {info : Info} {l : List Token} {k : Nat} {t : Token} (h : l[k]? = some t) :
    PM.hmsAtIs info l k = (info.hmsOf t).isSome := by unfold PM.hmsAtIs; rw [h]; rfl

/-- `info.hms(tokens[k]) is not None` for an index inside the list -/
theorem hmsProbe_eq (info : Info) (l : List Token) (k : Nat) (h : k < l.length) :
    Except.bind (PPy.toksAt l ((k : Nat) : Int)) (fun tok => Except.bind (Gen.P.info_hms info tok) (fun q => .ok (decide (q ≠ none))))
      = .ok (PM.hmsAtIs info l k) := by
  have hk := List.getElem?_eq_getElem h
  rw [toksAt_eq, tokAt_some hk, hmsAtIs_some hk, bind_ok, info_hms_eq, bind_ok]
  cases info.hmsOf l[k] <;> rfl

/-- one probe of `_find_hms_idx`: `info.hms(tokens[k]) is not None` -/
theorem probe_eq (info : Info) (l : List Token) (j : Int) (k : Nat) (hj : j = (k : Int)) (h : k < l.length) :
    Except.bind (PPy.toksAt l j) (fun tok => Except.bind (Gen.P.info_hms info tok) (fun q => .ok (decide (q ≠ none))))
      = .ok (((l[k]?).bind info.hmsOf).isSome) := by
  subst hj; exact hmsProbe_eq info l k h

theorem natOfInt_sub (idx k : Nat) (h : k ≤ idx) : PPy.natOfInt ((idx : Int) - (k : Int)) = .ok (idx - k) := by
  unfold PPy.natOfInt
  have : ¬ ((idx : Int) - (k : Int) < 0) := by omega
  simp only [this, if_false]
  congr 1; omega

theorem tokIs_iff (l : List Token) (k : Nat) (t : Token) : PM.tokIs l k t = true ↔ l[k]? = some t := by
  unfold PM.tokIs; exact beq_iff_eq

/-- `tokens[k1] == s and info.hms(tokens[k2]) is not None`, both indices inside the list -/
theorem tokProbe_eq (info : Info) (l : List Token) (k1 k2 : Nat) (s : Token) (h1 : k1 < l.length) (h2 : k2 < l.length) :
    Except.bind (PPy.toksAt l ((k1 : Nat) : Int)) (fun tok_4 =>
      (if ((some tok_4) = (some s)) then
        Except.bind (PPy.toksAt l ((k2 : Nat) : Int)) (fun tok_5 =>
          Except.bind (Gen.P.info_hms info tok_5) (fun q_6 => .ok (decide (q_6 ≠ none))))
        else .ok false)) = .ok (PM.tokIs l k1 s && PM.hmsAtIs info l k2) := by
  have hk := List.getElem?_eq_getElem h1
  rw [hmsProbe_eq info l k2 h2, toksAt_eq, tokAt_some hk, tokIs_some hk, bind_ok]
  by_cases e : l[k1] = s <;> simp [e]

/-- what `PM.findHmsIdx` finds, without the unit -/
theorem findHmsIdx_fst (info : Info) (idx : Nat) (l : List Token) (aj : Bool) :
    (PM.findHmsIdx info idx l aj).map (·.1) =
      if idx + 1 < l.length ∧ hmsAtIs info l (idx + 1) then some (idx + 1)
      else if aj ∧ idx + 2 < l.length ∧ l[idx + 1]? = some [' '] ∧ hmsAtIs info l (idx + 2) then some (idx + 2)
      else if idx > 0 ∧ hmsAtIs info l (idx - 1) then some (idx - 1)
      else if 1 < idx ∧ idx + 1 = l.length ∧ l[idx - 1]? = some [' '] ∧ hmsAtIs info l (idx - 2) then some (idx - 2)
      else none := by
  have key : ∀ (k : Nat) (o : Option Nat), o.isSome → (o.map (fun h => (k, h))).map (·.1) = some k := by
    intro k o h; cases o with
    | none => cases h
    | some v => rfl
  unfold PM.findHmsIdx PM.hmsAtIs
  simp only []
  split
  · next c => exact key _ _ c.2
  split
  · next c => exact key _ _ c.2.2.2
  split
  · next c => exact key _ _ c.2
  split
  · next c => exact key _ _ c.2.2.2
  rfl

/-- `parser._find_hms_idx` = the index the model's `findHmsIdx` finds (for a token index inside the
    list, which is where `_parse_numeric_token` calls it): the four probes, then the same chain of tests -/
theorem findHmsIdx_eq (info : Info) (idx : Nat) (l : List Token) (aj : Bool) (hidx : idx < l.length) :
    Gen.P.findHmsIdx info idx l aj = .ok ((PM.findHmsIdx info idx l aj).map (·.1)) := by
  rw [findHmsIdx_fst]
  unfold Gen.P.findHmsIdx
  have p1 : (if idx + 1 < l.length then Except.bind (PPy.toksAt l ((idx + 1 : Nat) : Int)) (fun tok_1 =>
        Except.bind (Gen.P.info_hms info tok_1) (fun q_2 => .ok (decide (q_2 ≠ none)))) else (.ok false : R Bool)) =
      .ok (decide (idx + 1 < l.length ∧ hmsAtIs info l (idx + 1))) := by
    by_cases h : idx + 1 < l.length
    · rw [if_pos h, hmsProbe_eq info l _ h]; simp [h]
    · rw [if_neg h]; simp [h]
  have p2 : (if idx + 2 < l.length then Except.bind (PPy.toksAt l ((idx + 1 : Nat) : Int)) (fun tok_4 =>
        (if ((some tok_4) = (some (PM.tk " "))) then
          Except.bind (PPy.toksAt l ((idx + 2 : Nat) : Int)) (fun tok_5 =>
            Except.bind (Gen.P.info_hms info tok_5) (fun q_6 => .ok (decide (q_6 ≠ none))))
          else .ok false)) else (.ok false : R Bool)) =
      .ok (decide (idx + 2 < l.length ∧ tokIs l (idx + 1) [' '] ∧ hmsAtIs info l (idx + 2))) := by
    by_cases h : idx + 2 < l.length
    · rw [if_pos h, tokProbe_eq info l _ _ _ (Nat.lt_of_succ_lt h) h]; simp [h, tk_space]
    · rw [if_neg h]; simp [h]
  have p3 : (if idx > 0 then Except.bind (PPy.toksAt l ((idx : Int) - (1 : Int))) (fun tok_8 =>
        Except.bind (Gen.P.info_hms info tok_8) (fun q_9 => .ok (decide (q_9 ≠ none)))) else (.ok false : R Bool)) =
      .ok (decide (idx > 0 ∧ hmsAtIs info l (idx - 1))) := by
    by_cases h : idx > 0
    · rw [if_pos h, show (idx : Int) - 1 = ((idx - 1 : Nat) : Int) by omega, hmsProbe_eq info l _ (by omega)]; simp [h]
    · rw [if_neg h]; simp [h]
  have p4 : (if 1 < idx ∧ (idx : Int) = (l.length : Int) - (1 : Int) then
        Except.bind (PPy.toksAt l ((idx : Int) - (1 : Int))) (fun tok_12 =>
          (if ((some tok_12) = (some (PM.tk " "))) then
            Except.bind (PPy.toksAt l ((idx : Int) - (2 : Int))) (fun tok_13 =>
              Except.bind (Gen.P.info_hms info tok_13) (fun q_14 => .ok (decide (q_14 ≠ none))))
            else .ok false)) else (.ok false : R Bool)) =
      .ok (decide (1 < idx ∧ idx + 1 = l.length ∧ tokIs l (idx - 1) [' '] ∧ hmsAtIs info l (idx - 2))) := by
    by_cases h : 1 < idx ∧ (idx : Int) = (l.length : Int) - (1 : Int)
    · rw [if_pos h, show (idx : Int) - 1 = ((idx - 1 : Nat) : Int) by omega,
        show (idx : Int) - 2 = ((idx - 2 : Nat) : Int) by omega, tokProbe_eq info l _ _ _ (by omega) (by omega)]
      have : idx + 1 = l.length := by omega
      simp [h.1, this, tk_space]
    · rw [if_neg h]
      have : ¬ (1 < idx ∧ idx + 1 = l.length) := fun c => h ⟨c.1, by omega⟩
      simp only [← and_assoc, this, false_and, decide_false]
  simp only [p1, p2, p3, p4, bind_ok, bind_ok_id, ite_and_ok, decide_eq_true_eq, Bool.and_eq_true, tokIs_iff,
    apply_ite (Except.ok : Option Nat → R (Option Nat))]
  refine ite_congr rfl (fun _ => rfl) fun _ => ite_congr rfl (fun _ => rfl) fun _ => ite_congr rfl (fun c => ?_) fun _ =>
    ite_congr rfl (fun c => ?_) fun _ => rfl
  · exact congrArg (Except.bind · _) (natOfInt_sub idx 1 c.1)
  · exact congrArg (Except.bind · _) (natOfInt_sub idx 2 c.1)

/-- what the model's `findHmsIdx` returns is an index inside the list together with the unit found there -/
theorem findHmsIdx_spec (info : Info) (idx : Nat) (l : List Token) (aj : Bool) (j h0 : Nat)
    (h : PM.findHmsIdx info idx l aj = some (j, h0)) : (l[j]?).bind info.hmsOf = some h0 := by
  have key : ∀ k : Nat, Option.map (fun h => (k, h)) ((l[k]?).bind info.hmsOf) = some (j, h0) →
      (l[j]?).bind info.hmsOf = some h0 := by
    intro k hk
    cases hh : (l[k]?).bind info.hmsOf with
    | none => rw [hh] at hk; cases hk
    | some v =>
      rw [hh] at hk
      simp only [Option.map_some, Option.some.injEq, Prod.mk.injEq] at hk
      obtain ⟨rfl, rfl⟩ := hk
      exact hh
  unfold PM.findHmsIdx at h
  simp only [] at h
  split at h
  · exact key _ h
  · split at h
    · exact key _ h
    · split at h
      · exact key _ h
      · split at h
        · exact key _ h
        · cases h

/-- `parser._parse_hms`: with the index `_find_hms_idx` found (unit `h0` there) it gives the index and
    the unit the model's `numHms` uses — a label BEHIND the number means the next unit; with None it gives `(idx, None)` -/
theorem parseHms_eq (info : Info) (idx : Nat) (l : List Token) (j h0 : Nat)
    (h : (l[j]?).bind info.hmsOf = some h0) :
    Gen.P.parseHms info idx l (some j) = .ok (if j > idx then j else idx, some (if j > idx then h0 else h0 + 1)) ∧
    Gen.P.parseHms info idx l none = .ok (idx, none) := by
  have hj : j < l.length := by
    by_cases hj : j < l.length
    · exact hj
    · simp [List.getElem?_eq_none (Nat.le_of_not_lt hj)] at h
  rw [List.getElem?_eq_getElem hj] at h
  simp only [Option.bind_some] at h
  constructor
  · unfold Gen.P.parseHms
    by_cases hg : j > idx <;>
      simp [PPy.optNat, bind_ok, toksAt_eq, tokAt_some (List.getElem?_eq_getElem hj), info_hms_eq, h, hg]
  · unfold Gen.P.parseHms
    simp [bind_ok]

/-- `parser._assign_tzname`, on a datetime at fold 0 whose zone is called `n0` at fold 0 and `n1` at
    fold 1: the result carries the fold the model's `assignFold` says -/
theorem assignTzname_eq (info : Info) (n0 n1 tzname : Option Token) :
    Gen.P.assignTzname info { n0 := n0, n1 := n1, fold := 0 } tzname =
      .ok { n0 := n0, n1 := n1, fold := PM.assignFold n0 n1 tzname } := by
  unfold Gen.P.assignTzname PM.assignFold PPy.FoldDt.tzname PPy.FoldDt.enfold
  by_cases h0 : n0 = tzname <;> by_cases h1 : n1 = tzname <;> simp [h0, h1]

end PGen
