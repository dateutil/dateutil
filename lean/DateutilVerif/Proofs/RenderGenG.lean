/-
  Proofs/RenderGenG.lean — dotted dates and the long 12-hour form: `DD.MM.YYYY HH:MM` under `dayfirst`, `YYYY.MM.DD`,
  `Month D, YYYY h:MM:SS AM|PM` (templates `eu_dot`, `yf_dot_date`, `long_ampm` of C02).
-/
import DateutilVerif.Proofs.RenderSentence
import DateutilVerif.Proofs.RenderFin

namespace PM
open Py PT

def core_eu_dot (t : DT) : List Token :=
  [dtok [t.d.toNat / 10, t.d.toNat], ['.'], dtok [t.m.toNat / 10, t.m.toNat], ['.'], y4 t.y.toNat, [' '], dtok [t.hh.toNat / 10, t.hh.toNat], [':'], dtok [t.mm.toNat / 10, t.mm.toNat]]

theorem lex_eu_dot (cls : Char → CClass) [AsciiOK cls] (t : DT) (rest : List Char) (he : NumEnds cls rest) :
    scan cls .init (str_eu_dot t rest) = core_eu_dot t ++ scan cls .init rest := by
  unfold str_eu_dot core_eu_dot
  rw [lex_dot3_224 cls _ _ _ _ (fracEnds_ascii cls _ _ (by decide)),
      lex_sp,
      lex_pad2 cls _ _ (numEnds_ascii cls _ _ (by decide)),
      lex_punct cls ':' _ (by decide),
      lex_pad2 cls _ _ he]
  rfl

theorem rend_eu_dot (cls : Char → CClass) [AsciiOK cls] (yf : Bool) (year century : Int) (o : Opts) (tznames : List Token) (tzi : TzInfos)
    (ho : StrictOpts o tzi) (hdf : o.dayfirst.getD false = true) (hyf : o.yearfirst.getD yf = false) (t dflt : DT) (ht : t.Valid) (hdv : dflt.Valid) :
    Rendering cls false yf year century o tznames tzi dflt (str_eu_dot t) (core_eu_dot t) (NumEnds cls) (Suf1 (Info.default false yf year century))
      ({ t with ss := dflt.ss, us := dflt.us }) := by
  have N := dtNums ht
  refine ⟨fun rest => by simp [str_eu_dot], lex_eu_dot cls t, _, _, [5], rfl, rfl, rfl, rfl, fun fz suf hs =>
    run_date3_hm (l := core_eu_dot t ++ suf) (by rfl) (suf1_colon hs) (Or.inr (Or.inr rfl)) (Or.inl rfl) N.d N.m N.y (by decide)
      (by decide) (by decide) (Or.inl (by decide)) N.hh N.mm (by decide) (by have := N.bmm; omega), ?_⟩
  refine finish_t yf year century o tznames tzi dflt ht _ _ t.y.toNat _ ?_ (convertyear_full _ ht _ (Or.inl rfl)) rfl rfl (Or.inl rfl)
    ho.tz1 ?_ (valid_fields ht (valid_hh ht) (valid_mm ht) (valid_ss hdv) (valid_us hdv))
  · rw [hdf, hyf]; exact resolve_dmY _ _ _ _ N.bd.2 N.bm.2
  · simp only [fieldOr, N.eh, N.emi]

theorem tpl_eu_dot (cls : Char → CClass) [AsciiOK cls] (yf : Bool) (year century : Int) (o : Opts) (tznames : List Token) (tzi : TzInfos)
    (ho : StrictOpts o tzi) (hdf : o.dayfirst.getD false = true) (hyf : o.yearfirst.getD yf = false) (t dflt : DT) (ht : t.Valid) (hdv : dflt.Valid) (off : Off) (hoff : off.Dom) :
    parse cls (Info.default false yf year century) o tznames tzi dflt (str_eu_dot t off.render) =
      .ok { dt := { t with ss := dflt.ss, us := dflt.us }, tz := offZone o tznames off, tokens := none } :=
  (rend_eu_dot cls yf year century o tznames tzi ho hdf hyf t dflt ht hdv).tpl ho off hoff (numEnds_off cls off) (suf1_off false yf year century off)

/-- C15, **a sentence containing one date**: any number of filler words, `eu_dot`, any number of filler words -/
theorem sentence_eu_dot (cls : Char → CClass) [AsciiOK cls] (yf : Bool) (year century : Int) (o : Opts) (tznames : List Token) (tzi : TzInfos)
    (hf : (o.fuzzy || o.fuzzyWithTokens) = true) (htz1 : tzi.applies none = false) (htz2 : tzi.applies (some ['U', 'T', 'C']) = false)
    (hdf : o.dayfirst.getD false = true) (hyf : o.yearfirst.getD yf = false) (t dflt : DT) (ht : t.Valid) (hdv : dflt.Valid) (lead ws : List Token) (hlead : ∀ w ∈ lead, fillerWord w = true) (hws : ∀ w ∈ ws, fillerWord w = true) :
    SentenceAnswer cls (Info.default false yf year century) o tznames tzi dflt (leadChars lead ++ str_eu_dot t (fillerChars ws)) ({ t with ss := dflt.ss, us := dflt.us })
      (leadToks lead).length ((leadToks lead).length + 9) :=
  (rend_eu_dot cls yf year century { o with fuzzy := false, fuzzyWithTokens := false } tznames tzi ⟨rfl, rfl, htz1, htz2⟩ hdf hyf t dflt ht hdv).sentence
    hf lead ws hlead hws (numEnds_filler cls ws) (suf1_filler false yf year century ws)

def core_yf_dot_date (t : DT) : List Token :=
  [y4 t.y.toNat, ['.'], dtok [t.m.toNat / 10, t.m.toNat], ['.'], dtok [t.d.toNat / 10, t.d.toNat]]

theorem lex_yf_dot_date (cls : Char → CClass) [AsciiOK cls] (t : DT) (rest : List Char) (he : NumEnds cls rest) :
    scan cls .init (str_yf_dot_date t rest) = core_yf_dot_date t ++ scan cls .init rest := by
  unfold str_yf_dot_date core_yf_dot_date
  rw [lex_dot3_422 cls _ _ _ _ (fracEnds_of_numEnds cls _ he)]
  rfl

theorem tpl_yf_dot_date (cls : Char → CClass) [AsciiOK cls] (yf : Bool) (year century : Int) (o : Opts) (tznames : List Token) (tzi : TzInfos)
    (ho : StrictOpts o tzi) (hdf : o.dayfirst.getD false = false) (t dflt : DT) (ht : t.Valid) (hdv : dflt.Valid) :
    parse cls (Info.default false yf year century) o tznames tzi dflt (str_yf_dot_date t []) =
      .ok { dt := { t with hh := dflt.hh, mm := dflt.mm, ss := dflt.ss, us := dflt.us }, tz := .naive, tokens := none } := by
  have N := dtNums ht
  refine tpl_date cls _ o tznames tzi ho.fz ho.fwt dflt _ (core_yf_dot_date t) _ _ _ _
    (by simpa [scan_init_nil] using lex_yf_dot_date cls t [] trivial)
    (loop_sep3_num (fuel := 0) (l := core_yf_dot_date t) (by rfl) (Or.inr (Or.inr rfl)) N.y N.m N.d (by decide) (by decide) (by decide) rfl
      (Or.inr (Or.inr (by decide))) (by rfl) (hmsOf_num N.y)) ?_
  refine finish_t yf year century o tznames tzi dflt ht _ _ t.y.toNat _ ?_ (convertyear_full _ ht _ (Or.inl rfl)) rfl rfl (Or.inl rfl)
    ho.tz1 rfl (valid_fields ht (valid_hh hdv) (valid_mm hdv) (valid_ss hdv) (valid_us hdv))
  rw [hdf]; exact resolve_Ymd _ _ _ _ _

def core_long_ampm (t : DT) : List Token :=
  [(monFull t.m.toNat), [' '], dayTok t.d.toNat, [','], [' '], y4 t.y.toNat, [' '], dayTok (h12 t.hh.toNat), [':'], dtok [t.mm.toNat / 10, t.mm.toNat], [':'], dtok [t.ss.toNat / 10, t.ss.toNat], [' '], (apWord t.hh.toNat)]

theorem lex_long_ampm (cls : Char → CClass) [AsciiOK cls] (t : DT) (hAlF : isAlphaWord (monFull t.m.toNat) = true) (rest : List Char) (he : WordEnds cls rest) :
    scan cls .init (str_long_ampm t rest) = core_long_ampm t ++ scan cls .init rest := by
  unfold str_long_ampm core_long_ampm
  rw [lex_alpha cls _ _ hAlF (wordEnds_sp cls _),
      lex_sp,
      lex_dec12_comma_sp cls _ _,
      lex_sp,
      lex_pad4 cls _ _ (numEnds_sp cls _),
      lex_sp,
      lex_dec12' cls _ _ (numEnds_ascii cls _ _ (by decide)),
      lex_punct cls ':' _ (by decide),
      lex_pad2 cls _ _ (numEnds_ascii cls _ _ (by decide)),
      lex_punct cls ':' _ (by decide),
      lex_pad2 cls _ _ (numEnds_sp cls _),
      lex_sp,
      lex_alpha cls _ _ (apWord_alpha _) he]
  rfl

theorem rend_long_ampm (cls : Char → CClass) [AsciiOK cls] (yf : Bool) (year century : Int) (o : Opts) (tznames : List Token) (tzi : TzInfos)
    (ho : StrictOpts o tzi)  (t dflt : DT) (ht : t.Valid) (hy : 100 ≤ t.y) :
    Rendering cls false yf year century o tznames tzi dflt (str_long_ampm t) (core_long_ampm t) (WordEnds cls) (fun _ => True)
      ({ t with us := 0 }) := by
  have N := dtNums ht
  obtain ⟨hMoF, hAlF⟩ := monWordF cls yf year century t.m.toNat N.bm.1 N.bm.2
  have hq := h12_bounds t.hh.toNat
  obtain ⟨nd, hnd, hD⟩ := isNum_dayTok t.d.toNat (by have := N.bd; omega)
  obtain ⟨nh, hnh, hH⟩ := isNum_dayTok (h12 t.hh.toNat) (by omega)
  refine ⟨fun rest => by simp [str_long_ampm], lex_long_ampm cls t hAlF,
    { hour := some t.hh.toNat, minute := some t.mm.toNat, second := some t.ss.toNat, microsecond := some 0,
      ampm := some (if t.hh.toNat < 12 then 0 else 1) },
    { vals := [t.m.toNat, t.d.toNat, t.y.toNat], century := decide (100 < t.y.toNat), mIdx := some 0,
      yIdx := if decide (100 < t.y.toNat) then some 2 else none },
    [1, 4, 12], rfl, rfl, rfl, rfl, fun fz suf _ => ?_, ?_⟩
  · refine (loop_month (l := core_long_ampm t ++ suf) (by rfl) hMoF (by have := N.bm; omega) (by decide) (isPertain_num hD) rfl).trans ?_
    refine (loop_sp (by rfl)).trans ?_
    refine (loop_jump (by rfl) hD (by omega) (Or.inl (by simp)) (Or.inr rfl) ⟨hms_sp .., ap_sp ..⟩
      (decide_eq_false (by have := N.bd; omega)) (Or.inl rfl) (by rfl) (hms_sp ..)).trans ?_
    refine (loop_sp (by rfl)).trans ?_
    refine (loop_jump (by rfl) N.y (by decide) (Or.inl (by simp [Ymd.push])) (Or.inl rfl) ⟨hmsOf_num hH, ampmOf_num hH⟩ rfl
      (Or.inr (by rfl)) (by rfl) (hms_sp ..)).trans ?_
    refine (loop_colon3 (by rfl) hH N.mm (parsems_num N.ss (by decide)) (by omega) (by have := N.bmm; omega) (by rfl) (hms_sp ..)).trans ?_
    refine (loop_sp (by rfl)).trans ?_
    exact loop_ampm (by rfl) (apWord_ok cls false yf year century _) rfl hq.2 rfl (adjustAmpm_h12 _ N.bh)
  · refine finish_t yf year century o tznames tzi dflt ht _ _ t.y.toNat _ (resolve_Mdy _ _ _ _ _ _ N.bd.2)
      (convertyear_full _ ht _ (Or.inr hy)) rfl rfl (Or.inl rfl) ho.tz1 ?_ (valid_fields ht (valid_hh ht) (valid_mm ht) (valid_ss ht) ⟨by decide, by decide⟩)
    simp only [fieldOr, N.eh, N.emi, N.es]; rfl

theorem tpl_long_ampm (cls : Char → CClass) [AsciiOK cls] (yf : Bool) (year century : Int) (o : Opts) (tznames : List Token) (tzi : TzInfos)
    (ho : StrictOpts o tzi)  (t dflt : DT) (ht : t.Valid) (_hdv : dflt.Valid) (hy : 100 ≤ t.y) (off : Off) (hoff : off.Dom) (hsp : off.Spaced) :
    parse cls (Info.default false yf year century) o tznames tzi dflt (str_long_ampm t off.render) =
      .ok { dt := { t with us := 0 }, tz := offZone o tznames off, tokens := none } :=
  (rend_long_ampm cls yf year century o tznames tzi ho  t dflt ht hy).tpl ho off hoff (wordEnds_off cls off hsp) trivial

/-- C15, **a sentence containing one date**: any number of filler words, `long_ampm`, any number of filler words -/
theorem sentence_long_ampm (cls : Char → CClass) [AsciiOK cls] (yf : Bool) (year century : Int) (o : Opts) (tznames : List Token) (tzi : TzInfos)
    (hf : (o.fuzzy || o.fuzzyWithTokens) = true) (htz1 : tzi.applies none = false) (htz2 : tzi.applies (some ['U', 'T', 'C']) = false)
     (t dflt : DT) (ht : t.Valid) (_hdv : dflt.Valid) (hy : 100 ≤ t.y) (lead ws : List Token) (hlead : ∀ w ∈ lead, fillerWord w = true) (hws : ∀ w ∈ ws, fillerWord w = true) :
    SentenceAnswer cls (Info.default false yf year century) o tznames tzi dflt (leadChars lead ++ str_long_ampm t (fillerChars ws)) ({ t with us := 0 })
      (leadToks lead).length ((leadToks lead).length + 14) :=
  (rend_long_ampm cls yf year century { o with fuzzy := false, fuzzyWithTokens := false } tznames tzi ⟨rfl, rfl, htz1, htz2⟩  t dflt ht hy).sentence
    hf lead ws hlead hws (wordEnds_filler cls ws) trivial

end PM
