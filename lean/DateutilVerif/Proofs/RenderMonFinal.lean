/-
  Proofs/RenderMonFinal.lean — the month-name renderings (family 4 of C02): ctime `Www Mmm dd HH:MM:SS YYYY`, RFC 2822
  `Www, DD Mmm YYYY HH:MM:SS<offset>`, `Month D, YYYY`, `D Mon YYYY`, `DD-Mon-YYYY`.  Where the year is read as a Decimal
  (everywhere but `DD-Mon-YYYY`) the domain is year ≥ 100: D-C02 is the excluded class.
-/
import DateutilVerif.Proofs.RenderCtimeOff

namespace PM
open Py PT

section
variable (cls : Char → CClass) [AsciiOK cls]

theorem parse_mon (yf : Bool) (year century : Int) (o : Opts) (tznames : List Token) (tzi : TzInfos)
    (ho : PlainOpts o tzi) (dflt : DT) (hdv : dflt.Valid) (t : DT) (ht : t.Valid) (f : MonFmt) (hf : f.Dom t)
    (off : Off) (hoff : off.Dom) :
    parse cls (Info.default false yf year century) o tznames tzi dflt (renderMon f t off) =
      .ok { dt := f.expect t dflt,
            tz := match f with
              | .rfc2822 _ => if o.ignoretz then .naive else offDescr tznames off
              | _ => .naive,
            tokens := none } := by
  have N := dtNums ht
  have hs : StrictOpts o tzi := ⟨ho.fz, ho.fwt, ho.tz1, ho.tz2⟩
  obtain ⟨hMoA, hAlA⟩ := monWordA cls yf year century t.m.toNat N.bm.1 N.bm.2
  obtain ⟨hMoF, hAlF⟩ := monWordF cls yf year century t.m.toNat N.bm.1 N.bm.2
  have hm100 : t.m.toNat ≤ 100 := by have := N.bm; omega
  obtain ⟨nd, hnd, hD⟩ := isNum_dayTok t.d.toNat (by have := N.bd; omega)
  have e4 : pad4 t.y.toNat = pad4 t.y.toNat ++ [] := by simp
  have hvD := valid_fields ht (valid_hh hdv) (valid_mm hdv) (valid_ss hdv) (valid_us hdv)
  cases f with
  | ctime w =>
    -- ctime with nothing behind it
    have := parse_ctimeOff cls yf year century o tznames tzi ho dflt hdv t ht w hf.1 hf.2 .naive trivial trivial
    show parse cls _ o tznames tzi dflt (renderMon (.ctime w) t .naive) = _
    simpa [renderCtimeOff, Off.render, MonFmt.expect, offDescr, Off.seconds] using this
  | rfc2822 w =>
    obtain ⟨hw, hy⟩ := hf
    obtain ⟨hWd, hAlW⟩ := wdWordA cls yf year century w hw
    have hlex : scan cls .init (renderMon (.rfc2822 w) t off) =
        [wdAbbr w, [','], [' '], dtok [t.d.toNat / 10, t.d.toNat], [' '], monAbbr t.m.toNat, [' '], y4 t.y.toNat, [' '],
         dtok [t.hh.toNat / 10, t.hh.toNat], [':'], dtok [t.mm.toNat / 10, t.mm.toNat], [':'], dtok [t.ss.toNat / 10, t.ss.toNat]] ++
        offTokens off := by
      simp only [renderMon, hmsColon, List.append_assoc, List.cons_append, List.nil_append]
      rw [lex_alpha cls _ _ hAlW (wordEnds_comma cls _), lex_punct cls ',' _ (by decide), lex_sp,
          lex_pad2 cls _ _ (numEnds_sp cls _), lex_sp, lex_alpha cls _ _ hAlA (wordEnds_sp cls _), lex_sp,
          lex_pad4 cls _ _ (numEnds_sp cls _), lex_sp,
          lex_pad2 cls _ _ (numEnds_ascii cls _ _ (by decide)), lex_punct cls ':' _ (by decide),
          lex_pad2 cls _ _ (numEnds_ascii cls _ _ (by decide)), lex_punct cls ':' _ (by decide),
          lex_pad2 cls _ _ (numEnds_off cls off), lex_off]
      rfl
    unfold parse lex
    rw [hlex]
    refine (tok_theorem cls false yf year century o tznames tzi hs dflt _ 14 rfl
      { weekday := some w, hour := some t.hh.toNat, minute := some t.mm.toNat, second := some t.ss.toNat, microsecond := some 0 }
      { vals := [t.d.toNat, t.m.toNat, t.y.toNat], century := decide (100 < t.y.toNat), mIdx := some 1,
        yIdx := if decide (100 < t.y.toNat) then some 2 else none }
      [1, 2, 6] (MonFmt.expect (.rfc2822 w) t dflt) off hoff ?_ rfl rfl (Or.inl rfl) ?_).trans (by simp [offZone])
    · refine (loop_weekday (l := _ ++ offTokens off) (by rfl) hWd).trans ?_
      refine (loop_comma (by rfl)).trans ?_
      refine (loop_sp (by rfl)).trans ?_
      refine (loop_jump (by rfl) N.d (by decide) (Or.inl (by simp)) (Or.inl rfl) ⟨hMoA.hms, hMoA.ampm⟩
        (decide_eq_false (by have := N.bd; omega)) (Or.inl rfl) (by rfl) (hms_sp ..)).trans ?_
      refine (loop_month (by rfl) hMoA hm100 (by decide) (isPertain_num N.y) rfl).trans ?_
      refine (loop_sp (by rfl)).trans ?_
      refine (loop_jump (by rfl) N.y (by decide) (Or.inl (by simp [Ymd.push])) (Or.inl rfl) ⟨hmsOf_num N.hh, ampmOf_num N.hh⟩ rfl
        (Or.inr (by rfl)) (by rfl) (hms_sp ..)).trans ?_
      exact loop_colon3 (by rfl) N.hh N.mm (parsems_num N.ss (by decide)) (by decide) (by have := N.bmm; omega) (by rfl) (hms_sp ..)
    · refine finish_t yf year century o tznames tzi dflt ht _ _ t.y.toNat _ (resolve_dMy _ _ _ _ _ _ N.bd.2
          (Or.inr (Or.inr (by have := N.ey; omega)))) (convertyear_full _ ht _ (Or.inr hy)) rfl rfl
        (Or.inr (by have := N.bd; omega)) ho.tz1 ?_ (valid_fields ht (valid_hh ht) (valid_mm ht) (valid_ss ht) ⟨by decide, by decide⟩)
      simp only [MonFmt.expect, fieldOr, N.eh, N.emi, N.es]; rfl
  | longDate =>
    have hy : (100 : Int) ≤ t.y := hf
    have hlex : scan cls .init (renderMon .longDate t off) = [monFull t.m.toNat, [' '], dayTok t.d.toNat, [','], [' '], y4 t.y.toNat] := by
      simp only [renderMon, List.append_assoc, List.cons_append, List.nil_append]
      rw [lex_alpha cls _ _ hAlF (wordEnds_sp cls _), lex_sp, lex_dec12_comma_sp cls, lex_sp, e4, lex_pad4 cls _ _ (numEnds_nil cls),
          scan_init_nil]
      rfl
    refine tpl_date cls _ o tznames tzi ho.fz ho.fwt dflt _ _ {}
      { vals := [t.m.toNat, t.d.toNat, t.y.toNat], century := decide (100 < t.y.toNat), mIdx := some 0,
        yIdx := if decide (100 < t.y.toNat) then some 2 else none } [1, 4] _ hlex ?_ ?_
    · refine (loop_month (fuel := 5) (by rfl) hMoF hm100 (by decide) (isPertain_num hD) rfl).trans ?_
      refine (loop_sp (by rfl)).trans ?_
      refine (loop_jump (by rfl) hD (by omega) (Or.inl (by simp)) (Or.inr rfl) ⟨hms_sp .., ap_sp ..⟩
        (decide_eq_false (by have := N.bd; omega)) (Or.inl rfl) (by rfl) (hms_sp ..)).trans ?_
      refine (loop_sp (by rfl)).trans ?_
      exact loop_jump_end (by rfl) (by rfl) N.y (by decide) (Or.inl (by simp [Ymd.push])) rfl (Or.inr (by rfl)) (by rfl) (hms_sp ..)
        (by rfl) (hms_comma ..)
    · refine finish_t yf year century o tznames tzi dflt ht _ _ t.y.toNat _ (resolve_Mdy _ _ _ _ _ _ N.bd.2)
        (convertyear_full _ ht _ (Or.inr hy)) rfl rfl (Or.inl rfl) ho.tz1 rfl hvD
  | dMonY =>
    have hy : (100 : Int) ≤ t.y := hf
    have hlex : scan cls .init (renderMon .dMonY t off) = [dayTok t.d.toNat, [' '], monAbbr t.m.toNat, [' '], y4 t.y.toNat] := by
      simp only [renderMon, List.append_assoc, List.cons_append, List.nil_append]
      rw [lex_dec12' cls _ _ (numEnds_sp cls _), lex_sp, lex_alpha cls _ _ hAlA (wordEnds_sp cls _), lex_sp, e4,
          lex_pad4 cls _ _ (numEnds_nil cls), scan_init_nil]
      rfl
    refine tpl_date cls _ o tznames tzi ho.fz ho.fwt dflt _ _ {}
      { vals := [t.d.toNat, t.m.toNat, t.y.toNat], century := decide (100 < t.y.toNat), mIdx := some 1,
        yIdx := if decide (100 < t.y.toNat) then some 2 else none } [3] _ hlex ?_ ?_
    · refine (loop_jump (fuel := 3) (by rfl) hD (by omega) (Or.inl (by simp)) (Or.inl rfl) ⟨hMoA.hms, hMoA.ampm⟩
        (decide_eq_false (by have := N.bd; omega)) (Or.inl rfl) (by rfl) (hmsOf_num hD)).trans ?_
      refine (loop_month (by rfl) hMoA hm100 (by decide) (isPertain_num N.y) rfl).trans ?_
      refine (loop_sp (by rfl)).trans ?_
      exact loop_jump_end (by rfl) (by rfl) N.y (by decide) (Or.inl (by simp [Ymd.push])) rfl (Or.inr (by rfl)) (by rfl) (hms_sp ..)
        (by rfl) hMoA.hms
    · refine finish_t yf year century o tznames tzi dflt ht _ _ t.y.toNat _ (resolve_dMy _ _ _ _ _ _ N.bd.2
          (Or.inr (Or.inr (by have := N.ey; omega)))) (convertyear_full _ ht _ (Or.inr hy)) rfl rfl (Or.inl rfl) ho.tz1 rfl hvD
  | ddMonY =>
    have hlex : scan cls .init (renderMon .ddMonY t off) =
        [dtok [t.d.toNat / 10, t.d.toNat], ['-'], monAbbr t.m.toNat, ['-'], y4 t.y.toNat] := by
      simp only [renderMon, List.append_assoc, List.cons_append, List.nil_append]
      rw [lex_pad2 cls _ _ (numEnds_ascii cls _ _ (by decide)), lex_punct cls '-' _ (by decide),
          lex_alpha cls _ _ hAlA (wordEnds_dash cls _), lex_punct cls '-' _ (by decide), e4, lex_pad4 cls _ _ (numEnds_nil cls),
          scan_init_nil]
      rfl
    refine tpl_date cls _ o tznames tzi ho.fz ho.fwt dflt _ _ {}
      { vals := [t.d.toNat, t.m.toNat, t.y.toNat], century := true, mIdx := some 1, yIdx := some 2 } [] _ hlex
      (loop_sep3_mon (fuel := 0) (by rfl) (Or.inl rfl) N.d hMoA N.y (by decide) hm100 (by decide) rfl (by rfl) (hmsOf_num N.d)) ?_
    exact finish_t yf year century o tznames tzi dflt ht _ _ t.y.toNat _ (resolve_dMy true _ _ _ _ _ N.bd.2 (Or.inl rfl))
      (convertyear_full _ ht _ (Or.inl rfl)) rfl rfl (Or.inl rfl) ho.tz1 rfl hvD

end
end PM
