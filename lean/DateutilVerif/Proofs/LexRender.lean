/-
  Proofs/LexRender.lean — lexing the pieces the renderings are made of, for any classification that agrees
  with Python's on ASCII: digit tokens, the separators, offset suffixes.
-/
import DateutilVerif.Proofs.RenderIsoX

namespace PM
open Py PT

section
variable (cls : Char → CClass) [AsciiOK cls]

theorem lex_dtok (k : Nat) (ks : List Nat) (rest : List Char) (he : NumEnds cls rest) :
    scan cls .init (dtok (k :: ks) ++ rest) = dtok (k :: ks) :: scan cls .init rest :=
  lex_num cls (digitChar k) (ks.map digitChar) rest (drun_dtok cls (k :: ks)) he

theorem lex_pad2 (n : Nat) (rest : List Char) (he : NumEnds cls rest) :
    scan cls .init (pad2 n ++ rest) = dtok [n / 10, n] :: scan cls .init rest := lex_dtok cls (n / 10) [n] rest he
theorem lex_pad4 (n : Nat) (rest : List Char) (he : NumEnds cls rest) :
    scan cls .init (pad4 n ++ rest) = dtok [n / 1000, n / 100, n / 10, n] :: scan cls .init rest :=
  lex_dtok cls (n / 1000) [n / 100, n / 10, n] rest he

/-- a single ASCII punctuation character -/
theorem lex_punct (c : Char) (rest : List Char)
    (h : (decide (c.toNat < 128) && decide (asciiCls c = .other) && decide (c ≠ '\x00')) = true) :
    scan cls .init (c :: rest) = [c] :: scan cls .init rest := by
  simp only [Bool.and_eq_true, decide_eq_true_eq] at h
  exact lex_other cls c rest (cls_other cls c (by simp [h.1.1, h.1.2])) h.2

theorem lex_sp (rest : List Char) : scan cls .init (' ' :: rest) = [' '] :: scan cls .init rest :=
  lex_space cls ' ' rest (cls_space cls ' ' (by decide)) (by decide)

/-- an ASCII word (given as a literal) followed by something that ends it -/
theorem lex_aword (a : Char) (as rest : List Char)
    (h : (a :: as).all (fun c => decide (c.toNat < 128) && (asciiCls c).isWord && decide (c ≠ '\x00')) = true)
    (he : WordEnds cls rest) : scan cls .init ((a :: as) ++ rest) = (a :: as) :: scan cls .init rest :=
  lex_word cls a as rest (arun_ascii cls _ h) he

theorem numEnds_nil : NumEnds cls [] := trivial
theorem fracEnds_nil : FracEnds cls [] := trivial
theorem wordEnds_nil : WordEnds cls [] := trivial
theorem wordEnds_dtok (k : Nat) (ks : List Nat) (r : List Char) : WordEnds cls (dtok (k :: ks) ++ r) :=
  wordEnds_digit cls k _
theorem wordEnds_pad4 (n : Nat) (r : List Char) : WordEnds cls (pad4 n ++ r) := wordEnds_digit cls _ _

theorem numEnds_off (off : Off) : NumEnds cls off.render := by
  rcases off with _ | sp | _ | ⟨sp, neg, h⟩ | ⟨sp, neg, h, m⟩ | ⟨sp, neg, h, m⟩
  all_goals (try cases sp) <;> (try cases neg)
  all_goals first
    | exact trivial
    | exact numEnds_ascii cls _ _ (by decide)

theorem fracEnds_off (off : Off) : FracEnds cls off.render := by
  rcases off with _ | sp | _ | ⟨sp, neg, h⟩ | ⟨sp, neg, h, m⟩ | ⟨sp, neg, h, m⟩
  all_goals (try cases sp) <;> (try cases neg)
  all_goals first
    | exact trivial
    | exact fracEnds_ascii cls _ _ (by decide)

theorem lex_off (off : Off) : scan cls .init off.render = offTokens off := by
  have hZ : scan cls .init ['Z'] = [['Z']] := by
    have := lex_aword cls 'Z' [] [] (by decide) trivial
    simpa [scan_init_nil] using this
  have hUTC : scan cls .init ['U', 'T', 'C'] = [['U', 'T', 'C']] := by
    have := lex_aword cls 'U' ['T', 'C'] [] (by decide) trivial
    simpa [scan_init_nil] using this
  have h2 : ∀ n, scan cls .init (pad2 n) = [dtok [n / 10, n]] := by
    intro n
    have := lex_pad2 cls n [] trivial
    simpa [scan_init_nil] using this
  have h22 : ∀ a b, scan cls .init (pad2 a ++ pad2 b) = [dtok [a / 10, a, b / 10, b]] := by
    intro a b
    have := lex_dtok cls (a / 10) [a, b / 10, b] [] trivial
    simpa [scan_init_nil, pad2_dtok] using this
  have h2c2 : ∀ a b, scan cls .init (pad2 a ++ ':' :: pad2 b) = [dtok [a / 10, a], [':'], dtok [b / 10, b]] := by
    intro a b
    rw [lex_pad2 cls a _ (numEnds_ascii cls _ _ (by decide)), lex_punct cls ':' _ (by decide), h2]
  rcases off with _ | sp | _ | ⟨sp, neg, h⟩ | ⟨sp, neg, h, m⟩ | ⟨sp, neg, h, m⟩
  all_goals (try cases sp) <;> (try cases neg)
  all_goals simp only [Off.render, offTokens, spc, spT, sgn, List.nil_append, List.cons_append, List.append_assoc,
    Bool.false_eq_true, if_false, if_true]
  all_goals first
    | rfl
    | (rw [lex_sp, lex_punct cls _ _ (by decide), h2c2])
    | (rw [lex_punct cls _ _ (by decide), h2c2])
    | (rw [lex_sp, lex_punct cls _ _ (by decide), h22])
    | (rw [lex_punct cls _ _ (by decide), h22])
    | (rw [lex_sp, lex_punct cls _ _ (by decide), h2])
    | (rw [lex_punct cls _ _ (by decide), h2])
    | (rw [lex_sp, hUTC])
    | (rw [lex_sp, hZ])
    | (rw [hZ])

end
end PM
