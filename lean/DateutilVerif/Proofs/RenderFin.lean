/-
  Proofs/RenderFin.lean — what `parse` makes of a scan that found a full date: `finish_date` (year conversion,
  `_build_naive` with the default's fields for what was not found, no zone), and `_ymd.resolve_ymd` on the shapes
  of `_ymd` the renderings of C02 leave behind.
-/
import DateutilVerif.Proofs.RenderPrep

namespace PM
open Py PT

theorem valid_hh {t : DT} (h : t.Valid) : 0 ≤ t.hh ∧ t.hh ≤ 23 := ⟨h.2.1, h.2.2.1⟩
theorem valid_mm {t : DT} (h : t.Valid) : 0 ≤ t.mm ∧ t.mm ≤ 59 := ⟨h.2.2.2.1, h.2.2.2.2.1⟩
theorem valid_ss {t : DT} (h : t.Valid) : 0 ≤ t.ss ∧ t.ss ≤ 59 := ⟨h.2.2.2.2.2.1, h.2.2.2.2.2.2.1⟩
theorem valid_us {t : DT} (h : t.Valid) : 0 ≤ t.us ∧ t.us ≤ 999999 := ⟨h.2.2.2.2.2.2.2.1, h.2.2.2.2.2.2.2.2⟩

/-- a valid date with any valid time of day -/
theorem valid_fields {t : DT} (ht : t.Valid) {hh mm ss us : Int} (h1 : 0 ≤ hh ∧ hh ≤ 23) (h2 : 0 ≤ mm ∧ mm ≤ 59)
    (h3 : 0 ≤ ss ∧ ss ≤ 59) (h4 : 0 ≤ us ∧ us ≤ 999999) : (DT.mk t.y t.m t.d hh mm ss us).Valid :=
  ⟨ht.1, h1.1, h1.2, h2.1, h2.2, h3.1, h3.2, h4.1, h4.2⟩

theorem fieldBig_of_le (o : Option Nat) (dv b : Int) (h : fieldOr o dv ≤ b) (hb : b ≤ intMax) : fieldBig o = false := by
  cases o with
  | none => rfl
  | some v => simp only [fieldBig, fieldOr] at h ⊢; exact decide_eq_false (by omega)

/-- **the finish for a full date**: `_ymd` resolves to year, month and day; the year converts to `y'`; no zone was found;
    the fields found, completed by the default's, make a valid datetime `T`: that is the result, naive. -/
theorem finish_date (info : Info) (o : Opts) (tznames : List Token) (tzi : TzInfos) (dflt : DT) (ymd : Ymd) (res : Res)
    (y m d : Nat) (y' : Int) (T : DT)
    (hr : ymd.resolve (o.yearfirst.getD info.yearfirst) (o.dayfirst.getD info.dayfirst) = .ok (some y, some m, some d))
    (hc : Gen.convertyear ⟨info.century, info.year⟩ y ymd.century = .ok y') (hy' : 0 ≤ y')
    (htn : res.tzname = none) (hto : res.tzoffset = none) (hwd : res.weekday = none ∨ d ≠ 0) (htz : tzi.applies none = false)
    (hT : T = DT.mk y' m d (fieldOr res.hour dflt.hh) (fieldOr res.minute dflt.mm) (fieldOr res.second dflt.ss)
      (fieldOr res.microsecond dflt.us))
    (hv : T.Valid) :
    finishOf info o tznames tzi dflt ymd res = .ok { dt := T, tz := .naive, tokens := none } := by
  subst hT
  obtain ⟨⟨hy1, hy2, hm1, hm2, hd1, hd2⟩, hh1, hh2, hmi1, hmi2, hs1, hs2, hu1, hu2⟩ := id hv
  dsimp only at hy1 hy2 hm1 hm2 hd1 hd2 hh1 hh2 hmi1 hmi2 hs1 hs2 hu1 hu2
  have hdim := (Cal.daysInMonth_bounds y' (m : Int)).2
  have ey : ((y'.toNat : Nat) : Int) = y' := Int.toNat_of_nonneg hy'
  unfold finishOf
  rw [hr]
  simp only [validate_eq, hc, Except.map]
  have hnorm : tzNorm info { res with centurySpecified := ymd.century, year := some y'.toNat, month := some m, day := some d } =
      { res with centurySpecified := ymd.century, year := some y'.toNat, month := some m, day := some d } := by
    simp [tzNorm, htn, hto]
  rw [hnorm]
  unfold afterValidate
  have hlen : ({ res with centurySpecified := ymd.century, year := some y'.toNat, month := some m, day := some d } : Res).len ≠ 0 := by
    simp [Res.len]
  rw [if_neg hlen]
  have hbn : buildNaive { res with centurySpecified := ymd.century, year := some y'.toNat, month := some m, day := some d } dflt =
      .ok (DT.mk y' m d (fieldOr res.hour dflt.hh) (fieldOr res.minute dflt.mm) (fieldOr res.second dflt.ss)
        (fieldOr res.microsecond dflt.us)) := by
    unfold buildNaive clipDay dtReplace
    simp only [bind, Except.bind]
    rw [fieldBig_of_le (some y'.toNat) dflt.y 9999 (by simp only [fieldOr]; omega) (by decide),
        fieldBig_of_le (some m) dflt.m 12 (by simp only [fieldOr]; omega) (by decide),
        fieldBig_of_le (some d) dflt.d 31 (by simp only [fieldOr]; omega) (by decide),
        fieldBig_of_le res.hour dflt.hh 23 hh2 (by decide), fieldBig_of_le res.minute dflt.mm 59 hmi2 (by decide),
        fieldBig_of_le res.second dflt.ss 59 hs2 (by decide), fieldBig_of_le res.microsecond dflt.us 999999 hu2 (by decide)]
    have e1 : fieldOr (some y'.toNat) dflt.y = y' := ey
    have e2 : fieldOr (some m) dflt.m = (m : Int) := rfl
    have e3 : fieldOr (some d) dflt.d = (d : Int) := rfl
    simp only [Bool.or_self, Bool.false_eq_true, if_false, e1, e2, e3, DT.valid, decide_eq_true hv, if_true]
    unfold shiftBareWeekday
    rcases hwd with h | h
    · simp only [h]
    · cases res.weekday with
      | none => rfl
      | some w => simp [h]
  rw [hbn]
  have htza : buildTzaware tznames tzi { res with centurySpecified := ymd.century, year := some y'.toNat, month := some m, day := some d } =
      .ok .naive := by
    simp [buildTzaware, htn, hto, htz, nameTruthy]
  simp only [htza]
  cases o.ignoretz <;> rfl

/-- `finish_date` for the month and day of a valid datetime `t` and a year that converts to its year -/
theorem finish_t (yf : Bool) (year century : Int) (o : Opts) (tznames : List Token) (tzi : TzInfos) (dflt : DT) {t : DT}
    (ht : t.Valid) (ymd : Ymd) (res : Res) (yp : Nat) (T : DT)
    (hr : ymd.resolve (o.yearfirst.getD yf) (o.dayfirst.getD false) = .ok (some yp, some t.m.toNat, some t.d.toNat))
    (hc : Gen.convertyear ⟨century, year⟩ yp ymd.century = .ok t.y)
    (htn : res.tzname = none) (hto : res.tzoffset = none) (hwd : res.weekday = none ∨ t.d.toNat ≠ 0)
    (htz : tzi.applies none = false)
    (hT : T = DT.mk t.y t.m t.d (fieldOr res.hour dflt.hh) (fieldOr res.minute dflt.mm) (fieldOr res.second dflt.ss)
      (fieldOr res.microsecond dflt.us))
    (hv : T.Valid) :
    finishOf (Info.default false yf year century) o tznames tzi dflt ymd res = .ok { dt := T, tz := .naive, tokens := none } := by
  have N := dtNums ht
  exact finish_date _ o tznames tzi dflt ymd res yp t.m.toNat t.d.toNat t.y T hr hc (by have := ht.1.1; omega) htn hto hwd htz
    (by rw [hT, N.em, N.ed]) hv

/-- the year of a valid datetime written in full: left alone when it carries a century or is at least 100 -/
theorem convertyear_full (pi : Gen.PInfoYear) {t : DT} (ht : t.Valid) (cs : Bool) (h : cs = true ∨ 100 ≤ t.y) :
    Gen.convertyear pi (t.y.toNat : Int) cs = .ok t.y := by
  rw [(dtNums ht).ey]
  rcases h with rfl | h
  · exact convertyear_true pi _ (by have := ht.1.1; omega)
  · exact convertyear_ge100 pi _ h cs

/-- the last two digits of the year, for a year inside the window of `parserinfo.convertyear` -/
theorem convertyear_yy (pi : Gen.PInfoYear) {t : DT} (ht : t.Valid) (hwin : Gen.convertyear pi (t.y % 100) false = .ok t.y) :
    Gen.convertyear pi ((t.y.toNat % 100 : Nat) : Int) false = .ok t.y := by
  have e : ((t.y.toNat % 100 : Nat) : Int) = t.y % 100 := by have := (dtNums ht).ey; omega
  rw [e]; exact hwin

/-- what may follow a core that ends in a number read as `HH[MM]` by its place -/
theorem suf1_next {info : Info} {suf : List Token} (hs : Suf1 info suf) : suf[0]? ≠ some [':'] ∧ (suf[0]?).bind info.hmsOf = none := by
  rcases hs with rfl | ⟨a, rest, rfl, h, h', _⟩
  · simp
  · exact ⟨by simpa using h, by simpa using h'⟩

theorem suf1_colon {info : Info} {suf : List Token} (hs : Suf1 info suf) : suf[0]? ≠ some [':'] := (suf1_next hs).1

/-- three members, at most one label: the positional rules -/
theorem resolve_three (cs : Bool) (a b c : Nat) (mi yi : Option Nat) (yf df : Bool) (h1 : mi = none ∨ yi = none) :
    ({ vals := [a, b, c], century := cs, mIdx := mi, yIdx := yi } : Ymd).resolve yf df =
      ({ vals := [a, b, c], century := cs, mIdx := mi, yIdx := yi } : Ymd).resolveRest 3 yf df := by
  cases mi <;> cases yi <;> simp_all [Ymd.resolve, Ymd.nlab]

/-- `MM/DD/YYYY` and `DD/MM/YYYY` -/
theorem resolve_abY (cs : Bool) (a b c : Nat) (yf df : Bool) (ha : a ≤ 31) (hyf : yf = false ∨ 12 < b ∨ 31 < c) :
    ({ vals := [a, b, c], century := cs, yIdx := some 2 } : Ymd).resolve yf df =
      .ok (if 12 < a ∨ (df = true ∧ b ≤ 12) then (some c, some b, some a) else (some c, some a, some b)) := by
  rw [resolve_three cs a b c none (some 2) yf df (Or.inl rfl)]
  have h1 : ¬ a > 31 := by omega
  have h2 : ¬ (yf = true ∧ b ≤ 12 ∧ c ≤ 31) := by
    rintro ⟨h, h', h''⟩; rcases hyf with h3 | h3 | h3
    · rw [h3] at h; cases h
    · omega
    · omega
  simp only [Ymd.resolveRest, Ymd.at, getIdx]
  simp [h1, h2, bind, Except.bind, pure, Except.pure]
  split <;> rfl

/-- `YYYY-MM-DD` and the like: the year (more than two digits) comes first -/
theorem resolve_Ymd (cs : Bool) (a b c : Nat) (yf : Bool) :
    ({ vals := [a, b, c], century := cs, yIdx := some 0 } : Ymd).resolve yf false = .ok (some a, some b, some c) := by
  rw [resolve_three cs a b c none (some 0) yf false (Or.inl rfl)]
  simp [Ymd.resolveRest, Ymd.at, getIdx, bind, Except.bind, pure, Except.pure]

theorem resolve_mdY (cs : Bool) (m d y : Nat) (hm : m ≤ 12) :
    ({ vals := [m, d, y], century := cs, yIdx := some 2 } : Ymd).resolve false false = .ok (some y, some m, some d) := by
  rw [resolve_abY cs m d y false false (by omega) (Or.inl rfl), if_neg (by simp; omega)]

theorem resolve_dmY (cs : Bool) (d m y : Nat) (hd : d ≤ 31) (hm : m ≤ 12) :
    ({ vals := [d, m, y], century := cs, yIdx := some 2 } : Ymd).resolve false true = .ok (some y, some m, some d) := by
  rw [resolve_abY cs d m y false true hd (Or.inl rfl), if_pos (Or.inr ⟨rfl, hm⟩)]

/-- `DD/MM/YY` under `dayfirst` -/
theorem resolve_dmy (cs : Bool) (d m y : Nat) (hd : d ≤ 31) (hm : m ≤ 12) :
    ({ vals := [d, m, y], century := cs } : Ymd).resolve false true = .ok (some y, some m, some d) := by
  rw [resolve_three cs d m y none none false true (Or.inl rfl)]
  have h1 : ¬ d > 31 := by omega
  simp [Ymd.resolveRest, Ymd.at, getIdx, bind, Except.bind, pure, Except.pure, h1, hm]

/-- `MM/DD/YY` -/
theorem resolve_mdy (cs : Bool) (m d y : Nat) (hm : m ≤ 12) (_hd : d ≤ 31) :
    ({ vals := [m, d, y], century := cs } : Ymd).resolve false false = .ok (some y, some m, some d) := by
  rw [resolve_three cs m d y none none false false (Or.inl rfl)]
  have h1 : ¬ m > 31 := by omega
  have h2 : ¬ m > 12 := by omega
  simp [Ymd.resolveRest, Ymd.at, getIdx, bind, Except.bind, pure, Except.pure, h1, h2]

/-- `YYMMDD` under `yearfirst` -/
theorem resolve_ymd (cs : Bool) (y m d : Nat) (hm : m ≤ 12) (hd : d ≤ 31) :
    ({ vals := [y, m, d], century := cs } : Ymd).resolve true false = .ok (some y, some m, some d) := by
  rw [resolve_three cs y m d none none true false (Or.inl rfl)]
  simp [Ymd.resolveRest, Ymd.at, getIdx, bind, Except.bind, pure, Except.pure, hm, hd]

/-- a month word in the middle: `DD-Mon-YY`, `D Month YYYY` (the year labelled when it was seen to be one) -/
theorem resolve_dMy (big : Bool) (d m y : Nat) (yf df : Bool) (hd : d ≤ 31) (hyf : big = true ∨ yf = false ∨ 31 < y) :
    ({ vals := [d, m, y], century := big, mIdx := some 1, yIdx := if big then some 2 else none } : Ymd).resolve yf df =
      .ok (some y, some m, some d) := by
  cases big with
  | true => simp [Ymd.resolve, Ymd.nlab, Ymd.resolveFromStridxs, Ymd.strids, completeStrids, Ymd.at, getIdx, bind, Except.bind, pure,
      Except.pure, Except.map]
  | false =>
    have h1 : ¬ d > 31 := by omega
    have h2 : ¬ (yf = true ∧ y ≤ 31) := by
      rintro ⟨h, h'⟩; rcases hyf with h3 | h3 | h3
      · cases h3
      · rw [h3] at h; cases h
      · omega
    rw [show (if false = true then some 2 else none : Option Nat) = none from rfl,
        resolve_three false d m y (some 1) none yf df (Or.inr rfl)]
    simp [Ymd.resolveRest, Ymd.at, getIdx, bind, Except.bind, pure, Except.pure, h1, h2]

/-- a month word in front: `Mon D YYYY`, `Month D, YYYY` -/
theorem resolve_Mdy (big : Bool) (m d y : Nat) (yf df : Bool) (hd : d ≤ 31) :
    ({ vals := [m, d, y], century := big, mIdx := some 0, yIdx := if big then some 2 else none } : Ymd).resolve yf df =
      .ok (some y, some m, some d) := by
  cases big with
  | true => simp [Ymd.resolve, Ymd.nlab, Ymd.resolveFromStridxs, Ymd.strids, completeStrids, Ymd.at, getIdx, bind, Except.bind, pure,
      Except.pure, Except.map]
  | false =>
    have h1 : ¬ d > 31 := by omega
    rw [show (if false = true then some 2 else none : Option Nat) = none from rfl,
        resolve_three false m d y (some 0) none yf df (Or.inr rfl)]
    simp [Ymd.resolveRest, Ymd.at, getIdx, bind, Except.bind, pure, Except.pure, h1]

end PM
