/-
  Proofs/RRuleStrGenRule.lean — the source translation of `_rrulestr._parse_rfc_rrule` and of the `_handle_*` dispatch
  (`Gen.rrsWDay`, `Gen.rrsHandle`, `Gen.rrsLineValue`, `Gen.rrsStepPair`, `Gen.rrsParseRule`) equals the model's part parser; then
  the line dispatch and the rest of `_parse_rfc` (`Gen.rrsStepLine`, `Gen.rrsTail`, `Gen.rrsParseRfc`) equal `parseRfc`.
-/
import DateutilVerif.Generated.RRuleStrKernels
import DateutilVerif.Proofs.RRuleStrGen
import DateutilVerif.Proofs.RRuleStrGenWDay
import DateutilVerif.Proofs.PySat
import DateutilVerif.Proofs.RRuleStrDispatch

namespace RRuleStr

theorem freqMap_eq_gen : Gen.FREQ_MAP.map (fun p => (p.1.toList, p.2)) = freqMap := by decide +kernel
theorem weekdayMap_eq_gen : Gen.WEEKDAY_MAP.map (fun p => (p.1.toList, p.2)) = weekdayMap := by decide +kernel

theorem getL_zero {α} (a : α) (l : List α) : StrPy.getL (a :: l) 0 = .ok a := by
  have := getL_append ([] : List α) a l
  simpa using this

theorem getL_one {α} (a b : α) (l : List α) : StrPy.getL (a :: b :: l) 1 = .ok b := by
  have := getL_append [a] b l
  simpa using this

/-- **the translated item splitter of `_handle_BYWEEKDAY` is the model's `parseWDay`**, for every text: `WD(n)` (the split at `(`
    has at least two parts, so `splt[0]` / `splt[1]` never raise), `nWD` / `WD` through the `for … break` scan, the empty item -/
theorem gen_wday_eq (w : List Char) : Gen.rrsWDay w = parseWDay w := by
  unfold Gen.rrsWDay parseWDay
  rw [weekdayMap_eq_gen]
  by_cases hp : w.contains '(' = true
  · obtain ⟨a, b, rest, hs⟩ := splitOnChar_two_parts '(' w ((contains_iff w '(').1 hp)
    simp only [hp, if_true, hs, getL_zero, getL_one, bind, Except.bind, List.headD_cons, List.getD_cons_succ, List.getD_cons_zero]
    cases h1 : ICal.pyInt b.dropLast <;> cases h2 : lookup weekdayMap a <;> simp [int!, h1, weekdayCall]
  · have hp' : w.contains '(' = false := by simpa using hp
    cases w with
    | nil => simp
    | cons c cs =>
      have hf : (fun ch => ['+', '-', '0', '1', '2', '3', '4', '5', '6', '7', '8', '9'].contains ch) = isSignDigit := by
        funext ch; exact signDigit_chars ch
      simp only [hp', Bool.false_eq_true, if_false, hf, forBreakIdx_eq, Nat.zero_add]
      have hne : ((c :: cs).length != 0) = true := by simp
      have hemp : (c :: cs).isEmpty = false := rfl
      simp only [hne, if_true, hemp, Bool.false_eq_true, if_false]
      generalize (if ((c :: cs).takeWhile isSignDigit).length == (c :: cs).length then (c :: cs).length - 1
        else ((c :: cs).takeWhile isSignDigit).length) = i
      by_cases he : ((c :: cs).take i).isEmpty = true
      · simp only [he, if_true, bind, Except.bind]
        cases lookup weekdayMap ((c :: cs).drop i) <;> simp [weekdayCall]
      · have he' : ((c :: cs).take i).isEmpty = false := by simpa using he
        simp only [he', Bool.false_eq_true, if_false, bind, Except.bind]
        cases h1 : ICal.pyInt ((c :: cs).take i) <;> cases h2 : lookup weekdayMap ((c :: cs).drop i) <;> simp [int!, h1, weekdayCall]

/-- the handler dispatch resolved against the class body = the model's `handleU` (which has one arm for the two names of BYWEEKDAY) -/
theorem gen_handle_eq (po : ParseOpts) (name value : List Char) : Gen.rrsHandle po name value = handleU po name value := by
  have hw : Gen.rrsWDay = parseWDay := by funext w; exact gen_wday_eq w
  have hor : ∀ (a b : Bool) (x y : Py.R Update), (if (a || b) = true then x else y) = if a = true then x else if b = true then x else y := by
    intro a b x y; cases a <;> cases b <;> rfl
  unfold Gen.rrsHandle handleU
  rw [freqMap_eq_gen, weekdayMap_eq_gen, hw, hor]
  rfl

/-- the only exception kinds a handler ends in -/
def ErrIn {α : Type} (r : Py.R α) : Prop := ∀ e, r = .error e → e = .ValueError ∨ e = .KeyError ∨ e = .AttributeError

/-- the three kinds, as a postcondition on the exception: `ErrIn r` is the error half of `Py.Sat r (fun _ => True) Kinds3` -/
abbrev Kinds3 (e : Py.PyErr) : Prop := e = .ValueError ∨ e = .KeyError ∨ e = .AttributeError

theorem int!_kinds (s : List Char) : Py.Sat (int! s) (fun _ => True) Kinds3 := by
  unfold int!; split
  · exact .ok trivial
  · exact .err (Or.inl rfl)

theorem parseWDay_kinds (w : List Char) : Py.Sat (parseWDay w) (fun _ => True) Kinds3 := by
  have ve : Py.Sat (.error .ValueError : Py.R WDay) (fun _ => True) Kinds3 := .err (Or.inl rfl)
  have ke : Py.Sat (.error .KeyError : Py.R WDay) (fun _ => True) Kinds3 := .err (Or.inr (Or.inl rfl))
  unfold parseWDay
  refine .ite ?_ (.ite ve ?_) <;> simp only []
  · split
    · exact .ite ve (.ok trivial)
    · exact ve
    · exact ke
  · split
    · refine .ite ke ?_
      split
      · exact ve
      · exact ke
    · refine .ite (.ok trivial) ?_
      split
      · exact .ite ve (.ok trivial)
      · exact ve

theorem readField_kinds (po : ParseOpts) (f : Field) (value : List Char) : Py.Sat (readField po f value) (fun _ => True) Kinds3 := by
  cases f
  case freq | wkst => simp only [readField]; split; exact .ok trivial; exact .err (Or.inr (Or.inl rfl))
  case untilV => exact .ok trivial
  case interval | count => exact .bind (int!_kinds _) (fun _ _ => .ok trivial)
  case byweekday => exact .bind (.mapM _ parseWDay_kinds _) (fun _ _ => .ok trivial)
  all_goals exact .bind (.mapM _ int!_kinds _) (fun _ _ => .ok trivial)

theorem handleU_errIn (po : ParseOpts) (name value : List Char) : ErrIn (handleU po name value) := by
  intro e h
  rw [handleU_eq] at h
  split at h
  · exact (readField_kinds _ _ _).of_err h
  · cases h; exact Or.inr (Or.inr rfl)

/-- the body of the loop over the parts: the `try` statement's mapping (AttributeError, KeyError, ValueError → ValueError; anything
    else would propagate) coincides with the model's "every failure is a ValueError", because a handler can only end in those three -/
theorem gen_stepPair_eq (po : ParseOpts) (a : RArgs) (pair : List Char) : Gen.rrsStepPair po a pair = stepPair po a pair := by
  unfold Gen.rrsStepPair stepPair handle
  split
  · rename_i name value _
    rw [gen_handle_eq]
    cases h : handleU po (ICal.upper name) (ICal.upper value) with
    | ok u => simp only [*]
    | error e =>
      rcases handleU_errIn po _ _ e h with rfl | rfl | rfl <;> simp only [*]
  · split <;> simp_all

theorem gen_lineValue_eq (line : List Char) : Gen.rrsLineValue line = lineValue line := rfl

/-- **the source translation of `_parse_rfc_rrule` is the model's `ruleOf`** (`parseRRuleLine` followed by the FREQ check): the
    keyword arguments handed to `rrule()`, or ValueError, for every line and all options -/
theorem gen_parseRule_eq (po : ParseOpts) (line : List Char) : Gen.rrsParseRule po line = ruleOf po line := by
  unfold Gen.rrsParseRule ruleOf parseRRuleLine needFreq
  have : Gen.rrsStepPair po = stepPair po := by funext a pair; exact gen_stepPair_eq po a pair
  rw [this, gen_lineValue_eq]
  cases lineValue line with
  | error e => rfl
  | ok v =>
    simp only [bind, Except.bind]

theorem splitOnChar_ne_nil (sep : Char) (s : List Char) : (ICal.splitOnChar sep s).isEmpty = false := by
  have := (splitOnChar_go_len sep s [] []).1
  unfold ICal.splitOnChar
  cases h : ICal.splitOnChar.go sep s [] [] with
  | nil => rw [h] at this; simp at this
  | cons a l => rfl

/-- **the translated body of the line dispatch loop of `_parse_rfc` is the model's `stepLine`** (`if not parms: raise …` can never fire:
    `str.split` returns at least one piece) -/
theorem gen_stepLine_eq (po : ParseOpts) (acc : Acc) (line : List Char) : Gen.rrsStepLine po acc line = stepLine po acc line := by
  unfold Gen.rrsStepLine stepLine
  simp only [splitOnChar_ne_nil, Bool.false_eq_true, if_false]
  rfl

/-- the translated rest of `_parse_rfc` (fast path, dispatch loop, decision for a set, set building, single-rule exit) = `parseLines` -/
theorem gen_tail_eq (po : ParseOpts) (cache : Bool) (s : List Char) (lines : List (List Char)) (f c kw : Bool) :
    Gen.rrsTail po cache s lines f c kw = parseLines po cache s lines f c kw := by
  have h1 : Gen.rrsParseRule po = ruleOf po := by funext l; exact gen_parseRule_eq po l
  have h2 : Gen.rrsStepLine po = stepLine po := by funext a l; exact gen_stepLine_eq po a l
  unfold Gen.rrsTail parseLines buildRule buildSet wantsSet
  rw [h1, h2]
  rfl

/-- **the WHOLE of `_rrulestr._parse_rfc` as translated from source = the model's `parseRfc`**, every text, all options -/
theorem gen_parseRfc_eq (s0 : List Char) (o : Opts) (kw : Bool) : Gen.rrsParseRfc s0 o kw = parseRfc s0 o kw := by
  unfold Gen.rrsParseRfc parseRfc
  rw [gen_prefix_eq_model]
  by_cases h : (ICal.strip (ICal.upper s0)).isEmpty = true
  · simp [h, bind, Except.bind]
  · simp only [h, Bool.false_eq_true, if_false, bind, Except.bind]
    exact gen_tail_eq _ _ _ _ _ _ _

end RRuleStr
