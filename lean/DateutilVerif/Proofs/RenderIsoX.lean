/-
  Proofs/RenderIsoX.lean — the vocabulary of the offset suffix every family of C02 uses: its tokens (`offTokens`), the zone it must
  give (`offDescr`, `utcOrLocal`), the options the theorems assume (`PlainOpts`), and small facts about padded numbers and
  offsets in seconds.
-/
import DateutilVerif.Proofs.RenderTac

namespace PM
open Py PT

@[simp] theorem dval_pad2 (n : Nat) (h : n < 100) : dval [n / 10, n] = n := by
  simp [dval, dvalAcc]; omega
@[simp] theorem dval_pad4 (n : Nat) (h : n < 10000) : dval [n / 1000, n / 100, n / 10, n] = n := by
  simp [dval, dvalAcc]; omega

theorem off_zero_iff (a b : Nat) : ((a : Int) * 3600 + (b : Int) * 60 = 0) ↔ (a = 0 ∧ b = 0) := by omega
@[simp] theorem dval_00 : dval [0, 0] = 0 := rfl
theorem off_zero_iff'' (b : Nat) : ((b : Int) * 60 = 0) ↔ b = 0 := by omega
theorem off_zero_iff' (a : Nat) : ((a : Int) * 3600 = 0) ↔ a = 0 := by omega
theorem offsetOk_hm (a b : Nat) (ha : a ≤ 23) (hb : b ≤ 59) :
    offsetOk ((a : Int) * 3600 + (b : Int) * 60) = true ∧ offsetOk (-((a : Int) * 3600 + (b : Int) * 60)) = true ∧
    offsetOk ((a : Int) * 3600) = true ∧ offsetOk (-((a : Int) * 3600)) = true ∧
    offsetOk ((b : Int) * 60) = true ∧ offsetOk (-((b : Int) * 60)) = true := by
  unfold offsetOk
  have e : ∀ n : Int, Int.ediv n 86400 = n / 86400 := fun _ => rfl
  simp only [Bool.and_eq_true, decide_eq_true_eq, e]
  refine ⟨⟨?_, ?_⟩, ⟨?_, ?_⟩, ⟨?_, ?_⟩, ⟨?_, ?_⟩, ⟨?_, ?_⟩, ⟨?_, ?_⟩⟩ <;> omega
@[simp] theorem offsetOk_zero : offsetOk 0 = true := by decide

def spT (sp : Bool) : List Token := if sp then [[' ']] else []

/-- tokens of an offset suffix -/
def offTokens : Off → List Token
  | .naive => []
  | .z sp => spT sp ++ [['Z']]
  | .utc => [[' '], ['U', 'T', 'C']]
  | .hh sp neg h => spT sp ++ [[sgn neg], dtok [h / 10, h]]
  | .hhmm sp neg h m => spT sp ++ [[sgn neg], dtok [h / 10, h, m / 10, m]]
  | .hhcmm sp neg h m => spT sp ++ [[sgn neg], dtok [h / 10, h], [':'], dtok [m / 10, m]]

/-- `tz.UTC`, or the process-zone row when the process zone is itself called UTC (the order `_build_tzaware` tests in).
    The row carries the parsed offset (`some 0`), so `localFinal` sends it to `tz.UTC` unless `tzlocal()` is at offset zero
    for that wall time: either way the result is at offset zero (`C02.offDescr_carries_offset`; the case is
    D-C02-local-zone-named-utc). -/
def utcOrLocal (tznames : List Token) : TzDescr :=
  if tznames.contains ['U', 'T', 'C'] then .localZone ['U', 'T', 'C'] (some 0) else .utc

/-- the zone a suffix must give -/
def offDescr (tznames : List Token) (off : Off) : TzDescr :=
  match off.seconds with
  | none => .naive
  | some n => if n = 0 then utcOrLocal tznames else .fixed none n

def isoDateTokens (y m d : Nat) (S : Token) : List Token :=
  [dtok [y / 1000, y / 100, y / 10, y], ['-'], dtok [m / 10, m], ['-'], dtok [d / 10, d], S]

/-- what the options must be for these theorems: strict parse, no `dayfirst`, `tzinfos` silent on a missing
    name and on `UTC` -/
structure PlainOpts (o : Opts) (tzi : TzInfos) : Prop where
  fz : o.fuzzy = false
  fwt : o.fuzzyWithTokens = false
  df : o.dayfirst.getD false = false
  tz1 : tzi.applies none = false
  tz2 : tzi.applies (some ['U', 'T', 'C']) = false

end PM
