/-
  Proofs/RRuleHourlyBy.lean — HOURLY with BYHOUR: the two argument classes as instances of Proofs/RRuleSubHourly.lean
  over the day filters of Proofs/RRuleWFilter.lean and Proofs/RRuleEFilter.lean.
-/
import DateutilVerif.Proofs.RRuleHourly

namespace RRule
open Cal

/-- HOURLY argument sets with BYHOUR (members 0..23; outside, `__mod_distance` can fall off its loop) -/
structure HourlyByArgs (a : Args) : Prop where
  freq : a.freq = 4
  interval : 1 ≤ a.interval
  valid : a.dtstart.Valid
  weekno : WArg a
  byeaster : a.byeaster = none
  monthday_nz : ∀ x ∈ a.bymonthday.getD [], x ≠ 0
  hours : ∃ l, a.byhour = some l ∧ ∀ x ∈ l, 0 ≤ x ∧ x ≤ 23
  minutes_ok : ∀ x ∈ a.byminute.getD [], 0 ≤ x ∧ x ≤ 59
  seconds_ok : ∀ x ∈ a.bysecond.getD [], 0 ≤ x ∧ x ≤ 59

/-- … with BYEASTER −80..250 and no BYWEEKNO in place of `WArg` and no BYEASTER -/
structure HourlyByEArgs (a : Args) : Prop where
  freq : a.freq = 4
  interval : 1 ≤ a.interval
  valid : a.dtstart.Valid
  byweekno : a.byweekno = none
  easter : ∃ el, a.byeaster = some el ∧ el ≠ [] ∧ ∀ o ∈ el, -80 ≤ o ∧ o ≤ 250
  monthday_nz : ∀ x ∈ a.bymonthday.getD [], x ≠ 0
  hours : ∃ l, a.byhour = some l ∧ ∀ x ∈ l, 0 ≤ x ∧ x ≤ 23
  minutes_ok : ∀ x ∈ a.byminute.getD [], 0 ≤ x ∧ x ≤ 59
  seconds_ok : ∀ x ∈ a.bysecond.getD [], 0 ≤ x ∧ x ≤ 59

variable {a : Args} {r : Rule}

/-- **`iter_eq_spec`, HOURLY with BYHOUR** (members 0..23): INTERVAL ≥ 1, a valid start, any BYMONTH / BYMONTHDAY
    (non-zero) / BYYEARDAY / BYDAY / BYMINUTE / BYSECOND (members 0..59) / BYSETPOS, any COUNT / UNTIL, BYWEEKNO absent
    or on the complement of D-C01c (`WArg`), no BYEASTER.  `__mod_distance` moves to the least listed hour of the grid (at most 24 steps), after the optional
    jump over a removed day (at most 23 steps): `n` turns correspond to `m` periods, `n ≤ m ≤ 48·n`. -/
theorem iter_eq_spec_hourly_byhour (ha : HourlyByArgs a) (h : construct a = .ok r) (n : Nat)
    (hle : Spec.RRule.startOrd a * 24 + a.dtstart.hh + (48 * n + 24) * a.interval + 23 < (maxOrdinal + 1) * 24) :
    ∃ m, n ≤ m ∧ m ≤ 48 * n ∧ (iter r n).1 = Spec.RRule.occ a m := by
  have hv := ha.valid
  unfold DT.Valid ValidDate at hv
  obtain ⟨l, hl, hlr⟩ := ha.hours
  exact iter_eq_spec_hourly_filter
    (wFilter h (by rw [ha.freq]; omega) ha.interval ha.valid ha.weekno ha.byeaster ha.monthday_nz) h ha.freq
    ha.interval ha.valid (by rw [hl]; exact hlr) ha.minutes_ok ha.seconds_ok 24 48 (by rw [hl]; simp) (by omega)
    n hv.1.1 hle

/-- **`iter_eq_spec_hourly_byhour_easter`**: `iter_eq_spec_hourly_byhour` with BYEASTER instead of "no BYEASTER" —
    offsets −80..250 (the complement of D-C01d), no BYWEEKNO, a start in a year ≥ 1583 and every visited day not
    after 31 December 4099 (where C19 ties `easter.easter` to Meeus/Jones/Butcher); everything else as there, `n ≤
    m ≤ 48·n`. -/
theorem iter_eq_spec_hourly_byhour_easter (ha : HourlyByEArgs a) (h : construct a = .ok r) (n : Nat)
    (hlo : 1583 ≤ a.dtstart.y)
    (hle : Spec.RRule.startOrd a * 24 + a.dtstart.hh + (48 * n + 24) * a.interval + 23
      < (Cal.toOrdinal 4099 12 31 + 1) * 24) :
    ∃ m, n ≤ m ∧ m ≤ 48 * n ∧ (iter r n).1 = Spec.RRule.occ a m := by
  obtain ⟨l, hl, hlr⟩ := ha.hours
  exact iter_eq_spec_hourly_filter
    (eFilter h (by rw [ha.freq]; omega) ha.interval ha.valid ha.byweekno ha.easter ha.monthday_nz) h ha.freq
    ha.interval ha.valid (by rw [hl]; exact hlr) ha.minutes_ok ha.seconds_ok 24 48 (by rw [hl]; simp) (by omega)
    n hlo hle

-- non-vacuity: the hypotheses are satisfiable
example : HourlyByEArgs { freq := 4, dtstart := ⟨2024, 1, 1, 10, 0, 0, 0⟩, byeaster := some [0, 1],
                          byhour := some [10, 16] } :=
  { freq := rfl, interval := (by decide), valid := (by decide), byweekno := rfl,
    easter := ⟨[0, 1], rfl, by simp, by intro o ho; simp at ho; omega⟩,
    monthday_nz := (by intro x hx; simp at hx), hours := ⟨[10, 16], rfl, by intro x hx; simp at hx; omega⟩,
    minutes_ok := (by intro x hx; simp at hx), seconds_ok := (by intro x hx; simp at hx) }

end RRule
