/-
  Proofs/Queries.lean — lemmas for C12: each loop of Model/Queries.lean equals its list
  specification (Spec/Queries.lean); early exits use only sortedness.
-/
import DateutilVerif.Model.Queries
import DateutilVerif.Spec.Queries

namespace Queries
open Py

theorem nthNext_eq (xs : List Int) (k : Nat) :
    nthNext xs k = match xs[k]? with | some x => .ok x | none => .error .IndexError := by
  induction xs generalizing k with
  | nil => simp [nthNext]
  | cons x xs ih =>
    cases k with
    | zero => simp [nthNext]
    | succ k => simp [nthNext, ih]

theorem getIdx_nonneg (xs : List Int) (i : Int) (h : 0 ≤ i) :
    getIdx xs i = match xs[i.toNat]? with | some x => .ok x | none => .error .IndexError := by
  unfold getIdx
  simp only []
  have h1 : ¬ i < 0 := by omega
  rw [if_neg h1]
  by_cases h2 : i < 0 ∨ i ≥ (xs.length : Int)
  · rw [if_pos h2]
    have : xs[i.toNat]? = none := by
      apply List.getElem?_eq_none; omega
    rw [this]
  · rw [if_neg h2]
    cases xs[i.toNat]? <;> rfl

theorem nthNext_getIdx (xs : List Int) (i : Int) (h : 0 ≤ i) : nthNext xs i.toNat = getIdx xs i := by
  rw [nthNext_eq, getIdx_nonneg xs i h]

theorem containsLoop_eq (x : Int) (xs : List Int) (h : Sorted xs) :
    containsLoop x xs = decide (x ∈ xs) := by
  induction xs with
  | nil => simp [containsLoop]
  | cons i xs ih =>
    have hs := List.pairwise_cons.mp h
    unfold containsLoop
    by_cases e : i = x
    · simp [e]
    · have e' : (i == x) = false := by simpa using e
      rw [e']
      by_cases g : i > x
      · have : x ∉ xs := fun hm => by have := hs.1 x hm; omega
        simp [g, this, Ne.symm e]
      · simp only [g, ↓reduceIte, Bool.false_eq_true]
        rw [ih hs.2]
        simp [Ne.symm e]

theorem afterLoop_eq (t : Int) (inc : Bool) (xs : List Int) :
    afterLoop t inc xs = firstAfter xs t inc := by
  unfold firstAfter
  induction xs with
  | nil => simp [afterLoop]
  | cons i xs ih =>
    unfold afterLoop
    have : (if inc then decide (i ≥ t) else decide (i > t)) = cmpAfter t inc i := rfl
    rw [this]
    by_cases c : cmpAfter t inc i = true
    · simp [c]
    · simp only [c, Bool.false_eq_true, ↓reduceIte]
      rw [ih, List.filter_cons_of_neg (by simpa using c)]

theorem cmpBefore_mono {t : Int} {inc : Bool} {x y : Int} (h : x < y) (hy : cmpBefore t inc y = true) :
    cmpBefore t inc x = true := by
  unfold cmpBefore at *
  cases inc <;> simp at * <;> omega

theorem filter_before_nil {t : Int} {inc : Bool} {i : Int} {xs : List Int}
    (hi : cmpBefore t inc i = false) (hs : ∀ x ∈ xs, i < x) : xs.filter (cmpBefore t inc) = [] := by
  rw [List.filter_eq_nil_iff]
  intro x hx hc
  have := cmpBefore_mono (hs x hx) hc
  rw [hi] at this; cases this

theorem beforeLoop_eq (t : Int) (inc : Bool) (xs : List Int) (last : Option Int) (h : Sorted xs) :
    beforeLoop t inc xs last = ((xs.filter (cmpBefore t inc)).getLast?).or last := by
  induction xs generalizing last with
  | nil => simp [beforeLoop]
  | cons i xs ih =>
    have hs := List.pairwise_cons.mp h
    unfold beforeLoop
    have e : (if inc then decide (i > t) else decide (i ≥ t)) = !cmpBefore t inc i := by
      unfold cmpBefore
      cases inc
      · by_cases g : i < t <;> simp [g]
        omega
      · by_cases g : i ≤ t <;> simp [g]
        omega
    rw [e]
    by_cases c : cmpBefore t inc i = true
    · simp only [c, Bool.not_true, Bool.false_eq_true, ↓reduceIte]
      rw [ih _ hs.2, List.filter_cons_of_pos c]
      cases hf : xs.filter (cmpBefore t inc) with
      | nil => simp
      | cons a l =>
        have : (a :: l).getLast? = some ((a :: l).getLast (by simp)) := List.getLast?_eq_some_getLast _
        simp [this]
    · have c' : cmpBefore t inc i = false := by simpa using c
      simp only [c', Bool.not_false, ↓reduceIte]
      rw [List.filter_cons_of_neg (by simp [c']), filter_before_nil c' hs.1]
      simp

theorem xafterLoop_none (t : Int) (inc : Bool) (xs : List Int) (n : Int) :
    xafterLoop t none inc xs n = xs.filter (cmpAfter t inc) := by
  induction xs generalizing n with
  | nil => simp [xafterLoop]
  | cons d xs ih =>
    unfold xafterLoop
    have : (if inc then decide (d ≥ t) else decide (d > t)) = cmpAfter t inc d := rfl
    rw [this]
    by_cases c : cmpAfter t inc d = true
    · simp [c, ih]
    · simp only [c, Bool.false_eq_true, ↓reduceIte]
      rw [ih, List.filter_cons_of_neg (by simpa using c)]

theorem xafterLoop_some (t c : Int) (inc : Bool) (xs : List Int) (n : Int) (hn : 0 ≤ n) :
    xafterLoop t (some c) inc xs n = (xs.filter (cmpAfter t inc)).take (c - n).toNat := by
  induction xs generalizing n with
  | nil => simp [xafterLoop]
  | cons d xs ih =>
    unfold xafterLoop
    have : (if inc then decide (d ≥ t) else decide (d > t)) = cmpAfter t inc d := rfl
    rw [this]
    by_cases m : cmpAfter t inc d = true
    · simp only [m, ↓reduceIte]
      rw [List.filter_cons_of_pos m]
      by_cases g : n + 1 > c
      · have : (c - n).toNat = 0 := by omega
        simp [g, this]
      · have : (c - n).toNat = (c - (n + 1)).toNat + 1 := by omega
        rw [if_neg g, ih (n + 1) (by omega), this, List.take_succ_cons]
    · simp only [m, Bool.false_eq_true, ↓reduceIte]
      rw [ih n hn, List.filter_cons_of_neg (by simpa using m)]

theorem cmpAfter_mono {t : Int} {inc : Bool} {x y : Int} (h : x < y) (hx : cmpAfter t inc x = true) :
    cmpAfter t inc y = true := by
  unfold cmpAfter at *
  cases inc <;> simp at * <;> omega

theorem betweenLoop_eq (a b : Int) (inc : Bool) (xs : List Int) (started : Bool) (h : Sorted xs)
    (hst : started = true → ∀ x ∈ xs, cmpAfter a inc x = true) :
    betweenLoop a b inc xs started = xs.filter (fun x => cmpAfter a inc x && cmpBefore b inc x) := by
  induction xs generalizing started with
  | nil => simp [betweenLoop]
  | cons i xs ih =>
    have hs := List.pairwise_cons.mp h
    unfold betweenLoop
    have e1 : (if inc then decide (i > b) else decide (i ≥ b)) = !cmpBefore b inc i := by
      unfold cmpBefore
      cases inc
      · by_cases g : i < b <;> simp [g]
        omega
      · by_cases g : i ≤ b <;> simp [g]
        omega
    have e2 : (if inc then decide (i ≥ a) else decide (i > a)) = cmpAfter a inc i := rfl
    rw [e1, e2]
    by_cases cb : cmpBefore b inc i = true
    · simp only [cb, Bool.not_true, Bool.false_eq_true, ↓reduceIte]
      cases started with
      | false =>
        simp only [Bool.not_false, ↓reduceIte]
        by_cases ca : cmpAfter a inc i = true
        · simp only [ca, ↓reduceIte]
          rw [ih true hs.2 (fun _ x hx => cmpAfter_mono (hs.1 x hx) ca),
              List.filter_cons_of_pos (by simp [ca, cb])]
        · simp only [ca, Bool.false_eq_true, ↓reduceIte]
          rw [ih false hs.2 (by simp), List.filter_cons_of_neg (by simp [ca])]
      | true =>
        simp only [Bool.not_true, Bool.false_eq_true, ↓reduceIte]
        have ca : cmpAfter a inc i = true := hst rfl i (by simp)
        rw [ih true hs.2 (fun _ x hx => hst rfl x (by simp [hx])),
            List.filter_cons_of_pos (by simp [ca, cb])]
    · have cb' : cmpBefore b inc i = false := by simpa using cb
      simp only [cb', Bool.not_false, ↓reduceIte]
      symm
      rw [List.filter_eq_nil_iff]
      intro x hx hc
      simp only [Bool.and_eq_true] at hc
      rcases List.mem_cons.mp hx with rfl | hx
      · rw [cb'] at hc; exact Bool.noConfusion hc.2
      · have := cmpBefore_mono (hs.1 x hx) hc.2
        rw [cb'] at this; cases this

end Queries
