/-
  Proofs/RSetHistory.lean — histories of a set object (C10): the run-to-completion of a query
  thread and the `next()` calls on kept iterators, composed from the invariants of the
  cached-iterator machine.
-/
import DateutilVerif.Proofs.CacheSolo
import DateutilVerif.Proofs.RRuleSetSpec

namespace RSet
open Cache Queries

theorem runThread_spec (t : Tid) : ∀ (fuel : Nat) (s : State) (it : Iter), Solo s t → s.its[t]? = some it →
    mu s.sh.src.length it < fuel →
    Solo (runThread s t fuel) t ∧ (runThread s t fuel).sh.src = s.sh.src ∧
    (runThread s t fuel).its.length = s.its.length ∧
    (∀ t', t' ≠ t → (runThread s t fuel).its[t']? = s.its[t']?) ∧
    ∃ it', (runThread s t fuel).its[t]? = some it' ∧ it'.pc = .done ∧ it'.q = it.q := by
  intro fuel
  induction fuel with
  | zero => intro s it _ _ h; omega
  | succ fuel ih =>
    intro s it hs hit hmu
    unfold runThread
    cases hst : step s t with
    | none =>
      simp only []
      have hd : it.pc = .done := by
        by_cases hd : it.pc = .done
        · exact hd
        · obtain ⟨s', h'⟩ := solo_enabled hs hit hd
          rw [hst] at h'; cases h'
      exact ⟨hs, trivial, trivial, fun _ _ => trivial, it, hit, hd, rfl⟩
    | some s1 =>
      simp only []
      obtain ⟨hs1, hsrc, hlen, hoth, hthr⟩ := solo_step hs hst
      obtain ⟨it1, hit1, hq1, hmu1, _⟩ := hthr it hit
      have := ih s1 it1 hs1 hit1 (by rw [hsrc]; omega)
      obtain ⟨a, b, c, d, it', e1, e2, e3⟩ := this
      exact ⟨a, b.trans hsrc, c.trans hlen, fun t' ht' => (d t' ht').trans (hoth t' ht'),
        it', e1, e2, e3.trans hq1⟩

/-- all threads are outside the critical section (the state of a rule object between calls) -/
def ParkedAll (s : State) : Prop := ∀ (t : Tid) (it : Iter), s.its[t]? = some it → it.pc.inCrit = false

/-- … of an object whose generator ends by StopIteration (the sets of C10's history machine: finite member lists) -/
def Parked (s : State) : Prop := ParkedAll s ∧ s.sh.endErr = none

/-- how the generator ends is a parameter of the machine: no statement changes it -/
theorem step_endErr {s s' : State} {t : Tid} (hi : Inv s) (h : step s t = some s') : s'.sh.endErr = s.sh.endErr := by
  obtain ⟨it, sh', it', hit, hst, rfl⟩ := step_eq h
  exact (stepIter_sinv hst hi.sinv (hi.linv t it hit)).2.err_eq

theorem runThread_endErr (t : Tid) : ∀ (fuel : Nat) (s : State), Inv s → (runThread s t fuel).sh.endErr = s.sh.endErr := by
  intro fuel
  induction fuel with
  | zero => intro s _; rfl
  | succ fuel ih =>
    intro s hi
    unfold runThread
    cases hst : step s t with
    | none => rfl
    | some s1 => exact (ih s1 (inv_step' hi hst)).trans (step_endErr hi hst)

theorem nextVal_endErr (t : Tid) : ∀ (fuel : Nat) (s : State), Inv s →
    (nextVal s t fuel).1.sh.endErr = s.sh.endErr ∧ Inv (nextVal s t fuel).1 := by
  intro fuel
  induction fuel with
  | zero => intro s hi; exact ⟨rfl, hi⟩
  | succ fuel ih =>
    intro s hi
    unfold nextVal
    cases hst : step s t with
    | none => exact ⟨rfl, hi⟩
    | some s1 =>
      simp only []
      have hi1 := inv_step' hi hst
      split
      · exact ⟨step_endErr hi hst, hi1⟩
      · exact ⟨((ih s1 hi1).1).trans (step_endErr hi hst), (ih s1 hi1).2⟩

theorem takeVals_endErr (t : Tid) : ∀ (k : Nat) (s : State) (acc : List Int), Inv s →
    (takeVals s t k acc).1.sh.endErr = s.sh.endErr := by
  intro k
  induction k with
  | zero => intro s acc _; rfl
  | succ k ih =>
    intro s acc hi
    unfold takeVals
    have h1 := nextVal_endErr t (threadFuel s.sh) s hi
    cases hnv : nextVal s t (threadFuel s.sh) with
    | mk s1 v =>
      rw [hnv] at h1
      cases v with
      | some x => simp only []; exact (ih s1 _ h1.2).trans h1.1
      | none => simp only []; exact h1.1

theorem runCreate_endErr (t : Tid) : ∀ (fuel : Nat) (s : State), Inv s → (runCreate s t fuel).sh.endErr = s.sh.endErr := by
  intro fuel
  induction fuel with
  | zero => intro s _; rfl
  | succ fuel ih =>
    intro s hi
    unfold runCreate
    split
    · rfl
    · split
      · cases hst : step s t with
        | none => rfl
        | some s1 => exact (ih s1 (inv_step' hi hst)).trans (step_endErr hi hst)
      · rfl

/-- a query method on a cached object at rest — whatever way its generator ends — returns what the uncached
    object gives (`specE`: the list-semantics answer on the sequence of the current generator, or the generator's
    own exception when the query needs one value more than there is), and leaves the object at rest -/
theorem runQuery_specE {s : State} (hi : Inv s) (hp : ParkedAll s) (hsorted : Sorted s.sh.src) (q : Query)
    (hsmall : fits q s.sh.src) :
    (runQuery s q).2 = some (specE q s.sh.src s.sh.endErr) ∧ Inv (runQuery s q).1 ∧ ParkedAll (runQuery s q).1 ∧
    (runQuery s q).1.sh.endErr = s.sh.endErr ∧
    (runQuery s q).1.sh.src = s.sh.src ∧
    (∀ t', t' < s.its.length → (runQuery s q).1.its[t']? = s.its[t']?) ∧
    (runQuery s q).1.its.length = s.its.length + 1 := by
  unfold runQuery
  simp only []
  let s0 : State := { s with its := s.its ++ [{ q := q }] }
  have hi0 : Inv s0 := inv_add hi q
  have hit0 : s0.its[s.its.length]? = some { q := q } := List.getElem?_concat_length
  have hs0 : Solo s0 s.its.length := by
    refine ⟨hi0, fun t' it' e h => ?_⟩
    rcases List.getElem?_concat_cases (l := s.its) h with ⟨_, h⟩ | ⟨e', _⟩
    · exact hp t' it' h
    · exact absurd e' e
  have hmu : mu s0.sh.src.length ({ q := q } : Iter) < threadFuel s.sh := by
    show mu s.sh.src.length ({ q := q } : Iter) < 100 + 60 * (s.sh.src.length + 2)
    simp only [mu]; omega
  obtain ⟨hs', hsrc, hlen, hoth, it', hit', hd, hq⟩ :=
    runThread_spec s.its.length (threadFuel s.sh) s0 _ hs0 hit0 hmu
  have hl := hs'.inv.linv _ it' hit'
  obtain ⟨_, hl⟩ := hl
  rw [hd] at hl
  simp only [] at hl
  have herr : (runThread s0 s.its.length (threadFuel s.sh)).sh.endErr = s.sh.endErr :=
    runThread_endErr _ _ s0 hi0
  refine ⟨?_, hs'.inv, ?_, herr, hsrc, ?_, ?_⟩
  · show (match (runThread s0 s.its.length (threadFuel s.sh)).its[s.its.length]? with
          | some it => it.res | none => none) = _
    rw [hit']
    simp only []
    have := hl.2.2 (by rw [hsrc]; exact hsorted) (by rw [hq, hsrc]; exact hsmall)
    rw [this, hq, hsrc, herr]
  · intro t' it2 h2
    by_cases e : t' = s.its.length
    · subst e
      rw [hit'] at h2; cases h2
      rw [hd]; rfl
    · exact hs'.parked t' it2 e h2
  · intro t' hlt
    rw [hoth t' (Nat.ne_of_lt hlt)]
    show (s.its ++ [({ q := q } : Iter)])[t']? = _
    rw [List.getElem?_append_left hlt]
  · rw [hlen]; show (s.its ++ [({ q := q } : Iter)]).length = _; simp

/-- … over a generator that ends by StopIteration: the list-semantics answer -/
theorem runQuery_spec {s : State} (hi : Inv s) (hp : Parked s) (hsorted : Sorted s.sh.src) (q : Query)
    (hsmall : fits q s.sh.src) :
    (runQuery s q).2 = some (spec q s.sh.src) ∧ Inv (runQuery s q).1 ∧ Parked (runQuery s q).1 ∧
    (runQuery s q).1.sh.src = s.sh.src ∧
    (∀ t', t' < s.its.length → (runQuery s q).1.its[t']? = s.its[t']?) ∧
    (runQuery s q).1.its.length = s.its.length + 1 := by
  obtain ⟨r1, r2, r3, r4, r5, r6, r7⟩ := runQuery_specE hi hp.1 hsorted q hsmall
  rw [hp.2] at r1 r4
  exact ⟨r1, r2, ⟨r3, r4⟩, r5, r6, r7⟩

/-- **a history of calls on one cached object** — whatever way its generator ends — gives, call by call, what the
    uncached object gives -/
theorem runQueries_specE : ∀ (qs : List Query) (s : State), Inv s → ParkedAll s → Sorted s.sh.src →
    (∀ q ∈ qs, fits q s.sh.src) → runQueries s qs = qs.map (fun q => some (specE q s.sh.src s.sh.endErr)) := by
  intro qs
  induction qs with
  | nil => intro s _ _ _ _; rfl
  | cons q qs ih =>
    intro s hi hp hsorted hfit
    obtain ⟨r1, r2, r3, r4, r5, _, _⟩ := runQuery_specE hi hp hsorted q (hfit q (by simp))
    unfold runQueries
    rw [List.map_cons, r1, ih (runQuery s q).1 r2 r3 (by rw [r5]; exact hsorted)
      (fun q' hq' => by rw [r5]; exact hfit q' (by simp [hq'])), r4, r5]

theorem yieldedLen_eq {s : State} {t : Tid} {it : Iter} (h : s.its[t]? = some it) :
    yieldedLen s t = it.yielded.length := by
  unfold yieldedLen; rw [h]

theorem nextVal_spec (t : Tid) : ∀ (fuel : Nat) (s : State) (it : Iter), Solo s t → s.its[t]? = some it →
    mu s.sh.src.length it < fuel →
    Solo (nextVal s t fuel).1 t ∧ (nextVal s t fuel).1.sh.src = s.sh.src ∧
    (nextVal s t fuel).1.its.length = s.its.length ∧
    (∀ t', t' ≠ t → (nextVal s t fuel).1.its[t']? = s.its[t']?) ∧
    ∃ it', (nextVal s t fuel).1.its[t]? = some it' ∧ it'.q = it.q ∧
      ((∃ x, (nextVal s t fuel).2 = some x ∧ it'.yielded = it.yielded ++ [x] ∧ it'.pc.inCrit = false) ∨
       ((nextVal s t fuel).2 = none ∧ it'.pc = .done ∧ it'.yielded = it.yielded)) := by
  intro fuel
  induction fuel with
  | zero => intro s it _ _ h; omega
  | succ fuel ih =>
    intro s it hs hit hmu
    unfold nextVal
    cases hst : step s t with
    | none =>
      simp only []
      have hd : it.pc = .done := by
        by_cases hd : it.pc = .done
        · exact hd
        · obtain ⟨s', h'⟩ := solo_enabled hs hit hd
          rw [hst] at h'; cases h'
      exact ⟨hs, trivial, trivial, fun _ _ => trivial, it, hit, rfl, Or.inr ⟨trivial, hd, rfl⟩⟩
    | some s1 =>
      simp only []
      obtain ⟨hs1, hsrc, hlen, hoth, hthr⟩ := solo_step hs hst
      obtain ⟨it1, hit1, hq1, hmu1, hy⟩ := hthr it hit
      rw [yieldedLen_eq hit, yieldedLen_eq hit1]
      rcases hy with hy | ⟨x, hx, hpk⟩
      · have hnot : ¬ it.yielded.length < it1.yielded.length := by rw [hy]; omega
        rw [if_neg hnot]
        obtain ⟨a, b, c, d, it', e1, e2, e3⟩ := ih s1 it1 hs1 hit1 (by rw [hsrc]; omega)
        refine ⟨a, b.trans hsrc, c.trans hlen, fun t' ht' => (d t' ht').trans (hoth t' ht'), it', e1, e2.trans hq1, ?_⟩
        rw [hy] at e3; exact e3
      · have hlt : it.yielded.length < it1.yielded.length := by rw [hx]; simp
        rw [if_pos hlt]
        simp only []
        refine ⟨hs1, hsrc, hlen, hoth, it1, hit1, hq1, Or.inl ⟨x, ?_, hx, hpk⟩⟩
        rw [hit1]; simp only []; rw [hx]; simp

theorem prefix_next {ys vals src : List Int} (h : ys ++ vals <+: src) :
    vals = (src.drop ys.length).take vals.length := by
  obtain ⟨zs, rfl⟩ := h
  rw [List.append_assoc, List.drop_left', List.take_left']
  · rfl
  · rfl

/-- `list(islice(it, k))` on a kept plain iterator whose owner thread is at rest: the next k
    instants of the generator's sequence (fewer at the end), the thread at rest again -/
theorem takeVals_spec (t : Tid) : ∀ (k : Nat) (s : State) (it : Iter) (acc : List Int), Solo s t →
    s.its[t]? = some it → it.q = .iterAll → it.pc.inCrit = false →
    Solo (takeVals s t k acc).1 t ∧ (takeVals s t k acc).1.sh.src = s.sh.src ∧
    (takeVals s t k acc).1.its.length = s.its.length ∧
    (∀ t', t' ≠ t → (takeVals s t k acc).1.its[t']? = s.its[t']?) ∧
    ∃ it', (takeVals s t k acc).1.its[t]? = some it' ∧ it'.q = .iterAll ∧ it'.pc.inCrit = false ∧
      (takeVals s t k acc).2 = acc ++ ((s.sh.src.drop it.yielded.length).take k) ∧
      it'.yielded = it.yielded ++ ((s.sh.src.drop it.yielded.length).take k) := by
  intro k
  induction k with
  | zero =>
    intro s it acc hs hit hq hpk
    exact ⟨hs, rfl, rfl, fun _ _ => rfl, it, hit, hq, hpk, by simp [takeVals], by simp⟩
  | succ k ih =>
    intro s it acc hs hit hq hpk
    unfold takeVals
    have hl := hs.inv.linv t it hit
    have hmu : mu s.sh.src.length it < threadFuel s.sh := by
      have := mu_bound hl
      show _ < 100 + 60 * (s.sh.src.length + 2)
      omega
    obtain ⟨hs1, hsrc, hlen, hoth, it1, hit1, hq1, hcase⟩ := nextVal_spec t (threadFuel s.sh) s it hs hit hmu
    have hl1 := hs1.inv.linv t it1 hit1
    have hpre1 := hl1.prefix
    rw [hsrc] at hpre1
    rcases hcase with ⟨x, hr, hy, hpk1⟩ | ⟨hr, hd, hy⟩
    · -- one more value
      have hx : s.sh.src.drop it.yielded.length = x :: s.sh.src.drop (it.yielded.length + 1) := by
        rw [hy] at hpre1
        obtain ⟨zs, hz⟩ := hpre1
        rw [← hz, List.append_assoc, List.drop_left']
        · simp only [List.singleton_append, List.cons.injEq, true_and]
          rw [show it.yielded ++ x :: zs = (it.yielded ++ [x]) ++ zs by simp, List.drop_left' (by simp)]
        · rfl
      have hsplit : (nextVal s t (threadFuel s.sh)) = ((nextVal s t (threadFuel s.sh)).1, some x) := by
        rw [← hr]
      rw [hsplit]
      simp only []
      obtain ⟨a, b, c, d, it', e1, e2, e3, e4, e5⟩ := ih _ it1 (acc ++ [x]) hs1 hit1 (hq1.trans hq) hpk1
      refine ⟨a, b.trans hsrc, c.trans hlen, fun t' ht' => (d t' ht').trans (hoth t' ht'), it', e1, e2, e3, ?_, ?_⟩
      · rw [e4, hsrc, hy, hx]; simp
      · rw [e5, hsrc, hy, hx]; simp
    · -- the generator is exhausted
      have hsplit : (nextVal s t (threadFuel s.sh)) = ((nextVal s t (threadFuel s.sh)).1, none) := by
        rw [← hr]
      rw [hsplit]
      simp only []
      obtain ⟨_, hl1'⟩ := hl1
      rw [hd] at hl1'
      simp only [] at hl1'
      have hall : it1.yielded = s.sh.src := by
        have := hl1'.2.1 (hq1.trans hq)
        rw [this, hsrc]
      have hnil : s.sh.src.drop it.yielded.length = [] := by
        rw [← hall, hy]; simp
      refine ⟨hs1, hsrc, hlen, hoth, it1, hit1, hq1.trans hq, by rw [hd]; rfl, ?_, ?_⟩
      · rw [hnil]; simp
      · rw [hnil, hy]; simp

theorem dispatch_step {sh sh' : Shared} {t : Tid} {it it' : Iter} (hd : inDispatch it.pc = true)
    (h : stepIter sh t it = some (sh', it')) : it'.yielded = it.yielded ∧ it'.pc.inCrit = false := by
  revert h
  fun_cases stepIter sh t it <;> intro h <;> rw [‹it.pc = _›] at hd <;>
    first
    | exact absurd hd Bool.false_ne_true
    | (cases h; first | exact ⟨rfl, rfl⟩ | (split <;> exact ⟨rfl, rfl⟩))

theorem runCreate_spec (t : Tid) : ∀ (fuel : Nat) (s : State) (it : Iter), Solo s t → s.its[t]? = some it →
    it.yielded = [] → it.pc.inCrit = false →
    Solo (runCreate s t fuel) t ∧ (runCreate s t fuel).sh.src = s.sh.src ∧
    (runCreate s t fuel).its.length = s.its.length ∧
    (∀ t', t' ≠ t → (runCreate s t fuel).its[t']? = s.its[t']?) ∧
    ∃ it', (runCreate s t fuel).its[t]? = some it' ∧ it'.q = it.q ∧ it'.yielded = [] ∧ it'.pc.inCrit = false := by
  intro fuel
  induction fuel with
  | zero => intro s it hs hit hy hp; exact ⟨hs, rfl, rfl, fun _ _ => rfl, it, hit, rfl, hy, hp⟩
  | succ fuel ih =>
    intro s it hs hit hy hp
    unfold runCreate
    rw [hit]
    simp only []
    by_cases hd : inDispatch it.pc = true
    · rw [if_pos hd]
      cases hst : step s t with
      | none => exact ⟨hs, rfl, rfl, fun _ _ => rfl, it, hit, rfl, hy, hp⟩
      | some s1 =>
        simp only []
        obtain ⟨hs1, hsrc, hlen, hoth, hthr⟩ := solo_step hs hst
        obtain ⟨it1, hit1, hq1, _, _⟩ := hthr it hit
        obtain ⟨it0, sh', it', hit0, hsi, hs1eq⟩ := step_eq hst
        rw [hit] at hit0; cases hit0
        have hsame : it1 = it' := by
          rw [hs1eq] at hit1
          simp only [] at hit1
          rw [List.getElem?_set_self_of_getElem? hit] at hit1
          cases hit1; rfl
        subst hsame
        obtain ⟨hy1, hp1⟩ := dispatch_step hd hsi
        obtain ⟨a, b, c, d, it2, e1, e2, e3, e4⟩ := ih s1 it1 hs1 hit1 (hy1.trans hy) hp1
        exact ⟨a, b.trans hsrc, c.trans hlen, fun t' ht' => (d t' ht').trans (hoth t' ht'), it2, e1, e2.trans hq1, e3, e4⟩
    · rw [if_neg hd]
      exact ⟨hs, rfl, rfl, fun _ _ => rfl, it, hit, rfl, hy, hp⟩

end RSet
