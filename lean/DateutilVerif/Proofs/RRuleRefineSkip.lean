/-
  Proofs/RRuleRefineSkip.lean — the refinement for the sub-daily frequencies, where one turn of the
  model's loop may pass over several periods of the specification (the `filtered` jump to the end of
  the day, `__mod_distance`): the periods passed over select nothing, so after `n` turns the model has
  yielded exactly the specification's set of the first `m ≥ n` periods.
-/
import DateutilVerif.Proofs.RRuleRefine

namespace RRule
open Spec.RRule

/-- agreement with skipping: `Good k st` = "`st` is the model state at the start of the specification's
    period `k`"; one turn leads to a later period `k'`, at most `J` further, and the periods strictly
    between select nothing.  (Unlike `Simulation` of Proofs/RRuleRefine.lean there is no part `pre` of `sel` that the
    model leaves out: that occurs only in WEEKLY's first week.) -/
structure SkipSim (a : Args) (r : Rule) (N J : Nat) (Good : Nat → State → Prop) : Prop where
  agree : CutsAgree a r
  step : ∀ k st, k < N → Good k st → ∃ fl,
    periodResults r st = .ok (Spec.RRule.sel a (k : Int), none, fl) ∧
    (∀ x ∈ Spec.RRule.sel a (k : Int), 0 ≤ x.ord ∧ x.ord ≤ Cal.maxOrdinal) ∧
    ∀ c, ∃ st' k', advance r { st with count := c } fl = .ok st' ∧ k < k' ∧ k' ≤ k + J ∧ Good k' st' ∧
      ∀ j : Nat, k < j → j < k' → Spec.RRule.sel a (j : Int) = []

theorem specFrom_append (a : Args) (hi : Int) (c : Cut) (k n m : Nat) :
    specFrom a hi c k (n + m) = specFrom a hi (specFrom a hi c k n) (k + n) m := by
  unfold specFrom
  rw [List.range'_append_1 |>.symm, List.foldl_append]

theorem specFrom_empty (a : Args) (hi : Int) (c : Cut) : ∀ (n k : Nat),
    (∀ j : Nat, k ≤ j → j < k + n → Spec.RRule.sel a (j : Int) = []) → specFrom a hi c k n = c := by
  intro n
  induction n with
  | zero => intro k _; rfl
  | succ n ih =>
    intro k h
    unfold specFrom
    rw [List.range'_succ, List.foldl_cons, h k (by omega) (by omega)]
    exact ih (k + 1) (fun j h1 h2 => h j (by omega) (by omega))

theorem run_refines_skip {a : Args} {r : Rule} {N J : Nat} {Good : Nat → State → Prop}
    (sim : SkipSim a r N J Good) (hJ1 : 1 ≤ J) : ∀ (n k : Nat) (st : State) (c : Cut),
    Good k st → k + J * n ≤ N → c.done = false → st.count = remaining a c.n →
    ∃ m, n ≤ m ∧ m ≤ J * n ∧
      (specFrom a Cal.maxOrdinal c k m).out = (run r n st).1.reverse ++ c.out := by
  intro n
  induction n with
  | zero => intro k st c _ _ _ _; exact ⟨0, by omega, by omega, by simp [specFrom, run]⟩
  | succ n ih =>
    intro k st c hg hk hc hcnt
    have hJ : J * (n + 1) = J * n + J := by rw [Nat.mul_succ]
    have hJn : n ≤ J * n := Nat.le_mul_of_pos_left n (by omega)
    obtain ⟨fl, hres, hbnd, hnext⟩ := sim.step k st (by omega) hg
    have pa := emit_push a r sim.agree Cal.maxOrdinal _ c hc hbnd
    rw [← hcnt] at pa
    -- the specification's fold over period k
    have hone : specFrom a Cal.maxOrdinal c k 1 = (Spec.RRule.sel a (k : Int)).foldl (push a 0 Cal.maxOrdinal) c := rfl
    generalize hc' : (Spec.RRule.sel a (k : Int)).foldl (push a 0 Cal.maxOrdinal) c = c' at pa hone
    generalize Spec.RRule.sel a (k : Int) = cands at hres pa
    unfold run step
    rw [hres]
    dsimp only
    generalize hem : emit r cands st.count = em at pa
    cases hs : em.2.1 with
    | some s =>
      dsimp only
      refine ⟨n + 1, by omega, by rw [hJ]; omega, ?_⟩
      rw [Nat.add_comm n 1, specFrom_append, hone, specFrom_done a _ c' (pa.stopped (by rw [hs]; simp))]
      exact pa.out
    | none =>
      dsimp only
      obtain ⟨hdone, hrem⟩ := pa.running hs
      obtain ⟨st', k', hadv, hk1, hk2, hg', hskip⟩ := hnext em.2.2
      rw [hadv]
      dsimp only
      have hc2 : st'.count = remaining a c'.n := by
        rw [advance_count r _ st' fl hadv]; exact hrem
      obtain ⟨m, hm1, hm2, hm3⟩ := ih k' st' c' hg' (by omega) hdone hc2
      refine ⟨1 + (k' - k - 1) + m, by omega, by rw [hJ]; omega, ?_⟩
      rw [specFrom_append, specFrom_append, hone,
        specFrom_empty a _ c' (k' - k - 1) (k + 1) (fun j h1 h2 => hskip j (by omega) (by omega))]
      have e : k + (1 + (k' - k - 1)) = k' := by omega
      rw [e, hm3, pa.out]
      simp

/-- **refinement with skipping**: after `n` turns the model has yielded exactly the specification's
    recurrence set of the first `m` selected periods, for some `n ≤ m ≤ J·n` -/
theorem iter_refines_skip {a : Args} {r : Rule} {N J : Nat} {Good : Nat → State → Prop}
    (sim : SkipSim a r N J Good) (hJ1 : 1 ≤ J) (st0 : State) (hinit : init r = .ok st0) (hg : Good 0 st0)
    (hc0 : st0.count = r.count) (n : Nat) (hn : J * n ≤ N) :
    ∃ m, n ≤ m ∧ m ≤ J * n ∧ (iter r n).1 = Spec.RRule.occ a m := by
  have hcnt : st0.count = remaining a 0 := by
    rw [hc0, sim.agree.count]; unfold remaining; cases a.count <;> simp
  obtain ⟨m, h1, h2, h3⟩ := run_refines_skip sim hJ1 n 0 st0 { out := [], n := 0, done := false } hg (by omega) rfl hcnt
  refine ⟨m, h1, h2, ?_⟩
  unfold iter; rw [hinit]; dsimp only
  unfold Spec.RRule.occ
  unfold specFrom at h3
  rw [List.range_eq_range']
  dsimp only
  rw [h3]; simp

end RRule
