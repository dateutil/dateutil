/-
  Proofs/RRuleNthBridge.lean — BYDAY consisting of nth weekdays only ("the last Friday", "the 2nd Tuesday"), at YEARLY
  or MONTHLY: what the constructor makes of it, and the BYDAY part of `dateOk` as "marked by a pair of the list", for
  the count inside the month and inside the year.
-/
import DateutilVerif.Proofs.RRuleNthFilter
import DateutilVerif.Proofs.RRuleBridge

namespace RRule
open Cal

/-- MONTHLY argument sets whose BYDAY members are all nth weekdays -/
structure NthMArgs (a : Args) : Prop where
  freq : a.freq = 1
  interval : 1 ≤ a.interval
  valid : a.dtstart.Valid
  byweekno : a.byweekno = none
  byeaster : a.byeaster = none
  monthday_nz : ∀ x ∈ a.bymonthday.getD [], x ≠ 0
  weekdays : ∃ l, a.byweekday = some l ∧ l ≠ [] ∧ ∀ w ∈ l, (0 ≤ w.1 ∧ w.1 ≤ 6) ∧ w.2 ≠ 0

variable {a : Args} {r : Rule}

/-- the nth-weekday list of the constructed rule -/
def nwlOf (a : Args) : List (Int × Int) := sortBy ltPair (nthWeekdays a (a.byweekday.getD []))

/-- BYDAY given, non-empty, every member an nth weekday -/
def NthOnly (a : Args) : Prop := ∃ l, a.byweekday = some l ∧ l ≠ [] ∧ ∀ w ∈ l, (0 ≤ w.1 ∧ w.1 ≤ 6) ∧ w.2 ≠ 0

theorem NthOnly.noDay (hw : NthOnly a) : noDayParts a = false := by
  obtain ⟨l, hl, _, _⟩ := hw
  unfold noDayParts; simp [hl]

/-- what the constructor makes of nth-only BYDAY at YEARLY / MONTHLY: no plain weekday, the sorted list of pairs -/
theorem nwl_facts (hf : a.freq = 0 ∨ a.freq = 1) (hw : NthOnly a) :
    nwlOf a ≠ [] ∧ (∀ wn, wn ∈ nwlOf a ↔ wn ∈ a.byweekday.getD []) ∧
    (∀ wn ∈ nwlOf a, (0 ≤ wn.1 ∧ wn.1 ≤ 6) ∧ wn.2 ≠ 0) ∧
    byweekdayOf a = none ∧ bynweekdayOf a = some (nwlOf a) := by
  have hnd := hw.noDay
  obtain ⟨l, hl, hne, hok⟩ := hw
  have hf1 : decide (a.freq > 1) = false := by rcases hf with h | h <;> simp [h]
  have hwa : weekdayArg a = some l := by unfold weekdayArg; simp [hnd, hl]
  have hfil : l.filter (fun w => !(w.2 == 0 || decide (a.freq > 1))) = l := by
    apply List.filter_eq_self.mpr; intro w hw
    have := (hok w hw).2
    simp [hf1, this]
  have hfil2 : l.filter (fun w => w.2 == 0 || decide (a.freq > 1)) = [] := by
    apply List.filter_eq_nil_iff.mpr; intro w hw
    have := (hok w hw).2
    simp [hf1, this]
  have hmem : ∀ wn, wn ∈ nwlOf a ↔ wn ∈ l := by
    intro wn; unfold nwlOf nthWeekdays; rw [hl, Option.getD_some, hfil, mem_sortBy, mem_dedup]
  have hplain : plainWeekdays a l = [] := by unfold plainWeekdays; rw [hfil2]; rfl
  refine ⟨?_, by rw [hl]; exact hmem, fun wn hwn => hok wn ((hmem wn).mp hwn), ?_, ?_⟩
  · intro hnil
    cases l with
    | nil => exact hne rfl
    | cons w ws => have := (hmem w).mpr (List.mem_cons_self ..); rw [hnil] at this; simp at this
  · unfold byweekdayOf; rw [hwa]; simp [hplain]
  · unfold bynweekdayOf; rw [hwa]; simp only [hplain, List.isEmpty_nil, ↓reduceIte]
    unfold nwlOf; rw [hl]; rfl

theorem nthRule_of (D : DateFields a r) (hf : a.freq = 0 ∨ a.freq = 1) (hw : NthOnly a) (hwn : a.byweekno = none)
    (he : a.byeaster = none) : NthRule r :=
  ⟨by rw [D.byweekno, hwn]; rfl, by rw [D.byeaster, he]; rfl, by rw [D.byweekday]; exact (nwl_facts hf hw).2.2.2.1⟩

/-- **the BYDAY part of `dateOk` for nth-only BYDAY**: some pair of the list picks the date, where "`wn` picks the
    date" may be put in any form `M` equivalent to the specification's test for pairs with a non-zero count -/
theorem weekdayPart_nth (hf : a.freq = 0 ∨ a.freq = 1) (hw : NthOnly a) (ord : Int) (M : Int × Int → Prop)
    (hM : ∀ wn : Int × Int, wn.2 ≠ 0 → (M wn ↔ (wn.1 == weekdayOfOrd ord &&
      (wn.2 == 0 || decide (a.freq > 1) ||
        Spec.RRule.nthOk a ord (fromOrdinal ord).1 (fromOrdinal ord).2.1 wn.2)) = true)) :
    (∃ wn ∈ nwlOf a, M wn) ↔ weekdayPart a ord = true := by
  obtain ⟨_, hmem, hok, _, _⟩ := nwl_facts hf hw
  have hnd := hw.noDay
  obtain ⟨l, hl, hne, _⟩ := hw
  rw [hl, Option.getD_some] at hmem
  unfold weekdayPart
  rw [weekdays_eq, show weekdayArg a = some l by unfold weekdayArg; simp [hnd, hl], Option.getD_some,
    show l.isEmpty = false by cases l with | nil => exact absurd rfl hne | cons _ _ => rfl, Bool.false_or,
    List.any_eq_true]
  constructor
  · rintro ⟨wn, hwn, hm⟩
    exact ⟨wn, (hmem wn).mp hwn, (hM wn (hok wn hwn).2).mp hm⟩
  · rintro ⟨wn, hwl, hm⟩
    have hwn := (hmem wn).mpr hwl
    exact ⟨wn, hwn, (hM wn (hok wn hwn).2).mpr hm⟩

/-- "marked by the pair `wn` inside the month `(y, m)`" is the specification's nth-weekday test, for a
    date of that month, whenever the specification counts inside the month -/
theorem marks_iff_nthOk (a : Args) (info : Info) (y m d : Int) (hv : ValidYMD y m d)
    (hyo : info.yearordinal = toOrdinal y 1 1)
    (hin : (a.freq == 1 || (a.freq == 0 && !(Spec.RRule.months a).isEmpty)) = true)
    (hf1 : ¬ a.freq > 1) (wn : Int × Int) (hn0 : wn.2 ≠ 0) :
    marks info (daysBeforeMonth y m) (daysBeforeMonth y m + daysInMonth y m - 1)
      (toOrdinal y m d - info.yearordinal) wn ↔
    (wn.1 == weekdayOfOrd (toOrdinal y m d) &&
      (wn.2 == 0 || decide (a.freq > 1) || Spec.RRule.nthOk a (toOrdinal y m d) y m wn.2)) = true := by
  obtain ⟨hm1, hm12, hd1, hd2⟩ := hv
  have hj : toOrdinal y m d - info.yearordinal = daysBeforeMonth y m + d - 1 := by
    rw [hyo]; unfold toOrdinal; rw [daysBeforeMonth_1]; omega
  unfold marks nthAt Spec.RRule.nthOk
  have e0 : info.yearordinal + (toOrdinal y m d - info.yearordinal) = toOrdinal y m d := by omega
  rw [e0, hj]
  have hfirst : toOrdinal y m 1 = toOrdinal y m d - (d - 1) := by unfold toOrdinal; omega
  have hlast : toOrdinal y m (daysInMonth y m) = toOrdinal y m d + (daysInMonth y m - d) := by
    unfold toOrdinal; omega
  have hfd : decide (a.freq > 1) = false := by simp [hf1]
  simp only [hin, ↓reduceIte, hfirst, hlast, hfd, Bool.or_false, Bool.and_eq_true, beq_iff_eq, Bool.or_eq_true]
  constructor
  · rintro ⟨_, _, hw, hn⟩
    refine ⟨hw.symm, Or.inr ?_⟩
    split at hn
    · rename_i hp; rw [if_pos hp]; simp only [beq_iff_eq]; omega
    · rename_i hp; rw [if_neg hp]; simp only [beq_iff_eq]; omega
  · rintro ⟨hw, hn | hn⟩
    · exact absurd hn hn0
    · refine ⟨by omega, by omega, hw.symm, ?_⟩
      split
      · rename_i hp; rw [if_pos hp] at hn; simp only [beq_iff_eq] at hn; omega
      · rename_i hp; rw [if_neg hp] at hn; simp only [beq_iff_eq] at hn; omega


variable {y : Int} {info : Info}

/-- … the same for the day with index `i` of the year, inside the month `(y, m)` -/
theorem marks_month_iff (a : Args) (hyo : info.yearordinal = toOrdinal y 1 1) (hy : 1 ≤ y) {m i : Int}
    (hm : 1 ≤ m ∧ m ≤ 12) (hi0 : daysBeforeMonth y m ≤ i) (hi1 : i < daysBeforeMonth y m + daysInMonth y m)
    (hin : (a.freq == 1 || (a.freq == 0 && !(Spec.RRule.months a).isEmpty)) = true)
    (hf1 : ¬ a.freq > 1) (wn : Int × Int) (hn0 : wn.2 ≠ 0) :
    marks info (daysBeforeMonth y m) (daysBeforeMonth y m + daysInMonth y m - 1) i wn ↔
    (wn.1 == weekdayOfOrd (info.yearordinal + i) &&
      (wn.2 == 0 || decide (a.freq > 1) || Spec.RRule.nthOk a (info.yearordinal + i)
        (fromOrdinal (info.yearordinal + i)).1 (fromOrdinal (info.yearordinal + i)).2.1 wn.2)) = true := by
  have hv : ValidYMD y m (i - daysBeforeMonth y m + 1) := ⟨hm.1, hm.2, by omega, by omega⟩
  have hord : info.yearordinal + i = toOrdinal y m (i - daysBeforeMonth y m + 1) := by
    rw [hyo]; unfold toOrdinal; rw [daysBeforeMonth_1]; omega
  have := marks_iff_nthOk a info y m _ hv hyo hin hf1 wn hn0
  rw [← hord, show info.yearordinal + i - info.yearordinal = i by omega] at this
  rw [this, hord, fromOrdinal_toOrdinal y m _ hy hv]

end RRule
