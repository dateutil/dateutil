/-
  Proofs/LexSeg.lean — the lexer segment by segment: a digit run, a word, a single separator, a
  whitespace character, a number with a fraction — each becomes one token provided what follows
  cannot extend it ("…Ends").  All lemmas are in continuation form
      scan cls init (segment ++ rest) = token :: scan cls init rest
  so that a whole rendering is lexed by rewriting left to right.  Any classification.
-/
import DateutilVerif.Proofs.ParserIso

namespace PM

/-- digits (as the classification sees them), none of them NUL, `.` or `,` -/
def DRun (cls : Char → CClass) (t : List Char) : Prop :=
  ∀ c ∈ t, (cls c).isNum = true ∧ c ≠ '\x00' ∧ c ≠ '.' ∧ c ≠ ','

/-- letters (as the classification sees them), none of them NUL -/
def ARun (cls : Char → CClass) (t : List Char) : Prop :=
  ∀ c ∈ t, (cls c).isWord = true ∧ c ≠ '\x00'

/-- what follows cannot extend a number token -/
def NumEnds (cls : Char → CClass) : List Char → Prop
  | [] => True
  | c :: _ => c ≠ '\x00' ∧ (cls c).isNum = false ∧ c ≠ '.' ∧ c ≠ ','

/-- what follows cannot extend a word token -/
def WordEnds (cls : Char → CClass) : List Char → Prop
  | [] => True
  | c :: _ => c ≠ '\x00' ∧ (cls c).isWord = false ∧ c ≠ '.'

/-- what follows cannot extend a number-with-fraction token (whose last character is a digit) -/
def FracEnds (cls : Char → CClass) : List Char → Prop
  | [] => True
  | c :: _ => c ≠ '\x00' ∧ (cls c).isNum = false ∧ c ≠ '.'

theorem DRun.digRun {cls : Char → CClass} {t : List Char} (h : DRun cls t) : DigRun cls t :=
  fun c hc => ⟨(h c hc).1, (h c hc).2.1⟩

theorem scan_init_cons (cls : Char → CClass) (c : Char) (r : List Char) (h0 : c ≠ '\x00') :
    scan cls .init (c :: r) = (start cls c).1 ++ scan cls (start cls c).2 r := by
  have : step cls .init c = start cls c := by
    unfold step; simp [h0, LexSt.init]
  simp only [scan, this]

theorem scan_init_nil (cls : Char → CClass) : scan cls .init [] = [] := rfl

/-- a digit run followed by something that ends a number -/
theorem lex_num (cls : Char → CClass) (d : Char) (ds rest : List Char) (h : DRun cls (d :: ds)) (he : NumEnds cls rest) :
    scan cls .init ((d :: ds) ++ rest) = (d :: ds) :: scan cls .init rest := by
  rw [scan_run_init cls d ds h.digRun rest]
  cases rest with
  | nil => rw [scan_end_n]; simp <;> rfl
  | cons c r =>
    obtain ⟨h0, hn, h1, h2⟩ := he
    rw [scan_init_cons cls c r h0]
    simp only [scan]
    have : step cls { state := .n, tok := (d :: ds).reverse, seen := false } c =
        ((d :: ds) :: (start cls c).1, (start cls c).2) := by
      unfold step pushBack
      simp [h0, hn, h1, h2, emit_n]
    rw [this]
    rfl

theorem step_word_a (cls : Char → CClass) (acc : List Char) (sn : Bool) (c : Char) (hc : (cls c).isWord = true) (h0 : c ≠ '\x00') :
    step cls { state := .a, tok := acc, seen := sn } c = ([], { state := .a, tok := c :: acc, seen := true }) := by
  unfold step
  simp [h0, hc]

theorem scan_run_a (cls : Char → CClass) (ws : List Char) (hws : ARun cls ws) :
    ∀ (acc rest : List Char) (sn : Bool), ws ≠ [] →
      scan cls { state := .a, tok := acc, seen := sn } (ws ++ rest) =
      scan cls { state := .a, tok := ws.reverse ++ acc, seen := true } rest := by
  induction ws with
  | nil => intro acc rest sn h; exact absurd rfl h
  | cons w ws ih =>
    intro acc rest sn _
    have hw := hws w List.mem_cons_self
    have hws' : ARun cls ws := fun c hc => hws c (List.mem_cons_of_mem _ hc)
    simp only [List.cons_append, scan, step_word_a cls acc sn w hw.1 hw.2, List.nil_append]
    cases ws with
    | nil => simp
    | cons w2 ws2 =>
      rw [ih hws' (w :: acc) rest true (by simp)]
      simp

theorem emit_a (acc : List Char) (sn : Bool) : emit { state := .a, tok := acc, seen := sn } = [acc.reverse] := by
  unfold emit
  simp

/-- a word followed by something that ends a word -/
theorem lex_word (cls : Char → CClass) (a : Char) (as rest : List Char) (h : ARun cls (a :: as)) (he : WordEnds cls rest) :
    scan cls .init ((a :: as) ++ rest) = (a :: as) :: scan cls .init rest := by
  have ha := h a List.mem_cons_self
  have has : ARun cls as := fun c hc => h c (List.mem_cons_of_mem _ hc)
  rw [List.cons_append, scan_init_cons cls a _ ha.2]
  have hst : start cls a = ([], { state := .a, tok := [a], seen := false }) := by
    unfold start; simp [ha.1]
  rw [hst]
  simp only [List.nil_append]
  -- the rest of the word
  have hrun : ∃ sn, scan cls { state := .a, tok := [a], seen := false } (as ++ rest) =
      scan cls { state := .a, tok := (a :: as).reverse, seen := sn } rest := by
    cases as with
    | nil => exact ⟨false, by simp⟩
    | cons b bs => exact ⟨true, by rw [scan_run_a cls (b :: bs) has [a] rest false (by simp)]; simp⟩
  obtain ⟨sn, hrun⟩ := hrun
  rw [hrun]
  cases rest with
  | nil => simp [scan, flush, emit_a] <;> rfl
  | cons c r =>
    obtain ⟨h0, hn, h1⟩ := he
    rw [scan_init_cons cls c r h0]
    simp only [scan]
    have : step cls { state := .a, tok := (a :: as).reverse, seen := sn } c =
        ((a :: as) :: (start cls c).1, (start cls c).2) := by
      unfold step pushBack
      simp [h0, hn, h1, emit_a]
    rw [this]
    rfl

/-- a single character that is neither letter, digit nor space -/
theorem lex_other (cls : Char → CClass) (c : Char) (rest : List Char) (hk : cls c = .other) (h0 : c ≠ '\x00') :
    scan cls .init (c :: rest) = [c] :: scan cls .init rest := by
  rw [scan_init_cons cls c rest h0]
  unfold start
  simp [hk, CClass.isWord, CClass.isNum, CClass.isSpace]

/-- a single whitespace character becomes `' '` -/
theorem lex_space (cls : Char → CClass) (c : Char) (rest : List Char) (hk : cls c = .space) (h0 : c ≠ '\x00') :
    scan cls .init (c :: rest) = [' '] :: scan cls .init rest := by
  rw [scan_init_cons cls c rest h0]
  unfold start
  simp [hk, CClass.isWord, CClass.isNum, CClass.isSpace]

/-! ### numbers with a fraction -/

theorem step_digit_nDot (cls : Char → CClass) (acc : List Char) (c : Char) (hc : (cls c).isNum = true) (h0 : c ≠ '\x00') :
    step cls { state := .nDot, tok := acc, seen := false } c = ([], { state := .nDot, tok := c :: acc, seen := false }) := by
  unfold step
  simp [h0, hc]

theorem scan_run_nDot (cls : Char → CClass) (ds : List Char) (hds : DRun cls ds) :
    ∀ (acc rest : List Char),
      scan cls { state := .nDot, tok := acc, seen := false } (ds ++ rest) =
      scan cls { state := .nDot, tok := ds.reverse ++ acc, seen := false } rest := by
  induction ds with
  | nil => intro acc rest; rfl
  | cons d ds ih =>
    intro acc rest
    have hd := hds d List.mem_cons_self
    have hds' : DRun cls ds := fun c hc => hds c (List.mem_cons_of_mem _ hc)
    simp only [List.cons_append, scan, step_digit_nDot cls acc d hd.1 hd.2.1, List.nil_append]
    rw [ih hds' (d :: acc) rest]
    simp

theorem countDot_drun (cls : Char → CClass) (t : List Char) (h : DRun cls t) : countDot t = 0 := by
  unfold countDot
  rw [List.count_eq_zero]
  intro hm
  exact (h _ hm).2.2.1 rfl

theorem map_comma_drun (cls : Char → CClass) (t : List Char) (h : DRun cls t) :
    t.map (fun c => if c = ',' then '.' else c) = t := by
  induction t with
  | nil => rfl
  | cons a r ih =>
    have ha := h a List.mem_cons_self
    simp only [List.map_cons, ha.2.2.2, if_false]
    rw [ih (fun c hc => h c (List.mem_cons_of_mem _ hc))]

@[simp] theorem lstate_nDot_aDot : (LState.nDot == LState.aDot) = false := by decide
@[simp] theorem lstate_nDot_nDot : (LState.nDot == LState.nDot) = true := by decide

/-- `emit` in state `'0.'` without letters, the last character not a separator -/
theorem emit_nDot (tk X : List Char) (hX : tk.reverse = X) (hsep : lastIsSep tk = false) :
    emit { state := .nDot, tok := tk, seen := false } =
      (if countDot X > 1 then resplit X else if countDot X = 0 then [X.map (fun c => if c = ',' then '.' else c)] else [X]) := by
  unfold emit
  simp only [hX, hsep, lstate_nDot_aDot, lstate_nDot_nDot, Bool.false_or, Bool.or_false, Bool.true_and,
             decide_eq_true_eq, beq_iff_eq]

/-- `digits . digits` (one dot, last character a digit) is emitted as it stands; `digits , digits` with the
    comma rewritten to a dot -/
theorem emit_frac (cls : Char → CClass) (ip fp : List Char) (sepc : Char) (hs : sepc = '.' ∨ sepc = ',')
    (hip : DRun cls ip) (f : Char) (hfp : DRun cls (f :: fp)) :
    emit { state := .nDot, tok := ((ip ++ sepc :: (f :: fp))).reverse, seen := false } = [ip ++ '.' :: (f :: fp)] := by
  have hlast : ∃ l init, (ip ++ sepc :: (f :: fp)).reverse = l :: init ∧ l ≠ '.' ∧ l ≠ ',' := by
    have : (f :: fp) ≠ [] := by simp
    obtain ⟨l, hl⟩ : ∃ l, (f :: fp).getLast? = some l := by
      cases h : (f :: fp).getLast? with
      | none => simp at h
      | some l => exact ⟨l, rfl⟩
    have hmem : l ∈ (f :: fp) := List.mem_of_getLast? hl
    have hrev : (f :: fp).reverse.head? = some l := by rw [List.head?_reverse]; exact hl
    cases hr : (f :: fp).reverse with
    | nil => simp at hr
    | cons x xs =>
      rw [hr] at hrev
      simp at hrev
      refine ⟨x, xs ++ sepc :: ip.reverse, ?_, ?_, ?_⟩
      · simp [List.reverse_append, hr]
      · rw [hrev]; exact (hfp l hmem).2.2.1
      · rw [hrev]; exact (hfp l hmem).2.2.2
  obtain ⟨l, init, hrev, hl1, hl2⟩ := hlast
  have cip := countDot_drun cls ip hip
  have cfp := countDot_drun cls (f :: fp) hfp
  have hsep : lastIsSep ((ip ++ sepc :: (f :: fp)).reverse) = false := by
    rw [hrev]; simp [lastIsSep, hl1, hl2]
  rw [emit_nDot _ _ (List.reverse_reverse _) hsep]
  rcases hs with rfl | rfl
  · have hc : countDot (ip ++ '.' :: (f :: fp)) = 1 := by
      unfold countDot at *
      simp [List.count_append, List.count_cons, cip] at cfp ⊢
      omega
    simp [hc]
  · have hc : countDot (ip ++ ',' :: (f :: fp)) = 0 := by
      unfold countDot at *
      simp [List.count_append, List.count_cons, cip] at cfp ⊢
      omega
    simp only [hc]
    simp [map_comma_drun cls ip hip, map_comma_drun cls fp (fun c hc => hfp c (List.mem_cons_of_mem _ hc)),
          (hfp f List.mem_cons_self).2.2.2]

/-- a number with a fraction followed by something that ends it -/
theorem lex_frac (cls : Char → CClass) (d : Char) (ds : List Char) (sepc f : Char) (fs rest : List Char)
    (hs : sepc = '.' ∨ (sepc = ',' ∧ (d :: ds).length ≥ 2)) (hsd : (cls sepc).isNum = false)
    (h : DRun cls (d :: ds)) (hf : DRun cls (f :: fs)) (he : FracEnds cls rest) :
    scan cls .init ((d :: ds) ++ sepc :: ((f :: fs) ++ rest)) = ((d :: ds) ++ '.' :: (f :: fs)) :: scan cls .init rest := by
  rw [scan_run_init cls d ds h.digRun]
  have hs0 : sepc ≠ '\x00' := by rcases hs with rfl | ⟨rfl, _⟩ <;> decide
  have hs' : sepc = '.' ∨ sepc = ',' := by rcases hs with h | ⟨h, _⟩; exact Or.inl h; exact Or.inr h
  have s1 : step cls { state := .n, tok := (d :: ds).reverse, seen := false } sepc =
      ([], { state := .nDot, tok := sepc :: (d :: ds).reverse, seen := false }) := by
    unfold step
    rcases hs with rfl | ⟨rfl, hl⟩
    · simp [hsd]
    · have hne : ds ≠ [] := by intro h; subst h; simp at hl
      simp [hsd, hne]
  simp only [scan, s1, List.nil_append]
  rw [scan_run_nDot cls (f :: fs) hf]
  have htok : (f :: fs).reverse ++ sepc :: (d :: ds).reverse = ((d :: ds) ++ sepc :: (f :: fs)).reverse := by simp
  rw [htok]
  have hemit := emit_frac cls (d :: ds) fs sepc hs' h f hf
  cases rest with
  | nil =>
    simp only [scan, flush]
    rw [hemit]
    rfl
  | cons c r =>
    obtain ⟨h0, hn, h1⟩ := he
    rw [scan_init_cons cls c r h0]
    simp only [scan]
    -- the last character of the pending token is a digit, so a letter cannot extend it
    have hhead : ∀ x, (((d :: ds) ++ sepc :: (f :: fs)).reverse).head? = some x → x ≠ '.' := by
      intro x hx
      rw [List.head?_reverse] at hx
      have hx' : (f :: fs).getLast? = some x := by
        have e : (d :: ds) ++ sepc :: (f :: fs) = ((d :: ds) ++ [sepc]) ++ (f :: fs) := by simp
        rw [e, List.getLast?_append] at hx
        cases hg : (f :: fs).getLast? with
        | none => simp at hg
        | some y => rw [hg] at hx; simpa using hx
      exact (hf x (List.mem_of_getLast? hx')).2.2.1
    have : step cls { state := .nDot, tok := ((d :: ds) ++ sepc :: (f :: fs)).reverse, seen := false } c =
        (((d :: ds) ++ '.' :: (f :: fs)) :: (start cls c).1, (start cls c).2) := by
      unfold step pushBack
      have hne : ((d :: ds) ++ sepc :: (f :: fs)).reverse.head? ≠ some '.' := fun hx => hhead _ hx rfl
      simp only [h0, if_false, h1, hn, false_or, Bool.false_eq_true, hne, and_false]
      rw [hemit]
      rfl
    rw [this]
    rfl

/-! ### a number directly followed by a comma (`Month D, YYYY`) -/

theorem splitDecimal_run_comma (cls : Char → CClass) (ds : List Char) (h : DRun cls ds) :
    splitDecimal (ds ++ [',']) = [ds, [','], []] := by
  induction ds with
  | nil => simp [splitDecimal]
  | cons a r ih =>
    have ha := h a List.mem_cons_self
    have hr : DRun cls r := fun c hc => h c (List.mem_cons_of_mem _ hc)
    have hne : ¬ (a = '.' ∨ a = ',') := by
      intro hh; rcases hh with hh | hh
      · exact ha.2.2.1 hh
      · exact ha.2.2.2 hh
    simp only [List.cons_append, splitDecimal, hne, if_false, ih hr]

/-- two or more digits, a comma, then something that is neither digit nor dot: the comma is first taken
    into the number (state `'0.'`) and split off again when the token is emitted -/
theorem lex_num_comma (cls : Char → CClass) (d : Char) (ds : List Char) (c : Char) (r : List Char)
    (h : DRun cls (d :: ds)) (hl : (d :: ds).length ≥ 2) (hcomma : (cls ',').isNum = false)
    (h0 : c ≠ '\x00') (hn : (cls c).isNum = false) (h1 : c ≠ '.') (hw : (cls c).isWord = false) :
    scan cls .init ((d :: ds) ++ ',' :: c :: r) = (d :: ds) :: [','] :: scan cls .init (c :: r) := by
  rw [scan_run_init cls d ds h.digRun]
  have hne : ds ≠ [] := by intro hh; subst hh; simp at hl
  have s1 : step cls { state := .n, tok := (d :: ds).reverse, seen := false } ',' =
      ([], { state := .nDot, tok := ',' :: (d :: ds).reverse, seen := false }) := by
    unfold step
    simp [hcomma, hne]
  have hemit : emit { state := .nDot, tok := ',' :: (d :: ds).reverse, seen := false } = [d :: ds, [',']] := by
    unfold emit
    have e : (',' :: (d :: ds).reverse).reverse = (d :: ds) ++ [','] := by simp
    have hs := splitDecimal_run_comma cls (d :: ds) h
    simp only [e, lstate_nDot_aDot, lstate_nDot_nDot, Bool.false_or, lastIsSep]
    simp only [resplit, hs]
    simp
  have s2 : step cls { state := .nDot, tok := ',' :: (d :: ds).reverse, seen := false } c =
      ((d :: ds) :: [','] :: (start cls c).1, (start cls c).2) := by
    unfold step pushBack
    simp only [h0, if_false, h1, hn, false_or, Bool.false_eq_true, hw, false_and, hemit]
    rfl
  rw [scan_init_cons cls c r h0]
  simp only [scan, s1, s2, List.nil_append]
  rfl

/-- one digit and a comma: the comma ends the number at once -/
theorem lex_num1_comma (cls : Char → CClass) (d : Char) (rest : List Char) (h : DRun cls [d])
    (hcomma : cls ',' = .other) :
    scan cls .init (d :: ',' :: rest) = [d] :: [','] :: scan cls .init rest := by
  have hd := h d List.mem_cons_self
  have e : d :: ',' :: rest = [d] ++ (',' :: rest) := rfl
  rw [e, scan_run_init cls d [] h.digRun]
  simp only [scan]
  have : step cls { state := .n, tok := [d].reverse, seen := false } ',' = ([[d], [',']], .init) := by
    unfold step pushBack start
    simp [hcomma, CClass.isNum, CClass.isWord, CClass.isSpace, emit_n]
  rw [this]
  rfl

end PM
