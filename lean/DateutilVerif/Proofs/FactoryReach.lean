/-
  Proofs/FactoryReach.lean — the whole-state invariant is preserved by every step (thread
  statements, reference drops, garbage collection), hence holds in every reachable state.
-/
import DateutilVerif.Proofs.FactoryStep

namespace Fact

variable {kd : Kind} {res : Key → Res}

structure Inv (kd : Kind) (res : Key → Res) (s : State) : Prop where
  gi : GI kd s.g
  ti : ∀ t th, s.ths[t]? = some th → TI kd res t s.g th
  owner : ∀ t, s.g.lock = some t → t < s.ths.length
  swFree : s.g.lock = none → SW s.g
  sw : ∀ (t : Tid) (th : Thread), s.ths[t]? = some th → TS s.g th

theorem rooted_of_thread {s : State} {t : Tid} {th : Thread} {i : Id} (h : s.ths[t]? = some th)
    (hi : th.inst = some i) : rooted s i = true := by
  have hm : th ∈ s.ths := List.mem_of_getElem? h
  simp only [rooted, Bool.or_eq_true, List.any_eq_true]
  exact .inr ⟨th, hm, by simp [hi]⟩

theorem rooted_of_held {s : State} {r : Ref} (h : r ∈ s.g.held) : rooted s r.id = true := by
  simp only [rooted, Bool.or_eq_true, List.any_eq_true]
  exact .inl (.inl (.inl (.inr ⟨r, h, by simp⟩)))

theorem not_rooted_strong {s : State} {i : Id} (h : ¬ rooted s i = true) : ∀ e ∈ s.g.strong, e.2 ≠ i := by
  intro e he hi
  apply h
  simp only [rooted, Bool.or_eq_true, List.any_eq_true]
  exact .inl (.inl (.inl (.inl ⟨e, he, by simp [hi]⟩)))

theorem step_inv {s s' : State} {l : Label} (h : Inv kd res s) (hs : step kd res s l = some s') :
    Inv kd res s' := by
  cases l with
  | thr t =>
    obtain ⟨th, g', th', hth, hstep, rfl⟩ := step_thr hs
    have hT := h.ti t th hth
    have hGu := tstep_guar hT hstep
    have hlt : t < s.ths.length := (List.getElem?_eq_some_iff.mp hth).1
    have hsw := tstep_sw h.swFree (h.sw t th hth) hT hstep
    refine ⟨tstep_gi h.gi hT hstep,
      List.forall_getElem?_set hth (tstep_ti h.gi hT hstep) fun t2 th2 he h2 => ti_stable (h.ti t2 th2 h2) he hGu, ?_,
      hsw.2,
      List.forall_getElem?_set hth hsw.1 fun t2 th2 he h2 => ts_stable (h.sw t2 th2 h2) (h.ti t2 th2 h2) he hGu⟩
    intro t2 h2
    simp only [List.length_set]
    by_cases hl : s.g.lock = some t
    · rcases hGu.hasLock hl with h' | h'
      · rw [h'] at h2; cases h2; exact hlt
      · rw [h'] at h2; cases h2
    · obtain ⟨_, _, _, h' | ⟨_, h'⟩⟩ := hGu.noLock hl
      · rw [h'] at h2; exact h.owner t2 h2
      · rw [h'] at h2; cases h2; exact hlt
  | drop t n =>
    cases step_drop hs
    exact ⟨h.gi.filterHeld _, fun t2 th2 h2 => { h.ti t2 th2 h2 with }, h.owner, h.swFree, h.sw⟩
  | collect k =>
    -- the collected object is referenced by nobody: no strong-cache entry, held reference or local is it
    obtain ⟨i, hki, hroot, rfl⟩ := step_collect hs
    have hcol : SW s.g → ∀ e ∈ s.g.strong, upd s.g.weak k none e.1 = some e.2 := fun hsw e he => by
      have hw := hsw e he
      refine (upd_other _ _ _ _ fun hkk => ?_).trans hw
      rw [hkk, hki] at hw
      exact not_rooted_strong hroot e he (Option.some.inj hw).symm
    refine ⟨h.gi.clearWeak fun hs r hr he hkk => ?_, fun t2 th2 h2 => ?_, h.owner, fun hl => hcol (h.swFree hl),
            fun t2 th2 h2 hin hnc => hcol (h.sw t2 th2 h2 hin hnc)⟩
    · have hw := h.gi.heldWeak hs r hr he
      rw [hkk, hki] at hw
      exact hroot (Option.some.inj hw ▸ rooted_of_held hr)
    · refine ti_transfer (h.ti t2 th2 h2) Iff.rfl (fun _ => ⟨rfl, rfl⟩) (fun i' hi' hw _ => ?_)
        (fun hw _ => ?_) (Nat.le_refl _) (fun _ h => h) id
      · refine (upd_other _ _ _ _ fun hkk => ?_).trans hw
        rw [hkk, hki] at hw
        exact hroot (Option.some.inj hw ▸ rooted_of_thread h2 hi')
      · by_cases hkk : th2.key = k
        · rw [hkk]; exact upd_same ..
        · exact (upd_other _ _ _ _ hkk).trans hw

theorem reachable_inv {s0 s : State} (h0 : Inv kd res s0) (h : Reachable kd res s0 s) : Inv kd res s := by
  induction h with
  | init => exact h0
  | step _ hs ih => exact step_inv ih hs

theorem idle_inv {g : Glob} (scripts : List (List Op)) (hG : GI kd g) (hl : g.lock = none) (hs : g.strong = []) :
    Inv kd res { g := g, ths := scripts.map fun sc => { todo := sc } } := by
  have hth : ∀ (t : Tid) (th : Thread), (scripts.map fun sc => ({ todo := sc } : Thread))[t]? = some th →
      ∃ sc, th = { todo := sc } := fun t th h => by
    rw [List.getElem?_map] at h
    obtain ⟨sc, -, rfl⟩ := Option.map_eq_some_iff.mp h
    exact ⟨sc, rfl⟩
  refine ⟨hG, fun t th h => ?_, fun t h => ?_, fun _ e he => ?_, fun t th h => ?_⟩
  · obtain ⟨sc, rfl⟩ := hth t th h
    exact ⟨by simp [inLocked, hl], trivial, nofun, nofun, nofun, trivial⟩
  · rw [hl] at h; cases h
  · rw [hs] at he; cases he
  · obtain ⟨sc, rfl⟩ := hth t th h
    exact nofun

theorem init_inv (cap : Nat) (scripts : List (List Op)) : Inv kd res (initState cap scripts) :=
  idle_inv scripts ⟨nofun, nofun, nofun, nofun, fun _ => Nat.zero_le _, nofun, nofun, nofun, nofun, nofun, nofun⟩
    rfl rfl

theorem initSingleton_inv (scripts : List (List Op)) : Inv kd res (initSingleton scripts) :=
  idle_inv scripts
    ⟨nofun, nofun, nofun, nofun, fun _ => Nat.zero_le _, nofun, nofun, nofun,
      fun i h => by cases h; exact Nat.zero_lt_one,
      fun i h => by cases List.mem_singleton.mp h; exact Nat.zero_lt_one, nofun⟩ rfl rfl

end Fact
