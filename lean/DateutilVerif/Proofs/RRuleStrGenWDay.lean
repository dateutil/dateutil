/-
  Proofs/RRuleStrGenWDay.lean — what the translated item splitter of `_rrulestr._handle_BYWEEKDAY` (`Gen.rrsWDay`) uses that the
  model's `parseWDay` does not: a split at a separator that occurs has two parts, the `for i in range(len(wday))` / `break`
  scan as a `takeWhile`, the digit-and-sign character list as `isSignDigit` (the equality itself: `gen_wday_eq`, RRuleStrGenRule).
-/
import DateutilVerif.Generated.RRuleStrKernels
import DateutilVerif.Proofs.RRuleStrText

namespace RRuleStr
open ICal (splitOnChar isDigit)

theorem splitOnChar_go_len (sep : Char) : ∀ (s cur : List Char) (acc : List (List Char)),
    acc.length + 1 ≤ (splitOnChar.go sep s cur acc).length ∧ (sep ∈ s → acc.length + 2 ≤ (splitOnChar.go sep s cur acc).length) := by
  intro s
  induction s with
  | nil => intro cur acc; simp [splitOnChar.go]
  | cons c cs ih =>
    intro cur acc
    unfold splitOnChar.go
    by_cases h : (c == sep) = true
    · simp only [h, if_true]
      have := ih [] (cur.reverse :: acc)
      simp only [List.length_cons] at this
      exact ⟨by omega, fun _ => by omega⟩
    · simp only [h, if_false, Bool.false_eq_true]
      have := ih (c :: cur) acc
      refine ⟨this.1, fun hm => this.2 ?_⟩
      rcases List.mem_cons.mp hm with rfl | hm
      · simp at h
      · exact hm

theorem splitOnChar_two_parts (sep : Char) (s : List Char) (h : sep ∈ s) :
    ∃ a b rest, splitOnChar sep s = a :: b :: rest := by
  have := (splitOnChar_go_len sep s [] []).2 h
  unfold splitOnChar
  generalize splitOnChar.go sep s [] [] = l at this
  match l, this with
  | a :: b :: rest, _ => exact ⟨a, b, rest, rfl⟩

/-- the scan `for i in range(len(s)): if s[i] not in chars: break` -/
theorem forBreakIdx_eq (p : Char → Bool) : ∀ (s : List Char) (k : Nat),
    StrPy.forBreakIdx p s k =
      if (s.takeWhile p).length == s.length then k + s.length - 1 else k + (s.takeWhile p).length := by
  intro s
  induction s with
  | nil => intro k; simp [StrPy.forBreakIdx]
  | cons c cs ih =>
    intro k
    unfold StrPy.forBreakIdx
    by_cases hc : p c = true
    · simp only [hc, if_true, List.takeWhile_cons, List.length_cons, ih]
      by_cases he : ((cs.takeWhile p).length == cs.length) = true
      · have he' : (cs.takeWhile p).length = cs.length := by simpa using he
        simp [he'] <;> omega
      · have he' : (cs.takeWhile p).length ≠ cs.length := by simpa using he
        simp [he'] <;> omega
    · have hc' : p c = false := by simpa using hc
      simp [hc']

theorem signDigit_chars (c : Char) : ['+', '-', '0', '1', '2', '3', '4', '5', '6', '7', '8', '9'].contains c = isSignDigit c := by
  rw [Bool.eq_iff_iff, contains_iff]
  simp only [isSignDigit, Bool.or_eq_true, beq_iff_eq, isDigit_iff, List.mem_cons, List.not_mem_nil, or_false, char_eq_iff,
    Char.reduceToNat]
  omega

end RRuleStr
