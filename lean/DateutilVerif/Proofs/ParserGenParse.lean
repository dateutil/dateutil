/-
  Proofs/ParserGenParse.lean — the whole of `parser._parse` re-translated from /repo's parser/_parser.py
  (Generated/ParserOps.lean: `Gen.P.parse`: flag defaults, lexing, the token loop, `resolve_ymd`, the result fields, the
  `except (IndexError, ValueError, InvalidOperation)` boundary, `validate`, the fuzzy token recombination) =
  `PM.parseTokens` on the lexed text.  Named primitive on both sides: the lexer `PM.lex` (`_timelex.split`), which is not translated yet.
-/
import DateutilVerif.Proofs.ParserGenLoop
import DateutilVerif.Proofs.ParserGenStrids
import DateutilVerif.Proofs.ParserGenRecombine

namespace PGen
open PM Py

theorem resolveYmd_eq (self : Ymd) (yf df : Bool) : Gen.P.ymd_resolveYmd self yf df = self.resolve yf df :=
  resolveYmd_eq_of self yf df (resolveFromStridxs_eq self)

/-- `flag = info.flag if flag is None else flag` -/
theorem optBool_getD (o : Option Bool) (d : Bool) :
    (if o = none then (.ok d : R Bool) else Except.bind (PPy.optBool o) (fun v => .ok v)) = .ok (o.getD d) := by
  cases o <;> rfl

/-- the `except (IndexError, ValueError, InvalidOperation)` of `_parse` -/
theorem caught_iff (e : PyErr) : (e = .IndexError ∨ e = .ValueError ∨ e = .InvalidOperation) ↔ caughtInParse e = true := by
  cases e <;> decide

/-- `parser._parse` = `PM.parseTokens` on the lexed text, given at least as much fuel as there are tokens;
    same `_century ≥ 100` hypothesis as `validate` and the loop body -/
theorem parse_eq (cls : Char → CClass) (info : Info) (fuel : Nat) (timestr : List Char) (df yf : Option Bool) (fz fwt : Bool)
    (hc : 100 ≤ info.century) (hf : (PM.lex cls timestr).length ≤ fuel) :
    Gen.P.parse fuel cls info timestr df yf fz fwt =
      PM.parseTokens cls info { dayfirst := df, yearfirst := yf, fuzzy := fz, fuzzyWithTokens := fwt } (PM.lex cls timestr) := by
  unfold Gen.P.parse PM.parseTokens PM.parseTry
  generalize PM.lex cls timestr = l at hf ⊢
  have hfz : (if fwt = true then (.ok true : R Bool) else .ok fz) = .ok (fz || fwt) := by cases fwt <;> cases fz <;> rfl
  have hL := parseLoop_eq cls info (fz || fwt) hc fuel { l := l } 0 (by simpa using hf)
  simp only [Nat.sub_zero] at hL
  simp only [hfz, optBool_getD, bind_ok, resolveYmd_eq, caught_iff, ← hL]
  cases hG : Gen.P.parseLoop fuel cls info l 0 l.length {} {} [] (fz || fwt) with
  | error e => rfl
  | ok w =>
    simp only [bind_ok, Except.map, bind_eq, loopOut]
    cases hR : w.2.2.2.1.resolve (yf.getD info.yearfirst) (df.getD info.dayfirst) with
    | error e => rfl
    | ok r =>
      simp only [bind_ok, pure_eq, validate_eq info _ hc, recombineSkipped_eq]
end PGen
