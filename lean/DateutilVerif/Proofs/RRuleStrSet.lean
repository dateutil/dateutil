/-
  Proofs/RRuleStrSet.lean — multi-line inputs: which lines are collected, when a set is built and with
  which members, `forceset`, `compatible` (C13).
-/
import DateutilVerif.Proofs.PySat
import DateutilVerif.Proofs.RRuleStrDispatch

namespace RRuleStr
open ICal (isSpace upper splitOnChar pyInt rstrip strip isDigit splitLines)

variable {po : ParseOpts}

/-- a content line without parameters -/
inductive Line where
  | rrule (v : List Char) | exrule (v : List Char) | rdate (v : List Char) | exdate (v : List Char) | dtstart (v : List Char)
  deriving Repr, DecidableEq

def Line.render : Line → List Char
  | .rrule v => lit "RRULE" ++ ':' :: v
  | .exrule v => lit "EXRULE" ++ ':' :: v
  | .rdate v => lit "RDATE" ++ ':' :: v
  | .exdate v => lit "EXDATE" ++ ':' :: v
  | .dtstart v => lit "DTSTART" ++ ':' :: v

/-- a DTSTART line carries one value -/
def Line.ok : Line → Prop
  | .dtstart v => ',' ∉ v
  | _ => True

instance : DecidablePred Line.ok := fun l => by cases l <;> unfold Line.ok <;> infer_instance

/-- what the dispatch loop of `_parse_rfc` does with the line -/
def Line.collect (po : ParseOpts) (acc : Acc) : Line → Acc
  | .rrule v => { acc with rrulevals := acc.rrulevals ++ [v] }
  | .exrule v => { acc with exrulevals := acc.exrulevals ++ [v] }
  | .rdate v => { acc with rdatevals := acc.rdatevals ++ [v] }
  | .exdate v => { acc with exdatevals := acc.exdatevals ++ (splitOnChar ',' v).map (fun d => (d, [], po)) }
  | .dtstart v => { acc with dtstart := some (v, [], po) }

theorem splitColon1_go_free : ∀ (p b cur : List Char), ':' ∉ p →
    ICal.splitColon1.go (p ++ ':' :: b) cur = some ((p.reverse ++ cur).reverse, b)
  | [], b, cur, _ => by simp [ICal.splitColon1.go]
  | c :: p, b, cur, h => by
    have hc : (c == ':') = false := by
      rw [beq_eq_false_iff_ne]; intro e; exact h (by simp [e])
    rw [List.cons_append, ICal.splitColon1.go]
    simp only [hc, Bool.false_eq_true, if_false]
    rw [splitColon1_go_free p b (c :: cur) (fun hm => h (by simp [hm]))]
    simp

theorem splitColon1_two (a b : List Char) (h : ':' ∉ a) : ICal.splitColon1 (a ++ ':' :: b) = some (a, b) := by
  unfold ICal.splitColon1
  rw [splitColon1_go_free a b [] h]; simp

/-- a line `NAME:value` without parameters reaches the property dispatch as `(NAME, [], value)` -/
theorem stepLine_prop (acc : Acc) {name : List Char} (v : List Char) (hne : name ≠ []) (hc : ':' ∉ name) (hs : ';' ∉ name) :
    stepLine po acc (name ++ ':' :: v) = stepProp po acc name [] v := by
  have h1 : (name ++ ':' :: v).isEmpty = false := by cases name with | nil => exact absurd rfl hne | cons => rfl
  have h2 : (name ++ ':' :: v).contains ':' = true := by rw [contains_iff]; simp
  have h3 : lineParts (name ++ ':' :: v) = (name, v) := by
    unfold lineParts; rw [h2, splitColon1_two name v hc]; rfl
  -- the `if` is discharged by name: left to `rfl`, the kernel unfolds `stepProp` before it evaluates the condition
  rw [stepLine_eq, h1, if_neg Bool.false_ne_true, h3, splitOnChar_free ';' name hs]; rfl

theorem stepLine_render (acc : Acc) (l : Line) (h : l.ok) : stepLine po acc l.render = .ok (l.collect po acc) := by
  cases l
  case dtstart v =>
    refine (stepLine_prop acc v (by decide) (by decide) (by decide)).trans ?_
    show (if (splitOnChar ',' v).length != 1 then _ else _) = _
    rw [splitOnChar_free ',' v h]; rfl
  all_goals exact (stepLine_prop acc _ (by decide) (by decide) (by decide)).trans rfl

theorem foldlM_stepLine_render : ∀ (ls : List Line) (acc : Acc), (∀ l ∈ ls, l.ok) →
    (ls.map Line.render).foldlM (stepLine po) acc = .ok (ls.foldl (Line.collect po) acc)
  | [], _, _ => rfl
  | l :: ls, acc, h => by
    rw [List.map_cons, List.foldlM_cons, stepLine_render acc l (h l (by simp))]
    exact foldlM_stepLine_render ls _ (fun m hm => h m (by simp [hm]))

def rruleVals (ls : List Line) : List (List Char) := ls.filterMap (fun l => match l with | .rrule v => some v | _ => none)
def exruleVals (ls : List Line) : List (List Char) := ls.filterMap (fun l => match l with | .exrule v => some v | _ => none)
def rdateVals (ls : List Line) : List (List Char) := ls.filterMap (fun l => match l with | .rdate v => some v | _ => none)
def exdateVals (po : ParseOpts) (ls : List Line) : List DateV :=
  (ls.map (fun l => match l with | .exdate v => (splitOnChar ',' v).map (fun d => (d, ([] : List (List Char)), po)) | _ => [])).flatten
/-- the last DTSTART wins -/
def dtstartOf (po : ParseOpts) (ls : List Line) : Option DateV :=
  ls.foldl (fun cur l => match l with | .dtstart v => some (v, [], po) | _ => cur) none

theorem collect_all : ∀ (ls : List Line) (acc : Acc),
    ls.foldl (Line.collect po) acc =
      { rrulevals := acc.rrulevals ++ rruleVals ls, exrulevals := acc.exrulevals ++ exruleVals ls,
        rdatevals := acc.rdatevals ++ rdateVals ls, exdatevals := acc.exdatevals ++ exdateVals po ls,
        dtstart := ls.foldl (fun cur l => match l with | .dtstart v => some (v, [], po) | _ => cur) acc.dtstart }
  | [], acc => by simp [rruleVals, exruleVals, rdateVals, exdateVals]
  | l :: ls, acc => by
    rw [List.foldl_cons, collect_all ls]
    cases l <;> simp [Line.collect, rruleVals, exruleVals, rdateVals, exdateVals]

def accOf (po : ParseOpts) (ls : List Line) : Acc :=
  { rrulevals := rruleVals ls, exrulevals := exruleVals ls, rdatevals := rdateVals ls, exdatevals := exdateVals po ls,
    dtstart := dtstartOf po ls }

theorem collect_all_empty (ls : List Line) : ls.foldl (Line.collect po) {} = accOf po ls := by
  rw [collect_all]; simp [dtstartOf, accOf]

/-- the single-rule shortcut at the head of `_parse_rfc` -/
def shortcut (s : List Char) (lines : List (List Char)) (forceset : Bool) : Bool :=
  !forceset && lines.length == 1 && (!s.contains ':' || startsWith s (lit "RRULE:"))

theorem shortcut_forceset (s : List Char) (lines : List (List Char)) : shortcut s lines true = false := rfl

theorem shortcut_two (s : List Char) (lines : List (List Char)) (f : Bool) (h : lines.length ≠ 1) : shortcut s lines f = false := by
  simp [shortcut, h]

/-- the single-line fast path -/
theorem parseLines_single (s l : List Char) {c kw cache : Bool} (hs : startsWith s (lit "RRULE:") = true) :
    parseLines po cache s [l] false c kw = buildRule po l none cache := by
  unfold parseLines
  rw [if_pos (by simp [hs])]; rfl

/-- past the shortcut, with the lines collected: a set exactly when `wantsSet` -/
theorem parseLines_collected {s : List Char} {lines : List (List Char)} {f : Bool} {acc : Acc} (c kw cache : Bool)
    (hs : shortcut s lines f = false) (hfold : lines.foldlM (stepLine po) {} = .ok acc) :
    parseLines po cache s lines f c kw =
      if wantsSet f acc then buildSet po acc c kw cache
      else match acc.rrulevals with
        | v :: _ => buildRule po v acc.dtstart cache
        | [] => .error .ValueError := by
  unfold parseLines
  rw [if_neg (by unfold shortcut at hs; rw [hs]; simp), hfold]
  rfl

/-- the set the model builds from structured lines: every RRULE and EXRULE value parsed in order (with the options), the
    RDATE values split at `,` (each with the options), the EXDATE values, the last DTSTART, the `compatible` flag (DTSTART
    is added as an RDATE), and `cache` on the set -/
def setOf (po : ParseOpts) (ls : List Line) (compatible kw cache : Bool) : Py.R Parsed := do
  let rr ← (rruleVals ls).mapM (ruleOf po)
  let ex ← (exruleVals ls).mapM (ruleOf po)
  .ok (.set rr ex (((rdateVals ls).map (splitOnChar ',')).flatten.map (fun d => (d, po))) (exdateVals po ls) (dtstartOf po ls)
        (compatible && ((dtstartOf po ls).isSome || kw)) cache)

/-- `multi_line_builds_set`: two or more RRULE lines, or any RDATE / EXRULE / EXDATE line, or `forceset`, give the set with
    exactly those members in order -/
theorem parseLines_builds_set (s : List Char) (ls : List Line) (hok : ∀ l ∈ ls, l.ok) (f c kw cache : Bool)
    (hs : shortcut s (ls.map Line.render) f = false)
    (hset : f = true ∨ 2 ≤ (rruleVals ls).length ∨ rdateVals ls ≠ [] ∨ exruleVals ls ≠ [] ∨ exdateVals po ls ≠ []) :
    parseLines po cache s (ls.map Line.render) f c kw = setOf po ls c kw cache := by
  have hfold := foldlM_stepLine_render (po := po) ls {} hok
  rw [collect_all_empty] at hfold
  rw [parseLines_collected c kw cache hs hfold]
  have hw : wantsSet f (accOf po ls) = true := by
    simp only [wantsSet, accOf, Bool.or_eq_true, Bool.not_eq_true', List.isEmpty_eq_false_iff]
    rcases hset with h | h | h | h | h
    · exact Or.inl (Or.inl (Or.inl (Or.inl h)))
    · exact Or.inl (Or.inl (Or.inl (Or.inr (by simp; omega))))
    · exact Or.inl (Or.inl (Or.inr h))
    · exact Or.inl (Or.inr h)
    · exact Or.inr h
  rw [if_pos hw]
  rfl

/-- one RRULE line and only DTSTART lines besides it, no `forceset`: a single rule with the last DTSTART -/
theorem parseLines_builds_rule (s : List Char) (ls : List Line) (hok : ∀ l ∈ ls, l.ok) (c kw cache : Bool) (v : List Char)
    (hs : shortcut s (ls.map Line.render) false = false)
    (hr : rruleVals ls = [v]) (h1 : rdateVals ls = []) (h2 : exruleVals ls = []) (h3 : exdateVals po ls = []) :
    parseLines po cache s (ls.map Line.render) false c kw = buildRule po v (dtstartOf po ls) cache := by
  have hfold := foldlM_stepLine_render (po := po) ls {} hok
  rw [collect_all_empty] at hfold
  rw [parseLines_collected c kw cache hs hfold]
  have hw : wantsSet false (accOf po ls) = false := by
    simp [wantsSet, accOf, hr, h1, h2, h3]
  rw [if_neg (by rw [hw]; simp)]
  simp only [accOf, hr]

/-- with `forceset` the result, when there is one, is always a set -/
theorem parseLines_forceset (s : List Char) (lines : List (List Char)) (c kw cache : Bool) :
    Py.Sat (parseLines po cache s lines true c kw)
      (fun r => ∃ rr ex rd exd dt, r = .set rr ex rd exd dt (c && (dt.isSome || kw)) cache) (fun _ => True) := by
  unfold parseLines
  rw [if_neg (by simp)]
  refine .bind .triv fun acc _ => ?_
  rw [if_pos (by simp [wantsSet])]
  exact .bind .triv fun rr _ => .bind .triv fun ex _ => .ok ⟨rr, ex, _, _, _, rfl⟩

/-- `forceset=True` never yields a bare rule -/
theorem parseRfc_forceset {s : List Char} {o : Opts} {kw : Bool} {r : Parsed} (ho : o.forceset = true ∨ o.compatible = true)
    (h : parseRfc s o kw = .ok r) :
    ∃ rr ex rd exd dt, r = .set rr ex rd exd dt (o.compatible && (dt.isSome || kw)) o.cache := by
  have hf : (o.forceset || o.compatible) = true := by rcases ho with h | h <;> simp [h]
  have hs : Py.Sat (parseRfc s o kw)
      (fun r => ∃ rr ex rd exd dt, r = .set rr ex rd exd dt (o.compatible && (dt.isSome || kw)) o.cache) (fun _ => True) := by
    unfold parseRfc; rw [hf]; exact .ite (.err trivial) (parseLines_forceset _ _ _ _ _)
  exact hs.of_ok h

/-- `compatible=True` is `forceset=True, unfold=True` plus the DTSTART-as-RDATE flag -/
theorem parseRfc_compatible (s : List Char) (o : Opts) (kw : Bool) (hc : o.compatible = true) :
    parseRfc s o kw = parseRfc s { o with unfold := true, forceset := true } kw := by
  unfold parseRfc
  simp [hc, Opts.po]

theorem splitWs_go_free : ∀ (p rest cur : List Char) (acc : List (List Char)), (∀ c ∈ p, isSpace c = false) →
    splitWs.go (p ++ rest) cur acc = splitWs.go rest (p.reverse ++ cur) acc
  | [], _, _, _, _ => rfl
  | c :: p, rest, cur, acc, h => by
    have hc : isSpace c = false := h c (by simp)
    rw [List.cons_append, splitWs.go]
    simp only [hc, Bool.false_eq_true, if_false]
    rw [splitWs_go_free p rest (c :: cur) acc (fun d hd => h d (by simp [hd]))]
    simp

theorem splitWs_go_nl (rest cur : List Char) (acc : List (List Char)) :
    splitWs.go ('\n' :: rest) cur acc = splitWs.go rest [] (if cur.isEmpty then acc else cur.reverse :: acc) := by
  rw [splitWs.go]; simp [show isSpace '\n' = true from by decide]

theorem splitWs_go_intercalate : ∀ (p : List Char) (ps : List (List Char)) (acc : List (List Char)),
    (∀ q ∈ p :: ps, q ≠ [] ∧ ∀ c ∈ q, isSpace c = false) →
    splitWs.go (intercalate ['\n'] (p :: ps)) [] acc = acc.reverse ++ (p :: ps)
  | p, [], acc, h => by
    have hp := h p (by simp)
    have := splitWs_go_free p [] [] acc hp.2
    rw [List.append_nil] at this
    rw [intercalate, this, splitWs.go]
    have : (p.reverse ++ []).isEmpty = false := by
      cases p with | nil => exact absurd rfl hp.1 | cons x xs => simp
    simp [hp.1]
  | p, q :: qs, acc, h => by
    have hp := h p (by simp)
    rw [intercalate_cons_cons, List.append_assoc, splitWs_go_free p _ [] acc hp.2]
    simp only [List.singleton_append, List.append_nil]
    rw [splitWs_go_nl]
    have : p.reverse.isEmpty = false := by
      cases p with | nil => exact absurd rfl hp.1 | cons x xs => simp
    rw [this]
    simp only [Bool.false_eq_true, if_false, List.reverse_reverse]
    rw [splitWs_go_intercalate q qs _ (fun r hr => h r (by simp at hr ⊢; right; exact hr))]
    simp

/-- `'\n'.join(lines).split() == lines` for non-empty lines without whitespace -/
theorem splitWs_intercalate (lines : List (List Char)) (hne : lines ≠ [])
    (h : ∀ q ∈ lines, q ≠ [] ∧ ∀ c ∈ q, isSpace c = false) : splitWs (intercalate ['\n'] lines) = lines := by
  cases lines with
  | nil => exact absurd rfl hne
  | cons p ps => unfold splitWs; rw [splitWs_go_intercalate p ps [] h]; rfl

theorem mem_dropWhile {p : Char → Bool} {c : Char} : ∀ (s : List Char), c ∈ s → p c = false → c ∈ s.dropWhile p
  | [], h, _ => by simp at h
  | d :: s, h, hc => by
    rw [List.dropWhile_cons]
    split
    · next hd =>
      rcases List.mem_cons.mp h with rfl | h
      · rw [hc] at hd; cases hd
      · exact mem_dropWhile s h hc
    · exact h

theorem strip_nonempty {s : List Char} {c : Char} (hc : c ∈ s) (hs : isSpace c = false) : (strip s).isEmpty = false := by
  have h1 : c ∈ s.dropWhile isSpace := mem_dropWhile s hc hs
  have h2 : c ∈ ((s.dropWhile isSpace).reverse.dropWhile isSpace).reverse := by
    rw [List.mem_reverse]; exact mem_dropWhile _ (List.mem_reverse.mpr h1) hs
  unfold strip rstrip
  cases h : ((s.dropWhile isSpace).reverse.dropWhile isSpace).reverse with
  | nil => rw [h] at h2; simp at h2
  | cons => rfl

theorem Line.render_ne_nil (l : Line) : l.render ≠ [] := by cases l <;> simp [Line.render, lit]

/-- the text made of structured upper-case lines joined by newlines reaches `parseLines` with exactly those lines
    (options without `unfold` / `compatible`) -/
theorem parseRfc_lines (ls : List Line) (hne : ls ≠ [])
    (htext : ∀ l ∈ ls, ∀ c ∈ l.render, isLower c = false ∧ isSpace c = false)
    (o : Opts) (hu : o.unfold = false) (hc : o.compatible = false) (kw : Bool) :
    parseRfc (intercalate ['\n'] (ls.map Line.render)) o kw =
      parseLines o.po o.cache (intercalate ['\n'] (ls.map Line.render)) (ls.map Line.render) o.forceset false kw := by
  have hup : upper (intercalate ['\n'] (ls.map Line.render)) = intercalate ['\n'] (ls.map Line.render) := by
    apply upper_of_noLower
    intro c hc'
    rcases mem_intercalate _ _ c hc' with h | ⟨q, hq, hcq⟩
    · simp at h; subst h; decide
    · rcases List.mem_map.mp hq with ⟨l, hl, rfl⟩
      exact (htext l hl c hcq).1
  have hstrip : (strip (intercalate ['\n'] (ls.map Line.render))).isEmpty = false := by
    cases ls with
    | nil => exact absurd rfl hne
    | cons l ls' =>
      cases hr : l.render with
      | nil => exact absurd hr l.render_ne_nil
      | cons c r =>
        have hcl : c ∈ l.render := by rw [hr]; simp
        refine strip_nonempty (c := c) ?_ (htext l (by simp) c hcl).2
        rw [List.map_cons, hr]
        cases ls' with
        | nil => simp [intercalate]
        | cons m ms => rw [List.map_cons, intercalate_cons_cons]; simp
  have hlines : splitWs (intercalate ['\n'] (ls.map Line.render)) = ls.map Line.render :=
    splitWs_intercalate _ (by simpa using hne) (by
      intro q hq
      rcases List.mem_map.mp hq with ⟨l, hl, rfl⟩
      exact ⟨l.render_ne_nil, fun c hc' => (htext l hl c hc').2⟩)
  unfold parseRfc
  simp only [hup, hstrip, Bool.false_eq_true, if_false, hu, hc, Bool.or_false, linesOf, hlines]

end RRuleStr
