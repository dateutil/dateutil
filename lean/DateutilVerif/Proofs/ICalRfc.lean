/-
  Proofs/ICalRfc.lean — the source translation of `tzical._parse_rfc` (Generated/TzRfcKernels.lean) against the
  hand model `ICal.stepLineW` / `ICal.unfold` / `ICal.parseRfcW`.
-/
import DateutilVerif.Generated.TzRfcKernels
import DateutilVerif.Properties.TzObjGen

namespace ICalRfc
open ICal Py

theorem splitOnChar_go_ne_nil (sep : Char) (s cur : List Char) (acc : List (List Char)) :
    splitOnChar.go sep s cur acc ≠ [] := by
  induction s generalizing cur acc with
  | nil => simp [splitOnChar.go]
  | cons c cs ih => simp only [splitOnChar.go]; split <;> exact ih _ _

theorem splitOnChar_ne_nil (sep : Char) (s : List Char) : splitOnChar sep s ≠ [] :=
  splitOnChar_go_ne_nil sep s [] []

theorem lgetR_zero {α} [Inhabited α] (l : List α) (h : l ≠ []) : DtPy.lgetR l 0 = .ok (l.headD default) := by
  cases l with
  | nil => exact absurd rfl h
  | cons a t => simp [DtPy.lgetR]

theorem lgetR_zero' (l : List (List Char)) (h : l ≠ []) : DtPy.lgetR l 0 = .ok (l.headD []) := by
  cases l with
  | nil => exact absurd rfl h
  | cons a t => simp [DtPy.lgetR]

theorem forM_all {α} (l : List α) (p : α → Bool) :
    RfcPy.forM_ l (fun x => if p x = true then .error .ValueError else .ok ()) =
      if l.all (fun x => !p x) then .ok () else .error .ValueError := by
  induction l with
  | nil => simp [RfcPy.forM_]
  | cons a t ih =>
    simp only [RfcPy.forM_]
    cases h : p a <;> simp [h, ih]

theorem lit_BEGIN : lit "BEGIN" = ['B', 'E', 'G', 'I', 'N'] := String.toList_ofList
theorem lit_END : lit "END" = ['E', 'N', 'D'] := String.toList_ofList
theorem lit_STANDARD : lit "STANDARD" = ['S', 'T', 'A', 'N', 'D', 'A', 'R', 'D'] := String.toList_ofList
theorem lit_DAYLIGHT : lit "DAYLIGHT" = ['D', 'A', 'Y', 'L', 'I', 'G', 'H', 'T'] := String.toList_ofList
theorem lit_VTIMEZONE : lit "VTIMEZONE" = ['V', 'T', 'I', 'M', 'E', 'Z', 'O', 'N', 'E'] := String.toList_ofList
theorem lit_DTSTART : lit "DTSTART" = ['D', 'T', 'S', 'T', 'A', 'R', 'T'] := String.toList_ofList
theorem lit_VALUE_DATE_TIME : lit "VALUE=DATE-TIME" = ['V', 'A', 'L', 'U', 'E', '=', 'D', 'A', 'T', 'E', '-', 'T', 'I', 'M', 'E'] := String.toList_ofList
theorem lit_RRULE : lit "RRULE" = ['R', 'R', 'U', 'L', 'E'] := String.toList_ofList
theorem lit_RDATE : lit "RDATE" = ['R', 'D', 'A', 'T', 'E'] := String.toList_ofList
theorem lit_EXRULE : lit "EXRULE" = ['E', 'X', 'R', 'U', 'L', 'E'] := String.toList_ofList
theorem lit_EXDATE : lit "EXDATE" = ['E', 'X', 'D', 'A', 'T', 'E'] := String.toList_ofList
theorem lit_TZOFFSETFROM : lit "TZOFFSETFROM" = ['T', 'Z', 'O', 'F', 'F', 'S', 'E', 'T', 'F', 'R', 'O', 'M'] := String.toList_ofList
theorem lit_TZOFFSETTO : lit "TZOFFSETTO" = ['T', 'Z', 'O', 'F', 'F', 'S', 'E', 'T', 'T', 'O'] := String.toList_ofList
theorem lit_TZNAME : lit "TZNAME" = ['T', 'Z', 'N', 'A', 'M', 'E'] := String.toList_ofList
theorem lit_COMMENT : lit "COMMENT" = ['C', 'O', 'M', 'M', 'E', 'N', 'T'] := String.toList_ofList
theorem lit_TZID : lit "TZID" = ['T', 'Z', 'I', 'D'] := String.toList_ofList
theorem lit_TZURL : lit "TZURL" = ['T', 'Z', 'U', 'R', 'L'] := String.toList_ofList
theorem lit_LAST_MODIFIED : lit "LAST-MODIFIED" = ['L', 'A', 'S', 'T', '-', 'M', 'O', 'D', 'I', 'F', 'I', 'E', 'D'] := String.toList_ofList


theorem bind_ok {α β} (a : α) (f : α → R β) : Except.bind (Except.ok a) f = f a := rfl
theorem bind_err {α β} (e : PyErr) (f : α → R β) : Except.bind (Except.error e : R α) f = Except.error e := rfl

theorem guard_parms {α} (parms : List (List Char)) (X : R α) :
    (if ¬parms = [] then Except.bind (DtPy.lgetR parms 0) (fun _ => (Except.error PyErr.ValueError : R α)) else X) =
      (if parms.isEmpty = false then Except.error PyErr.ValueError else X) := by
  cases parms <;> simp [DtPy.lgetR, Except.bind]

theorem forM_dtstart {α} (parms : List (List Char)) (L : List Char) (X : R α) :
    Except.bind (RfcPy.forM_ parms fun parm => if ¬parm = L then Except.error PyErr.ValueError else Except.ok ()) (fun _ => X) =
      if (parms.all fun x => x == L) = true then X else Except.error PyErr.ValueError := by
  have := forM_all parms (fun x => decide (¬ x = L))
  simp only [decide_eq_true_eq] at this
  rw [this]
  have e : (parms.all fun x => !decide (¬x = L)) = (parms.all fun x => x == L) := by
    congr 1; funext x; by_cases h : x = L <;> simp [h]
  rw [e]
  split <;> rfl

theorem forM_intervals (ivs : List Int) (ct : Option (List Char)) (v : List Char) (h : ct = some v) :
    (RfcPy.forM_ ivs fun r => if r < 1 then Except.bind (RfcPy.needStr ct) (fun _ => (Except.error PyErr.ValueError : R Unit)) else Except.ok ()) =
      if ivs.all (fun i => decide (1 ≤ i)) = true then Except.ok () else Except.error PyErr.ValueError := by
  subst h
  have := forM_all ivs (fun r => decide (r < 1))
  simp only [decide_eq_true_eq] at this
  simp only [RfcPy.needStr, bind_ok]
  rw [this]
  have e : (ivs.all fun x => !decide (x < 1)) = (ivs.all fun i => decide (1 ≤ i)) := by
    congr 1; funext x; by_cases h : x < 1 <;> simp [h] <;> omega
  rw [e]

theorem gen_line_eq_model (lib : RRuleLib) (st : PState) (line : List Char) :
    Gen.tzical_parseRfc_line lib st line = stepLineW lib st line := by
  unfold Gen.tzical_parseRfc_line stepLineW stepCore beginComp closeZone closeComp compProp zoneProp
  by_cases hl : line = []
  · simp [hl]
  · simp only [hl, ne_eq, not_false_eq_true, if_false, List.isEmpty_iff]
    simp only [RfcPy.split1, if_true]
    cases hs : splitColon1 line with
    | none => simp [Except.bind]
    | some p =>
      obtain ⟨name0, value⟩ := p
      simp only [bind_ok]
      have hne := splitOnChar_ne_nil ';' name0
      simp only [hne, not_true_eq_false, if_false, lgetR_zero' _ hne, not_false_eq_true, bind_ok]
      generalize upper ((splitOnChar ';' name0).headD []) = name
      generalize List.drop 1 (splitOnChar ';' name0) = parms
      simp only [lit_BEGIN, lit_END, lit_STANDARD, lit_DAYLIGHT, lit_VTIMEZONE, lit_DTSTART, lit_VALUE_DATE_TIME, lit_RRULE, lit_RDATE, lit_EXRULE, lit_EXDATE, lit_TZOFFSETFROM, lit_TZOFFSETTO, lit_TZNAME, lit_COMMENT, lit_TZID, lit_TZURL, lit_LAST_MODIFIED, C17.gen_eq_model_parse_offset, beq_iff_eq, Bool.or_eq_true, Bool.and_eq_true, Bool.not_eq_true', Bool.not_eq_eq_eq_not, Bool.not_true, guard_parms, forM_dtstart, or_assoc]
      by_cases hinv : st.invtz = true
      · rw [if_pos hinv, if_pos hinv]
        by_cases hb : name = ['B', 'E', 'G', 'I', 'N']
        · simp [hb]
        · rw [if_neg hb, if_neg hb]
          by_cases he : name = ['E', 'N', 'D']
          · rw [if_pos he, if_pos he]
            by_cases hv : value = ['V', 'T', 'I', 'M', 'E', 'Z', 'O', 'N', 'E']
            · simp only [hv, if_true]
              by_cases htc : ICal.truthy st.comptype = true
              · obtain ⟨c, hc⟩ : ∃ c, st.comptype = some c := by
                  cases h : st.comptype with
                  | none => simp [h, ICal.truthy] at htc
                  | some c => exact ⟨c, rfl⟩
                rw [hc] at htc ⊢
                simp only [htc, if_true, RfcPy.needStr, bind_ok]
              · simp [htc, RfcPy.mkVtz]
            · simp only [hv, if_false]
              by_cases hvc : some value = st.comptype
              · simp only [hvc, if_true]
                cases hfd : st.founddtstart
                · simp
                · cases hf : st.tzoffsetfrom with
                  | none => simp
                  | some f =>
                    cases ht : st.tzoffsetto with
                    | none => simp
                    | some t =>
                      simp only [Bool.true_eq_false, not_false_eq_true, if_false, reduceCtorEq, not_true_eq_false]
                      unfold compRules
                      by_cases hr : st.rrulelines = []
                      · simp [hr, RfcPy.mkComp, bind_ok, ← hvc]
                        by_cases hd : value = ['D', 'A', 'Y', 'L', 'I', 'G', 'H', 'T'] <;> simp [hd]
                      · simp only [hr, not_false_eq_true, if_true, List.isEmpty_iff, if_false, RfcPy.rrulestr]
                        cases hlib : lib st.rrulelines with
                        | error e => simp [bind_err]
                        | ok ivs =>
                          simp [bind_ok, RfcPy.mkComp, ← hvc]
                          by_cases hd : value = ['D', 'A', 'Y', 'L', 'I', 'G', 'H', 'T'] <;> simp [hd]
              · simp [hvc]
          · rw [if_neg he, if_neg he]
            by_cases hc : ICal.truthy st.comptype = true
            · rw [if_pos hc, if_pos hc]
              by_cases h1 : name = ['D', 'T', 'S', 'T', 'A', 'R', 'T']
              · simp [h1]
              · simp only [h1, if_false]
                by_cases h2 : (name = ['R', 'R', 'U', 'L', 'E'] ∨ name = ['R', 'D', 'A', 'T', 'E'] ∨ name = ['E', 'X', 'R', 'U', 'L', 'E'] ∨ name = ['E', 'X', 'D', 'A', 'T', 'E'])
                · simp only [h2, if_true]
                · simp only [h2, if_false]
                  by_cases h3 : name = ['T', 'Z', 'O', 'F', 'F', 'S', 'E', 'T', 'F', 'R', 'O', 'M']
                  · simp only [h3, if_true]
                    by_cases hp : parms.isEmpty = false
                    · simp [hp]
                    · simp only [hp, if_false]; cases parseOffset value <;> rfl
                  · simp only [h3, if_false]
                    by_cases h4 : name = ['T', 'Z', 'O', 'F', 'F', 'S', 'E', 'T', 'T', 'O']
                    · simp only [h4, if_true]
                      by_cases hp : parms.isEmpty = false
                      · simp [hp]
                      · simp only [hp, if_false]; cases parseOffset value <;> rfl
                    · simp only [h4, if_false]
            · simp only [hc]
              simp
      · simp only [hinv]
        simp


/-- one step of the model's unfolding fold (the function folded by `ICal.unfold`) -/
def ustep (acc : List (List Char)) (raw : List Char) : List (List Char) :=
  match rstrip raw, acc with
  | [], _ => acc
  | ' ' :: rest, prev :: acc' => (prev ++ rest) :: acc'
  | _, _ => raw :: acc

theorem unfold_eq (lines : List (List Char)) : unfold lines = (lines.foldl ustep []).reverse := rfl

theorem idx_mid {α} (done : List α) (r : α) (rest : List α) :
    RfcPy.idx? (done ++ r :: rest) (done.length : Int) = some done.length := by
  unfold RfcPy.idx?
  have h1 : ¬ ((done.length : Int) < 0) := by omega
  simp only [h1, if_false, List.length_append, List.length_cons]
  simp; omega

theorem lgetR_mid {α} (done : List α) (r : α) (rest : List α) :
    DtPy.lgetR (done ++ r :: rest) (done.length : Int) = .ok r := by
  unfold DtPy.lgetR
  have h1 : ¬ ((done.length : Int) < 0) := by omega
  simp [h1]

theorem ldel_mid {α} (done : List α) (r : α) (rest : List α) :
    RfcPy.ldel (done ++ r :: rest) (done.length : Int) = .ok (done ++ rest) := by
  unfold RfcPy.ldel
  rw [idx_mid]
  simp

theorem laddAt_mid (d : List (List Char)) (prev : List Char) (tail : List (List Char)) (x : List Char) :
    RfcPy.laddAt (d ++ prev :: tail) (d.length : Int) x = .ok (d ++ (prev ++ x) :: tail) := by
  unfold RfcPy.laddAt
  rw [idx_mid]
  simp


theorem sget_zero (c : Char) (tl : List Char) : ObjPy.sget (c :: tl) 0 = .ok [c] := by
  simp [ObjPy.sget, DtPy.lgetR]

theorem body_step (done : List (List Char)) (r : List Char) (rest : List (List Char)) :
    Gen.tzical_parseRfc_unfold (done ++ r :: rest, (done.length : Int)) =
      .ok ((ustep done.reverse r).reverse ++ rest, (((ustep done.reverse r).reverse.length : Nat) : Int)) := by
  unfold Gen.tzical_parseRfc_unfold
  simp only [lgetR_mid, bind_ok]
  cases hline : rstrip r with
  | nil =>
    simp only [ne_eq, not_true_eq_false, not_false_eq_true, if_true, ldel_mid, bind_ok]
    simp [ustep, hline]
  | cons c tl =>
    simp only [ne_eq, reduceCtorEq, not_false_eq_true, not_true_eq_false, if_false, sget_zero, bind_ok]
    rcases List.eq_nil_or_concat done with rfl | ⟨d, prev, rfl⟩
    · simp [ustep, hline, bind_ok]
    · have hpos : (((d ++ [prev]).length : Nat) : Int) > 0 := by simp
      simp only [List.concat_eq_append]
      simp only [hpos, if_true]
      by_cases hsp : c = ' '
      · subst hsp
        have e1 : (((d ++ [prev]).length : Nat) : Int) - 1 = (d.length : Int) := by simp
        have e2 : d ++ [prev] ++ r :: rest = d ++ prev :: r :: rest := by simp
        simp only [decide_true, bind_ok, if_true, e1, e2, laddAt_mid, List.drop_one, List.tail_cons]
        have e3 : (((d ++ [prev]).length : Nat) : Int) = (((d ++ [prev ++ tl]).length : Nat) : Int) := by simp
        have e4 : d ++ (prev ++ tl) :: r :: rest = (d ++ [prev ++ tl]) ++ r :: rest := by simp
        rw [e3, e4, ldel_mid]
        simp [ustep, hline, bind_ok]
        done
      · have : decide ([c] = [' ']) = false := by simp [hsp]
        simp only [this, bind_ok, Bool.false_eq_true, if_false]
        simp [ustep, hline]
        split
        · simp_all
        · simp_all
        · simp

theorem unfold_loop (rest : List (List Char)) : ∀ done : List (List Char),
    RfcPy.whileFuel rest.length Gen.tzical_parseRfc_unfoldCond Gen.tzical_parseRfc_unfold (done ++ rest, (done.length : Int)) =
      .ok ((rest.foldl ustep done.reverse).reverse, (((rest.foldl ustep done.reverse).reverse.length : Nat) : Int)) := by
  induction rest with
  | nil =>
    intro done
    unfold RfcPy.whileFuel
    simp [Gen.tzical_parseRfc_unfoldCond]
  | cons r rest ih =>
    intro done
    unfold RfcPy.whileFuel
    have hc : Gen.tzical_parseRfc_unfoldCond (done ++ r :: rest, (done.length : Int)) = true := by
      simp [Gen.tzical_parseRfc_unfoldCond]; omega
    simp only [hc, if_true, List.length_cons, body_step]
    have := ih (ustep done.reverse r).reverse
    simp only [List.reverse_reverse] at this
    simpa [List.foldl] using this

/-- the unfolding loop of the translated `_parse_rfc` never runs out of its fuel (`len(lines)` iterations) and computes the
    model's `unfold` -/
theorem unfold_loop_eq (lines : List (List Char)) :
    ∃ k, RfcPy.whileFuel lines.length Gen.tzical_parseRfc_unfoldCond Gen.tzical_parseRfc_unfold (lines, 0) = .ok (unfold lines, k) := by
  have := unfold_loop lines []
  simp only [List.nil_append, List.length_nil, List.reverse_nil] at this
  exact ⟨_, by rw [unfold_eq]; exact this⟩

theorem gen_parse_rfc_eq (lib : RRuleLib) (s : List Char) :
    (Gen.tzical_parseRfc lib s).map (·.vtz) = parseRfcW lib s := by
  unfold Gen.tzical_parseRfc parseRfcW
  by_cases h : splitLines s = []
  · simp [h, Except.map]
  · obtain ⟨k, hk⟩ := unfold_loop_eq (splitLines s)
    simp only [h, ne_eq, not_false_eq_true, not_true_eq_false, if_false, List.isEmpty_iff, hk, bind_ok]
    have : List.foldlM (Gen.tzical_parseRfc_line lib) = List.foldlM (stepLineW lib) := by
      funext st l; congr 1; funext a b; exact gen_line_eq_model lib a b
    rw [this]
    cases List.foldlM (stepLineW lib) ({} : PState) (unfold (splitLines s)) <;> rfl

end ICalRfc
