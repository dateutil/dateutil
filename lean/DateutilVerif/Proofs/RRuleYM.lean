/-
  Proofs/RRuleYM.lean — plain YEARLY and MONTHLY (no computed mask) as instances of the refinement of
  Proofs/RRulePeriod.lean: period `k` of the model is the year `start.year + k·interval` / the month with index
  `start + k·interval`.
-/
import DateutilVerif.Proofs.RRulePeriod

namespace RRule
open Cal

/-- YEARLY / MONTHLY argument sets without BYWEEKNO / BYEASTER, all BYDAY members plain -/
structure YMArgs (a : Args) : Prop where
  freq : a.freq = 0 ∨ a.freq = 1
  interval : 1 ≤ a.interval
  valid : a.dtstart.Valid
  byweekno : a.byweekno = none
  byeaster : a.byeaster = none
  monthday_nz : ∀ x ∈ a.bymonthday.getD [], x ≠ 0
  plain : ∀ w ∈ a.byweekday.getD [], w.2 = 0

variable {a : Args} {r : Rule}

/-- "the model state at the start of period `k`" for a YEARLY / MONTHLY rule -/
structure YMGood (a : Args) (r : Rule) (k : Nat) (st : State) : Prop where
  facts : YearFacts r st.cur.year st.info
  nwd : st.info.nwdaymask = none
  month : 1 ≤ st.cur.month ∧ st.cur.month ≤ 12
  timeset : st.timeset = Spec.RRule.timesOf a none none none
  yearly : a.freq = 0 → st.cur.year = a.dtstart.y + k * a.interval
  monthly : a.freq = 1 →
    st.cur.year * 12 + (st.cur.month - 1) = a.dtstart.y * 12 + (a.dtstart.m - 1) + k * a.interval

theorem ym_filter (ya : YMArgs a) (h : construct a = .ok r) : PeriodFilter a r 1 9999 SimpleInv allDays := by
  have D := construct_dateFields h
  have hpl : ∀ w ∈ (weekdayArg a).getD [], w.2 = 0 ∨ a.freq > 1 := by
    rw [weekdayArg_of_ne2 (by rcases ya.freq with h | h <;> omega)]
    exact fun w hw => Or.inl (ya.plain w hw)
  exact simple_filter (simpleRule_of D ya.byweekno ya.byeaster hpl)
    (simpleOk_eq_dateOk D (monthdayArg_nz ya.monthday_nz ya.valid) ya.byweekno ya.byeaster hpl)

/-- the state invariant of the YEARLY / MONTHLY refinement, read for this family -/
theorem ym_good {k : Nat} {st : State} (g : PeriodGood SimpleInv a r k st) : YMGood a r k st :=
  ⟨g.facts, g.inv, g.month, g.timeset, g.yearly, g.monthly⟩

/-- **`iter_eq_spec`, YEARLY / MONTHLY portion.**  For every argument set with FREQ=YEARLY or MONTHLY,
    INTERVAL ≥ 1, a valid start, any BYMONTH / BYMONTHDAY (non-zero members) / BYYEARDAY / plain BYDAY
    — or none of them, in which case the month / month day are taken from the start —, any COUNT /
    UNTIL / BYSETPOS / BYHOUR / BYMINUTE / BYSECOND, and no BYWEEKNO / nth BYDAY / BYEASTER: the values
    yielded during the first `n` periods are exactly the specification's recurrence set of those
    periods, for every `n` whose periods end by year 9999. -/
theorem iter_eq_spec_ym (ya : YMArgs a) (h : construct a = .ok r) (n : Nat)
    (hy : a.freq = 0 → a.dtstart.y + n * a.interval ≤ 9999)
    (hm : a.freq = 1 → (a.dtstart.y * 12 + (a.dtstart.m - 1) + n * a.interval) / 12 ≤ 9999) :
    (iter r n).1 = Spec.RRule.occ a n := by
  have hv := ya.valid
  unfold DT.Valid ValidDate at hv
  rcases ya.freq with f0 | f1
  · exact yearly_refines h f0 ya.valid ((ym_filter ya h).mono fun _ hi => yearDays_all hi) n hv.1.1 (hy f0)
  · exact monthly_refines h f1 ya.valid ((ym_filter ya h).mono fun f hi => yearDays_all (monthDays_year f hi)) n
      hv.1.1 (hm f1)

end RRule
