/- Proofs/ZonesFold.lean — of two instants with the same wall reading the earlier one cannot be the
   fold=1 reading while the later one is the fold=0 reading. -/
import DateutilVerif.Proofs.Zones

namespace TZ

theorem Coherent.fold_order {z : TzFile} {b s : TType} (hc : Coherent z b s) (hwf : WFz z b)
    (t₁ t₂ : Int) (hlt : t₁ < t₂)
    (hcov₁ : Covered z s (bisectRight z.utc t₁)) (hcov₂ : Covered z s (bisectRight z.utc t₂))
    (hw : t₁ + (ttOf z b s (bisectRight z.utc t₁)).off = t₂ + (ttOf z b s (bisectRight z.utc t₂)).off)
    (hf₁ : isAmbiguousIdx z (t₁ + (ttOf z b s (bisectRight z.utc t₁)).off)
            (some ((bisectRight z.utc t₁ : Int) - 1)) = true)
    (hf₂ : isAmbiguousIdx z (t₂ + (ttOf z b s (bisectRight z.utc t₂)).off)
            (some ((bisectRight z.utc t₂ : Int) - 1)) = false) : False := by
  have l1 := hc.wall_lookup_of_fromutc hwf t₁ hcov₁
  have l2 := hc.wall_lookup_of_fromutc hwf t₂ hcov₂
  simp only [hf₁, hf₂] at l1 l2
  rw [← hw] at l2
  have B1 := bisectRight_spec t₁ (hc.utc_sorted hwf)
  have B2 := bisectRight_spec t₂ (hc.utc_sorted hwf)
  have W1 := bisectRight_spec (t₁ + (ttOf z b s (bisectRight z.utc t₁)).off) (hc.w1_sorted hwf)
  have W0 := bisectRight_spec (t₁ + (ttOf z b s (bisectRight z.utc t₁)).off) (hc.w0_sorted hwf)
  have e1 : bisectRight z.wall1 (t₁ + (ttOf z b s (bisectRight z.utc t₁)).off) = bisectRight z.utc t₁ := l1
  have e0 : bisectRight z.wall0 (t₁ + (ttOf z b s (bisectRight z.utc t₁)).off) = bisectRight z.utc t₂ := l2
  rw [e1] at W1; rw [e0] at W0
  have hn1 := bisectRight_le z.utc t₁
  have hn2 := bisectRight_le z.utc t₂
  -- c₁ ≤ c₂ from the UTC list
  have hle : bisectRight z.utc t₁ ≤ bisectRight z.utc t₂ := by
    by_cases h : bisectRight z.utc t₂ < bisectRight z.utc t₁
    · have a := B1.2.1 _ h
      have c := B2.2.2 _ (Nat.le_refl _) (by omega)
      omega
    · omega
  -- c₂ ≤ c₁ from wall1 ≤ wall0 pointwise
  have hge : bisectRight z.utc t₂ ≤ bisectRight z.utc t₁ := by
    by_cases h : bisectRight z.utc t₁ < bisectRight z.utc t₂
    · have a := W0.2.1 _ h
      have c := W1.2.2 _ (Nat.le_refl _) (by rw [hc.w1_len]; omega)
      rw [hc.w0_get _ (by omega)] at a
      simp only [Hi] at a
      rw [hc.w1_get _ (by omega)] at c
      omega
    · omega
  have : bisectRight z.utc t₁ = bisectRight z.utc t₂ := by omega
  rw [this] at hw
  omega

end TZ
