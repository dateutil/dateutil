/-
  Proofs/ParserGenLoop.lean — the `while i < len_l:` loop of `parser._parse` re-translated from /repo's
  parser/_parser.py (Generated/ParserOps.lean: `Gen.P.parseLoop`, a fuel-bounded recursion over the translated body
  `Gen.P.parseStep`) computes what the model's `PM.parseLoop` (structural recursion over the indices, with a counter of
  indices already consumed) computes: the same token list, result record, `_ymd` and skip list, or the same exception —
  and never runs out of fuel when given at least as much as there are tokens left.
-/
import DateutilVerif.Proofs.ParserGenStep
import DateutilVerif.Proofs.ParserWrites

namespace PGen
open PM Py

theorem parseStep_len (cls : Char → CClass) (info : Info) (fuzzy : Bool) (lenL i : Nat) (st : PState) (r : Nat × PState)
    (h : PM.parseStep cls info fuzzy lenL i st = .ok r) : r.2.l.length = st.l.length := by
  rcases PM.parseStep_writes cls info fuzzy lenL i st r h with h1 | ⟨_, _, _, _, _, _, h2⟩
  · rw [h1]
  · rw [h2, List.length_set]

/-- indices already consumed are stepped over without running the body -/
theorem parseLoop_skip (cls : Char → CClass) (info : Info) (fuzzy : Bool) (lenL : Nat) :
    ∀ (s fuel i : Nat) (st : PState), s ≤ fuel →
      PM.parseLoop cls info fuzzy lenL fuel i s st = PM.parseLoop cls info fuzzy lenL (fuel - s) (i + s) 0 st := by
  intro s
  induction s with
  | zero => intro fuel i st _; simp
  | succ s ih =>
    intro fuel i st h
    cases fuel with
    | zero => omega
    | succ f =>
      rw [PM.parseLoop, ih f (i + 1) st (by omega)]
      have e1 : f + 1 - (s + 1) = f - s := by omega
      have e2 : i + (s + 1) = i + 1 + s := by omega
      rw [e1, e2]

theorem parseLoop_skip_all (cls : Char → CClass) (info : Info) (fuzzy : Bool) (lenL : Nat) :
    ∀ (fuel s i : Nat) (st : PState), fuel ≤ s → PM.parseLoop cls info fuzzy lenL fuel i s st = .ok st := by
  intro fuel
  induction fuel with
  | zero => intro s i st _; rfl
  | succ f ih =>
    intro s i st h
    cases s with
    | zero => omega
    | succ s => rw [PM.parseLoop, ih s (i + 1) st (by omega)]

/-- what `_parse` reads from the loop's state afterwards (the final index is not used) -/
def loopOut (r : List Token × Nat × Res × Ymd × List Nat) : PState :=
  { l := r.1, res := r.2.2.1, ymd := r.2.2.2.1, skipped := r.2.2.2.2 }

theorem parseLoop_eq (cls : Char → CClass) (info : Info) (fuzzy : Bool) (hc : 100 ≤ info.century) :
    ∀ (fuel : Nat) (st : PState) (i : Nat), st.l.length - i ≤ fuel →
      (Gen.P.parseLoop fuel cls info st.l i st.l.length st.res st.ymd st.skipped fuzzy).map loopOut =
        PM.parseLoop cls info fuzzy st.l.length (st.l.length - i) i 0 st := by
  intro fuel
  induction fuel with
  | zero =>
    intro st i h
    have hi : ¬ (i < st.l.length) := by omega
    have hm : st.l.length - i = 0 := by omega
    rw [Gen.P.parseLoop, hm]
    simp only [hi, if_false]
    rfl
  | succ f ih =>
    intro st i h
    rw [Gen.P.parseLoop]
    by_cases hi : i < st.l.length
    · simp only [hi, if_true]
      obtain ⟨m, hm⟩ : ∃ m, st.l.length - i = m + 1 := ⟨st.l.length - i - 1, by omega⟩
      rw [hm, PM.parseLoop]
      have hs := parseStep_eq cls info fuzzy st.l i st.res st.ymd st.skipped hc
      rw [hs]
      cases hp : PM.parseStep cls info fuzzy st.l.length i { l := st.l, res := st.res, ymd := st.ymd, skipped := st.skipped } with
      | error e => rfl
      | ok r =>
        have hp' : PM.parseStep cls info fuzzy st.l.length i st = .ok r := hp
        obtain ⟨adv, st'⟩ := r
        have hlen : st'.l.length = st.l.length := parseStep_len cls info fuzzy _ i st (adv, st') hp'
        simp only [Except.map, bind_ok]
        have hih := ih st' (i + adv + 1) (by omega)
        rw [hlen] at hih
        show Except.map loopOut (Gen.P.parseLoop f cls info st'.l (i + adv + 1) st.l.length st'.res st'.ymd st'.skipped fuzzy) = _
        rw [hih]
        by_cases ha : adv ≤ m
        · rw [parseLoop_skip cls info fuzzy _ adv m (i + 1) st' ha]
          have e1 : st.l.length - (i + adv + 1) = m - adv := by omega
          have e2 : i + adv + 1 = i + 1 + adv := by omega
          rw [e1, e2]
        · rw [parseLoop_skip_all cls info fuzzy _ m adv (i + 1) st' (by omega)]
          have e1 : st.l.length - (i + adv + 1) = 0 := by omega
          rw [e1]; rfl
    · simp only [hi, if_false]
      have hm : st.l.length - i = 0 := by omega
      rw [hm]; rfl

end PGen
