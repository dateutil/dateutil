/- Proofs/TzifGenEq.lean — the TRANSLATED `tzfile._read_tzfile` (Generated/TzifKernels.lean) against the hand model
   Model/TZif.lean: the pieces of the decoding phase (header, tables, `_ttinfo` construction, index replacement). -/
import DateutilVerif.Generated.TzifKernels
import DateutilVerif.Proofs.PySat

set_option linter.unusedSimpArgs false
set_option linter.unusedVariables false

namespace TzifGen
open Py TZ TzifPy

def ofT (t : TType) : TT :=
  { offset := t.off, delta := t.off, isdst := t.isdst, abbr := t.abbr, isstd := t.isstd, isgmt := t.isgmt,
    dstoffset := t.dstoff }

@[simp] theorem toModel_ofT (t : TType) : (ofT t).toModel = t := by cases t; rfl

/-- a stream positioned at `rest` -/
def at_ (f : File) (rest : List UInt8) : File := { f with rest := rest }

@[simp] theorem at_rest (f : File) (r) : (at_ f r).rest = r := rfl
@[simp] theorem at_data (f : File) (r) : (at_ f r).data = f.data := rfl
@[simp] theorem at_at (f : File) (r s) : at_ (at_ f r) s = at_ f s := rfl

theorem read_eq (f : File) (n : Int) : f.read n = ((readN f.rest n).1, at_ f (readN f.rest n).2) := rfl

theorem if1_eq (f : File) (n : Int) :
    Gen.readTzfile_if1 f n = (readLongs f.rest n).map (fun p => (p.1, at_ f p.2)) := by
  unfold Gen.readTzfile_if1 readLongs unpackL
  simp only [read_eq]
  by_cases h0 : n = 0
  · subst h0; simp [Except.map, at_]; rfl
  · by_cases hneg : n < 0
    · simp [h0, hneg, Except.map, bind, Except.bind]
    · simp only [bne_iff_ne, ne_eq, h0, not_false_eq_true, ↓reduceIte, hneg, beq_iff_eq]
      by_cases hl : (readN f.rest (n * 4)).1.length = (n * 4).toNat
      · simp only [hl, not_true_eq_false, ↓reduceIte]
        cases be32List (readN f.rest (n * 4)).1 <;> simp [Except.map, bind, Except.bind, pure, Except.pure]
      · simp [hl, Except.map, bind, Except.bind]

/-- the three byte tables (`>NB` transition indices, `>Nb` isstd / isgmt flags): read `n` bytes when `n` is not 0, each
    byte seen through `g` -/
theorem ifBytes_eq (g : UInt8 → Int) (f : File) (n : Int) :
    (if (n != 0) = true then do
        let (t, f') := f.read n
        let l ← (if n < 0 then .error .StructError else if t.length ≠ n.toNat then .error .StructError
          else .ok (t.map g) : R (List Int))
        pure (l, f')
      else pure ([], f) : R (List Int × File)) =
    (readBytes f.rest n).map (fun p => (p.1.map g, at_ f p.2)) := by
  unfold readBytes
  simp only [read_eq]
  by_cases h0 : n = 0
  · subst h0; simp [Except.map, at_, pure, Except.pure]
  · by_cases hneg : n < 0
    · simp [h0, hneg, Except.map, bind, Except.bind]
    · by_cases hl : (readN f.rest n).1.length = n.toNat <;>
        simp [h0, hneg, hl, Except.map, bind, Except.bind, pure, Except.pure]

theorem if2_eq (f : File) (n : Int) :
    Gen.readTzfile_if2 f n = (readBytes f.rest n).map (fun p => (p.1.map (fun b => (b.toNat : Int)), at_ f p.2)) :=
  ifBytes_eq _ f n

theorem if4_eq (f : File) (n : Int) :
    Gen.readTzfile_if4 f n [] = (readBytes f.rest n).map (fun p => (p.1.map s8, at_ f p.2)) :=
  ifBytes_eq s8 f n

theorem if5_eq (f : File) (n : Int) :
    Gen.readTzfile_if5 f n [] = (readBytes f.rest n).map (fun p => (p.1.map s8, at_ f p.2)) :=
  ifBytes_eq s8 f n

theorem loop1_body_eq (tc x : Int) (acc : List (Int × Int × Int)) (f : File) :
    Gen.readTzfile_loop1_body tc x (acc, f) =
      match f.rest with
      | a :: b :: c :: d :: e :: g :: rest => .ok (acc ++ [(be32s a b c d, s8 e, (g.toNat : Int))], at_ f rest)
      | _ => .error .StructError := by
  unfold Gen.readTzfile_loop1_body
  simp only [read_eq, readN]
  rcases hs : f.rest with _ | ⟨a, _ | ⟨b, _ | ⟨c, _ | ⟨d, _ | ⟨e, _ | ⟨g, rest⟩⟩⟩⟩⟩⟩ <;>
    simp [unpackLbB, bind, Except.bind, pure, Except.pure]

theorem loop1_list (tc : Int) : ∀ (l : List Int) (acc : List (Int × Int × Int)) (f : File),
    forEach (Gen.readTzfile_loop1_body tc) l (acc, f) =
      (readTtinfo l.length f.rest).map (fun p => (acc ++ p.1, at_ f p.2))
  | [], acc, f => by simp [forEach, readTtinfo, Except.map, at_]
  | x :: xs, acc, f => by
      simp only [forEach, loop1_body_eq, List.length_cons]
      rcases hs : f.rest with _ | ⟨a, _ | ⟨b, _ | ⟨c, _ | ⟨d, _ | ⟨e, _ | ⟨g, rest⟩⟩⟩⟩⟩⟩ <;>
        simp only [readTtinfo, Except.bind, Except.map]
      rw [loop1_list tc xs]
      simp only [at_rest, at_at]
      cases readTtinfo xs.length rest <;> simp [Except.map, bind, Except.bind]

theorem rangeUp_length (n : Int) : (rangeUp n).length = n.toNat := by simp [rangeUp]

theorem loop1_eq (tc : Int) (f : File) :
    Gen.readTzfile_loop1 tc [] f = (readTtinfo tc.toNat f.rest).map (fun p => (p.1, at_ f p.2)) := by
  unfold Gen.readTzfile_loop1
  rw [loop1_list, rangeUp_length]
  cases readTtinfo tc.toNat f.rest <;> simp [Except.map, bind, Except.bind, pure, Except.pure]

theorem lget_nat {α} (l : List α) (i : Nat) :
    lget l (i : Int) = match l[i]? with | some x => .ok x | none => .error .IndexError := by
  unfold lget Py.getIdx
  by_cases h : i < l.length
  · have : ¬ ((i : Int) < 0) := by omega
    simp [this, h]
  · have : ¬ ((i : Int) < 0) := by omega
    have h2 : l[i]? = none := List.getElem?_eq_none (by omega)
    simp [this, h2]

theorem hmod_last (g : TT → TT) (h : Heap) (t : TT) : hmod g (h ++ [t]) h.length = h ++ [g t] := by
  induction h with
  | nil => rfl
  | cons a l ih => simp [hmod, ih]

/-- the flag expression `cnt > i and flags[i] != 0` agrees with the model's `flagAt` -/
def FlagOK (cnt : Int) (flags : List Int) (bytes : List UInt8) : Prop :=
  ∀ j : Nat, (if (decide (cnt > (j : Int))) then do let t ← lget flags (j : Int); pure (t != 0) else pure false : R Bool)
    = .ok (flagAt bytes j)

theorem loop2_body_eq (cg cs tc : Int) (recs : List (Int × Int × Int)) (abbr : List UInt8) (isstd isgmt : List Int)
    (sb gb : List UInt8) (hs : FlagOK cs isstd sb) (hg : FlagOK cg isgmt gb)
    (i : Nat) (o d a : Int) (hi : recs[i]? = some (o, d, a)) (heap : Heap) (L : List Ref) :
    Gen.readTzfile_loop2_body cg cs tc recs abbr isstd isgmt (i : Int) (heap, L) =
      .ok (heap ++ [ofT { off := o, isdst := d, abbr := abbrAt abbr a, isstd := flagAt sb i, isgmt := flagAt gb i, dstoff := 0 }],
           L ++ [heap.length]) := by
  unfold Gen.readTzfile_loop2_body
  have h1 := hs i
  have h2 := hg i
  simp only [bind, Except.bind] at h1 h2
  simp only [lget_nat recs i, hi, hnew, bind, Except.bind]
  rw [h1, h2]
  simp only [hmod_last, pure, Except.pure, sliceToFindNul, ofT]

theorem loop2_from (cg cs tc : Int) (recs : List (Int × Int × Int)) (abbr : List UInt8) (isstd isgmt : List Int)
    (sb gb : List UInt8) (hs : FlagOK cs isstd sb) (hg : FlagOK cg isgmt gb) :
    ∀ (k i : Nat) (heap : Heap) (L : List Ref), i + k = recs.length →
      forEach (Gen.readTzfile_loop2_body cg cs tc recs abbr isstd isgmt) ((List.range' i k).map fun (j : Nat) => (j : Int)) (heap, L) =
        .ok (heap ++ (mkTypesFrom abbr sb gb i (recs.drop i)).map ofT, L ++ List.range' heap.length k)
  | 0, i, heap, L, h => by
      have : recs.drop i = [] := List.drop_eq_nil_of_le (by omega)
      simp [forEach, this, mkTypesFrom]
  | k + 1, i, heap, L, h => by
      have hi : i < recs.length := by omega
      have hd : recs.drop i = recs[i] :: recs.drop (i + 1) := List.drop_eq_getElem_cons hi
      rcases hrec : recs[i] with ⟨o, d, a⟩
      have hget : recs[i]? = some (o, d, a) := by rw [List.getElem?_eq_getElem hi, hrec]
      simp only [List.range'_succ, List.map_cons, forEach]
      rw [loop2_body_eq cg cs tc recs abbr isstd isgmt sb gb hs hg i o d a hget]
      simp only [Except.bind]
      rw [loop2_from cg cs tc recs abbr isstd isgmt sb gb hs hg k (i + 1) _ _ (by omega)]
      rw [hd, hrec]
      simp [mkTypesFrom, List.range'_succ]

theorem rangeUp_eq (n : Int) : rangeUp n = (List.range' 0 n.toNat).map fun (j : Nat) => (j : Int) := by
  simp [rangeUp, List.range_eq_range']

theorem loop2_eq (cg cs tc : Int) (recs : List (Int × Int × Int)) (abbr : List UInt8) (isstd isgmt : List Int)
    (sb gb : List UInt8) (hs : FlagOK cs isstd sb) (hg : FlagOK cg isgmt gb) (hn : tc.toNat = recs.length) :
    Gen.readTzfile_loop2 cg cs tc recs abbr isstd isgmt [] [] =
      .ok ((mkTypes recs abbr sb gb).map ofT, List.range' 0 recs.length) := by
  unfold Gen.readTzfile_loop2
  rw [rangeUp_eq, hn, loop2_from cg cs tc recs abbr isstd isgmt sb gb hs hg recs.length 0 [] [] (by omega)]
  simp [mkTypes, bind, Except.bind, pure, Except.pure]

theorem be32List_length : ∀ (d : List UInt8) (l : List Int), be32List d = some l → d.length = 4 * l.length
  | [], l, h => by simp [be32List] at h; subst h; rfl
  | [_], l, h => by simp [be32List] at h
  | [_, _], l, h => by simp [be32List] at h
  | [_, _, _], l, h => by simp [be32List] at h
  | a :: b :: c :: d :: rest, l, h => by
      simp only [be32List, Option.map_eq_some_iff] at h
      obtain ⟨l', h1, h2⟩ := h
      subst h2
      have := be32List_length rest l' h1
      simp only [List.length_cons]; omega

theorem readLongs_len {s : List UInt8} {n : Int} {l rest} (h : readLongs s n = .ok (l, rest)) :
    l.length = n.toNat ∧ 0 ≤ n := by
  unfold readLongs at h
  by_cases h0 : n = 0
  · subst h0; simp at h; simp [h.1.symm]
  · by_cases hneg : n < 0
    · simp [h0, hneg] at h
    · simp only [beq_iff_eq, h0, ↓reduceIte, hneg] at h
      by_cases hl : (readN s (n * 4)).1.length = (n * 4).toNat
      · cases hb : be32List (readN s (n * 4)).1 with
        | none => simp [hl, hb] at h
        | some l' =>
            simp [hl, hb] at h
            have := be32List_length _ _ hb
            rw [← h.1]; omega
      · simp [hl] at h

theorem readBytes_len {s : List UInt8} {n : Int} {l rest} (h : readBytes s n = .ok (l, rest)) :
    l.length = n.toNat ∧ 0 ≤ n := by
  unfold readBytes at h
  by_cases h0 : n = 0
  · subst h0; simp at h; simp [h.1.symm]
  · by_cases hneg : n < 0
    · simp [h0, hneg] at h
    · simp only [beq_iff_eq, h0, ↓reduceIte, hneg] at h
      by_cases hl : (readN s n).1.length = n.toNat
      · simp [hl] at h
        rw [← h.1]; omega
      · simp [hl] at h

theorem readTtinfo_len : ∀ (k : Nat) (s : List UInt8) (l rest), readTtinfo k s = .ok (l, rest) → l.length = k
  | 0, s, l, rest, h => by simp [readTtinfo] at h; simp [h.1.symm]
  | k + 1, s, l, rest, h => by
      rcases s with _ | ⟨a, _ | ⟨b, _ | ⟨c, _ | ⟨d, _ | ⟨e, _ | ⟨g, r⟩⟩⟩⟩⟩⟩ <;> simp only [readTtinfo] at h
      any_goals (first | (cases h; done) | skip)
      cases hr : readTtinfo k r with
      | error e => simp [hr, bind, Except.bind] at h
      | ok p =>
          obtain ⟨l', r'⟩ := p
          simp only [hr, bind, Except.bind, Except.ok.injEq, Prod.mk.injEq] at h
          have := readTtinfo_len k r l' r' hr
          rw [← h.1]; simp [this]

theorem s8_ne_zero (a : UInt8) : (s8 a != 0) = (a != 0) := by
  have h := a.toNat_lt
  have h2 : (a = 0) ↔ a.toNat = 0 := by
    constructor
    · intro h; subst h; rfl
    · intro h; exact UInt8.toNat_inj.mp (by simpa using h)
  have h3 : (s8 a = 0) ↔ (a = 0) := by
    rw [h2]; unfold s8; split <;> omega
  rw [Bool.eq_iff_iff]; simp [h3]

theorem flagOK_of_len (cnt : Int) (bytes : List UInt8) (hl : bytes.length = cnt.toNat) (h0 : 0 ≤ cnt) :
    FlagOK cnt (bytes.map s8) bytes := by
  intro j
  by_cases hj : cnt > (j : Int)
  · have hjl : j < bytes.length := by omega
    simp only [hj, decide_true, ↓reduceIte, lget_nat, List.getElem?_map, List.getElem?_eq_getElem hjl, Option.map_some,
      flagAt, bind, Except.bind, pure, Except.pure, s8_ne_zero]
  · have hjl : bytes.length ≤ j := by omega
    simp [hj, flagAt, List.getElem?_eq_none hjl, pure, Except.pure]

theorem mapM_refs (n : Nat) : ∀ (bs : List UInt8),
    List.mapM (fun idx => do let t ← lget (List.range' 0 n) idx; pure t : Int → R Ref) (bs.map fun b => (b.toNat : Int)) =
      if bs.any (fun i => decide (i.toNat ≥ n)) then .error .IndexError else .ok (bs.map (·.toNat))
  | [] => by simp [pure, Except.pure]
  | b :: bs => by
      simp only [List.map_cons, List.mapM_cons, mapM_refs n bs, lget_nat, List.any_cons]
      by_cases hb : b.toNat < n
      · have : (List.range' 0 n)[b.toNat]? = some b.toNat := by simp [List.getElem?_range', hb]
        have hd : decide (b.toNat ≥ n) = false := by simp; omega
        simp only [this, hd, Bool.false_or, bind, Except.bind, pure, Except.pure]
        by_cases hany : (bs.any fun i => decide (i.toNat ≥ n)) = true
        · simp [hany]
        · simp [hany]
      · have : (List.range' 0 n)[b.toNat]? = none := by simp [List.getElem?_range', hb]
        have hd : decide (b.toNat ≥ n) = true := by simp; omega
        simp [this, hd, bind, Except.bind]

theorem if3_eq (f : File) (n : Int) :
    Gen.readTzfile_if3 f n = .ok (at_ f (if n ≥ 0 then f.rest.drop (n * 8).toNat
      else f.data.drop (((f.data.length : Int) - f.rest.length + n * 8).toNat))) := by
  unfold Gen.readTzfile_if3 File.seekCur
  by_cases h0 : n = 0
  · subst h0; simp [pure, Except.pure, at_]
  · by_cases hn : n ≥ 0
    · have : n * 8 ≥ 0 := by omega
      simp [h0, hn, this, pure, Except.pure, at_]
    · have : ¬ (n * 8 ≥ 0) := by omega
      simp [h0, hn, this, pure, Except.pure, at_]

theorem hdr_eq (h : List UInt8) :
    (unpackL 6 h).bind six =
      match (if h.length = 24 then be32List h else none) with
      | some [a, b, c, d, e, f] => .ok (a, b, c, d, e, f)
      | _ => .error .StructError := by
  unfold unpackL
  by_cases hl : h.length = 24
  · simp only [hl, ↓reduceIte]
    cases hb : be32List h with
    | none => simp [Except.bind]
    | some l =>
        have := be32List_length _ _ hb
        have h6 : l.length = 6 := by omega
        rcases l with _ | ⟨a, _ | ⟨b, _ | ⟨c, _ | ⟨d, _ | ⟨e, _ | ⟨f, _ | ⟨g, r⟩⟩⟩⟩⟩⟩⟩ <;> simp at h6
        simp [Except.bind, six]
  · simp [hl, Except.bind]

theorem magic_eq (data : List UInt8) {α} (k : R α) :
    (do let t2 ← decodeStr (data.take 4)
        if (t2 != [84, 90, 105, 102]) = true then throw Py.PyErr.ValueError
        k : R α) = (if data.take 4 ≠ magic then throw .ValueError else k) := by
  by_cases hm : data.take 4 = magic
  · rw [hm]; simp [decodeStr, magic, bind, Except.bind, pure, Except.pure]
  · unfold decodeStr
    by_cases ha : (data.take 4).any (· ≥ 128) = true
    · simp [ha, hm, bind, Except.bind, throw, throwThe, MonadExceptOf.throw]
    · have hm' : ¬ (data.take 4 = [84, 90, 105, 102]) := hm
      simp [ha, hm, hm', bind, Except.bind, throw, throwThe, MonadExceptOf.throw, pure, Except.pure]

def decodeView (r : Raw) : Option Ref × Option Ref × Option Ref × Option Ref × Heap × Int × List Int × List Ref × List Ref :=
  (none, none, none, none, r.types.map ofT, (r.trans.length : Int), r.trans.map (·.1), r.trans.map (·.2),
   List.range' 0 r.types.length)

theorem mkTypesFrom_length (abbr sb gb : List UInt8) : ∀ (recs : List (Int × Int × Int)) (i : Nat),
    (mkTypesFrom abbr sb gb i recs).length = recs.length
  | [], _ => rfl
  | _ :: rest, i => by simp [mkTypesFrom, mkTypesFrom_length abbr sb gb rest (i + 1)]

theorem mkTypes_length (recs : List (Int × Int × Int)) (abbr sb gb : List UInt8) :
    (mkTypes recs abbr sb gb).length = recs.length := mkTypesFrom_length abbr sb gb recs 0

theorem readN4 (s : List UInt8) : readN s 4 = (s.take 4, s.drop 4) := by simp [readN]
theorem readN16 (s : List UInt8) : readN s 16 = (s.take 16, s.drop 16) := by simp [readN]

/-- both sides run `m` (the generated one sees its value through `g`); it is enough that what follows agrees -/
theorem map_bind_congr {α α' β β' : Type} {m : R α} {g : α → α'} {k : α' → R β'} {k' : α → R β} {v : β → β'}
    (h : ∀ a, m = .ok a → k (g a) = (k' a).map v) : (m.map g).bind k = (m.bind k').map v := by
  cases m with
  | error e => rfl
  | ok a => exact h a rfl

theorem decode_eq (data : List UInt8) : Gen.readTzfile_decode data = (decode data).map decodeView := by
  unfold Gen.readTzfile_decode decode
  simp only [File.ofBytes, read_eq, if1_eq, if2_eq, loop1_eq, if3_eq, if4_eq, if5_eq, at_rest, at_data, at_at,
    readN4, readN16]
  by_cases hm : data.take 4 = magic
  case neg =>
    -- magic not found: ValueError on both sides
    unfold decodeStr
    have hm' : ¬ (data.take 4 = [84, 90, 105, 102]) := hm
    by_cases ha : (data.take 4).any (· ≥ 128) = true
    · simp [ha, hm, bind, Except.bind, Except.map, throw, throwThe, MonadExceptOf.throw]
    · simp [ha, hm, hm', bind, Except.bind, Except.map, throw, throwThe, MonadExceptOf.throw, pure, Except.pure]
  have hdec : decodeStr magic = .ok [84, 90, 105, 102] := by simp [decodeStr, magic]
  -- the header: 24 bytes, six counts
  generalize hhdr : (readN (List.drop 16 (List.drop 4 data)) 24) = hdr
  obtain ⟨hd, s1⟩ := hdr
  unfold unpackL
  by_cases hl : hd.length = 24
  case neg => simp [hdec, hm, hl, Except.map, throw, throwThe, MonadExceptOf.throw, Except.bind, bind]
  cases hb : be32List hd with
  | none => simp [hdec, hm, hl, hb, Except.map, throw, throwThe, MonadExceptOf.throw, Except.bind, bind]
  | some l =>
    have hlen := be32List_length _ _ hb
    have h6 : l.length = 6 := by omega
    rcases l with _ | ⟨cg, _ | ⟨cs, _ | ⟨cl, _ | ⟨ct, _ | ⟨cy, _ | ⟨cc, _ | ⟨g, r⟩⟩⟩⟩⟩⟩⟩ <;> simp at h6
    simp only [hdec, hm, hl, hb, six, pure, Except.pure, Except.bind, bind, ↓reduceIte, Int.reduceLT, Int.reduceMul,
      Int.reduceToNat, not_true_eq_false, ne_eq, bne_self_eq_false, Bool.false_eq_true]
    refine map_bind_congr fun ⟨times, s2⟩ h1 => ?_
    refine map_bind_congr fun ⟨idxs, s3⟩ h2 => ?_
    refine map_bind_congr fun ⟨recs, s4⟩ h3 => ?_
    simp only [at_rest, at_data, at_at] at h2 h3 ⊢
    unfold decodeStr
    by_cases ha : ((readN s4 cc).fst.any fun x => decide (x ≥ 128)) = true
    case pos => simp [ha, throw, throwThe, MonadExceptOf.throw, Except.map]
    simp only [ha, Bool.false_eq_true, ↓reduceIte]
    generalize (if cl ≥ 0 then List.drop (cl * 8).toNat (readN s4 cc).snd
      else List.drop (↑data.length - ↑(readN s4 cc).snd.length + cl * 8).toNat data) = s5
    refine map_bind_congr fun ⟨sb, s6⟩ h4 => ?_
    refine map_bind_congr fun ⟨gb, s7⟩ h5 => ?_
    simp only [at_rest, at_data, at_at] at h5 ⊢
    obtain ⟨hsl, hs0⟩ := readBytes_len h4
    obtain ⟨hgl, hg0⟩ := readBytes_len h5
    obtain ⟨hil, hi0⟩ := readBytes_len h2
    obtain ⟨htl, ht0⟩ := readLongs_len h1
    have hrl := readTtinfo_len _ _ _ _ h3
    rw [loop2_eq cg cs cy recs _ _ _ sb gb (flagOK_of_len cs sb hsl hs0) (flagOK_of_len cg gb hgl hg0) hrl.symm]
    simp only [mapM_refs, mkTypes_length]
    by_cases hany : (idxs.any fun i => decide (i.toNat ≥ recs.length)) = true
    case pos => simp [hany, throw, throwThe, MonadExceptOf.throw, Except.map]
    simp only [hany, Bool.false_eq_true, ↓reduceIte, decodeView, List.length_map, mkTypes_length, Except.map]
    have hlen2 : times.length = (idxs.map fun x => x.toNat).length := by simp; omega
    simp [List.map_fst_zip, List.map_snd_zip, hlen2, List.length_zip]
    omega

/-- what `decode` guarantees: every type index of a decoded table is in range -/
theorem decode_ok (data : List UInt8) (r : Raw) (h : decode data = .ok r) : Raw.ok r = true := by
  refine Sat.of_ok (P := fun r => Raw.ok r = true) (Q := fun _ => True) ?_ h
  unfold decode
  refine .ite (.err trivial) ?_
  dsimp only
  split
  · refine .bind .triv fun cnts _ => .bind .triv fun times _ => .bind .triv fun idxs _ => .bind .triv fun recs _ => ?_
    refine .ite (.err trivial) (.bind .triv fun isstd _ => .bind .triv fun isgmt _ => .ite' (fun _ => .err trivial) fun hany => .ok ?_)
    simp only [Raw.ok, List.all_eq_true, decide_eq_true_eq]
    intro p hp
    obtain ⟨b, hb, hb2⟩ := List.mem_map.mp (List.of_mem_zip hp).2
    simp only [List.any_eq_true, decide_eq_true_eq, not_exists, not_and, Nat.not_le] at hany
    rw [← hb2]; exact hany b hb
  · exact .err trivial

end TzifGen
