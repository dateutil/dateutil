/-
  Proofs/RRuleMinutely.lean — MINUTELY without BYHOUR and BYMINUTE: the two argument classes (BYWEEKNO absent or
  harmless and no BYEASTER; BYEASTER −80..250 and no BYWEEKNO) as instances of Proofs/RRuleSubMinutely.lean over the day
  filters of Proofs/RRuleWFilter.lean and Proofs/RRuleEFilter.lean.
-/
import DateutilVerif.Proofs.RRuleWFilter
import DateutilVerif.Proofs.RRuleEFilter
import DateutilVerif.Proofs.RRuleSubMinutely

namespace RRule
open Cal

structure MinutelyArgs (a : Args) : Prop where
  freq : a.freq = 5
  interval : 1 ≤ a.interval
  valid : a.dtstart.Valid
  weekno : WArg a
  byeaster : a.byeaster = none
  monthday_nz : ∀ x ∈ a.bymonthday.getD [], x ≠ 0
  byhour : a.byhour = none
  byminute : a.byminute = none
  seconds_ok : ∀ x ∈ a.bysecond.getD [], 0 ≤ x ∧ x ≤ 59

structure MinutelyEArgs (a : Args) : Prop where
  freq : a.freq = 5
  interval : 1 ≤ a.interval
  valid : a.dtstart.Valid
  byweekno : a.byweekno = none
  easter : ∃ el, a.byeaster = some el ∧ el ≠ [] ∧ ∀ o ∈ el, -80 ≤ o ∧ o ≤ 250
  monthday_nz : ∀ x ∈ a.bymonthday.getD [], x ≠ 0
  byhour : a.byhour = none
  byminute : a.byminute = none
  seconds_ok : ∀ x ∈ a.bysecond.getD [], 0 ≤ x ∧ x ≤ 59

variable {a : Args} {r : Rule}

/-- "the model state at the start of period `k`" for a MINUTELY rule: `SubGood .minutely` over the filter of `WRule`s
    (`minutely_good`) -/
structure MinutelyGood (a : Args) (r : Rule) (k : Nat) (st : State) : Prop where
  facts : YearFacts r st.cur.year st.info
  inv : WInv r st.info
  valid : ValidYMD st.cur.year st.cur.month st.cur.day
  hour : 0 ≤ st.cur.hour ∧ st.cur.hour ≤ 23
  minute : 0 ≤ st.cur.minute ∧ st.cur.minute ≤ 59
  idx : (curOrd st.cur * 24 + st.cur.hour) * 60 + st.cur.minute =
    (Spec.RRule.startOrd a * 24 + a.dtstart.hh) * 60 + a.dtstart.mm + k * a.interval
  timeset : st.timeset = Spec.RRule.timesOf a (some st.cur.hour) (some st.cur.minute) none

/-- … and over the filter of `ERule`s (`minutely_good_easter`) -/
structure MinutelyEGood (a : Args) (r : Rule) (k : Nat) (st : State) : Prop where
  facts : YearFacts r st.cur.year st.info
  inv : EInv r st.info
  valid : ValidYMD st.cur.year st.cur.month st.cur.day
  hour : 0 ≤ st.cur.hour ∧ st.cur.hour ≤ 23
  minute : 0 ≤ st.cur.minute ∧ st.cur.minute ≤ 59
  idx : (curOrd st.cur * 24 + st.cur.hour) * 60 + st.cur.minute =
    (Spec.RRule.startOrd a * 24 + a.dtstart.hh) * 60 + a.dtstart.mm + k * a.interval
  timeset : st.timeset = Spec.RRule.timesOf a (some st.cur.hour) (some st.cur.minute) none

theorem minutely_good {h : construct a = .ok r} {hf hi hv hw he hz} {k : Nat} {st : State}
    (hg : SubGood .minutely (wFilter h hf hi hv hw he hz) k st) : MinutelyGood a r k st :=
  ⟨hg.facts, hg.inv, hg.valid, hg.digits.1, hg.digits.2, hg.minutely.1, hg.minutely.2⟩

theorem minutely_good_easter {h : construct a = .ok r} {hf hi hv hw he hz} {k : Nat} {st : State}
    (hg : SubGood .minutely (eFilter h hf hi hv hw he hz) k st) : MinutelyEGood a r k st :=
  ⟨hg.facts, hg.inv, hg.valid, hg.digits.1, hg.digits.2, hg.minutely.1, hg.minutely.2⟩

theorem minutely_reach_all (hbh : a.byhour = none) (hbm : a.byminute = none) (k : Nat) :
    ∃ t : Nat, 1 ≤ t ∧ t ≤ 1 ∧ SubFreq.listed .minutely a
      ((a.dtstart.hh * 60 + a.dtstart.mm + ((k + t : Nat) : Int) * a.interval) % 1440) = true :=
  ⟨1, by omega, by omega, by rw [listed_minutely, hbh, hbm]; rfl⟩

/-- **`iter_eq_spec`, MINUTELY** (no BYHOUR, no BYMINUTE): as `iter_eq_spec_hourly`, with up to 1440 periods
    passed over per turn -/
theorem iter_eq_spec_minutely (ma : MinutelyArgs a) (h : construct a = .ok r) (n : Nat)
    (hle : (Spec.RRule.startOrd a * 24 + a.dtstart.hh) * 60 + a.dtstart.mm + (1440 * n + 1) * a.interval + 1439 <
      (maxOrdinal + 1) * 1440) :
    ∃ m, n ≤ m ∧ m ≤ 1440 * n ∧ (iter r n).1 = Spec.RRule.occ a m := by
  have hv := ma.valid
  unfold DT.Valid ValidDate at hv
  exact iter_eq_spec_minutely_filter (wFilter h (by rw [ma.freq]; omega) ma.interval ma.valid ma.weekno ma.byeaster ma.monthday_nz) h ma.freq ma.interval ma.valid (Or.inl ma.byhour) ma.seconds_ok 1 1440
    (minutely_reach_all ma.byhour ma.byminute) (by omega) n hv.1.1 hle

/-- **`iter_eq_spec_minutely_easter`**: `iter_eq_spec_minutely` with BYEASTER instead of "no BYEASTER" — offsets
    −80..250 (the complement of D-C01d), no BYWEEKNO, a start in a year ≥ 1583 and every visited day not after 31
    December 4099 (where C19 ties `easter.easter` to Meeus/Jones/Butcher); everything else as there, `n ≤ m ≤
    1440·n`. -/
theorem iter_eq_spec_minutely_easter (ma : MinutelyEArgs a) (h : construct a = .ok r) (n : Nat)
    (hlo : 1583 ≤ a.dtstart.y)
    (hle : (Spec.RRule.startOrd a * 24 + a.dtstart.hh) * 60 + a.dtstart.mm + (1440 * n + 1) * a.interval + 1439 <
      (Cal.toOrdinal 4099 12 31 + 1) * 1440) :
    ∃ m, n ≤ m ∧ m ≤ 1440 * n ∧ (iter r n).1 = Spec.RRule.occ a m :=
  iter_eq_spec_minutely_filter (eFilter h (by rw [ma.freq]; omega) ma.interval ma.valid ma.byweekno ma.easter ma.monthday_nz) h ma.freq ma.interval ma.valid (Or.inl ma.byhour) ma.seconds_ok 1 1440
    (minutely_reach_all ma.byhour ma.byminute) (by omega) n hlo hle

-- non-vacuity: the hypotheses are satisfiable
example : MinutelyEArgs { freq := 5, dtstart := ⟨2024, 1, 1, 10, 0, 0, 0⟩, byeaster := some [0, 1] } :=
  { freq := rfl, interval := (by decide), valid := (by decide), byweekno := rfl,
    easter := ⟨[0, 1], rfl, by simp, by intro o ho; simp at ho; omega⟩,
    monthday_nz := (by intro x hx; simp at hx), byhour := rfl, byminute := rfl, seconds_ok := (by intro x hx; simp at hx) }

end RRule
