/-
  Proofs/RenderGenF.lean — the ISO forms `YYYY-MM-DD[T ]HH:MM[:SS]` once more as renderings in the sense of
  `Rendering` (templates `iso_sp_s`, `iso_T_s`, `iso_sp_min`, `iso_T_min`), for the sentence theorems of C15.
-/
import DateutilVerif.Proofs.RenderSentence
import DateutilVerif.Proofs.RenderFin

namespace PM
open Py PT

def core_iso_sp_s (t : DT) : List Token :=
  [y4 t.y.toNat, ['-'], dtok [t.m.toNat / 10, t.m.toNat], ['-'], dtok [t.d.toNat / 10, t.d.toNat], [' '], dtok [t.hh.toNat / 10, t.hh.toNat], [':'], dtok [t.mm.toNat / 10, t.mm.toNat], [':'], dtok [t.ss.toNat / 10, t.ss.toNat]]

theorem lex_iso_sp_s (cls : Char → CClass) [AsciiOK cls] (t : DT) (rest : List Char) (he : NumEnds cls rest) :
    scan cls .init (str_iso_sp_s t rest) = core_iso_sp_s t ++ scan cls .init rest := by
  unfold str_iso_sp_s core_iso_sp_s
  rw [lex_pad4 cls _ _ (numEnds_ascii cls _ _ (by decide)),
      lex_punct cls '-' _ (by decide),
      lex_pad2 cls _ _ (numEnds_ascii cls _ _ (by decide)),
      lex_punct cls '-' _ (by decide),
      lex_pad2 cls _ _ (numEnds_sp cls _),
      lex_sp,
      lex_pad2 cls _ _ (numEnds_ascii cls _ _ (by decide)),
      lex_punct cls ':' _ (by decide),
      lex_pad2 cls _ _ (numEnds_ascii cls _ _ (by decide)),
      lex_punct cls ':' _ (by decide),
      lex_pad2 cls _ _ he]
  rfl

theorem rend_iso_sp_s (cls : Char → CClass) [AsciiOK cls] (yf : Bool) (year century : Int) (o : Opts) (tznames : List Token) (tzi : TzInfos)
    (ho : StrictOpts o tzi) (hdf : o.dayfirst.getD false = false) (t dflt : DT) (ht : t.Valid) :
    Rendering cls false yf year century o tznames tzi dflt (str_iso_sp_s t) (core_iso_sp_s t) (NumEnds cls) (fun _ => True)
      ({ t with us := 0 }) := by
  have N := dtNums ht
  refine ⟨fun rest => by simp [str_iso_sp_s], lex_iso_sp_s cls t, _, _, [5], rfl, rfl, rfl, rfl, fun fz suf _ =>
    run_date3_hms (l := core_iso_sp_s t ++ suf) (by rfl) (Or.inl rfl) (Or.inl rfl) N.y N.m N.d (by decide) (by decide)
      (by decide) (Or.inr (Or.inr (by decide))) N.hh N.mm (parsems_num N.ss (by decide)) (by decide) (by have := N.bmm; omega), ?_⟩
  refine finish_t yf year century o tznames tzi dflt ht _ _ t.y.toNat _ ?_ (convertyear_full _ ht _ (Or.inl rfl)) rfl rfl (Or.inl rfl)
    ho.tz1 ?_ (valid_fields ht (valid_hh ht) (valid_mm ht) (valid_ss ht) ⟨by decide, by decide⟩)
  · rw [hdf]; exact resolve_Ymd _ _ _ _ _
  · simp only [fieldOr, N.eh, N.emi, N.es]; rfl

theorem tpl_iso_sp_s (cls : Char → CClass) [AsciiOK cls] (yf : Bool) (year century : Int) (o : Opts) (tznames : List Token) (tzi : TzInfos)
    (ho : StrictOpts o tzi) (hdf : o.dayfirst.getD false = false) (t dflt : DT) (ht : t.Valid) (hdv : dflt.Valid) (off : Off) (hoff : off.Dom) :
    parse cls (Info.default false yf year century) o tznames tzi dflt (str_iso_sp_s t off.render) =
      .ok { dt := { t with us := 0 }, tz := offZone o tznames off, tokens := none } :=
  (rend_iso_sp_s cls yf year century o tznames tzi ho hdf t dflt ht).tpl ho off hoff (numEnds_off cls off) trivial

/-- C15, **a sentence containing one date**: any number of filler words, `iso_sp_s`, any number of filler words -/
theorem sentence_iso_sp_s (cls : Char → CClass) [AsciiOK cls] (yf : Bool) (year century : Int) (o : Opts) (tznames : List Token) (tzi : TzInfos)
    (hf : (o.fuzzy || o.fuzzyWithTokens) = true) (htz1 : tzi.applies none = false) (htz2 : tzi.applies (some ['U', 'T', 'C']) = false)
    (hdf : o.dayfirst.getD false = false) (t dflt : DT) (ht : t.Valid) (_hdv : dflt.Valid) (lead ws : List Token) (hlead : ∀ w ∈ lead, fillerWord w = true) (hws : ∀ w ∈ ws, fillerWord w = true) :
    SentenceAnswer cls (Info.default false yf year century) o tznames tzi dflt (leadChars lead ++ str_iso_sp_s t (fillerChars ws)) ({ t with us := 0 })
      (leadToks lead).length ((leadToks lead).length + 11) :=
  (rend_iso_sp_s cls yf year century { o with fuzzy := false, fuzzyWithTokens := false } tznames tzi ⟨rfl, rfl, htz1, htz2⟩ hdf t dflt ht).sentence
    hf lead ws hlead hws (numEnds_filler cls ws) trivial

def core_iso_T_s (t : DT) : List Token :=
  [y4 t.y.toNat, ['-'], dtok [t.m.toNat / 10, t.m.toNat], ['-'], dtok [t.d.toNat / 10, t.d.toNat], ['T'], dtok [t.hh.toNat / 10, t.hh.toNat], [':'], dtok [t.mm.toNat / 10, t.mm.toNat], [':'], dtok [t.ss.toNat / 10, t.ss.toNat]]

theorem lex_iso_T_s (cls : Char → CClass) [AsciiOK cls] (t : DT) (rest : List Char) (he : NumEnds cls rest) :
    scan cls .init (str_iso_T_s t rest) = core_iso_T_s t ++ scan cls .init rest := by
  unfold str_iso_T_s core_iso_T_s
  rw [lex_pad4 cls _ _ (numEnds_ascii cls _ _ (by decide)),
      lex_punct cls '-' _ (by decide),
      lex_pad2 cls _ _ (numEnds_ascii cls _ _ (by decide)),
      lex_punct cls '-' _ (by decide),
      lex_pad2 cls _ _ (numEnds_ascii cls _ _ (by decide)),
      lex_letter cls 'T' _ (by decide) (wordEnds_num cls _ _ (by first | exact ⟨_, _, rfl⟩ | exact ⟨_, _, pad2_dtok _⟩ | exact ⟨_, _, pad4_dtok _⟩ | (unfold dec12; split <;> exact ⟨_, _, rfl⟩))),
      lex_pad2 cls _ _ (numEnds_ascii cls _ _ (by decide)),
      lex_punct cls ':' _ (by decide),
      lex_pad2 cls _ _ (numEnds_ascii cls _ _ (by decide)),
      lex_punct cls ':' _ (by decide),
      lex_pad2 cls _ _ he]
  rfl

theorem rend_iso_T_s (cls : Char → CClass) [AsciiOK cls] (yf : Bool) (year century : Int) (o : Opts) (tznames : List Token) (tzi : TzInfos)
    (ho : StrictOpts o tzi) (hdf : o.dayfirst.getD false = false) (t dflt : DT) (ht : t.Valid) :
    Rendering cls false yf year century o tznames tzi dflt (str_iso_T_s t) (core_iso_T_s t) (NumEnds cls) (fun _ => True)
      ({ t with us := 0 }) := by
  have N := dtNums ht
  refine ⟨fun rest => by simp [str_iso_T_s], lex_iso_T_s cls t, _, _, [5], rfl, rfl, rfl, rfl, fun fz suf _ =>
    run_date3_hms (l := core_iso_T_s t ++ suf) (by rfl) (Or.inl rfl) (Or.inr rfl) N.y N.m N.d (by decide) (by decide)
      (by decide) (Or.inr (Or.inr (by decide))) N.hh N.mm (parsems_num N.ss (by decide)) (by decide) (by have := N.bmm; omega), ?_⟩
  refine finish_t yf year century o tznames tzi dflt ht _ _ t.y.toNat _ ?_ (convertyear_full _ ht _ (Or.inl rfl)) rfl rfl (Or.inl rfl)
    ho.tz1 ?_ (valid_fields ht (valid_hh ht) (valid_mm ht) (valid_ss ht) ⟨by decide, by decide⟩)
  · rw [hdf]; exact resolve_Ymd _ _ _ _ _
  · simp only [fieldOr, N.eh, N.emi, N.es]; rfl

theorem tpl_iso_T_s (cls : Char → CClass) [AsciiOK cls] (yf : Bool) (year century : Int) (o : Opts) (tznames : List Token) (tzi : TzInfos)
    (ho : StrictOpts o tzi) (hdf : o.dayfirst.getD false = false) (t dflt : DT) (ht : t.Valid) (hdv : dflt.Valid) (off : Off) (hoff : off.Dom) :
    parse cls (Info.default false yf year century) o tznames tzi dflt (str_iso_T_s t off.render) =
      .ok { dt := { t with us := 0 }, tz := offZone o tznames off, tokens := none } :=
  (rend_iso_T_s cls yf year century o tznames tzi ho hdf t dflt ht).tpl ho off hoff (numEnds_off cls off) trivial

/-- C15, **a sentence containing one date**: any number of filler words, `iso_T_s`, any number of filler words -/
theorem sentence_iso_T_s (cls : Char → CClass) [AsciiOK cls] (yf : Bool) (year century : Int) (o : Opts) (tznames : List Token) (tzi : TzInfos)
    (hf : (o.fuzzy || o.fuzzyWithTokens) = true) (htz1 : tzi.applies none = false) (htz2 : tzi.applies (some ['U', 'T', 'C']) = false)
    (hdf : o.dayfirst.getD false = false) (t dflt : DT) (ht : t.Valid) (_hdv : dflt.Valid) (lead ws : List Token) (hlead : ∀ w ∈ lead, fillerWord w = true) (hws : ∀ w ∈ ws, fillerWord w = true) :
    SentenceAnswer cls (Info.default false yf year century) o tznames tzi dflt (leadChars lead ++ str_iso_T_s t (fillerChars ws)) ({ t with us := 0 })
      (leadToks lead).length ((leadToks lead).length + 11) :=
  (rend_iso_T_s cls yf year century { o with fuzzy := false, fuzzyWithTokens := false } tznames tzi ⟨rfl, rfl, htz1, htz2⟩ hdf t dflt ht).sentence
    hf lead ws hlead hws (numEnds_filler cls ws) trivial

def core_iso_sp_min (t : DT) : List Token :=
  [y4 t.y.toNat, ['-'], dtok [t.m.toNat / 10, t.m.toNat], ['-'], dtok [t.d.toNat / 10, t.d.toNat], [' '], dtok [t.hh.toNat / 10, t.hh.toNat], [':'], dtok [t.mm.toNat / 10, t.mm.toNat]]

theorem lex_iso_sp_min (cls : Char → CClass) [AsciiOK cls] (t : DT) (rest : List Char) (he : NumEnds cls rest) :
    scan cls .init (str_iso_sp_min t rest) = core_iso_sp_min t ++ scan cls .init rest := by
  unfold str_iso_sp_min core_iso_sp_min
  rw [lex_pad4 cls _ _ (numEnds_ascii cls _ _ (by decide)),
      lex_punct cls '-' _ (by decide),
      lex_pad2 cls _ _ (numEnds_ascii cls _ _ (by decide)),
      lex_punct cls '-' _ (by decide),
      lex_pad2 cls _ _ (numEnds_sp cls _),
      lex_sp,
      lex_pad2 cls _ _ (numEnds_ascii cls _ _ (by decide)),
      lex_punct cls ':' _ (by decide),
      lex_pad2 cls _ _ he]
  rfl

theorem rend_iso_sp_min (cls : Char → CClass) [AsciiOK cls] (yf : Bool) (year century : Int) (o : Opts) (tznames : List Token) (tzi : TzInfos)
    (ho : StrictOpts o tzi) (hdf : o.dayfirst.getD false = false) (t dflt : DT) (ht : t.Valid) (hdv : dflt.Valid) :
    Rendering cls false yf year century o tznames tzi dflt (str_iso_sp_min t) (core_iso_sp_min t) (NumEnds cls) (Suf1 (Info.default false yf year century))
      ({ t with ss := dflt.ss, us := dflt.us }) := by
  have N := dtNums ht
  refine ⟨fun rest => by simp [str_iso_sp_min], lex_iso_sp_min cls t, _, _, [5], rfl, rfl, rfl, rfl, fun fz suf hs =>
    run_date3_hm (l := core_iso_sp_min t ++ suf) (by rfl) (suf1_colon hs) (Or.inl rfl) (Or.inl rfl) N.y N.m N.d (by decide) (by decide)
      (by decide) (Or.inr (Or.inr (by decide))) N.hh N.mm (by decide) (by have := N.bmm; omega), ?_⟩
  refine finish_t yf year century o tznames tzi dflt ht _ _ t.y.toNat _ ?_ (convertyear_full _ ht _ (Or.inl rfl)) rfl rfl (Or.inl rfl)
    ho.tz1 ?_ (valid_fields ht (valid_hh ht) (valid_mm ht) (valid_ss hdv) (valid_us hdv))
  · rw [hdf]; exact resolve_Ymd _ _ _ _ _
  · simp only [fieldOr, N.eh, N.emi]

theorem tpl_iso_sp_min (cls : Char → CClass) [AsciiOK cls] (yf : Bool) (year century : Int) (o : Opts) (tznames : List Token) (tzi : TzInfos)
    (ho : StrictOpts o tzi) (hdf : o.dayfirst.getD false = false) (t dflt : DT) (ht : t.Valid) (hdv : dflt.Valid) (off : Off) (hoff : off.Dom) :
    parse cls (Info.default false yf year century) o tznames tzi dflt (str_iso_sp_min t off.render) =
      .ok { dt := { t with ss := dflt.ss, us := dflt.us }, tz := offZone o tznames off, tokens := none } :=
  (rend_iso_sp_min cls yf year century o tznames tzi ho hdf t dflt ht hdv).tpl ho off hoff (numEnds_off cls off) (suf1_off false yf year century off)

/-- C15, **a sentence containing one date**: any number of filler words, `iso_sp_min`, any number of filler words -/
theorem sentence_iso_sp_min (cls : Char → CClass) [AsciiOK cls] (yf : Bool) (year century : Int) (o : Opts) (tznames : List Token) (tzi : TzInfos)
    (hf : (o.fuzzy || o.fuzzyWithTokens) = true) (htz1 : tzi.applies none = false) (htz2 : tzi.applies (some ['U', 'T', 'C']) = false)
    (hdf : o.dayfirst.getD false = false) (t dflt : DT) (ht : t.Valid) (hdv : dflt.Valid) (lead ws : List Token) (hlead : ∀ w ∈ lead, fillerWord w = true) (hws : ∀ w ∈ ws, fillerWord w = true) :
    SentenceAnswer cls (Info.default false yf year century) o tznames tzi dflt (leadChars lead ++ str_iso_sp_min t (fillerChars ws)) ({ t with ss := dflt.ss, us := dflt.us })
      (leadToks lead).length ((leadToks lead).length + 9) :=
  (rend_iso_sp_min cls yf year century { o with fuzzy := false, fuzzyWithTokens := false } tznames tzi ⟨rfl, rfl, htz1, htz2⟩ hdf t dflt ht hdv).sentence
    hf lead ws hlead hws (numEnds_filler cls ws) (suf1_filler false yf year century ws)

def core_iso_T_min (t : DT) : List Token :=
  [y4 t.y.toNat, ['-'], dtok [t.m.toNat / 10, t.m.toNat], ['-'], dtok [t.d.toNat / 10, t.d.toNat], ['T'], dtok [t.hh.toNat / 10, t.hh.toNat], [':'], dtok [t.mm.toNat / 10, t.mm.toNat]]

theorem lex_iso_T_min (cls : Char → CClass) [AsciiOK cls] (t : DT) (rest : List Char) (he : NumEnds cls rest) :
    scan cls .init (str_iso_T_min t rest) = core_iso_T_min t ++ scan cls .init rest := by
  unfold str_iso_T_min core_iso_T_min
  rw [lex_pad4 cls _ _ (numEnds_ascii cls _ _ (by decide)),
      lex_punct cls '-' _ (by decide),
      lex_pad2 cls _ _ (numEnds_ascii cls _ _ (by decide)),
      lex_punct cls '-' _ (by decide),
      lex_pad2 cls _ _ (numEnds_ascii cls _ _ (by decide)),
      lex_letter cls 'T' _ (by decide) (wordEnds_num cls _ _ (by first | exact ⟨_, _, rfl⟩ | exact ⟨_, _, pad2_dtok _⟩ | exact ⟨_, _, pad4_dtok _⟩ | (unfold dec12; split <;> exact ⟨_, _, rfl⟩))),
      lex_pad2 cls _ _ (numEnds_ascii cls _ _ (by decide)),
      lex_punct cls ':' _ (by decide),
      lex_pad2 cls _ _ he]
  rfl

theorem rend_iso_T_min (cls : Char → CClass) [AsciiOK cls] (yf : Bool) (year century : Int) (o : Opts) (tznames : List Token) (tzi : TzInfos)
    (ho : StrictOpts o tzi) (hdf : o.dayfirst.getD false = false) (t dflt : DT) (ht : t.Valid) (hdv : dflt.Valid) :
    Rendering cls false yf year century o tznames tzi dflt (str_iso_T_min t) (core_iso_T_min t) (NumEnds cls) (Suf1 (Info.default false yf year century))
      ({ t with ss := dflt.ss, us := dflt.us }) := by
  have N := dtNums ht
  refine ⟨fun rest => by simp [str_iso_T_min], lex_iso_T_min cls t, _, _, [5], rfl, rfl, rfl, rfl, fun fz suf hs =>
    run_date3_hm (l := core_iso_T_min t ++ suf) (by rfl) (suf1_colon hs) (Or.inl rfl) (Or.inr rfl) N.y N.m N.d (by decide) (by decide)
      (by decide) (Or.inr (Or.inr (by decide))) N.hh N.mm (by decide) (by have := N.bmm; omega), ?_⟩
  refine finish_t yf year century o tznames tzi dflt ht _ _ t.y.toNat _ ?_ (convertyear_full _ ht _ (Or.inl rfl)) rfl rfl (Or.inl rfl)
    ho.tz1 ?_ (valid_fields ht (valid_hh ht) (valid_mm ht) (valid_ss hdv) (valid_us hdv))
  · rw [hdf]; exact resolve_Ymd _ _ _ _ _
  · simp only [fieldOr, N.eh, N.emi]

theorem tpl_iso_T_min (cls : Char → CClass) [AsciiOK cls] (yf : Bool) (year century : Int) (o : Opts) (tznames : List Token) (tzi : TzInfos)
    (ho : StrictOpts o tzi) (hdf : o.dayfirst.getD false = false) (t dflt : DT) (ht : t.Valid) (hdv : dflt.Valid) (off : Off) (hoff : off.Dom) :
    parse cls (Info.default false yf year century) o tznames tzi dflt (str_iso_T_min t off.render) =
      .ok { dt := { t with ss := dflt.ss, us := dflt.us }, tz := offZone o tznames off, tokens := none } :=
  (rend_iso_T_min cls yf year century o tznames tzi ho hdf t dflt ht hdv).tpl ho off hoff (numEnds_off cls off) (suf1_off false yf year century off)

/-- C15, **a sentence containing one date**: any number of filler words, `iso_T_min`, any number of filler words -/
theorem sentence_iso_T_min (cls : Char → CClass) [AsciiOK cls] (yf : Bool) (year century : Int) (o : Opts) (tznames : List Token) (tzi : TzInfos)
    (hf : (o.fuzzy || o.fuzzyWithTokens) = true) (htz1 : tzi.applies none = false) (htz2 : tzi.applies (some ['U', 'T', 'C']) = false)
    (hdf : o.dayfirst.getD false = false) (t dflt : DT) (ht : t.Valid) (hdv : dflt.Valid) (lead ws : List Token) (hlead : ∀ w ∈ lead, fillerWord w = true) (hws : ∀ w ∈ ws, fillerWord w = true) :
    SentenceAnswer cls (Info.default false yf year century) o tznames tzi dflt (leadChars lead ++ str_iso_T_min t (fillerChars ws)) ({ t with ss := dflt.ss, us := dflt.us })
      (leadToks lead).length ((leadToks lead).length + 9) :=
  (rend_iso_T_min cls yf year century { o with fuzzy := false, fuzzyWithTokens := false } tznames tzi ⟨rfl, rfl, htz1, htz2⟩ hdf t dflt ht hdv).sentence
    hf lead ws hlead hws (numEnds_filler cls ws) (suf1_filler false yf year century ws)

end PM
