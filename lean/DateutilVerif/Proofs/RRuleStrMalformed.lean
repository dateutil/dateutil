/-
  Proofs/RRuleStrMalformed.lean — unknown and malformed `NAME=VALUE` parts make `_parse_rfc_rrule`
  fail (and the failure is a ValueError), wherever in the line they stand (C13).
-/
import DateutilVerif.Proofs.RRuleStrOpts

namespace RRuleStr
open ICal (isSpace upper splitOnChar pyInt rstrip strip isDigit splitLines)

variable {po : ParseOpts}

/-- the sixteen names that have a `_handle_*` method -/
def handledNames : List (List Char) :=
  [lit "INTERVAL", lit "COUNT", lit "BYSETPOS", lit "BYMONTH", lit "BYMONTHDAY", lit "BYYEARDAY", lit "BYEASTER",
   lit "BYWEEKNO", lit "BYHOUR", lit "BYMINUTE", lit "BYSECOND", lit "FREQ", lit "UNTIL", lit "WKST",
   lit "BYWEEKDAY", lit "BYDAY"]

def intNames : List (List Char) := [lit "INTERVAL", lit "COUNT"]
def intListNames : List (List Char) :=
  [lit "BYSETPOS", lit "BYMONTH", lit "BYMONTHDAY", lit "BYYEARDAY", lit "BYEASTER",
   lit "BYWEEKNO", lit "BYHOUR", lit "BYMINUTE", lit "BYSECOND"]
def dayNames : List (List Char) := [lit "BYWEEKDAY", lit "BYDAY"]

def StepFails (po : ParseOpts) (p : List Char) : Prop := ∀ a, stepPair po a p = .error .ValueError

theorem stepFails_of_handleU {p name value : List Char} {e : Py.PyErr} (hs : splitOnChar '=' p = [name, value])
    (h : handleU po (upper name) (upper value) = .error e) : StepFails po p := by
  intro a; unfold stepPair; rw [hs]; simp only [handle, h]

theorem foldlM_stepPair_fails {p : List Char} (hp : StepFails po p) : ∀ (ps : List (List Char)) (a : RArgs),
    p ∈ ps → ps.foldlM (stepPair po) a = .error .ValueError
  | [], _, h => by simp at h
  | q :: qs, a, h => by
    rw [List.foldlM_cons]
    cases hq : stepPair po a q with
    | error e => rw [(stepPair_sat a q).of_err hq]; rfl
    | ok a' =>
      rcases List.mem_cons.mp h with rfl | h
      · rw [hp a] at hq; cases hq
      · exact foldlM_stepPair_fails hp qs a' h

theorem parseRRuleLine_fails {line value p : List Char} (hv : lineValue line = .ok value)
    (hp : p ∈ splitOnChar ';' value) (hbad : StepFails po p) : parseRRuleLine po line = .error .ValueError := by
  unfold parseRRuleLine
  rw [hv]
  exact foldlM_stepPair_fails hbad _ _ hp

theorem mapM_fails {α β : Type} {f : α → Py.R β} {x : α} {e : Py.PyErr} (hx : f x = .error e) :
    ∀ (l : List α), x ∈ l → ∃ e', l.mapM f = .error e'
  | [], h => by simp at h
  | y :: l, h => by
    rw [List.mapM_cons]
    cases hy : f y with
    | error e' => exact ⟨e', rfl⟩
    | ok b =>
      rcases List.mem_cons.mp h with rfl | h
      · rw [hx] at hy; cases hy
      · obtain ⟨e', he'⟩ := mapM_fails hx l h
        exact ⟨e', by rw [he']; rfl⟩

/-- the classes of bad parts -/
inductive BadPart : List Char → Prop
  /-- `name, value = pair.split('=')` does not unpack: no `=` or more than one -/
  | notPair (p : List Char) (h : (splitOnChar '=' p).length ≠ 2) : BadPart p
  /-- no `_handle_NAME` -/
  | unknown (p name value : List Char) (hs : splitOnChar '=' p = [name, value]) (h : upper name ∉ handledNames) : BadPart p
  /-- INTERVAL / COUNT with a non-integer -/
  | badInt (p name value : List Char) (hs : splitOnChar '=' p = [name, value]) (hn : upper name ∈ intNames)
      (h : pyInt (upper value) = none) : BadPart p
  /-- an integer-list part with a non-integer item (an empty item included) -/
  | badIntItem (p name value item : List Char) (hs : splitOnChar '=' p = [name, value]) (hn : upper name ∈ intListNames)
      (hi : item ∈ splitOnChar ',' (upper value)) (h : pyInt item = none) : BadPart p
  | badFreq (p name value : List Char) (hs : splitOnChar '=' p = [name, value]) (hn : upper name = lit "FREQ")
      (h : lookup freqMap (upper value) = none) : BadPart p
  | badWkst (p name value : List Char) (hs : splitOnChar '=' p = [name, value]) (hn : upper name = lit "WKST")
      (h : lookup weekdayMap (upper value) = none) : BadPart p
  /-- BYDAY / BYWEEKDAY with an item `parseWDay` rejects (see `parseWDay_empty`, `parseWDay_zero…`, `parseWDay_unknown_name`) -/
  | badDay (p name value item : List Char) (e : Py.PyErr) (hs : splitOnChar '=' p = [name, value]) (hn : upper name ∈ dayNames)
      (hi : item ∈ splitOnChar ',' (upper value)) (h : parseWDay item = .error e) : BadPart p

theorem handleU_unknown (name value : List Char) (h : name ∉ handledNames) : handleU po name value = .error .AttributeError := by
  refine handleU_of_noField ?_ value
  simp only [handledNames, List.mem_cons, List.not_mem_nil, or_false, not_or] at h
  obtain ⟨h1, h2, h3, h4, h5, h6, h7, h8, h9, h10, h11, h12, h13, h14, h15, h16⟩ := h
  unfold fieldOfName
  simp [h1, h2, h3, h4, h5, h6, h7, h8, h9, h10, h11, h12, h13, h14, h15, h16]

/-- `intNames` unfolds to `[.interval, .count].map fieldName` (likewise the next list): that is all `mem_fieldNames` needs -/
theorem intNames_fields {n : List Char} (h : n ∈ intNames) : ∃ f ∈ [Field.interval, .count], fieldOfName n = some f :=
  mem_fieldNames h

theorem intListNames_fields {n : List Char} (h : n ∈ intListNames) :
    ∃ f ∈ [Field.bysetpos, .bymonth, .bymonthday, .byyearday, .byeaster, .byweekno, .byhour, .byminute, .bysecond],
      fieldOfName n = some f :=
  mem_fieldNames h

theorem dayNames_fields {n : List Char} (h : n ∈ dayNames) : fieldOfName n = some .byweekday := by
  simp only [dayNames, List.mem_cons, List.not_mem_nil, or_false] at h
  rcases h with rfl | rfl
  · exact fieldOfName_byweekday
  · exact fieldOfName_fieldName .byweekday

theorem readField_int_fails {f : Field} {value : List Char} (hf : f ∈ [Field.interval, .count]) (h : pyInt value = none) :
    readField po f value = .error .ValueError := by
  simp only [List.mem_cons, List.not_mem_nil, or_false] at hf
  rcases hf with rfl | rfl <;> simp only [readField, int!, h] <;> rfl

theorem readField_intList_fails {f : Field} {value : List Char} {e : Py.PyErr}
    (hf : f ∈ [Field.bysetpos, .bymonth, .bymonthday, .byyearday, .byeaster, .byweekno, .byhour, .byminute, .bysecond])
    (h : intList value = .error e) : readField po f value = .error e := by
  simp only [List.mem_cons, List.not_mem_nil, or_false] at hf
  rcases hf with rfl | rfl | rfl | rfl | rfl | rfl | rfl | rfl | rfl <;> simp only [readField, h] <;> rfl

theorem intList_fails {value item : List Char} (hi : item ∈ splitOnChar ',' value) (h : pyInt item = none) :
    ∃ e, intList value = .error e :=
  mapM_fails (f := int!) (e := .ValueError) (by simp [int!, h]) _ hi

theorem badPart_fails {p : List Char} (h : BadPart p) : StepFails po p := by
  cases h with
  | notPair h =>
    intro a; unfold stepPair; split
    · next heq => rw [heq] at h; simp at h
    · rfl
  | unknown name value hs h => exact stepFails_of_handleU hs (handleU_unknown _ _ h)
  | badInt name value hs hn h =>
    obtain ⟨f, hf, hfn⟩ := intNames_fields hn
    exact stepFails_of_handleU hs ((handleU_of_field hfn _).trans (readField_int_fails hf h))
  | badIntItem name value item hs hn hi h =>
    obtain ⟨e, he⟩ := intList_fails hi h
    obtain ⟨f, hf, hfn⟩ := intListNames_fields hn
    exact stepFails_of_handleU hs ((handleU_of_field hfn _).trans (readField_intList_fails hf he))
  | badFreq name value hs hn h =>
    exact stepFails_of_handleU (e := .KeyError) hs (by
      rw [hn]; exact (handleU_of_field (fieldOfName_fieldName .freq) _).trans (by simp only [readField, h]))
  | badWkst name value hs hn h =>
    exact stepFails_of_handleU (e := .KeyError) hs (by
      rw [hn]; exact (handleU_of_field (fieldOfName_fieldName .wkst) _).trans (by simp only [readField, h]))
  | badDay name value item e hs hn hi h =>
    obtain ⟨e', he⟩ := mapM_fails h _ hi
    exact stepFails_of_handleU (e := e') hs (by rw [handleU_of_field (dayNames_fields hn)]; simp only [readField, he]; rfl)

theorem parseWDay_empty : parseWDay [] = .error .ValueError := by decide

end RRuleStr
