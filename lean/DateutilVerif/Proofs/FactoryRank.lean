/-
  Proofs/FactoryRank.lean — a variant that strictly decreases with every statement of a call
  (the `set_cache_size` loop is bounded by the length of the strong cache, which only the lock
  holder changes).
-/
import DateutilVerif.Proofs.FactoryStep

namespace Fact

variable {kd : Kind} {res : Key → Res}

def rank (g : Glob) (th : Thread) : Nat :=
  match th.pc with
  | .idle => 0
  | .lAcq => 13 | .lGet => 12 | .lTest => 11 | .lAlloc => 10 | .lInit => 9 | .lSdRead => 8 | .lSdWrite => 7
  | .xTouch => 6 | .xLen => 5 | .xEvict => 4 | .xRel => 3 | .xRet => 2 | .xRelX => 1
  | .gAcq => 16 | .gGet => 15 | .gTest => 14 | .gAlloc => 13 | .gInit => 12 | .gCheck => 11 | .gStore => 10
  | .gRelE => 3 | .gRetE => 2
  | .sAcq => 2 * g.strong.length + 5 | .sSet => 2 * g.strong.length + 4
  | .sLoop => 2 * g.strong.length + 3 | .sPop => 2 * g.strong.length + 2 | .sRel => 1
  | .cAcq => 5 | .cWeak => 4 | .cStrong => 3 | .cRel => 2
  | .fAlloc => 4 | .fInit => 3 | .fRet => 2
  | .uTest => 6 | .uAlloc => 5 | .uInit => 4 | .uStore => 3 | .uRet => 2

theorem rank_decreases {t : Tid} {g g' : Glob} {th th' : Thread} (hpc : th.pc ≠ .idle)
    (h : tstep kd res t g th = some (g', th')) : rank g' th' < rank g th := by
  revert h
  fun_cases tstep kd res t g th <;> intro h <;> cases h <;> first | exact absurd ‹th.pc = _› hpc | skip
  all_goals (try split) <;> simp only [rank, ‹th.pc = _›] <;> (try simp only [‹g.strong = _›, List.length_cons]) <;>
    omega

theorem rank_stable {t t' : Tid} {g g' : Glob} {th2 : Thread} (hne : t ≠ t') (hl : g.lock = some t')
    (hGu : Guar kd t g g') : rank g' th2 = rank g th2 := by
  have : g.lock ≠ some t := by rw [hl]; intro h; cases h; exact hne rfl
  have hs := (hGu.noLock this).1
  simp only [rank, hs]

end Fact
