/-
  Proofs/RRuleSubSecondly.lean — SECONDLY over any day filter, with any of BYHOUR / BYMINUTE / BYSECOND.  The reachability
  loop (`for j in range(0, rep_rate // gcd(interval, rep_rate))` of the SECONDLY branch), started at second `W = hour·3600 + minute·60 + second` of the day, visits the grid seconds
  `W + t·interval`: each pass steps on the seconds (`__mod_distance` over BYSECOND when given, passing over grid seconds
  whose second is not listed; else `+interval`) and then tests hour, minute and second.  It stops at the LEAST `t ≥ 1`
  that is accepted, provided one occurs within `fuel` grid steps.  (The loop carries into the hour only when the minute
  carries; with `0 ≤ hour ≤ 23` that is plain mixed-radix arithmetic.)
-/
import DateutilVerif.Proofs.RRuleSubStep

namespace RRule
open Cal

theorem accepts_secondly_shift (r : Rule) (V c : Int) :
    SubFreq.accepts .secondly r (V - 86400 * c) = SubFreq.accepts .secondly r V := by
  obtain ⟨e1, e2, e3⟩ : (V - 86400 * c) / 3600 % 24 = V / 3600 % 24 ∧ (V - 86400 * c) / 60 % 60 = V / 60 % 60 ∧
      (V - 86400 * c) % 60 = V % 60 := by omega
  simp only [SubFreq.accepts, e1, e2, e3]

/-- one pass of the loop whose step on the seconds returned `(nm, se')` -/
theorem secondlyLoop_succ (r : Rule) (n : Nat) (second minute hour day : Int) (fx : Bool)
    (h0 : 0 ≤ hour) (h23 : hour ≤ 23) (nm se' : Int)
    (hstep : (if truthy r.bysecond then modDistance r.interval (r.bysecond.getD []) 60 60 0 second
      else some (Py.divmod (second + r.interval) 60)) = some (nm, se')) (hse : 0 ≤ se' ∧ se' ≤ 59)
    (V : Int) (hV : V = hour * 3600 + minute * 60 + nm * 60 + se') :
    secondlyLoop r (n + 1) second minute hour day fx =
      if ((!(truthy r.byhour) || memO (V / 3600 % 24) r.byhour) &&
          (!(truthy r.byminute) || memO (V / 60 % 60) r.byminute) &&
          (!(truthy r.bysecond) || memO (V % 60) r.bysecond)) = true then
        .ok (V % 60, V / 60 % 60, V / 3600 % 24, (if V / 86400 ≠ 0 then day + V / 86400 else day),
          (if V / 86400 ≠ 0 then true else fx))
      else secondlyLoop r n (V % 60) (V / 60 % 60) (V / 3600 % 24) (if V / 86400 ≠ 0 then day + V / 86400 else day)
          (if V / 86400 ≠ 0 then true else fx) := by
  obtain ⟨nh, hnh⟩ : ∃ nh, nh = (minute + nm) / 60 := ⟨_, rfl⟩
  obtain ⟨mi', hmi'⟩ : ∃ mi', mi' = (minute + nm) % 60 := ⟨_, rfl⟩
  obtain ⟨nd, hnd⟩ : ∃ nd, nd = (hour + nh) / 24 := ⟨_, rfl⟩
  obtain ⟨hr', hhr'⟩ : ∃ hr', hr' = (hour + nh) % 24 := ⟨_, rfl⟩
  obtain ⟨a1, a2, a3, a4⟩ : V % 60 = se' ∧ V / 60 % 60 = mi' ∧ V / 3600 % 24 = hr' ∧ V / 86400 = nd := by omega
  rw [a1, a2, a3, a4]
  conv => lhs; unfold secondlyLoop
  dsimp only
  rw [hstep]
  simp only [Py.divmod, Py.fdiv_pos _ (by decide : (0 : Int) < 24), Py.fmod_pos _ (by decide : (0 : Int) < 24),
    Py.fdiv_pos _ (by decide : (0 : Int) < 60), Py.fmod_pos _ (by decide : (0 : Int) < 60)]
  rw [← hnh, ← hmi']
  by_cases hz0 : nh = 0
  · obtain ⟨hnd0, hhr0⟩ : nd = 0 ∧ hr' = hour := by omega
    subst hnd0
    rw [hhr0]
    simp [hz0]
  · simp only [ne_eq, hz0, not_false_eq_true, ↓reduceIte, true_and]
    rw [← hnd, ← hhr']

/-- one pass of the loop on the grid: `d ≥ 1` steps on, over grid seconds whose second is not listed, then the test -/
theorem secondlyLoop_pass (r : Rule) (hi : 1 ≤ r.interval) (n : Nat) (second minute hour day : Int) (fx : Bool)
    (hs0 : 0 ≤ second) (hm0 : 0 ≤ minute) (h0 : 0 ≤ hour) (h23 : hour ≤ 23)
    (hex : ∃ ts : Nat, 1 ≤ ts ∧
      SubFreq.accepts .secondly r (hour * 3600 + minute * 60 + second + ts * r.interval) = true) :
    ∃ d : Nat, 1 ≤ d ∧
      (∀ t' : Nat, 1 ≤ t' → t' < d →
        SubFreq.accepts .secondly r (hour * 3600 + minute * 60 + second + t' * r.interval) = false) ∧
      secondlyLoop r (n + 1) second minute hour day fx =
        if SubFreq.accepts .secondly r (hour * 3600 + minute * 60 + second + d * r.interval) = true then
          .ok ((hour * 3600 + minute * 60 + second + d * r.interval) % 60, (hour * 3600 + minute * 60 + second + d * r.interval) / 60 % 60, (hour * 3600 + minute * 60 + second + d * r.interval) / 3600 % 24,
            (if (hour * 3600 + minute * 60 + second + d * r.interval) / 86400 ≠ 0 then day + (hour * 3600 + minute * 60 + second + d * r.interval) / 86400 else day), (if (hour * 3600 + minute * 60 + second + d * r.interval) / 86400 ≠ 0 then true else fx))
        else secondlyLoop r n ((hour * 3600 + minute * 60 + second + d * r.interval) % 60) ((hour * 3600 + minute * 60 + second + d * r.interval) / 60 % 60) ((hour * 3600 + minute * 60 + second + d * r.interval) / 3600 % 24)
          (if (hour * 3600 + minute * 60 + second + d * r.interval) / 86400 ≠ 0 then day + (hour * 3600 + minute * 60 + second + d * r.interval) / 86400 else day) (if (hour * 3600 + minute * 60 + second + d * r.interval) / 86400 ≠ 0 then true else fx) := by
  obtain ⟨ts, hts1, hts3⟩ := hex
  obtain ⟨W, hW⟩ : ∃ W, W = hour * 3600 + minute * 60 + second := ⟨_, rfl⟩
  rw [← hW] at hts3 ⊢
  -- the second of a grid second depends on `second` only
  have hsec : ∀ u : Nat, (W + (u : Int) * r.interval) % 60 = (second + (u : Int) * r.interval) % 60 := by
    intro u; generalize (u : Int) * r.interval = P; omega
  have hacc : ∀ V, SubFreq.accepts .secondly r V = ((!(truthy r.byhour) || memO (V / 3600 % 24) r.byhour) &&
      (!(truthy r.byminute) || memO (V / 60 % 60) r.byminute) &&
      (!(truthy r.bysecond) || memO (V % 60) r.bysecond)) := fun V => rfl
  obtain ⟨s, hs1, _, _, hs4, hs5⟩ := unitStep_exact r.interval r.bysecond 60 (by omega) 60 rfl second ts hts1
    (by rw [hacc, Bool.and_eq_true, hsec] at hts3; exact hts3.2)
  refine ⟨s, hs1, fun u h1 h2 => by rw [hacc, hsec, hs4 u h1 h2, Bool.and_false], ?_⟩
  have hsi : (0 : Int) ≤ (s : Int) * r.interval := Int.mul_nonneg (by omega) (by omega)
  rw [secondlyLoop_succ r n second minute hour day fx h0 h23 _ _ hs5 (by omega) (W + (s : Int) * r.interval)
    (by rw [hW]; generalize (s : Int) * r.interval = P; omega), hacc (W + (s : Int) * r.interval)]

/-- **the SECONDLY loop stops at the least accepted grid second** within its fuel -/
theorem secondlyLoop_least (r : Rule) (hi : 1 ≤ r.interval) (n : Nat) (second minute hour day : Int) (fx : Bool)
    (hs0 : 0 ≤ second) (hm0 : 0 ≤ minute) (h0 : 0 ≤ hour) (h23 : hour ≤ 23)
    (hex : ∃ t : Nat, 1 ≤ t ∧ t ≤ n ∧
      SubFreq.accepts .secondly r (hour * 3600 + minute * 60 + second + t * r.interval) = true) :
    ∃ t : Nat, 1 ≤ t ∧ t ≤ n ∧
      SubFreq.accepts .secondly r (hour * 3600 + minute * 60 + second + t * r.interval) = true ∧
      (∀ t' : Nat, 1 ≤ t' → t' < t →
        SubFreq.accepts .secondly r (hour * 3600 + minute * 60 + second + t' * r.interval) = false) ∧
      secondlyLoop r n second minute hour day fx =
        .ok ((hour * 3600 + minute * 60 + second + t * r.interval) % 60,
             (hour * 3600 + minute * 60 + second + t * r.interval) / 60 % 60,
             (hour * 3600 + minute * 60 + second + t * r.interval) / 3600 % 24,
             day + (hour * 3600 + minute * 60 + second + t * r.interval) / 86400,
             fx || decide ((hour * 3600 + minute * 60 + second + t * r.interval) / 86400 ≠ 0)) :=
  search_least (σ := Int × Int × Int) (fun n s day fx => secondlyLoop r n s.1 s.2.1 s.2.2 day fx)
    (fun s => s.2.2 * 3600 + s.2.1 * 60 + s.1) (fun V => (V % 60, V / 60 % 60, V / 3600 % 24))
    (fun s d f => (s.1, s.2.1, s.2.2, d, f)) (fun s => 0 ≤ s.1 ∧ 0 ≤ s.2.1 ∧ 0 ≤ s.2.2 ∧ s.2.2 ≤ 23)
    (SubFreq.accepts .secondly r) 86400 r.interval (by omega) hi (fun s hs => by omega)
    (fun V hV => by dsimp only; omega)
    (fun V c => ⟨accepts_secondly_shift r V c, by
      obtain ⟨e1, e2, e3⟩ : (V - 86400 * c) % 60 = V % 60 ∧ (V - 86400 * c) / 60 % 60 = V / 60 % 60 ∧
        (V - 86400 * c) / 3600 % 24 = V / 3600 % 24 := by omega
      rw [e1, e2, e3]⟩)
    (fun n s day fx hP hex => secondlyLoop_pass r hi n s.1 s.2.1 s.2.2 day fx hP.1 hP.2.1 hP.2.2.1 hP.2.2.2 hex)
    n (second, minute, hour) day fx ⟨hs0, hm0, h0, h23⟩ hex

theorem listed_secondly (a : Args) (V : Int) :
    SubFreq.listed .secondly a (V % 86400) = listed3 a (V / 3600 % 24) (V / 60 % 60) (V % 60) := by
  obtain ⟨e1, e2, e3⟩ : V % 86400 / 3600 = V / 3600 % 24 ∧ V % 86400 / 60 % 60 = V / 60 % 60 ∧
      V % 86400 % 60 = V % 60 := by omega
  simp only [SubFreq.listed, SubFreq.fix, listedF, listed3, e1, e2, e3]

/-- a listed second anywhere on the grid (`reachableS`, `reachableSS`) is at most a day's worth of steps away from
    every grid second -/
theorem secondly_reach (a : Args) (j : Nat)
    (hj : listed3 a (((a.dtstart.hh * 60 + a.dtstart.mm) * 60 + a.dtstart.ss + (j : Int) * a.interval) / 3600 % 24)
      (((a.dtstart.hh * 60 + a.dtstart.mm) * 60 + a.dtstart.ss + (j : Int) * a.interval) / 60 % 60)
      (((a.dtstart.hh * 60 + a.dtstart.mm) * 60 + a.dtstart.ss + (j : Int) * a.interval) % 60) = true) (k : Nat) :
    ∃ t : Nat, 1 ≤ t ∧ t ≤ 86400 ∧ SubFreq.listed .secondly a
      (((a.dtstart.hh * 60 + a.dtstart.mm) * 60 + a.dtstart.ss + ((k + t : Nat) : Int) * a.interval) % 86400) = true := by
  obtain ⟨t, ht1, ht2, ht3⟩ := SubFreq.reach_day .secondly a j (by rw [← listed_secondly] at hj; exact hj) k
  simp only [SubFreq.U] at ht2
  exact ⟨t, ht1, by omega, ht3⟩

variable {a : Args} {r : Rule} {ylo yhi : Int} {Inv : Info → Prop}

/-- what SECONDLY knows about the BY lists: BYHOUR and BYMINUTE (absent or non-empty) are kept as sorted sets, BYSECOND
    was filtered by `__construct_byset`; a listed second is its own time set.  That from every grid second a listed one
    is at most `S` steps away is the family's to say. -/
theorem secondly_by (h : construct a = .ok r) (hf : a.freq = 6)
    (hh : a.byhour = none ∨ ∃ l, a.byhour = some l ∧ l ≠ []) (hm : a.byminute = none ∨ ∃ l, a.byminute = some l ∧ l ≠ [])
    (S : Nat)
    (hS : ∀ k : Nat, ∃ t : Nat, 1 ≤ t ∧ t ≤ S ∧ SubFreq.listed .secondly a
      (((a.dtstart.hh * 60 + a.dtstart.mm) * 60 + a.dtstart.ss + ((k + t : Nat) : Int) * a.interval) % 86400) = true) :
    SubBy .secondly a r S := by
  obtain ⟨sp, bh, bm, bs, ts, _, h2, h3, h4, _, rfl⟩ := construct_ok a r h
  rw [hf] at h2 h3 h4
  refine ⟨?_, ?_, hS⟩
  · intro V k z hV
    simp only [SubFreq.tod, SubFreq.U] at hV
    simp only [SubFreq.accepts, SubFreq.U, listed_secondly, listed3]
    rw [above_listed _ _ _ _ _ _ _ (by omega) h2 hh, above_listed _ _ _ _ _ _ _ (by omega) h3 hm,
      own_listed _ _ _ _ _ _ h4 (by omega) _
        (orbit_digit _ _ _ V k (a.dtstart.hh * 60 + a.dtstart.mm + 1440 * z) (by omega))]
  · intro hr m s hd hl
    simp only [SubFreq.Digits] at hd
    obtain ⟨e1, e2, e3⟩ : ((hr * 60 + m) * 60 + s) / 3600 = hr ∧ ((hr * 60 + m) * 60 + s) / 60 % 60 = m ∧
        ((hr * 60 + m) * 60 + s) % 60 = s := by omega
    simp only [SubFreq.tod, SubFreq.listed, SubFreq.fix, listedF, e1, e2, e3, Bool.and_eq_true] at hl
    simp only [SubFreq.tod, SubFreq.times, SubFreq.fix, e1, e2, e3]
    unfold gettimeset stimeset mkTime
    rw [if_neg (by simp [hf]), if_neg (by simp [hf]), if_pos (by omega)]
    simp only [bind, Except.bind, pure, Except.pure]
    congr 1
    rw [timesOf_eq, hours_eq, minutes_eq, seconds_eq]
    have single : ∀ (l : List Int) (x : Int), l.Pairwise (· < ·) → (∀ y, y ∈ [x] ↔ y ∈ l) → [x] = l := fun l x hl hm =>
      sorted_ext strictInt _ _ (by simp) (hl.imp (by intro a b hab; simpa [ltInt] using hab)) hm
    rw [← single _ hr (restrict_sorted _ _ (unitVals_sorted ..))
          (mem_restrict_listed _ _ (by omega) _ 24 hr (by omega) hl.1.1),
      ← single _ m (restrict_sorted _ _ (unitVals_sorted ..))
          (mem_restrict_listed _ _ (by omega) _ 60 m (by omega) hl.1.2),
      ← single _ s (restrict_sorted _ _ (unitVals_sorted ..))
          (mem_restrict_listed _ _ (by omega) _ 60 s (by omega) hl.2)]
    rfl

/-- the state invariant in SECONDLY's own terms -/
theorem SubGood.secondly {F : DayFilter a r ylo yhi Inv} {k : Nat} {st : State} (hg : SubGood .secondly F k st) :
    ((curOrd st.cur * 24 + st.cur.hour) * 60 + st.cur.minute) * 60 + st.cur.second =
      ((Spec.RRule.startOrd a * 24 + a.dtstart.hh) * 60 + a.dtstart.mm) * 60 + a.dtstart.ss + k * a.interval ∧
    st.timeset = Spec.RRule.timesOf a (some st.cur.hour) (some st.cur.minute) (some st.cur.second) := by
  have hd := hg.digits
  have hi := hg.idx
  have ht := hg.timeset
  simp only [SubFreq.Digits, SubFreq.U, SubFreq.tod, SubFreq.T0, SubFreq.times, SubFreq.fix] at hd hi ht
  obtain ⟨e1, e2, e3⟩ : ((st.cur.hour * 60 + st.cur.minute) * 60 + st.cur.second) / 3600 = st.cur.hour ∧
      ((st.cur.hour * 60 + st.cur.minute) * 60 + st.cur.second) / 60 % 60 = st.cur.minute ∧
      ((st.cur.hour * 60 + st.cur.minute) * 60 + st.cur.second) % 60 = st.cur.second := by omega
  rw [e1, e2, e3] at ht
  exact ⟨by omega, ht⟩

/-- the SECONDLY branch of "Handle frequency and interval" -/
theorem secondly_step (F : DayFilter a r ylo yhi Inv) (h : construct a = .ok r) (hf : a.freq = 6) (hi : 1 ≤ a.interval) {S : Nat}
    (B : SubBy .secondly a r S) (k : Nat) (st : State) (fl : Bool) (c : Option Int) (hg : SubGood .secondly F k st)
    (hb : curOrd st.cur * 86400 + 86399 + S * a.interval < (toOrdinal yhi 12 31 + 1) * 86400) : SubStep .secondly F S k st fl c := by
  obtain ⟨hfr, hint, _⟩ := construct_fields a r h
  have hfreq : r.freq = 6 := by rw [hfr, hf]
  have hd := hg.digits
  simp only [SubFreq.Digits] at hd
  obtain ⟨hX0, hXle, hXt, _⟩ := SubFreq.jump_le .secondly a.interval
    ((st.cur.hour * 60 + st.cur.minute) * 60 + st.cur.second) fl hi (by simp only [SubFreq.U]; omega)
  unfold SubStep
  simp only [SubFreq.tod, SubFreq.U] at hX0 hXle hXt ⊢
  generalize hs0 : SubFreq.jump .secondly a.interval ((st.cur.hour * 60 + st.cur.minute) * 60 + st.cur.second) fl = s0 at *
  have hcast : ∀ u : Nat, (st.cur.hour * 60 + st.cur.minute) * 60 + st.cur.second + ((s0 + u : Nat) : Int) * a.interval =
      st.cur.hour * 3600 + st.cur.minute * 60 + (st.cur.second + (s0 : Int) * a.interval) + (u : Int) * a.interval := by
    intro u; push_cast; rw [Int.add_mul (s0 : Int) (u : Int)]; omega
  -- the reachability loop, within its own bound, to the least accepted second
  obtain ⟨tf, htf1, htf2, htf3⟩ := hg.reach_fuel B s0
  obtain ⟨ts, hts1, hts2, hts3⟩ := hg.reach B s0
  simp only [SubFreq.tod, SubFreq.U] at htf2 htf3 hts3
  rw [hcast] at htf3 hts3
  obtain ⟨hreps, _⟩ := reps_eq a.interval 86400 (by omega)
  obtain ⟨t, ht1, _, ht3, ht4, ht5⟩ := secondlyLoop_least r (by rw [hint]; exact hi)
    (Py.fdiv 86400 ((Int.gcd a.interval 86400 : Nat) : Int)).toNat (st.cur.second + (s0 : Int) * a.interval)
    st.cur.minute st.cur.hour st.cur.day false (by omega) hd.2.1.1 hd.1.1 hd.1.2
    ⟨tf, htf1, by omega, by rw [hint]; exact htf3⟩
  rw [hint] at ht3 ht4 ht5
  have htS : t ≤ S := by
    by_cases hc : t ≤ ts
    · omega
    · have := ht4 ts hts1 (by omega)
      rw [hts3] at this; cases this
  obtain ⟨D, hD⟩ : ∃ D, D = st.cur.hour * 3600 + st.cur.minute * 60 + (st.cur.second + (s0 : Int) * a.interval) +
      (t : Int) * a.interval := ⟨_, rfl⟩
  rw [← hD] at ht3 ht5
  have hti : (0 : Int) ≤ (t : Int) * a.interval := Int.mul_nonneg (by omega) (by omega)
  have htSi : (t : Int) * a.interval ≤ S * a.interval := Int.mul_le_mul_of_nonneg_right (by omega) (by omega)
  have hD0 : 0 ≤ D := by omega
  obtain ⟨hts, st', hfix, hg'⟩ := hg.arrive B c (s0 + t) D
    (by show D = (st.cur.hour * 60 + st.cur.minute) * 60 + st.cur.second + ((s0 + t : Nat) : Int) * a.interval
        rw [hD, hcast]) hD0
    (D / 3600 % 24) (D / 60 % 60) (D % 60) (by simp only [SubFreq.Digits]; omega)
    (by simp only [SubFreq.tod, SubFreq.U]; omega) ht3 (false || decide (D / 86400 ≠ 0))
    (by intro hz; show D / 86400 = 0; simpa using hz) (by simp only [SubFreq.U]; omega)
  simp only [SubFreq.U] at hts hfix
  refine ⟨st', t, ht1, htS, ?_, by rw [← Nat.add_assoc] at hg'; exact hg', ?_⟩
  · rw [advance_secondly_eq r _ fl hfreq]
    dsimp only
    have hsec0 : (if fl = true then st.cur.second +
        Py.fdiv (86399 - (st.cur.hour * 3600 + st.cur.minute * 60 + st.cur.second)) r.interval * r.interval
        else st.cur.second) = st.cur.second + (s0 : Int) * a.interval := by
      cases fl with
      | false => rw [← hs0]; simp [SubFreq.jump]
      | true =>
        rw [if_pos rfl, hint, Py.fdiv_pos _ (by omega), hXt rfl]
        have e : (86400 : Int) - 1 - ((st.cur.hour * 60 + st.cur.minute) * 60 + st.cur.second) =
            86399 - (st.cur.hour * 3600 + st.cur.minute * 60 + st.cur.second) := by omega
        rw [e]
    rw [hsec0, hint, ht5]
    dsimp only
    rw [hts]
    dsimp only
    exact hfix
  · intro t' h1 h2
    have := ht4 t' h1 h2
    rw [← hcast] at this
    have e := hg.accepts_eq B (s0 + t')
    simp only [SubFreq.tod, SubFreq.U] at e
    rw [← e]
    exact this

/-- **`iter_eq_spec`, SECONDLY, over a day filter** (any of BYHOUR, BYMINUTE, absent or non-empty, and BYSECOND):
    INTERVAL ≥ 1, a valid start in the filter's years, and from every grid second a listed one at most `S` steps away
    (`hS`; on the complement the recurrence set is empty and `_iter` raises ValueError at the first `next()`).  As for
    HOURLY, `n` turns of the generator's loop correspond to `m` periods, `n ≤ m ≤ J·n` with `86399 + S ≤ J`. -/
theorem iter_eq_spec_secondly_filter (F : DayFilter a r ylo yhi Inv) (h : construct a = .ok r) (hf : a.freq = 6)
    (hi : 1 ≤ a.interval) (hv : a.dtstart.Valid) (hh : a.byhour = none ∨ ∃ l, a.byhour = some l ∧ l ≠ [])
    (hm : a.byminute = none ∨ ∃ l, a.byminute = some l ∧ l ≠ []) (S J : Nat)
    (hS : ∀ k : Nat, ∃ t : Nat, 1 ≤ t ∧ t ≤ S ∧ SubFreq.listed .secondly a
      (((a.dtstart.hh * 60 + a.dtstart.mm) * 60 + a.dtstart.ss + ((k + t : Nat) : Int) * a.interval) % 86400) = true)
    (hJ : 86399 + S ≤ J) (n : Nat) (hlo : ylo ≤ a.dtstart.y)
    (hle : ((Spec.RRule.startOrd a * 24 + a.dtstart.hh) * 60 + a.dtstart.mm) * 60 + a.dtstart.ss +
      ((J * n + S : Nat) : Int) * a.interval + 86399 < (toOrdinal yhi 12 31 + 1) * 86400) :
    ∃ m, n ≤ m ∧ m ≤ J * n ∧ (iter r n).1 = Spec.RRule.occ a m := by
  have B := secondly_by h hf hh hm S hS
  exact iter_eq_spec_sub .secondly F h hf hi hv B J (by simp only [SubFreq.U]; omega)
    (fun k st fl c hg hb => secondly_step F h hf hi B k st fl c hg (by simp only [SubFreq.U] at hb; omega))
    n hlo (by simp only [SubFreq.T0, SubFreq.U, SubFreq.tod]; omega)

end RRule
