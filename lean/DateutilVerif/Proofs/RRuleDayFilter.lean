/-
  Proofs/RRuleDayFilter.lean — a *day filter*: a `PeriodFilter` (Proofs/RRulePeriod.lean) that reads the days of the
  cursor's year and whose invariant does not depend on the month.  Under one, a period that is a single day yields the
  specification's `sel` (`day_results`, also used by the sub-daily frequencies in Proofs/RRuleSubGrid.lean), and DAILY
  refines the specification (`iter_eq_spec_daily_filter`).
  Proofs/RRuleWFilter.lean (BYWEEKNO absent or harmless, years 1..9999) and Proofs/RRuleEFilter.lean (BYEASTER, years
  1583..4099) each construct one.
-/
import DateutilVerif.Proofs.RRuleNthFilter
import DateutilVerif.Proofs.RRulePeriod
import DateutilVerif.Proofs.RRuleAdvanceEq

namespace RRule
open Cal

abbrev DayFilter (a : Args) (r : Rule) (ylo yhi : Int) (Inv : Info → Prop) : Prop :=
  PeriodFilter a r ylo yhi (fun _ _ => Inv) yearDays

variable {a : Args} {r : Rule} {ylo yhi : Int} {Inv : Info → Prop}

theorem filterDays_flag {info : Info} : ∀ (ds l : List Int) (fl : Bool), filterDays r info ds = .ok (l, fl) → fl = true →
    ∃ i ∈ ds, dayFiltered r info i = .ok true := by
  intro ds
  induction ds with
  | nil => intro l fl h hf; simp [filterDays] at h; rw [h.2] at hf; cases hf
  | cons i is ih =>
    intro l fl h hf
    unfold filterDays at h
    split at h
    · cases h
    · rename_i f hf'
      split at h
      · cases h
      · rename_i l' fl' hrest
        cases f with
        | true => exact ⟨i, List.mem_cons_self .., hf'⟩
        | false =>
          simp only [Bool.false_eq_true, ↓reduceIte] at h
          injection h with h
          injection h with h1 h2
          subst h2
          obtain ⟨j, hj, hjf⟩ := ih l' fl' hrest hf
          exact ⟨j, List.mem_cons_of_mem _ hj, hjf⟩

theorem periodResults_flag (st : State) (ds : List Int) (hds : dayset r st.info st.cur = .ok ds)
    (x : List Inst) (p : Option Py.PyErr) (fl : Bool) (h : periodResults r st = .ok (x, p, fl)) (hf : fl = true) :
    ∃ i ∈ ds, dayFiltered r st.info i = .ok true := by
  unfold periodResults at h
  rw [hds] at h
  dsimp only at h
  split at h
  · cases h
  · rename_i days filtered hfd
    have : filtered = fl := by
      split at h
      · split at h
        · cases h
        · injection h with h; injection h with _ h; injection h with _ h
      · injection h with h; injection h with _ h; injection h with _ h
    subst this
    exact filterDays_flag ds days filtered hfd hf

theorem yhi_ord_le (F : DayFilter a r ylo yhi Inv) : toOrdinal yhi 12 31 ≤ maxOrdinal := by
  have := year_end_le yhi F.hi
  rw [← toOrdinal_next_year, year_hi_next] at this
  omega

theorem periodResults_day (F : DayFilter a r ylo yhi Inv) (st : State) (f : YearFacts r st.cur.year st.info)
    (inv : Inv st.info)
    (hv : ValidYMD st.cur.year st.cur.month st.cur.day) (hf : 3 ≤ r.freq)
    (hnz : ∀ q ∈ r.bysetpos.getD [], q ≠ 0) (hts : TsOk st.timeset) (hle : curOrd st.cur ≤ maxOrdinal) :
    ∃ fl, periodResults r st = .ok
      (applySetpos r.bysetpos
        (((intRange (curOrd st.cur) (curOrd st.cur + 1)).filter (Spec.RRule.dateOk a)).flatMap
          (fun o => st.timeset.map (mkInst o))), none, fl) ∧
      (fl = true → Spec.RRule.dateOk a (curOrd st.cur) = false) := by
  have hidx := index_range _ _ _ hv
  have hyo := f.yearordinal
  have hyl := f.yearlen
  have hpos : 1 ≤ curOrd st.cur := toOrdinal_pos _ _ _ f.year_lo hv
  have hd0 := dayset_daily st.cur hf f hv
  have hd : dayset r st.info st.cur =
      .ok (intRange (curOrd st.cur - st.info.yearordinal) (curOrd st.cur - st.info.yearordinal + 1)) := by
    rw [hd0, intRange_one]
  have hi0 : 0 ≤ curOrd st.cur - st.info.yearordinal := by unfold curOrd; rw [hyo]; exact hidx.1
  have hi1 : curOrd st.cur - st.info.yearordinal < st.info.yearlen := by
    unfold curOrd; rw [hyo, hyl]; exact hidx.2
  obtain ⟨fl, hres⟩ := periodResults_range_P st (Spec.RRule.dateOk a)
    (by intro i hi0' hi1'; exact F.filtered (m := st.cur.month) f inv ⟨by omega, by omega⟩) hnz hts hd (by omega) (by omega)
  have e1 : st.info.yearordinal + (curOrd st.cur - st.info.yearordinal) = curOrd st.cur := by omega
  have e2 : st.info.yearordinal + (curOrd st.cur - st.info.yearordinal + 1) = curOrd st.cur + 1 := by omega
  rw [e1, e2] at hres
  refine ⟨fl, hres, ?_⟩
  intro hfl
  obtain ⟨i, hi, hfi⟩ := periodResults_flag st _ hd0 _ _ _ hres hfl
  simp only [List.mem_singleton] at hi
  subst hi
  rw [F.filtered (m := st.cur.month) f inv ⟨hi0, hi1⟩, e1] at hfi
  injection hfi with hfi
  cases hq : Spec.RRule.dateOk a (curOrd st.cur) with
  | false => rfl
  | true => rw [hq] at hfi; cases hfi

theorem sel_span_gen (a : Args) (k : Nat) (lo hi : Int) (fh fm fs : Option Int)
    (hsp : Spec.RRule.periodSpan a (k * a.interval) = (lo, hi, fh, fm, fs)) :
    Spec.RRule.sel a (k : Int) =
      applySetpos a.bysetpos (((intRange lo hi).filter (Spec.RRule.dateOk a)).flatMap
        (fun o => (Spec.RRule.timesOf a fh fm fs).map (mkInst o))) := by
  unfold Spec.RRule.sel
  rw [selOf_eq]
  unfold Spec.RRule.cand Spec.RRule.candAt
  rw [hsp]
  rfl

theorem applySetpos_nil (sp : Option (List Int)) : applySetpos sp [] = [] := by
  have := applySetpos_subset sp []
  cases hq : applySetpos sp [] with
  | nil => rfl
  | cons x xs => have := this x (by rw [hq]; exact List.mem_cons_self ..); simp at this

theorem sel_nil (a : Args) (j : Nat) (o : Int) (fh fm fs : Option Int)
    (hsp : Spec.RRule.periodSpan a (j * a.interval) = (o, o + 1, fh, fm, fs))
    (h : Spec.RRule.dateOk a o = false ∨ Spec.RRule.timesOf a fh fm fs = []) : Spec.RRule.sel a (j : Int) = [] := by
  rw [sel_span_gen a j _ _ _ _ _ hsp, intRange_one]
  rcases h with h | h
  · simp only [List.filter_cons, h, Bool.false_eq_true, ↓reduceIte, List.filter_nil, List.flatMap_nil]
    exact applySetpos_nil _
  · rw [h]
    have : ∀ (l : List Int), l.flatMap (fun o => ([].map (mkInst o) : List Inst)) = [] := by
      intro l; induction l with
      | nil => rfl
      | cons x xs ih => rw [List.flatMap_cons, ih]; rfl
    rw [this]
    exact applySetpos_nil _

/-- a period that the specification spans by the cursor's day alone; the `filtered` flag (rrule.py: a day of the
    dayset was removed) then means that this day is not in the set -/
theorem day_results (F : DayFilter a r ylo yhi Inv) (h : construct a = .ok r) (hf : 3 ≤ a.freq) (k : Nat) (st : State)
    (f : YearFacts r st.cur.year st.info) (inv : Inv st.info)
    (hv : ValidYMD st.cur.year st.cur.month st.cur.day) (hle : curOrd st.cur ≤ maxOrdinal) (fh fm fs : Option Int)
    (hsp : Spec.RRule.periodSpan a (k * a.interval) = (curOrd st.cur, curOrd st.cur + 1, fh, fm, fs))
    (hts : st.timeset = Spec.RRule.timesOf a fh fm fs) (htsok : TsOk st.timeset) :
    ∃ fl, periodResults r st = .ok (Spec.RRule.sel a (k : Int), none, fl) ∧
      (fl = true → Spec.RRule.dateOk a (curOrd st.cur) = false) ∧
      ∀ x ∈ Spec.RRule.sel a (k : Int), 0 ≤ x.ord ∧ x.ord ≤ maxOrdinal := by
  have hfr : r.freq = a.freq := (construct_fields a r h).1
  have hsp' := construct_bysetpos a r h
  have hpos : 1 ≤ curOrd st.cur := toOrdinal_pos _ _ _ f.year_lo hv
  obtain ⟨fl, hres, hflag⟩ := periodResults_day F st f inv hv (by omega) (by rw [hsp'.1]; exact hsp'.2) htsok hle
  have hsel := sel_span_gen a k _ _ _ _ _ hsp
  refine ⟨fl, by rw [hres, hts, hsel, hsp'.1], hflag, ?_⟩
  intro x hx
  rw [hsel] at hx
  have := sel_bounds _ _ _ _ x (applySetpos_subset _ _ x hx)
  omega

/-- "the model state at the start of period `k`" for a DAILY rule -/
structure DayGood (_F : DayFilter a r ylo yhi Inv) (k : Nat) (st : State) : Prop where
  facts : YearFacts r st.cur.year st.info
  year_lo : ylo ≤ st.cur.year
  inv : Inv st.info
  valid : ValidYMD st.cur.year st.cur.month st.cur.day
  ord : curOrd st.cur = Spec.RRule.startOrd a + k * a.interval
  timeset : st.timeset = Spec.RRule.timesOf a none none none

/-- **`iter_eq_spec`, DAILY, over a day filter**: INTERVAL ≥ 1, a valid start in the filter's years, every visited day
    not after the filter's last: exactly the specification's recurrence set. -/
theorem iter_eq_spec_daily_filter (F : DayFilter a r ylo yhi Inv) (h : construct a = .ok r) (hf : a.freq = 3)
    (hi : 1 ≤ a.interval) (hv : a.dtstart.Valid) (n : Nat) (hlo : ylo ≤ a.dtstart.y)
    (hn : Spec.RRule.startOrd a + n * a.interval ≤ toOrdinal yhi 12 31) :
    (iter r n).1 = Spec.RRule.occ a n := by
  obtain ⟨hfr, hint, _⟩ := construct_fields a r h
  have hfreq : r.freq = 3 := by rw [hfr, hf]
  have hts := construct_timeset a r h (by omega)
  have htsok := construct_timeset_ok a r h (by omega)
  rw [hts] at htsok
  have hmx := yhi_ord_le F
  have hmono : ∀ k : Nat, k ≤ n → Spec.RRule.startOrd a + k * a.interval ≤ toOrdinal yhi 12 31 := by
    intro k hk
    have : (k : Int) * a.interval ≤ n * a.interval := Int.mul_le_mul_of_nonneg_right (by omega) (by omega)
    omega
  have hspan : ∀ k : Nat, Spec.RRule.periodSpan a (k * a.interval) =
      (Spec.RRule.startOrd a + k * a.interval, Spec.RRule.startOrd a + k * a.interval + 1, none, none, none) := by
    intro k; unfold Spec.RRule.periodSpan; simp [hf]
  have sim : Simulation a r n (DayGood F) := {
    agree := construct_cuts h
    results := fun k st hk hg => by
      have hsp := hspan k
      rw [← hg.ord] at hsp
      obtain ⟨fl, hres, _, hb⟩ := day_results F h (by omega) k st hg.facts hg.inv hg.valid
        (by rw [hg.ord]; have := hmono k (by omega); omega) _ _ _ hsp hg.timeset (by rw [hg.timeset]; exact htsok)
      exact ⟨fl, [], _, hres, rfl, by simp, hb⟩
    next := fun k st fl c hk hg => by
      obtain ⟨hm1, hm12, hd1, hd2⟩ := hg.valid
      have e : ((k + 1 : Nat) : Int) * a.interval = k * a.interval + a.interval := by
        push_cast; rw [Int.add_mul]; omega
      have hex : ∃ st', advance r { st with count := c } fl = .ok st' ∧ ylo ≤ st'.cur.year ∧ Inv st'.info := by
        rw [advance_daily_eq r _ fl hfreq]
        have hcur : curOrd { st.cur with day := st.cur.day + r.interval } = curOrd st.cur + r.interval := by
          unfold curOrd toOrdinal; dsimp only; omega
        exact fixDay_filter F
          { cur := { st.cur with day := st.cur.day + r.interval }, info := st.info, timeset := st.timeset, count := c }
          true hm1 hm12 (by dsimp only; omega) hg.year_lo
          (by dsimp only; rw [hcur, hg.ord, hint]; have := hmono (k + 1) (by omega); omega) hg.inv
      obtain ⟨st', hadv, hyl, hinv⟩ := hex
      obtain ⟨e', v, f', ts⟩ := advance_daily r { st with count := c } st' fl hfreq (by omega) hg.valid hg.facts hadv
      exact ⟨st', hadv, f', hyl, hinv, v, by rw [e']; dsimp only; rw [hg.ord, hint, e]; omega, by rw [ts]; exact hg.timeset⟩ }
  have hv' := hv
  unfold DT.Valid ValidDate at hv'
  have hhi : a.dtstart.y ≤ yhi := year_le_of_ord_le _ _ _ _ hv'.1.2.2 (by
    have := hmono 0 (by omega); unfold Spec.RRule.startOrd DT.ordinal at this; simpa using this)
  obtain ⟨info, hre, hinv⟩ := F.rebuild a.dtstart.y a.dtstart.m hlo hhi hv'.1.2.2.1 hv'.1.2.2.2.1
  exact iter_refines sim _ (init_eq h (by omega) hre)
    ⟨rebuild_facts r _ _ info hre, hlo, hinv, hv'.1.2.2, by unfold curOrd Spec.RRule.startOrd DT.ordinal; simp, rfl⟩
    rfl n (by omega)

end RRule
