/-
  Proofs/RRuleNthWYearly.lean — YEARLY (no BYMONTH) with nth BYDAY counted inside the year TOGETHER with BYWEEKNO
  (nth members only = outside D-C01a; BYWEEKNO on the complement of D-C01c): both computed masks, filter
  `simpleOk ∧ nth clause ∧ week clause`.  Argument side reduced to `NthYArgs` by dropping BYWEEKNO (`stripWno`).
-/
import DateutilVerif.Proofs.RRuleNthWMonthly
import DateutilVerif.Proofs.RRuleNthYearly

namespace RRule
open Cal

/-- YEARLY without BYMONTH, BYDAY of nth weekdays only, BYWEEKNO on the complement of D-C01c -/
structure NthWYArgs (a : Args) : Prop where
  freq : a.freq = 0
  interval : 1 ≤ a.interval
  valid : a.dtstart.Valid
  wkst : 0 ≤ a.wkst.getD 0 ∧ a.wkst.getD 0 ≤ 6
  byeaster : a.byeaster = none
  monthday_nz : ∀ x ∈ a.bymonthday.getD [], x ≠ 0
  bymonth : a.bymonth = none
  weekdays : ∃ l, a.byweekday = some l ∧ l ≠ [] ∧ ∀ w ∈ l, (0 ≤ w.1 ∧ w.1 ≤ 6) ∧ w.2 ≠ 0
  weekno : ∃ wl, a.byweekno = some wl ∧ wl ≠ [] ∧ WnoOk wl

variable {a : Args} {r : Rule} {y : Int} {info : Info}

/-- "the model state at the start of period `k`" -/
structure NthWYGood (a : Args) (r : Rule) (k : Nat) (st : State) : Prop where
  facts : YearFacts r st.cur.year st.info
  timeset : st.timeset = Spec.RRule.timesOf a none none none
  year : st.cur.year = a.dtstart.y + k * a.interval
  masks : ∃ nmask wmask, st.info.nwdaymask = some nmask ∧ (nmask.length : Int) = st.info.yearlen ∧
    (∀ j : Int, 0 ≤ j → j < st.info.yearlen →
      Py.getIdx nmask j = .ok (if ∃ wn ∈ nwlOf (stripWno a), marks st.info 0 (st.info.yearlen - 1) j wn then 1 else 0)) ∧
    st.info.wnomask = some wmask ∧ (wmask.length : Int) = st.info.yearlen + 7 ∧
    (∀ j : Int, 0 ≤ j → j < st.info.yearlen →
      Py.getIdx wmask j = .ok (if weekClause r.wkst (weeknosOf a) (st.info.yearordinal + j) = true then 1 else 0))

/-- what `rebuild` establishes here: the nth-weekday mask and the week-number mask of the year -/
def NthWYInv (a : Args) (r : Rule) (y m : Int) (info : Info) : Prop :=
  NthYInv (stripWno a) y m info ∧ WeeknoMarks r.wkst (weeknosOf a) info info.yearlen

theorem nwy_filter (na : NthWYArgs a) (h : construct a = .ok r) : PeriodFilter a r 1 9999 (NthWYInv a r) yearDays where
  lo := by omega
  hi := by omega
  rebuild := fun y m hy1 hy2 _ _ => by
    have D := construct_dateFields h
    obtain ⟨n, hn, hN⟩ := nthY_build D na.freq na.weekdays na.bymonth hy1 hy2 m
    obtain ⟨w, hw, hW⟩ := wnomaskOf_in D na.weekno na.wkst hy1 hy2
    exact ⟨_, rebuild_eq r m hy1 hy2 hw hn (eastermaskOf_off (D.easter_off na.byeaster) ..), hN _ _, hW _ _⟩
  filtered := fun {y m info i} f inv hi =>
    have D := construct_dateFields h
    nth_filtered D (monthdayArg_nz na.monthday_nz na.valid) (nwl_facts (Or.inl na.freq) na.weekdays).2.2.2.1 f i
      hi.1 hi.2 inv.1.marked (fun _ => nthY_part na.freq na.weekdays na.bymonth f hi)
      (weekno_miss_on D na.weekno inv.2 hi.1 hi.2) (easter_miss_off D na.byeaster ..)

/-- the state invariant of the YEARLY refinement, read for this family -/
theorem nwy_good (na : NthWYArgs a) {k : Nat} {st : State} (g : PeriodGood (NthWYInv a r) a r k st) :
    NthWYGood a r k st := by
  obtain ⟨⟨nm, a1, a2, a3⟩, wm, b1, b2, b3⟩ := g.inv
  exact ⟨g.facts, g.timeset, g.yearly na.freq, nm, wm, a1, a2, a3, b1, b2, b3⟩

/-- **`iter_eq_spec`, YEARLY (no BYMONTH) with nth weekdays counted inside the year and BYWEEKNO** (nth members only;
    BYWEEKNO on the complement of D-C01c; a week start 0..6) -/
theorem iter_eq_spec_yearly_nth_weekno (na : NthWYArgs a) (h : construct a = .ok r) (n : Nat)
    (hy : a.dtstart.y + n * a.interval ≤ 9999) :
    (iter r n).1 = Spec.RRule.occ a n := by
  have hv := na.valid
  unfold DT.Valid ValidDate at hv
  exact yearly_refines h na.freq na.valid (nwy_filter na h) n hv.1.1 hy

-- an NthWYArgs instance: the 20th Monday of the year when it falls in week 20 or 21
example : NthWYArgs { freq := 0, dtstart := ⟨1997, 5, 19, 9, 0, 0, 0⟩, byweekday := some [(0, 20)],
                      byweekno := some [20, 21] } :=
  ⟨rfl, by decide, by decide, by decide, rfl, by intro x hx; simp at hx, rfl,
   ⟨[(0, 20)], rfl, by decide, by decide⟩, ⟨[20, 21], rfl, by decide, ⟨by decide, by decide⟩⟩⟩

end RRule
