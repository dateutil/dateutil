/-
  Proofs/CacheNestedProgress.lean — termination measure of the nested machine (C11): every step of every
  runner is one statement of exactly one object's flat machine, so the sum of the flat measures decreases.
-/
import DateutilVerif.Proofs.CacheNestedStep

namespace Nested
open Cache Queries

def nmeasure (ns : NState) : Nat :=
  (ns.members.map Cache.measure).sum + (ns.sets.map (fun S => Cache.measure S.st)).sum

/-- Every step of every runner decreases the measure (one lock per object). -/
theorem nested_progress {ns ns' : NState} {r : Runner} {pc : PC} (hi : NInv ns)
    (h : step ns r = some (ns', pc)) : nmeasure ns' < nmeasure ns := by
  have hsh := hi.noshare
  unfold step at h
  by_cases hlt : r.1 < ns.members.length
  · rw [if_pos hlt] at h
    unfold memberStep at h
    cases hM : ns.members[r.1]? with
    | none => rw [hM] at h; cases h
    | some M =>
      rw [hM] at h
      simp only [] at h
      unfold lockStep at h
      simp only [hsh, Bool.false_and, Bool.false_eq_true, ↓reduceIte] at h
      cases hst : Cache.step M r.2 with
      | none => rw [hst] at h; cases h
      | some M' =>
        rw [hst] at h
        simp only [Option.some.injEq, Prod.mk.injEq] at h
        rw [← h.1]
        have hdec := (measure_step (hi.minv _ M hM) hst).1
        have := List.sum_map_set_lt Cache.measure hM M' hdec
        unfold nmeasure
        simp only []
        omega
  · rw [if_neg hlt] at h
    unfold setStep at h
    cases hS : ns.sets[r.1 - ns.members.length]? with
    | none => rw [hS] at h; cases h
    | some S =>
      rw [hS] at h
      simp only [] at h
      by_cases hpull : (pcOf S.st r.2 == PC.l138 && !S.pulls.isEmpty) = true
      · rw [if_pos hpull] at h
        cases hp : S.pulls with
        | nil => rw [hp] at h; cases h
        | cons p rest =>
          rw [hp] at h
          simp only [] at h
          cases hsub : S.subs[pullIdx p]? with
          | none => rw [hsub] at h; cases h
          | some mt =>
            obtain ⟨m, tid⟩ := mt
            rw [hsub] at h
            simp only [] at h
            cases hM : ns.members[m]? with
            | none => rw [hM] at h; cases h
            | some M =>
              rw [hM] at h
              simp only [] at h
              unfold lockStep at h
              simp only [hsh, Bool.false_and, Bool.false_eq_true, ↓reduceIte] at h
              cases hst : Cache.step M tid with
              | none => rw [hst] at h; cases h
              | some M' =>
                rw [hst] at h
                simp only [Option.some.injEq, Prod.mk.injEq] at h
                rw [← h.1]
                have hdec := (measure_step (hi.minv _ M hM) hst).1
                have h1 := List.sum_map_set_lt Cache.measure hM M' hdec
                have h2 := List.sum_map_set_eq (fun S : SetM => Cache.measure S.st) hS
                  { S with pulls := if pullFin p M M' tid = true then
                      normPulls { members := ns.members.set m M', sets := ns.sets } S rest else p :: rest } rfl
                unfold nmeasure
                simp only []
                omega
      · rw [if_neg hpull] at h
        unfold lockStep at h
        simp only [hsh, Bool.false_and, Bool.false_eq_true, ↓reduceIte] at h
        cases hst : Cache.step S.st r.2 with
        | none => rw [hst] at h; cases h
        | some st' =>
          rw [hst] at h
          simp only [Option.some.injEq, Prod.mk.injEq] at h
          rw [← h.1]
          have hdec := (measure_step (hi.sinv _ S hS) hst).1
          have h2 := List.sum_map_set_lt (fun S : SetM => Cache.measure S.st) hS
            (if (pcOf st' r.2 == PC.l138) = true then
              { S with st := st', pulls := normPulls ns { S with st := st' } (S.plan.getD st'.sh.genPos []) }
             else { S with st := st' }) (by split <;> exact hdec)
          unfold nmeasure
          simp only []
          omega

end Nested
