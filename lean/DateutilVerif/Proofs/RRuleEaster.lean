/-
  Proofs/RRuleEaster.lean — the BYEASTER mask of `_iterinfo.rebuild`, on the supported class
  (offsets −80..250, years 1583..4099 where C19 ties `easter.easter` to Meeus/Jones/Butcher):
  no index wraps or overflows, and `eastermask[j] = 1` exactly when the date at index `j` is
  Easter Sunday of that year plus one of the offsets.
-/
import DateutilVerif.Proofs.RRuleFilter
import DateutilVerif.Properties.C19
import DateutilVerif.Spec.RRule

namespace RRule
open Cal

theorem getIdx_set (l : List Int) (k j : Int) (v : Int) (hk : 0 ≤ k ∧ k < l.length) (hj : 0 ≤ j ∧ j < l.length) :
    ∃ l', setIdx l k v = .ok l' ∧ l'.length = l.length ∧
      Py.getIdx l' j = (if j = k then .ok v else Py.getIdx l j) := by
  refine ⟨l.set k.toNat v, ?_, by simp, ?_⟩
  · unfold setIdx; dsimp only
    rw [if_neg (show ¬ k < 0 by omega), if_neg (by omega)]
  · rw [getIdx_int _ j hj.1 (by rw [List.length_set]; exact hj.2), getIdx_int l j hj.1 hj.2, List.getElem_set]
    by_cases c : j = k
    · subst c; rw [if_pos rfl, if_pos rfl]
    · rw [if_neg (by omega), if_neg c]

/-- setting a list of in-range indices to 1 -/
theorem foldl_setIdx (base : Int) : ∀ (offs : List Int) (mask : List Int),
    (∀ o ∈ offs, 0 ≤ base + o ∧ base + o < mask.length) →
    ∃ mask', offs.foldlM (fun m off => setIdx m (base + off) 1) mask = .ok mask' ∧ mask'.length = mask.length ∧
      ∀ j : Int, 0 ≤ j → j < (mask.length : Int) →
        Py.getIdx mask' j = (if (j - base) ∈ offs then .ok 1 else Py.getIdx mask j) := by
  intro offs
  induction offs with
  | nil => intro mask _; exact ⟨mask, rfl, rfl, by intro j _ _; simp⟩
  | cons o os ih =>
    intro mask hb
    have ho := hb o (List.mem_cons_self ..)
    obtain ⟨m1, h1, hl1, _⟩ := getIdx_set mask (base + o) 0 1 ho ⟨by omega, by omega⟩
    obtain ⟨m2, h2, hl2, hg2⟩ := ih m1 (by intro o' ho'; rw [hl1]; exact hb o' (List.mem_cons_of_mem _ ho'))
    refine ⟨m2, ?_, by rw [hl2, hl1], ?_⟩
    · rw [List.foldlM_cons, h1]; exact h2
    · intro j hj0 hj1
      rw [hg2 j hj0 (by rw [hl1]; exact hj1)]
      obtain ⟨m1', h1', _, hg1⟩ := getIdx_set mask (base + o) j 1 ho ⟨hj0, hj1⟩
      rw [h1] at h1'; injection h1' with h1'; subst h1'
      rw [hg1]
      by_cases c1 : (j - base) ∈ os
      · rw [if_pos c1, if_pos (List.mem_cons_of_mem _ c1)]
      · rw [if_neg c1]
        by_cases c2 : j = base + o
        · rw [if_pos c2, if_pos (List.mem_cons.mpr (Or.inl (by omega)))]
        · rw [if_neg c2, if_neg (by
            intro hm; rcases List.mem_cons.mp hm with h | h
            · omega
            · exact c1 h)]

/-- **the Easter mask**: for years 1583..4099 and offsets −80..250 `buildEastermask` succeeds without
    wrap-around, and marks exactly the indices whose date is Easter Sunday + an offset -/
theorem eastermask_spec (byeaster : List Int) (y : Int) (hy1 : 1583 ≤ y) (hy2 : y ≤ 4099)
    (hoff : ∀ o ∈ byeaster, -80 ≤ o ∧ o ≤ 250) :
    ∃ mask, buildEastermask byeaster y (daysInYear y) (toOrdinal y 1 1) = .ok mask ∧
      ∀ j, 0 ≤ j → j < daysInYear y + 7 →
        Py.getIdx mask j = .ok (if (toOrdinal y 1 1 + j - Spec.RRule.easterOrd y) ∈ byeaster then 1 else 0) := by
  have hw := C19.western_eq_mjb y hy1 hy2
  unfold C19.westernOK at hw
  split at hw
  · rename_i y' m d he
    simp only [Bool.and_eq_true, beq_iff_eq, decide_eq_true_eq, Bool.or_eq_true, Prod.mk.injEq] at hw
    obtain ⟨⟨⟨⟨hyy, hmd⟩, hv⟩, _⟩, hrange⟩ := hw
    subst hyy
    have hidx := index_range y' m d hv
    -- Easter lies between 22 March and 25 April: index 80..115
    have hlo : 80 ≤ toOrdinal y' m d - toOrdinal y' 1 1 ∧ toOrdinal y' m d - toOrdinal y' 1 1 ≤ 115 := by
      unfold toOrdinal daysBeforeMonth
      rw [show dbmTable 1 = 0 from rfl]
      rcases hrange with ⟨hm, hd⟩ | ⟨hm, hd⟩
      · subst hm; obtain ⟨_, _, _, hd2⟩ := hv
        have : daysInMonth y' 3 = 31 := by unfold daysInMonth; rfl
        simp only [show dbmTable 3 = 59 from rfl]; split <;> split <;> simp_all <;> omega
      · subst hm; obtain ⟨_, _, hd1, _⟩ := hv
        simp only [show dbmTable 4 = 90 from rfl]; split <;> split <;> simp_all <;> omega
    have hyl : 365 ≤ daysInYear y' := by unfold daysInYear; split <;> omega
    have heo : Spec.RRule.easterOrd y' = toOrdinal y' m d := by
      unfold Spec.RRule.easterOrd; rw [← hmd]
    unfold buildEastermask
    simp only [bind, Except.bind, he]
    have hvd : Cal.validDate y' m d = true := by
      unfold validDate; rw [decide_eq_true_eq]; exact ⟨by omega, by omega, hv⟩
    rw [if_neg (by simp [hvd])]
    have hlen : (List.replicate (daysInYear y' + 7).toNat (0 : Int)).length = (daysInYear y' + 7).toNat := by simp
    obtain ⟨mask, hm1, hm2, hm3⟩ := foldl_setIdx (toOrdinal y' m d - toOrdinal y' 1 1) byeaster
      (List.replicate (daysInYear y' + 7).toNat 0)
      (by intro o ho; have := hoff o ho; rw [hlen]; omega)
    refine ⟨mask, hm1, ?_⟩
    intro j hj0 hj1
    rw [hm3 j hj0 (by rw [hlen]; omega), heo]
    have e : j - (toOrdinal y' m d - toOrdinal y' 1 1) = toOrdinal y' 1 1 + j - toOrdinal y' m d := by omega
    rw [e]
    split
    · rfl
    · unfold Py.getIdx
      dsimp only
      rw [hlen, if_neg (show ¬ j < 0 by omega), if_neg (by omega)]
      rw [List.getElem?_replicate, if_pos (by omega)]
  · cases hw

/-- the Easter mask inside `rebuild`, for a non-empty BYEASTER tuple of supported offsets and a year 1583..4099 -/
theorem eastermaskOf_marks {r : Rule} (ht : truthy r.byeaster = true) {el : List Int} (hel : r.byeaster = some el)
    (hoff : ∀ o ∈ el, -80 ≤ o ∧ o ≤ 250) {y : Int} (hy1 : 1583 ≤ y) (hy2 : y ≤ 4099) :
    ∃ e, eastermaskOf r y (baseInfo y) = .ok e ∧
      Marked e ((baseInfo y).yearlen + 7) (fun j => (baseInfo y).yearordinal + j - Spec.RRule.easterOrd y ∈ el) := by
  obtain ⟨mask, h1, h2⟩ := eastermask_spec el y hy1 hy2 hoff
  have hbi : (baseInfo y).yearlen = daysInYear y := by simp only [baseInfo, daysInYear]
  have hbo : (baseInfo y).yearordinal = toOrdinal y 1 1 := rfl
  refine ⟨some mask, ?_, mask, rfl, by rw [hbi, hbo]; exact h2⟩
  unfold eastermaskOf
  rw [hel] at ht ⊢
  cases el with
  | nil => cases ht
  | cons o os => dsimp only; rw [hbi, hbo, h1]

end RRule
