/- Proofs/IsoGenEq.lean — the functions TRANSLATED from isoparser.py (Generated/IsoKernels.lean, regenerated from
   /repo on every run) are extensionally equal to the hand model (Model/IsoParser.lean), for all inputs.  The
   translated code works on a cursor position, the model on the remaining suffix: `s.drop p` is the suffix at cursor
   `p`, and each scanner is compared stage by stage (Proofs/IsoScan.lean). -/
import DateutilVerif.Generated.IsoKernels
import DateutilVerif.Proofs.IsoSound
namespace IsoGen
open Iso Py

theorem norm_nat (p n : Nat) : BytesPy.norm (p : Int) n = min p n := by
  unfold BytesPy.norm; rw [if_neg (by omega)]; simp

theorem slice_nat {α} (s : List α) (p k : Nat) :
    BytesPy.slice s (p : Int) ((p : Int) + (k : Int)) = (s.drop p).take k := by
  unfold BytesPy.slice
  rw [show ((p : Int) + (k : Int)) = ((p + k : Nat) : Int) by omega, norm_nat, norm_nat]
  by_cases h : p ≤ s.length
  · rw [Nat.min_eq_left h]
    apply List.take_eq_take_iff.mpr
    simp only [List.length_drop]; omega
  · have h1 : s.drop p = [] := List.drop_eq_nil_of_le (by omega)
    have h2 : s.drop (min p s.length) = [] := List.drop_eq_nil_of_le (by omega)
    rw [h1, h2]; simp

theorem sliceFrom_nat {α} (s : List α) (p : Nat) : BytesPy.sliceFrom s (p : Int) = s.drop p := by
  unfold BytesPy.sliceFrom; rw [norm_nat]
  by_cases h : p ≤ s.length
  · rw [Nat.min_eq_left h]
  · rw [List.drop_eq_nil_of_le (by omega), List.drop_eq_nil_of_le (by omega)]

theorem isdigit_eq (f : Bytes) : BytesPy.isdigit f = bytesIsDigit f := by
  unfold BytesPy.isdigit bytesIsDigit isDigit; rfl

theorem isDig_eq (b : Nat) : BytesPy.isDig b = isDigit b := rfl

theorem isSpace_digit (b : Nat) (h : isDigit b = true) : BytesPy.isSpace b = false := by
  rw [isDigit_iff] at h; simp [BytesPy.isSpace]; omega

theorem digitsUnderscoreOK_digits (f : Bytes) (hne : f ≠ []) (h : f.all isDigit = true) :
    BytesPy.digitsUnderscoreOK f = true := by
  induction f with
  | nil => exact absurd rfl hne
  | cons a t ih =>
    simp only [List.all_cons, Bool.and_eq_true] at h
    cases t with
    | nil => simp [BytesPy.digitsUnderscoreOK, isDig_eq, h.1]
    | cons b r =>
      simp only [BytesPy.digitsUnderscoreOK, isDig_eq, h.1, if_true]
      exact ih (by simp) h.2

theorem filter_digits (f : Bytes) (h : f.all isDigit = true) : f.filter BytesPy.isDig = f := by
  apply List.filter_eq_self.mpr
  intro a ha; exact (List.all_eq_true.mp h) a ha

theorem dropWhileEnd_digits (f : Bytes) (h : f.all isDigit = true) :
    BytesPy.dropWhileEnd BytesPy.isSpace f = f := by
  unfold BytesPy.dropWhileEnd
  cases hr : f.reverse with
  | nil => have : f = [] := by simpa using hr
           subst this; rfl
  | cons a t =>
    have ha : isDigit a = true := by
      apply (List.all_eq_true.mp h) a
      have : a ∈ f.reverse := by rw [hr]; simp
      simpa using this
    rw [List.dropWhile_cons_of_neg (by simp [isSpace_digit a ha]), ← hr, List.reverse_reverse]

theorem pyInt_digits (f : Bytes) (hne : f ≠ []) (h : f.all isDigit = true) :
    BytesPy.pyInt f = .ok ((digitsVal f : Nat) : Int) := by
  cases f with
  | nil => exact absurd rfl hne
  | cons a t =>
    have ha : isDigit a = true := by simp only [List.all_cons, Bool.and_eq_true] at h; exact h.1
    have hsp := isSpace_digit a ha
    have hd : BytesPy.dropWhileEnd BytesPy.isSpace ((a :: t).dropWhile BytesPy.isSpace) = a :: t := by
      rw [List.dropWhile_cons_of_neg (by simp [hsp])]; exact dropWhileEnd_digits _ h
    have h45 : a ≠ 45 := by rw [isDigit_iff] at ha; omega
    have h43 : a ≠ 43 := by rw [isDigit_iff] at ha; omega
    unfold BytesPy.pyInt
    simp only [hd]
    have hm : BytesPy.stripSign (a :: t) = (false, a :: t) := by
      unfold BytesPy.stripSign
      split
      · rename_i heq; injection heq with h1 _; exact absurd h1 h45
      · rename_i heq; injection heq with h1 _; exact absurd h1 h43
      · rfl
    rw [hm]
    simp only [List.head?_cons, Option.map_some, isDig_eq, ha, digitsUnderscoreOK_digits _ hne h, and_self,
      if_true, filter_digits _ h, Bool.false_eq_true, if_false]
    rfl

theorem parseDigits_eq (f : Bytes) (w : Nat) : Gen.parseDigits f (w : Int) = Iso.parseDigits f w := by
  unfold Gen.parseDigits Iso.parseDigits
  simp only [BytesPy.len, isdigit_eq]
  by_cases hl : f.length = w
  · cases hd : bytesIsDigit f
    · simp [hl]
    · have hne : f ≠ [] := by intro e; subst e; simp [bytesIsDigit] at hd
      have hall : f.all isDigit = true := by simp [bytesIsDigit] at hd; simpa using hd.2
      simp [hl, pyInt_digits f hne hall]
  · have : ¬ ((f.length : Int) = (w : Int)) := by omega
    simp [hl, this]


theorem slice_lit {α} (s : List α) (a b : Nat) (h : a ≤ b) :
    BytesPy.slice s (a : Int) (b : Int) = (s.drop a).take (b - a) := by
  have := slice_nat s a (b - a)
  rw [show ((a : Int) + ((b - a : Nat) : Int)) = (b : Int) by omega] at this
  exact this

theorem slice1 {α} (s : List α) (p : Nat) : BytesPy.slice s (p : Int) ((p : Int) + 1) = (s.drop p).take 1 :=
  slice_nat s p 1
theorem slice2 {α} (s : List α) (p : Nat) : BytesPy.slice s (p : Int) ((p : Int) + 2) = (s.drop p).take 2 :=
  slice_nat s p 2

@[simp] theorem slice_0_1 {α} (s : List α) : BytesPy.slice s 0 1 = s.take 1 := slice_lit s 0 1 (by omega)
@[simp] theorem slice_1_3 {α} (s : List α) : BytesPy.slice s 1 3 = (s.drop 1).take 2 := slice_lit s 1 3 (by omega)
@[simp] theorem slice_3_4 {α} (s : List α) : BytesPy.slice s 3 4 = (s.drop 3).take 1 := slice_lit s 3 4 (by omega)

theorem parseDigits_eq2 (f : Bytes) : Gen.parseDigits f 2 = Iso.parseDigits f 2 := parseDigits_eq f 2

theorem bind_ok_eta {α} (r : Py.R α) : Except.bind r (fun x => Except.ok x) = r := by
  cases r <;> rfl

theorem sliceFrom_ite {α} (s : List α) (c : Prop) [Decidable c] :
    BytesPy.sliceFrom s (if c then 4 else 3) = s.drop (if c then 4 else 3) := by
  split
  · exact sliceFrom_nat s 4
  · exact sliceFrom_nat s 3

theorem parseTzstr_eq (s : Bytes) (z : Bool) : Gen.parseTzstr s z = Iso.parseTzstr s z := by
  have e3 : ((s.length : Int) = 3) = (s.length = 3) := by apply propext; omega
  have e5 : ((s.length : Int) = 5) = (s.length = 5) := by apply propext; omega
  have e6 : ((s.length : Int) = 6) = (s.length = 6) := by apply propext; omega
  unfold Gen.parseTzstr Iso.parseTzstr
  simp only [bind_ok_eta]
  simp only [sliceFrom_ite, slice_0_1, slice_1_3, slice_3_4, parseDigits_eq2, BytesPy.len, cZ, cz, cDash,
    cPlus, cColon, bind, Except.bind, e3, e5, e6]
  rfl


theorem tryExcept_overflow (o : Int) :
    BytesPy.tryExcept (BytesPy.dateAdd o 0 |>.bind fun _ => BytesPy.dateAdd o 0) .OverflowError (.error .ValueError)
      = BytesPy.tryExcept (BytesPy.dateAdd o 0) .OverflowError (.error .ValueError) := by
  unfold BytesPy.dateAdd; split <;> rfl

theorem dateAdd_eq (o n : Int) : BytesPy.dateAdd o n = ordChecked (o + n) := rfl

theorem tryExcept_ordChecked (o : Int) :
    BytesPy.tryExcept (ordChecked o) .OverflowError (.error .ValueError) = overflowToValue (ordChecked o) := by
  unfold ordChecked; split <;> rfl

theorem gen_calculateWeekdate (y w d : Int) :
    (Gen.calculateWeekdate y w d).map Cal.fromOrdinal = Iso.calculateWeekdate y w d := by
  unfold Gen.calculateWeekdate Iso.calculateWeekdate
  by_cases hw : 0 < w ∧ w < 54
  · simp only [hw, and_self, not_true_eq_false, if_false]
    by_cases hd : 0 < d ∧ d < 8
    · simp only [hd, and_self, not_true_eq_false, if_false]
      unfold BytesPy.date mkDateOrd
      by_cases hv : Cal.validDate y 1 4 = true
      · have hv' : Cal.ValidDate y 1 4 := by simpa [Cal.validDate] using hv
        have hfo := Cal.fromOrdinal_toOrdinal y 1 4 hv'.1 hv'.2.2
        simp only [hv, if_true, Except.bind, bind, BytesPy.isocal, hfo, dateAdd_eq, tryExcept_ordChecked,
          show ¬ ((2:Int) = 0) by decide, show ¬ ((2:Int) = 1) by decide, show ¬ ((1:Int) = 0) by decide, if_false]
        rw [show Cal.toOrdinal y 1 4 + -((Cal.isoCalendar y 1 4).2.2 - 1) =
              Cal.toOrdinal y 1 4 - ((Cal.isoCalendar y 1 4).2.2 - 1) by omega]
        cases h1 : ordChecked (Cal.toOrdinal y 1 4 - ((Cal.isoCalendar y 1 4).2.2 - 1)) with
        | error e => rfl
        | ok w1 =>
          simp only []
          cases h2 : overflowToValue (ordChecked (w1 + ((w - 1) * 7 + (d - 1)))) with
          | error e => rfl
          | ok o =>
            simp only []
            split <;> rfl
      · simp [hv, Except.bind, bind, Except.map]
    · simp only [hd, if_true, not_false_eq_true]; rfl
  · simp only [hw, if_true, not_false_eq_true]; rfl


/-- how the translated date scanners report what the model reports: the components as a list and the cursor as a
    position -/
def dateOut (s : Bytes) (p : (Int × Int × Int) × Bytes) : List BytesPy.Comp × Int :=
  ([.int p.1.1, .int p.1.2.1, .int p.1.2.2], (s.length : Int) - (p.2.length : Int))

theorem map_eq_ok {α β} {f : α → β} {r : Py.R α} {y : β} (h : r.map f = .ok y) : ∃ x, r = .ok x ∧ f x = y := by
  cases r with
  | error e => cases h
  | ok x => exact ⟨x, rfl, by cases h; rfl⟩

theorem map_eq_error {α β} {f : α → β} {r : Py.R α} {e : PyErr} (h : r.map f = .error e) : r = .error e := by
  cases r with
  | error e' => cases h; rfl
  | ok x => cases h

theorem map_bind {α β γ} (f : β → γ) (r : Py.R α) (g : α → Py.R β) :
    Except.map f (r >>= g) = r >>= fun v => Except.map f (g v) := by
  cases r <;> rfl

theorem map_ite {α β} (f : α → β) (c : Prop) [Decidable c] (a b : Py.R α) :
    Except.map f (if c then a else b) = if c then Except.map f a else Except.map f b := by
  split <;> rfl

/-- a `k`-digit field at cursor `p`: the translated code on positions against the model on the suffix `s.drop p`; the
    continuations need agree only when the field lies inside the string -/
theorem gen_field {γ} (s : Bytes) (p k : Nat) (hk : 0 < k) (G M : Int → Py.R γ)
    (h : ∀ v, p + k ≤ s.length → G v = M v) :
    Except.bind (Gen.parseDigits (BytesPy.slice s p ((p : Int) + k)) k) G =
      (parseDigits ((s.drop p).take k) k >>= M) := by
  rw [slice_nat, parseDigits_eq]
  cases hd : parseDigits ((s.drop p).take k) k with
  | error e => rfl
  | ok v =>
    have hl := ((parseDigits_ok_iff _ _ _ hk).mp hd).1
    rw [List.length_take, List.length_drop] at hl
    exact h v (by omega)

theorem gen_len_lt {α} (s : List α) (p k : Nat) (hk : 0 < k) :
    (BytesPy.len s - (p : Int) < (k : Int)) ↔ (s.drop p).length < k := by
  rw [BytesPy.len, List.length_drop]; omega

theorem gen_commonDay (s : Bytes) (p : Nat) (hs : Bool) (y m : Int) :
    ((if hs = true then
        if BytesPy.slice s (p : Int) ((p : Int) + 1) ≠ [45] then (.error .ValueError : Py.R Int)
        else .ok ((p : Int) + 1)
      else .ok (p : Int)).bind fun pos =>
      if BytesPy.len s - pos < 2 then .error .ValueError else
      Except.bind (Gen.parseDigits (BytesPy.slice s pos (pos + 2)) 2) fun t3 =>
        .ok ([BytesPy.Comp.int y, .int m, .int t3], pos + 2))
    = (commonDay hs y m (s.drop p)).map (dateOut s) := by
  have field : ∀ q : Nat,
      (if BytesPy.len s - (q : Int) < 2 then (.error .ValueError : Py.R _) else
        Except.bind (Gen.parseDigits (BytesPy.slice s q ((q : Int) + 2)) 2) fun t3 =>
          .ok ([BytesPy.Comp.int y, .int m, .int t3], (q : Int) + 2)) =
      Except.map (dateOut s) (if (s.drop q).length < 2 then .error .ValueError else do
        let d ← parseDigits ((s.drop q).take 2) 2
        .ok ((y, m, d), (s.drop q).drop 2)) := by
    intro q
    rw [map_ite, map_bind]
    refine ite_congr (propext (gen_len_lt s q 2 (by decide))) (fun _ => rfl) fun _ => ?_
    refine gen_field s q 2 (by decide) _ _ fun v hv => ?_
    simp only [Except.map, dateOut, List.length_drop]
    congr 2; omega
  cases hs
  · exact field p
  · rw [if_pos rfl, slice1]
    by_cases hd : (s.drop p).take 1 = [45]
    · have e : commonDay true y m (s.drop p) = (if (s.drop (p + 1)).length < 2 then .error .ValueError else do
          let d ← parseDigits ((s.drop (p + 1)).take 2) 2
          .ok ((y, m, d), (s.drop (p + 1)).drop 2)) := by
        simp [commonDay, hd, cDash, List.drop_drop]
      rw [if_neg (not_not_intro hd), e, ← field (p + 1)]
      rfl
    · have e : commonDay true y m (s.drop p) = .error .ValueError := by simp [commonDay, hd, cDash]
      rw [if_pos hd, e]; rfl

theorem gen_ge_len {α} (s : List α) (q : Nat) : ((q : Int) ≥ BytesPy.len s) ↔ s.drop q = [] := by
  rw [BytesPy.len, List.drop_eq_nil_iff]; omega

theorem gen_commonMonth (s : Bytes) (p : Nat) (hs : Bool) (y : Int) :
    (if BytesPy.len s - (p : Int) < 2 then (.error .ValueError : Py.R _) else
      Except.bind (Gen.parseDigits (BytesPy.slice s p ((p : Int) + 2)) 2) fun t2 =>
        if (p : Int) + 2 ≥ BytesPy.len s then
          if hs = true then .ok ([BytesPy.Comp.int y, .int t2, .int 1], (p : Int) + 2) else .error .ValueError
        else
          (if hs = true then
              if BytesPy.slice s ((p : Int) + 2) ((p : Int) + 2 + 1) ≠ [45] then (.error .ValueError : Py.R Int)
              else .ok ((p : Int) + 2 + 1)
            else .ok ((p : Int) + 2)).bind fun pos =>
            if BytesPy.len s - pos < 2 then .error .ValueError else
            Except.bind (Gen.parseDigits (BytesPy.slice s pos (pos + 2)) 2) fun t3 =>
              .ok ([BytesPy.Comp.int y, .int t2, .int t3], pos + 2))
    = (commonMonth hs y (s.drop p)).map (dateOut s) := by
  unfold commonMonth
  rw [map_ite, map_bind]
  refine ite_congr (propext (gen_len_lt s p 2 (by decide))) (fun _ => rfl) fun _ => ?_
  refine gen_field s p 2 (by decide) _ _ fun v hv => ?_
  rw [List.drop_drop, map_ite, map_ite]
  refine ite_congr (propext (gen_ge_len s (p + 2))) (fun h0 => ?_) fun _ => gen_commonDay s (p + 2) hs y v
  cases hs
  · rfl
  · have hl : s.length = p + 2 := by have := List.drop_eq_nil_iff.mp h0; omega
    simp only [Except.map, dateOut, h0, List.length_nil, hl]; congr 2

theorem lset3 (a b c v : BytesPy.Comp) :
    BytesPy.lset [a, b, c] 0 v = [v, b, c] ∧ BytesPy.lset [a, b, c] 1 v = [a, v, c] ∧
    BytesPy.lset [a, b, c] 2 v = [a, b, v] := ⟨rfl, rfl, rfl⟩

theorem parseIsodateCommon_eq (s : Bytes) :
    Gen.parseIsodateCommon s = (Iso.parseIsodateCommon s).map (dateOut s) := by
  have h45 : decide (BytesPy.slice s 4 (4 + 1) = [45]) = ((s.drop 4).take 1 == [cDash]) := by
    rw [show BytesPy.slice s 4 (4 + 1) = (s.drop 4).take 1 from slice1 s 4, Bool.beq_eq_decide_eq]; rfl
  rw [parseIsodateCommon_stages]
  unfold Gen.parseIsodateCommon
  simp only [map_ite, map_bind, (lset3 _ _ _ _).1, (lset3 _ _ _ _).2.1, (lset3 _ _ _ _).2.2, h45]
  refine ite_congr (propext (by rw [BytesPy.len]; omega)) (fun _ => rfl) fun _ => ?_
  refine gen_field s 0 4 (by decide) _ _ fun v hv => ?_
  refine ite_congr (propext (gen_ge_len s 4)) (fun h0 => ?_) fun _ => ?_
  · have hl : s.length = 4 := by have := List.drop_eq_nil_iff.mp h0; omega
    simp only [Except.map, dateOut, h0, List.length_nil, hl]; rfl
  · cases ((s.drop 4).take 1 == [cDash])
    · exact gen_commonMonth s 4 false v
    · rw [if_pos rfl, List.drop_drop]; exact gen_commonMonth s 5 true v

/-- how the translated `_parse_isodate_uncommon` reports the date it has found as an ordinal -/
def ordOut (x : Int × Int) : Py.R (List BytesPy.Comp × Int) :=
  .ok ([.int (BytesPy.year x.2), .int (BytesPy.month x.2), .int (BytesPy.day x.2)], x.1)

theorem gen_weekdate (s : Bytes) (y w d pos : Int) (rest : Bytes) (hp : pos = s.length - rest.length) :
    (Except.bind (Gen.calculateWeekdate y w d) fun bd => .ok (pos, bd)).bind ordOut =
      Except.map (dateOut s) (Iso.calculateWeekdate y w d >>= fun base => .ok (base, rest)) := by
  rw [← gen_calculateWeekdate, hp]
  cases Gen.calculateWeekdate y w d <;> rfl

theorem ebind_assoc {α β γ} (r : Py.R α) (f : α → Py.R β) (g : β → Py.R γ) :
    (Except.bind r f).bind g = Except.bind r fun a => (f a).bind g := by
  cases r <;> rfl

theorem gen_len_gt {α} (s : List α) (q : Nat) : (BytesPy.len s > (q : Int)) ↔ s.drop q ≠ [] := by
  rw [ne_eq, List.drop_eq_nil_iff, BytesPy.len]; omega

/-- the day-of-week field at cursor `q` and the date computed from it -/
theorem gen_dayField (s : Bytes) (q : Nat) (y w : Int) :
    ((Except.bind (Gen.parseDigits (BytesPy.slice s (q : Int) ((q : Int) + 1)) 1) fun dayno =>
        (.ok ((q : Int) + 1, dayno) : Py.R (Int × Int))).bind fun x =>
        Except.bind (Gen.calculateWeekdate y w x.2) fun bd => .ok (x.1, bd)).bind ordOut
    = Except.map (dateOut s) (do
        let dayno ← parseDigits ((s.drop q).take 1) 1
        let base ← calculateWeekdate y w dayno
        .ok (base, (s.drop q).drop 1)) := by
  rw [ebind_assoc, ebind_assoc, map_bind]
  refine gen_field s q 1 (by decide) _ _ fun v hv => ?_
  exact gen_weekdate s y w v _ _ (by rw [List.length_drop, List.length_drop]; omega)

theorem gen_weekDay (s : Bytes) (q : Nat) (hq : q ≤ s.length) (hs : Bool) (y w : Int) :
    ((if BytesPy.len s > (q : Int) then
          if decide (BytesPy.slice s (q : Int) ((q : Int) + 1) = [45]) ≠ hs then
            (.error .ValueError : Py.R (Int × Int))
          else
            Except.bind (Gen.parseDigits (BytesPy.slice s ((q : Int) + BytesPy.b2i hs)
              ((q : Int) + BytesPy.b2i hs + 1)) 1) fun dayno => .ok ((q : Int) + BytesPy.b2i hs + 1, dayno)
        else .ok ((q : Int), 1)).bind fun x =>
        Except.bind (Gen.calculateWeekdate y w x.2) fun bd => .ok (x.1, bd)).bind ordOut
    = (uncommonWeekDay hs y w (s.drop q)).map (dateOut s) := by
  unfold uncommonWeekDay
  by_cases hr : s.drop q = []
  · have hl : s.length ≤ q := List.drop_eq_nil_iff.mp hr
    rw [if_neg (fun h => (gen_len_gt s q).mp h hr), if_neg (not_not_intro hr), hr]
    exact gen_weekdate s y w 1 _ [] (by simp; omega)
  rw [if_pos ((gen_len_gt s q).mpr hr), if_pos hr, slice1, ← Bool.beq_eq_decide_eq]
  by_cases hd : (((s.drop q).take 1 == [cDash]) != hs) = true
  · rw [if_pos (by simpa [cDash] using hd), if_pos hd]; rfl
  rw [if_neg (by simpa [cDash] using hd), if_neg hd]
  cases hs
  · exact gen_dayField s q y w
  · have := gen_dayField s (q + 1) y w
    rw [← List.drop_drop] at this
    exact this

theorem ite_ebind {α β} (c : Prop) [Decidable c] (a b : Py.R α) (f : α → Py.R β) :
    (if c then a else b).bind f = if c then a.bind f else b.bind f := by
  split <;> rfl

theorem gen_ordinal (s : Bytes) (p : Nat) (y : Int) :
    ((if BytesPy.len s - (p : Int) < 3 then (.error .ValueError : Py.R (Int × Int)) else
        Except.bind (Gen.parseDigits (BytesPy.slice s (p : Int) ((p : Int) + 3)) 3) fun ord =>
          if ord < 1 ∨ ord > 365 + BytesPy.b2i (BytesPy.isleap y) then .error .ValueError else
          Except.bind (BytesPy.date y 1 1) fun t6 =>
          Except.bind (BytesPy.dateAdd t6 (ord - 1)) fun bd => .ok ((p : Int) + 3, bd)).bind ordOut)
    = (uncommonOrdinal y (s.drop p)).map (dateOut s) := by
  unfold uncommonOrdinal
  rw [ite_ebind, map_ite, map_bind, ebind_assoc]
  refine ite_congr (propext (gen_len_lt s p 3 (by decide))) (fun _ => rfl) fun _ => ?_
  refine gen_field s p 3 (by decide) _ _ fun v hv => ?_
  unfold ordinalResult
  by_cases hc : v < 1 ∨ v > 365 + BytesPy.b2i (BytesPy.isleap y)
  · rw [if_pos hc, if_pos (show v < 1 ∨ v > 365 + (if Cal.isLeap y then 1 else 0) from hc)]; rfl
  rw [if_neg hc, if_neg (show ¬ (v < 1 ∨ v > 365 + (if Cal.isLeap y then 1 else 0)) from hc)]
  show ((mkDateOrd y 1 1).bind fun t6 => (ordChecked (t6 + (v - 1))).bind fun bd => .ok ((p : Int) + 3, bd)).bind ordOut = _
  cases mkDateOrd y 1 1 with
  | error e => rfl
  | ok j =>
    cases ho : ordChecked (j + (v - 1)) with
    | error e => simp [Except.bind, Except.map, bind, ho]
    | ok o =>
      simp only [Except.bind, Except.map, bind, ho, ordOut, dateOut, List.length_drop]
      congr 2; omega

/-- `_parse_isodate_uncommon` behind the year and its dash, at cursor `p` -/
theorem gen_uncommonRest (s : Bytes) (p : Nat) (hs : Bool) (y : Int) :
    ((if BytesPy.slice s (p : Int) ((p : Int) + 1) = [87] then
        Except.bind (Gen.parseDigits (BytesPy.slice s ((p : Int) + 1) ((p : Int) + 1 + 2)) 2) fun weekno =>
          (if BytesPy.len s > (p : Int) + 1 + 2 then
              if decide (BytesPy.slice s ((p : Int) + 1 + 2) ((p : Int) + 1 + 2 + 1) = [45]) ≠ hs then
                (.error .ValueError : Py.R (Int × Int))
              else
                Except.bind (Gen.parseDigits (BytesPy.slice s ((p : Int) + 1 + 2 + BytesPy.b2i hs)
                  ((p : Int) + 1 + 2 + BytesPy.b2i hs + 1)) 1) fun dayno =>
                  .ok ((p : Int) + 1 + 2 + BytesPy.b2i hs + 1, dayno)
            else .ok ((p : Int) + 1 + 2, 1)).bind fun x =>
            Except.bind (Gen.calculateWeekdate y weekno x.2) fun bd => .ok (x.1, bd)
      else
        if BytesPy.len s - (p : Int) < 3 then .error .ValueError else
        Except.bind (Gen.parseDigits (BytesPy.slice s (p : Int) ((p : Int) + 3)) 3) fun ord =>
          if ord < 1 ∨ ord > 365 + BytesPy.b2i (BytesPy.isleap y) then .error .ValueError else
          Except.bind (BytesPy.date y 1 1) fun t6 =>
          Except.bind (BytesPy.dateAdd t6 (ord - 1)) fun bd => .ok ((p : Int) + 3, bd)).bind ordOut)
    = if ((s.drop p).take 1 == [cW]) = true then (uncommonWeek hs y ((s.drop p).drop 1)).map (dateOut s)
      else (uncommonOrdinal y (s.drop p)).map (dateOut s) := by
  rw [ite_ebind, slice1]
  refine ite_congr (propext (by rw [beq_iff_eq]; rfl)) (fun _ => ?_) fun _ => gen_ordinal s p y
  unfold uncommonWeek
  rw [ebind_assoc, map_bind, List.drop_drop]
  refine gen_field s (p + 1) 2 (by decide) _ _ fun w hv => ?_
  rw [List.drop_drop]
  exact gen_weekDay s (p + 1 + 2) hv hs y w

theorem parseIsodateUncommon_eq (s : Bytes) :
    Gen.parseIsodateUncommon s = (Iso.parseIsodateUncommon s).map (dateOut s) := by
  have h45 : decide (BytesPy.slice s 4 5 = [45]) = ((s.drop 4).take 1 == [cDash]) := by
    rw [show BytesPy.slice s 4 5 = (s.drop 4).take 1 from slice1 s 4, Bool.beq_eq_decide_eq]; rfl
  rw [parseIsodateUncommon_stages]
  unfold Gen.parseIsodateUncommon
  simp only [map_ite, map_bind, h45]
  refine ite_congr (propext (by rw [BytesPy.len]; omega)) (fun _ => rfl) fun _ => ?_
  refine gen_field s 0 4 (by decide) _ _ fun y hv => ?_
  cases ((s.drop 4).take 1 == [cDash])
  · exact gen_uncommonRest s 4 false y
  · rw [if_pos rfl, List.drop_drop]; exact gen_uncommonRest s 5 true y

theorem parseIsodate_eq (s : Bytes) : Gen.parseIsodate s = (Iso.parseIsodate s).map (dateOut s) := by
  unfold Gen.parseIsodate Iso.parseIsodate
  rw [parseIsodateCommon_eq, parseIsodateUncommon_eq]
  cases Iso.parseIsodateCommon s with
  | ok v => rfl
  | error e => cases e <;> simp [BytesPy.tryExcept, Except.map]

end IsoGen
