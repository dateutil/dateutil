/-
  Proofs/RSetHistoryInv.lean — the invariant `Good` tying the history machine of a set object
  (Model/RRuleSet.lean) to its specification (Spec/RSetHistory.lean), preserved by every op that
  does not advance a stale iterator; every observation equals the specified one (C10 history_inv).
-/
import DateutilVerif.Proofs.RSetHistory
import DateutilVerif.Spec.RSetHistory

namespace RSet
open Cache Queries

theorem insertSorted_sorted (x : Int) (l : List Int) (h : l.Pairwise (· ≤ ·)) :
    (insertSorted x l).Pairwise (· ≤ ·) ∧ ∀ y, y ∈ insertSorted x l ↔ y = x ∨ y ∈ l := by
  induction l with
  | nil => simp [insertSorted]
  | cons a l ih =>
    have ⟨ha, hl⟩ := List.pairwise_cons.mp h
    have ⟨ih1, ih2⟩ := ih hl
    unfold insertSorted
    by_cases h1 : x ≤ a
    · rw [if_pos h1]
      refine ⟨?_, fun y => by simp⟩
      rw [List.pairwise_cons]
      refine ⟨fun b hb => ?_, h⟩
      rcases List.mem_cons.mp hb with rfl | hb
      · exact h1
      · have := ha b hb; omega
    · rw [if_neg h1]
      refine ⟨?_, fun y => ?_⟩
      · rw [List.pairwise_cons]
        refine ⟨fun b hb => ?_, ih1⟩
        rcases (ih2 b).mp hb with rfl | hb
        · omega
        · exact ha b hb
      · rw [List.mem_cons, ih2 y, List.mem_cons]
        constructor
        · rintro (h | h | h)
          · exact Or.inr (Or.inl h)
          · exact Or.inl h
          · exact Or.inr (Or.inr h)
        · rintro (h | h | h)
          · exact Or.inr (Or.inl h)
          · exact Or.inl h
          · exact Or.inr (Or.inr h)

theorem sortList_sorted (l : List Int) : (sortList l).Pairwise (· ≤ ·) := by
  induction l with
  | nil => simp [sortList]
  | cons a l ih => exact (insertSorted_sorted a (sortList l) ih).1

def MSorted (m : Members) : Prop := ∀ s ∈ m.rrules ++ m.exrules, s.Pairwise (· ≤ ·)

theorem members_src (m : Members) (h : MSorted m) : m.src = specL m ∧ Sorted (specL m) := by
  have hinc : ∀ s ∈ m.inc, s.Pairwise (· ≤ ·) := by
    intro s hs
    rcases List.mem_cons.mp hs with rfl | hs
    · exact sortList_sorted _
    · exact h s (by simp [hs])
  have hexc : ∀ s ∈ m.exc, s.Pairwise (· ≤ ·) := by
    intro s hs
    rcases List.mem_cons.mp hs with rfl | hs
    · exact sortList_sorted _
    · exact h s (by simp [hs])
  refine ⟨?_, ?_⟩
  · unfold Members.src specL
    have ⟨h1, _, _, h4⟩ := loop_spec selFirstMin_adm (totalLen m.inc + 1) (m.inc.filterMap mkCursor)
      (m.exc.filterMap mkCursor) none (sorted_mk _ hinc) (sorted_mk _ hexc) (by rw [total_mk]; omega)
      (fun l hl => by cases hl)
    have ⟨s1, s2⟩ := sortDedup_spec (m.inc.flatten.filter (fun x => !(m.exc.flatten.elem x)))
    unfold iter setSpec
    apply sorted_ext _ _ h1 s1
    intro x
    rw [h4 x, s2 x, mem_elemsOf_mk, mem_elemsOf_mk, List.mem_filter]
    simp [List.elem_eq_mem]
  · exact (sortDedup_spec _).1

structure Good (st : RSetState) (tr : Track) : Prop where
  m_eq : st.m = tr.m
  msorted : MSorted tr.m
  gens : st.old.length = tr.muts
  hlen : st.handles.length = tr.opened.length
  src : st.cur.sh.src = specL tr.m
  older : ∀ (j : Nat) (m0 c : Nat), tr.opened[j]? = some (m0, c) → m0 ≤ tr.muts
  cinv : st.cacheOn = true → Inv st.cur ∧ Parked st.cur
  ulen : st.cacheOn = false → st.cur.sh.len = none ∨ st.cur.sh.len = some (specL tr.m).length
  hc : st.cacheOn = true → ∀ (j : Nat) (h : Handle) (c : Nat), st.handles[j]? = some h →
        tr.opened[j]? = some (tr.muts, c) →
        h.gen = tr.muts ∧ ∃ it : Iter, st.cur.its[h.tid]? = some it ∧ it.q = .iterAll ∧ it.yielded.length = c
  hd : st.cacheOn = true → ∀ (j j' : Nat) (h h' : Handle) (c c' : Nat), st.handles[j]? = some h →
        st.handles[j']? = some h' → tr.opened[j]? = some (tr.muts, c) → tr.opened[j']? = some (tr.muts, c') →
        h.tid = h'.tid → j = j'
  hu : st.cacheOn = false → ∀ (j : Nat) (h : Handle) (c : Nat), st.handles[j]? = some h →
        tr.opened[j]? = some (tr.muts, c) →
        (h.udone = true → (specL tr.m).length ≤ c) ∧
        (h.udone = false → (h.usrc = none ∧ h.upos = 0 ∧ c = 0) ∨ (h.usrc = some (specL tr.m) ∧ h.upos = c))
  /-- a bound `_iter()` generator of an uncached set carries the generation it was bound in; one bound in the current
      generation is bound to the current sequence (so the `_len` it may publish is the right one) -/
  hgen : st.cacheOn = false → ∀ (j : Nat) (h : Handle), st.handles[j]? = some h → h.usrc.isSome = true →
        h.gen ≤ st.old.length ∧ (h.gen = st.old.length → h.usrc = some (specL tr.m))
  /-- cached set: no handle is of a future generation; the handles of the CURRENT generation (whatever the bookkeeping says
      about them: an iterator created before a mutator but first advanced after it belongs to the current generation) own
      distinct plain-iterator threads of the current machine -/
  hgle : st.cacheOn = true → ∀ (j : Nat) (h : Handle), st.handles[j]? = some h → h.gen ≤ st.old.length
  hcg : st.cacheOn = true → ∀ (j : Nat) (h : Handle), st.handles[j]? = some h → h.gen = st.old.length →
        ∃ it : Iter, st.cur.its[h.tid]? = some it ∧ it.q = .iterAll
  hdg : st.cacheOn = true → ∀ (j j' : Nat) (h h' : Handle), st.handles[j]? = some h → st.handles[j']? = some h' →
        h.gen = st.old.length → h'.gen = st.old.length → h.tid = h'.tid → j = j'

theorem good_init (c : Bool) : Good (newState c) {} := by
  refine ⟨rfl, ?_, rfl, rfl, (show ([] : List Int) = specL {} by decide), ?_, ?_, ?_, ?_, ?_, ?_, ?_,
    fun _ j h hh => by simp [newState] at hh, fun _ j h hh => by simp [newState] at hh,
    fun _ j j' h h' hh => by simp [newState] at hh⟩
  · intro s hs; simp at hs
  · intro j m0 c h; simp at h
  · intro _
    exact ⟨inv_init [] [], fun t it h => by simp [newState] at h, rfl⟩
  · intro _; exact Or.inl rfl
  · intro _ j h c hh; simp [newState] at hh
  · intro _ j j' h h' c c' hh; simp [newState] at hh
  · intro _ j h c hh; simp [newState] at hh
  · intro _ j h hh; simp [newState] at hh

/-- a mutator: every kept iterator becomes stale, the object starts a fresh generation -/
theorem good_mutate {st : RSetState} {tr : Track} (hg : Good st tr) (m' : Members) (hm' : MSorted m') :
    Good (invalidate st m') { tr with m := m', muts := tr.muts + 1 } := by
  have hsrc := members_src m' hm'
  have hnot : ∀ (j c : Nat), tr.opened[j]? = some (tr.muts + 1, c) → False := by
    intro j c h
    have := hg.older j _ c h
    omega
  have hfut : ∀ (hco : st.cacheOn = true) (j : Nat) (h : Handle), st.handles[j]? = some h → h.gen = (st.cur :: st.old).length → False := by
    intro hco j h hh e
    have := hg.hgle hco j h hh
    simp only [List.length_cons] at e; omega
  refine ⟨rfl, hm', ?_, hg.hlen, hsrc.1, ?_, ?_, ?_, ?_, ?_, ?_, ?_,
    fun hco j h hh => by have := hg.hgle hco j h hh; show h.gen ≤ (st.cur :: st.old).length; simp only [List.length_cons]; omega,
    fun hco j h hh e => (hfut hco j h hh e).elim, fun hco j j' h h' hh _ e => (hfut hco j h hh e).elim⟩
  · simp [invalidate, hg.gens]
  · intro j m0 c h
    have := hg.older j m0 c h
    show m0 ≤ tr.muts + 1
    omega
  · intro _
    exact ⟨inv_init m'.src [], fun t it h => by simp [invalidate] at h, rfl⟩
  · intro _; exact Or.inl rfl
  · intro _ j h c _ ho; exact (hnot j c ho).elim
  · intro _ j j' h h' c c' _ _ ho; exact (hnot j c ho).elim
  · intro _ j h c _ ho; exact (hnot j c ho).elim
  · intro hco j h hh hb
    have := (hg.hgen hco j h hh hb).1
    refine ⟨?_, fun e => ?_⟩
    · show h.gen ≤ (st.cur :: st.old).length
      simp only [List.length_cons]; omega
    · have e' : h.gen = (st.cur :: st.old).length := e
      simp only [List.length_cons] at e'; omega

theorem runUncached_spec (sh : Shared) (q : Query) (L : List Int) (hsmall : fits q L) (hsrc : sh.src = L) (hL : Sorted L)
    (hlen : sh.len = none ∨ sh.len = some L.length) :
    (runUncached sh q).2 = some (spec q L) ∧ (runUncached sh q).1.src = L ∧
    ((runUncached sh q).1.len = none ∨ (runUncached sh q).1.len = some L.length) := by
  cases q with
  | count =>
    simp only [runUncached]
    rcases hlen with h | h
    · rw [h]; simp [spec, hsrc]
    · rw [h]; simp [spec, hsrc, h]
  | _ =>
    simp only [runUncached]
    refine ⟨by rw [hsrc, Cache.gen_eq_spec _ _ hL hsmall], by split <;> exact hsrc, ?_⟩
    split
    · exact hlen
    · right; simp [hsrc]

theorem good_query {st : RSetState} {tr : Track} (hg : Good st tr) (q : Query) (hsmall : fits q (specL tr.m)) :
    (applyOp st (.q q)).2 = some (spec q (specL tr.m)) ∧ Good (applyOp st (.q q)).1 tr := by
  have hsorted := (members_src tr.m hg.msorted).2
  by_cases hco : st.cacheOn = true
  · -- a new thread of the cached machine runs to completion; the kept iterators' threads stay as they are
    have no : ∀ {p : Prop}, st.cacheOn = false → p := fun h => by rw [hco] at h; cases h
    obtain ⟨hi, hp⟩ := hg.cinv hco
    obtain ⟨r1, r2, r3, r4, r5, r6⟩ := runQuery_spec hi hp (hg.src ▸ hsorted) q (hg.src ▸ hsmall)
    have keep : ∀ {t : Tid} {it : Iter}, st.cur.its[t]? = some it → (runQuery st.cur q).1.its[t]? = some it :=
      fun e => (r5 _ (List.lt_of_getElem? e)).trans e
    simp only [applyOp, if_pos hco]
    exact ⟨by rw [r1, hg.src], { hg with
      src := r4.trans hg.src
      cinv := fun _ => ⟨r2, r3⟩
      ulen := no
      hc := fun _ j h c hh ho => (hg.hc hco j h c hh ho).imp id fun ⟨it, e2, e⟩ => ⟨it, keep e2, e⟩
      hcg := fun _ j h hh hgn => (hg.hcg hco j h hh hgn).imp fun it e => ⟨keep e.1, e.2⟩ }⟩
  · have no : ∀ {p : Prop}, st.cacheOn = true → p := fun h => absurd h hco
    obtain ⟨r1, r2, r3⟩ :=
      runUncached_spec st.cur.sh q _ hsmall hg.src hsorted (hg.ulen (Bool.eq_false_iff.mpr hco))
    simp only [applyOp, if_neg hco]
    exact ⟨r1, { hg with src := r2, cinv := no, ulen := fun _ => r3, hc := no, hcg := no }⟩

/-- `list(islice(it_j, k))` on a kept iterator of the CURRENT generation of a cached set -/
theorem resumeCached_cur {st : RSetState} {tr : Track} (hg : Good st tr) (hco : st.cacheOn = true)
    (j : Nat) (h : Handle) (c k : Nat) (hh : st.handles[j]? = some h) (ho : tr.opened[j]? = some (tr.muts, c)) :
    (resumeCached st j h k).2 = some (.list (((specL tr.m).drop c).take k)) ∧
    Good (resumeCached st j h k).1
      { tr with opened := tr.opened.set j (tr.muts, c + (((specL tr.m).drop c).take k).length) } := by
  obtain ⟨hi, hp⟩ := hg.cinv hco
  obtain ⟨hgen, it, hit, hq, hyl⟩ := hg.hc hco j h c hh ho
  have hsolo : Solo st.cur h.tid := ⟨hi, fun t' it' _ h' => hp.1 t' it' h'⟩
  obtain ⟨hs', hsrc, hlen, hoth, it', hit', hq', hpk', hvals, hy'⟩ :=
    takeVals_spec h.tid k st.cur it [] hsolo hit hq (hp.1 _ it hit)
  have hcur : h.gen = st.old.length := by rw [hgen, hg.gens]
  unfold resumeCached
  simp only [hcur, ↓reduceIte]
  rw [hg.src, hyl] at hvals hy'
  simp only [List.nil_append] at hvals
  have hcrash : it'.crash = none := (hs'.inv.linv _ it' hit').1
  have no : ∀ {p : Prop}, st.cacheOn = false → p := fun h => by rw [hco] at h; cases h
  -- the entries of the current generation, before and after the `j`-th is advanced
  have key : ∀ {j' c' : Nat}, (tr.opened.set j (tr.muts, c + (((specL tr.m).drop c).take k).length))[j']? = some (tr.muts, c') →
      ∃ c'' : Nat, tr.opened[j']? = some (tr.muts, c'') := by
    intro j' c' h'
    by_cases e : j = j'
    · subst e; exact ⟨c, ho⟩
    · rw [List.getElem?_set_ne e] at h'; exact ⟨c', h'⟩
  refine ⟨?_, { hg with
    hlen := hg.hlen.trans List.length_set.symm
    src := hsrc.trans hg.src
    older := fun j' m0 c' ho' => ?_
    cinv := fun _ => ⟨hs'.inv, fun t' it2 h2 => ?_, (takeVals_endErr h.tid k st.cur [] hi).trans hp.2⟩
    ulen := no
    hc := fun _ j' h2 c2 hh2 ho2 => ?_
    hd := fun _ j1 j2 h1 h2 c1 c2 hh1 hh2 ho1 ho2 htid =>
      (key ho1).elim fun c1' ho1' => (key ho2).elim fun c2' ho2' => hg.hd hco j1 j2 h1 h2 c1' c2' hh1 hh2 ho1' ho2' htid
    hu := no
    hcg := fun _ j2 h2 hh2 hgn2 => ?_ }⟩
  · -- the observation
    show some (takeObs st.cur (takeVals st.cur h.tid k []).1 h.tid (takeVals st.cur h.tid k []).2) = _
    rw [hvals]
    unfold takeObs
    split
    · rfl
    · rw [hit']; simp only []; rw [hcrash]
  · by_cases e : j = j'
    · subst e
      rw [List.getElem?_set_self (List.lt_of_getElem? ho)] at ho'
      cases ho'; exact Nat.le_refl _
    · rw [List.getElem?_set_ne e] at ho'; exact hg.older j' m0 c' ho'
  · by_cases e : t' = h.tid
    · subst e
      rw [show (takeVals st.cur h.tid k []).1.its[h.tid]? = some it' from hit'] at h2
      cases h2; exact hpk'
    · exact hs'.parked t' it2 e h2
  · by_cases e : j = j'
    · subst e
      rw [hh] at hh2; cases hh2
      rw [List.getElem?_set_self (List.lt_of_getElem? ho)] at ho2
      cases ho2
      exact ⟨hgen, it', hit', hq', by rw [hy', List.length_append, hyl]⟩
    · rw [List.getElem?_set_ne e] at ho2
      obtain ⟨e1, it2, e2, e3, e4⟩ := hg.hc hco j' h2 c2 hh2 ho2
      have hne : h2.tid ≠ h.tid := fun heq => e (hg.hd hco j' j h2 h c2 c hh2 hh ho2 ho heq).symm
      exact ⟨e1, it2, (hoth h2.tid hne).trans e2, e3, e4⟩
  · by_cases e : h2.tid = h.tid
    · exact ⟨it', by rw [e]; exact hit', hq'⟩
    · obtain ⟨it2, e2, e3⟩ := hg.hcg hco j2 h2 hh2 hgn2
      exact ⟨it2, (hoth h2.tid e).trans e2, e3⟩

theorem ite_len_src (b : Bool) (sh : Shared) (n : Nat) : (if b = true then { sh with len := some n } else sh).src = sh.src := by
  cases b <;> rfl

theorem ite_len_len (b : Bool) (sh : Shared) (n : Nat) (h : sh.len = none ∨ sh.len = some n) :
    (if b = true then { sh with len := some n } else sh).len = none ∨ (if b = true then { sh with len := some n } else sh).len = some n := by
  cases b
  · exact h
  · right; rfl

/-- `list(islice(it_j, k))` on a kept `_iter()` generator of an uncached set, created after the last mutator -/
theorem resumeUncached_cur {st : RSetState} {tr : Track} (hg : Good st tr) (hco : st.cacheOn = false)
    (j : Nat) (h : Handle) (c k : Nat) (hh : st.handles[j]? = some h) (ho : tr.opened[j]? = some (tr.muts, c)) :
    (resumeUncached st j h k).2 = some (.list (((specL tr.m).drop c).take k)) ∧
    Good (resumeUncached st j h k).1
      { tr with opened := tr.opened.set j (tr.muts, c + (((specL tr.m).drop c).take k).length) } := by
  obtain ⟨hu1, hu2⟩ := hg.hu hco j h c hh ho
  have hjlt := List.lt_of_getElem? ho
  unfold resumeUncached
  by_cases hstop : (k = 0 || h.udone) = true
  · rw [if_pos hstop]
    have hnil : ((specL tr.m).drop c).take k = [] := by
      simp only [Bool.or_eq_true, decide_eq_true_eq] at hstop
      rcases hstop with rfl | hd
      · simp
      · rw [List.drop_eq_nil_of_le (hu1 hd)]; simp
    rw [hnil]
    simp only [List.length_nil, Nat.add_zero]
    rw [List.set_of_getElem? ho]
    exact ⟨trivial, hg⟩
  · rw [if_neg hstop]
    simp only [Bool.or_eq_true, decide_eq_true_eq, not_or, Bool.not_eq_true] at hstop
    obtain ⟨hk, hnd⟩ := hstop
    have hsrcL : h.usrc.getD st.cur.sh.src = specL tr.m ∧ h.upos = c := by
      rcases hu2 hnd with ⟨a, b, c0⟩ | ⟨a, b⟩
      · rw [a, c0, b]; exact ⟨hg.src, rfl⟩
      · rw [a, b]; exact ⟨rfl, rfl⟩
    simp only [hsrcL.1, hsrcL.2]
    generalize hv : ((specL tr.m).drop c).take k = vals
    have hvl : vals.length = min k ((specL tr.m).length - c) := by
      rw [← hv, List.length_take, List.length_drop]
    have no : ∀ {p : Prop}, st.cacheOn = true → p := fun h => by rw [hco] at h; cases h
    refine ⟨trivial, { hg with
      hlen := by rw [show _ = (st.handles.set j _).length from rfl, List.length_set, List.length_set]; exact hg.hlen
      src := (ite_len_src _ _ _).trans hg.src
      older := fun j' m0 c' ho' => ?_
      cinv := no, hc := no, hd := no, hgle := no, hcg := no, hdg := no
      ulen := fun _ => ite_len_len _ _ _ (hg.ulen hco)
      hu := fun _ j' h2 c2 hh2 ho2 => ?_
      hgen := fun _ j' h2 hh2 hb2 => ?_ }⟩
    · by_cases e : j = j'
      · subst e
        rw [List.getElem?_set_self hjlt] at ho'
        cases ho'; exact Nat.le_refl _
      · rw [List.getElem?_set_ne e] at ho'; exact hg.older j' m0 c' ho'
    · by_cases e : j = j'
      · subst e
        rw [List.getElem?_set_self (List.lt_of_getElem? hh)] at hh2
        rw [List.getElem?_set_self hjlt] at ho2
        cases hh2; cases ho2
        simp only [decide_eq_true_eq, decide_eq_false_iff_not]
        exact ⟨fun hf => by omega, fun hf => Or.inr ⟨trivial, trivial⟩⟩
      · rw [List.getElem?_set_ne e] at hh2 ho2
        exact hg.hu hco j' h2 c2 hh2 ho2
    · by_cases e : j = j'
      · subst e
        rw [List.getElem?_set_self (List.lt_of_getElem? hh)] at hh2
        cases hh2
        cases hus : h.usrc with
        | none => simp
        | some u =>
          simp only [Option.isSome_some, ↓reduceIte]
          exact ⟨(hg.hgen hco j h hh (by rw [hus]; rfl)).1, fun _ => trivial⟩
      · rw [List.getElem?_set_ne e] at hh2
        exact hg.hgen hco j' h2 hh2 hb2

theorem concat_both {α β} {l : List α} {m : List β} (hlen : l.length = m.length) {a x : α} {b y : β} {j : Nat}
    (h1 : (l ++ [a])[j]? = some x) (h2 : (m ++ [b])[j]? = some y) :
    (l[j]? = some x ∧ m[j]? = some y) ∨ (j = l.length ∧ x = a ∧ y = b) := by
  rcases List.getElem?_concat_cases h1 with ⟨hj, h1'⟩ | ⟨hj, e1⟩ <;>
    rcases List.getElem?_concat_cases h2 with ⟨hj2, h2'⟩ | ⟨hj2, e2⟩
  · exact .inl ⟨h1', h2'⟩
  · omega
  · omega
  · exact .inr ⟨hj, e1, e2⟩

/-- `iter(s)` on a cached set at rest: a new kept iterator that has delivered nothing -/
theorem good_create_cached {st : RSetState} {tr : Track} (hg : Good st tr) (hco : st.cacheOn = true) :
    Good { st with cur := runCreate { st.cur with its := st.cur.its ++ [{ q := .iterAll }] } st.cur.its.length 8,
                   handles := st.handles ++ [{ gen := st.old.length, tid := st.cur.its.length }] }
         { tr with opened := tr.opened ++ [(tr.muts, 0)] } := by
  obtain ⟨hi, hp⟩ := hg.cinv hco
  let s0 : State := { st.cur with its := st.cur.its ++ [{ q := .iterAll }] }
  have hi0 : Inv s0 := inv_add hi .iterAll
  have hit0 : s0.its[st.cur.its.length]? = some { q := .iterAll } := List.getElem?_concat_length
  have hs0 : Solo s0 st.cur.its.length := by
    refine ⟨hi0, fun t' it' e h => ?_⟩
    rcases List.getElem?_concat_cases h with ⟨_, h'⟩ | ⟨e', _⟩
    · exact hp.1 t' it' h'
    · exact absurd e' e
  obtain ⟨hs1, hsrc, hlen, hoth, it', hit', hq', hy', hpk'⟩ :=
    runCreate_spec st.cur.its.length 8 s0 _ hs0 hit0 rfl rfl
  -- the threads of the kept iterators are below the new one, and stay as they are
  have hold : ∀ {t' : Tid} {it : Iter}, st.cur.its[t']? = some it →
      (runCreate s0 st.cur.its.length 8).its[t']? = some it := fun e =>
    (hoth _ (Nat.ne_of_lt (List.lt_of_getElem? e))).trans
      ((List.getElem?_append_left (List.lt_of_getElem? e)).trans e)
  have no : ∀ {p : Prop}, st.cacheOn = false → p := fun h => by rw [hco] at h; cases h
  exact { hg with
    hlen := by simp [hg.hlen]
    src := hsrc.trans hg.src
    older := fun j m0 c ho => by
      rcases List.getElem?_concat_cases ho with ⟨_, h'⟩ | ⟨_, e⟩
      · exact hg.older j m0 c h'
      · cases e; exact Nat.le_refl _
    cinv := fun _ => ⟨hs1.inv, fun t' it2 h2 => by
      by_cases e : t' = st.cur.its.length
      · subst e
        rw [show (runCreate s0 st.cur.its.length 8).its[st.cur.its.length]? = some it' from hit'] at h2
        cases h2; exact hpk'
      · exact hs1.parked t' it2 e h2, (runCreate_endErr st.cur.its.length 8 s0 hi0).trans hp.2⟩
    ulen := no, hu := no, hgen := no
    hc := fun _ j h c hh ho => by
      rcases concat_both hg.hlen hh ho with ⟨hh', ho'⟩ | ⟨_, e, e'⟩
      · obtain ⟨e1, it2, e2, e3, e4⟩ := hg.hc hco j h c hh' ho'
        exact ⟨e1, it2, hold e2, e3, e4⟩
      · cases e; cases e'
        exact ⟨hg.gens, it', hit', hq', by rw [hy']; rfl⟩
    hd := fun _ j1 j2 h1 h2 c1 c2 hh1 hh2 ho1 ho2 htid => by
      rcases concat_both hg.hlen hh1 ho1 with ⟨hh1', ho1'⟩ | ⟨hj1, e1, _⟩ <;>
        rcases concat_both hg.hlen hh2 ho2 with ⟨hh2', ho2'⟩ | ⟨hj2, e2, _⟩
      · exact hg.hd hco j1 j2 h1 h2 c1 c2 hh1' hh2' ho1' ho2' htid
      · obtain ⟨_, it2, e2', _, _⟩ := hg.hc hco j1 h1 c1 hh1' ho1'
        have := List.lt_of_getElem? e2'
        subst e2; simp only [] at htid; omega
      · obtain ⟨_, it2, e2', _, _⟩ := hg.hc hco j2 h2 c2 hh2' ho2'
        have := List.lt_of_getElem? e2'
        subst e1; simp only [] at htid; omega
      · rw [hj1, hj2]
    hgle := fun _ j h hh => by
      rcases List.getElem?_concat_cases hh with ⟨_, hh'⟩ | ⟨_, e⟩
      · exact hg.hgle hco j h hh'
      · subst e; exact Nat.le_refl _
    hcg := fun _ j h hh hgn => by
      rcases List.getElem?_concat_cases hh with ⟨_, hh'⟩ | ⟨_, e⟩
      · obtain ⟨it2, e2, e3⟩ := hg.hcg hco j h hh' hgn
        exact ⟨it2, hold e2, e3⟩
      · subst e; exact ⟨it', hit', hq'⟩
    hdg := fun _ j1 j2 h1 h2 hh1 hh2 g1 g2 htid => by
      rcases List.getElem?_concat_cases hh1 with ⟨hj1, hh1'⟩ | ⟨hj1, e1⟩ <;>
        rcases List.getElem?_concat_cases hh2 with ⟨hj2, hh2'⟩ | ⟨hj2, e2⟩
      · exact hg.hdg hco j1 j2 h1 h2 hh1' hh2' g1 g2 htid
      · obtain ⟨it2, e2', _⟩ := hg.hcg hco j1 h1 hh1' g1
        have := List.lt_of_getElem? e2'
        subst e2; simp only [] at htid; omega
      · obtain ⟨it2, e2', _⟩ := hg.hcg hco j2 h2 hh2' g2
        have := List.lt_of_getElem? e2'
        subst e1; simp only [] at htid; omega
      · rw [hj1, hj2] }

theorem good_create_uncached {st : RSetState} {tr : Track} (hg : Good st tr) (hco : st.cacheOn = false) :
    Good { st with handles := st.handles ++ [{}] } { tr with opened := tr.opened ++ [(tr.muts, 0)] } := by
  have no : ∀ {p : Prop}, st.cacheOn = true → p := fun h => by rw [hco] at h; cases h
  exact { hg with
    hlen := by simp [hg.hlen]
    older := fun j m0 c ho => by
      rcases List.getElem?_concat_cases ho with ⟨_, h'⟩ | ⟨_, e⟩
      · exact hg.older j m0 c h'
      · cases e; exact Nat.le_refl _
    hc := no, hd := no, hgle := no, hcg := no, hdg := no
    hu := fun _ j h c hh ho => by
      rcases concat_both hg.hlen hh ho with ⟨hh', ho'⟩ | ⟨_, e, e'⟩
      · exact hg.hu hco j h c hh' ho'
      · cases e; cases e'
        exact ⟨nofun, fun _ => .inl ⟨rfl, rfl, rfl⟩⟩
    hgen := fun _ j h hh hb => by
      rcases List.getElem?_concat_cases hh with ⟨_, hh'⟩ | ⟨_, e⟩
      · exact hg.hgen hco j h hh' hb
      · subst e; cases hb }

/-- one op that does not advance a stale iterator: the observation is the specified one -/
theorem good_step {st : RSetState} {tr : Track} (hg : Good st tr) (op : Op) (hs : opSorted op)
    (hf : opFresh tr op) (hfit : opFits tr op) :
    (applyOp st op).2 = (specStep tr op).2 ∧ Good (applyOp st op).1 (specStep tr op).1 := by
  have msnoc : ∀ l, l.Pairwise (· ≤ ·) → ∀ (a b : List (List Int)), (∀ s ∈ a ++ b, s.Pairwise (· ≤ ·)) →
      (∀ s ∈ (a ++ [l]) ++ b, s.Pairwise (· ≤ ·)) ∧ (∀ s ∈ a ++ (b ++ [l]), s.Pairwise (· ≤ ·)) := by
    intro l hl a b hab
    constructor <;> intro s hs
    · simp only [List.mem_append, List.mem_singleton] at hs
      rcases hs with (h | rfl) | h
      · exact hab s (by simp [h])
      · exact hl
      · exact hab s (by simp [h])
    · simp only [List.mem_append, List.mem_singleton] at hs
      rcases hs with h | h | rfl
      · exact hab s (by simp [h])
      · exact hab s (by simp [h])
      · exact hl
  cases op with
  | addRRule l =>
    refine ⟨rfl, ?_⟩
    rw [show (applyOp st (.addRRule l)).1 = invalidate st { st.m with rrules := st.m.rrules ++ [l] } from rfl, hg.m_eq]
    exact good_mutate hg _ (msnoc l hs _ _ hg.msorted).1
  | addExRule l =>
    refine ⟨rfl, ?_⟩
    rw [show (applyOp st (.addExRule l)).1 = invalidate st { st.m with exrules := st.m.exrules ++ [l] } from rfl, hg.m_eq]
    exact good_mutate hg _ (msnoc l hs _ _ hg.msorted).2
  | addRDate d =>
    refine ⟨rfl, ?_⟩
    rw [show (applyOp st (.addRDate d)).1 = invalidate st { st.m with rdates := st.m.rdates ++ [d] } from rfl, hg.m_eq]
    exact good_mutate hg _ hg.msorted
  | addExDate d =>
    refine ⟨rfl, ?_⟩
    rw [show (applyOp st (.addExDate d)).1 = invalidate st { st.m with exdates := st.m.exdates ++ [d] } from rfl, hg.m_eq]
    exact good_mutate hg _ hg.msorted
  | q q => exact good_query hg q hfit
  | open_ k =>
    cases hco : st.cacheOn with
    | true =>
      have hg1 := good_create_cached hg hco
      have hlenj : st.handles.length = tr.opened.length := hg.hlen
      obtain ⟨r1, r2⟩ := resumeCached_cur hg1 hco st.handles.length
        { gen := st.old.length, tid := st.cur.its.length } 0 k (List.getElem?_concat_length)
        (by rw [hlenj]; exact List.getElem?_concat_length)
      simp only [applyOp, hco, ↓reduceIte, specStep]
      simp only [List.drop_zero, Nat.zero_add] at r1 r2
      rw [hco] at r1 r2
      refine ⟨r1, ?_⟩
      have e : (tr.opened ++ [(tr.muts, 0)]).set st.handles.length (tr.muts, ((specL tr.m).take k).length) =
          tr.opened ++ [(tr.muts, ((specL tr.m).take k).length)] := by
        rw [hlenj]; exact List.set_concat_length _ _ _
      rw [e] at r2
      exact r2
    | false =>
      have hg1 := good_create_uncached hg hco
      have hlenj : st.handles.length = tr.opened.length := hg.hlen
      obtain ⟨r1, r2⟩ := resumeUncached_cur hg1 hco st.handles.length {} 0 k (List.getElem?_concat_length)
        (by rw [hlenj]; exact List.getElem?_concat_length)
      simp only [applyOp, hco, Bool.false_eq_true, ↓reduceIte, specStep]
      simp only [List.drop_zero, Nat.zero_add] at r1 r2
      rw [hco] at r1 r2
      refine ⟨r1, ?_⟩
      have e : (tr.opened ++ [(tr.muts, 0)]).set st.handles.length (tr.muts, ((specL tr.m).take k).length) =
          tr.opened ++ [(tr.muts, ((specL tr.m).take k).length)] := by
        rw [hlenj]; exact List.set_concat_length _ _ _
      rw [e] at r2
      exact r2
  | resume j k =>
    simp only [applyOp, specStep]
    cases hh : st.handles[j]? with
    | none =>
      have : tr.opened[j]? = none := by
        apply List.getElem?_eq_none
        rw [← hg.hlen]
        by_cases hc : j < st.handles.length
        · rw [List.getElem?_eq_getElem hc] at hh; cases hh
        · exact Nat.le_of_not_lt hc
      rw [this]
      exact ⟨rfl, hg⟩
    | some h =>
      have hj : j < tr.opened.length := by rw [← hg.hlen]; exact List.lt_of_getElem? hh
      have ho : tr.opened[j]? = some tr.opened[j] := List.getElem?_eq_getElem hj
      rcases hmc : tr.opened[j] with ⟨m0, c⟩
      rw [hmc] at ho
      have hm0 : m0 = tr.muts := hf m0 c ho
      subst hm0
      rw [ho]
      simp only []
      cases hco : st.cacheOn with
      | true => simp only [↓reduceIte]; exact resumeCached_cur hg hco j h c k hh ho
      | false => simp only [Bool.false_eq_true, ↓reduceIte]; exact resumeUncached_cur hg hco j h c k hh ho

/-- the bookkeeping entry of an iterator created before the latest mutator constrains nothing (such an iterator
    runs on its own cache list and generator and writes nothing of the object: `cache is self._cache`,
    `generation == self._generation` in rrule.py) -/
theorem good_retrack {st : RSetState} {tr : Track} (hg : Good st tr) (j m0 c c' : Nat) (ho : tr.opened[j]? = some (m0, c))
    (hne : m0 ≠ tr.muts) : Good st { tr with opened := tr.opened.set j (m0, c') } := by
  have hj := List.lt_of_getElem? ho
  -- the entries of the current generation are the old ones
  have look : ∀ {j' c2 : Nat}, (tr.opened.set j (m0, c'))[j']? = some (tr.muts, c2) → tr.opened[j']? = some (tr.muts, c2) := by
    intro j' c2 h
    by_cases e : j = j'
    · subst e; rw [List.getElem?_set_self hj] at h; cases h; exact absurd rfl hne
    · rwa [List.getElem?_set_ne e] at h
  exact { hg with
    hlen := hg.hlen.trans List.length_set.symm
    older := fun j' m1 c1 h => by
      by_cases e : j = j'
      · subst e; rw [List.getElem?_set_self hj] at h; cases h; exact hg.older j m0 c ho
      · rw [List.getElem?_set_ne e] at h; exact hg.older j' m1 c1 h
    hc := fun hco j' h c2 hh ho2 => hg.hc hco j' h c2 hh (look ho2)
    hd := fun hco j1 j2 h1 h2 c1 c2 hh1 hh2 ho1 ho2 => hg.hd hco j1 j2 h1 h2 c1 c2 hh1 hh2 (look ho1) (look ho2)
    hu := fun hco j' h c2 hh ho2 => hg.hu hco j' h c2 hh (look ho2) }

/-- an invalidated generation's machine may change freely: nothing of the object depends on it -/
theorem good_set_old {st : RSetState} {tr : Track} (hg : Good st tr) (pos : Nat) (o' : Cache.State) :
    Good { st with old := st.old.set pos o' } tr := by
  have hl : (st.old.set pos o').length = st.old.length := List.length_set
  exact { hg with
    gens := hl.trans hg.gens
    hgen := fun hco j h hh hb => by rw [show _ = (st.old.set pos o').length from rfl, hl]; exact hg.hgen hco j h hh hb
    hgle := fun hco j h hh => hl ▸ hg.hgle hco j h hh
    hcg := fun hco j h hh e => hg.hcg hco j h hh (hl ▸ e)
    hdg := fun hco j j' h h' hh hh' e e' => hg.hdg hco j j' h h' hh hh' (hl ▸ e) (hl ▸ e') }

theorem ite_len_len' (b : Bool) (sh : Shared) (n L : Nat) (h : sh.len = none ∨ sh.len = some L) (hb : b = true → n = L) :
    (if b = true then { sh with len := some n } else sh).len = none ∨ (if b = true then { sh with len := some n } else sh).len = some L := by
  cases b
  · exact h
  · right; show some n = some L; rw [hb rfl]

/-- an `_iter()` generator of an uncached set created before the latest mutator: whatever it does, the object stays good
    (it publishes `_len` only when it was BOUND in the current generation, and then the right one) -/
theorem good_stale_uncached {st : RSetState} {tr : Track} (hg : Good st tr) (hco : st.cacheOn = false)
    (j : Nat) (h : Handle) (k m0 c : Nat) (hh : st.handles[j]? = some h) (ho : tr.opened[j]? = some (m0, c)) (hne : m0 ≠ tr.muts) :
    Good (resumeUncached st j h k).1 tr := by
  unfold resumeUncached
  by_cases hstop : (k = 0 || h.udone) = true
  · rw [if_pos hstop]; exact hg
  · rw [if_neg hstop]
    have hjlt := List.lt_of_getElem? hh
    have hbound : ∀ u, h.usrc = some u → h.gen ≤ st.old.length ∧ (h.gen = st.old.length → u = specL tr.m) := by
      intro u hu
      have := hg.hgen hco j h hh (by rw [hu]; rfl)
      refine ⟨this.1, fun e => ?_⟩
      have := this.2 e
      rw [hu] at this; cases this; rfl
    have no : ∀ {p : Prop}, st.cacheOn = true → p := fun h => by rw [hco] at h; cases h
    refine { hg with
      hlen := by rw [show _ = (st.handles.set j _).length from rfl, List.length_set]; exact hg.hlen
      src := (ite_len_src _ _ _).trans hg.src
      cinv := no, hc := no, hd := no, hgle := no, hcg := no, hdg := no
      ulen := fun _ => ite_len_len' _ _ _ _ (hg.ulen hco) fun hb => ?_
      hu := fun _ j' h2 c2 hh2 ho2 => ?_
      hgen := fun _ j' h2 hh2 hb2 => ?_ }
    · -- `_len` is published only by a generator bound in the current generation: to the current sequence
      simp only [Bool.and_eq_true, beq_iff_eq] at hb
      cases hus : h.usrc with
      | none => simp only [Option.getD_none]; rw [hg.src]
      | some u =>
        have hb2 := hb.2
        rw [hus] at hb2
        simp only [Option.isSome_some, ↓reduceIte] at hb2
        simp only [Option.getD_some]
        rw [(hbound u hus).2 hb2]
    · have e : j ≠ j' := fun e => by subst e; rw [ho] at ho2; cases ho2; exact hne rfl
      rw [List.getElem?_set_ne e] at hh2
      exact hg.hu hco j' h2 c2 hh2 ho2
    · by_cases e : j = j'
      · subst e
        rw [List.getElem?_set_self hjlt] at hh2
        cases hh2
        cases hus : h.usrc with
        | none => simp only [Option.isSome_none, Bool.false_eq_true, ↓reduceIte, Option.getD_none]
                  exact ⟨Nat.le_refl _, fun _ => by rw [hg.src]⟩
        | some u =>
          simp only [Option.isSome_some, ↓reduceIte, Option.getD_some]
          exact ⟨(hbound u hus).1, fun e => by rw [(hbound u hus).2 e]⟩
      · rw [List.getElem?_set_ne e] at hh2
        exact hg.hgen hco j' h2 hh2 hb2

/-- a plain iterator of the CURRENT generation that the bookkeeping does not follow (created before a mutator, first
    advanced after it) is advanced on a machine `s0` that is the current one, possibly with that iterator just added:
    the object stays good -/
theorem good_run_extra {st : RSetState} {tr : Track} (hg : Good st tr) (hco : st.cacheOn = true) (j k : Nat)
    (hstale : ∀ c, tr.opened[j]? ≠ some (tr.muts, c)) (hjlt : j < st.handles.length)
    (s0 : Cache.State) (t : Tid) (it : Iter) (hi0 : Inv s0) (hp0 : ParkedAll s0) (he0 : s0.sh.endErr = none)
    (hsrc0 : s0.sh.src = st.cur.sh.src)
    (hold0 : ∀ t', t' < st.cur.its.length → t' ≠ t → s0.its[t']? = st.cur.its[t']?)
    (hit : s0.its[t]? = some it) (hq : it.q = .iterAll) (h' : Handle) (hgen' : h'.gen = st.old.length) (htid' : h'.tid = t)
    (hdist : ∀ (j' : Nat) (h2 : Handle), j' ≠ j → st.handles[j']? = some h2 → h2.gen = st.old.length → h2.tid ≠ t) :
    Good { st with cur := (takeVals s0 t k []).1, handles := st.handles.set j h' } tr := by
  have hsolo : Solo s0 t := ⟨hi0, fun t' it' _ h2 => hp0 t' it' h2⟩
  obtain ⟨hs', hsrc, hlen, hoth, it', hit', hq', hpk', _, _⟩ := takeVals_spec t k s0 it [] hsolo hit hq (hp0 _ it hit)
  have keep : ∀ (h2 : Handle) (it2 : Iter), h2.tid ≠ t → st.cur.its[h2.tid]? = some it2 →
      (takeVals s0 t k []).1.its[h2.tid]? = some it2 := by
    intro h2 it2 hne e2
    rw [hoth h2.tid hne, hold0 h2.tid (List.lt_of_getElem? e2) hne]; exact e2
  have other : ∀ (j' : Nat) (h2 : Handle), (st.handles.set j h')[j']? = some h2 → j' ≠ j → st.handles[j']? = some h2 := by
    intro j' h2 hh2 e
    rw [List.getElem?_set_ne (Ne.symm e)] at hh2; exact hh2
  have notj : ∀ (j' c2 : Nat), tr.opened[j']? = some (tr.muts, c2) → j' ≠ j := by
    intro j' c2 ho2 e; subst e; exact hstale c2 ho2
  have no : ∀ {p : Prop}, st.cacheOn = false → p := fun h => by rw [hco] at h; cases h
  have atj : ∀ {h2 : Handle}, (st.handles.set j h')[j]? = some h2 → h2 = h' := fun hh2 => by
    rw [List.getElem?_set_self hjlt] at hh2; exact (Option.some.inj hh2).symm
  exact { hg with
    hlen := by rw [show _ = (st.handles.set j h').length from rfl, List.length_set]; exact hg.hlen
    src := (hsrc.trans hsrc0).trans hg.src
    cinv := fun _ => ⟨hs'.inv, fun t' it2 h2 => by
      by_cases e : t' = t
      · subst e
        rw [show (takeVals s0 t' k []).1.its[t']? = some it' from hit'] at h2
        cases h2; exact hpk'
      · exact hs'.parked t' it2 e h2, (takeVals_endErr t k s0 [] hi0).trans he0⟩
    ulen := no, hu := no, hgen := no
    hc := fun _ j' h2 c2 hh2 ho2 => by
      have e := notj j' c2 ho2
      have hh2' := other j' h2 hh2 e
      obtain ⟨e1, it2, e2, e3, e4⟩ := hg.hc hco j' h2 c2 hh2' ho2
      exact ⟨e1, it2, keep h2 it2 (hdist j' h2 e hh2' (by rw [e1, hg.gens])) e2, e3, e4⟩
    hd := fun _ j1 j2 h1 h2 c1 c2 hh1 hh2 ho1 ho2 ht =>
      hg.hd hco j1 j2 h1 h2 c1 c2 (other j1 h1 hh1 (notj j1 c1 ho1)) (other j2 h2 hh2 (notj j2 c2 ho2)) ho1 ho2 ht
    hgle := fun _ j' h2 hh2 => by
      by_cases e : j' = j
      · subst e; rw [atj hh2, hgen']; exact Nat.le_refl _
      · exact hg.hgle hco j' h2 (other j' h2 hh2 e)
    hcg := fun _ j' h2 hh2 g2 => by
      by_cases e : j' = j
      · subst e; rw [atj hh2, htid']; exact ⟨it', hit', hq'⟩
      · have hh2' := other j' h2 hh2 e
        obtain ⟨it2, e2, e3⟩ := hg.hcg hco j' h2 hh2' g2
        exact ⟨it2, keep h2 it2 (hdist j' h2 e hh2' g2) e2, e3⟩
    hdg := fun _ j1 j2 h1 h2 hh1 hh2 g1 g2 ht => by
      by_cases e1 : j1 = j <;> by_cases e2 : j2 = j
      · rw [e1, e2]
      · subst e1; cases atj hh1
        exact absurd (ht.symm.trans htid') (hdist j2 h2 e2 (other j2 h2 hh2 e2) g2)
      · subst e2; cases atj hh2
        exact absurd (ht.trans htid') (hdist j1 h1 e1 (other j1 h1 hh1 e1) g1)
      · exact hg.hdg hco j1 j2 h1 h2 (other j1 h1 hh1 e1) (other j2 h2 hh2 e2) g1 g2 ht }

/-- an iterator of a cached set created before the latest mutator: whatever it does, the object stays good -/
theorem good_stale_cached {st : RSetState} {tr : Track} (hg : Good st tr) (hco : st.cacheOn = true)
    (j : Nat) (h : Handle) (k m0 c : Nat) (hh : st.handles[j]? = some h) (ho : tr.opened[j]? = some (m0, c)) (hne : m0 ≠ tr.muts) :
    Good (resumeCached st j h k).1 tr := by
  obtain ⟨hi, hp⟩ := hg.cinv hco
  have hjlt := List.lt_of_getElem? hh
  have hstale : ∀ c2, tr.opened[j]? ≠ some (tr.muts, c2) := by
    intro c2 e; rw [ho] at e; cases e; exact hne rfl
  unfold resumeCached
  simp only []
  by_cases hcur : h.gen = st.old.length
  · -- it belongs to the current generation already
    rw [if_pos hcur]
    obtain ⟨it, hit, hq⟩ := hg.hcg hco j h hh hcur
    have := good_run_extra hg hco j k hstale hjlt st.cur h.tid it hi hp.1 hp.2 rfl (fun _ _ _ => rfl) hit hq h hcur rfl
      (fun j' h2 e hh2 g2 e2 => e (hg.hdg hco j' j h2 h hh2 hh g2 hcur e2))
    rw [List.set_of_getElem? hh] at this
    exact this
  · rw [if_neg hcur]
    split
    · exact hg
    · rename_i o ho'
      split
      · exact hg
      · rename_i it hit
        split
        · -- the generator body had not started: a fresh iterator of the current generation
          let it0 : Iter := { q := .iterAll, pc := .l125 }
          have hi0 : Inv { st.cur with its := st.cur.its ++ [it0] } :=
            inv_add_iter hi it0 ⟨rfl, rfl, rfl, rfl⟩ rfl
          have hp0 : ParkedAll { st.cur with its := st.cur.its ++ [it0] } := by
            intro t' it' h2
            rcases List.getElem?_concat_cases h2 with ⟨_, h2'⟩ | ⟨_, e⟩
            · exact hp.1 t' it' h2'
            · subst e; rfl
          exact good_run_extra hg hco j k hstale hjlt { st.cur with its := st.cur.its ++ [it0] } st.cur.its.length it0 hi0 hp0 hp.2 rfl
            (fun t' hlt _ => by show (st.cur.its ++ [it0])[t']? = _; rw [List.getElem?_append_left hlt])
            (List.getElem?_concat_length) rfl _ rfl rfl
            (fun j' h2 _ hh2 g2 e2 => by
              obtain ⟨it2, e3, _⟩ := hg.hcg hco j' h2 hh2 g2
              have := List.lt_of_getElem? e3
              omega)
        · exact good_set_old hg _ _

/-- the observation of this op is not specified: it advances an iterator created before an earlier mutator -/
def staleAt (tr : Track) : Op → Bool
  | .resume j _ => match tr.opened[j]? with | some (m0, _) => m0 != tr.muts | none => false
  | _ => false

/-- one op, ANY op: the object stays good; the observation is the specified one unless the op advances a stale iterator -/
theorem good_step_any {st : RSetState} {tr : Track} (hg : Good st tr) (op : Op) (hs : opSorted op) (hfit : opFits tr op) :
    (staleAt tr op = false → (applyOp st op).2 = (specStep tr op).2) ∧ Good (applyOp st op).1 (specStep tr op).1 := by
  by_cases hst : staleAt tr op = false
  · have hf : opFresh tr op := by
      cases op with
      | resume j k =>
        intro m0 c ho
        simp only [staleAt, ho, bne_eq_false_iff_eq] at hst
        exact hst
      | _ => trivial
    exact ⟨fun _ => (good_step hg op hs hf hfit).1, (good_step hg op hs hf hfit).2⟩
  · refine ⟨fun h => absurd h hst, ?_⟩
    cases op with
    | resume j k =>
      simp only [staleAt] at hst
      cases ho : tr.opened[j]? with
      | none => rw [ho] at hst; exact absurd rfl hst
      | some mc =>
        obtain ⟨m0, c⟩ := mc
        rw [ho] at hst
        have hne : m0 ≠ tr.muts := by
          intro e; apply hst; simp [e]
        have hj : j < st.handles.length := by rw [hg.hlen]; exact List.lt_of_getElem? ho
        have hh : st.handles[j]? = some st.handles[j] := List.getElem?_eq_getElem hj
        simp only [applyOp, specStep, hh, ho]
        have hg' := good_retrack hg j m0 c (c + (((specL tr.m).drop c).take k).length) ho hne
        have ho' : ({ tr with opened := tr.opened.set j (m0, c + (((specL tr.m).drop c).take k).length) } : Track).opened[j]? =
            some (m0, c + (((specL tr.m).drop c).take k).length) := List.getElem?_set_self (List.lt_of_getElem? ho)
        cases hco : st.cacheOn with
        | true =>
          simp only [↓reduceIte]
          exact good_stale_cached hg' hco j _ k m0 _ hh ho' hne
        | false =>
          simp only [Bool.false_eq_true, ↓reduceIte]
          exact good_stale_uncached hg' hco j _ k m0 _ hh ho' hne
    | _ => simp [staleAt] at hst

/-- two observation lists agree wherever the op does not advance a stale iterator -/
def Agree : Track → List Op → List (Option Res) → List (Option Res) → Prop
  | _, [], [], [] => True
  | tr, op :: ops, a :: as, b :: bs => (staleAt tr op = false → a = b) ∧ Agree (specStep tr op).1 ops as bs
  | _, _, _, _ => False

/-- **history_inv without `NoStale`** for an arbitrary starting point of the invariant -/
theorem history_good_any : ∀ (ops : List Op) (st : RSetState) (tr : Track), Good st tr →
    (∀ op ∈ ops, opSorted op) → AllFit tr ops → Agree tr ops (runOps st ops) (specOps tr ops) := by
  intro ops
  induction ops with
  | nil => intro st tr _ _ _; trivial
  | cons op ops ih =>
    intro st tr hg hs hfit
    obtain ⟨r1, r2⟩ := good_step_any hg op (hs op (by simp)) hfit.1
    show Agree tr (op :: ops) ((applyOp st op).2 :: runOps (applyOp st op).1 ops) ((specStep tr op).2 :: specOps (specStep tr op).1 ops)
    exact ⟨r1, ih _ _ r2 (fun o ho => hs o (by simp [ho])) hfit.2⟩

/-- **history_inv** for an arbitrary starting point of the invariant -/
theorem history_good : ∀ (ops : List Op) (st : RSetState) (tr : Track), Good st tr →
    (∀ op ∈ ops, opSorted op) → NoStale tr ops → AllFit tr ops → runOps st ops = specOps tr ops := by
  intro ops
  induction ops with
  | nil => intro st tr _ _ _ _; rfl
  | cons op ops ih =>
    intro st tr hg hs hn hfit
    obtain ⟨r1, r2⟩ := good_step hg op (hs op (by simp)) hn.1 hfit.1
    show (applyOp st op).2 :: runOps (applyOp st op).1 ops = (specStep tr op).2 :: specOps (specStep tr op).1 ops
    rw [r1, ih _ _ r2 (fun o ho => hs o (by simp [ho])) hn.2 hfit.2]

end RSet
