/-
  Proofs/RRuleGenInit.lean — sections of `rrule.__init__` re-translated from source (Generated/RRuleKernels.lean:
  `Gen.init_*`, one top-level statement each, `_original_rule` bookkeeping excluded) against the parts of the hand
  model's `construct` they correspond to.
-/
import DateutilVerif.Proofs.RRuleGenHelpers

namespace RRuleGen
open RRule RrPy

@[simp] theorem the_some {α} [Inhabited α] (x : α) : RrPy.the (some x) = x := rfl

/-- BYMONTH / BYYEARDAY / BYWEEKNO: `tuple(sorted(set(arg)))`, `None` kept -/
theorem init_bymonth_eq (x : Option (List Int)) : Gen.init_bymonth x = .ok (x.map sortedSet) := by
  cases x <;> simp [Gen.init_bymonth, sortedSet, pure, Except.pure]
theorem init_byyearday_eq (x : Option (List Int)) : Gen.init_byyearday x = .ok (x.map sortedSet) := by
  cases x <;> simp [Gen.init_byyearday, sortedSet, pure, Except.pure]
theorem init_byweekno_eq (x : Option (List Int)) : Gen.init_byweekno x = .ok (x.map sortedSet) := by
  cases x <;> simp [Gen.init_byweekno, sortedSet, pure, Except.pure]
/-- BYEASTER: `tuple(sorted(arg))` (repetitions kept) -/
theorem init_byeaster_eq (x : Option (List Int)) : Gen.init_byeaster x = .ok (x.map (sortBy ltInt)) := by
  cases x <;> simp [Gen.init_byeaster, pure, Except.pure]

/-- the BYMONTHDAY split -/
theorem init_bymonthday_eq (x : Option (List Int)) :
    Gen.init_bymonthday x = .ok (match x with
      | none => ([], [])
      | some l => (sortBy ltInt ((dedup [] l).filter (· > 0)), sortBy ltInt ((dedup [] l).filter (· < 0)))) := by
  cases x <;> simp [Gen.init_bymonthday, pure, Except.pure]

def BadPos (p : Int) : Prop := p = 0 ∨ ¬ (-366 ≤ p ∧ p ≤ 366)
instance (p : Int) : Decidable (BadPos p) := by unfold BadPos; exact inferInstance

theorem validBysetpos_iff (l : List Int) : validBysetpos l = true ↔ ∀ p ∈ l, ¬ BadPos p := by
  simp only [validBysetpos, List.all_eq_true, BadPos]
  constructor
  · intro h p hp; have := h p hp; simp at this; intro hb
    rcases hb with hb | hb
    · exact this.1 hb
    · exact hb ⟨this.2.1, this.2.2⟩
  · intro h p hp; have := h p hp; simp
    refine ⟨fun e => this (Or.inl e), ?_⟩
    exact Classical.byContradiction fun e => this (Or.inr (fun hh => e hh))

theorem init_bysetpos_loop (l : List Int) :
    Gen.init_bysetpos_loop1 l = if (∀ p ∈ l, ¬ BadPos p) then .ok () else .error .ValueError := by
  induction l with
  | nil => simp [Gen.init_bysetpos_loop1, pure, Except.pure]
  | cons p ps ih =>
    simp only [Gen.init_bysetpos_loop1, List.forall_mem_cons]
    by_cases h : BadPos p
    · have h' := h
      unfold BadPos at h'
      simp only [h', if_true, h, not_true_eq_false, false_and, if_false]; rfl
    · have h' := h
      unfold BadPos at h'
      simp only [h', if_false, h, not_false_eq_true, true_and, ih]

/-- the BYSETPOS check (ValueError for 0 or a position outside −366..366) -/
theorem init_bysetpos_eq (a : Args) : Gen.init_bysetpos a.bysetpos = normBysetpos a := by
  unfold Gen.init_bysetpos normBysetpos
  cases a.bysetpos with
  | none => simp [pure, Except.pure]
  | some l =>
    simp only [reduceCtorEq, if_false, the_some, init_bysetpos_loop, bind, pure, Except.pure]
    by_cases h : validBysetpos l = true
    · have h2 := (validBysetpos_iff l).mp h
      simp only [h, if_true, if_pos h2]; rfl
    · have h2 : ¬ (∀ p ∈ l, ¬ BadPos p) := fun e => h ((validBysetpos_iff l).mpr e)
      simp only [h, if_false, if_neg h2]; rfl

/-- BYHOUR / BYMINUTE / BYSECOND: default from dtstart below the unit's own frequency, reachability filter
    (`__construct_byset`, itself translated) at the unit's own frequency, sorted set otherwise -/
theorem init_byhour_eq (freq : Int) (d : DT) (interval : Int) (x : Option (List Int)) :
    Gen.init_byhour freq d interval x = normUnit freq 4 interval d.hh x 24 := by
  unfold Gen.init_byhour normUnit
  cases x with
  | none => by_cases h : freq < 4 <;> simp [h, pure, Except.pure]
  | some l =>
    simp only [reduceCtorEq, if_false, the_some, bind, pure, Except.pure, beq_iff_eq]
    by_cases h : freq = 4
    · simp only [h, if_true, gen_constructByset_eq_model _ _ _ 24 (by decide)]
      cases constructByset interval d.hh l 24 <;> rfl
    · simp [h, sortedSet]; rfl
theorem init_byminute_eq (freq : Int) (d : DT) (interval : Int) (x : Option (List Int)) :
    Gen.init_byminute freq d interval x = normUnit freq 5 interval d.mm x 60 := by
  unfold Gen.init_byminute normUnit
  cases x with
  | none => by_cases h : freq < 5 <;> simp [h, pure, Except.pure]
  | some l =>
    simp only [reduceCtorEq, if_false, the_some, bind, pure, Except.pure, beq_iff_eq]
    by_cases h : freq = 5
    · simp only [h, if_true, gen_constructByset_eq_model _ _ _ 60 (by decide)]
      cases constructByset interval d.mm l 60 <;> rfl
    · simp [h, sortedSet]; rfl
theorem init_bysecond_eq (freq : Int) (d : DT) (interval : Int) (x : Option (List Int)) :
    Gen.init_bysecond freq d interval x = normUnit freq 6 interval d.ss x 60 := by
  unfold Gen.init_bysecond normUnit
  cases x with
  | none => by_cases h : freq < 6 <;> simp [h, pure, Except.pure]
  | some l =>
    simp only [reduceCtorEq, if_false, the_some, bind, pure, Except.pure, beq_iff_eq]
    by_cases h : freq = 6
    · simp only [h, if_true, gen_constructByset_eq_model _ _ _ 60 (by decide)]
      cases constructByset interval d.ss l 60 <;> rfl
    · simp [h, sortedSet]; rfl

/-- `if interval < 1: raise ValueError(...)` (repair D-C01-interval) -/
theorem init_interval_eq (i : Int) : Gen.init_interval i = if i < 1 then .error .ValueError else .ok () := by
  unfold Gen.init_interval; split <;> rfl

/-- the week start: the ambient `calendar.firstweekday()` (`fwd`) exactly when `wkst` is not supplied -/
theorem init_wkst_eq (fwd : Int) (w : Option Int) : Gen.init_wkst fwd w = .ok (w.getD fwd) := by
  cases w <;> simp [Gen.init_wkst, pure, Except.pure]

/-- the defaults block: BYMONTH / BYMONTHDAY / BYDAY from dtstart when no day-level BY part is given -/
theorem init_defaults_eq (a : Args) :
    Gen.init_defaults a.freq a.dtstart a.bymonth a.bymonthday a.byyearday a.byeaster a.byweekno a.byweekday =
      .ok (if noDayParts a && a.freq == 0 && a.bymonth.isNone then some [a.dtstart.m] else a.bymonth,
           monthdayArg a, weekdayArg a) := by
  unfold Gen.init_defaults monthdayArg weekdayArg noDayParts
  cases h1 : a.byweekno <;> cases h2 : a.byyearday <;> cases h3 : a.bymonthday <;> cases h4 : a.byweekday <;>
    cases h5 : a.byeaster <;> simp [pure, Except.pure, bind, Except.bind]
  by_cases f0 : a.freq = 0
  · cases h6 : a.bymonth <;> simp [f0]
  · by_cases f1 : a.freq = 1
    · simp [f1]
    · by_cases f2 : a.freq = 2 <;> simp [f0, f1, f2]

def okSomeT (x : Py.R (List HMS)) (acc : List HMS) : Py.R (Option (List HMS)) :=
  match x with
  | .ok l => .ok (some (acc ++ l))
  | .error e => .error e

theorem init_timeset_loop3_eq (h m : Int) (ss : List Int) (acc : List HMS) :
    Gen.init_timeset_loop3 h m ss (some acc) = okSomeT (checkTimes (ss.map fun s => (h, m, s))) acc := by
  induction ss generalizing acc with
  | nil => simp [Gen.init_timeset_loop3, checkTimes, okSomeT, pure, Except.pure]
  | cons x xs ih =>
    simp only [Gen.init_timeset_loop3, List.map_cons, checkTimes, bind, Except.bind, the_some]
    cases mkTime h m x with
    | error e => rfl
    | ok t =>
      simp only [ih]
      cases checkTimes (xs.map fun s => (h, m, s)) with
      | error e => rfl
      | ok l => simp [okSomeT]

theorem init_timeset_loop2_eq (h : Int) (ss ms : List Int) (acc : List HMS) :
    Gen.init_timeset_loop2 h (some ss) ms (some acc) =
      okSomeT (checkTimes (ms.flatMap fun m => ss.map fun s => (h, m, s))) acc := by
  induction ms generalizing acc with
  | nil => simp [Gen.init_timeset_loop2, checkTimes, okSomeT, pure, Except.pure]
  | cons m ms ih =>
    simp only [Gen.init_timeset_loop2, RrPy.iterO, bind, Except.bind, init_timeset_loop3_eq, List.flatMap_cons, checkTimes_append]
    cases checkTimes (ss.map fun s => (h, m, s)) with
    | error e => rfl
    | ok l1 =>
      simp only [okSomeT, ih]
      cases checkTimes (ms.flatMap fun m => ss.map fun s => (h, m, s)) with
      | error e => rfl
      | ok l2 => simp [okSomeT]

theorem init_timeset_loop1_eq (ms ss hs : List Int) (acc : List HMS) :
    Gen.init_timeset_loop1 (some ms) (some ss) hs (some acc) = okSomeT (checkTimes (productHMS hs ms ss)) acc := by
  induction hs generalizing acc with
  | nil => simp [Gen.init_timeset_loop1, productHMS, checkTimes, okSomeT, pure, Except.pure]
  | cons h hs ih =>
    simp only [Gen.init_timeset_loop1, RrPy.iterO, bind, Except.bind, init_timeset_loop2_eq, productHMS, List.flatMap_cons,
      checkTimes_append]
    cases checkTimes (ms.flatMap fun m => ss.map fun s => (h, m, s)) with
    | error e => rfl
    | ok l1 =>
      simp only [okSomeT]
      have := ih (acc ++ l1)
      simp only [productHMS] at this
      rw [this]
      cases checkTimes (hs.flatMap fun h => ms.flatMap fun m => ss.map fun s => (h, m, s)) with
      | error e => rfl
      | ok l2 => simp [okSomeT]

/-- the timeset block: `None` from HOURLY on, otherwise the sorted product of the three tuples, each `datetime.time(...)`
    checked in loop order (below HOURLY the constructor has set all three tuples: `normUnit` with `freq < lvl`) -/
theorem init_timeset_eq (a : Args) (bh bm bs : Option (List Int))
    (h : a.freq < 4 → bh.isSome = true ∧ bm.isSome = true ∧ bs.isSome = true) :
    Gen.init_timeset a.freq bh bm bs = timesetOf a bh bm bs := by
  unfold Gen.init_timeset timesetOf
  by_cases hf : a.freq ≥ 4
  · simp [hf, pure, Except.pure]
  · obtain ⟨h1, h2, h3⟩ := h (by omega)
    obtain ⟨hs, rfl⟩ := Option.isSome_iff_exists.mp h1
    obtain ⟨ms, rfl⟩ := Option.isSome_iff_exists.mp h2
    obtain ⟨ss, rfl⟩ := Option.isSome_iff_exists.mp h3
    simp only [hf, if_false, RrPy.iterO, bind, Except.bind, init_timeset_loop1_eq, Option.getD_some, buildTimeset, pure, Except.pure]
    cases checkTimes (productHMS hs ms ss) with
    | error e => rfl
    | ok l => simp [okSomeT]

theorem init_byweekday_loop_eq (freq : Int) (l : List (Int × Int)) (p : List Int) (q : List (Int × Int)) :
    Gen.init_byweekday_loop1 freq l (some p) (some q) =
      .ok (some (((l.filter (fun w => w.2 == 0 || decide (freq > 1))).map (·.1)).foldl setAdd p),
           some ((l.filter (fun w => !(w.2 == 0 || decide (freq > 1)))).foldl setAdd q)) := by
  induction l generalizing p q with
  | nil => rfl
  | cons w ws ih =>
    simp only [Gen.init_byweekday_loop1, the_some]
    by_cases h : (¬ (w.2 ≠ 0)) ∨ freq > 1
    · have hb : (w.2 == 0 || decide (freq > 1)) = true := by
        rcases h with h | h
        · have : w.2 = 0 := Classical.byContradiction fun e => h e
          simp [this]
        · simp [h]
      simp only [h, if_true, ih, List.filter_cons, hb, List.map_cons, List.foldl_cons, Bool.not_true, Bool.false_eq_true, if_false]
    · have hb : (w.2 == 0 || decide (freq > 1)) = false := by
        have h1 : w.2 ≠ 0 := Classical.byContradiction fun e => h (Or.inl e)
        have h2 : ¬ freq > 1 := fun e => h (Or.inr e)
        simp [h1, h2]
      simp only [h, if_false, ih, List.filter_cons, hb, Bool.false_eq_true, Bool.not_false, if_true, List.foldl_cons]

/-- the BYDAY block: plain members (ints, `MO`, and every `MO(n)` above MONTHLY) and nth members, each a sorted set,
    `None` for an empty part — the fields `byweekday` / `bynweekday` of `construct`, on the argument after the defaults -/
theorem init_byweekday_eq (a : Args) :
    Gen.init_byweekday a.freq (weekdayArg a) = .ok (byweekdayOf a, bynweekdayOf a) := by
  unfold Gen.init_byweekday byweekdayOf bynweekdayOf
  cases weekdayArg a with
  | none => simp [pure, Except.pure]
  | some l =>
    have e1 : plainWeekdays a l = ((l.filter (fun w => w.2 == 0 || decide (a.freq > 1))).map (·.1)).foldl setAdd [] := by
      unfold plainWeekdays; rw [dedup_eq_foldl]; rfl
    have e2 : nthWeekdays a l = (l.filter (fun w => !(w.2 == 0 || decide (a.freq > 1)))).foldl setAdd [] := by
      unfold nthWeekdays; rw [dedup_eq_foldl]; rfl
    simp only [reduceCtorEq, if_false, the_some, bind, Except.bind, init_byweekday_loop_eq, ← e1, ← e2, pure, Except.pure]
    by_cases hp : (plainWeekdays a l).isEmpty = true
    · simp [hp]
    · have hp' : (plainWeekdays a l).isEmpty = false := by simpa using hp
      by_cases hn : (nthWeekdays a l).isEmpty = true
      · simp [hp', hn]
      · have hn' : (nthWeekdays a l).isEmpty = false := by simpa using hn
        simp [hp', hn']

end RRuleGen
