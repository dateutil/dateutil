/-
  Proofs/TzStrParseFacts.lean — what the parser's tests answer on digit and letter tokens, array
  indexing through a list decomposition, and the coverage invariant behind `anyUnused = false`.
-/
import DateutilVerif.Proofs.TzStrSpelling

namespace TzStr

/-- every index the parser has passed is used, or holds "," / ":" (which `finish` tolerates) -/
def Cov (l : Array String) (st : St) : Prop :=
  ∀ k, k < st.i → k < l.size → (k ∈ st.used ∨ l[k]? = some "," ∨ l[k]? = some ":")

/-- once every index is passed, `finish` finds nothing unused -/
theorem Cov.anyUnused {l : Array String} {st : St} (hc : Cov l st) (hi : l.size ≤ st.i) :
    ((List.range l.size).filter (fun k => !st.used.contains k)).any
      (fun k => !(l[k]? == some "," || l[k]? == some ":")) = false := by
  rw [List.any_eq_false]
  intro k hk
  simp only [List.mem_filter, List.mem_range] at hk
  rcases hc k (by omega) hk.1 with u | u | u
  · simp [u] at hk
  · simp [u]
  · simp [u]

theorem get_at {l : Array String} {pre tail : List String} (h : l.toList = pre ++ tail) (k : Nat) :
    l[pre.length + k]? = tail[k]? := by
  rw [← Array.getElem?_toList, h, List.getElem?_append_right (by omega)]
  congr 1; omega

theorem size_at {l : Array String} {pre tail : List String} (h : l.toList = pre ++ tail) :
    l.size = pre.length + tail.length := by
  rw [← Array.length_toList, h, List.length_append]

theorem toksOf_cons (c : Chunk) (cs : List Chunk) : toksOf (c :: cs) = String.ofList c.2 :: toksOf cs := rfl
theorem toksOf_nil : toksOf [] = [] := rfl
theorem toksOf_append (a b : List Chunk) : toksOf (a ++ b) = toksOf a ++ toksOf b := by simp [toksOf]

theorem digit_of_ck (c : Char) (h : ck c = .digit) : '0' ≤ c ∧ c ≤ '9' := by
  unfold ck at h
  split at h
  · cases h
  · split at h
    · cases h
    · split at h
      · assumption
      · cases h

/-- a token all of whose characters have class `k` differs from a literal containing a character of
    another class -/
theorem ne_lit (t s : String) (k : CK) (h : ∀ c ∈ t.toList, ck c = k) (c : Char) (hc : c ∈ s.toList)
    (hk : ck c ≠ k) : (t == s) = false := by
  apply beq_eq_false_iff_ne.mpr
  intro e; subst e; exact hk (h c hc)

structure DigTok (t : String) : Prop where
  plus : (t == "+") = false
  minus : (t == "-") = false
  eqJ : (t == "J") = false
  eqM : (t == "M") = false
  comma : (t == ",") = false
  semi : (t == ";") = false
  slash : (t == "/") = false
  first : firstIsDigit t = true
  hasOff : hasOffsetChar t = true
  allDig : allCharsIn t "0123456789" = true

theorem digTok_of (t : String) (h : IsDig t) : DigTok t := by
  obtain ⟨hne, hall⟩ := h
  have lit : ∀ (s : String) (c : Char), c ∈ s.toList → ck c ≠ .digit → (t == s) = false :=
    fun s c hc hk => ne_lit t s .digit hall c hc hk
  refine ⟨lit "+" '+' (by decide) (by decide), lit "-" '-' (by decide) (by decide),
    lit "J" 'J' (by decide) (by decide), lit "M" 'M' (by decide) (by decide),
    lit "," ',' (by decide) (by decide), lit ";" ';' (by decide) (by decide),
    lit "/" '/' (by decide) (by decide), ?_, ?_, ?_⟩
  · unfold firstIsDigit
    cases hc : t.toList with
    | nil => exact absurd hc hne
    | cons c cs =>
        have := digit_of_ck c (hall c (by rw [hc]; simp))
        simp [this]
  · unfold hasOffsetChar
    cases hc : t.toList with
    | nil => exact absurd hc hne
    | cons c cs =>
        have hd := digit_cases c (digit_of_ck c (hall c (by rw [hc]; simp)))
        rw [List.any_cons]
        have : "0123456789:,-+".toList.contains c = true := by
          simp only [List.mem_cons, List.not_mem_nil, or_false] at hd
          rcases hd with e|e|e|e|e|e|e|e|e|e <;> subst e <;> decide
        rw [this]; rfl
  · unfold allCharsIn
    rw [List.all_eq_true]
    intro c hc
    have hd := digit_cases c (digit_of_ck c (hall c hc))
    simp only [List.mem_cons, List.not_mem_nil, or_false] at hd
    rcases hd with e|e|e|e|e|e|e|e|e|e <;> subst e <;> decide

/-- `pyInt`'s fold is the decimal value `Nat.ofDigitChars` -/
theorem foldl_digits (l : List Char) (a : Nat) :
    l.foldl (fun (a : Int) c => a * 10 + ((c.toNat - '0'.toNat : Nat) : Int)) (a : Int) = (Nat.ofDigitChars 10 l a : Nat) := by
  induction l generalizing a with
  | nil => rfl
  | cons c t ih =>
      rw [List.foldl_cons, Nat.ofDigitChars_cons, ← ih]
      congr 1
      omega

theorem isDigits_toString (n : Nat) : isDigits (toString n) = true := by
  unfold isDigits
  rw [Nat.toString_eq_repr, Nat.toList_repr]
  simp only [Bool.and_eq_true, Bool.not_eq_true', List.all_eq_true, decide_eq_true_eq]
  refine ⟨by simp, fun c hc => ?_⟩
  have := Nat.isDigit_of_mem_toDigits (by decide) (by decide) hc
  simp only [Char.isDigit, Bool.and_eq_true, decide_eq_true_eq] at this
  exact ⟨this.1, this.2⟩

/-- `int(str(n)) == n` -/
theorem pyInt_toString (n : Nat) : pyInt (toString n) = some (n : Int) := by
  unfold pyInt
  rw [if_pos (isDigits_toString n), Nat.toString_eq_repr, Nat.toList_repr]
  have := foldl_digits (Nat.toDigits 10 n) 0
  rw [Nat.ofDigitChars_ten_toDigits] at this
  exact congrArg some this

/-- a leading zero does not change the value -/
theorem pyInt_zero_append (s : String) (v : Int) (h : pyInt s = some v) : pyInt ("0" ++ s) = some v := by
  unfold pyInt at h ⊢
  split at h
  · rename_i hd
    have hd' : isDigits ("0" ++ s) = true := by
      unfold isDigits at hd ⊢
      simp only [Bool.and_eq_true, Bool.not_eq_true', List.all_eq_true, decide_eq_true_eq] at hd ⊢
      refine ⟨by simp, fun c hc => ?_⟩
      simp only [String.toList_append, String.reduceToList, List.cons_append, List.nil_append, List.mem_cons] at hc
      rcases hc with e | e
      · subst e; decide
      · exact hd.2 c e
    rw [if_pos hd', ← h, String.toList_append]
    rfl
  · cases h

theorem strTake_short (t : String) (h : t.length ≤ 2) : strTake t 2 = t := by
  unfold strTake
  rw [List.take_of_length_le (by rw [String.length_toList]; exact h), String.ofList_toList]

theorem alpha_noOffsetChar (a : String) (h : IsAlpha a) : hasOffsetChar a = false := by
  unfold hasOffsetChar
  rw [List.any_eq_false]
  intro c hc hcon
  have hk := h.2 c hc
  have : ∀ x ∈ "0123456789:,-+".toList, ck x ≠ .alpha := by decide
  exact this c (by simpa using hcon) hk

theorem alpha_isLetters (a : String) (h : IsAlpha a) : isLetters a = true := by
  unfold isLetters
  rw [List.all_eq_true]
  intro c hc
  simp [h.2 c hc]

/-- a token containing a digit, ':', ',', '-' or '+' is not a letter token -/
theorem offsetChar_not_letters (t : String) (h : hasOffsetChar t = true) : isLetters t = false := by
  unfold hasOffsetChar at h
  unfold isLetters
  rw [List.any_eq_true] at h
  obtain ⟨c, hc, hcon⟩ := h
  rw [List.all_eq_false]
  refine ⟨c, hc, ?_⟩
  have : ∀ x ∈ "0123456789:,-+".toList, ck x ≠ .alpha := by decide
  have := this c (by simpa using hcon)
  simpa using this

theorem alpha_ne_semi (a : String) (h : IsAlpha a) : (a == ";") = false :=
  ne_lit a ";" .alpha h.2 ';' (by decide) (by decide)

end TzStr
