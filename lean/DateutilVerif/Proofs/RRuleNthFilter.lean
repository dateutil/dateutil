/-
  Proofs/RRuleNthFilter.lean — rules whose BYDAY members are all nth weekdays (no plain member — D-C01a —, no
  BYWEEKNO, no BYEASTER), and what their nth-weekday mask marks.
-/
import DateutilVerif.Proofs.RRuleSetpos
import DateutilVerif.Proofs.RRuleNth

namespace RRule
open Cal

/-- only nth weekdays in BYDAY; no BYWEEKNO / BYEASTER -/
structure NthRule (r : Rule) : Prop where
  byweekno : truthy r.byweekno = false
  byeaster : truthy r.byeaster = false
  byweekday : r.byweekday = none

variable {r : Rule} {y : Int} {info : Info} {i0 i1 : Int}

/-- the nth-weekday mask of `info` marks, inside the year, the indices satisfying `P` -/
def NthMarks (info : Info) (P : Int → Prop) [DecidablePred P] : Prop :=
  ∃ mask, info.nwdaymask = some mask ∧ (mask.length : Int) = info.yearlen ∧
    ∀ j : Int, 0 ≤ j → j < info.yearlen → Py.getIdx mask j = .ok (if P j then 1 else 0)

theorem NthMarks.marked {P : Int → Prop} [DecidablePred P] (h : NthMarks info P) :
    Marked info.nwdaymask info.yearlen P := by
  obtain ⟨mask, hm, _, hspec⟩ := h
  exact ⟨mask, hm, hspec⟩

theorem baseInfo_facts (r : Rule) (y : Int) (h1 : 1 ≤ y) (h2 : y ≤ 9999) : YearFacts r y (baseInfo y) := by
  constructor <;> first
    | (simp only [baseInfo, daysInYear]; done)
    | (simp only [baseInfo, Tables.mmaskOf, Tables.mdaymaskOf, Tables.nmdaymaskOf, Tables.mrangeOf]; done)
    | rfl
    | omega

end RRule
