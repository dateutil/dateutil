/-
  Proofs/RRuleNthMonthly.lean — MONTHLY with nth weekdays ("the last Friday of every month", "the 2nd Tuesday every
  3 months", with BYSETPOS, BYMONTH, BYYEARDAY and time parts) as an instance of the MONTHLY refinement.
-/
import DateutilVerif.Proofs.RRuleNthBridge
import DateutilVerif.Proofs.RRuleYM

namespace RRule
open Cal

variable {a : Args} {r : Rule}

/-- "the model state at the start of period `k`" -/
structure NthGood (a : Args) (r : Rule) (k : Nat) (st : State) : Prop where
  facts : YearFacts r st.cur.year st.info
  month : 1 ≤ st.cur.month ∧ st.cur.month ≤ 12
  timeset : st.timeset = Spec.RRule.timesOf a none none none
  idx : st.cur.year * 12 + (st.cur.month - 1) = a.dtstart.y * 12 + (a.dtstart.m - 1) + k * a.interval
  mask : ∃ mask, st.info.nwdaymask = some mask ∧ (mask.length : Int) = st.info.yearlen ∧
    ∀ j : Int, 0 ≤ j → j < st.info.yearlen →
      Py.getIdx mask j = .ok (if ∃ wn ∈ nwlOf a, marks st.info (daysBeforeMonth st.cur.year st.cur.month)
          (daysBeforeMonth st.cur.year st.cur.month + daysInMonth st.cur.year st.cur.month - 1) j wn then 1 else 0)

/-- what `rebuild` establishes for a MONTHLY rule with nth weekdays, standing in month `m` of year `y`: the nth-weekday
    mask marks the nth weekdays of that month -/
def NthMInv (a : Args) (y m : Int) (info : Info) : Prop :=
  NthMarks info (fun j => ∃ wn ∈ nwlOf a, marks info (daysBeforeMonth y m)
    (daysBeforeMonth y m + daysInMonth y m - 1) j wn)

variable {y : Int} {info : Info}

/-- the MONTHLY nth-weekday mask inside `rebuild`, for nth-only BYDAY -/
theorem nthM_build (D : DateFields a r) (hf : a.freq = 1) (hw : NthOnly a) (hy1 : 1 ≤ y) (hy2 : y ≤ 9999) {m : Int}
    (hm1 : 1 ≤ m) (hm12 : m ≤ 12) :
    ∃ n, buildNwdaymask r (baseInfo y).yearlen (baseInfo y).mrange (baseInfo y).wdaymask m = .ok n ∧ ∀ w e,
      NthMInv a y m { baseInfo y with wnomask := w, nwdaymask := n, eastermask := e } := by
  obtain ⟨hne, _, hok, _, hnw⟩ := nwl_facts (Or.inr hf) hw
  obtain ⟨mask, n1, n2, n3⟩ := nwdaymask_monthly (baseInfo_facts r y hy1 hy2) (by rw [D.freq, hf]) _ hne
    (by rw [D.bynweekday]; exact hnw) hok m hm1 hm12
  exact ⟨_, n1, fun _ _ => ⟨mask, rfl, n2, n3⟩⟩

/-- on the days of the month the marks are the BYDAY part of `dateOk` -/
theorem nthM_part (hf : a.freq = 1) (hw : NthOnly a) (f : YearFacts r y info) {m i : Int} (hi : monthDays y m info i) :
    (∃ wn ∈ nwlOf a, marks info (daysBeforeMonth y m) (daysBeforeMonth y m + daysInMonth y m - 1) i wn) ↔
      weekdayPart a (info.yearordinal + i) = true :=
  weekdayPart_nth (Or.inr hf) hw _ _ (marks_month_iff a f.yearordinal f.year_lo hi.1 hi.2.1 hi.2.2
    (by rw [hf]; rfl) (by rw [hf]; omega))

theorem nth_filter (na : NthMArgs a) (h : construct a = .ok r) : PeriodFilter a r 1 9999 (NthMInv a) monthDays where
  lo := by omega
  hi := by omega
  rebuild := fun y m hy1 hy2 hm1 hm12 => by
    have D := construct_dateFields h
    obtain ⟨n, hn, hN⟩ := nthM_build D na.freq na.weekdays hy1 hy2 hm1 hm12
    exact ⟨_, rebuild_eq r m hy1 hy2 (wnomaskOf_off (D.weekno_off na.byweekno) ..) hn
      (eastermaskOf_off (D.easter_off na.byeaster) ..), hN _ _⟩
  filtered := fun {y m info i} f inv hi =>
    have D := construct_dateFields h
    have hy := monthDays_year f hi
    nth_filtered D (monthdayArg_nz na.monthday_nz na.valid) (nwl_facts (Or.inr na.freq) na.weekdays).2.2.2.1 f i
      hy.1 hy.2 inv.marked (fun _ => nthM_part na.freq na.weekdays f hi) (weekno_miss_off D na.byweekno ..)
      (easter_miss_off D na.byeaster ..)

/-- the state invariant of the MONTHLY refinement, read for this family -/
theorem nth_good (na : NthMArgs a) {k : Nat} {st : State} (g : PeriodGood (NthMInv a) a r k st) : NthGood a r k st :=
  ⟨g.facts, g.month, g.timeset, g.monthly na.freq, g.inv⟩

/-- **`iter_eq_spec`, MONTHLY with nth weekdays.**  FREQ=MONTHLY, INTERVAL ≥ 1, a valid start, BYDAY
    consisting of nth weekdays only (`MO(+2)`, `FR(-1)`, any magnitude), any BYMONTH / BYYEARDAY /
    BYHOUR / BYMINUTE / BYSECOND / BYSETPOS, any COUNT / UNTIL, no BYMONTHDAY / BYWEEKNO / BYEASTER: the
    values yielded during the first `n` periods are exactly the specification's recurrence set — the
    nth weekday counted inside the month from its start or its end. -/
theorem iter_eq_spec_monthly_nth (na : NthMArgs a) (h : construct a = .ok r) (n : Nat)
    (hm : (a.dtstart.y * 12 + (a.dtstart.m - 1) + n * a.interval) / 12 ≤ 9999) :
    (iter r n).1 = Spec.RRule.occ a n := by
  have hv := na.valid
  unfold DT.Valid ValidDate at hv
  exact monthly_refines h na.freq na.valid (nth_filter na h) n hv.1.1 hm

end RRule
