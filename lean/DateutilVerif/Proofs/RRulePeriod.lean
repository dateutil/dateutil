/-
  Proofs/RRulePeriod.lean — the refinement at the period-level frequencies YEARLY, MONTHLY and WEEKLY, proved once over
  the notion the families share: a `PeriodFilter`, i.e. an invariant on `Info` that `rebuild` establishes for a range of years
  and under which the BY-filter, on the days the period reads, is the specification's `dateOk`.  Everything about the
  cursor (which year / month period `k` is, the time set, BYSETPOS, the cuts) follows from `construct a = .ok r`
  alone; a family only supplies its `PeriodFilter`.
  WEEKLY: period 0 of the model starts at the start's own day (the week is truncated), later periods at the week start;
  the specification's period is the whole week.  The days the model leaves out of week 0 lie before the start, so both
  sides yield the same instants — without BYSETPOS, or with a start on the week start (positions would be counted
  differently otherwise: D-C01e).  A week beginning in late December reads into the 7-day tail of the year's masks.
-/
import DateutilVerif.Proofs.RRuleDaily

namespace RRule
open Cal

variable {a : Args} {r : Rule}

theorem construct_tsok (h : construct a = .ok r) (hf : a.freq < 4) : TsOk (Spec.RRule.timesOf a none none none) := by
  have := construct_timeset_ok a r h hf
  rw [construct_timeset a r h hf] at this
  exact this

/-- the state before the first period, given the `Info` of the start's year and month -/
theorem init_eq (h : construct a = .ok r) (hf : a.freq < 4) {info : Info}
    (hre : rebuild r a.dtstart.y a.dtstart.m = .ok info) :
    init r = .ok { cur := { year := a.dtstart.y, month := a.dtstart.m, day := a.dtstart.d, hour := a.dtstart.hh,
                            minute := a.dtstart.mm, second := a.dtstart.ss,
                            weekday := weekdayOfOrd (toOrdinal a.dtstart.y a.dtstart.m a.dtstart.d) },
                   info := info, timeset := Spec.RRule.timesOf a none none none, count := r.count } := by
  obtain ⟨hfr, _, _, _, _, _, hd, _⟩ := construct_fields a r h
  unfold init
  simp only [hd, bind, Except.bind, hre, construct_timeset a r h hf, pure, Except.pure]
  rw [if_pos (by rw [hfr]; exact hf)]
  rfl

/-- `rebuild r y m` succeeds for the years `ylo..yhi` and establishes `Inv y m`, under which the BY-filter at the
    indices `reads y m info` — those a period standing in year `y`, month `m` looks at — is `dateOk a` -/
structure PeriodFilter (a : Args) (r : Rule) (ylo yhi : Int) (Inv : Int → Int → Info → Prop)
    (reads : Int → Int → Info → Int → Prop) : Prop where
  lo : 1 ≤ ylo
  hi : yhi ≤ 9999
  rebuild : ∀ y m, ylo ≤ y → y ≤ yhi → 1 ≤ m → m ≤ 12 → ∃ info, rebuild r y m = .ok info ∧ Inv y m info
  filtered : ∀ {y m info i}, YearFacts r y info → Inv y m info → reads y m info i →
    dayFiltered r info i = .ok (!Spec.RRule.dateOk a (info.yearordinal + i))

/-- the whole year and its 7-day tail -/
def allDays (_y _m : Int) (info : Info) (i : Int) : Prop := 0 ≤ i ∧ i < info.yearlen + 7

/-- a YEARLY period reads the days of its year -/
def yearDays (_y _m : Int) (info : Info) (i : Int) : Prop := 0 ≤ i ∧ i < info.yearlen

/-- a MONTHLY period reads the days of its month -/
def monthDays (y m : Int) (_info : Info) (i : Int) : Prop :=
  (1 ≤ m ∧ m ≤ 12) ∧ daysBeforeMonth y m ≤ i ∧ i < daysBeforeMonth y m + daysInMonth y m

theorem monthDays_year {y m : Int} {info : Info} {i : Int} (f : YearFacts r y info) (h : monthDays y m info i) :
    yearDays y m info i := by
  obtain ⟨hm, h0, h1⟩ := h
  have hdbm0 := daysBeforeMonth_mono y 1 m (by omega) hm.1 (by omega)
  rw [daysBeforeMonth_1] at hdbm0
  have hdbm1 := daysBeforeMonth_mono y (m + 1) 13 (by omega) (by omega) (by omega)
  rw [daysBeforeMonth_13, daysBeforeMonth_succ _ _ hm.1 hm.2] at hdbm1
  exact ⟨by omega, by rw [f.yearlen]; omega⟩

theorem yearDays_all {y m : Int} {info : Info} {i : Int} (h : yearDays y m info i) : allDays y m info i :=
  ⟨h.1, by have := h.2; omega⟩

/-- "the model state at the start of period `k`" at YEARLY / MONTHLY, for a day filter with invariant `Inv` -/
structure PeriodGood (Inv : Int → Int → Info → Prop) (a : Args) (r : Rule) (k : Nat) (st : State) : Prop where
  facts : YearFacts r st.cur.year st.info
  month : 1 ≤ st.cur.month ∧ st.cur.month ≤ 12
  timeset : st.timeset = Spec.RRule.timesOf a none none none
  inv : Inv st.cur.year st.cur.month st.info
  yearly : a.freq = 0 → st.cur.year = a.dtstart.y + k * a.interval
  monthly : a.freq = 1 →
    st.cur.year * 12 + (st.cur.month - 1) = a.dtstart.y * 12 + (a.dtstart.m - 1) + k * a.interval

variable {ylo yhi : Int} {Inv : Int → Int → Info → Prop} {reads : Int → Int → Info → Int → Prop}

/-- a filter serves every period that reads fewer days -/
theorem PeriodFilter.mono {reads' : Int → Int → Info → Int → Prop} (F : PeriodFilter a r ylo yhi Inv reads)
    (hr : ∀ {y m info i}, YearFacts r y info → reads' y m info i → reads y m info i) :
    PeriodFilter a r ylo yhi Inv reads' :=
  ⟨F.lo, F.hi, F.rebuild, fun f inv hi => F.filtered f inv (hr f hi)⟩

/-- no computed mask is consulted; the nth-weekday mask is absent -/
def SimpleInv (_y _m : Int) (info : Info) : Prop := info.nwdaymask = none

/-- the day filter of a rule without computed masks, given the bridge to `dateOk` -/
theorem simple_filter (hs : SimpleRule r) (hbr : ∀ ord, 1 ≤ ord → simpleOk r ord = Spec.RRule.dateOk a ord) :
    PeriodFilter a r 1 9999 SimpleInv allDays where
  lo := by omega
  hi := by omega
  rebuild := fun y m hy1 hy2 _ _ => by
    obtain ⟨info, hre, hnw, _⟩ := rebuild_simple r hs y m hy1 hy2
    exact ⟨info, hre, hnw⟩
  filtered := fun {y m info i} f inv hi => by
    have hpos := f.ord_pos
    rw [dayFiltered_simple hs f inv i hi.1 hi.2, hbr _ (by rw [f.yearordinal]; have := hi.1; omega)]

theorem period_init (h : construct a = .ok r) (hf : a.freq < 4) (hv : a.dtstart.Valid)
    (F : PeriodFilter a r ylo yhi Inv reads) (hlo : ylo ≤ a.dtstart.y) (hhi : a.dtstart.y ≤ yhi) :
    ∃ st0, init r = .ok st0 ∧ PeriodGood Inv a r 0 st0 ∧ st0.count = r.count := by
  unfold DT.Valid ValidDate at hv
  obtain ⟨info, hre, hinv⟩ := F.rebuild a.dtstart.y a.dtstart.m hlo hhi hv.1.2.2.1 hv.1.2.2.2.1
  exact ⟨_, init_eq h hf hre, ⟨rebuild_facts r _ _ info hre, ⟨hv.1.2.2.1, hv.1.2.2.2.1⟩, rfl, hinv,
    by intro _; dsimp only; omega, by intro _; dsimp only; omega⟩, rfl⟩

/-- the results of a period whose day set is the index range `[i0, i1)` read by the filter, against the specification's
    period `k` spanning the same days -/
theorem period_results {i0 i1 : Int} (h : construct a = .ok r) (hf : a.freq < 4) (st : State) {y : Int}
    (f : YearFacts r y st.info) (hts : st.timeset = Spec.RRule.timesOf a none none none)
    (hfil : ∀ i, i0 ≤ i → i < i1 → dayFiltered r st.info i = .ok (!Spec.RRule.dateOk a (st.info.yearordinal + i)))
    (hds : dayset r st.info st.cur = .ok (intRange i0 i1)) (h0 : 0 ≤ i0) (h1 : i1 ≤ st.info.yearlen) (k : Nat)
    (hspan : Spec.RRule.periodSpan a (k * a.interval) =
      (st.info.yearordinal + i0, st.info.yearordinal + i1, none, none, none)) :
    ∃ fl pre cands, periodResults r st = .ok (cands, none, fl) ∧ Spec.RRule.sel a (k : Int) = pre ++ cands ∧
      (∀ x ∈ pre, x.micros < Spec.RRule.startMicros a ∧ Spec.RRule.afterUntil a x = false) ∧
      (∀ x ∈ cands, 0 ≤ x.ord ∧ x.ord ≤ maxOrdinal) := by
  have hsp := construct_bysetpos a r h
  have hyo := f.yearordinal
  have hpos := f.ord_pos
  have hend := year_end_le y f.year_hi
  rw [← f.yearlen, ← hyo] at hend
  obtain ⟨fl, hres⟩ := periodResults_range_P st (Spec.RRule.dateOk a) hfil (by rw [hsp.1]; exact hsp.2)
    (by rw [hts]; exact construct_tsok h hf) hds (by omega) (by omega)
  refine ⟨fl, [], Spec.RRule.sel a (k : Int), ?_, rfl, by simp, ?_⟩
  · rw [hres, hts, sel_span_sp a k _ _ hspan, hsp.1]
  · intro x hx
    rw [sel_span_sp a k _ _ hspan] at hx
    have := sel_bounds _ _ _ _ x (applySetpos_subset _ _ x hx)
    omega

theorem yearly_results (h : construct a = .ok r) (hf : a.freq = 0) (F : PeriodFilter a r ylo yhi Inv yearDays)
    (k : Nat) (st : State) (hg : PeriodGood Inv a r k st) :
    ∃ fl pre cands, periodResults r st = .ok (cands, none, fl) ∧ Spec.RRule.sel a (k : Int) = pre ++ cands ∧
      (∀ x ∈ pre, x.micros < Spec.RRule.startMicros a ∧ Spec.RRule.afterUntil a x = false) ∧
      (∀ x ∈ cands, 0 ≤ x.ord ∧ x.ord ≤ maxOrdinal) := by
  have hfreq : r.freq = 0 := by rw [(construct_fields a r h).1]; exact hf
  refine period_results h (by omega) st hg.facts hg.timeset (fun i h0 h1 => F.filtered hg.facts hg.inv ⟨h0, h1⟩)
    (dayset_yearly st.cur hfreq) (by omega) (by omega) k ?_
  unfold Spec.RRule.periodSpan
  rw [if_pos (by simp [hf])]
  dsimp only
  rw [← hg.yearly hf, hg.facts.yearordinal, hg.facts.yearlen, toOrdinal_next_year]; simp

theorem yearly_next (h : construct a = .ok r) (hf : a.freq = 0) (F : PeriodFilter a r ylo yhi Inv reads)
    (k : Nat) (st : State) (fl : Bool) (c : Option Int) (hg : PeriodGood Inv a r k st) (hlo : ylo ≤ a.dtstart.y)
    (hy : a.dtstart.y + (k + 1 : Nat) * a.interval ≤ yhi) :
    ∃ st', advance r { st with count := c } fl = .ok st' ∧ PeriodGood Inv a r (k + 1) st' := by
  obtain ⟨hfr, hint, _⟩ := construct_fields a r h
  have hi := construct_interval_pos a r h
  have hyr := hg.yearly hf
  have hk0 : (0 : Int) ≤ k * a.interval := Int.mul_nonneg (by omega) (by omega)
  have ek : ((k + 1 : Nat) : Int) * a.interval = k * a.interval + a.interval := by
    push_cast; rw [Int.add_mul]; omega
  have hhi := F.hi
  obtain ⟨info, hre, hinv⟩ := F.rebuild (st.cur.year + r.interval) st.cur.month (by rw [hint]; omega)
    (by rw [hint]; omega) hg.month.1 hg.month.2
  have hadv : advance r { st with count := c } fl =
      .ok { cur := { st.cur with year := st.cur.year + r.interval }, info := info,
            timeset := st.timeset, count := c } := by
    rw [advance_yearly_eq r _ fl (by rw [hfr]; exact hf)]
    dsimp only
    rw [if_neg (by rw [hint]; omega), hre]
  exact ⟨_, hadv, ⟨rebuild_facts r _ _ info hre, hg.month, hg.timeset, hinv,
    by intro _; dsimp only; rw [hyr, hint]; omega, by intro f1; omega⟩⟩

/-- **YEARLY refinement**: a constructed YEARLY rule with a day filter for the years `ylo..yhi` yields exactly the
    specification's recurrence set while its periods stay inside those years -/
theorem yearly_refines (h : construct a = .ok r) (hf : a.freq = 0) (hv : a.dtstart.Valid)
    (F : PeriodFilter a r ylo yhi Inv yearDays) (n : Nat) (hlo : ylo ≤ a.dtstart.y)
    (hy : a.dtstart.y + n * a.interval ≤ yhi) :
    (iter r n).1 = Spec.RRule.occ a n := by
  have hi := construct_interval_pos a r h
  have hmono : ∀ k : Nat, k ≤ n → (k : Int) * a.interval ≤ n * a.interval := by
    intro k hk; exact Int.mul_le_mul_of_nonneg_right (by omega) (by omega)
  have hn0 : (0 : Int) ≤ n * a.interval := Int.mul_nonneg (by omega) (by omega)
  have sim : Simulation a r n (PeriodGood Inv a r) := {
    agree := construct_cuts h
    results := fun k st _ hg => yearly_results h hf F k st hg
    next := fun k st fl c hk hg => yearly_next h hf F k st fl c hg hlo (by have := hmono (k + 1) (by omega); omega) }
  obtain ⟨st0, hinit, hg0, hc0⟩ := period_init h (by omega) hv F hlo (by omega)
  exact iter_refines sim st0 hinit hg0 hc0 n (by omega)

theorem monthly_results (h : construct a = .ok r) (hf : a.freq = 1) (F : PeriodFilter a r ylo yhi Inv monthDays)
    (k : Nat) (st : State) (hg : PeriodGood Inv a r k st) :
    ∃ fl pre cands, periodResults r st = .ok (cands, none, fl) ∧ Spec.RRule.sel a (k : Int) = pre ++ cands ∧
      (∀ x ∈ pre, x.micros < Spec.RRule.startMicros a ∧ Spec.RRule.afterUntil a x = false) ∧
      (∀ x ∈ cands, 0 ≤ x.ord ∧ x.ord ≤ maxOrdinal) := by
  have hfreq : r.freq = 1 := by rw [(construct_fields a r h).1]; exact hf
  have hm := hg.month
  have hb := daysInMonth_bounds st.cur.year st.cur.month
  have hdbm0 := daysBeforeMonth_mono st.cur.year 1 st.cur.month (by omega) hm.1 (by omega)
  rw [daysBeforeMonth_1] at hdbm0
  have hdbm1 := daysBeforeMonth_mono st.cur.year (st.cur.month + 1) 13 (by omega) (by omega) (by omega)
  rw [daysBeforeMonth_13, daysBeforeMonth_succ _ _ hm.1 hm.2] at hdbm1
  refine period_results h (by omega) st hg.facts hg.timeset (fun i h0 h1 => F.filtered hg.facts hg.inv ⟨hm, h0, h1⟩)
    (dayset_monthly st.cur hfreq hg.facts hm.1 hm.2) hdbm0 (by rw [hg.facts.yearlen]; omega) k ?_
  unfold Spec.RRule.periodSpan
  rw [if_neg (by simp [hf]), if_pos (by simp [hf])]
  dsimp only
  have hidx := hg.monthly hf
  have e1 : (a.dtstart.y * 12 + (a.dtstart.m - 1) + k * a.interval) / 12 = st.cur.year := by omega
  have e2 : (a.dtstart.y * 12 + (a.dtstart.m - 1) + k * a.interval) % 12 + 1 = st.cur.month := by omega
  rw [e1, e2, hg.facts.yearordinal, month_start]
  simp only [Prod.mk.injEq, and_true, true_and]
  omega

/-- the MONTHLY step of `advance`: it rebuilds at the month `interval` months later -/
theorem advance_monthly_step (hf : r.freq = 1) (hi : 1 ≤ r.interval) (st : State) (fl : Bool)
    (hm1 : 1 ≤ st.cur.month) (hm12 : st.cur.month ≤ 12) :
    ∃ y' m', y' * 12 + (m' - 1) = st.cur.year * 12 + (st.cur.month - 1) + r.interval ∧ 1 ≤ m' ∧ m' ≤ 12 ∧
      ∀ info, y' ≤ 9999 → rebuild r y' m' = .ok info →
        advance r st fl = .ok { st with cur := { st.cur with year := y', month := m' }, info := info } := by
  rw [advance_monthly_eq r st fl hf]
  split
  · simp only [Py.divmod, Py.fdiv_pos _ (by omega : (0:Int) < 12), Py.fmod_pos _ (by omega : (0:Int) < 12)]
    by_cases c0 : (st.cur.month + r.interval) % 12 = 0
    · have c' : ((st.cur.month + r.interval) % 12 == 0) = true := by simp [c0]
      simp only [c', ↓reduceIte]
      refine ⟨st.cur.year + (st.cur.month + r.interval) / 12 - 1, 12, by omega, by omega, by omega,
        fun info hle hre => ?_⟩
      rw [if_neg (by omega), hre]
    · have c' : ((st.cur.month + r.interval) % 12 == 0) = false := by simp [c0]
      simp only [c', Bool.false_eq_true, ↓reduceIte]
      refine ⟨st.cur.year + (st.cur.month + r.interval) / 12, (st.cur.month + r.interval) % 12, by omega, by omega,
        by omega, fun info hle hre => ?_⟩
      rw [if_neg (by omega), hre]
  · refine ⟨st.cur.year, st.cur.month + r.interval, by omega, by omega, by omega, fun info _ hre => ?_⟩
    rw [hre]

theorem monthly_next (h : construct a = .ok r) (hf : a.freq = 1) (hv : a.dtstart.Valid)
    (F : PeriodFilter a r ylo yhi Inv reads) (k : Nat) (st : State) (fl : Bool) (c : Option Int)
    (hg : PeriodGood Inv a r k st) (hlo : ylo ≤ a.dtstart.y)
    (hm : (a.dtstart.y * 12 + (a.dtstart.m - 1) + (k + 1 : Nat) * a.interval) / 12 ≤ yhi) :
    ∃ st', advance r { st with count := c } fl = .ok st' ∧ PeriodGood Inv a r (k + 1) st' := by
  obtain ⟨hfr, hint, _⟩ := construct_fields a r h
  have hi := construct_interval_pos a r h
  unfold DT.Valid ValidDate at hv
  have hm0 : 1 ≤ a.dtstart.m ∧ a.dtstart.m ≤ 12 := ⟨hv.1.2.2.1, hv.1.2.2.2.1⟩
  have hk0 : (0 : Int) ≤ k * a.interval := Int.mul_nonneg (by omega) (by omega)
  have ek : ((k + 1 : Nat) : Int) * a.interval = k * a.interval + a.interval := by
    push_cast; rw [Int.add_mul]; omega
  have hidx := hg.monthly hf
  have hhi := F.hi
  obtain ⟨y', m', e, m1, m12, hadv⟩ := advance_monthly_step (by rw [hfr]; exact hf) (by rw [hint]; exact hi)
    { st with count := c } fl hg.month.1 hg.month.2
  dsimp only at e hadv
  rw [hint] at e
  obtain ⟨info, hre, hinv⟩ := F.rebuild y' m' (by omega) (by omega) m1 m12
  exact ⟨_, hadv info (by omega) hre, ⟨rebuild_facts r _ _ info hre, ⟨m1, m12⟩, hg.timeset, hinv,
    by intro f0; omega, by intro _; dsimp only; omega⟩⟩

/-- **MONTHLY refinement**: the same for a constructed MONTHLY rule and the months of those years -/
theorem monthly_refines (h : construct a = .ok r) (hf : a.freq = 1) (hv : a.dtstart.Valid)
    (F : PeriodFilter a r ylo yhi Inv monthDays) (n : Nat) (hlo : ylo ≤ a.dtstart.y)
    (hm : (a.dtstart.y * 12 + (a.dtstart.m - 1) + n * a.interval) / 12 ≤ yhi) :
    (iter r n).1 = Spec.RRule.occ a n := by
  have hi := construct_interval_pos a r h
  have hv' := hv
  unfold DT.Valid ValidDate at hv'
  have hmono : ∀ k : Nat, k ≤ n → (k : Int) * a.interval ≤ n * a.interval := by
    intro k hk; exact Int.mul_le_mul_of_nonneg_right (by omega) (by omega)
  have hn0 : (0 : Int) ≤ n * a.interval := Int.mul_nonneg (by omega) (by omega)
  have hm0 : 1 ≤ a.dtstart.m := hv'.1.2.2.1
  have sim : Simulation a r n (PeriodGood Inv a r) := {
    agree := construct_cuts h
    results := fun k st _ hg => monthly_results h hf F k st hg
    next := fun k st fl c hk hg => monthly_next h hf hv F k st fl c hg hlo (by
      have := hmono (k + 1) (by omega)
      have : (a.dtstart.y * 12 + (a.dtstart.m - 1) + ((k + 1 : Nat) : Int) * a.interval) / 12 ≤
          (a.dtstart.y * 12 + (a.dtstart.m - 1) + n * a.interval) / 12 :=
        Int.ediv_le_ediv (by omega) (by omega)
      omega) }
  obtain ⟨st0, hinit, hg0, hc0⟩ := period_init h (by omega) hv F hlo (by omega)
  exact iter_refines sim st0 hinit hg0 hc0 n (by omega)

/-- what the WEEKLY refinement needs of the arguments besides a day filter.  `until_ge`: the days of week 0 before the
    start (`pre` of `Simulation.results`) must not be cut by UNTIL; with UNTIL before the start both sides yield nothing -/
structure WeeklyBase (a : Args) : Prop where
  freq : a.freq = 2
  valid : a.dtstart.Valid
  setpos : a.bysetpos = none ∨ weekdayOfOrd (Spec.RRule.startOrd a) = a.wkst.getD 0
  wkst : 0 ≤ a.wkst.getD 0 ∧ a.wkst.getD 0 ≤ 6
  until_ge : ∀ u, a.untilDT = some u → Spec.RRule.startMicros a ≤ u.toMicros

/-- start of the week containing the start -/
def W0 (a : Args) : Int := Spec.RRule.weekStart (a.wkst.getD 0) (Spec.RRule.startOrd a)

/-- how far a WEEKLY period beginning in this year can read: to the first week start on or after next 1 January -/
def readEnd (r : Rule) (info : Info) : Int :=
  info.yearlen + (r.wkst - weekdayOfOrd (info.yearordinal + info.yearlen)) % 7

/-- a WEEKLY period reads up to the next week start, possibly inside the 7-day tail, and not after 31 December `yhi` -/
def weekDays (r : Rule) (yhi : Int) (_y _m : Int) (info : Info) (i : Int) : Prop :=
  0 ≤ i ∧ i < readEnd r info ∧ info.yearordinal + i ≤ toOrdinal yhi 12 31

theorem weekDays_all {yhi y m : Int} {info : Info} {i : Int} (h : weekDays r yhi y m info i) : allDays y m info i :=
  ⟨h.1, by have := h.2.1; unfold readEnd at this; omega⟩

theorem W0_facts (hw : 0 ≤ a.wkst.getD 0 ∧ a.wkst.getD 0 ≤ 6) :
    W0 a ≤ Spec.RRule.startOrd a ∧ Spec.RRule.startOrd a < W0 a + 7 ∧
    (∀ m : Int, weekdayOfOrd (W0 a + 7 * m) = a.wkst.getD 0) := by
  have hr := weekdayOfOrd_range (Spec.RRule.startOrd a)
  unfold W0 Spec.RRule.weekStart
  refine ⟨by omega, by omega, ?_⟩
  intro m
  have e : Spec.RRule.startOrd a - (weekdayOfOrd (Spec.RRule.startOrd a) - a.wkst.getD 0) % 7 + 7 * m =
      Spec.RRule.startOrd a + (-((weekdayOfOrd (Spec.RRule.startOrd a) - a.wkst.getD 0) % 7) + 7 * m) := by omega
  rw [e, weekdayOfOrd_add]
  omega

/-- every admitted wall time of a calendar-frequency argument set with a valid start is valid -/
theorem timesOf_valid (a : Args) (hv : a.dtstart.Valid) (hf : a.freq < 4) :
    ∀ t ∈ Spec.RRule.timesOf a none none none, ValidHMS t := by
  unfold DT.Valid at hv
  intro t ht
  unfold Spec.RRule.timesOf Spec.RRule.restrict at ht
  simp only [List.mem_flatMap, List.mem_map] at ht
  obtain ⟨h, hh, m, hm, s, hs, rfl⟩ := ht
  have h1 : 0 ≤ h ∧ h ≤ 23 := by
    unfold Spec.RRule.hours at hh
    split at hh
    · have := (mem_intRange _ _ _).mp (List.mem_filter.mp hh).1; omega
    · rw [if_pos hf] at hh; simp at hh; subst hh; omega
  have h2 : 0 ≤ m ∧ m ≤ 59 := by
    unfold Spec.RRule.minutes at hm
    split at hm
    · have := (mem_intRange _ _ _).mp (List.mem_filter.mp hm).1; omega
    · rw [if_pos (by omega)] at hm; simp at hm; subst hm; omega
  have h3 : 0 ≤ s ∧ s ≤ 59 := by
    unfold Spec.RRule.seconds at hs
    split at hs
    · have := (mem_intRange _ _ _).mp (List.mem_filter.mp hs).1; omega
    · rw [if_pos (by omega)] at hs; simp at hs; subst hs; omega
  exact ⟨h1.1, h1.2, h2.1, h2.2, h3.1, h3.2⟩

theorem intRange_append (x y z : Int) (h1 : x ≤ y) (h2 : y ≤ z) : intRange x z = intRange x y ++ intRange y z := by
  unfold intRange
  have e : (z - x).toNat = (y - x).toNat + (z - y).toNat := by omega
  rw [e, List.range_add, List.map_append, List.map_map]
  congr 1
  apply List.map_congr_left
  intro k _; simp only [Function.comp]; omega

/-- the first day of the year after `yhi` -/
theorem year_hi_next (yhi : Int) : toOrdinal (yhi + 1) 1 1 = toOrdinal yhi 12 31 + 1 := by
  have h13 := daysBeforeMonth_13 yhi
  have hs : daysBeforeMonth yhi 13 = daysBeforeMonth yhi 12 + daysInMonth yhi 12 :=
    daysBeforeMonth_succ yhi 12 (by omega) (by omega)
  have hd : daysInMonth yhi 12 = 31 := rfl
  rw [toOrdinal_next_year]
  unfold toOrdinal
  rw [daysBeforeMonth_1]
  omega

/-- a valid date not after 31 December `yhi` lies in a year ≤ `yhi` -/
theorem year_le_of_ord_le (y m d yhi : Int) (hv : ValidYMD y m d) (h : toOrdinal y m d ≤ toOrdinal yhi 12 31) :
    y ≤ yhi := by
  by_cases c : y ≤ yhi
  · exact c
  · exfalso
    have h1 := year_start_mono (yhi + 1) y (by omega)
    have h2 := index_range y m d hv
    have h3 := year_hi_next yhi
    omega

/-- "the model state at the start of period `k`" for a WEEKLY rule -/
structure WeeklyGood (a : Args) (r : Rule) (k : Nat) (st : State) : Prop where
  facts : YearFacts r st.cur.year st.info
  nwd : st.info.nwdaymask = none
  valid : ValidYMD st.cur.year st.cur.month st.cur.day
  timeset : st.timeset = Spec.RRule.timesOf a none none none
  wd : st.cur.weekday = weekdayOfOrd (curOrd st.cur)
  ord : curOrd st.cur = if k = 0 then Spec.RRule.startOrd a else W0 a + 7 * (k * a.interval)

/-- the start of the cursor's week is the start of the specification's period `k` -/
theorem weekly_wk (hw : 0 ≤ a.wkst.getD 0 ∧ a.wkst.getD 0 ≤ 6) (k : Nat) (st : State) (hg : WeeklyGood a r k st) :
    curOrd st.cur - (weekdayOfOrd (curOrd st.cur) - a.wkst.getD 0) % 7 = W0 a + 7 * (k * a.interval) := by
  have hf := W0_facts hw
  rw [hg.ord]
  by_cases hk : k = 0
  · subst hk; simp only [if_true]; unfold W0 Spec.RRule.weekStart; simp
  · rw [if_neg hk, hf.2.2]; omega

theorem weekly_span (hf : a.freq = 2) (k : Nat) :
    Spec.RRule.periodSpan a (k * a.interval) =
      (W0 a + 7 * (k * a.interval), W0 a + 7 * (k * a.interval) + 7, none, none, none) := by
  unfold Spec.RRule.periodSpan W0 Spec.RRule.wkst
  simp [hf]

/-- `fixDay` under a day filter: succeeds while the cursor's day number stays inside the filter's years, and
    re-establishes the invariant -/
theorem fixDay_filter (F : PeriodFilter a r ylo yhi Inv reads) (st : State) (b : Bool)
    (hm1 : 1 ≤ st.cur.month) (hm12 : st.cur.month ≤ 12) (hd1 : 1 ≤ st.cur.day) (hylo : ylo ≤ st.cur.year)
    (hle : curOrd st.cur ≤ toOrdinal yhi 12 31) (inv : Inv st.cur.year st.cur.month st.info) :
    ∃ st', fixDay r st b = .ok st' ∧ ylo ≤ st'.cur.year ∧ Inv st'.cur.year st'.cur.month st'.info := by
  have hmx : toOrdinal yhi 12 31 ≤ maxOrdinal := by
    have := year_end_le yhi F.hi
    rw [← toOrdinal_next_year, year_hi_next] at this; omega
  unfold fixDay
  dsimp only
  split
  · split
    · rename_i hgt
      have hb := daysInMonth_bounds st.cur.year st.cur.month
      have hy : st.cur.year ≤ yhi := by
        have := year_le_of_ord_le st.cur.year st.cur.month (daysInMonth st.cur.year st.cur.month) yhi
          ⟨hm1, hm12, by omega, by omega⟩ (by unfold curOrd toOrdinal at hle; unfold toOrdinal; omega)
        exact this
      have hhi := F.hi
      obtain ⟨⟨y, m, d⟩, hroll⟩ := rollDays_total st.cur.day.toNat st.cur.year st.cur.month st.cur.day
        hm1 hm12 hd1 (by omega) (by omega) (by unfold curOrd at hle; omega)
      have sp := rollDays_spec st.cur.day.toNat _ _ _ y m d hm1 hm12 hd1 (by omega) hroll
      have hy2 : y ≤ yhi := year_le_of_ord_le y m d yhi sp.2.1 (by rw [sp.1]; exact hle)
      obtain ⟨info, hre, hinv⟩ := F.rebuild y m (by omega) hy2 sp.2.1.1 sp.2.1.2.1
      rw [hroll]; dsimp only
      rw [hre]
      exact ⟨_, rfl, by dsimp only; omega, hinv⟩
    · exact ⟨_, rfl, hylo, inv⟩
  · exact ⟨_, rfl, hylo, inv⟩

theorem fixDay_nwd (hoff : truthy r.bynweekday = false) {st st' : State} {b : Bool}
    (h0 : st.info.nwdaymask = none) (h : fixDay r st b = .ok st') : st'.info.nwdaymask = none := by
  unfold fixDay at h
  dsimp only at h
  split at h
  · split at h
    · split at h
      · cases h
      · split at h
        · cases h
        · rename_i hre; cases h; exact rebuild_nwd_off hoff hre
    · cases h; exact h0
  · cases h; exact h0

variable {yhi : Int}

/-- the first index after `c` whose date falls on the week start `w`, as the WEEKLY day-set loop finds it: the loop's
    own hypothesis at the claimed index decides -/
theorem next_weekstart (yo c e w : Int) (hw : 0 ≤ w ∧ w ≤ 6) (h1 : c < e) (h2 : e ≤ c + 7)
    (h3 : ∀ j, c < j → j < e → weekdayOfOrd (yo + j) ≠ w)
    (h4 : e = c + 7 ∨ weekdayOfOrd (yo + e) = w) :
    e = c + 7 - (weekdayOfOrd (yo + c) - w) % 7 := by
  have h3' := h3 (c + 7 - (weekdayOfOrd (yo + c) - w) % 7)
  unfold weekdayOfOrd at *
  omega

/-- … and it is not after the first such index from `L` on, when `c < L` -/
theorem weekstart_le (yo c e w L : Int) (hw : 0 ≤ w ∧ w ≤ 6) (hc : c < L)
    (h3 : ∀ j, c < j → j < e → weekdayOfOrd (yo + j) ≠ w) :
    e ≤ L + (w - weekdayOfOrd (yo + L)) % 7 := by
  have h3' := h3 (L + (w - weekdayOfOrd (yo + L)) % 7)
  unfold weekdayOfOrd at *
  omega

/-- the WEEKLY day set of period `k`: from the cursor to the day before the next week start, inside the readable
    part of the masks -/
theorem weekly_dayset_end (h : construct a = .ok r) (B : WeeklyBase a) (k : Nat) (st : State)
    (hg : WeeklyGood a r k st) :
    ∃ e, dayset r st.info st.cur = .ok (intRange (curOrd st.cur - st.info.yearordinal) e) ∧
      st.info.yearordinal + e = W0 a + 7 * (k * a.interval) + 7 ∧
      W0 a + 7 * (k * a.interval) ≤ curOrd st.cur ∧ curOrd st.cur < W0 a + 7 * (k * a.interval) + 7 ∧
      1 ≤ curOrd st.cur ∧ 0 ≤ curOrd st.cur - st.info.yearordinal ∧ e ≤ readEnd r st.info := by
  obtain ⟨hfr, _, hwk, _⟩ := construct_fields a r h
  have hi := construct_interval_pos a r h
  have hwkst := weekly_wk B.wkst k st hg
  have hidx := index_range _ _ _ hg.valid
  rw [← hg.facts.yearordinal, ← hg.facts.yearlen] at hidx
  obtain ⟨e, hd, h1, h2, h3, h4⟩ := dayset_weekly (by rw [hfr]; exact B.freq) hg.facts hg.valid
  rw [hwk] at h3 h4
  have he := next_weekstart _ _ _ _ B.wkst h1 h2 h3 h4
  have here := weekstart_le _ _ _ _ st.info.yearlen B.wkst (by unfold curOrd; omega) h3
  have e0 : st.info.yearordinal + (curOrd st.cur - st.info.yearordinal) = curOrd st.cur := by omega
  rw [e0] at he
  have hcur1 : 1 ≤ curOrd st.cur := by
    unfold curOrd
    exact toOrdinal_pos _ _ _ hg.facts.year_lo hg.valid
  have hr := weekdayOfOrd_range (curOrd st.cur)
  refine ⟨e, hd, by omega, by omega, by omega, hcur1, by unfold curOrd; omega, ?_⟩
  unfold readEnd; rw [hwk]; exact here

theorem weekly_results (h : construct a = .ok r) (B : WeeklyBase a) (F : PeriodFilter a r ylo yhi Inv (weekDays r yhi))
    (k : Nat) (st : State) (hg : WeeklyGood a r k st) (inv : Inv st.cur.year st.cur.month st.info)
    (hle : W0 a + 7 * (k * a.interval) + 7 ≤ toOrdinal yhi 12 31 + 1) :
    ∃ fl pre cands, periodResults r st = .ok (cands, none, fl) ∧ Spec.RRule.sel a (k : Int) = pre ++ cands ∧
      (∀ x ∈ pre, x.micros < Spec.RRule.startMicros a ∧ Spec.RRule.afterUntil a x = false) ∧
      (∀ x ∈ cands, 0 ≤ x.ord ∧ x.ord ≤ maxOrdinal) := by
  have hmx : toOrdinal yhi 12 31 ≤ maxOrdinal := by
    have := year_end_le yhi F.hi
    rw [← toOrdinal_next_year, year_hi_next] at this; omega
  have hsp := construct_bysetpos a r h
  have hf4 : a.freq < 4 := by rw [B.freq]; omega
  have hf := W0_facts B.wkst
  obtain ⟨e, hd, he, hcur_ge, hcur_lt, hcur1, hi0, here⟩ := weekly_dayset_end h B k st hg
  obtain ⟨fl, hres⟩ := periodResults_range_P st (Spec.RRule.dateOk a)
    (fun i hi0' hi1' => F.filtered hg.facts inv ⟨by omega, by omega, by omega⟩)
    (by rw [hsp.1]; exact hsp.2) (by rw [hg.timeset]; exact construct_tsok h hf4) hd (by omega) (by omega)
  have e1 : st.info.yearordinal + (curOrd st.cur - st.info.yearordinal) = curOrd st.cur := by omega
  rw [e1, he, hg.timeset, hsp.1] at hres
  rcases B.setpos with hnone | hal
  · -- no BYSETPOS: the days of week 0 the model leaves out lie before the start
    have hsel : Spec.RRule.sel a (k : Int) = _ := sel_span_sp a k _ _ (weekly_span B.freq k)
    rw [hnone] at hsel
    change _ = List.flatMap _ _ at hsel
    rw [intRange_append _ (curOrd st.cur) _ hcur_ge (by omega), List.filter_append, List.flatMap_append] at hsel
    rw [hnone] at hres
    refine ⟨fl, _, _, hres, hsel, ?_, ?_⟩
    · intro x hx
      simp only [List.mem_flatMap, List.mem_filter, List.mem_map] at hx
      obtain ⟨o, ⟨ho, _⟩, t, ht, rfl⟩ := hx
      have hor := (mem_intRange _ _ _).mp ho
      have hk : k = 0 := by
        by_cases c : k = 0
        · exact c
        · have := hg.ord; rw [if_neg c] at this; omega
      have hcs : curOrd st.cur = Spec.RRule.startOrd a := by rw [hg.ord, if_pos hk]
      have hvt := timesOf_valid a B.valid hf4 t ht
      have hlt : (mkInst o t).micros < Spec.RRule.startMicros a := by
        have hv := B.valid
        unfold DT.Valid at hv
        unfold ValidHMS at hvt
        unfold Spec.RRule.startMicros DT.toMicros DT.timeMicros DT.ordinal DT.usPerDay Inst.micros Inst.secs mkInst
        unfold Spec.RRule.startOrd DT.ordinal at hcs
        dsimp only
        omega
      refine ⟨hlt, ?_⟩
      unfold Spec.RRule.afterUntil
      cases hu : a.untilDT with
      | none => rfl
      | some u => have := B.until_ge u hu; simp; omega
    · intro x hx
      have := sel_bounds _ _ _ _ x hx
      omega
  · -- a start on the week start: the model's period is the whole week, also under BYSETPOS
    have hw' := B.wkst
    have hcw : weekdayOfOrd (curOrd st.cur) = a.wkst.getD 0 := by
      rw [hg.ord]; split
      · exact hal
      · exact hf.2.2 _
    have hcur : curOrd st.cur = W0 a + 7 * (k * a.interval) := by
      have := weekly_wk B.wkst k st hg
      rw [hcw] at this; omega
    rw [hcur] at hres
    have hsel := sel_span_sp a k _ _ (weekly_span B.freq k)
    refine ⟨fl, [], Spec.RRule.sel a (k : Int), ?_, rfl, by simp, ?_⟩
    · rw [hres, hsel]
    · intro x hx
      rw [hsel] at hx
      have := sel_bounds _ _ _ _ x (applySetpos_subset _ _ x hx)
      omega

theorem weekly_next (h : construct a = .ok r) (B : WeeklyBase a) (F : PeriodFilter a r ylo yhi Inv reads)
    (k : Nat) (st : State) (fl : Bool) (c : Option Int) (hg : WeeklyGood a r k st) (hylo : ylo ≤ st.cur.year)
    (inv : Inv st.cur.year st.cur.month st.info) (hle : W0 a + 7 * ((k + 1 : Nat) * a.interval) ≤ toOrdinal yhi 12 31) :
    ∃ st', advance r { st with count := c } fl = .ok st' ∧ WeeklyGood a r (k + 1) st' ∧ ylo ≤ st'.cur.year ∧
      Inv st'.cur.year st'.cur.month st'.info := by
  obtain ⟨hfr, hint, hwk, _⟩ := construct_fields a r h
  have hfreq : r.freq = 2 := by rw [hfr]; exact B.freq
  have hi := construct_interval_pos a r h
  have hw := B.wkst
  have hf := W0_facts B.wkst
  have hwkst := weekly_wk B.wkst k st hg
  have hrange := weekdayOfOrd_range (curOrd st.cur)
  obtain ⟨hm1, hm12, hd1, hd2⟩ := hg.valid
  have ek : ((k + 1 : Nat) : Int) * a.interval = k * a.interval + a.interval := by
    push_cast; rw [Int.add_mul]; omega
  have hnew : ∀ d', d' = (if r.wkst > st.cur.weekday then st.cur.day + (-(st.cur.weekday + 1 + (6 - r.wkst)) + r.interval * 7)
        else st.cur.day + (-(st.cur.weekday - r.wkst) + r.interval * 7)) →
      curOrd { st.cur with day := d' } = W0 a + 7 * ((k + 1 : Nat) * a.interval) ∧ 1 ≤ d' := by
    intro d' hd'
    rw [curOrd_day, hd', hg.wd, hwk, hint, ek]
    split <;> (constructor <;> omega)
  -- WEEKLY keeps no nth BYDAY member, so no `rebuild` sets the nth-weekday mask
  have hoff : truthy r.bynweekday = false := by
    rw [(construct_dateFields h).bynweekday]
    exact bynweekday_plain fun _ _ => Or.inr (by rw [B.freq]; omega)
  have hex : ∃ st', advance r { st with count := c } fl = .ok st' ∧ st'.info.nwdaymask = none ∧ ylo ≤ st'.cur.year ∧
      Inv st'.cur.year st'.cur.month st'.info := by
    rw [advance_weekly_eq r _ fl hfreq]
    obtain ⟨e1, e2⟩ := hnew _ rfl
    refine Exists.imp (p := fun st' => fixDay r _ _ = .ok st' ∧ ylo ≤ st'.cur.year ∧ Inv st'.cur.year st'.cur.month st'.info)
      (fun st' hx => ⟨hx.1, fixDay_nwd hoff (by exact hg.nwd) hx.1, hx.2⟩) ?_
    exact fixDay_filter F
      { cur := { st.cur with day := _, weekday := r.wkst }, info := st.info, timeset := st.timeset, count := c } true
      hm1 hm12 e2 hylo
      (by rw [← e1] at hle; exact hle)   -- the weekday field does not enter `curOrd`
      inv
  obtain ⟨st', hadv, hnwd', hylo', hinv'⟩ := hex
  refine ⟨st', hadv, ?_, hylo', hinv'⟩
  have sp := advance_weekly r { st with count := c } st' fl hfreq (by omega) hg.valid (by rw [hwk]; exact hw)
    (by show 0 ≤ st.cur.weekday ∧ st.cur.weekday ≤ 6; rw [hg.wd]; omega) hg.facts hadv
  obtain ⟨eo, v, wd', f', ts⟩ := sp
  have eo : curOrd st'.cur = curOrd st.cur - (st.cur.weekday - r.wkst) % 7 + 7 * r.interval := eo
  have eo' : curOrd st'.cur = W0 a + 7 * ((k + 1 : Nat) * a.interval) := by
    rw [eo, hg.wd, hwk, hint, ek]; omega
  refine ⟨f', hnwd', v, by rw [ts]; exact hg.timeset, ?_, ?_⟩
  · rw [wd', hwk, eo', hf.2.2]
  · rw [if_neg (by omega)]; exact eo'

/-- **WEEKLY refinement**: a constructed WEEKLY rule with a day filter (over the year and the readable part of its
    7-day tail) for the years `ylo..yhi` yields exactly the specification's recurrence set while its weeks end by
    31 December `yhi` -/
theorem weekly_refines (h : construct a = .ok r) (B : WeeklyBase a) (F : PeriodFilter a r ylo yhi Inv (weekDays r yhi))
    (n : Nat) (hlo : ylo ≤ a.dtstart.y)
    (hn : W0 a + 7 * (n * a.interval) + 7 ≤ toOrdinal yhi 12 31 + 1) :
    (iter r n).1 = Spec.RRule.occ a n := by
  have hi := construct_interval_pos a r h
  have hf := W0_facts B.wkst
  have hn0 : (0 : Int) ≤ n * a.interval := Int.mul_nonneg (by omega) (by omega)
  have hmono : ∀ k : Nat, k ≤ n → W0 a + 7 * (k * a.interval) + 7 ≤ toOrdinal yhi 12 31 + 1 := by
    intro k hk
    have : (k : Int) * a.interval ≤ n * a.interval :=
      Int.mul_le_mul_of_nonneg_right (by omega) (by omega)
    omega
  have hv := B.valid
  unfold DT.Valid ValidDate at hv
  have hhi : a.dtstart.y ≤ yhi := year_le_of_ord_le _ _ _ yhi hv.1.2.2 (by
    have : Spec.RRule.startOrd a = toOrdinal a.dtstart.y a.dtstart.m a.dtstart.d := rfl
    omega)
  have sim : Simulation a r n
      (fun k st => WeeklyGood a r k st ∧ ylo ≤ st.cur.year ∧ Inv st.cur.year st.cur.month st.info) := {
    agree := construct_cuts h
    results := fun k st hk hg => weekly_results h B F k st hg.1 hg.2.2 (hmono k (by omega))
    next := fun k st fl c hk hg =>
      weekly_next h B F k st fl c hg.1 hg.2.1 hg.2.2 (by have := hmono (k + 1) (by omega); omega) }
  obtain ⟨info, hre, hinv⟩ := F.rebuild a.dtstart.y a.dtstart.m hlo hhi hv.1.2.2.1 hv.1.2.2.2.1
  refine iter_refines sim _ (init_eq h (by rw [B.freq]; omega) hre)
    ⟨⟨rebuild_facts r _ _ info hre,
      rebuild_nwd_off (by rw [(construct_dateFields h).bynweekday]
                          exact bynweekday_plain fun _ _ => Or.inr (by rw [B.freq]; omega)) hre, hv.1.2.2, rfl, rfl, by simp only [if_true]; rfl⟩, hlo, hinv⟩
    rfl n (by omega)

end RRule
