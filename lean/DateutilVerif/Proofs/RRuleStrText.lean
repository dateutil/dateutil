/-
  Proofs/RRuleStrText.lean — ASCII text lemmas for C13: decimal printing/reading round trips,
  `split`/`join`, `upper`, `strip` on the character classes `rrule.__str__` emits.
-/
import DateutilVerif.Model.RRuleStr

namespace RRuleStr
open ICal (isSpace upper splitOnChar pyInt rstrip strip isDigit splitLines digitsUnderscore)

theorem char_le_iff (a b : Char) : a ≤ b ↔ a.toNat ≤ b.toNat := by
  rw [Char.le_def, UInt32.le_iff_toNat_le]; rfl

theorem char_eq_iff (a b : Char) : a = b ↔ a.toNat = b.toNat := Char.toNat_inj.symm

theorem toNat_ofNat (n : Nat) (h : n < 55296) : (Char.ofNat n).toNat = n := by
  unfold Char.ofNat
  have : n.isValidChar := Or.inl h
  simp [this, Char.toNat, Char.ofNatAux]

theorem digitChar_toNat (d : Nat) (h : d < 10) : (digitChar d).toNat = 48 + d :=
  toNat_ofNat _ (by omega)

theorem isDigit_iff (c : Char) : isDigit c = true ↔ 48 ≤ c.toNat ∧ c.toNat ≤ 57 := by
  simp [isDigit, char_le_iff]

theorem isDigit_digitChar (d : Nat) (h : d < 10) : isDigit (digitChar d) = true := by
  rw [isDigit_iff, digitChar_toNat d h]; omega

def isLower (c : Char) : Bool := 'a' ≤ c && c ≤ 'z'

theorem isLower_iff (c : Char) : isLower c = true ↔ 97 ≤ c.toNat ∧ c.toNat ≤ 122 := by
  simp [isLower, char_le_iff]

theorem isSpace_iff (c : Char) : isSpace c = true ↔
    c.toNat = 32 ∨ c.toNat = 9 ∨ c.toNat = 10 ∨ c.toNat = 13 ∨ c.toNat = 11 ∨ c.toNat = 12 ∨ (28 ≤ c.toNat ∧ c.toNat ≤ 31) := by
  simp [isSpace, char_eq_iff]; omega

/-! the character classes of `str(rule)`: digits ⊂ atoms ⊂ value characters ⊂ part characters ⊂ line characters -/

/-- upper-case letters, digits, sign characters: what the atoms of `str(rule)` are made of -/
def isAtom (c : Char) : Bool := isDigit c || ('A' ≤ c && c ≤ 'Z') || c == '+' || c == '-'
def isValC (c : Char) : Bool := isAtom c || c == ','
def isPartC (c : Char) : Bool := isValC c || c == '='
def isLineC (c : Char) : Bool := isPartC c || c == ';' || c == ':'

theorem isDigit_isAtom (c : Char) (h : isDigit c = true) : isAtom c = true := by simp [isAtom, h]
theorem isAtom_isValC (c : Char) (h : isAtom c = true) : isValC c = true := by simp [isValC, h]
theorem isValC_isPartC (c : Char) (h : isValC c = true) : isPartC c = true := by simp [isPartC, h]
theorem isPartC_isLineC (c : Char) (h : isPartC c = true) : isLineC c = true := by simp [isLineC, h]

theorem isLineC_iff (c : Char) : isLineC c = true ↔
    (48 ≤ c.toNat ∧ c.toNat ≤ 59) ∨ (65 ≤ c.toNat ∧ c.toNat ≤ 90) ∨ c.toNat = 43 ∨ c.toNat = 45 ∨ c.toNat = 44 ∨ c.toNat = 61 := by
  simp [isLineC, isPartC, isValC, isAtom, isDigit, char_le_iff, char_eq_iff]; omega

theorem isLineC_not_lower (c : Char) (h : isLineC c = true) : isLower c = false := by
  rw [Bool.eq_false_iff, Ne, isLower_iff]; rw [isLineC_iff] at h; omega

theorem isLineC_not_space (c : Char) (h : isLineC c = true) : isSpace c = false := by
  rw [Bool.eq_false_iff, Ne, isSpace_iff]; rw [isLineC_iff] at h; omega

theorem isPartC_not_lower (c : Char) (h : isPartC c = true) : isLower c = false := isLineC_not_lower c (isPartC_isLineC c h)
theorem isPartC_not_space (c : Char) (h : isPartC c = true) : isSpace c = false := isLineC_not_space c (isPartC_isLineC c h)

theorem isAtom_not_lower (c : Char) (h : isAtom c = true) : isLower c = false :=
  isPartC_not_lower c (isValC_isPartC c (isAtom_isValC c h))

theorem isAtom_not_space (c : Char) (h : isAtom c = true) : isSpace c = false :=
  isPartC_not_space c (isValC_isPartC c (isAtom_isValC c h))

theorem isDigit_not_space (c : Char) (h : isDigit c = true) : isSpace c = false := isAtom_not_space c (isDigit_isAtom c h)

def upperChar (c : Char) : Char := if 'a' ≤ c ∧ c ≤ 'z' then Char.ofNat (c.toNat - 32) else c

theorem upper_eq_map (s : List Char) : upper s = s.map upperChar := rfl

theorem upperChar_toNat (c : Char) :
    (upperChar c).toNat = if 97 ≤ c.toNat ∧ c.toNat ≤ 122 then c.toNat - 32 else c.toNat := by
  unfold upperChar
  by_cases h : 97 ≤ c.toNat ∧ c.toNat ≤ 122
  · have h' : 'a' ≤ c ∧ c ≤ 'z' := by simpa [char_le_iff] using h
    rw [if_pos h', if_pos h, toNat_ofNat _ (by omega)]
  · have h' : ¬ ('a' ≤ c ∧ c ≤ 'z') := by simpa [char_le_iff] using h
    rw [if_neg h', if_neg h]

theorem upperChar_not_lower (c : Char) : isLower (upperChar c) = false := by
  rw [Bool.eq_false_iff]; intro h
  rw [isLower_iff, upperChar_toNat] at h
  split at h <;> omega

theorem upperChar_of_not_lower (c : Char) (h : isLower c = false) : upperChar c = c := by
  rw [Bool.eq_false_iff, Ne, isLower_iff] at h
  have h' : ¬ ('a' ≤ c ∧ c ≤ 'z') := by simpa [char_le_iff] using h
  simp [upperChar, h']

theorem upperChar_idem (c : Char) : upperChar (upperChar c) = upperChar c :=
  upperChar_of_not_lower _ (upperChar_not_lower c)

/-- `s.upper().upper() == s.upper()` -/
theorem upper_idem (s : List Char) : upper (upper s) = upper s := by
  simp [upper_eq_map, upperChar_idem]

theorem upper_of_noLower (s : List Char) (h : ∀ c ∈ s, isLower c = false) : upper s = s := by
  rw [upper_eq_map]
  induction s with
  | nil => rfl
  | cons c cs ih =>
    simp only [List.map_cons]
    rw [upperChar_of_not_lower c (h c (by simp)), ih (fun d hd => h d (by simp [hd]))]

theorem upper_append (s t : List Char) : upper (s ++ t) = upper s ++ upper t := by
  simp [upper_eq_map]

theorem dropWhile_of_head {p : Char → Bool} : ∀ (s : List Char), (∀ c, s.head? = some c → p c = false) → s.dropWhile p = s
  | [], _ => rfl
  | c :: cs, h => by simp [h c rfl]

theorem strip_id (s : List Char) (hh : ∀ c, s.head? = some c → isSpace c = false)
    (hl : ∀ c, s.getLast? = some c → isSpace c = false) : strip s = s := by
  unfold strip rstrip
  rw [dropWhile_of_head s hh, dropWhile_of_head s.reverse (by simpa using hl), List.reverse_reverse]

theorem strip_of_noSpace (s : List Char) (h : ∀ c ∈ s, isSpace c = false) : strip s = s := by
  apply strip_id
  · intro c hc; exact h c (List.mem_of_head? hc)
  · intro c hc; exact h c (List.mem_of_getLast? hc)

/-- the value of a digit string -/
def digitsVal (s : List Char) : Nat := s.foldl (fun a c => a * 10 + (c.toNat - 48)) 0

theorem showNat_lt (n : Nat) (h : n < 10) : showNat n = [digitChar n] := by
  rw [showNat]; simp [h]

theorem showNat_ge (n : Nat) (h : ¬ n < 10) : showNat n = showNat (n / 10) ++ [digitChar (n % 10)] := by
  rw [showNat]; simp [h]

theorem showNat_digits (n : Nat) : ∀ c ∈ showNat n, isDigit c = true := by
  induction n using Nat.strongRecOn with
  | _ n ih =>
    by_cases h : n < 10
    · rw [showNat_lt n h]; intro c hc; simp at hc; subst hc; exact isDigit_digitChar n h
    · rw [showNat_ge n h]; intro c hc
      rcases List.mem_append.mp hc with hc | hc
      · exact ih (n / 10) (by omega) c hc
      · simp at hc; subst hc; exact isDigit_digitChar _ (by omega)

theorem showNat_ne_nil (n : Nat) : showNat n ≠ [] := by
  by_cases h : n < 10
  · rw [showNat_lt n h]; simp
  · rw [showNat_ge n h]; simp

theorem digitsVal_append_single (s : List Char) (c : Char) : digitsVal (s ++ [c]) = digitsVal s * 10 + (c.toNat - 48) := by
  simp [digitsVal, List.foldl_append]

theorem digitsVal_showNat (n : Nat) : digitsVal (showNat n) = n := by
  induction n using Nat.strongRecOn with
  | _ n ih =>
    by_cases h : n < 10
    · rw [showNat_lt n h]; simp [digitsVal, digitChar_toNat n h]
    · rw [showNat_ge n h, digitsVal_append_single, ih (n / 10) (by omega), digitChar_toNat _ (by omega)]
      omega

theorem nat?_showNat (n : Nat) : nat? (showNat n) = some n := by
  unfold nat?
  have h1 : (showNat n).isEmpty = false := by
    cases h : showNat n with
    | nil => exact absurd h (showNat_ne_nil n)
    | cons => rfl
  have h2 : (showNat n).all isDigit = true := by
    rw [List.all_eq_true]; exact showNat_digits n
  simp only [h1, h2, Bool.not_false, Bool.and_self, if_true]
  exact congrArg some (digitsVal_showNat n)

theorem digitsUnderscore_go_digits : ∀ (ds : List Char) (acc : Nat), (∀ d ∈ ds, isDigit d = true) →
    digitsUnderscore.go ds acc false = some (ds.foldl (fun a c => a * 10 + (c.toNat - 48)) acc)
  | [], acc, _ => by simp [digitsUnderscore.go]
  | d :: ds, acc, h => by
    have hd : isDigit d = true := h d (by simp)
    rw [digitsUnderscore.go]
    simp only [hd, if_true, List.foldl_cons]
    exact digitsUnderscore_go_digits ds _ (fun e he => h e (by simp [he]))

theorem digitsUnderscore_digits (s : List Char) (hne : s ≠ []) (h : ∀ d ∈ s, isDigit d = true) :
    digitsUnderscore s = some (digitsVal s) := by
  cases s with
  | nil => exact absurd rfl hne
  | cons c cs =>
    have hc : isDigit c = true := h c (by simp)
    rw [digitsUnderscore]
    simp only [hc, Bool.not_true, Bool.false_eq_true, if_false]
    rw [digitsUnderscore_go_digits cs _ (fun e he => h e (by simp [he]))]
    simp [digitsVal]

/-- `int()` of a non-empty digit string -/
theorem pyInt_digits (s : List Char) (hne : s ≠ []) (h : ∀ d ∈ s, isDigit d = true) :
    pyInt s = some (digitsVal s : Int) := by
  unfold pyInt
  rw [strip_of_noSpace s (fun c hc => isDigit_not_space c (h c hc))]
  cases s with
  | nil => exact absurd rfl hne
  | cons c cs =>
    have hc := (isDigit_iff c).mp (h c (by simp))
    split
    · next r heq => injection heq with h1 _; rw [h1] at hc; exact absurd hc (by decide)
    · next r heq => injection heq with h1 _; rw [h1] at hc; exact absurd hc (by decide)
    · rw [digitsUnderscore_digits _ hne h]; rfl

theorem pyInt_plus_digits (s : List Char) (hne : s ≠ []) (h : ∀ d ∈ s, isDigit d = true) :
    pyInt ('+' :: s) = some (digitsVal s : Int) := by
  unfold pyInt
  rw [strip_of_noSpace ('+' :: s) (by
    intro c hc; rcases List.mem_cons.mp hc with rfl | hc
    · decide
    · exact isDigit_not_space c (h c hc))]
  simp only []
  rw [digitsUnderscore_digits _ hne h]; rfl

theorem pyInt_minus_digits (s : List Char) (hne : s ≠ []) (h : ∀ d ∈ s, isDigit d = true) :
    pyInt ('-' :: s) = some (-(digitsVal s : Int)) := by
  unfold pyInt
  rw [strip_of_noSpace ('-' :: s) (by
    intro c hc; rcases List.mem_cons.mp hc with rfl | hc
    · decide
    · exact isDigit_not_space c (h c hc))]
  simp only []
  rw [digitsUnderscore_digits _ hne h]; rfl

/-- `int(str(i)) == i` -/
theorem pyInt_showInt (i : Int) : pyInt (showInt i) = some i := by
  unfold showInt
  split
  · rw [pyInt_minus_digits _ (showNat_ne_nil _) (showNat_digits _), digitsVal_showNat]; congr 1; omega
  · rw [pyInt_digits _ (showNat_ne_nil _) (showNat_digits _), digitsVal_showNat]; congr 1; omega

/-- `int('%+d' % i) == i` -/
theorem pyInt_showIntSigned (i : Int) : pyInt (showIntSigned i) = some i := by
  unfold showIntSigned
  split
  · rw [pyInt_minus_digits _ (showNat_ne_nil _) (showNat_digits _), digitsVal_showNat]; congr 1; omega
  · rw [pyInt_plus_digits _ (showNat_ne_nil _) (showNat_digits _), digitsVal_showNat]; congr 1; omega

theorem splitOnChar_go_nil (sep : Char) (cur : List Char) (acc : List (List Char)) :
    splitOnChar.go sep [] cur acc = acc.reverse ++ [cur.reverse] := by
  simp [splitOnChar.go]

theorem splitOnChar_go_sep (sep : Char) (rest cur : List Char) (acc : List (List Char)) :
    splitOnChar.go sep (sep :: rest) cur acc = splitOnChar.go sep rest [] (cur.reverse :: acc) := by
  simp [splitOnChar.go]

theorem splitOnChar_go_free (sep : Char) : ∀ (p rest cur : List Char) (acc : List (List Char)), sep ∉ p →
    splitOnChar.go sep (p ++ rest) cur acc = splitOnChar.go sep rest (p.reverse ++ cur) acc
  | [], _, _, _, _ => rfl
  | c :: p, rest, cur, acc, h => by
    have hc : (c == sep) = false := by
      rw [beq_eq_false_iff_ne]; intro e; exact h (by simp [e])
    rw [List.cons_append, splitOnChar.go]
    simp only [hc, Bool.false_eq_true, if_false]
    rw [splitOnChar_go_free sep p rest (c :: cur) acc (fun hm => h (by simp [hm]))]
    simp

theorem intercalate_cons_cons (sep p q : List Char) (qs : List (List Char)) :
    intercalate sep (p :: q :: qs) = p ++ sep ++ intercalate sep (q :: qs) := rfl

theorem splitOnChar_go_intercalate (sep : Char) : ∀ (p : List Char) (ps : List (List Char)) (acc : List (List Char)),
    (∀ q ∈ p :: ps, sep ∉ q) →
    splitOnChar.go sep (intercalate [sep] (p :: ps)) [] acc = acc.reverse ++ (p :: ps)
  | p, [], acc, h => by
    have := splitOnChar_go_free sep p [] [] acc (h p (by simp))
    simp only [List.append_nil] at this
    rw [intercalate, this, splitOnChar_go_nil]; simp
  | p, q :: qs, acc, h => by
    rw [intercalate_cons_cons, List.append_assoc, splitOnChar_go_free sep p _ [] acc (h p (by simp))]
    simp only [List.singleton_append, List.append_nil]
    rw [splitOnChar_go_sep, splitOnChar_go_intercalate sep q qs _ (fun r hr => h r (by simp [List.mem_cons] at hr ⊢; right; exact hr))]
    simp

/-- `sep.join(parts).split(sep) == parts` when no part contains `sep` and there is at least one part -/
theorem splitOnChar_intercalate (sep : Char) (parts : List (List Char)) (hne : parts ≠ [])
    (h : ∀ q ∈ parts, sep ∉ q) : splitOnChar sep (intercalate [sep] parts) = parts := by
  cases parts with
  | nil => exact absurd rfl hne
  | cons p ps =>
    unfold splitOnChar
    rw [splitOnChar_go_intercalate sep p ps [] h]; rfl

theorem splitOnChar_free (sep : Char) (s : List Char) (h : sep ∉ s) : splitOnChar sep s = [s] := by
  have := splitOnChar_intercalate sep [s] (by simp) (by simpa using h)
  simpa [intercalate] using this

theorem splitOnChar_two (sep : Char) (a b : List Char) (ha : sep ∉ a) (hb : sep ∉ b) :
    splitOnChar sep (a ++ sep :: b) = [a, b] := by
  have := splitOnChar_intercalate sep [a, b] (by simp) (by
    intro q hq; simp at hq; rcases hq with rfl | rfl <;> assumption)
  simpa [intercalate] using this

theorem mem_intercalate (sep : List Char) : ∀ (parts : List (List Char)) (c : Char),
    c ∈ intercalate sep parts → c ∈ sep ∨ ∃ p ∈ parts, c ∈ p
  | [], c, h => by simp [intercalate] at h
  | [p], c, h => by right; exact ⟨p, by simp, by simpa [intercalate] using h⟩
  | p :: q :: qs, c, h => by
    rw [intercalate_cons_cons] at h
    rcases List.mem_append.mp h with h | h
    · rcases List.mem_append.mp h with h | h
      · right; exact ⟨p, by simp, h⟩
      · left; exact h
    · rcases mem_intercalate sep (q :: qs) c h with h | ⟨r, hr, hc⟩
      · left; exact h
      · right; exact ⟨r, by simp at hr ⊢; right; exact hr, hc⟩

theorem contains_iff (s : List Char) (c : Char) : s.contains c = true ↔ c ∈ s := by
  simp

theorem isDigit_isSignDigit (c : Char) (h : isDigit c = true) : isSignDigit c = true := by simp [isSignDigit, h]

theorem isSignDigit_isAtom (c : Char) (h : isSignDigit c = true) : isAtom c = true := by
  simp only [isSignDigit, Bool.or_eq_true, beq_iff_eq] at h
  rcases h with (rfl | rfl) | h
  · decide
  · decide
  · exact isDigit_isAtom c h

/-- a sign character in front of `str(n)` -/
theorem signed_signDigit (s : Char) (hs : isSignDigit s = true) (n : Nat) : ∀ c ∈ s :: showNat n, isSignDigit c = true := by
  intro c hc
  rcases List.mem_cons.mp hc with rfl | hc
  · exact hs
  · exact isDigit_isSignDigit c (showNat_digits n c hc)

theorem showInt_signDigit (i : Int) : ∀ c ∈ showInt i, isSignDigit c = true := by
  unfold showInt; split
  · exact signed_signDigit '-' (by decide) _
  · exact fun c hc => isDigit_isSignDigit c (showNat_digits _ c hc)

theorem showIntSigned_signDigit (i : Int) : ∀ c ∈ showIntSigned i, isSignDigit c = true := by
  unfold showIntSigned; split
  · exact signed_signDigit '-' (by decide) _
  · exact signed_signDigit '+' (by decide) _

theorem showInt_ne_nil (i : Int) : showInt i ≠ [] := by
  unfold showInt; split
  · simp
  · exact showNat_ne_nil _

theorem showIntSigned_ne_nil (i : Int) : showIntSigned i ≠ [] := by
  unfold showIntSigned; split <;> simp

theorem showInt_isAtom (i : Int) : ∀ c ∈ showInt i, isAtom c = true :=
  fun c hc => isSignDigit_isAtom c (showInt_signDigit i c hc)

theorem showIntSigned_isAtom (i : Int) : ∀ c ∈ showIntSigned i, isAtom c = true :=
  fun c hc => isSignDigit_isAtom c (showIntSigned_signDigit i c hc)

theorem mapM_int!_showInt : ∀ (l : List Int), (l.map showInt).mapM int! = .ok l
  | [] => rfl
  | i :: l => by
    rw [List.map_cons, List.mapM_cons, mapM_int!_showInt l]
    simp [int!, pyInt_showInt, bind, Except.bind, pure, Except.pure]

/-- `[int(x) for x in ','.join(str(v) for v in l).split(',')] == l` for a non-empty `l` -/
theorem intList_showInts (l : List Int) (hne : l ≠ []) : intList (intercalate [','] (l.map showInt)) = .ok l := by
  unfold intList
  rw [splitOnChar_intercalate ',' _ (by simpa using hne) (by
    intro q hq hc
    rcases List.mem_map.mp hq with ⟨i, _, rfl⟩
    have := showInt_isAtom i ',' hc
    revert this; decide)]
  exact mapM_int!_showInt l

end RRuleStr
