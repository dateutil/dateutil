/- Proofs/IsoDigits.lean — fixed-width digit fields: a list of decimal digits and its reading determine each other,
   hence printing then `_parse_digits` is the identity and a field accepted by `_parse_digits` is the printing of
   its value, for every width. -/
import DateutilVerif.Model.IsoParser
import DateutilVerif.Spec.IsoForms

namespace Iso
open IsoSpec

theorem dch_ge (k : Nat) : 48 ≤ dch k ∧ dch k ≤ 57 := by unfold dch; omega

theorem isDigit_iff (b : Nat) : isDigit b = true ↔ 48 ≤ b ∧ b ≤ 57 := by simp [isDigit]

@[simp] theorem isDigit_dch (k : Nat) : isDigit (dch k) = true := (isDigit_iff _).mpr (dch_ge k)

theorem dch_ne (k c : Nat) (h : isDigit c = false) : (dch k = c) = False := by
  have := dch_ge k
  have hc : ¬ (48 ≤ c ∧ c ≤ 57) := by simpa [isDigit] using h
  simp only [eq_iff_iff, iff_false]; omega

@[simp] theorem dch_ne_45 (k : Nat) : (dch k = 45) = False := dch_ne k 45 (by decide)
@[simp] theorem dch_ne_43 (k : Nat) : (dch k = 43) = False := dch_ne k 43 (by decide)
@[simp] theorem dch_ne_44 (k : Nat) : (dch k = 44) = False := dch_ne k 44 (by decide)
@[simp] theorem dch_ne_46 (k : Nat) : (dch k = 46) = False := dch_ne k 46 (by decide)
@[simp] theorem dch_ne_58 (k : Nat) : (dch k = 58) = False := dch_ne k 58 (by decide)
@[simp] theorem dch_ne_87 (k : Nat) : (dch k = 87) = False := dch_ne k 87 (by decide)
@[simp] theorem dch_ne_90 (k : Nat) : (dch k = 90) = False := dch_ne k 90 (by decide)
@[simp] theorem dch_ne_122 (k : Nat) : (dch k = 122) = False := dch_ne k 122 (by decide)

theorem dch_sub (k : Nat) : dch k - 48 = k % 10 := by unfold dch; omega

@[simp] theorem dch_mod (k : Nat) : dch (k % 10) = dch k := by unfold dch; omega

theorem dch_of_digit (b : Nat) (h : isDigit b = true) : dch (b - 48) = b := by
  rw [isDigit_iff] at h; unfold dch; omega

/-- the decimal reading of a list of digit values, most significant first -/
def ofDigits (ds : List Nat) : Nat := ds.foldl (fun acc d => acc * 10 + d) 0

/-- the `k` low decimal digits of `n`, most significant first -/
def digitsN : Nat → Nat → List Nat
  | 0, _ => []
  | k + 1, n => digitsN k (n / 10) ++ [n % 10]

theorem ofDigits_concat (ds : List Nat) (d : Nat) : ofDigits (ds ++ [d]) = ofDigits ds * 10 + d := by
  simp [ofDigits]

@[simp] theorem length_digitsN (k n : Nat) : (digitsN k n).length = k := by
  induction k generalizing n with
  | zero => rfl
  | succ k ih => simp [digitsN, ih]

theorem digitsN_le9 (k n : Nat) : ∀ d ∈ digitsN k n, d ≤ 9 := by
  induction k generalizing n with
  | zero => simp [digitsN]
  | succ k ih =>
    intro d hd
    rcases List.mem_append.mp hd with h | h
    · exact ih _ d h
    · simp at h; omega

theorem ofDigits_digitsN (k n : Nat) : ofDigits (digitsN k n) = n % 10 ^ k := by
  induction k generalizing n with
  | zero => simp [digitsN, ofDigits, Nat.mod_one]
  | succ k ih =>
    rw [digitsN, ofDigits_concat, ih, show 10 ^ (k + 1) = 10 * 10 ^ k by rw [Nat.pow_succ, Nat.mul_comm],
      Nat.mod_mul]
    omega

theorem digitsN_take (k j n : Nat) : (digitsN (k + j) n).take k = digitsN k (n / 10 ^ j) := by
  induction j generalizing n with
  | zero => simp [List.take_of_length_le]
  | succ j ih =>
    rw [← Nat.add_assoc, digitsN, List.take_append_of_le_length (by simp), ih, Nat.pow_succ,
      Nat.mul_comm, Nat.div_div_eq_div_mul]

theorem digitsN_ofDigits (ds : List Nat) (h : ∀ d ∈ ds, d ≤ 9) :
    digitsN ds.length (ofDigits ds) = ds ∧ ofDigits ds < 10 ^ ds.length := by
  rw [← List.reverse_reverse ds] at h ⊢
  generalize ds.reverse = l at h ⊢
  induction l with
  | nil => exact ⟨rfl, by decide⟩
  | cons d l ih =>
    obtain ⟨ih1, ih2⟩ := ih fun x hx => h x (by simp at hx ⊢; exact Or.inl hx)
    have hd : d ≤ 9 := h d (by simp)
    rw [List.reverse_cons, ofDigits_concat, List.length_append, List.length_singleton, digitsN, Nat.pow_succ,
      show (ofDigits l.reverse * 10 + d) / 10 = ofDigits l.reverse by omega,
      show (ofDigits l.reverse * 10 + d) % 10 = d by omega, ih1]
    exact ⟨rfl, by omega⟩

theorem digitsVal_eq (f : Bytes) : digitsVal f = ofDigits (f.map (· - 48)) := by
  simp [digitsVal, ofDigits, List.foldl_map]

theorem map_dch_sub (f : Bytes) (h : f.all isDigit = true) :
    (f.map (· - 48)).map dch = f ∧ ∀ d ∈ f.map (· - 48), d ≤ 9 := by
  induction f with
  | nil => exact ⟨rfl, by simp⟩
  | cons a t ih =>
    simp only [List.all_cons, Bool.and_eq_true] at h
    have ha := (isDigit_iff a).mp h.1
    refine ⟨by simp only [List.map_cons, dch_of_digit a h.1, (ih h.2).1], fun d hd => ?_⟩
    rcases List.mem_cons.mp hd with hd | hd
    · subst hd; show a - 48 ≤ 9; omega
    · exact (ih h.2).2 d hd

theorem sub_map_dch (ds : List Nat) (h : ∀ d ∈ ds, d ≤ 9) : (ds.map dch).map (· - 48) = ds := by
  induction ds with
  | nil => rfl
  | cons d ds ih =>
    have := h d (by simp)
    simp only [List.map_cons, dch_sub, ih fun e he => h e (by simp [he])]
    rw [Nat.mod_eq_of_lt (by omega)]

theorem digitsVal_map_dch (ds : List Nat) (h : ∀ d ∈ ds, d ≤ 9) : digitsVal (ds.map dch) = ofDigits ds := by
  rw [digitsVal_eq, sub_map_dch ds h]

/-- what `_parse_digits` accepts: exactly `width` ASCII digits, value = decimal reading -/
theorem parseDigits_ok_iff (f : Bytes) (w : Nat) (v : Int) (hw : 0 < w) :
    parseDigits f w = .ok v ↔ (f.length = w ∧ f.all isDigit = true ∧ v = (digitsVal f : Nat)) := by
  unfold parseDigits bytesIsDigit
  by_cases hl : f.length = w
  · cases hd : f.all isDigit
    · simp [hl]
    · have : f ≠ [] := by intro e; subst e; simp at hl; omega
      simp only [hl]
      constructor
      · intro h; simp [this] at h; simp [h]
      · intro h; simp [h.2.2, this]
  · simp [hl]

theorem parseDigits_err (f : Bytes) (w : Nat) (e : Py.PyErr) (h : parseDigits f w = .error e) :
    e = .ValueError := by
  unfold parseDigits at h; split at h <;> simp_all

theorem parseDigits_nondigit (f : Bytes) (w : Nat) (h : f.all isDigit = false) :
    parseDigits f w = .error .ValueError := by
  simp [parseDigits, bytesIsDigit, h]

theorem parseDigits_digitsN (k n : Nat) (hk : 0 < k) (hn : n < 10 ^ k) :
    parseDigits ((digitsN k n).map dch) k = .ok (n : Int) := by
  rw [parseDigits_ok_iff _ _ _ hk, digitsVal_map_dch _ (digitsN_le9 k n), ofDigits_digitsN, Nat.mod_eq_of_lt hn]
  simp

theorem parseDigits_inv (f : Bytes) (k : Nat) (v : Int) (hk : 0 < k) (h : parseDigits f k = .ok v) :
    ∃ n : Nat, n < 10 ^ k ∧ v = n ∧ f = (digitsN k n).map dch := by
  obtain ⟨hl, hd, rfl⟩ := (parseDigits_ok_iff _ _ _ hk).mp h
  obtain ⟨e, h9⟩ := map_dch_sub f hd
  obtain ⟨e2, hlt⟩ := digitsN_ofDigits _ h9
  rw [List.length_map, hl] at e2 hlt
  exact ⟨_, by rw [digitsVal_eq]; exact hlt, rfl, by rw [digitsVal_eq, e2, e]⟩

theorem pad1_eq (n : Nat) : pad1 n = (digitsN 1 n).map dch := by simp [pad1, digitsN]
theorem pad2_eq (n : Nat) : pad2 n = (digitsN 2 n).map dch := by simp [pad2, digitsN]
theorem pad3_eq (n : Nat) : pad3 n = (digitsN 3 n).map dch := by simp [pad3, digitsN, Nat.div_div_eq_div_mul]
theorem pad4_eq (n : Nat) : pad4 n = (digitsN 4 n).map dch := by simp [pad4, digitsN, Nat.div_div_eq_div_mul]

theorem parseDigits_1 (n : Nat) (h : n < 10) : parseDigits [dch n] 1 = .ok (n : Int) :=
  (pad1_eq n ▸ parseDigits_digitsN 1 n (by decide) h : parseDigits (pad1 n) 1 = .ok (n : Int))
theorem parseDigits_2 (n : Nat) (h : n < 100) : parseDigits [dch (n / 10), dch n] 2 = .ok (n : Int) :=
  (pad2_eq n ▸ parseDigits_digitsN 2 n (by decide) h : parseDigits (pad2 n) 2 = .ok (n : Int))
theorem parseDigits_3 (n : Nat) (h : n < 1000) :
    parseDigits [dch (n / 100), dch (n / 10), dch n] 3 = .ok (n : Int) :=
  (pad3_eq n ▸ parseDigits_digitsN 3 n (by decide) h : parseDigits (pad3 n) 3 = .ok (n : Int))
theorem parseDigits_4 (n : Nat) (h : n < 10000) :
    parseDigits [dch (n / 1000), dch (n / 100), dch (n / 10), dch n] 4 = .ok (n : Int) :=
  (pad4_eq n ▸ parseDigits_digitsN 4 n (by decide) h : parseDigits (pad4 n) 4 = .ok (n : Int))

theorem parseDigits_inv2 (f : Bytes) (v : Int) (h : parseDigits f 2 = .ok v) :
    ∃ n : Nat, n < 100 ∧ v = n ∧ f = pad2 n := by
  simpa only [pad2_eq] using parseDigits_inv f 2 v (by decide) h

theorem take_digits (l : Bytes) (k : Nat) (v : Int) (hk : 0 < k) (h : parseDigits (l.take k) k = .ok v) :
    ∃ n : Nat, n < 10 ^ k ∧ v = n ∧ l = (digitsN k n).map dch ++ l.drop k := by
  obtain ⟨n, hn, hv, e⟩ := parseDigits_inv _ k v hk h
  exact ⟨n, hn, hv, by rw [← e, List.take_append_drop]⟩

theorem take_digits1 (l : Bytes) (v : Int) (h : parseDigits (l.take 1) 1 = .ok v) :
    ∃ n : Nat, n < 10 ∧ v = n ∧ l = pad1 n ++ l.drop 1 := by
  simpa only [pad1_eq] using take_digits l 1 v (by decide) h
theorem take_digits2 (l : Bytes) (v : Int) (h : parseDigits (l.take 2) 2 = .ok v) :
    ∃ n : Nat, n < 100 ∧ v = n ∧ l = pad2 n ++ l.drop 2 := by
  simpa only [pad2_eq] using take_digits l 2 v (by decide) h
theorem take_digits3 (l : Bytes) (v : Int) (h : parseDigits (l.take 3) 3 = .ok v) :
    ∃ n : Nat, n < 1000 ∧ v = n ∧ l = pad3 n ++ l.drop 3 := by
  simpa only [pad3_eq] using take_digits l 3 v (by decide) h
theorem take_digits4 (l : Bytes) (v : Int) (h : parseDigits (l.take 4) 4 = .ok v) :
    ∃ n : Nat, n < 10000 ∧ v = n ∧ l = pad4 n ++ l.drop 4 := by
  simpa only [pad4_eq] using take_digits l 4 v (by decide) h

theorem take1_eq_cons {r : Bytes} {c : Nat} (h : r.take 1 = [c]) : r = c :: r.drop 1 := by
  cases r with
  | nil => cases h
  | cons a t => cases h; rfl

end Iso
