/-
  Proofs/RDAlgebra.lean — consequences of the carry lemmas: `Gen.fix` on already-bounded fields,
  the shape of `neg`, extensionality of `RD`, normal forms of whole-day durations, equality/hash lemmas.
-/
import DateutilVerif.Proofs.RDFix

namespace RDP
open RDM

theorem rd_ext (a b : RD)
    (h1 : a.years = b.years) (h2 : a.months = b.months) (h3 : a.days = b.days)
    (h4 : a.leapdays = b.leapdays) (h5 : a.hours = b.hours) (h6 : a.minutes = b.minutes)
    (h7 : a.seconds = b.seconds) (h8 : a.microseconds = b.microseconds)
    (h9 : a.year = b.year) (h10 : a.month = b.month) (h11 : a.day = b.day)
    (h12 : a.weekday = b.weekday) (h13 : a.hour = b.hour) (h14 : a.minute = b.minute)
    (h15 : a.second = b.second) (h16 : a.microsecond = b.microsecond)
    (h17 : a.hasTime = b.hasTime) : a = b := by
  cases a; cases b; simp_all

/-- the carried fields are within their units (no statement about `_has_time`) -/
def Bounded (d : RD) : Prop :=
  (-999999 ≤ d.microseconds ∧ d.microseconds ≤ 999999) ∧ (-59 ≤ d.seconds ∧ d.seconds ≤ 59) ∧
  (-59 ≤ d.minutes ∧ d.minutes ≤ 59) ∧ (-23 ≤ d.hours ∧ d.hours ≤ 23) ∧
  (-11 ≤ d.months ∧ d.months ≤ 11)

theorem bounded_of_normalised {d : RD} (h : Normalised d) : Bounded d :=
  ⟨h.1, h.2.1, h.2.2.1, h.2.2.2.1, h.2.2.2.2.1⟩

theorem carries_of_bounded (d : RD) (h : Bounded d) :
    cU d = (d.microseconds, 0) ∧ cS d = (d.seconds, 0) ∧ cM d = (d.minutes, 0) ∧
    cH d = (d.hours, 0) ∧ cMo d = (d.months, 0) := by
  obtain ⟨hu, hs, hm, hh, hmo⟩ := h
  have eU : cU d = (d.microseconds, 0) := carry_small _ _ _ hu
  have eS : cS d = (d.seconds, 0) := by
    unfold cS; rw [eU]; simp only [Int.add_zero]; exact carry_small _ _ _ hs
  have eM : cM d = (d.minutes, 0) := by
    unfold cM; rw [eS]; simp only [Int.add_zero]; exact carry_small _ _ _ hm
  have eH : cH d = (d.hours, 0) := by
    unfold cH; rw [eM]; simp only [Int.add_zero]; exact carry_small _ _ _ hh
  exact ⟨eU, eS, eM, eH, carry_small _ _ _ hmo⟩

/-- `_fix` on bounded fields only recomputes `_has_time` -/
theorem fix_of_bounded (d : RD) (h : Bounded d) : Gen.fix d = { d with hasTime := hasTimeOf d } := by
  obtain ⟨eU, eS, eM, eH, eMo⟩ := carries_of_bounded d h
  rw [fix_eq, eU, eS, eM, eH, eMo]
  simp only [Int.add_zero]
  rfl

theorem fix_of_normalised (d : RD) (h : Normalised d) : Gen.fix d = d := by
  rw [fix_of_bounded d (bounded_of_normalised h)]
  have := h.2.2.2.2.2
  apply rd_ext <;> try rfl
  exact this.symm

/-- `-d` on a normalised value negates the relative fields and nothing else -/
theorem neg_of_normalised (d : RD) (h : Normalised d) :
    neg d = { d with years := -d.years, months := -d.months, days := -d.days, hours := -d.hours,
                     minutes := -d.minutes, seconds := -d.seconds, microseconds := -d.microseconds } := by
  obtain ⟨hu, hs, hm, hh, hmo, ht⟩ := h
  unfold neg
  rw [fix_of_bounded]
  · apply rd_ext <;> try rfl
    show hasTimeOf _ = d.hasTime
    rw [ht]; unfold hasTimeOf; simp only [Int.neg_ne_zero]
  · unfold Bounded; simp only []; omega

/-- a value in normal form whose duration is a whole number of days has no time of day: each bounded field is
    determined by the total modulo its unit -/
theorem noTime_of_whole_days (d : RD) (hn : Normalised d) (n : Int) (h : usTotal d = n * 86400000000) :
    d.hours = 0 ∧ d.minutes = 0 ∧ d.seconds = 0 ∧ d.microseconds = 0 ∧ d.days = n := by
  obtain ⟨h1, h2, h3, h4, _⟩ := hn
  unfold usTotal at h
  have z1 : d.microseconds = 0 := by omega
  rw [z1] at h
  have z2 : d.seconds = 0 := by omega
  rw [z2] at h
  have z3 : d.minutes = 0 := by omega
  rw [z3] at h
  have z4 : d.hours = 0 := by omega
  exact ⟨z4, z3, z2, z1, by omega⟩

theorem nTrivial_orInt (n : Option Int) (h : nTrivial n = true) : orInt n 1 = 1 := by
  unfold nTrivial at h; unfold orInt
  cases n with
  | none => rfl
  | some v => simp at h; rcases h with rfl | rfl <;> simp

end RDP
