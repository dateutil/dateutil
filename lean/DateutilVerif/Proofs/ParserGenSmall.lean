/-
  Proofs/ParserGenSmall.lean — the `parserinfo` lookups / `validate` and the small methods of `parser` re-translated from
  /repo's parser/_parser.py on every run (Generated/ParserOps.lean) are EQUAL to the functions of the hand model
  (Model/Parser.lean) the C02 / C14 / C15 theorems are stated about.
-/
import DateutilVerif.Proofs.ParserGenYmd

namespace PGen
open PM Py

theorem info_jump_eq (i : Info) (t : Token) : Gen.P.info_jump i t = .ok (i.isJump t) := rfl
theorem info_pertain_eq (i : Info) (t : Token) : Gen.P.info_pertain i t = .ok (i.isPertain t) := rfl
theorem info_utczone_eq (i : Info) (t : Token) : Gen.P.info_utczone i t = .ok (i.isUtczone t) := rfl

theorem info_weekday_eq (i : Info) (t : Token) : Gen.P.info_weekday i t = .ok (i.weekdayOf t) := by
  unfold Gen.P.info_weekday PM.Info.weekdayOf
  cases lookupLast i.weekdays (lower t) <;> rfl

theorem info_month_eq (i : Info) (t : Token) : Gen.P.info_month i t = .ok (i.monthOf t) := by
  unfold Gen.P.info_month PM.Info.monthOf
  cases lookupLast i.months (lower t) <;> rfl

theorem info_hms_eq (i : Info) (t : Token) : Gen.P.info_hms i t = .ok (i.hmsOf t) := by
  unfold Gen.P.info_hms PM.Info.hmsOf
  cases lookupLast i.hms (lower t) <;> rfl

theorem info_ampm_eq (i : Info) (t : Token) : Gen.P.info_ampm i t = .ok (i.ampmOf t) := by
  unfold Gen.P.info_ampm PM.Info.ampmOf
  cases lookupLast i.ampm (lower t) <;> rfl

theorem info_tzoffset_eq (i : Info) (t : Token) : Gen.P.info_tzoffset i t = .ok (i.tzoffsetOf t) := by
  unfold Gen.P.info_tzoffset PM.Info.tzoffsetOf
  split <;> rfl

/-- with a century of at least 100 (`_century = _year // 100 * 100` of any year from 100 on) `convertyear` of a
    non-negative year is non-negative -/
theorem convertyear_nonneg (c y : Int) (n : Nat) (cs : Bool) (r : Int) (hc : 100 ≤ c)
    (h : Gen.convertyear ⟨c, y⟩ (n : Int) cs = .ok r) : 0 ≤ r := by
  unfold Gen.convertyear at h
  simp only [] at h
  split at h
  · cases h
  · injection h with h
    subst h
    split
    · split
      · omega
      · split <;> omega
    · omega

theorem natOfInt_toNat (r : Int) (h : 0 ≤ r) : PPy.natOfInt r = .ok r.toNat := by
  unfold PPy.natOfInt; simp; omega

/-- the time-zone part of the translated `validate` (everything after the year conversion) -/
def validateTz (self : Info) (res : Res) : R Res :=
    Except.bind (if (((res.tzoffset = (some (0 : Int))) ∧ (¬ (PM.nameTruthy res.tzname = true))) ∨ ((res.tzname = (some (PM.tk "Z"))) ∨ (res.tzname = (some (PM.tk "z"))))) then
      let res := { res with tzname := (some (PM.tk "UTC")) }
      let res := { res with tzoffset := (some (0 : Int)) }
      .ok res
      else
      Except.bind ((if (¬ (res.tzoffset = (some (0 : Int)))) then
          (if (PM.nameTruthy res.tzname = true) then
            Except.bind (PPy.optTok res.tzname) (fun s_5 =>
              Except.bind (Gen.P.info_utczone self s_5) (fun q_6 =>
                .ok (decide (q_6 = true))))
            else .ok false)
          else .ok false)) (fun b_7 =>
        Except.bind (if (b_7 = true) then
          let res := { res with tzoffset := (some (0 : Int)) }
          .ok res
          else
          .ok res) (fun j_8 =>
          let res := j_8
          .ok res))) (fun j_9 =>
      let res := j_9
      .ok res)

theorem validateTz_eq (i : Info) (res : Res) :
    validateTz i res =
      (let noName := res.tzname.isNone || res.tzname == some []
       if (res.tzoffset == some 0 && noName) || res.tzname == some ['Z'] || res.tzname == some ['z'] then
         pure { res with tzname := some (tk "UTC"), tzoffset := some 0 }
       else if res.tzoffset != some 0 && !noName && res.tzname.any i.isUtczone then
         pure { res with tzoffset := some 0 }
       else pure res) := by
  unfold validateTz
  rcases res with ⟨y, mo, d, wd, h, mi, s, us, tzn, tzo, ap, cs⟩
  cases tzn with
  | none =>
    simp [PM.nameTruthy, bind_ok, bind_ite, pure_eq, PM.tk]
  | some t =>
    cases t with
    | nil =>
      simp [PM.nameTruthy, bind_ok, bind_ite, pure_eq, PM.tk]
    | cons a r =>
      simp [PM.nameTruthy, bind_ok, bind_ite, pure_eq, PM.tk, PPy.optTok, info_utczone_eq]
      repeat' split
      all_goals simp_all

/-- `parserinfo.validate` = `PM.validate`, for every parserinfo whose `_century` is at least 100
    (below that `convertyear` can return a negative year, which the model clamps to 0) -/
theorem validate_eq (i : Info) (res : Res) (hc : 100 ≤ i.century) :
    Gen.P.info_validate i res = PM.validate i res := by
  unfold Gen.P.info_validate
  change Except.bind _ (fun j => validateTz i j) = _
  unfold PM.validate
  cases hy : res.year with
  | none =>
    simp [bind_ok, validateTz_eq, bind_eq, pure_eq]
  | some y =>
    simp only [PPy.optNat, bind_ok, ne_eq, reduceCtorEq, not_false_eq_true, if_true]
    cases hcv : Gen.convertyear ⟨i.century, i.year⟩ (y : Int) res.centurySpecified with
    | error e => simp [bind_err, bind_eq]
    | ok r =>
      have hr := convertyear_nonneg _ _ _ _ _ hc hcv
      simp [natOfInt_toNat _ hr, bind_ok, validateTz_eq, bind_eq, pure_eq]

/-- `parser._could_be_tzname` = `PM.couldBeTzname` -/
theorem couldBeTzname_eq (i : Info) (hour : Option Nat) (tzname : Option Token) (tzoffset : Option Int) (t : Token) :
    Gen.P.couldBeTzname i hour tzname tzoffset t = .ok (PM.couldBeTzname i hour tzname tzoffset t) := by
  unfold Gen.P.couldBeTzname PM.couldBeTzname
  have hall : decide (∀ (x : Char), x ∈ t → isAsciiUpper x = true) = List.all t isAsciiUpper := by
    rw [Bool.eq_iff_iff]; simp
  cases hour <;> cases tzname <;> cases tzoffset <;> simp [hall]

/-- `parser._ampm_valid`: True exactly where the model's `ampmValid` hands back the hour, the same
    ValueErrors -/
theorem ampmValid_eq (i : Info) (hour ampm : Option Nat) (fuzzy : Bool) :
    Gen.P.ampmValid i hour ampm fuzzy = (PM.ampmValid hour ampm fuzzy).map Option.isSome := by
  unfold Gen.P.ampmValid PM.ampmValid
  cases hour with
  | none => cases fuzzy <;> cases ampm <;> simp [bind_ok, bind_err, Except.map]
  | some h =>
    have h12' : (12 < h) = ¬ (h ≤ 12) := by simp
    by_cases h12 : h ≤ 12 <;> cases fuzzy <;> cases ampm <;>
      simp [bind_ok, bind_err, Except.map, PPy.optNat, h12, h12']

/-- `parser._to_decimal` = `PM.toDecimal` -/
theorem toDecimal_eq (cls : Char → CClass) (i : Info) (t : Token) :
    Gen.P.toDecimal cls i t = PM.toDecimal cls t := by
  unfold Gen.P.toDecimal PM.toDecimal PPy.decimalCtor
  cases numForm cls t with
  | some d => simp [bind_ok, PPy.DecimalV.isFinite, PPy.decFinite]
  | none =>
    simp only []
    by_cases hw : (List.map Char.toLower t == tk "inf" || List.map Char.toLower t == tk "infinity" ||
                List.map Char.toLower t == tk "nan" || List.map Char.toLower t == tk "snan") = true
    · simp only [hw, if_true, bind_ok, PPy.DecimalV.isFinite]; rfl
    · simp only [hw]; rfl

/-- `parser._parse_min_sec` = `PM.parseMinSec` -/
theorem parseMinSec_eq (i : Info) (v : Dec) : Gen.P.parseMinSec i v = PM.parseMinSec v := by
  unfold Gen.P.parseMinSec PM.parseMinSec
  cases hr : v.rem1 with
  | error e => simp [bind_err, bind_eq]
  | ok r => cases hz : r.isZero <;> simp [bind_ok, bind_eq, pure_eq, hz]

theorem splitFirst_dot (t : List Char) : PPy.splitFirst '.' t = PM.splitDot t := by
  induction t with
  | nil => rfl
  | cons c cs ih =>
    unfold PPy.splitFirst PM.splitDot
    rw [ih]

/-- `parser._parsems` = `PM.parsems` -/
theorem parsems_eq (cls : Char → CClass) (i : Info) (v : Token) : Gen.P.parsems cls i v = PM.parsems cls v := by
  unfold Gen.P.parsems PM.parsems PPy.split2
  rw [splitFirst_dot]
  cases hc : v.contains '.'
  · simp [bind_eq, pure_eq]
  · simp only [Bool.not_true, Bool.false_eq_true, if_false, not_true_eq_false]
    rcases hs : PM.splitDot v with ⟨a, _ | f⟩
    · simp [bind_err]
    · simp only []
      cases hf : f.contains '.'
      · simp only [Bool.false_eq_true, if_false, bind_ok, PPy.ljust, PM.sl, List.drop_zero, Nat.sub_zero]
        cases PM.pyInt cls a with
        | error e => rfl
        | ok x =>
          cases h2 : PM.pyInt cls (List.take 6 (f ++ List.replicate (6 - f.length) '0')) <;>
            simp [bind_ok, bind_err, bind_eq, pure_eq]
      · simp [bind_err]

/-- `parser._assign_hms` = `PM.assignHms` -/
theorem assignHms_eq (cls : Char → CClass) (i : Info) (res : Res) (t : Token) (hms : Nat) :
    Gen.P.assignHms cls i res t hms = PM.assignHms cls res t hms := by
  unfold Gen.P.assignHms PM.assignHms
  rw [toDecimal_eq]
  cases hv : PM.toDecimal cls t with
  | error e => simp [bind_err, bind_eq]
  | ok v =>
    simp only [bind_ok, bind_eq, pure_eq, parseMinSec_eq, parsems_eq]
    rcases hms with _ | _ | _ | n
    · simp only [if_true]
      cases hr : v.rem1 with
      | error e => simp [bind_err]
      | ok r => cases hz : r.isZero <;> simp [bind_ok, hz]
    · simp
      cases PM.parseMinSec v with
      | error e => simp [bind_err]
      | ok p => rcases p with ⟨m, s⟩; simp [bind_ok]
    · simp
      cases PM.parsems cls t with
      | error e => simp [bind_err]
      | ok p => rcases p with ⟨m, s⟩; simp [bind_ok]
    · simp [bind_ok]

end PGen
