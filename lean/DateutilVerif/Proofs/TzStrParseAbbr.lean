/-
  Proofs/TzStrParseAbbr.lean — the abbreviation / offset loop of `_tzparser.parse` on
  `STD offset DST [offset] , …`.
-/
import DateutilVerif.Proofs.TzStrParseRule

namespace TzStr

theorem isEmpty_false_of (s : String) (h : s.toList ≠ []) : s.isEmpty = false := by
  cases hh : s.isEmpty with
  | false => rfl
  | true =>
      exfalso; apply h
      have : s = "" := by simpa using hh
      rw [this]; rfl

theorem drop_pre {α} (a b : List α) : (a ++ b).drop a.length = b := by
  induction a with
  | nil => rfl
  | cons x t ih => simpa using ih

/-- the abbreviation scan stops right after a letter token that is followed by a token with an
    offset character -/
theorem skipAbbr_one (L pre : List String) (a t : String) (tl : List String) (hL : L = pre ++ (a :: t :: tl))
    (ha : IsAlpha a) (ht : hasOffsetChar t = true) : skipAbbr L pre.length = pre.length + 1 := by
  unfold skipAbbr
  rw [hL, drop_pre]
  simp [List.takeWhile, alpha_isLetters a ha, offsetChar_not_letters t ht]

theorem join_take_one (L pre : List String) (a : String) (tl : List String) (hL : L = pre ++ (a :: tl)) :
    String.join ((L.drop pre.length).take (pre.length + 1 - pre.length)) = a := by
  rw [hL, drop_pre]
  have : pre.length + 1 - pre.length = 1 := by omega
  rw [this]; simp [String.join]

/-- head token of an offset's token list: a sign or a digit token -/
theorem off_head (o : Off) (h : o.sp.Ok) : ∃ t tl, toksOf o.chunks = t :: tl ∧ hasOffsetChar t = true ∧
    ((t == "+" || t == "-" || firstIsDigit t) = true) := by
  obtain ⟨sign, sp⟩ := o
  cases sign with
  | some b =>
      cases b
      · exact ⟨"-", toksOf sp.chunks, rfl, by decide, by decide⟩
      · exact ⟨"+", toksOf sp.chunks, rfl, by decide, by decide⟩
  | none =>
      cases sp with
      | h n =>
          have hd := digTok_of n.tok (n.isDig h.1)
          exact ⟨n.tok, [], by simp [Off.chunks, signChunks, OffSp.chunks, numC, toksOf], hd.hasOff, by simp [hd.first]⟩
      | hhmm t a b =>
          have hd := digTok_of t h.1
          exact ⟨t, [], by simp [Off.chunks, signChunks, OffSp.chunks, toksOf], hd.hasOff, by simp [hd.first]⟩
      | colon a b =>
          have hd := digTok_of a.tok (a.isDig h.1)
          exact ⟨a.tok, [":", b.tok], by simp [Off.chunks, signChunks, OffSp.chunks, numC, pC, toksOf], hd.hasOff, by simp [hd.first]⟩

/-- one turn of the abbreviation loop on `… abbr offset? …` -/
theorem abbrLoop_turn (l : Array String) (fuel : Nat) (st : St) (pre : List String) (a t : String) (tl : List String)
    (hl : l.toList = pre ++ (a :: t :: tl)) (hi : st.i = pre.length) (ha : IsAlpha a)
    (ht : hasOffsetChar t = true) :
    abbrLoop l (fuel + 1) st =
      (let isStd := match st.res.stdabbr with | none => true | some s => s.isEmpty
       let res := if isStd then { st.res with stdabbr := some a } else { st.res with dstabbr := some a }
       let st1 : St := { st with res := res, used := st.used ++ List.range (pre.length + 1), i := pre.length + 1 }
       let step : P St :=
         if t == "+" || t == "-" || firstIsDigit t then do
           let (v, st') ← parseOffset l st1
           let res := if isStd then { st'.res with stdoffset := some v } else { st'.res with dstoffset := some v }
           pure { st' with res := res }
         else pure st1
       match step with
       | none => none
       | some st =>
         let dstSet := match st.res.dstabbr with | none => false | some s => !s.isEmpty
         if dstSet then some st else abbrLoop l fuel st) := by
  have hs := size_at hl
  have g1 := get_at hl 1
  simp only [List.getElem?_cons_zero, List.getElem?_cons_succ, List.length_cons] at g1 hs
  rw [abbrLoop]
  have hlt : pre.length < l.size := by omega
  have hj := skipAbbr_one l.toList pre a t tl hl ha ht
  have hjoin := join_take_one l.toList pre a (t :: tl) hl
  simp only [hi, hlt, if_true, hj, hjoin, g1]
  have : (pre.length + 1 != pre.length) = true := by simp
  simp only [this, if_true]
  rfl

theorem cov_range (l : Array String) (st : St) (n : Nat) (res : Res) :
    Cov l { st with res := res, used := st.used ++ List.range n, i := n } := by
  intro k hk _
  left; simp at hk ⊢; right; exact hk

/-- the first turn of the loop: `STD offset`, followed by anything but ":" (which would continue the offset) -/
theorem abbrLoop_std (std : String) (so : Off) (hstd : IsAlpha std) (hso : so.sp.Ok) (l : Array String)
    (rest : List String) (hcolon : rest.head? ≠ some ":") (hl : l.toList = std :: (toksOf so.chunks ++ rest)) (fuel : Nat) :
    ∃ st, abbrLoop l (fuel + 1) {} = abbrLoop l fuel st ∧ st.i = 1 + (toksOf so.chunks).length ∧
      st.res = { stdabbr := some std, stdoffset := some so.val } ∧ Cov l st := by
  obtain ⟨t1, tl1, e1, ho1, hc1⟩ := off_head so hso
  have hl1 : l.toList = [] ++ (std :: t1 :: (tl1 ++ rest)) := by rw [hl, e1]; simp
  have hl1' : l.toList = [std] ++ (toksOf so.chunks ++ rest) := by rw [hl]; simp
  obtain ⟨st2, p1, p2, p3, p4⟩ := parseOffset_spec so l [std] _
    { res := { stdabbr := some std }, used := [] ++ List.range (0 + 1), i := 0 + 1 } hl1' rfl hso hcolon
    (cov_range l {} 1 _)
  refine ⟨{ st2 with res := { stdabbr := some std, stdoffset := some so.val } }, ?_, by simp [p2], rfl, p4⟩
  rw [abbrLoop_turn l fuel {} [] std t1 _ hl1 rfl hstd ho1]
  simp only [hc1, if_true, bind, Option.bind, p1, pure, List.length_nil]
  simp only [p3, Bool.false_eq_true, if_false]

/-- the loop on `STD offset DST [offset]` followed by `rest`: a "," when the daylight offset is absent (the parser looks one
    token ahead), otherwise anything but ":", the end of the tokens included -/
theorem abbrLoop_spec (std dst : String) (so : Off) (dof : Option Off) (hstd : IsAlpha std) (hdst : IsAlpha dst)
    (hso : so.sp.Ok) (hdof : optOk (fun o : Off => o.sp.Ok) dof) (l : Array String) (rest : List String)
    (hnone : dof = none → ∃ r, rest = "," :: r) (hcolon : rest.head? ≠ some ":")
    (hl : l.toList = std :: (toksOf so.chunks ++ (dst :: (toksOf (optOffChunks dof) ++ rest)))) :
    ∃ st, abbrLoop l 3 {} = some st ∧
      st.i = 1 + (toksOf so.chunks).length + 1 + (toksOf (optOffChunks dof)).length ∧
      st.res = { stdabbr := some std, stdoffset := some so.val, dstabbr := some dst, dstoffset := dof.map Off.val } ∧
      Cov l st := by
  have hstdne := isEmpty_false_of std hstd.1
  have hdstne := isEmpty_false_of dst hdst.1
  have hdst_colon : (dst :: (toksOf (optOffChunks dof) ++ rest)).head? ≠ some ":" := by
    simp only [List.head?_cons, ne_eq, Option.some.injEq]
    intro e
    have := ne_lit dst ":" .alpha hdst.2 ':' (by decide) (by decide)
    rw [e] at this; simp at this
  obtain ⟨st2, turn1, hi2', hres2, hcov2⟩ := abbrLoop_std std so hstd hso l _ hdst_colon hl 2
  -- second turn: the daylight abbreviation and its optional offset
  have htail : ∃ t2 tl2, toksOf (optOffChunks dof) ++ rest = t2 :: tl2 ∧ hasOffsetChar t2 = true := by
    cases hd : dof with
    | none =>
        obtain ⟨r, hr⟩ := hnone hd
        exact ⟨",", r, by rw [hr]; rfl, by decide⟩
    | some o =>
        have hok : o.sp.Ok := by have := hdof; rw [hd] at this; exact this
        obtain ⟨t, tl, e, h1, _⟩ := off_head o hok
        exact ⟨t, tl ++ rest, by simp [optOffChunks, e], h1⟩
  obtain ⟨t2, tl2, e2, ho2⟩ := htail
  have hl2 : l.toList = (std :: toksOf so.chunks) ++ (dst :: t2 :: tl2) := by
    rw [hl, ← e2]; simp
  have hi2 : st2.i = (std :: toksOf so.chunks).length := by rw [hi2']; simp; omega
  rw [turn1, abbrLoop_turn l 1 st2 (std :: toksOf so.chunks) dst t2 tl2 hl2 hi2 hdst ho2]
  simp only [hres2, hstdne, Bool.false_eq_true, if_false]
  cases hd : dof with
  | none =>
      obtain ⟨r, hr⟩ := hnone hd
      have et : t2 = "," := by
        rw [hd, hr] at e2; simp [optOffChunks, toksOf] at e2; exact e2.1.symm
      have hno : (t2 == "+" || t2 == "-" || firstIsDigit t2) = false := by rw [et]; decide
      simp only [hno, Bool.false_eq_true, if_false, pure, hdstne, Bool.not_false, if_true]
      refine ⟨_, rfl, by simp [optOffChunks, toksOf]; omega, by simp, ?_⟩
      exact cov_range l st2 _ _
  | some o =>
      have hok : o.sp.Ok := by have := hdof; rw [hd] at this; exact this
      obtain ⟨t, tl, e, _, hcnd⟩ := off_head o hok
      have et : t2 = t := by
        rw [hd] at e2; simp [optOffChunks, e] at e2; exact e2.1.symm
      have hl3 : l.toList = (std :: (toksOf so.chunks ++ [dst])) ++ (toksOf o.chunks ++ rest) := by
        rw [hl, hd]; simp [optOffChunks]
      obtain ⟨st3, q1, q2, q3, q4⟩ := parseOffset_spec o l (std :: (toksOf so.chunks ++ [dst])) rest
        { st2 with res := { stdabbr := some std, stdoffset := some so.val, dstabbr := some dst },
                   used := st2.used ++ List.range ((std :: toksOf so.chunks).length + 1),
                   i := (std :: toksOf so.chunks).length + 1 }
        hl3 (by simp) hok hcolon (cov_range l st2 _ _)
      rw [et]
      simp only [hcnd, if_true, bind, Option.bind, q1, pure, q3, hdstne, Bool.not_false]
      refine ⟨_, rfl, by simp [q2, optOffChunks]; omega, by simp, ?_⟩
      intro k hk hs
      exact q4 k hk hs

end TzStr
