/-
  Proofs/LexerBound.lean — the lexer never produces more characters than it read (for C14):
  every input character ends up in at most one token, NULs are dropped, nothing is duplicated.
-/
import DateutilVerif.Model.Lexer

namespace PM

def totalLen (l : List Token) : Nat := (l.map List.length).sum

theorem totalLen_append (a b : List Token) : totalLen (a ++ b) = totalLen a + totalLen b := by
  simp [totalLen, List.sum_append]

theorem splitDecimal_total (t : List Char) : totalLen (splitDecimal t) = t.length := by
  induction t with
  | nil => rfl
  | cons c cs ih =>
    unfold splitDecimal
    split
    · simp only [totalLen, List.map_cons, List.sum_cons, List.length_nil, List.length_cons] at ih ⊢; omega
    · split
      · rename_i h; rw [h] at ih
        have : cs.length = 0 := by simpa [totalLen] using ih.symm
        simp [totalLen, this]
      · rename_i p ps h; rw [h] at ih
        simp only [totalLen, List.map_cons, List.sum_cons, List.length_cons] at ih ⊢; omega

theorem totalLen_filter_nonempty (l : List Token) : totalLen (l.filter (fun t => !t.isEmpty)) = totalLen l := by
  induction l with
  | nil => rfl
  | cons a r ih =>
    cases a with
    | nil => simp [totalLen] at ih ⊢; exact ih
    | cons x xs => simp [totalLen] at ih ⊢; omega

theorem resplit_total (t : List Char) : totalLen (resplit t) = t.length := by
  unfold resplit
  have h := splitDecimal_total t
  split
  · rename_i he; rw [he] at h; simp [totalLen] at h ⊢; omega
  · rename_i t0 rest he
    rw [he] at h
    have hf := totalLen_filter_nonempty rest
    simp [totalLen] at h hf ⊢
    omega

/-- what `get_token` emits for a finished token is exactly its characters -/
theorem emit_total (st : LexSt) : totalLen (emit st) = st.tok.length := by
  unfold emit
  split
  · simpa using resplit_total st.tok.reverse
  · split <;> simp [totalLen]

theorem start_total (cls : Char → CClass) (c : Char) :
    totalLen (start cls c).1 + (start cls c).2.tok.length = 1 := by
  unfold start
  split
  · rfl
  · split
    · rfl
    · split <;> rfl

/-- one machine step: output + pending token grow by at most the one character read -/
theorem step_total (cls : Char → CClass) (st : LexSt) (c : Char) :
    totalLen (step cls st c).1 + (step cls st c).2.tok.length ≤ st.tok.length + 1 := by
  have hpb : ∀ s : LexSt, s.tok = st.tok → totalLen (pushBack cls s c).1 + (pushBack cls s c).2.tok.length ≤ st.tok.length + 1 := by
    intro s hs
    unfold pushBack
    have h1 := emit_total s
    have h2 := start_total cls c
    simp only [totalLen_append]
    rw [hs] at h1
    omega
  unfold step
  split
  · simp [totalLen]
  · split
    · have := start_total cls c; omega
    · dsimp only
      split
      · simp [totalLen]
      · split
        · simp [totalLen]
        · exact hpb _ rfl
    · split
      · simp [totalLen]
      · split
        · simp [totalLen]
        · exact hpb _ rfl
    · dsimp only
      split
      · simp [totalLen]
      · split
        · simp [totalLen]
        · exact hpb _ rfl
    · split
      · simp [totalLen]
      · split
        · simp [totalLen]
        · exact hpb _ rfl

theorem flush_total (st : LexSt) : totalLen (flush st) ≤ st.tok.length := by
  unfold flush
  split
  · simp [totalLen]
  · rw [emit_total]; exact Nat.le_refl _

theorem scan_total (cls : Char → CClass) : ∀ (cs : List Char) (st : LexSt),
    totalLen (scan cls st cs) ≤ st.tok.length + cs.length := by
  intro cs
  induction cs with
  | nil => intro st; simpa [scan] using flush_total st
  | cons c cs ih =>
    intro st
    simp only [scan, totalLen_append, List.length_cons]
    have h1 := step_total cls st c
    have h2 := ih (step cls st c).2
    omega

/-- the tokens of `_timelex.split(s)` contain at most `len(s)` characters in total
    (so at most `len(s)` non-empty tokens): the lexer is linear in its input -/
theorem lex_total_length (cls : Char → CClass) (s : List Char) : totalLen (lex cls s) ≤ s.length := by
  have := scan_total cls s .init
  simpa [lex, LexSt.init] using this

end PM
