/-
  Proofs/RRuleStrOrder.lean — the order of the `;`-separated parts of an RRULE value does not matter
  when no two parts set the same keyword argument (C13).
-/
import DateutilVerif.Proofs.RRuleStrDispatch

namespace RRuleStr
open ICal (isSpace upper splitOnChar pyInt rstrip strip isDigit splitLines)

variable {po : ParseOpts}

/-- the assignment one `NAME=VALUE` pair makes, independent of the state -/
def stepU (po : ParseOpts) (pair : List Char) : Py.R Update :=
  match splitOnChar '=' pair with
  | [name, value] =>
    match handleU po (upper name) (upper value) with
    | .ok u => .ok u
    | .error _ => .error .ValueError
  | _ => .error .ValueError

theorem stepPair_eq (a : RArgs) (pair : List Char) :
    stepPair po a pair = (match stepU po pair with | .ok u => .ok (u.apply a) | .error _ => .error .ValueError) := by
  unfold stepPair stepU handle
  generalize splitOnChar '=' pair = l
  rcases l with _ | ⟨n, _ | ⟨v, _ | ⟨w, r⟩⟩⟩
  · rfl
  · rfl
  · simp only []
    cases handleU po (upper n) (upper v) <;> rfl
  · rfl

theorem apply_comm (u v : Update) (a : RArgs) (h : u.field ≠ v.field) : u.apply (v.apply a) = v.apply (u.apply a) := by
  cases u <;> cases v <;> first | rfl | exact absurd rfl h

/-- close one branch of `handleU_field`: the handler either failed or made the assignment of that branch -/
macro "fin_handle " h:ident : tactic => `(tactic|
  first
    | (cases $h:ident; rfl)
    | (try simp only [bind, Except.bind] at $h:ident
       split at $h:ident <;> first | (cases $h:ident; done) | (cases $h:ident; rfl)))

/-- the keyword a `NAME=VALUE` part sets, judged by its name alone (`none`: not a pair, or an unknown name) -/
def partField (pair : List Char) : Option Field :=
  match splitOnChar '=' pair with
  | [name, _] => fieldOfName (upper name)
  | _ => none

theorem stepU_field {p : List Char} {u : Update} (h : stepU po p = .ok u) : partField p = some u.field := by
  unfold stepU at h; unfold partField
  generalize splitOnChar '=' p = l at h ⊢
  rcases l with _ | ⟨n, _ | ⟨v, _ | ⟨w, r⟩⟩⟩
  · cases h
  · cases h
  · simp only [] at h ⊢
    cases hh : handleU po (upper n) (upper v) with
    | error e => rw [hh] at h; cases h
    | ok u' => rw [hh] at h; cases h; exact handleU_field hh
  · cases h

/-- two parts do not set the same keyword -/
def Distinct (p q : List Char) : Prop := ∀ f, partField p = some f → partField q ≠ some f

instance (p q : List Char) : Decidable (Distinct p q) :=
  match h : partField p with
  | none => isTrue (fun f hf => by rw [h] at hf; cases hf)
  | some f =>
    if hq : partField q = some f then isFalse (fun hd => hd f h hq)
    else isTrue (fun g hg => by rw [h] at hg; cases hg; exact hq)

theorem Distinct.symm {p q : List Char} (h : Distinct p q) : Distinct q p :=
  fun f hq hp => h f hp hq

theorem stepPair_swap (a : RArgs) (x y : List Char) (h : Distinct x y) :
    (stepPair po a x >>= fun a' => stepPair po a' y) = (stepPair po a y >>= fun a' => stepPair po a' x) := by
  simp only [stepPair_eq]
  cases hx : stepU po x with
  | error e =>
    cases hy : stepU po y with
    | error e' => rfl
    | ok v => simp only [bind, Except.bind]
  | ok u =>
    cases hy : stepU po y with
    | error e' => simp only [bind, Except.bind]
    | ok v =>
      simp only [bind, Except.bind]
      have hne : u.field ≠ v.field := fun e => h _ (stepU_field hx) (by rw [e]; exact stepU_field hy)
      rw [apply_comm v u a hne.symm]

/-- `parts_order_irrelevant`: the loop of `_parse_rfc_rrule` over any permutation of parts that set pairwise different
    keywords ends in the same state — the same arguments when every part parses, ValueError in every order otherwise -/
theorem foldlM_stepPair_perm {ps qs : List (List Char)} (hperm : ps.Perm qs) (hd : ps.Pairwise Distinct) (a : RArgs) :
    ps.foldlM (stepPair po) a = qs.foldlM (stepPair po) a := by
  induction hperm generalizing a with
  | nil => rfl
  | cons x _ ih =>
    rw [List.foldlM_cons, List.foldlM_cons]
    cases stepPair po a x with
    | error e => rfl
    | ok a' => exact ih (List.pairwise_cons.mp hd).2 a'
  | swap x y l =>
    have hxy : Distinct y x := (List.pairwise_cons.mp hd).1 x (by simp)
    simp only [List.foldlM_cons]
    rw [← bind_assoc, ← bind_assoc, stepPair_swap a y x hxy]
  | trans h1 _ ih1 ih2 =>
    rw [ih1 hd a]
    exact ih2 ((h1.pairwise_iff (fun h => Distinct.symm h)).mp hd) a

end RRuleStr
