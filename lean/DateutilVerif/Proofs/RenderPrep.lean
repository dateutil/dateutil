/-
  Proofs/RenderPrep.lean — lexing of the pieces specific to the templates (a day number, `D, `, dotted dates, single letters,
  what ends a word or a number), the month and weekday words of a valid date as the scan sees them, and small facts about
  year conversion and the 12-hour clock.
-/
import DateutilVerif.Proofs.RenderSchema
import DateutilVerif.Spec.ParserTemplatesGen
import DateutilVerif.Proofs.LexDot3

namespace PM
open Py PT

@[simp] theorem convertyear_ge100 (pi : Gen.PInfoYear) (y : Int) (h : 100 ≤ y) (cs : Bool) :
    Gen.convertyear pi y cs = .ok y := by
  unfold Gen.convertyear
  have hge : ¬ ¬ (y ≥ 0) := by omega
  have hlt : ¬ (y < 100) := by omega
  simp [hge, hlt]

def date8 (y m d : Nat) : List Nat := [y / 1000, y / 100, y / 10, y, m / 10, m, d / 10, d]

/-- `_adjust_ampm` inverts the 12-hour spelling (from the translated kernel, all 24 hours) -/
theorem adjustAmpm_h12 (h : Nat) (hh : h < 24) : adjustAmpm (h12 h) (if h < 12 then 0 else 1) = h := by
  unfold adjustAmpm Gen.adjustAmpm h12
  dsimp only
  by_cases h12' : h < 12 <;> by_cases hz : h % 12 = 0 <;> simp [h12', hz] <;> omega

theorem digs_dtok (ks : List Nat) : digs ks = dtok ks := rfl
theorem dateDigits8_eq (y m d : Nat) : dateDigits8 y m d = date8 y m d := rfl
theorem weekday_lt7 (t : DT) : t.weekday.toNat < 7 := by
  have := Cal.weekdayOfOrd_range t.ordinal
  unfold DT.weekday; omega

@[simp] theorem convertyear_true (pi : Gen.PInfoYear) (y : Int) (h : 0 ≤ y) : Gen.convertyear pi y true = .ok y := by
  unfold Gen.convertyear
  have hge : ¬ ¬ (y ≥ 0) := by omega
  simp [hge]

@[simp] theorem dval_pad6 (n : Nat) (h : n < 1000000) : dval [n / 100000, n / 10000, n / 1000, n / 100, n / 10, n] = n := by
  simp [dval, dvalAcc]; omega

section
variable (cls : Char → CClass) [AsciiOK cls]
theorem numEnds_sp (r : List Char) : NumEnds cls (' ' :: r) := numEnds_ascii cls _ _ (by decide)
theorem wordEnds_sp (r : List Char) : WordEnds cls (' ' :: r) := wordEnds_ascii cls _ _ (by decide)

theorem lex_dec12' (d : Nat) (rest : List Char) (he : NumEnds cls rest) :
    scan cls .init (dec12 d ++ rest) = dayTok d :: scan cls .init rest := by
  unfold dec12 dayTok
  split
  · exact lex_dtok cls d [] rest he
  · exact lex_pad2 cls d rest he

/-- a day number directly followed by `, ` (`Month D, YYYY`): one digit — the comma ends the number at once; two digits — the comma
    is first taken into the number and split off again -/
theorem lex_dec12_comma_sp (d : Nat) (r : List Char) :
    scan cls .init (dec12 d ++ (',' :: (' ' :: r))) = dayTok d :: [','] :: scan cls .init (' ' :: r) := by
  have hcomma : cls ',' = .other := cls_other cls ',' (by decide)
  have hcn : (cls ',').isNum = false := by rw [hcomma]; rfl
  have hsp : cls ' ' = .space := cls_space cls ' ' (by decide)
  unfold dec12 dayTok
  split
  · exact lex_num1_comma cls (digitChar d) (' ' :: r) (drun_dtok cls [d]) hcomma
  · have := lex_num_comma cls (digitChar (d / 10)) [digitChar d] ' ' r
      (drun_dtok cls [d / 10, d]) (by simp) hcn (by decide) (by rw [hsp]; rfl) (by decide) (by rw [hsp]; rfl)
    simpa [pad2, dtok] using this

theorem fracEnds_of_numEnds (rest : List Char) (h : NumEnds cls rest) : FracEnds cls rest := by
  cases rest with
  | nil => trivial
  | cons c r => exact ⟨h.1, h.2.1, h.2.2.1⟩

/-- `DD.MM.YYYY`: one token to the state machine, five after the `[.,]` re-split -/
theorem lex_dot3_224 (a b c : Nat) (rest : List Char) (he : FracEnds cls rest) :
    scan cls .init (pad2 a ++ ('.' :: (pad2 b ++ ('.' :: (pad4 c ++ rest))))) =
      dtok [a / 10, a] :: ['.'] :: dtok [b / 10, b] :: ['.'] :: y4 c :: scan cls .init rest := by
  have hdot : (cls '.').isNum = false := by rw [AsciiOK.agree (cls := cls) '.' (by decide)]; decide
  have := lex_dot3 cls (digitChar (a / 10)) [digitChar a] (digitChar (b / 10)) [digitChar b]
    (digitChar (c / 1000)) [digitChar (c / 100), digitChar (c / 10), digitChar c] rest hdot
    (drun_dtok cls [a / 10, a]) (drun_dtok cls [b / 10, b]) (drun_dtok cls [c / 1000, c / 100, c / 10, c]) he
  simpa [pad2, pad4, dtok, y4] using this

/-- `YYYY.MM.DD` -/
theorem lex_dot3_422 (a b c : Nat) (rest : List Char) (he : FracEnds cls rest) :
    scan cls .init (pad4 a ++ ('.' :: (pad2 b ++ ('.' :: (pad2 c ++ rest))))) =
      y4 a :: ['.'] :: dtok [b / 10, b] :: ['.'] :: dtok [c / 10, c] :: scan cls .init rest := by
  have hdot : (cls '.').isNum = false := by rw [AsciiOK.agree (cls := cls) '.' (by decide)]; decide
  have := lex_dot3 cls (digitChar (a / 1000)) [digitChar (a / 100), digitChar (a / 10), digitChar a]
    (digitChar (b / 10)) [digitChar b] (digitChar (c / 10)) [digitChar c] rest hdot
    (drun_dtok cls [a / 1000, a / 100, a / 10, a]) (drun_dtok cls [b / 10, b]) (drun_dtok cls [c / 10, c]) he
  simpa [pad2, pad4, dtok, y4] using this

theorem monWordA (yf : Bool) (year century : Int) (m : Nat) (h1 : 1 ≤ m) (h2 : m ≤ 12) :
    MonWord cls (Info.default false yf year century) (monAbbr m) m ∧ isAlphaWord (monAbbr m) = true := by
  obtain ⟨a1, _, a3, _, a5, _, a7, _, a9, _, a11, _, a13, _⟩ := mon_facts m h1 h2
  exact ⟨⟨floatOk_alpha cls _ a5 a7, a3, a1, a9, a11, a13, isDigitTok_alpha cls _ a5⟩, a5⟩

theorem monWordF (yf : Bool) (year century : Int) (m : Nat) (h1 : 1 ≤ m) (h2 : m ≤ 12) :
    MonWord cls (Info.default false yf year century) (monFull m) m ∧ isAlphaWord (monFull m) = true := by
  obtain ⟨_, a2, _, a4, _, a6, _, a8, _, a10, _, a12, _, a14⟩ := mon_facts m h1 h2
  exact ⟨⟨floatOk_alpha cls _ a6 a8, a4, a2, a10, a12, a14, isDigitTok_alpha cls _ a6⟩, a6⟩

theorem wdWordA (yf : Bool) (year century : Int) (w : Nat) (h : w < 7) :
    WdWord cls (Info.default false yf year century) (wdAbbr w) w ∧ isAlphaWord (wdAbbr w) = true := by
  obtain ⟨a1, a2, a3⟩ := wd_facts w h
  exact ⟨⟨floatOk_alpha cls _ a2 a3, a1⟩, a2⟩

/-- a single ASCII letter as a word -/
theorem lex_letter (c : Char) (rest : List Char)
    (h : [c].all (fun c => decide (c.toNat < 128) && (asciiCls c).isWord && decide (c ≠ '\x00')) = true)
    (he : WordEnds cls rest) : scan cls .init (c :: rest) = [c] :: scan cls .init rest := by
  have := lex_aword cls c [] rest h he
  simpa using this

/-- a letter word after a number ends the number -/
theorem numEnds_word (w r : List Char) (h : isAlphaWord w = true) : NumEnds cls (w ++ r) := by
  cases w with
  | nil => simp [isAlphaWord] at h
  | cons a as =>
    simp only [isAlphaWord, Bool.and_eq_true, List.all_eq_true, decide_eq_true_eq] at h
    have ha := h.2 a List.mem_cons_self
    show _ ∧ _
    rw [AsciiOK.agree (cls := cls) a ha.1.1]
    have hnn : (asciiCls a).isNum = false := by cases hk : asciiCls a <;> simp_all [CClass.isWord, CClass.isNum]
    refine ⟨ha.2, hnn, ?_, ?_⟩
    · intro he; subst he; revert ha; decide
    · intro he; subst he; revert ha; decide

/-- a digit token after a word ends the word -/
theorem wordEnds_num (s r : List Char) (h : ∃ k ks, s = dtok (k :: ks)) : WordEnds cls (s ++ r) := by
  obtain ⟨k, ks, rfl⟩ := h
  exact wordEnds_dtok cls k ks r

/-- the offset suffixes that start with a space (or nothing) end a word -/
theorem wordEnds_off (off : Off) (h : off.Spaced) : WordEnds cls off.render := by
  rcases off with _ | sp | _ | ⟨sp, neg, oh⟩ | ⟨sp, neg, oh, om⟩ | ⟨sp, neg, oh, om⟩
  · exact trivial
  all_goals (try (simp only [Off.Spaced] at h; subst h))
  all_goals exact wordEnds_ascii cls _ _ (by decide)
end

theorem apLow_alpha (h : Nat) : isAlphaWord (apLow h) = true := by unfold apLow; split <;> decide
theorem apWord_alpha (h : Nat) : isAlphaWord (apWord h) = true := by unfold apWord; split <;> decide

theorem h12_bounds (h : Nat) : 1 ≤ h12 h ∧ h12 h ≤ 12 := by unfold h12; split <;> omega

end PM
