/-
  Proofs/RenderTac.lean — the facts about the fixed (non-numeric) tokens of the renderings under the stock parserinfo:
  separators, zone words, unit letters, AM/PM words.
-/
import DateutilVerif.Proofs.RenderBase

namespace PM
open Py PT

/-- unfold to the dumped tables, then compute -/
macro "tbl" : tactic =>
  `(tactic| (simp only [Info.hmsOf, Info.weekdayOf, Info.monthOf, Info.ampmOf, Info.isJump, Info.isPertain,
                        Info.isUtczone, Info.tzoffsetOf, Info.default, couldBeTzname]; decide))

section
variable (df yf : Bool) (year century : Int)
local notation "I" => Info.default df yf year century

-- separators that are jump words: ` `, `-`, `/`, `.`, `,`, `T` (one case split for all five tables; the single facts are projections)
theorem jump_facts (t : Token) (h : t ∈ [[' '], ['-'], ['/'], ['.'], [','], ['T']]) :
    (I).weekdayOf t = none ∧ (I).monthOf t = none ∧ (I).ampmOf t = none ∧ (I).hmsOf t = none ∧ (I).isJump t = true := by
  simp only [List.mem_cons, List.mem_nil_iff, or_false] at h
  rcases h with rfl | rfl | rfl | rfl | rfl | rfl <;> refine ⟨?_, ?_, ?_, ?_, ?_⟩ <;> tbl

-- punctuation that is in no table: `:`, `+`
theorem plain_facts (t : Token) (h : t ∈ [[':'], ['+']]) :
    (I).weekdayOf t = none ∧ (I).monthOf t = none ∧ (I).ampmOf t = none ∧ (I).hmsOf t = none ∧ (I).isJump t = false := by
  simp only [List.mem_cons, List.mem_nil_iff, or_false] at h
  rcases h with rfl | rfl <;> refine ⟨?_, ?_, ?_, ?_, ?_⟩ <;> tbl

@[simp] theorem wd_sp : (I).weekdayOf [' '] = none := (jump_facts df yf year century _ (by decide)).1
@[simp] theorem mo_sp : (I).monthOf [' '] = none := (jump_facts df yf year century _ (by decide)).2.1
@[simp] theorem ap_sp : (I).ampmOf [' '] = none := (jump_facts df yf year century _ (by decide)).2.2.1
@[simp] theorem hms_sp : (I).hmsOf [' '] = none := (jump_facts df yf year century _ (by decide)).2.2.2.1
@[simp] theorem jp_sp : (I).isJump [' '] = true := (jump_facts df yf year century _ (by decide)).2.2.2.2
@[simp] theorem wd_T : (I).weekdayOf ['T'] = none := (jump_facts df yf year century _ (by decide)).1
@[simp] theorem mo_T : (I).monthOf ['T'] = none := (jump_facts df yf year century _ (by decide)).2.1
@[simp] theorem ap_T : (I).ampmOf ['T'] = none := (jump_facts df yf year century _ (by decide)).2.2.1
@[simp] theorem hms_T : (I).hmsOf ['T'] = none := (jump_facts df yf year century _ (by decide)).2.2.2.1
@[simp] theorem jp_T : (I).isJump ['T'] = true := (jump_facts df yf year century _ (by decide)).2.2.2.2
@[simp] theorem wd_dash : (I).weekdayOf ['-'] = none := (jump_facts df yf year century _ (by decide)).1
@[simp] theorem mo_dash : (I).monthOf ['-'] = none := (jump_facts df yf year century _ (by decide)).2.1
@[simp] theorem ap_dash : (I).ampmOf ['-'] = none := (jump_facts df yf year century _ (by decide)).2.2.1
@[simp] theorem hms_dash : (I).hmsOf ['-'] = none := (jump_facts df yf year century _ (by decide)).2.2.2.1
@[simp] theorem jp_dash : (I).isJump ['-'] = true := (jump_facts df yf year century _ (by decide)).2.2.2.2
@[simp] theorem wd_slash : (I).weekdayOf ['/'] = none := (jump_facts df yf year century _ (by decide)).1
@[simp] theorem mo_slash : (I).monthOf ['/'] = none := (jump_facts df yf year century _ (by decide)).2.1
@[simp] theorem ap_slash : (I).ampmOf ['/'] = none := (jump_facts df yf year century _ (by decide)).2.2.1
@[simp] theorem hms_slash : (I).hmsOf ['/'] = none := (jump_facts df yf year century _ (by decide)).2.2.2.1
@[simp] theorem jp_slash : (I).isJump ['/'] = true := (jump_facts df yf year century _ (by decide)).2.2.2.2
@[simp] theorem wd_dot : (I).weekdayOf ['.'] = none := (jump_facts df yf year century _ (by decide)).1
@[simp] theorem mo_dot : (I).monthOf ['.'] = none := (jump_facts df yf year century _ (by decide)).2.1
@[simp] theorem ap_dot : (I).ampmOf ['.'] = none := (jump_facts df yf year century _ (by decide)).2.2.1
@[simp] theorem hms_dot : (I).hmsOf ['.'] = none := (jump_facts df yf year century _ (by decide)).2.2.2.1
@[simp] theorem jp_dot : (I).isJump ['.'] = true := (jump_facts df yf year century _ (by decide)).2.2.2.2
@[simp] theorem wd_comma : (I).weekdayOf [','] = none := (jump_facts df yf year century _ (by decide)).1
@[simp] theorem mo_comma : (I).monthOf [','] = none := (jump_facts df yf year century _ (by decide)).2.1
@[simp] theorem ap_comma : (I).ampmOf [','] = none := (jump_facts df yf year century _ (by decide)).2.2.1
@[simp] theorem hms_comma : (I).hmsOf [','] = none := (jump_facts df yf year century _ (by decide)).2.2.2.1
@[simp] theorem jp_comma : (I).isJump [','] = true := (jump_facts df yf year century _ (by decide)).2.2.2.2
@[simp] theorem wd_colon : (I).weekdayOf [':'] = none := (plain_facts df yf year century _ (by decide)).1
@[simp] theorem mo_colon : (I).monthOf [':'] = none := (plain_facts df yf year century _ (by decide)).2.1
@[simp] theorem ap_colon : (I).ampmOf [':'] = none := (plain_facts df yf year century _ (by decide)).2.2.1
@[simp] theorem hms_colon : (I).hmsOf [':'] = none := (plain_facts df yf year century _ (by decide)).2.2.2.1
@[simp] theorem jp_colon : (I).isJump [':'] = false := (plain_facts df yf year century _ (by decide)).2.2.2.2
@[simp] theorem wd_plus : (I).weekdayOf ['+'] = none := (plain_facts df yf year century _ (by decide)).1
@[simp] theorem mo_plus : (I).monthOf ['+'] = none := (plain_facts df yf year century _ (by decide)).2.1
@[simp] theorem ap_plus : (I).ampmOf ['+'] = none := (plain_facts df yf year century _ (by decide)).2.2.1
@[simp] theorem hms_plus : (I).hmsOf ['+'] = none := (plain_facts df yf year century _ (by decide)).2.2.2.1
@[simp] theorem jp_plus : (I).isJump ['+'] = false := (plain_facts df yf year century _ (by decide)).2.2.2.2

/-- the zone words of the renderings: in no word table, UTC designators without an offset of their own, zone names once an hour is known -/
theorem zone_facts (t : Token) (h : t ∈ [['Z'], ['U', 'T', 'C']]) :
    (I).weekdayOf t = none ∧ (I).monthOf t = none ∧ (I).ampmOf t = none ∧ (I).hmsOf t = none ∧ (I).isUtczone t = true ∧
    (I).tzoffsetOf t = none ∧ ∀ hr : Option Nat, couldBeTzname (I) hr none none t = hr.isSome := by
  simp only [List.mem_cons, List.mem_nil_iff, or_false] at h
  rcases h with rfl | rfl <;> refine ⟨by tbl, by tbl, by tbl, by tbl, by tbl, ?_, ?_⟩
  all_goals first
    | (simp only [Info.tzoffsetOf, Info.default]; rfl)
    | (intro hr; cases hr <;> simp [couldBeTzname, Info.default] <;> decide)
@[simp] theorem wd_Z : (I).weekdayOf ['Z'] = none := (zone_facts df yf year century _ (by decide)).1
@[simp] theorem mo_Z : (I).monthOf ['Z'] = none := (zone_facts df yf year century _ (by decide)).2.1
@[simp] theorem ap_Z : (I).ampmOf ['Z'] = none := (zone_facts df yf year century _ (by decide)).2.2.1
@[simp] theorem hms_Z : (I).hmsOf ['Z'] = none := (zone_facts df yf year century _ (by decide)).2.2.2.1
@[simp] theorem utc_Z : (I).isUtczone ['Z'] = true := (zone_facts df yf year century _ (by decide)).2.2.2.2.1
@[simp] theorem tzo_Z : (I).tzoffsetOf ['Z'] = none := (zone_facts df yf year century _ (by decide)).2.2.2.2.2.1
@[simp] theorem cbt_Z (h : Option Nat) : couldBeTzname (I) h none none ['Z'] = h.isSome :=
  (zone_facts df yf year century _ (by decide)).2.2.2.2.2.2 h
@[simp] theorem wd_UTC : (I).weekdayOf ['U', 'T', 'C'] = none := (zone_facts df yf year century _ (by decide)).1
@[simp] theorem mo_UTC : (I).monthOf ['U', 'T', 'C'] = none := (zone_facts df yf year century _ (by decide)).2.1
@[simp] theorem ap_UTC : (I).ampmOf ['U', 'T', 'C'] = none := (zone_facts df yf year century _ (by decide)).2.2.1
@[simp] theorem hms_UTC : (I).hmsOf ['U', 'T', 'C'] = none := (zone_facts df yf year century _ (by decide)).2.2.2.1
theorem utc_UTC : (I).isUtczone ['U', 'T', 'C'] = true := (zone_facts df yf year century _ (by decide)).2.2.2.2.1
@[simp] theorem tzo_UTC : (I).tzoffsetOf ['U', 'T', 'C'] = none := (zone_facts df yf year century _ (by decide)).2.2.2.2.2.1
@[simp] theorem cbt_UTC (h : Option Nat) : couldBeTzname (I) h none none ['U', 'T', 'C'] = h.isSome :=
  (zone_facts df yf year century _ (by decide)).2.2.2.2.2.2 h
@[simp] theorem cbt_none (a : Option Token) (b : Option Int) (t : Token) : couldBeTzname (I) none a b t = false := by
  simp [couldBeTzname]
theorem cbt_false (t : Token) (h : (t.all isAsciiUpper || (Gen.PI_UTCZONE.map tk).contains t) = false)
    (hr : Option Nat) (a : Option Token) (b : Option Int) : couldBeTzname (I) hr a b t = false := by
  simp only [couldBeTzname, Info.default]
  rw [h]; simp
@[simp] theorem cbt_sp (hr : Option Nat) (a : Option Token) (b : Option Int) : couldBeTzname (I) hr a b [' '] = false :=
  cbt_false df yf year century _ (by decide) hr a b
@[simp] theorem cbt_plus (hr : Option Nat) (a : Option Token) (b : Option Int) : couldBeTzname (I) hr a b ['+'] = false :=
  cbt_false df yf year century _ (by decide) hr a b
@[simp] theorem cbt_minus (hr : Option Nat) (a : Option Token) (b : Option Int) : couldBeTzname (I) hr a b ['-'] = false :=
  cbt_false df yf year century _ (by decide) hr a b
@[simp] theorem cbt_colon (hr : Option Nat) (a : Option Token) (b : Option Int) : couldBeTzname (I) hr a b [':'] = false :=
  cbt_false df yf year century _ (by decide) hr a b
@[simp] theorem cbt_comma (hr : Option Nat) (a : Option Token) (b : Option Int) : couldBeTzname (I) hr a b [','] = false :=
  cbt_false df yf year century _ (by decide) hr a b
@[simp] theorem dayfirst_default : (I).dayfirst = df := rfl
@[simp] theorem yearfirst_default : (I).yearfirst = yf := rfl
@[simp] theorem century_default : (I).century = century := rfl
@[simp] theorem year_default : (I).year = year := rfl
end

section
variable (cls : Char → CClass) [AsciiOK cls]
@[simp] theorem fl_sp : floatOk cls [' '] = false := by rw [floatOk_ascii cls _ (by decide)]; decide
@[simp] theorem fl_T : floatOk cls ['T'] = false := by rw [floatOk_ascii cls _ (by decide)]; decide
@[simp] theorem fl_dash : floatOk cls ['-'] = false := by rw [floatOk_ascii cls _ (by decide)]; decide
@[simp] theorem fl_slash : floatOk cls ['/'] = false := by rw [floatOk_ascii cls _ (by decide)]; decide
@[simp] theorem fl_dot : floatOk cls ['.'] = false := by rw [floatOk_ascii cls _ (by decide)]; decide
@[simp] theorem fl_comma : floatOk cls [','] = false := by rw [floatOk_ascii cls _ (by decide)]; decide
@[simp] theorem fl_colon : floatOk cls [':'] = false := by rw [floatOk_ascii cls _ (by decide)]; decide
@[simp] theorem fl_plus : floatOk cls ['+'] = false := by rw [floatOk_ascii cls _ (by decide)]; decide
@[simp] theorem fl_Z : floatOk cls ['Z'] = false := by rw [floatOk_ascii cls _ (by decide)]; decide
@[simp] theorem fl_UTC : floatOk cls ['U', 'T', 'C'] = false := by rw [floatOk_ascii cls _ (by decide)]; decide
end

section
variable (df yf : Bool) (year century : Int)
@[simp] theorem pt_sp : (Info.default df yf year century).isPertain [' '] = false := by tbl
@[simp] theorem pt_comma : (Info.default df yf year century).isPertain [','] = false := by tbl
end

section
variable (df yf : Bool) (year century : Int)
local notation "I" => Info.default df yf year century
@[simp] theorem hms_h : (I).hmsOf ['h'] = some 0 := by tbl
@[simp] theorem hms_m : (I).hmsOf ['m'] = some 1 := by tbl
@[simp] theorem hms_s : (I).hmsOf ['s'] = some 2 := by tbl
end

section
variable (df yf : Bool) (year century : Int)
local notation "I" => Info.default df yf year century
/-- the AM/PM words of the renderings: in no other table, not jump words -/
theorem ampm_facts (t : Token) (ap : Nat)
    (h : (t, ap) ∈ [(['a', 'm'], 0), (['p', 'm'], 1), (['A', 'M'], 0), (['P', 'M'], 1)]) :
    (I).weekdayOf t = none ∧ (I).monthOf t = none ∧ (I).hmsOf t = none ∧ (I).isJump t = false ∧ (I).ampmOf t = some ap := by
  simp only [List.mem_cons, List.mem_nil_iff, or_false, Prod.mk.injEq] at h
  rcases h with ⟨rfl, rfl⟩ | ⟨rfl, rfl⟩ | ⟨rfl, rfl⟩ | ⟨rfl, rfl⟩ <;> refine ⟨?_, ?_, ?_, ?_, ?_⟩ <;> tbl
@[simp] theorem jmp_AM : (I).isJump ['A', 'M'] = false := (ampm_facts df yf year century _ 0 (by decide)).2.2.2.1
@[simp] theorem jmp_PM : (I).isJump ['P', 'M'] = false := (ampm_facts df yf year century _ 1 (by decide)).2.2.2.1
end
section
variable (cls : Char → CClass) [AsciiOK cls]
theorem fl_ampm (t : Token) (h : t ∈ [['a', 'm'], ['p', 'm'], ['A', 'M'], ['P', 'M']]) : floatOk cls t = false := by
  simp only [List.mem_cons, List.mem_nil_iff, or_false] at h
  rcases h with rfl | rfl | rfl | rfl <;> (rw [floatOk_ascii cls _ (by decide)]; decide)
end

end PM
