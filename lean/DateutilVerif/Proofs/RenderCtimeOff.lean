/-
  Proofs/RenderCtimeOff.lean — ctime `Www Mmm dd HH:MM:SS YYYY`, alone or followed by an offset after a space (year ≥ 100):
  the year's number takes the space behind it with it, so the offset is scanned with that space already consumed
  (`suffix_run_skip`, `tok_theorem_skip`).
-/
import DateutilVerif.Proofs.RenderSentence
import DateutilVerif.Proofs.RenderFin

namespace PM
open Py PT

section
variable (cls : Char → CClass) [AsciiOK cls]

theorem lex_hms (h mi s : Nat) (rest : List Char) (he : NumEnds cls rest) :
    scan cls .init (pad2 h ++ [':'] ++ pad2 mi ++ [':'] ++ pad2 s ++ rest) =
      [dtok [h / 10, h], [':'], dtok [mi / 10, mi], [':'], dtok [s / 10, s]] ++ scan cls .init rest := by
  simp only [List.append_assoc, List.cons_append, List.nil_append]
  rw [lex_pad2 cls _ _ (numEnds_ascii cls _ _ (by decide)), lex_punct cls ':' _ (by decide),
      lex_pad2 cls _ _ (numEnds_ascii cls _ _ (by decide)), lex_punct cls ':' _ (by decide), lex_pad2 cls _ _ he]

theorem lex_digit1 (d : Nat) (rest : List Char) (he : NumEnds cls rest) :
    scan cls .init (digitChar d :: rest) = dtok [d] :: scan cls .init rest := lex_dtok cls d [] rest he

theorem wordEnds_comma (r : List Char) : WordEnds cls (',' :: r) := wordEnds_ascii cls _ _ (by decide)
theorem wordEnds_dash (r : List Char) : WordEnds cls ('-' :: r) := wordEnds_ascii cls _ _ (by decide)

/-- what may follow a core under the space rule, seen from the core's last token -/
theorem suf2_next {info : Info} {suf : List Token} (hs : Suf2 info suf) :
    suf[0]? = none ∨ ∃ X, suf.take 2 = [[' '], X] ∧ info.hmsOf X = none ∧ info.ampmOf X = none := by
  rcases hs with rfl | ⟨b, rest, rfl, _, h1, h2⟩
  · exact Or.inl rfl
  · exact Or.inr ⟨b, rfl, h1, h2⟩

/-- the tokens of ctime: a one-digit day has a second space in front of it -/
def ctimeToks (W Mo : Token) (t : DT) : List Token :=
  [W, [' '], Mo, [' ']] ++ (if t.d.toNat < 10 then [[' '], dtok [t.d.toNat]] else [dtok [t.d.toNat / 10, t.d.toNat]]) ++
    [[' '], dtok [t.hh.toNat / 10, t.hh.toNat], [':'], dtok [t.mm.toNat / 10, t.mm.toNat], [':'], dtok [t.ss.toNat / 10, t.ss.toNat],
     [' '], y4 t.y.toNat]

def ctimeYmd (t : DT) : Ymd :=
  { vals := [t.m.toNat, t.d.toNat, t.y.toNat], century := decide (100 < t.y.toNat), mIdx := some 0,
    yIdx := if decide (100 < t.y.toNat) then some 2 else none }
def ctimeRes (w : Nat) (t : DT) : Res :=
  { weekday := some w, hour := some t.hh.toNat, minute := some t.mm.toNat, second := some t.ss.toNat, microsecond := some 0 }

theorem lex_ctime (w : Nat) (t : DT) (hAlW : isAlphaWord (wdAbbr w) = true) (hAlA : isAlphaWord (monAbbr t.m.toNat) = true)
    (rest : List Char) (he : NumEnds cls rest) :
    scan cls .init (renderMon (.ctime w) t .naive ++ rest) = ctimeToks (wdAbbr w) (monAbbr t.m.toNat) t ++ scan cls .init rest := by
  have hrest : scan cls .init (' ' :: (pad2 t.hh.toNat ++ (':' :: (pad2 t.mm.toNat ++ (':' :: (pad2 t.ss.toNat ++ (' ' :: (pad4 t.y.toNat ++ rest)))))))) =
      [[' '], dtok [t.hh.toNat / 10, t.hh.toNat], [':'], dtok [t.mm.toNat / 10, t.mm.toNat], [':'],
       dtok [t.ss.toNat / 10, t.ss.toNat], [' '], y4 t.y.toNat] ++ scan cls .init rest := by
    rw [lex_sp, lex_pad2 cls _ _ (numEnds_ascii cls _ _ (by decide)), lex_punct cls ':' _ (by decide),
        lex_pad2 cls _ _ (numEnds_ascii cls _ _ (by decide)), lex_punct cls ':' _ (by decide),
        lex_pad2 cls _ _ (numEnds_sp cls _), lex_sp, lex_pad4 cls _ _ he]
    rfl
  simp only [renderMon, hmsColon, List.append_assoc, List.cons_append, List.nil_append, sp2, ctimeToks]
  rw [lex_alpha cls _ _ hAlW (wordEnds_sp cls _), lex_sp, lex_alpha cls _ _ hAlA (wordEnds_sp cls _), lex_sp]
  split
  · simp only [List.cons_append, List.nil_append]
    rw [lex_sp, lex_digit1 cls t.d.toNat _ (numEnds_sp cls _), hrest]
    rfl
  · rw [lex_pad2 cls _ _ (numEnds_sp cls _), hrest]
    simp

/-- the scan over ctime with nothing, or a space and a harmless token, behind the year: the year's number takes the space with it -/
theorem run_ctime (yf : Bool) (year century : Int) (W Mo : Token) (w : Nat) {t : DT} (ht : t.Valid)
    (hW : WdWord cls (Info.default false yf year century) W w) (hMo : MonWord cls (Info.default false yf year century) Mo t.m.toNat)
    (suf : List Token) (hs : Suf2 (Info.default false yf year century) suf) :
    parseLoop cls (Info.default false yf year century) false (suf.length + (ctimeToks W Mo t).length)
        (suf.length + (ctimeToks W Mo t).length) 0 0 { l := ctimeToks W Mo t ++ suf } =
      parseLoop cls (Info.default false yf year century) false (suf.length + (ctimeToks W Mo t).length) suf.length
        (ctimeToks W Mo t).length 1
        { l := ctimeToks W Mo t ++ suf, res := ctimeRes w t, ymd := ctimeYmd t,
          skipped := if t.d.toNat < 10 then [1, 3, 4, 12] else [1, 3, 11] } := by
  have N := dtNums ht
  have hm100 : t.m.toNat ≤ 100 := by have := N.bm; omega
  have hnx := suf2_next hs
  unfold ctimeToks
  by_cases hd10 : t.d.toNat < 10
  · simp only [hd10, if_true]
    refine (loop_weekday (l := _ ++ suf) (fuel := suf.length + 13) (by rfl) hW).trans ?_
    refine (loop_sp (by rfl)).trans ?_
    refine (loop_month (by rfl) hMo hm100 (by decide) (pt_sp ..) rfl).trans ?_
    refine (loop_sp (by rfl)).trans ?_
    refine (loop_sp (by rfl)).trans ?_
    refine (loop_jump (by rfl) ⟨_, _, rfl, dval_1 _ hd10, rfl⟩ (by decide) (Or.inl (by simp)) (Or.inl rfl)
      ⟨hmsOf_num N.hh, ampmOf_num N.hh⟩ (decide_eq_false (by omega)) (Or.inl rfl) (by rfl) (hms_sp ..)).trans ?_
    refine (loop_colon3 (by rfl) N.hh N.mm (parsems_num N.ss (by decide)) (by decide) (by have := N.bmm; omega) (by rfl) (hms_sp ..)).trans ?_
    refine (loop_sp (by rfl)).trans ?_
    exact loop_jump_skip (fuel := suf.length) (by rfl) N.y (by decide) (by simp; omega) hnx (Or.inr (Or.inr rfl)) rfl (Or.inr (by rfl))
      (by rfl) (hms_sp ..) (by rfl) (hmsOf_num N.ss)
  · simp only [hd10, if_false]
    refine (loop_weekday (l := _ ++ suf) (fuel := suf.length + 12) (by rfl) hW).trans ?_
    refine (loop_sp (by rfl)).trans ?_
    refine (loop_month (by rfl) hMo hm100 (by decide) (isPertain_num N.d) rfl).trans ?_
    refine (loop_sp (by rfl)).trans ?_
    refine (loop_jump (by rfl) N.d (by decide) (Or.inl (by simp)) (Or.inl rfl)
      ⟨hmsOf_num N.hh, ampmOf_num N.hh⟩ (decide_eq_false (by have := N.bd; omega)) (Or.inl rfl) (by rfl) (hms_sp ..)).trans ?_
    refine (loop_colon3 (by rfl) N.hh N.mm (parsems_num N.ss (by decide)) (by decide) (by have := N.bmm; omega) (by rfl) (hms_sp ..)).trans ?_
    refine (loop_sp (by rfl)).trans ?_
    exact loop_jump_skip (fuel := suf.length) (by rfl) N.y (by decide) (by simp; omega) hnx (Or.inr (Or.inr rfl)) rfl (Or.inr (by rfl))
      (by rfl) (hms_sp ..) (by rfl) (hmsOf_num N.ss)

theorem fin_ctime (yf : Bool) (year century : Int) (o : Opts) (tznames : List Token) (tzi : TzInfos) (ho : PlainOpts o tzi) (dflt : DT)
    (w : Nat) {t : DT} (ht : t.Valid) (hy : 100 ≤ t.y) :
    finishOf (Info.default false yf year century) o tznames tzi dflt (ctimeYmd t) (ctimeRes w t) =
      .ok { dt := { t with us := 0 }, tz := .naive, tokens := none } := by
  have N := dtNums ht
  refine finish_t yf year century o tznames tzi dflt ht _ _ t.y.toNat _ (resolve_Mdy _ _ _ _ _ _ N.bd.2)
    (convertyear_full _ ht _ (Or.inr hy)) rfl rfl (Or.inr (by have := N.bd; omega)) ho.tz1 ?_
    (valid_fields ht (valid_hh ht) (valid_mm ht) (valid_ss ht) ⟨by decide, by decide⟩)
  simp only [ctimeRes, fieldOr, N.eh, N.emi, N.es]; rfl

end

/-- the offset suffix when the space in front of it has already been consumed by the number before it (`skip = 1`): the year of
    ctime is followed by a jump token, which `_parse_numeric_token` swallows without listing it as skipped -/
theorem suffix_run_skip (cls : Char → CClass) [AsciiOK cls] (df yf : Bool) (year century : Int) (pre : List Token) (r : Res) (y : Ymd)
    (sk : List Nat) (off : Off) (hoff : off.Dom) (hsp : off.Spaced) (hnn : off ≠ .naive) (lenL i : Nat) (hi : i = pre.length)
    (hl : lenL = pre.length + (offTokens off).length) (hh : r.hour.isSome = true) (htn : r.tzname = none) (hto : r.tzoffset = none) :
    parseLoop cls (Info.default df yf year century) false lenL (offTokens off).length i 1
        { l := pre ++ offTokens off, res := r, ymd := y, skipped := sk } =
      .ok { l := pre ++ offTokens off, res := { r with tzname := offName off, tzoffset := offSecs off }, ymd := y, skipped := sk } := by
  subst hi
  have hls : offLeadSpace off = true := by
    rcases off with _ | sp | _ | ⟨sp, neg, oh⟩ | ⟨sp, neg, oh, om⟩ | ⟨sp, neg, oh, om⟩
    · exact absurd rfl hnn
    all_goals first | rfl | exact hsp
  obtain ⟨toks, htoks⟩ : ∃ toks, offTokens off = [' '] :: toks := by
    rcases off with _ | sp | _ | ⟨sp, neg, oh⟩ | ⟨sp, neg, oh, om⟩ | ⟨sp, neg, oh, om⟩
    · exact absurd rfl hnn
    all_goals (try (simp only [Off.Spaced] at hsp; subst hsp))
    all_goals exact ⟨_, by simp [offTokens, spT]; rfl⟩
  rw [htoks] at hl ⊢
  have := suffix_zone cls df yf year century (pre ++ [[' ']]) r y sk off hoff hnn toks (by rw [hls, htoks]; rfl) lenL
    (by simp at hl ⊢; omega) hh htn hto
  simpa [parseLoop, List.append_assoc] using this

/-- the schema at token level when the core's last number has swallowed the space in front of the offset -/
theorem tok_theorem_skip (cls : Char → CClass) [AsciiOK cls] (df yf : Bool) (year century : Int) (o : Opts) (tznames : List Token)
    (tzi : TzInfos) (ho : StrictOpts o tzi) (dflt : DT) (core : List Token) (n : Nat) (hn : core.length = n)
    (rC : Res) (yC : Ymd) (skC : List Nat) (dt : DT) (off : Off) (hoff : off.Dom) (hsp : off.Spaced) (hnn : off ≠ .naive)
    (hcore : parseLoop cls (Info.default df yf year century) false ((offTokens off).length + n) ((offTokens off).length + n) 0 0
        { l := core ++ offTokens off } =
      parseLoop cls (Info.default df yf year century) false ((offTokens off).length + n) (offTokens off).length n 1
        { l := core ++ offTokens off, res := rC, ymd := yC, skipped := skC })
    (htn : rC.tzname = none) (hto : rC.tzoffset = none) (hhour : rC.hour.isSome = true)
    (hfin : finishOf (Info.default df yf year century) o tznames tzi dflt yC rC = .ok { dt := dt, tz := .naive, tokens := none }) :
    parseResult cls (Info.default df yf year century) o tznames tzi dflt (core ++ offTokens off) =
      .ok { dt := dt, tz := offZone o tznames off, tokens := none } := by
  obtain ⟨hfz, hfwt, htz1, htz2⟩ := ho
  have hlen : (core ++ offTokens off).length = (offTokens off).length + n := by simp [hn]; omega
  have hloop : parseLoop cls (Info.default df yf year century) false (core ++ offTokens off).length
      (core ++ offTokens off).length 0 0 { l := core ++ offTokens off } =
      .ok { l := core ++ offTokens off, res := { rC with tzname := offName off, tzoffset := offSecs off }, ymd := yC, skipped := skC } := by
    rw [hlen, hcore]
    exact suffix_run_skip cls df yf year century core rC yC skC off hoff hsp hnn _ n hn.symm (by rw [hn]; omega) hhour htn hto
  rw [parseResult_of_loop cls _ o tznames tzi dflt _ _ false hfz hfwt hloop]
  exact finish_tz df yf year century o tznames tzi dflt yC rC dt off hoff htz1 htz2 htn hto hhour hfin

section
variable (cls : Char → CClass) [AsciiOK cls]

/-- **ctime followed by an offset**: `Www Mmm dd HH:MM:SS YYYY`, then nothing or any offset spelling after a space (year ≥ 100) -/
theorem parse_ctimeOff (yf : Bool) (year century : Int) (o : Opts) (tznames : List Token) (tzi : TzInfos)
    (ho : PlainOpts o tzi) (dflt : DT) (_hdv : dflt.Valid) (t : DT) (ht : t.Valid) (w : Nat) (hw : w < 7) (hy : 100 ≤ t.y)
    (off : Off) (hoff : off.Dom) (hsp : off.Spaced) :
    parse cls (Info.default false yf year century) o tznames tzi dflt (renderCtimeOff w t off) =
      .ok { dt := { t with us := 0 }, tz := if o.ignoretz then .naive else offDescr tznames off, tokens := none } := by
  have N := dtNums ht
  obtain ⟨hMoA, hAlA⟩ := monWordA cls yf year century t.m.toNat N.bm.1 N.bm.2
  obtain ⟨hWd, hAlW⟩ := wdWordA cls yf year century w hw
  have hs : StrictOpts o tzi := ⟨ho.fz, ho.fwt, ho.tz1, ho.tz2⟩
  have hrun := run_ctime cls yf year century (wdAbbr w) (monAbbr t.m.toNat) w ht hWd hMoA (offTokens off)
    (suf2_off false yf year century off hsp)
  have hfin := fin_ctime yf year century o tznames tzi ho dflt w ht hy
  unfold parse lex renderCtimeOff
  rw [lex_ctime cls w t hAlW hAlA off.render (numEnds_off cls off), lex_off]
  by_cases hnn : off = .naive
  · subst hnn
    have := tok_theorem cls false yf year century o tznames tzi hs dflt (ctimeToks (wdAbbr w) (monAbbr t.m.toNat) t) _ rfl
      (ctimeRes w t) (ctimeYmd t) _ _ .naive trivial hrun rfl rfl (Or.inl rfl) hfin
    simpa [offZone] using this
  · have := tok_theorem_skip cls false yf year century o tznames tzi hs dflt (ctimeToks (wdAbbr w) (monAbbr t.m.toNat) t) _ rfl
      (ctimeRes w t) (ctimeYmd t) _ _ off hoff hsp hnn hrun rfl rfl rfl hfin
    simpa [offZone] using this

end
end PM
