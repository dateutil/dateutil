/-
  Proofs/RRuleWeekno.lean — the two loops of the week-number mask of `_iterinfo.rebuild` (the `if rr._byweekno:`
  block): the marking loop `for j in range(7): mask[i] = 1; i += 1; if wdaymask[i] == wkst: break` (`markWeek_spec`,
  `markWeek_week`) and the main loop `for n in rr._byweekno` (`weekLoop_spec`): an index is marked iff it lies in one
  of the listed, normalised, existing weeks.
-/
import DateutilVerif.Proofs.RRuleEasterYearly

namespace RRule
open Cal

variable {r : Rule} {y : Int} {info : Info}

/-- `markWeek` marks the indices from `i` up to (excluding) the next index whose weekday is `wkst`,
    at most `n` of them, and nothing else -/
theorem markWeek_spec (f : YearFacts r y info) (wkst : Int) : ∀ (n : Nat) (i : Int) (mask : List Int),
    0 ≤ i → i + n ≤ (mask.length : Int) → (mask.length : Int) ≤ 378 → 1 ≤ n →
    ∃ mask' e, markWeek info.wdaymask wkst n mask i = .ok mask' ∧ mask'.length = mask.length ∧
      i < e ∧ e ≤ i + n ∧
      (∀ j, i < j → j < e → weekdayOfOrd (info.yearordinal + j) ≠ wkst) ∧
      (e = i + n ∨ weekdayOfOrd (info.yearordinal + e) = wkst) ∧
      ∀ j : Int, 0 ≤ j → j < (mask.length : Int) →
        Py.getIdx mask' j = (if i ≤ j ∧ j < e then .ok 1 else Py.getIdx mask j) := by
  intro n
  induction n with
  | zero => intro i mask _ _ _ h; omega
  | succ k ih =>
    intro i mask h0 hn hlen _
    unfold markWeek
    obtain ⟨m1, hm1, hl1, _⟩ := getIdx_set mask i 0 1 ⟨h0, by omega⟩ ⟨by omega, by omega⟩
    rw [hm1]
    dsimp only
    rw [wdaymask_date f (i + 1) (by omega) (by omega)]
    dsimp only
    have hset : ∀ j : Int, 0 ≤ j → j < (mask.length : Int) →
        Py.getIdx m1 j = (if j = i then .ok 1 else Py.getIdx mask j) := by
      intro j hj0 hj1
      obtain ⟨m1', hm1', _, hg⟩ := getIdx_set mask i j 1 ⟨h0, by omega⟩ ⟨hj0, hj1⟩
      rw [hm1] at hm1'; injection hm1' with e; subst e
      exact hg
    by_cases hw : weekdayOfOrd (info.yearordinal + (i + 1)) = wkst
    · rw [if_pos (by simp [hw])]
      refine ⟨m1, i + 1, rfl, hl1, by omega, by omega, by intro j h1 h2; omega, Or.inr hw, ?_⟩
      intro j hj0 hj1
      rw [hset j hj0 hj1]
      by_cases c : j = i
      · rw [if_pos c, if_pos (by omega)]
      · rw [if_neg c, if_neg (by omega)]
    · rw [if_neg (by simp [hw])]
      by_cases hk : k = 0
      · subst hk
        refine ⟨m1, i + 1, by simp [markWeek], hl1, by omega, by omega, by intro j h1 h2; omega,
                Or.inl (by omega), ?_⟩
        intro j hj0 hj1
        rw [hset j hj0 hj1]
        by_cases c : j = i
        · rw [if_pos c, if_pos (by omega)]
        · rw [if_neg c, if_neg (by omega)]
      · obtain ⟨m2, e, h2, hl2, e1, e2, e3, e4, e5⟩ := ih (i + 1) m1 (by omega) (by rw [hl1]; push_cast at hn ⊢; omega)
          (by rw [hl1]; exact hlen) (by omega)
        refine ⟨m2, e, h2, by rw [hl2, hl1], by omega, by push_cast; omega, ?_, ?_, ?_⟩
        · intro j hj1 hj2
          by_cases c : j = i + 1
          · subst c; exact hw
          · exact e3 j (by omega) hj2
        · rcases e4 with e4 | e4
          · left; push_cast; omega
          · right; exact e4
        · intro j hj0 hj1
          rw [e5 j hj0 (by rw [hl1]; exact hj1), hset j hj0 hj1]
          by_cases c1 : i + 1 ≤ j ∧ j < e
          · rw [if_pos c1, if_pos (by omega)]
          · rw [if_neg c1]
            by_cases c2 : j = i
            · rw [if_pos c2, if_pos (by omega)]
            · rw [if_neg c2, if_neg (by omega)]

/-- with a week start in 0..6 and seven rounds, the loop stops exactly at the next week start -/
theorem markWeek_week (f : YearFacts r y info) (wkst : Int) (hw : 0 ≤ wkst ∧ wkst ≤ 6) (i : Int) (mask : List Int)
    (h0 : 0 ≤ i) (hn : i + 7 ≤ (mask.length : Int)) (hlen : (mask.length : Int) ≤ 378) :
    ∃ mask', markWeek info.wdaymask wkst 7 mask i = .ok mask' ∧ mask'.length = mask.length ∧
      ∀ j : Int, 0 ≤ j → j < (mask.length : Int) →
        Py.getIdx mask' j =
          (if i ≤ j ∧ j < i + ((wkst - weekdayOfOrd (info.yearordinal + i) - 1) % 7 + 1) then .ok 1
           else Py.getIdx mask j) := by
  obtain ⟨m, e, h1, h2, e1, e2, e3, e4, e5⟩ := markWeek_spec f wkst 7 i mask h0 (by omega) hlen (by omega)
  refine ⟨m, h1, h2, ?_⟩
  have hr := weekdayOfOrd_range (info.yearordinal + i)
  have hwd : ∀ j : Int, weekdayOfOrd (info.yearordinal + j) = (weekdayOfOrd (info.yearordinal + i) + (j - i)) % 7 := by
    intro j
    have e : info.yearordinal + j = info.yearordinal + i + (j - i) := by omega
    rw [e, weekdayOfOrd_add]
  have he : e = i + ((wkst - weekdayOfOrd (info.yearordinal + i) - 1) % 7 + 1) := by
    generalize hd : (wkst - weekdayOfOrd (info.yearordinal + i) - 1) % 7 + 1 = d
    have hdr : 1 ≤ d ∧ d ≤ 7 := by omega
    -- index i + d is a week start
    have hd_ws : weekdayOfOrd (info.yearordinal + (i + d)) = wkst := by rw [hwd]; omega
    by_cases c : e ≤ i + d
    · by_cases c2 : e = i + d
      · exact c2
      · exfalso
        rcases e4 with e4 | e4
        · omega
        · rw [hwd e] at e4; omega
    · exfalso
      exact e3 (i + d) (by omega) (by omega) hd_ws
  intro j hj0 hj1
  rw [e5 j hj0 hj1, he]

/-- a week-number as the code normalises it: negative numbers count from `numweeks` -/
def normWeek (numweeks n : Int) : Int := if n < 0 then n + numweeks + 1 else n

/-- index `j` lies in week `n'` of the year whose week 1 starts at index `W1` (possibly negative) -/
def inWeek (W1 n' j : Int) : Prop := W1 + 7 * (n' - 1) ≤ j ∧ j < W1 + 7 * n'

instance (W1 n' j : Int) : Decidable (inWeek W1 n' j) := by unfold inWeek; exact inferInstance

/-- the main loop `for n in rr._byweekno` over a list of week numbers: an index `j ≥ 0` ends up marked iff
    it was marked before or lies in one of the listed (normalised, existing) weeks -/
theorem weekLoop_spec (f : YearFacts r y info) (wkst : Int) (hw : 0 ≤ wkst ∧ wkst ≤ 6)
    (no1wkst numweeks back : Int) (hno : 0 ≤ no1wkst ∧ no1wkst ≤ 3) (hback : back = 0 ∨ (no1wkst = 0 ∧ 1 ≤ back ∧ back ≤ 3))
    (hws : weekdayOfOrd (info.yearordinal + (no1wkst - back)) = wkst)
    (hfit : no1wkst - back + 7 * numweeks ≤ info.yearlen + 3) :
    ∀ (bw : List Int) (mask : List Int), (mask.length : Int) = info.yearlen + 7 →
    ∃ mask', bw.foldlM (wnoStep info.wdaymask wkst no1wkst numweeks back) mask = .ok mask' ∧
      mask'.length = mask.length ∧
      ∀ j : Int, 0 ≤ j → j < info.yearlen + 7 →
        Py.getIdx mask' j =
          (if ∃ n ∈ bw, 0 < normWeek numweeks n ∧ normWeek numweeks n ≤ numweeks ∧
                inWeek (no1wkst - back) (normWeek numweeks n) j
           then .ok 1 else Py.getIdx mask j) := by
  have hylen : 365 ≤ info.yearlen ∧ info.yearlen ≤ 366 := by rw [f.yearlen]; unfold daysInYear; split <;> omega
  intro bw
  induction bw with
  | nil => intro mask _; exact ⟨mask, rfl, rfl, by intro j _ _; simp⟩
  | cons n0 ns ih =>
    intro mask hlen
    rw [List.foldlM_cons]
    have hstep : ∃ m1, wnoStep info.wdaymask wkst no1wkst numweeks back mask n0 = .ok m1 ∧ m1.length = mask.length ∧
        ∀ j : Int, 0 ≤ j → j < info.yearlen + 7 →
          Py.getIdx m1 j = (if 0 < normWeek numweeks n0 ∧ normWeek numweeks n0 ≤ numweeks ∧
              inWeek (no1wkst - back) (normWeek numweeks n0) j then .ok 1 else Py.getIdx mask j) := by
      unfold wnoStep
      dsimp only
      have hnorm : (if n0 < 0 then n0 + numweeks + 1 else n0) = normWeek numweeks n0 := rfl
      rw [hnorm]
      generalize normWeek numweeks n0 = n'
      by_cases hin : 0 < n' ∧ n' ≤ numweeks
      · rw [if_neg (by simp; omega)]
        by_cases h1 : n' > 1
        · rw [if_pos h1]
          -- a full week starting on a week start
          have hi0 : 0 ≤ no1wkst + (n' - 1) * 7 - back := by rcases hback with h | h <;> omega
          obtain ⟨m1, hm1, hl1, hg⟩ := markWeek_week f wkst hw (no1wkst + (n' - 1) * 7 - back) mask hi0
            (by rw [hlen]; omega) (by rw [hlen]; omega)
          refine ⟨m1, hm1, hl1, ?_⟩
          intro j hj0 hj1
          rw [hg j hj0 (by rw [hlen]; exact hj1)]
          have hwd : weekdayOfOrd (info.yearordinal + (no1wkst + (n' - 1) * 7 - back)) = wkst := by
            have e : info.yearordinal + (no1wkst + (n' - 1) * 7 - back) =
                info.yearordinal + (no1wkst - back) + 7 * (n' - 1) := by omega
            rw [e, weekdayOfOrd_add, hws]; omega
          rw [hwd]
          have e7 : (wkst - wkst - 1) % 7 + 1 = 7 := by omega
          rw [e7]
          unfold inWeek
          by_cases c : no1wkst + (n' - 1) * 7 - back ≤ j ∧ j < no1wkst + (n' - 1) * 7 - back + 7
          · rw [if_pos c, if_pos ⟨hin.1, hin.2, by omega, by omega⟩]
          · rw [if_neg c, if_neg (by rintro ⟨_, _, h1, h2⟩; omega)]
        · rw [if_neg h1]
          have hn1 : n' = 1 := by omega
          subst hn1
          obtain ⟨m1, hm1, hl1, hg⟩ := markWeek_week f wkst hw no1wkst mask hno.1
            (by rw [hlen]; omega) (by rw [hlen]; omega)
          refine ⟨m1, hm1, hl1, ?_⟩
          intro j hj0 hj1
          rw [hg j hj0 (by rw [hlen]; exact hj1)]
          -- the first week: from no1wkst to the next week start, which is no1wkst − back + 7
          have hrange := weekdayOfOrd_range (info.yearordinal + no1wkst)
          have hwd : weekdayOfOrd (info.yearordinal + no1wkst) = (wkst + back) % 7 := by
            have e : info.yearordinal + no1wkst = info.yearordinal + (no1wkst - back) + back := by omega
            rw [e, weekdayOfOrd_add, hws]
          rw [hwd]
          have e7 : (wkst - (wkst + back) % 7 - 1) % 7 + 1 = 7 - back := by rcases hback with h | h <;> omega
          rw [e7]
          unfold inWeek
          by_cases c : no1wkst ≤ j ∧ j < no1wkst + (7 - back)
          · rw [if_pos c, if_pos ⟨by omega, hin.2, by omega, by omega⟩]
          · rw [if_neg c, if_neg (by rintro ⟨_, _, h1, h2⟩; rcases hback with h | h <;> omega)]
      · rw [if_pos (by simpa using hin)]
        refine ⟨mask, rfl, rfl, ?_⟩
        intro j _ _
        rw [if_neg (by rintro ⟨h1, h2, _⟩; exact hin ⟨h1, h2⟩)]
    obtain ⟨m1, hm1, hl1, hg1⟩ := hstep
    obtain ⟨m2, hm2, hl2, hg2⟩ := ih m1 (by rw [hl1]; exact hlen)
    refine ⟨m2, ?_, by rw [hl2, hl1], ?_⟩
    · simp only [bind, Except.bind]
      rw [hm1]
      exact hm2
    · intro j hj0 hj1
      rw [hg2 j hj0 hj1, hg1 j hj0 hj1]
      by_cases c1 : ∃ n ∈ ns, 0 < normWeek numweeks n ∧ normWeek numweeks n ≤ numweeks ∧
          inWeek (no1wkst - back) (normWeek numweeks n) j
      · rw [if_pos c1, if_pos]
        obtain ⟨n, hn, rest⟩ := c1
        exact ⟨n, List.mem_cons_of_mem _ hn, rest⟩
      · rw [if_neg c1]
        by_cases c2 : 0 < normWeek numweeks n0 ∧ normWeek numweeks n0 ≤ numweeks ∧
            inWeek (no1wkst - back) (normWeek numweeks n0) j
        · rw [if_pos c2, if_pos ⟨n0, List.mem_cons_self .., c2⟩]
        · rw [if_neg c2, if_neg]
          rintro ⟨n, hn, rest⟩
          rcases List.mem_cons.mp hn with rfl | hn
          · exact c2 rest
          · exact c1 ⟨n, hn, rest⟩

end RRule
