/-
  Proofs/ListSet.lean — replacing one entry of a list (`List.set`) and appending one at the end, as the thread pools and
  handle lists of the state machines (Model/Factory.lean, Model/Cache.lean, Model/CacheNested.lean, Model/RRuleSet.lean) do;
  only what those developments share.
-/

namespace List
variable {α : Type _} {l : List α} {t : Nat} {a : α}

theorem lt_of_getElem? (h : l[t]? = some a) : t < l.length := (getElem?_eq_some_iff.mp h).1

theorem set_of_getElem? (h : l[t]? = some a) : l.set t a = l := by
  obtain ⟨hlt, rfl⟩ := getElem?_eq_some_iff.mp h
  exact set_getElem_self hlt

theorem set_concat_length (l : List α) (a b : α) : (l ++ [a]).set l.length b = l ++ [b] := by
  rw [set_append_right _ _ (Nat.le_refl _), Nat.sub_self]; rfl

theorem getElem?_concat_cases {x : α} (h : (l ++ [a])[t]? = some x) :
    (t < l.length ∧ l[t]? = some x) ∨ (t = l.length ∧ x = a) := by
  rcases Nat.lt_trichotomy t l.length with hlt | rfl | hgt
  · rw [getElem?_append_left hlt] at h; exact .inl ⟨hlt, h⟩
  · rw [getElem?_concat_length] at h; exact .inr ⟨rfl, (Option.some.inj h).symm⟩
  · rw [getElem?_eq_none (by rw [length_append]; exact hgt)] at h; cases h

theorem getElem?_set_self_of_getElem? {b : α} (h : l[t]? = some a) : (l.set t b)[t]? = some b :=
  getElem?_set_self (getElem?_eq_some_iff.mp h).1

theorem forall_getElem?_set {b : α} {P : Nat → α → Prop} (h : l[t]? = some a) (hself : P t b)
    (hother : ∀ t2 a2, t ≠ t2 → l[t2]? = some a2 → P t2 a2) :
    ∀ t2 a2, (l.set t b)[t2]? = some a2 → P t2 a2 := by
  intro t2 a2 h2
  by_cases he : t = t2
  · subst he
    rw [getElem?_set_self_of_getElem? h] at h2
    exact Option.some.inj h2 ▸ hself
  · rw [getElem?_set_ne he] at h2
    exact hother t2 a2 he h2

theorem sum_map_set (f : α → Nat) (h : l[t]? = some a) (b : α) :
    ((l.set t b).map f).sum + f a = (l.map f).sum + f b := by
  induction l generalizing t with
  | nil => cases h
  | cons x xs ih =>
    cases t with
    | zero =>
      cases Option.some.inj h
      simp only [set_cons_zero, map_cons, sum_cons]
      omega
    | succ t =>
      have := ih (t := t) h
      simp only [set_cons_succ, map_cons, sum_cons]
      omega

theorem sum_map_set_lt (f : α → Nat) (h : l[t]? = some a) (b : α) (hlt : f b < f a) :
    ((l.set t b).map f).sum < (l.map f).sum := by
  have := sum_map_set f h b
  omega

theorem sum_map_set_eq (f : α → Nat) (h : l[t]? = some a) (b : α) (he : f b = f a) :
    ((l.set t b).map f).sum = (l.map f).sum := by
  have := sum_map_set f h b
  omega

end List
