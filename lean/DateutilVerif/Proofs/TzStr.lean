/-
  Proofs/TzStr.lean — lemmas for C08: the `ydayidx` scan, ordinal bounds, and the heart of
  the property: `datetime(y,1,1) + _delta(rule)` lands on the POSIX rule date (`apply_M`, `apply_J`, `apply_N`);
  the tokenizer loses nothing (`tokens_flatten`, `tokens_nonempty`); what an accepted string's zone takes from the
  parse result (`tzstr_ok_inv`).
-/
import DateutilVerif.Model.TzStr
import DateutilVerif.Spec.Posix
import DateutilVerif.Proofs.Calendar

namespace TzStr

/-- non-leap days in month -/
def dimNL (m : Int) : Int := if m == 2 then 28 else if m == 4 || m == 6 || m == 9 || m == 11 then 30 else 31

def ydayOK (yd : Int) : Bool :=
  match ydayToMonthDay yd with
  | .ok (m, d) => decide (1 ≤ m ∧ m ≤ 12 ∧ 1 ≤ d ∧ d ≤ dimNL m ∧ Cal.dbmTable m + d = yd ∧ (m > 2 ↔ yd ≥ 60))
  | .error _ => false

theorem yday_table : ∀ k : Fin 365, ydayOK (1 + (k.val : Int)) = true := by decide +kernel

theorem yday_spec (yd : Int) (h1 : 1 ≤ yd) (h2 : yd ≤ 365) :
    ∃ m d, ydayToMonthDay yd = .ok (m, d) ∧ 1 ≤ m ∧ m ≤ 12 ∧ 1 ≤ d ∧ d ≤ dimNL m ∧
      Cal.dbmTable m + d = yd ∧ (m > 2 ↔ yd ≥ 60) := by
  have hk : (yd - 1).toNat < 365 := by omega
  have := yday_table ⟨(yd - 1).toNat, hk⟩
  have e : 1 + (((yd - 1).toNat : Nat) : Int) = yd := by omega
  simp only [e, ydayOK] at this
  split at this
  · rename_i m d heq
    refine ⟨m, d, heq, ?_⟩
    simpa using this
  · simp at this

theorem dimNL_le (y m : Int) : dimNL m ≤ Cal.daysInMonth y m := by
  unfold dimNL Cal.daysInMonth
  split <;> split <;> simp_all <;> split <;> omega

/-- ordinals of valid dates in years 1..9999 are within `1 .. maxOrdinal` -/
theorem toOrdinal_le_max (y m d : Int) (hy : y ≤ 9999) (h : Cal.ValidYMD y m d) :
    Cal.toOrdinal y m d ≤ Cal.maxOrdinal := by
  have e9 : Cal.toOrdinal 9999 12 31 = 3652059 := by decide
  unfold Cal.maxOrdinal
  by_cases c : y = 9999 ∧ m = 12 ∧ d = 31
  · obtain ⟨a, b, c⟩ := c; subst a b c; omega
  · have : Cal.toOrdinal y m d < Cal.toOrdinal 9999 12 31 := by
      apply Cal.toOrdinal_lt_of_lex y m d 9999 12 31 h (by decide)
      obtain ⟨m1, m12, d1, dd⟩ := h
      have := Cal.daysInMonth_bounds y m
      by_cases hy' : y < 9999
      · exact Or.inl hy'
      · right; refine ⟨by omega, ?_⟩
        by_cases hm : m < 12
        · exact Or.inl hm
        · right; refine ⟨by omega, ?_⟩
          have hm12 : m = 12 := by omega
          have hyy : y = 9999 := by omega
          subst hm12
          have : Cal.daysInMonth y 12 = 31 := by simp [Cal.daysInMonth]
          omega
    omega

/-- a year is at least 365 days long, so dates of year y ∈ 2..9998 are ≥ 366 and ≤ max − 365 -/
theorem ordinal_margin (y m d : Int) (h1 : 2 ≤ y) (h2 : y ≤ 9998) (h : Cal.ValidYMD y m d) :
    366 ≤ Cal.toOrdinal y m d ∧ Cal.toOrdinal y m d + 365 ≤ Cal.maxOrdinal := by
  have lo := Cal.toOrdinal_lt_of_lex 1 12 31 y m d (by decide) h (Or.inl (by omega))
  have e1 : Cal.toOrdinal 1 12 31 = 365 := by decide
  have hi := Cal.toOrdinal_lt_of_lex y m d 9999 1 1 h (by decide) (Or.inl (by omega))
  have e2 : Cal.toOrdinal 9999 1 1 = 3651695 := by decide
  unfold Cal.maxOrdinal
  omega

open Posix

theorem first_valid (y m : Int) (h1 : 1 ≤ m) (h2 : m ≤ 12) : Cal.ValidYMD y m 1 := by
  have := Cal.daysInMonth_bounds y m
  exact ⟨h1, h2, by omega, by omega⟩

/-- base instant for an absolute (month, day ≥ 1) with leapdays ∈ {0, −1}: the day is clipped to the month -/
theorem baseInstant_md (y m dd ld secs : Int) (wd : Option (Int × Int)) (hy1 : 2 ≤ y) (hy2 : y ≤ 9998)
    (hm1 : 1 ≤ m) (hm2 : m ≤ 12) (hd1 : 1 ≤ dd) (hld : ld = 0 ∨ ld = -1)
    (hs1 : -86400 * 300 ≤ secs) (hs2 : secs < 86400 * 300) :
    baseInstant y { month := some m, day := some dd, weekday := wd, leapdays := ld, seconds := secs }
      = .ok ((Cal.toOrdinal y m (min (Cal.daysInMonth y m) dd) +
          (if ld != 0 && decide (m > 2) && Cal.isLeap y then ld else 0)) * 86400 + secs) := by
  have hb := Cal.daysInMonth_bounds y m
  have hv : Cal.ValidYMD y m (min (Cal.daysInMonth y m) dd) := ⟨hm1, hm2, by omega, by omega⟩
  have mg := ordinal_margin y m _ hy1 hy2 hv
  unfold baseInstant
  have hm0 : (m != 0) = true := by simp; omega
  have hd0 : (dd != 0) = true := by simp; omega
  simp only [hm0, hd0, if_true]
  rw [if_neg (by omega), if_neg (by omega), if_neg (by omega)]
  have : inRange ((Cal.toOrdinal y m (min (Cal.daysInMonth y m) dd) +
      (if (ld != 0 && decide (m > 2) && Cal.isLeap y) = true then ld else 0)) * 86400 + secs) = true := by
    unfold inRange Cal.maxOrdinal at *
    simp only [decide_eq_true_eq]
    split <;> omega
  rw [if_pos this]

theorem weekdayJump_pos (cur wd n : Int) (hn : 1 ≤ n) :
    weekdayJump cur wd n = (n - 1) * 7 + (wd - cur) % 7 := by
  unfold weekdayJump Py.iabs
  have h0 : (n != 0) = true := by simp; omega
  simp only [h0, if_true]
  rw [if_pos (by omega), if_neg (by omega)]
  omega

theorem weekdayJump_neg1 (cur wd : Int) :
    weekdayJump cur wd (-1) = -((cur - wd) % 7) := by
  unfold weekdayJump Py.iabs
  simp

/-- from a time of day on ordinal day `o`, the weekday step moves by whole days -/
theorem weekdayStep_day (o secs wd n : Int) (hs1 : 0 ≤ secs) (hs2 : secs < 86400)
    (hlo : 1 ≤ o + weekdayJump (Cal.weekdayOfOrd o) wd n)
    (hhi : o + weekdayJump (Cal.weekdayOfOrd o) wd n ≤ Cal.maxOrdinal) :
    weekdayStep (o * 86400 + secs) (some (wd, n)) = .ok ((o + weekdayJump (Cal.weekdayOfOrd o) wd n) * 86400 + secs) := by
  have hq : (o * 86400 + secs) / 86400 = o := by omega
  unfold weekdayStep
  simp only [hq]
  generalize weekdayJump (Cal.weekdayOfOrd o) wd n = j at *
  have hr : inRange (o * 86400 + secs + j * 86400) = true := by
    unfold inRange; simp only [decide_eq_true_eq]; omega
  rw [if_pos hr]
  congr 1
  omega

/-- weeks 1..4: the `w`-th weekday `d` on or after the first of the month -/
theorem ruleOrdinal_M_nth (y m w d : Int) (hw1 : 1 ≤ w) (hw2 : w ≤ 4) :
    ruleOrdinal y (.M m w d) =
      Cal.toOrdinal y m 1 + weekdayJump (Cal.weekdayOfOrd (Cal.toOrdinal y m 1)) ((d + 6) % 7) w := by
  have hb := Cal.daysInMonth_bounds y m
  have hc := Cal.weekdayOfOrd_range (Cal.toOrdinal y m 1)
  rw [weekdayJump_pos _ _ w hw1]
  unfold ruleOrdinal
  simp only
  generalize Cal.weekdayOfOrd (Cal.toOrdinal y m 1) = cur at *
  split <;> omega

/-- week 5: the last weekday `d` on or before the last of the month -/
theorem ruleOrdinal_M_last (y m d : Int) :
    ruleOrdinal y (.M m 5 d) = Cal.toOrdinal y m (Cal.daysInMonth y m) +
      weekdayJump (Cal.weekdayOfOrd (Cal.toOrdinal y m (Cal.daysInMonth y m))) ((d + 6) % 7) (-1) := by
  have hb := Cal.daysInMonth_bounds y m
  have hlast : Cal.toOrdinal y m (Cal.daysInMonth y m) = Cal.toOrdinal y m 1 + Cal.daysInMonth y m - 1 := by
    unfold Cal.toOrdinal; omega
  rw [weekdayJump_neg1, hlast]
  unfold ruleOrdinal Cal.weekdayOfOrd
  simp only
  split <;> omega
/-- **`Mm.w.d`**: `datetime(y,1,1)` plus the relativedelta `_delta` builds for the rule (month, day 1 or 31, the `w`-th / last
    weekday, the time of day as seconds) is the POSIX rule date plus those seconds, when they stay inside the day (any `d`:
    only `(d + 6) % 7` is read) -/
theorem apply_M (y m w d secs : Int) (hy1 : 2 ≤ y) (hy2 : y ≤ 9998)
    (hm1 : 1 ≤ m) (hm2 : m ≤ 12) (hw1 : 1 ≤ w) (hw2 : w ≤ 5)
    (hs1 : 0 ≤ secs) (hs2 : secs < 86400) :
    applyDelta y { month := some m, day := some (if (if w == 5 then -1 else w) > 0 then 1 else 31),
                   weekday := some (Py.fmod (d - 1) 7, if w == 5 then -1 else w), seconds := secs }
      = .ok (ruleOrdinal y (.M m w d) * 86400 + secs) := by
  have hb := Cal.daysInMonth_bounds y m
  have hwd : Py.fmod (d - 1) 7 = (d + 6) % 7 := by
    rw [Py.fmod_pos _ (by omega)]; omega
  have hdayarg : (1:Int) ≤ (if (if w == 5 then -1 else w) > 0 then 1 else 31) := by split <;> omega
  unfold applyDelta
  rw [baseInstant_md y m _ 0 secs _ hy1 hy2 hm1 hm2 hdayarg (Or.inl rfl) (by omega) (by omega)]
  simp only [hwd, show ((0:Int) != 0) = false from rfl, Bool.false_and, Bool.false_eq_true, if_false, Int.add_zero]
  by_cases hw5 : w = 5
  · subst hw5
    have mg := ordinal_margin y m _ hy1 hy2 ⟨hm1, hm2, by omega, Int.le_refl (Cal.daysInMonth y m)⟩
    have hmin : min (Cal.daysInMonth y m) 31 = Cal.daysInMonth y m := by omega
    simp only [show ((5:Int) == 5) = true from rfl, if_true, show ¬ ((-1:Int) > 0) from by omega, if_false, hmin]
    rw [ruleOrdinal_M_last]
    have hj := weekdayJump_neg1 (Cal.weekdayOfOrd (Cal.toOrdinal y m (Cal.daysInMonth y m))) ((d + 6) % 7)
    exact weekdayStep_day _ secs _ _ hs1 hs2 (by omega) (by omega)
  · have hwne : (w == 5) = false := by simp; omega
    have mg := ordinal_margin y m 1 hy1 hy2 (first_valid y m hm1 hm2)
    have hmin : min (Cal.daysInMonth y m) 1 = 1 := by omega
    simp only [hwne, if_false, show w > 0 from by omega, if_true, Bool.false_eq_true, hmin]
    rw [ruleOrdinal_M_nth y m w d hw1 (by omega)]
    have hj := weekdayJump_pos (Cal.weekdayOfOrd (Cal.toOrdinal y m 1)) ((d + 6) % 7) w hw1
    exact weekdayStep_day _ secs _ _ hs1 hs2 (by omega) (by omega)

/-- **`Jn`**: the month and day of the `ydayidx` scan, applied to `datetime(y,1,1)`, is the n-th day not counting February 29 -/
theorem apply_J (y n secs : Int) (hy1 : 2 ≤ y) (hy2 : y ≤ 9998) (hn1 : 1 ≤ n) (hn2 : n ≤ 365)
    (hs1 : -86400 * 300 ≤ secs) (hs2 : secs < 86400 * 300) :
    ∃ m dd, ydayToMonthDay n = .ok (m, dd) ∧
      applyDelta y { month := some m, day := some dd, seconds := secs } = .ok (ruleOrdinal y (.J n) * 86400 + secs) := by
  obtain ⟨m, dd, he, m1, m12, d1, d2, hsum, hiff⟩ := yday_spec n hn1 hn2
  refine ⟨m, dd, he, ?_⟩
  unfold applyDelta
  have hmin : min (Cal.daysInMonth y m) dd = dd := by have := dimNL_le y m; omega
  rw [baseInstant_md y m dd 0 secs none hy1 hy2 m1 m12 d1 (Or.inl rfl) hs1 hs2, hmin]
  simp only [show ((0:Int) != 0) = false from rfl, Bool.false_and, Bool.false_eq_true, if_false, Int.add_zero]
  simp only [weekdayStep]
  congr 1
  have h1 : Cal.dbmTable 1 = 0 := by decide
  unfold ruleOrdinal Cal.toOrdinal Cal.daysBeforeMonth
  rw [h1]
  generalize Cal.dbmTable m = T at *
  generalize Cal.daysBeforeYear y = B at *
  cases hl : Cal.isLeap y <;> simp <;> (try split) <;> omega

/-- **zero-based `n`**: the scan's month and day with `leapdays = -1` past day 59 is day `n` of the year counting February 29 -/
theorem apply_N (y n secs : Int) (hy1 : 2 ≤ y) (hy2 : y ≤ 9998) (hn1 : 0 ≤ n) (hn2 : n ≤ 364)
    (hs1 : -86400 * 300 ≤ secs) (hs2 : secs < 86400 * 300) :
    ∃ m dd, ydayToMonthDay (n + 1) = .ok (m, dd) ∧
      applyDelta y { month := some m, day := some dd, leapdays := (if 59 < n + 1 ∧ n + 1 < 366 then -1 else 0), seconds := secs }
        = .ok (ruleOrdinal y (.N n) * 86400 + secs) := by
  obtain ⟨m, dd, he, m1, m12, d1, d2, hsum, hiff⟩ := yday_spec (n + 1) (by omega) (by omega)
  refine ⟨m, dd, he, ?_⟩
  unfold applyDelta
  have hmin : min (Cal.daysInMonth y m) dd = dd := by have := dimNL_le y m; omega
  rw [baseInstant_md y m dd _ secs none hy1 hy2 m1 m12 d1 (by split <;> simp) hs1 hs2, hmin]
  simp only [weekdayStep]
  congr 1
  have h1 : Cal.dbmTable 1 = 0 := by decide
  unfold ruleOrdinal Cal.toOrdinal Cal.daysBeforeMonth
  rw [h1]
  generalize Cal.dbmTable m = T at *
  generalize Cal.daysBeforeYear y = B at *
  cases hl : Cal.isLeap y <;> simp <;> (repeat' split) <;> omega

theorem tokensAux_flatten (cs : List Char) (st : Option (CK × List Char)) (acc : List String) :
    ((tokensAux cs st acc).map String.toList).flatten =
      ((acc.reverse.map String.toList).flatten ++ (match st with | some (_, cur) => cur.reverse | none => []) ++ cs) := by
  induction cs generalizing st acc with
  | nil =>
    cases st with
    | none => simp [tokensAux]
    | some p => obtain ⟨k, cur⟩ := p; simp [tokensAux]
  | cons c cs ih =>
    cases st with
    | none => simp [tokensAux, ih]
    | some p =>
      obtain ⟨k, cur⟩ := p
      simp only [tokensAux]
      split
      · rw [ih]; simp
      · rw [ih]; simp

/-- the tokenizer loses nothing: the tokens concatenate back to the input -/
theorem tokens_flatten (s : String) : ((tokens s).map String.toList).flatten = s.toList := by
  unfold tokens
  rw [tokensAux_flatten]
  simp

theorem ofList_reverse_ne (cur : List Char) (hc : cur ≠ []) : String.ofList cur.reverse ≠ "" := by
  intro he
  have : (String.ofList cur.reverse).toList = [] := by rw [he]; rfl
  simp at this
  exact hc this

theorem tokensAux_nonempty (cs : List Char) (st : Option (CK × List Char)) (acc : List String)
    (hacc : ∀ t ∈ acc, t ≠ "") (hst : ∀ k cur, st = some (k, cur) → cur ≠ []) :
    ∀ t ∈ tokensAux cs st acc, t ≠ "" := by
  induction cs generalizing st acc with
  | nil =>
    cases st with
    | none => simpa [tokensAux] using hacc
    | some p =>
      obtain ⟨k, cur⟩ := p
      have hc := hst k cur rfl
      intro t ht
      simp only [tokensAux, List.mem_reverse, List.mem_cons] at ht
      rcases ht with h | h
      · subst h; exact ofList_reverse_ne cur hc
      · exact hacc t h
  | cons c cs ih =>
    cases st with
    | none =>
      simp only [tokensAux]
      exact ih _ _ hacc (by intro k cur h; cases h; simp)
    | some p =>
      obtain ⟨k, cur⟩ := p
      have hc := hst k cur rfl
      simp only [tokensAux]
      split
      · exact ih _ _ hacc (by intro k' cur' h; cases h; simp)
      · apply ih
        · intro t ht
          simp only [List.mem_cons] at ht
          rcases ht with h | h
          · subst h; exact ofList_reverse_ne cur hc
          · exact hacc t h
        · intro k' cur' h; cases h; simp

/-- no token is empty (the `if x` filter of the list comprehension) -/
theorem tokens_nonempty (s : String) : ∀ t ∈ tokens s, t ≠ "" := by
  unfold tokens
  exact tokensAux_nonempty _ _ _ (by simp) (by simp)

/-- what an accepted string's zone takes from the parse result: the abbreviations as parsed, and daylight time only with a
    daylight abbreviation -/
theorem tzstr_ok_inv (s : String) (posix : Bool) (z : Zone) (h : tzstr s posix = .ok z) :
    ∃ res, parse s = .ok (some res) ∧ z.stdAbbr = res.stdabbr ∧ z.dstAbbr = res.dstabbr ∧
      (z.hasdst = true → ∃ a, res.dstabbr = some a) := by
  unfold tzstr at h
  cases hp : parse s with
  | error e => rw [hp] at h; cases h
  | ok r =>
    cases r with
    | none => rw [hp] at h; cases h
    | some res =>
      refine ⟨res, rfl, ?_⟩
      simp only [hp, bind, Except.bind, pure, Except.pure] at h
      split at h
      · cases h
      generalize (if ((res.stdabbr == some "GMT" || res.stdabbr == some "UTC") && !posix) = true then
        Option.map (fun x => x * -1) res.stdoffset else res.stdoffset) = so at h
      cases hc : tdCheck (so.getD 0) with
      | error e => rw [hc] at h; cases h
      | ok u =>
        simp only [hc] at h
        cases hd : res.dstabbr with
        | none =>
          simp only [hd] at h
          split at h
          · cases h
          · cases h; exact ⟨rfl, rfl, fun hh => nomatch hh⟩
        | some a =>
          have : z.stdAbbr = res.stdabbr ∧ z.dstAbbr = some a := by
            simp only [hd] at h
            repeat' split at h
            all_goals first
              | (cases h; done)
              | (cases h; exact ⟨rfl, rfl⟩)
          exact ⟨this.1, this.2, fun _ => ⟨a, rfl⟩⟩

end TzStr
