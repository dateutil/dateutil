/-
  Proofs/ParserIso.lean — lexer lemmas on digit runs and separators, and the symbolic run of the
  parser on the all-numeric ISO-like shape `YYYY-MM-DD[T ]HH:MM:SS` (for C02 `parse_render_iso`).
-/
import DateutilVerif.Model.Parser
import DateutilVerif.Spec.ParserTemplates

namespace PM
open Py

@[simp] theorem lstate_n_aDot : (LState.n == LState.aDot) = false := by decide
@[simp] theorem lstate_n_nDot : (LState.n == LState.nDot) = false := by decide
@[simp] theorem lstate_a_aDot : (LState.a == LState.aDot) = false := by decide
@[simp] theorem lstate_a_nDot : (LState.a == LState.nDot) = false := by decide

/-- a non-empty run of characters the classification calls digits (none of them NUL) -/
def DigRun (cls : Char → CClass) (t : List Char) : Prop :=
  ∀ c ∈ t, (cls c).isNum = true ∧ c ≠ '\x00'

theorem step_digit_n (cls : Char → CClass) (acc : List Char) (c : Char) (hc : (cls c).isNum = true) (h0 : c ≠ '\x00') :
    step cls { state := .n, tok := acc, seen := false } c = ([], { state := .n, tok := c :: acc, seen := false }) := by
  unfold step
  simp [h0, hc]

/-- a digit run read in state `'0'` is appended to the token -/
theorem scan_run_n (cls : Char → CClass) (ds : List Char) (hds : DigRun cls ds) :
    ∀ (acc rest : List Char),
      scan cls { state := .n, tok := acc, seen := false } (ds ++ rest) =
      scan cls { state := .n, tok := ds.reverse ++ acc, seen := false } rest := by
  induction ds with
  | nil => intro acc rest; rfl
  | cons d ds ih =>
    intro acc rest
    have hd := hds d List.mem_cons_self
    have hds' : DigRun cls ds := fun c hc => hds c (List.mem_cons_of_mem _ hc)
    simp only [List.cons_append, scan, step_digit_n cls acc d hd.1 hd.2, List.nil_append]
    rw [ih hds' (d :: acc) rest]
    simp

/-- a number token that is only digits is emitted as it stands -/
theorem emit_n (acc : List Char) : emit { state := .n, tok := acc, seen := false } = [acc.reverse] := by
  unfold emit
  simp

/-- starting a token with a digit -/
theorem start_digit (cls : Char → CClass) (c : Char) (hc : (cls c).isNum = true) (hw : (cls c).isWord = false) :
    start cls c = ([], { state := .n, tok := [c], seen := false }) := by
  unfold start; simp [hc, hw]

theorem isNum_not_isWord (k : CClass) (h : k.isNum = true) : k.isWord = false := by
  cases k <;> simp_all [CClass.isNum, CClass.isWord]

/-- a whole digit run from the initial state -/
theorem scan_run_init (cls : Char → CClass) (d : Char) (ds : List Char) (h : DigRun cls (d :: ds)) (rest : List Char) :
    scan cls .init ((d :: ds) ++ rest) = scan cls { state := .n, tok := (d :: ds).reverse, seen := false } rest := by
  have hd := h d List.mem_cons_self
  have hds : DigRun cls ds := fun c hc => h c (List.mem_cons_of_mem _ hc)
  have hstep : step cls .init d = ([], { state := .n, tok := [d], seen := false }) := by
    unfold step
    simp only [hd.2, if_false, LexSt.init]
    exact start_digit cls d hd.1 (isNum_not_isWord _ hd.1)
  simp only [List.cons_append, scan, hstep, List.nil_append]
  rw [scan_run_n cls ds hds [d] rest]
  simp

/-- after a number: a single "other" character (not NUL, `.`, `,`) ends the token and is its own token -/
theorem scan_other_after_n (cls : Char → CClass) (acc : List Char) (c : Char) (rest : List Char)
    (hk : cls c = .other) (h0 : c ≠ '\x00') (h1 : c ≠ '.') (h2 : c ≠ ',') :
    scan cls { state := .n, tok := acc, seen := false } (c :: rest) = acc.reverse :: [c] :: scan cls .init rest := by
  simp only [scan]
  have : step cls { state := .n, tok := acc, seen := false } c = ([acc.reverse, [c]], .init) := by
    unfold step pushBack start
    simp [h0, hk, h1, h2, CClass.isNum, CClass.isWord, CClass.isSpace, emit_n]
  rw [this]
  rfl

/-- after a number: a whitespace character ends the token and becomes `' '` -/
theorem scan_space_after_n (cls : Char → CClass) (acc : List Char) (c : Char) (rest : List Char)
    (hk : cls c = .space) (h0 : c ≠ '\x00') (h1 : c ≠ '.') (h2 : c ≠ ',') :
    scan cls { state := .n, tok := acc, seen := false } (c :: rest) = acc.reverse :: [' '] :: scan cls .init rest := by
  simp only [scan]
  have : step cls { state := .n, tok := acc, seen := false } c = ([acc.reverse, [' ']], .init) := by
    unfold step pushBack start
    simp [h0, hk, h1, h2, CClass.isNum, CClass.isWord, CClass.isSpace, emit_n]
  rw [this]
  rfl

/-- after a number: one letter followed by a digit run is a one-letter word token -/
theorem scan_letter_between (cls : Char → CClass) (acc : List Char) (c d : Char) (ds rest : List Char)
    (hk : cls c = .alpha) (h0 : c ≠ '\x00') (h1 : c ≠ '.') (h2 : c ≠ ',') (hd : DigRun cls (d :: ds)) (hdd : d ≠ '.') :
    scan cls { state := .n, tok := acc, seen := false } (c :: ((d :: ds) ++ rest)) =
      acc.reverse :: [c] :: scan cls { state := .n, tok := (d :: ds).reverse, seen := false } rest := by
  have hd0 := hd d List.mem_cons_self
  have hds : DigRun cls ds := fun x hx => hd x (List.mem_cons_of_mem _ hx)
  have s1 : step cls { state := .n, tok := acc, seen := false } c = ([acc.reverse], { state := .a, tok := [c], seen := false }) := by
    unfold step pushBack start
    simp [h0, hk, h1, h2, CClass.isNum, CClass.isWord, emit_n]
  have s2 : step cls { state := .a, tok := [c], seen := false } d = ([[c]], { state := .n, tok := [d], seen := false }) := by
    unfold step pushBack
    have hw := isNum_not_isWord _ hd0.1
    simp only [hd0.2, if_false, hw, Bool.false_eq_true, hdd]
    rw [start_digit cls d hd0.1 hw]
    simp [emit]
  simp only [List.cons_append, scan, s1, s2, List.cons_append, List.nil_append]
  rw [scan_run_n cls ds hds [d] rest]
  simp

/-- end of input after a number -/
theorem scan_end_n (cls : Char → CClass) (acc : List Char) :
    scan cls { state := .n, tok := acc, seen := false } [] = [acc.reverse] := by
  simp [scan, flush, emit_n]

/-- the whole lexer on the shape `Y-M-D<sep>H:Mi:Se` (digit runs, `-`, `:` and a separator that is a
    single letter or a single whitespace character) -/
theorem lex_iso_shape (cls : Char → CClass) (y0 m0 d0 h0 i0 s0 : Char) (Y M D H Mi Se : List Char) (sep : Char)
    (hY : DigRun cls (y0 :: Y)) (hM : DigRun cls (m0 :: M)) (hD : DigRun cls (d0 :: D))
    (hH : DigRun cls (h0 :: H)) (hMi : DigRun cls (i0 :: Mi)) (hSe : DigRun cls (s0 :: Se))
    (hdash : cls '-' = .other) (hcolon : cls ':' = .other)
    (hsep : (cls sep = .alpha ∨ cls sep = .space) ∧ sep ≠ '\x00' ∧ sep ≠ '.' ∧ sep ≠ ',') (hh0 : h0 ≠ '.') :
    lex cls ((y0 :: Y) ++ '-' :: ((m0 :: M) ++ '-' :: ((d0 :: D) ++ sep :: ((h0 :: H) ++ ':' :: ((i0 :: Mi) ++ ':' :: ((s0 :: Se) ++ [])))))) =
      [y0 :: Y, ['-'], m0 :: M, ['-'], d0 :: D, (if cls sep = .alpha then [sep] else [' ']), h0 :: H, [':'],
       i0 :: Mi, [':'], s0 :: Se] := by
  unfold lex
  rw [scan_run_init cls y0 Y hY]
  rw [scan_other_after_n cls _ '-' _ hdash (by decide) (by decide) (by decide)]
  rw [scan_run_init cls m0 M hM]
  rw [scan_other_after_n cls _ '-' _ hdash (by decide) (by decide) (by decide)]
  rw [scan_run_init cls d0 D hD]
  have tail : scan cls { state := .n, tok := (h0 :: H).reverse, seen := false }
        (':' :: ((i0 :: Mi) ++ ':' :: ((s0 :: Se) ++ []))) = [h0 :: H, [':'], i0 :: Mi, [':'], s0 :: Se] := by
    rw [scan_other_after_n cls _ ':' _ hcolon (by decide) (by decide) (by decide)]
    rw [scan_run_init cls i0 Mi hMi]
    rw [scan_other_after_n cls _ ':' _ hcolon (by decide) (by decide) (by decide)]
    rw [scan_run_init cls s0 Se hSe]
    rw [scan_end_n]
    simp
  rcases hsep with ⟨hk | hk, hs0, hs1, hs2⟩
  · rw [scan_letter_between cls _ sep h0 H _ hk hs0 hs1 hs2 hH hh0, tail]
    simp [hk]
  · rw [scan_space_after_n cls _ sep _ hk hs0 hs1 hs2, scan_run_init cls h0 H hH, tail]
    simp [hk]

end PM
