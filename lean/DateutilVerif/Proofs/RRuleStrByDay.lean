/-
  Proofs/RRuleStrByDay.lean — `_handle_BYWEEKDAY`: the spellings `+nWD`, `nWD`, `WD(+n)`, `WD(n)`, `WD`
  of one BYDAY item, for every weekday and every n (C13).
-/
import DateutilVerif.Proofs.RRuleStrText

namespace RRuleStr
open ICal (isSpace upper splitOnChar pyInt rstrip strip isDigit splitLines)

variable {po : ParseOpts}

/-- a weekday name of `_weekday_map` with its number -/
def IsWD (w : List Char) (k : Int) : Prop := (w, k) ∈ weekdayMap

theorem isWD_wdName (k : Int) (h0 : 0 ≤ k) (h6 : k ≤ 6) : IsWD (wdName k) k := by
  have key : ∀ j ∈ [(0 : Int), 1, 2, 3, 4, 5, 6], IsWD (wdName j) j := by unfold IsWD; decide +kernel
  exact key k (by simp only [List.mem_cons, List.not_mem_nil, or_false]; omega)

/-- everything the spellings below use of a weekday name, checked once over the seven entries of `_weekday_map` -/
theorem isWD_facts {w : List Char} {k : Int} (h : IsWD w k) :
    lookup weekdayMap w = some k ∧ (∃ c r, w = c :: r ∧ isSignDigit c = false) ∧ '(' ∉ w ∧ (∀ c ∈ w, isAtom c = true) ∧ 0 ≤ k ∧ k ≤ 6 ∧
      parseWDay w = .ok (k, none) := by
  have key : ∀ p ∈ weekdayMap, lookup weekdayMap p.1 = some p.2 ∧ (p.1.head?.map isSignDigit = some false) ∧ '(' ∉ p.1 ∧
      (∀ c ∈ p.1, isAtom c = true) ∧ 0 ≤ p.2 ∧ p.2 ≤ 6 ∧ parseWDay p.1 = .ok (p.2, none) := by decide +kernel
  obtain ⟨h1, h2, h3⟩ := key _ h
  refine ⟨h1, ?_, h3⟩
  cases w with
  | nil => cases h2
  | cons c r => exact ⟨c, r, rfl, by simpa using h2⟩

theorem isSignDigit_not_paren {s : List Char} (h : ∀ c ∈ s, isSignDigit c = true) : '(' ∉ s := by
  intro hc; have := h _ hc; revert this; decide

/-- the prefix spelling: digits and signs, then the weekday name; `n = 0` is rejected (`rrule.weekday(wd, 0)` raises ValueError) -/
theorem parseWDay_prefix_eq {pre w : List Char} {k n : Int} (hw : IsWD w k) (hne : pre ≠ [])
    (hpre : ∀ c ∈ pre, isSignDigit c = true) (hn : pyInt pre = some n) :
    parseWDay (pre ++ w) = if n == 0 then .error .ValueError else .ok (k, some n) := by
  obtain ⟨hl, ⟨c, r, rfl, hc⟩, hp, _⟩ := isWD_facts hw
  have hcont : (pre ++ c :: r).contains '(' = false := by
    rw [Bool.eq_false_iff, Ne, contains_iff, List.mem_append]
    rintro (h | h)
    · exact isSignDigit_not_paren hpre h
    · exact hp h
  have hemp : (pre ++ c :: r).isEmpty = false := by cases pre <;> rfl
  have htw : (pre ++ c :: r).takeWhile isSignDigit = pre := by
    rw [List.takeWhile_append_of_pos hpre, List.takeWhile_cons_of_neg (by simp [hc])]; simp
  have hlen : (pre.length == (pre ++ c :: r).length) = false := by simp
  have hpe : pre.isEmpty = false := by cases pre with | nil => exact absurd rfl hne | cons => rfl
  unfold parseWDay
  simp only [hcont, Bool.false_eq_true, if_false, hemp, htw, hlen, List.take_left' rfl, List.drop_left' rfl, hl, hpe, hn]

theorem parseWDay_prefix {pre w : List Char} {k n : Int} (hw : IsWD w k) (hne : pre ≠ [])
    (hpre : ∀ c ∈ pre, isSignDigit c = true) (hn : pyInt pre = some n) (hn0 : n ≠ 0) :
    parseWDay (pre ++ w) = .ok (k, some n) :=
  (parseWDay_prefix_eq hw hne hpre hn).trans (if_neg (by simpa using hn0))

theorem parseWDay_zero_prefix {pre w : List Char} {k : Int} (hw : IsWD w k) (hne : pre ≠ [])
    (hpre : ∀ c ∈ pre, isSignDigit c = true) (hn : pyInt pre = some 0) :
    parseWDay (pre ++ w) = .error .ValueError :=
  parseWDay_prefix_eq hw hne hpre hn

theorem parseWDay_bare {w : List Char} {k : Int} (hw : IsWD w k) : parseWDay w = .ok (k, none) := (isWD_facts hw).2.2.2.2.2.2

/-- the `repr` spelling `WD(n)`; the real code drops the last character whatever it is (`splt[1][:-1]`); `n = 0` is rejected -/
theorem parseWDay_paren_eq {inner w : List Char} {k n : Int} (last : Char) (hw : IsWD w k)
    (hin : '(' ∉ inner) (hlast : last ≠ '(') (hn : pyInt inner = some n) :
    parseWDay (w ++ '(' :: (inner ++ [last])) = if n == 0 then .error .ValueError else .ok (k, some n) := by
  obtain ⟨hl, _, hp, _⟩ := isWD_facts hw
  have hcont : (w ++ '(' :: (inner ++ [last])).contains '(' = true := by simp
  have hsplit : splitOnChar '(' (w ++ '(' :: (inner ++ [last])) = [w, inner ++ [last]] :=
    splitOnChar_two '(' w _ hp (by
      rw [List.mem_append]; rintro (h | h)
      · exact hin h
      · simp at h; exact hlast h.symm)
  unfold parseWDay
  simp only [hcont, if_true, hsplit, List.headD_cons, List.getD_cons_succ, List.getD_cons_zero, List.dropLast_concat, hn, hl]

theorem parseWDay_paren {inner w : List Char} {k n : Int} (last : Char) (hw : IsWD w k)
    (hin : '(' ∉ inner) (hlast : last ≠ '(') (hn : pyInt inner = some n) (hn0 : n ≠ 0) :
    parseWDay (w ++ '(' :: (inner ++ [last])) = .ok (k, some n) :=
  (parseWDay_paren_eq last hw hin hlast hn).trans (if_neg (by simpa using hn0))

theorem parseWDay_zero_paren {inner w : List Char} {k : Int} (last : Char) (hw : IsWD w k)
    (hin : '(' ∉ inner) (hlast : last ≠ '(') (hn : pyInt inner = some 0) :
    parseWDay (w ++ '(' :: (inner ++ [last])) = .error .ValueError :=
  parseWDay_paren_eq last hw hin hlast hn

/-- an item made of letters only that is not a weekday name is rejected (KeyError inside, ValueError outside) -/
theorem parseWDay_unknown_name {w : List Char} (hne : w ≠ []) (hp : '(' ∉ w) (hsd : ∀ c ∈ w, isSignDigit c = false)
    (hl : lookup weekdayMap w = none) : parseWDay w = .error .KeyError := by
  have hcont : w.contains '(' = false := by rw [Bool.eq_false_iff, Ne, contains_iff]; exact hp
  have hemp : w.isEmpty = false := by cases w with | nil => exact absurd rfl hne | cons => rfl
  have htw : w.takeWhile isSignDigit = [] := by
    cases w with
    | nil => rfl
    | cons c r => exact List.takeWhile_cons_of_neg (by simp [hsd c (by simp)])
  have hlen : (0 == w.length) = false := by
    cases w with | nil => exact absurd rfl hne | cons => simp
  unfold parseWDay
  simp only [hcont, Bool.false_eq_true, if_false, hemp, htw, List.length_nil, hlen, List.take_zero, List.drop_zero, hl]
  simp

end RRuleStr
