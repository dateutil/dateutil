/- Proofs/IsoSound.lean — soundness of `isoparse`: accepted ⇒ the input is `render f x` for well-formed fields
   and the value is `denote f x`. -/
import DateutilVerif.Proofs.IsoSoundTime
namespace Iso
open Cal IsoSpec Py

/-- date fields from `xd`, time fields from `xt`, offset fields from `xo` -/
def mergeF (xd xt xo : Fields) : Fields :=
  { year := xd.year, a := xd.a, b := xd.b, hh := xt.hh, mm := xt.mm, ss := xt.ss, frac := xt.frac,
    neg := xo.neg, oh := xo.oh, om := xo.om }

theorem renderDate_merge (df : DateForm) (xd xt xo : Fields) : renderDate df (mergeF xd xt xo) = renderDate df xd := by
  cases df <;> rfl
theorem renderTime_merge (tf : TimeForm) (xd xt xo : Fields) : renderTime tf (mergeF xd xt xo) = renderTime tf xt := by
  cases tf <;> rfl
theorem renderOff_merge (o : OffForm) (xd xt xo : Fields) : renderOff o (mergeF xd xt xo) = renderOff o xo := by
  cases o <;> rfl
theorem dateWF_merge (b : Bool) (df : DateForm) (xd xt xo : Fields) : dateWF b df (mergeF xd xt xo) = dateWF b df xd := by
  cases df <;> rfl
theorem dateOrdinal_merge (df : DateForm) (xd xt xo : Fields) : dateOrdinal df (mergeF xd xt xo) = dateOrdinal df xd := by
  cases df <;> rfl
theorem timeShown_merge (tf : TimeForm) (xd xt xo : Fields) : timeShown tf (mergeF xd xt xo) = timeShown tf xt := rfl
theorem timeWF_merge (tf : TimeForm) (xd xt xo : Fields) : timeWF tf (mergeF xd xt xo) = timeWF tf xt := rfl
theorem offWF_merge (o : OffForm) (xd xt xo : Fields) : offWF o (mergeF xd xt xo) = offWF o xo := by
  cases o <;> rfl
theorem offDenote_merge (o : OffForm) (xd xt xo : Fields) : offDenote o (mergeF xd xt xo) = offDenote o xo := by
  cases o <;> rfl

theorem denoteOrdinal_merge (df : DateForm) (tf : TimeForm) (o : OffForm) (sep : Nat) (xd xt xo : Fields) :
    denoteOrdinal ⟨df, tf, o, sep⟩ (mergeF xd xt xo) =
      dateOrdinal df xd + (if (timeShown tf xt).1 = 24 then 1 else 0) := by
  show dateOrdinal df (mergeF xd xt xo) + _ = _
  rw [dateOrdinal_merge]; rfl

theorem final_dateonly (df : DateForm) (xd : Fields) (y m d : Int) (rest : Bytes)
    (hd : UncommonOK df xd (y, m, d) rest) :
    WFields ⟨df, .none, .naive, 84⟩ xd ∧ render ⟨df, .none, .naive, 84⟩ xd = renderDate df xd ∧
    denote ⟨df, .none, .naive, 84⟩ xd = ⟨{ y, m, d }, none⟩ := by
  obtain ⟨hwf, h1, h2, he, _⟩ := hd
  refine ⟨?_, rfl, ?_⟩
  · unfold WFields WFieldsB
    simp [IsoForm.ok, hwf, timeWF, timeShown, offWF, denoteOrdinal, TimeForm.hasFrac, TimeForm.hasM, TimeForm.hasS, h1, h2]
  · simp only [denote, denoteOrdinal, timeShown]
    simp [← he, offDenote, TimeForm.hasM, TimeForm.hasS, TimeForm.hasFrac]


theorem timeWF_of (tf : TimeForm) (xt : Fields) (hscan : TimeScan tf xt)
    (hrange : ((timeShown tf xt).1 ≤ 23 ∧ (timeShown tf xt).2.1 ≤ 59 ∧ (timeShown tf xt).2.2.1 ≤ 59) ∨
      ((timeShown tf xt).1 = 24 ∧ (timeShown tf xt).2.1 = 0 ∧ (timeShown tf xt).2.2.1 = 0 ∧
        (timeShown tf xt).2.2.2 = 0)) : timeWF tf xt = true :=
  (timeWF_iff tf xt).mpr ⟨hrange, hscan.2.2.2.2⟩

theorem final_time (df : DateForm) (xd : Fields) (tf : TimeForm) (xt : Fields) (o : OffForm) (xo : Fields)
    (sep : Nat) (y m d : Int) (rest : Bytes)
    (hd : UncommonOK df xd (y, m, d) rest) (hcomp : df.complete = true) (hscan : TimeScan tf xt)
    (how : offWF o xo = true)
    (hrange : ((timeShown tf xt).1 ≤ 23 ∧ (timeShown tf xt).2.1 ≤ 59 ∧ (timeShown tf xt).2.2.1 ≤ 59) ∨
      ((timeShown tf xt).1 = 24 ∧ (timeShown tf xt).2.1 = 0 ∧ (timeShown tf xt).2.2.1 = 0 ∧
        (timeShown tf xt).2.2.2 = 0 ∧ dateOrdinal df xd + 1 ≤ maxOrdinal)) :
    WFields ⟨df, tf, o, sep⟩ (mergeF xd xt xo) := by
  obtain ⟨hwf, h1, h2, he, _⟩ := hd
  obtain ⟨htf, hb1, hb2, hb3, hfr⟩ := hscan
  unfold WFields WFieldsB
  simp only [Bool.and_eq_true, decide_eq_true_eq]
  refine ⟨⟨⟨⟨?_, ?_⟩, ?_⟩, ?_⟩, ?_⟩
  · simp [IsoForm.ok, htf, hcomp]
  · rw [dateWF_merge]; exact hwf
  · rw [timeWF_merge]
    exact timeWF_of tf xt ⟨htf, hb1, hb2, hb3, hfr⟩
      (hrange.imp id fun h => ⟨h.1, h.2.1, h.2.2.1, h.2.2.2.1⟩)
  · rw [offWF_merge]; exact how
  · rw [denoteOrdinal_merge]
    rcases hrange with h | h
    · split <;> omega
    · split <;> omega


theorem mkDatetime_inv (y m d hh mm ss us : Int) (tz : Option Off) (v : Result)
    (h : mkDatetime y m d hh mm ss us tz = .ok v) :
    DT.Valid { y, m, d, hh, mm, ss, us } ∧ v = ⟨{ y, m, d, hh, mm, ss, us }, tz⟩ := by
  unfold mkDatetime at h
  by_cases hv : ({ y, m, d, hh, mm, ss, us } : DT).valid = true
  · simp only [hv, if_true] at h; cases h
    exact ⟨by simpa [DT.valid] using hv, rfl⟩
  · simp [hv] at h

theorem addDays_midnight_inv (y m d : Int) (hv : ValidDate y m d) (t : DT)
    (h : overflowToValue (DT.addDays { y, m, d, hh := 0, mm := 0, ss := 0, us := 0 } 1) = .ok t) :
    toOrdinal y m d + 1 ≤ maxOrdinal := by
  rw [addDays_midnight_char y m d hv] at h
  by_cases hle : toOrdinal y m d + 1 ≤ maxOrdinal
  · exact hle
  · rw [if_neg hle] at h; cases h

/-- soundness of `isoparse`: whatever it accepts is the rendering of a form with well-formed
    fields (strict ISO weeks), read with the configured separator, and the value is its denotation -/
theorem isoparse_sound_core (cfg : Option Nat) (s : Bytes) (v : Result) (h : isoparse cfg s = .ok v) :
    ∃ f x, WFields f x ∧ (f.time ≠ .none → (cfg = none ∨ cfg = some f.sep)) ∧
      s = render f x ∧ v = denote f x := by
  unfold isoparse at h
  cases hp : parseIsodate s with
  | error e => simp [hp, bind, Except.bind] at h
  | ok p =>
    obtain ⟨⟨y, m, d⟩, r⟩ := p
    simp only [hp, bind, Except.bind] at h
    obtain ⟨df, xd, es, hsc⟩ := parseIsodate_inv s _ _ hp
    by_cases hr : r = []
    · rw [if_neg (fun hn => hn hr)] at h
      obtain ⟨hval, rfl⟩ := mkDatetime_inv _ _ _ _ _ _ _ _ _ h
      have hd := dateScan_valid df xd y m d r hsc hval.1
      obtain ⟨hW, hR, hD⟩ := final_dateonly df xd y m d r hd
      refine ⟨⟨df, .none, .naive, 84⟩, xd, hW, fun hn => absurd rfl hn, ?_, ?_⟩
      · rw [hR, es, hr]; simp
      · rw [hD]
    · rw [if_pos hr] at h
      by_cases hsepc : cfg = none ∨ List.take 1 r = cfg.toList
      · rw [if_pos hsepc] at h
        cases r with
        | nil => exact absurd rfl hr
        | cons c0 r' =>
          simp only [List.drop_succ_cons, List.drop_zero] at h
          have hcfg : cfg = none ∨ cfg = some c0 := by
            rcases hsepc with hc | hc
            · exact Or.inl hc
            · cases cfg with
              | none => exact Or.inl rfl
              | some c => simp at hc; exact Or.inr (by rw [hc])
          cases ht : parseIsotime r' with
          | error e => simp [ht] at h
          | ok c =>
            simp only [ht] at h
            obtain ⟨tf, xt, o, xo, hscan, how, et, hc, h24rule⟩ := parseIsotime_inv r' c ht
            have hch : c.h = ((timeShown tf xt).1 : Int) := by rw [hc]; rfl
            have hcm : c.m = ((timeShown tf xt).2.1 : Int) := by rw [hc]; rfl
            have hcs : c.s = ((timeShown tf xt).2.2.1 : Int) := by rw [hc]; rfl
            have hcu : c.us = ((timeShown tf xt).2.2.2 : Int) := by rw [hc]; rfl
            have hctz : c.tz = offDenote o xo := by rw [hc]
            have hrender : s = render ⟨df, tf, o, c0⟩ (mergeF xd xt xo) := by
              rw [render_time _ _ _ _ _ hscan.1, renderDate_merge, renderTime_merge, renderOff_merge, es, et]
            by_cases h24 : c.h = 24
            · rw [if_pos h24] at h
              obtain ⟨z1, z2, z3⟩ := h24rule h24
              cases hmk : mkDatetime y m d 0 c.m c.s c.us c.tz with
              | error e => simp [hmk] at h
              | ok v0 =>
                simp only [hmk] at h
                obtain ⟨hval, rfl⟩ := mkDatetime_inv _ _ _ _ _ _ _ _ _ hmk
                have hd := dateScan_valid df xd y m d _ hsc hval.1
                have hcomp : df.complete = true := by
                  cases hcp : df.complete
                  · exact absurd (hd.2.2.2.2 hcp) (by simp)
                  · rfl
                simp only [z1, z2, z3] at h
                cases had : overflowToValue (DT.addDays { y, m, d, hh := 0, mm := 0, ss := 0, us := 0 } 1) with
                | error e => simp [had] at h
                | ok t =>
                  simp only [had] at h
                  cases h
                  have hle := addDays_midnight_inv y m d hval.1 t had
                  have hord : toOrdinal y m d = dateOrdinal df xd := by
                    have := hd.2.2.2.1
                    have e2 := (toOrdinal_fromOrdinal _ hd.2.1).1
                    rw [← this] at e2; exact e2
                  rw [addDays_midnight y m d hval.1 hle] at had
                  simp only [overflowToValue] at had
                  cases had
                  have hW := final_time df xd tf xt o xo c0 y m d _ hd hcomp hscan how
                    (Or.inr ⟨by omega, by omega, by omega, by omega, by omega⟩)
                  refine ⟨⟨df, tf, o, c0⟩, mergeF xd xt xo, hW, fun _ => hcfg, hrender, ?_⟩
                  have h24n : (timeShown tf xt).1 = 24 := by omega
                  simp only [denote, denoteOrdinal_merge, timeShown_merge, offDenote_merge, h24n, if_true, hord, hctz]
                  have a1 : (timeShown tf xt).2.1 = 0 := by omega
                  have a2 : (timeShown tf xt).2.2.1 = 0 := by omega
                  have a3 : (timeShown tf xt).2.2.2 = 0 := by omega
                  simp [a1, a2, a3]
            · rw [if_neg h24] at h
              obtain ⟨hval, rfl⟩ := mkDatetime_inv _ _ _ _ _ _ _ _ _ h
              have hd := dateScan_valid df xd y m d _ hsc hval.1
              have hcomp : df.complete = true := by
                cases hcp : df.complete
                · exact absurd (hd.2.2.2.2 hcp) (by simp)
                · rfl
              obtain ⟨_, v1, v2, v3, v4, v5, v6, v7, v8⟩ := hval
              simp only [] at v1 v2 v3 v4 v5 v6
              have hW := final_time df xd tf xt o xo c0 y m d _ hd hcomp hscan how
                (Or.inl ⟨by omega, by omega, by omega⟩)
              refine ⟨⟨df, tf, o, c0⟩, mergeF xd xt xo, hW, fun _ => hcfg, hrender, ?_⟩
              have h24n : ¬ (timeShown tf xt).1 = 24 := by omega
              simp only [denote, denoteOrdinal_merge, timeShown_merge, offDenote_merge, h24n, if_false, hctz,
                hch, hcm, hcs, hcu]
              simp [← hd.2.2.2.1]
      · rw [if_neg hsepc] at h; cases h
/-- soundness of `parse_isotime`, range checks of `time(...)` included: what it accepts is the rendering of a time form
    and an offset form with well-formed fields, and the value is what they show (hour 24 returned as 0) -/
theorem parseIsotimeEntry_sound (s : Bytes) (c : TComps) (h : parseIsotimeEntry s = .ok c) :
    ∃ (tf : TimeForm) (o : OffForm) (x : Fields), tf ≠ .none ∧ timeWF tf x = true ∧ offWF o x = true ∧
      s = renderTime tf x ++ renderOff o x ∧
      c = { h := if (timeShown tf x).1 = 24 then 0 else ((timeShown tf x).1 : Int),
            m := (timeShown tf x).2.1, s := (timeShown tf x).2.2.1, us := (timeShown tf x).2.2.2,
            tz := offDenote o x } := by
  unfold parseIsotimeEntry at h
  cases ht : parseIsotime s with
  | error e => simp [ht, bind, Except.bind] at h
  | ok c0 =>
    simp only [ht, bind, Except.bind] at h
    obtain ⟨tf, xt, o, xo, hscan, how, et, hc, h24rule⟩ := parseIsotime_inv s c0 ht
    have hch : c0.h = ((timeShown tf xt).1 : Int) := by rw [hc]; rfl
    have hcm : c0.m = ((timeShown tf xt).2.1 : Int) := by rw [hc]; rfl
    have hcs : c0.s = ((timeShown tf xt).2.2.1 : Int) := by rw [hc]; rfl
    have hcu : c0.us = ((timeShown tf xt).2.2.2 : Int) := by rw [hc]; rfl
    have hctz : c0.tz = offDenote o xo := by rw [hc]
    let xd : Fields := { year := 0 }
    have fin : ∀ (hW : timeWF tf xt = true),
        ∃ (tf : TimeForm) (o : OffForm) (x : Fields), tf ≠ .none ∧ timeWF tf x = true ∧ offWF o x = true ∧
        s = renderTime tf x ++ renderOff o x ∧
        ({ c0 with h := if c0.h = 24 then 0 else c0.h } : TComps) =
          { h := if (timeShown tf x).1 = 24 then 0 else ((timeShown tf x).1 : Int),
            m := (timeShown tf x).2.1, s := (timeShown tf x).2.2.1, us := (timeShown tf x).2.2.2,
            tz := offDenote o x } := by
      intro hW
      refine ⟨tf, o, mergeF xd xt xo, hscan.1, by rw [timeWF_merge]; exact hW, by rw [offWF_merge]; exact how,
        by rw [renderTime_merge, renderOff_merge]; exact et, ?_⟩
      simp only [timeShown_merge, offDenote_merge, hctz, hcm, hcs, hcu, hch]
      by_cases h24 : (timeShown tf xt).1 = 24
      · simp [h24]
      · have : ¬ ((timeShown tf xt).1 : Int) = 24 := by omega
        simp [h24, this]
    by_cases h24 : c0.h = 24
    · obtain ⟨z1, z2, z3⟩ := h24rule h24
      simp only [h24, if_true] at h fin
      split at h
      · cases h
        exact fin (timeWF_of tf xt hscan (Or.inr ⟨by omega, by omega, by omega, by omega⟩))
      · cases h
    · simp only [h24, if_false] at h fin
      split at h
      · rename_i hr
        cases h
        exact fin (timeWF_of tf xt hscan (Or.inl ⟨by omega, by omega, by omega⟩))
      · cases h

theorem sep_irrelevant (f : IsoForm) (x : Fields) (c : Nat) (h : f.time = .none) :
    WFields { f with sep := c } x = WFields f x ∧ render { f with sep := c } x = render f x ∧
    denote { f with sep := c } x = denote f x := by
  obtain ⟨df, tf, o, sep⟩ := f
  simp only at h; subst h
  exact ⟨rfl, rfl, rfl⟩

/-- with a configured (non-digit) separator, the accepted strings are EXACTLY the renderings of
    well-formed fields with that separator, and the value is the denotation -/
theorem isoparse_accepts_iff (c : Nat) (hc : isDigit c = false) (s : Bytes) (v : Result) :
    isoparse (some c) s = .ok v ↔
      ∃ f x, WFields f x ∧ f.sep = c ∧ s = render f x ∧ v = denote f x := by
  constructor
  · intro h
    obtain ⟨f, x, hW, hs, er, ev⟩ := isoparse_sound_core (some c) s v h
    by_cases ht : f.time = .none
    · obtain ⟨e1, e2, e3⟩ := sep_irrelevant f x c ht
      exact ⟨{ f with sep := c }, x, by rw [e1]; exact hW, rfl, by rw [e2]; exact er, by rw [e3]; exact ev⟩
    · rcases hs ht with h0 | h0
      · cases h0
      · exact ⟨f, x, hW, by injection h0 with h0; exact h0.symm, er, ev⟩
  · rintro ⟨f, x, hW, rfl, rfl, rfl⟩
    exact isoparse_render_core f x (some f.sep) hW (fun _ _ => hc) fun _ => Or.inr rfl

end Iso
