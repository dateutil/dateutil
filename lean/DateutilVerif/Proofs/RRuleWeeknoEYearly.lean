/-
  Proofs/RRuleWeeknoEYearly.lean — YEARLY with BYWEEKNO (complement of D-C01c) TOGETHER with BYEASTER (offsets −80..250,
  years 1583..4099), plain BYDAY allowed: the week-number mask and the Easter mask are both present and the filter is
  `simpleOk ∧ week clause ∧ Easter clause`, i.e. `dateOk` (Proofs/RRuleBridge.lean, `plain_filtered`).
-/
import DateutilVerif.Proofs.RRuleNthEMonthly
import DateutilVerif.Proofs.RRuleWeeknoYearly

namespace RRule
open Cal

structure WeeknoEYArgs (a : Args) : Prop where
  freq : a.freq = 0
  interval : 1 ≤ a.interval
  valid : a.dtstart.Valid
  wkst : 0 ≤ a.wkst.getD 0 ∧ a.wkst.getD 0 ≤ 6
  monthday_nz : ∀ x ∈ a.bymonthday.getD [], x ≠ 0
  plain : ∀ w ∈ a.byweekday.getD [], w.2 = 0
  weekno : ∃ wl, a.byweekno = some wl ∧ wl ≠ [] ∧ WnoOk wl
  easter : ∃ el, a.byeaster = some el ∧ el ≠ [] ∧ ∀ o ∈ el, -80 ≤ o ∧ o ≤ 250

variable {a : Args} {r : Rule} {y : Int} {info : Info}

/-- week-number mask and Easter mask, no nth BYDAY -/
structure WeeknoERule (r : Rule) : Prop where
  byweekno : truthy r.byweekno = true
  bynweekday : truthy r.bynweekday = false
  byeaster : truthy r.byeaster = true

theorem WeeknoEYArgs.plainDays (wa : WeeknoEYArgs a) : ∀ w ∈ (weekdayArg a).getD [], w.2 = 0 ∨ a.freq > 1 := by
  rw [weekdayArg_of_ne2 (by rw [wa.freq]; omega)]
  exact fun w hw => Or.inl (wa.plain w hw)

theorem weeknoERule_of (D : DateFields a r) (wa : WeeknoEYArgs a) : WeeknoERule r :=
  ⟨(weekno_rule D wa.weekno).2, by rw [D.bynweekday]; exact bynweekday_plain wa.plainDays, (easter_rule D wa.easter).2⟩

structure WeeknoEGood (a : Args) (r : Rule) (k : Nat) (st : State) : Prop where
  facts : YearFacts r st.cur.year st.info
  timeset : st.timeset = Spec.RRule.timesOf a none none none
  year : st.cur.year = a.dtstart.y + k * a.interval
  nwd : st.info.nwdaymask = none
  masks : ∃ wmask emask, st.info.wnomask = some wmask ∧ (wmask.length : Int) = st.info.yearlen + 7 ∧
    (∀ j : Int, 0 ≤ j → j < st.info.yearlen →
      Py.getIdx wmask j = .ok (if weekClause r.wkst (weeknosOf a) (st.info.yearordinal + j) = true then 1 else 0)) ∧
    st.info.eastermask = some emask ∧ st.info.yearlen ≤ (emask.length : Int) ∧
    (∀ j : Int, 0 ≤ j → j < st.info.yearlen →
      Py.getIdx emask j =
        .ok (if (st.info.yearordinal + j - Spec.RRule.easterOrd st.cur.year) ∈ eastersOf a then 1 else 0))

/-- what `rebuild` establishes here: no nth mask, the week-number mask and the Easter mask of the year -/
def WeeknoEInv (a : Args) (r : Rule) (y _m : Int) (info : Info) : Prop :=
  info.nwdaymask = none ∧ WeeknoMarks r.wkst (weeknosOf a) info info.yearlen ∧ EasterMarks a y info

theorem wey_filter (wa : WeeknoEYArgs a) (h : construct a = .ok r) :
    PeriodFilter a r 1583 4099 (WeeknoEInv a r) yearDays where
  lo := by omega
  hi := by omega
  rebuild := fun y m hy1 hy2 _ _ => by
    have D := construct_dateFields h
    obtain ⟨w, hw, hW⟩ := wnomaskOf_in D wa.weekno wa.wkst (by omega : 1 ≤ y) (by omega : y ≤ 9999)
    obtain ⟨e, he, hE⟩ := eastermaskOf_in D wa.easter hy1 hy2
    exact ⟨_, rebuild_eq r m (by omega) (by omega) hw (buildNwdaymask_off (weeknoERule_of D wa).bynweekday ..) he,
      rfl, hW _ _, hE _ _⟩
  filtered := fun {y m info i} f inv hi =>
    have D := construct_dateFields h
    plain_filtered D (monthdayArg_nz wa.monthday_nz wa.valid) wa.plainDays f i hi.1 (by have := hi.2; omega) inv.1
      (weekno_miss_on D wa.weekno inv.2.1 hi.1 hi.2) (easter_miss_on D wa.easter f inv.2.2.marked hi.1 hi.2 hi.2)

/-- the state invariant of the YEARLY refinement, read for this family -/
theorem wey_good (wa : WeeknoEYArgs a) {k : Nat} {st : State} (g : PeriodGood (WeeknoEInv a r) a r k st) :
    WeeknoEGood a r k st := by
  obtain ⟨hnw, ⟨wm, a1, a2, a3⟩, em, b1, b2, b3⟩ := g.inv
  exact ⟨g.facts, g.timeset, g.yearly wa.freq, hnw, wm, em, a1, a2, a3, b1, b2, b3⟩

/-- **`iter_eq_spec`, YEARLY with BYWEEKNO and BYEASTER together** (BYWEEKNO on the complement of D-C01c, a week start
    0..6; offsets −80..250, years 1583..4099; plain BYDAY / BYMONTH / BYMONTHDAY / BYYEARDAY / BYSETPOS allowed) -/
theorem iter_eq_spec_yearly_weekno_easter (wa : WeeknoEYArgs a) (h : construct a = .ok r) (n : Nat)
    (hlo : 1583 ≤ a.dtstart.y) (hy : a.dtstart.y + n * a.interval ≤ 4099) :
    (iter r n).1 = Spec.RRule.occ a n := by
  exact yearly_refines h wa.freq wa.valid (wey_filter wa h) n hlo hy

-- a WeeknoEYArgs instance: Good Friday when it falls in week 13, 14 or 15, and Easter Monday in week 14..17
example : WeeknoEYArgs { freq := 0, dtstart := ⟨2024, 1, 1, 9, 0, 0, 0⟩, byweekno := some [13, 14, 15, 16, 17],
                         byeaster := some [-2, 1], byweekday := some [(4, 0), (0, 0)] } :=
  ⟨rfl, by decide, by decide, by decide, by intro x hx; simp at hx, by decide,
   ⟨[13, 14, 15, 16, 17], rfl, by decide, ⟨by decide, by decide⟩⟩, ⟨[-2, 1], rfl, by decide, by decide⟩⟩

end RRule
