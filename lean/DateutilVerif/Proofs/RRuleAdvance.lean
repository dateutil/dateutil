/-
  Proofs/RRuleAdvance.lean — the period advance of the four calendar frequencies: `advance` maps
  the cursor of period `k` to the cursor of period `k+1` (year + interval; month index + interval;
  day ordinal + interval with the month roll; week start + 7·interval), keeps the cursor a valid
  date, and re-establishes the year facts of `rebuild`.
-/
import DateutilVerif.Proofs.RRuleMasks
import DateutilVerif.Proofs.RRuleAdvanceEq

namespace RRule
open Cal

/-- linear day number of the cursor (also meaningful while `day` overflows its month) -/
def curOrd (c : Cursor) : Int := toOrdinal c.year c.month c.day

theorem curOrd_day (c : Cursor) (d : Int) : curOrd { c with day := d } = curOrd c + (d - c.day) := by
  unfold curOrd toOrdinal; dsimp only; omega

/-- the `while day > daysinmonth` loop keeps the linear day number and ends on a valid date -/
theorem rollDays_spec : ∀ (n : Nat) (y m d y' m' d' : Int),
    1 ≤ m → m ≤ 12 → 1 ≤ d → d ≤ n → rollDays n y m d = some (y', m', d') →
    toOrdinal y' m' d' = toOrdinal y m d ∧ ValidYMD y' m' d' ∧ y ≤ y' ∧ y' ≤ max y 9999 := by
  intro n
  induction n with
  | zero => intro y m d y' m' d' _ _ h1 h2; omega
  | succ k ih =>
    intro y m d y' m' d' hm1 hm12 hd1 hdn h
    unfold rollDays at h
    have hb := daysInMonth_bounds y m
    split at h
    · rename_i hgt
      have hs := daysBeforeMonth_succ y m hm1 hm12
      dsimp only at h
      split at h
      · rename_i h13
        have hm : m = 12 := by
          have : (m + 1 == 13) = true := h13
          simp at this; omega
        subst hm
        split at h
        · cases h
        · rename_i hy
          have := ih (y + 1) 1 (d - daysInMonth y 12) y' m' d' (by omega) (by omega) (by omega) (by omega) h
          obtain ⟨e, v, hle, hhi⟩ := this
          refine ⟨?_, v, by omega, by omega⟩
          rw [e]
          unfold toOrdinal
          rw [daysBeforeYear_succ, daysBeforeMonth_1, ← daysBeforeMonth_13 y]
          have : (12 : Int) + 1 = 13 := by omega
          rw [this] at hs
          omega
      · rename_i h13
        have hm : m + 1 ≤ 12 := by
          have : ¬ ((m + 1 == 13) = true) := h13
          simp at this; omega
        have := ih y (m + 1) (d - daysInMonth y m) y' m' d' (by omega) hm (by omega) (by omega) h
        obtain ⟨e, v, hle, hhi⟩ := this
        refine ⟨?_, v, hle, hhi⟩
        rw [e]; unfold toOrdinal; omega
    · rename_i hle
      injection h with h
      injection h with h1 h
      injection h with h2 h3
      subst h1; subst h2; subst h3
      exact ⟨rfl, ⟨hm1, hm12, hd1, by omega⟩, by omega, by omega⟩

/-- what `fixDay … true` does to a cursor whose month is valid and whose day is ≥ 1 -/
theorem fixDay_spec (r : Rule) (st st' : State) (h : fixDay r st true = .ok st')
    (hm1 : 1 ≤ st.cur.month) (hm12 : st.cur.month ≤ 12) (hd1 : 1 ≤ st.cur.day)
    (f : YearFacts r st.cur.year st.info) :
    curOrd st'.cur = curOrd st.cur ∧ ValidYMD st'.cur.year st'.cur.month st'.cur.day ∧
    YearFacts r st'.cur.year st'.info ∧
    st'.cur.hour = st.cur.hour ∧ st'.cur.minute = st.cur.minute ∧ st'.cur.second = st.cur.second ∧
    st'.cur.weekday = st.cur.weekday ∧ st'.timeset = st.timeset := by
  unfold fixDay at h
  dsimp only at h
  have hb := daysInMonth_bounds st.cur.year st.cur.month
  split at h
  · rename_i h28
    split at h
    · split at h
      · cases h
      · rename_i y m d hroll
        split at h
        · cases h
        · rename_i info hre
          injection h with h
          subst h
          have := rollDays_spec st.cur.day.toNat _ _ _ y m d hm1 hm12 hd1 (by omega) hroll
          exact ⟨this.1, this.2.1, rebuild_facts r y m info hre, rfl, rfl, rfl, rfl, rfl⟩
    · rename_i hle
      injection h with h
      subst h
      exact ⟨rfl, ⟨hm1, hm12, hd1, by omega⟩, f, rfl, rfl, rfl, rfl, rfl⟩
  · rename_i h28
    injection h with h
    subst h
    have : st.cur.day ≤ 28 := by simpa using h28
    exact ⟨rfl, ⟨hm1, hm12, hd1, by omega⟩, f, rfl, rfl, rfl, rfl, rfl⟩

/-- **YEARLY**: the cursor of period `k+1` is the year `interval` later; month / day untouched -/
theorem advance_yearly (r : Rule) (st st' : State) (b : Bool) (hf : r.freq = 0)
    (h : advance r st b = .ok st') :
    st'.cur = { st.cur with year := st.cur.year + r.interval } ∧
    YearFacts r (st.cur.year + r.interval) st'.info ∧ st'.timeset = st.timeset := by
  rw [advance_yearly_eq r st b hf] at h
  split at h
  · cases h
  · split at h
    · cases h
    · rename_i info hre
      injection h with h; subst h
      exact ⟨rfl, rebuild_facts r _ _ info hre, rfl⟩

/-- **MONTHLY**: the month index `year·12 + (month−1)` grows by `interval`, the month stays in 1..12 -/
theorem advance_monthly (r : Rule) (st st' : State) (b : Bool) (hf : r.freq = 1)
    (hi : 1 ≤ r.interval) (hm1 : 1 ≤ st.cur.month) (hm12 : st.cur.month ≤ 12)
    (h : advance r st b = .ok st') :
    st'.cur.year * 12 + (st'.cur.month - 1) = st.cur.year * 12 + (st.cur.month - 1) + r.interval ∧
    1 ≤ st'.cur.month ∧ st'.cur.month ≤ 12 ∧ st'.cur.day = st.cur.day ∧
    YearFacts r st'.cur.year st'.info ∧ st'.timeset = st.timeset := by
  rw [advance_monthly_eq r st b hf] at h
  split at h
  · rename_i hgt
    simp only [Py.divmod, Py.fdiv_pos _ (by omega : (0:Int) < 12), Py.fmod_pos _ (by omega : (0:Int) < 12)] at h
    by_cases c : (st.cur.month + r.interval) % 12 = 0
    · have c' : ((st.cur.month + r.interval) % 12 == 0) = true := by simp [c]
      simp only [c', ↓reduceIte] at h
      split at h
      · cases h
      · split at h
        · cases h
        · rename_i info hre
          injection h with h; subst h
          refine ⟨?_, ?_, ?_, rfl, rebuild_facts r _ _ info hre, rfl⟩ <;> dsimp only <;> omega
    · have c' : ((st.cur.month + r.interval) % 12 == 0) = false := by simp [c]
      simp only [c', Bool.false_eq_true, ↓reduceIte] at h
      split at h
      · cases h
      · split at h
        · cases h
        · rename_i info hre
          injection h with h; subst h
          refine ⟨?_, ?_, ?_, rfl, rebuild_facts r _ _ info hre, rfl⟩ <;> dsimp only <;> omega
  · rename_i hle
    split at h
    · cases h
    · rename_i info hre
      injection h with h; subst h
      exact ⟨by dsimp only; omega, by dsimp only; omega, by dsimp only; omega, rfl, rebuild_facts r _ _ info hre, rfl⟩

/-- **DAILY**: the cursor's day number grows by `interval`; the cursor stays a valid date -/
theorem advance_daily (r : Rule) (st st' : State) (b : Bool) (hf : r.freq = 3)
    (hi : 1 ≤ r.interval) (hv : ValidYMD st.cur.year st.cur.month st.cur.day)
    (f : YearFacts r st.cur.year st.info) (h : advance r st b = .ok st') :
    curOrd st'.cur = curOrd st.cur + r.interval ∧ ValidYMD st'.cur.year st'.cur.month st'.cur.day ∧
    YearFacts r st'.cur.year st'.info ∧ st'.timeset = st.timeset := by
  rw [advance_daily_eq r st b hf] at h
  obtain ⟨hm1, hm12, hd1, _⟩ := hv
  have := fixDay_spec r _ st' h hm1 hm12 (by dsimp only; omega) f
  obtain ⟨e, v, f', _, _, _, _, ts⟩ := this
  refine ⟨?_, v, f', ts⟩
  rw [e]; unfold curOrd toOrdinal; dsimp only; omega

/-- **WEEKLY**: the cursor moves to the start (weekday `wkst`) of the week `interval` weeks after
    the week containing it -/
theorem advance_weekly (r : Rule) (st st' : State) (b : Bool) (hf : r.freq = 2)
    (hi : 1 ≤ r.interval) (hv : ValidYMD st.cur.year st.cur.month st.cur.day)
    (hw : 0 ≤ r.wkst ∧ r.wkst ≤ 6) (hcw : 0 ≤ st.cur.weekday ∧ st.cur.weekday ≤ 6)
    (f : YearFacts r st.cur.year st.info) (h : advance r st b = .ok st') :
    curOrd st'.cur = curOrd st.cur - (st.cur.weekday - r.wkst) % 7 + 7 * r.interval ∧
    ValidYMD st'.cur.year st'.cur.month st'.cur.day ∧ st'.cur.weekday = r.wkst ∧
    YearFacts r st'.cur.year st'.info ∧ st'.timeset = st.timeset := by
  rw [advance_weekly_eq r st b hf] at h
  obtain ⟨hm1, hm12, hd1, _⟩ := hv
  have := fixDay_spec r _ st' h hm1 hm12 (by dsimp only; split <;> omega) f
  obtain ⟨e, v, f', _, _, _, wd, ts⟩ := this
  refine ⟨?_, v, wd, f', ts⟩
  rw [e]; unfold curOrd toOrdinal; dsimp only
  split <;> omega

end RRule
