/-
  Proofs/TzStrParseAll.lean — `_tzparser.parse` on a rendered spelling.
-/
import DateutilVerif.Proofs.TzStrParseGate

namespace TzStr

theorem zipIdx_map_id (f : String × Nat → String) :
    ∀ (L : List String) (n : Nat), (∀ t ∈ L, ∀ k, f (t, k) = t) → (L.zipIdx n).map f = L := by
  intro L
  induction L with
  | nil => intro n _; rfl
  | cons a t ih =>
      intro n h
      simp only [List.zipIdx_cons, List.map_cons]
      rw [h a (by simp) n, ih (n + 1) (fun x hx k => h x (by simp [hx]) k)]

/-- the tokens of a spelling, segment by segment -/
theorem tokenList_eq (sp : Spelling) :
    tokenList sp = sp.std :: (toksOf sp.stdOff.chunks ++ (sp.dst :: (toksOf (optOffChunks sp.dstOff) ++
      ("," :: (toksOf sp.startRule.chunks ++ (toksOf (timeChunks sp.startTime) ++
        ("," :: (toksOf sp.endRule.chunks ++ toksOf (timeChunks sp.endTime))))))))) := by
  have ec : String.ofList [','] = "," := rfl
  simp only [tokenList, Spelling.chunks, toksOf_cons, toksOf_append, String.ofList_toList, pC, ec]

def Spelling.res (sp : Spelling) : Res :=
  { stdabbr := some sp.std, stdoffset := some sp.stdOff.val, dstabbr := some sp.dst,
    dstoffset := sp.dstOff.map Off.val,
    start := sp.startRule.attr (sp.startTime.map TimeSp.val),
    «end» := sp.endRule.attr (sp.endTime.map TimeSp.val), anyUnused := false }

theorem optOff_toks_ok (o : Option Off) (h : optOk (fun o : Off => o.sp.Ok) o) : ∀ t ∈ toksOf (optOffChunks o), TokOK t := by
  cases o with
  | none => intro t ht; simp [optOffChunks, toksOf] at ht
  | some o => exact off_toks_ok o h

theorem alpha_tokOK (a : String) (h : IsAlpha a) : TokOK a :=
  ⟨ne_lit a "," .alpha h.2 ',' (by decide) (by decide), alpha_ne_semi a h⟩

theorem parse_render (sp : Spelling) (wf : WellFormed sp) : parse (render sp) = .ok (some sp.res) := by
  unfold parse
  rw [tokens_render sp wf]
  have hL := tokenList_eq sp
  generalize hl0 : (tokenList sp).toArray = l at *
  have hlist : l.toList = tokenList sp := by rw [← hl0]
  rw [hL] at hlist
  -- per-segment token facts
  have o1 := off_toks_ok sp.stdOff wf.stdOff
  have o2 := optOff_toks_ok sp.dstOff wf.dstOff
  have r1 := rule_toks_ok sp.startRule wf.startRule
  have r2 := rule_toks_ok sp.endRule wf.endRule
  obtain ⟨t1, s1⟩ := time_toks_ok sp.startTime wf.startTime
  obtain ⟨t2, s2⟩ := time_toks_ok sp.endTime wf.endTime
  have cstd := alpha_tokOK sp.std wf.std
  have cdst := alpha_tokOK sp.dst wf.dst
  obtain ⟨st, a1, a2, a3, a4⟩ := abbrLoop_spec sp.std sp.dst sp.stdOff sp.dstOff wf.std wf.dst wf.stdOff wf.dstOff l _
    (fun _ => ⟨_, rfl⟩) (by simp) hlist
  -- every token differs from ";"
  have hsemi : ∀ t ∈ l.toList, (t == ";") = false := by
    intro t ht
    rw [hlist] at ht
    simp only [List.mem_cons, List.mem_append] at ht
    rcases ht with e | e | e | e | e | e | e | e | e | e
    · subst e; exact cstd.2
    · exact (o1 t e).2
    · subst e; exact cdst.2
    · exact (o2 t e).2
    · subst e; decide
    · exact (r1 t e).1.1.2
    · exact (t1 t e).1.2
    · subst e; decide
    · exact (r2 t e).1.1.2
    · exact (t2 t e).1.2
  have hmap : (l.toList.zipIdx.map (fun (t, k) => if k ≥ st.i && t == ";" then "," else t)).toArray = l := by
    rw [zipIdx_map_id _ l.toList 0 (fun t ht k => by simp [hsemi t ht])]
  -- positions
  have hlist' : l.toList = (sp.std :: (toksOf sp.stdOff.chunks ++ (sp.dst :: toksOf (optOffChunks sp.dstOff)))) ++
      ("," :: (toksOf sp.startRule.chunks ++ (toksOf (timeChunks sp.startTime) ++
        ("," :: (toksOf sp.endRule.chunks ++ toksOf (timeChunks sp.endTime)))))) := by
    rw [hlist]; simp
  have hpre : (sp.std :: (toksOf sp.stdOff.chunks ++ (sp.dst :: toksOf (optOffChunks sp.dstOff)))).length = st.i := by
    rw [a2]; simp; omega
  have gcomma := get_at hlist' 0
  have hsz := size_at hlist'
  rw [hpre] at gcomma hsz
  simp only [List.getElem?_cons_zero, Nat.add_zero, List.length_cons] at gcomma hsz
  have hlt : st.i < l.size := by omega
  obtain ⟨_, _, ner1⟩ := rule_good sp.startRule wf.startRule
  have hr1len : 0 < (toksOf sp.startRule.chunks).length := by
    cases hc : sp.startRule.chunks with
    | nil => exact absurd hc ner1
    | cons q r => simp [toksOf]
  have hlt2 : ¬ (st.i + 1 ≥ l.size) := by rw [hsz]; simp only [List.length_append, List.length_cons]; omega
  -- commas
  have hcommas : (l.toList.filter (· == ",")).length = 2 := by
    rw [hlist]
    simp only [List.filter_cons, List.filter_append, cstd.1, cdst.1, Bool.false_eq_true, if_false,
      filter_nil_of (fun t ht => (o1 t ht).1), filter_nil_of (fun t ht => (o2 t ht).1),
      filter_nil_of (fun t ht => (r1 t ht).1.1.1), filter_nil_of (fun t ht => (t1 t ht).1.1),
      filter_nil_of (fun t ht => (r2 t ht).1.1.1), filter_nil_of (fun t ht => (t2 t ht).1.1)]
    simp
  -- the tokens after the first ","
  have hlist2 : l.toList = ((sp.std :: (toksOf sp.stdOff.chunks ++ (sp.dst :: toksOf (optOffChunks sp.dstOff)))) ++ [","]) ++
      (toksOf sp.startRule.chunks ++ (toksOf (timeChunks sp.startTime) ++
        ("," :: (toksOf sp.endRule.chunks ++ toksOf (timeChunks sp.endTime))))) := by
    rw [hlist]; simp
  have hrest : l.toList.drop (st.i + 1) = toksOf sp.startRule.chunks ++ (toksOf (timeChunks sp.startTime) ++
        ("," :: (toksOf sp.endRule.chunks ++ toksOf (timeChunks sp.endTime)))) := by
    have := drop_pre ((sp.std :: (toksOf sp.stdOff.chunks ++ (sp.dst :: toksOf (optOffChunks sp.dstOff)))) ++ [","])
      (toksOf sp.startRule.chunks ++ (toksOf (timeChunks sp.startTime) ++
        ("," :: (toksOf sp.endRule.chunks ++ toksOf (timeChunks sp.endTime)))))
    rw [← hlist2, List.length_append, hpre] at this
    simpa using this
  have hall : (l.toList.drop (st.i + 1)).all (fun x => inSet x [",", "/", "J", "M", ".", "-", ":"] || allCharsIn x "0123456789") = true := by
    rw [hrest, List.all_eq_true]
    intro x hx
    simp only [List.mem_cons, List.mem_append] at hx
    rcases hx with e | e | e | e | e
    · exact (r1 x e).1.2
    · exact (t1 x e).2
    · subst e; decide
    · exact (r2 x e).1.2
    · exact (t2 x e).2
  have hslash : ((l.toList.drop (st.i + 1)).filter (· == "/")).length ≤ 2 := by
    rw [hrest]
    simp only [List.filter_cons, List.filter_append, filter_nil_of (fun t ht => (r1 t ht).2),
      filter_nil_of (fun t ht => (r2 t ht).2), List.length_append, List.nil_append]
    have : ("," == "/") = false := by decide
    simp only [this, Bool.false_eq_true, if_false]
    omega
  -- the two rules
  have hc1 : Cov l { st with i := st.i + 1 } := by
    apply cov_step (st' := { st with i := st.i + 1 }) a4 (by simp) (fun k hk => hk)
    intro k h1 h2 _
    have : k = st.i := by simp at h2; omega
    right; left; rw [this]; exact gcomma
  obtain ⟨st1, b1, b2, b3, b4⟩ := stdRule_spec sp.startRule sp.startTime l _ _ { st with i := st.i + 1 } hlist2
    (by rw [List.length_append, hpre]; rfl) (Or.inr rfl) wf.startRule wf.startTime hc1
  have hlist3 : l.toList = (((sp.std :: (toksOf sp.stdOff.chunks ++ (sp.dst :: toksOf (optOffChunks sp.dstOff)))) ++ [","]) ++
      (toksOf sp.startRule.chunks ++ (toksOf (timeChunks sp.startTime) ++ [","]))) ++
      (toksOf sp.endRule.chunks ++ (toksOf (timeChunks sp.endTime) ++ [])) := by
    rw [hlist]; simp
  have hi2 : st1.i = (((sp.std :: (toksOf sp.stdOff.chunks ++ (sp.dst :: toksOf (optOffChunks sp.dstOff)))) ++ [","]) ++
      (toksOf sp.startRule.chunks ++ (toksOf (timeChunks sp.startTime) ++ [","]))).length := by
    rw [b2]
    generalize (sp.std :: (toksOf sp.stdOff.chunks ++ (sp.dst :: toksOf (optOffChunks sp.dstOff)))) = PRE
    simp only [List.length_append, List.length_cons, List.length_nil]; omega
  obtain ⟨st2, c1, c2, c3, c4⟩ := stdRule_spec sp.endRule sp.endTime l _ [] st1 hlist3
    hi2 (Or.inl rfl) wf.endRule wf.endTime b4
  have hsz3 := size_at hlist3
  have hend : ¬ (st2.i < l.size) := by
    rw [c2, hsz3]; simp only [List.length_append, List.length_cons, List.length_nil]; omega
  have h8 : ¬ (8 ≤ (l.toList.filter (· == ",")).length) := by rw [hcommas]; omega
  unfold parseTokens
  simp only [a1, hlt, if_true, hmap, gcomma, beq_self_eq_true]
  simp only [ge_iff_le, Nat.not_le.mpr (Nat.lt_of_not_le hlt2), if_false, h8, false_and, hcommas, hall, hslash,
    and_self, if_true, b1, c1, hend, decide_true, true_and, Bool.true_and]
  have h82 : ¬ ((8 : Nat) ≤ 2) := by decide
  simp only [h82, false_and, if_false, beq_self_eq_true, hall, hslash, and_self, if_true, b1, c1, hend, decide_true,
    true_and, Bool.true_and]
  have hany := c4.anyUnused (by omega)
  have hres : st2.res = st.res := by rw [c3, b3]
  simp only [hany, hres, a3]
  rfl

end TzStr
