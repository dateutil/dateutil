/-
  Proofs/FactorySingle.lean — `_TzSingleton.__call__` (tzutc): with the slot filled at import time
  (`UTC = tzutc()` in tz.py) every call returns that object.
-/
import DateutilVerif.Proofs.FactoryInv

namespace Fact

variable {res : Key → Res}

/-- invariant of the pre-initialised singleton: the slot holds object 0, no thread is inside the
construction branch, only singleton / instance pcs occur, every handed-out reference is object 0 -/
structure SInv (s : State) : Prop where
  slot : s.g.single = some 0
  held : ∀ r ∈ s.g.held, r.id = 0
  pcs : ∀ (t : Tid) (th : Thread), s.ths[t]? = some th →
    th.pc = .idle ∨ th.pc = .fAlloc ∨ th.pc = .fInit ∨ th.pc = .fRet ∨ th.pc = .uTest ∨ th.pc = .uRet

theorem sinv_tstep {t : Tid} {g g' : Glob} {th th' : Thread}
    (hs : g.single = some 0) (hh : ∀ r ∈ g.held, r.id = 0)
    (hp : th.pc = .idle ∨ th.pc = .fAlloc ∨ th.pc = .fInit ∨ th.pc = .fRet ∨ th.pc = .uTest ∨ th.pc = .uRet)
    (h : tstep .single res t g th = some (g', th')) :
    g'.single = some 0 ∧ (∀ r ∈ g'.held, r.id = 0) ∧
    (th'.pc = .idle ∨ th'.pc = .fAlloc ∨ th'.pc = .fInit ∨ th'.pc = .fRet ∨ th'.pc = .uTest ∨ th'.pc = .uRet) := by
  rcases hp with hp | hp | hp | hp | hp | hp <;> simp only [tstep, hp] at h
  · split at h
    · cases h
    all_goals (simp only [Option.some.injEq, Prod.mk.injEq, reduceCtorEq, if_false] at h; obtain ⟨rfl, rfl⟩ := h; simp_all)
  · simp only [reduceCtorEq, false_and, if_false] at h
    split at h <;> simp only [Option.some.injEq, Prod.mk.injEq] at h <;> obtain ⟨rfl, rfl⟩ := h <;> simp_all
  · split at h
    · simp only [Option.some.injEq, Prod.mk.injEq] at h; obtain ⟨rfl, rfl⟩ := h; simp_all
    · cases h
  · simp only [Option.some.injEq, Prod.mk.injEq] at h; obtain ⟨rfl, rfl⟩ := h; simp_all
  · simp only [Option.some.injEq, Prod.mk.injEq] at h; obtain ⟨rfl, rfl⟩ := h; simp_all
  · rw [hs] at h
    simp only [Option.some.injEq, Prod.mk.injEq] at h
    obtain ⟨rfl, rfl⟩ := h
    refine ⟨rfl, ?_, .inl rfl⟩
    intro r hr
    simp only [List.mem_append, List.mem_singleton] at hr
    rcases hr with hr | rfl
    · exact hh r hr
    · rfl

theorem sinv_step {s s' : State} {l : Label} (h : SInv s) (hs : step .single res s l = some s') : SInv s' := by
  cases l with
  | thr t =>
    obtain ⟨th, g', th', hth, hstep, rfl⟩ := step_thr hs
    obtain ⟨h1, h2, h3⟩ := sinv_tstep h.slot h.held (h.pcs t th hth) hstep
    exact ⟨h1, h2, List.forall_getElem?_set hth h3 fun t2 th2 _ => h.pcs t2 th2⟩
  | drop t n =>
    cases step_drop hs
    exact ⟨h.slot, fun r hr => h.held r (List.mem_filter.mp hr).1, h.pcs⟩
  | collect k =>
    obtain ⟨_, _, _, rfl⟩ := step_collect hs
    exact ⟨h.slot, h.held, h.pcs⟩

theorem sinv_init (scripts : List (List Op)) : SInv (initSingleton scripts) := by
  refine ⟨rfl, by simp [initSingleton], ?_⟩
  intro t th hth
  simp only [initSingleton, List.getElem?_map] at hth
  cases hsc : scripts[t]? with
  | none => simp [hsc] at hth
  | some sc =>
    simp only [hsc, Option.map_some, Option.some.injEq] at hth
    subst hth; exact .inl rfl

theorem sinv_reachable {scripts : List (List Op)} {s : State}
    (h : Reachable .single res (initSingleton scripts) s) : SInv s := by
  induction h with
  | init => exact sinv_init scripts
  | step _ hs ih => exact sinv_step ih hs

end Fact
