/-
  Proofs/RRuleGenCached.lean — the re-translated `_iterinfo.rebuild` on an `_iterinfo` that has been rebuilt before
  (the `lastyear` / `lastmonth` caching): from any state reached by successful `rebuild` calls for the same rule, the
  next call yields the model's `rebuild` of the new (year, month), and the state reached is again of that kind.
-/
import DateutilVerif.Proofs.RRuleGenRebuild

namespace RRuleGen
open RRule RrPy

theorem nwRanges_other (r : Rule) (yl : Int) (mr : List Int) (month : Int) (h0 : r.freq ≠ 0) (h1 : r.freq ≠ 1) :
    nwRanges r yl mr month = .ok [] := by
  simp [nwRanges, h0, h1, pure, Except.pure]

theorem rebuild_inv (r : Rule) (y m : Int) (info : Info) (h : RRule.rebuild r y m = .ok info) :
    ¬ (y < 1 ∨ y > 9999) ∧ wnomaskOf r y (baseInfo y) = .ok info.wnomask ∧
    buildNwdaymask r (baseInfo y).yearlen (baseInfo y).mrange (baseInfo y).wdaymask m = .ok info.nwdaymask ∧
    eastermaskOf r y (baseInfo y) = .ok info.eastermask ∧
    info = { baseInfo y with wnomask := info.wnomask, nwdaymask := info.nwdaymask, eastermask := info.eastermask } := by
  rw [rebuild_bind] at h
  by_cases hy : y < 1 ∨ y > 9999
  · simp [hy] at h
  · simp only [hy, if_false] at h
    cases h1 : wnomaskOf r y (baseInfo y) with
    | error e => rw [h1] at h; cases h
    | ok w =>
      rw [h1] at h; simp only [ok_bind] at h
      cases h2 : buildNwdaymask r (baseInfo y).yearlen (baseInfo y).mrange (baseInfo y).wdaymask m with
      | error e => rw [h2] at h; cases h
      | ok nw =>
        rw [h2] at h; simp only [ok_bind] at h
        cases h3 : eastermaskOf r y (baseInfo y) with
        | error e => rw [h3] at h; cases h
        | ok em =>
          rw [h3] at h; simp only [ok_bind] at h
          cases h
          exact ⟨hy, rfl, rfl, rfl, rfl⟩

theorem buildNwdaymask_indep (r : Rule) (yl : Int) (mr wd : List Int) (m m' : Int) (h1 : r.freq ≠ 1) :
    buildNwdaymask r yl mr wd m = buildNwdaymask r yl mr wd m' := by
  match hn : r.bynweekday with
  | none => simp [buildNwdaymask, hn]
  | some [] => simp [buildNwdaymask, hn]
  | some (a :: b) =>
    rw [buildNwdaymask_some r yl mr wd m a b hn, buildNwdaymask_some r yl mr wd m' a b hn]
    simp [nwRanges, h1]

theorem buildNwdaymask_other (r : Rule) (yl : Int) (mr wd : List Int) (m : Int) (h0 : r.freq ≠ 0) (h1 : r.freq ≠ 1) :
    buildNwdaymask r yl mr wd m = .ok none := by
  match hn : r.bynweekday with
  | none => simp [buildNwdaymask, hn, pure, Except.pure]
  | some [] => simp [buildNwdaymask, hn, pure, Except.pure]
  | some (a :: b) =>
    rw [buildNwdaymask_some r yl mr wd m a b hn, nwRanges_other r yl mr m h0 h1]
    rfl

theorem eastermaskOf_untruthy (r : Rule) (y : Int) (b : Info) (h : ¬ truthy r.byeaster = true) :
    eastermaskOf r y b = .ok none := by
  unfold eastermaskOf
  match hn : r.byeaster with
  | none => rfl
  | some [] => rfl
  | some (a :: b) => simp [hn, truthy] at h

/-- the slots are the model's `rebuild` of the recorded year (and, where the nth-weekday mask depends on it — MONTHLY —
    of the recorded month) -/
def Coherent (r : Rule) (st : RrPy.II) : Prop :=
  ∃ y0 m0, st.lastyear = some y0 ∧ RRule.rebuild r y0 m0 = .ok st.toInfo ∧
    (r.freq = 1 → truthy r.bynweekday = true → st.lastmonth = some m0)

/-- the month `rebuild` records -/
def newMonth (r : Rule) (st : RrPy.II) (year month : Int) : Int :=
  if truthy r.bynweekday = true ∧ (some month ≠ st.lastmonth ∨ some year ≠ st.lastyear) then nwMonth r month else month

theorem nwMonth_monthly (r : Rule) (m : Int) (h : r.freq = 1) : nwMonth r m = m := by
  simp [nwMonth, h]

theorem gen_rebuild_cached (r : Rule) (st : RrPy.II) (hst : Coherent r st) (year month : Int) :
    Gen.rebuild r st year month =
      (RRule.rebuild r year month).bind fun info =>
        .ok (RrPy.II.ofInfo info (some year) (some (newMonth r st year month))) := by
  obtain ⟨y0, m0, hly, hreb, hlm⟩ := hst
  obtain ⟨hy0, hw0, hn0, he0, hinfo⟩ := rebuild_inv r y0 m0 st.toInfo hreb
  have hnw : st.nwdaymask = none ∨ r.freq = 0 ∨ r.freq = 1 := by
    by_cases h0 : r.freq = 0
    · exact Or.inr (Or.inl h0)
    · by_cases h1 : r.freq = 1
      · exact Or.inr (Or.inr h1)
      · left
        have := buildNwdaymask_other r (baseInfo y0).yearlen (baseInfo y0).mrange (baseInfo y0).wdaymask m0 h0 h1
        rw [this] at hn0
        have := Except.ok.inj hn0
        simpa [RrPy.II.toInfo] using this.symm
  rw [rebuild_bind]
  unfold Gen.rebuild
  simp only [bind, pure, Except.pure, rebuild_if3_eq, hly]
  -- facts about the incoming slots
  have hnw_unt : ¬ truthy r.bynweekday = true → st.nwdaymask = none := by
    intro h
    have := buildNwdaymask_untruthy r (baseInfo y0).yearlen (baseInfo y0).mrange (baseInfo y0).wdaymask m0 h
    rw [this] at hn0
    have := Except.ok.inj hn0
    simpa [RrPy.II.toInfo] using this.symm
  have hem_unt : ¬ truthy r.byeaster = true → st.eastermask = none := by
    intro h
    have := eastermaskOf_untruthy r y0 (baseInfo y0) h
    rw [this] at he0
    have := Except.ok.inj he0
    simpa [RrPy.II.toInfo] using this.symm
  by_cases hyy : year = y0
  · -- the cached year: the year-level slots are kept
    subst hyy
    have hne : ¬ (some year ≠ some year) := by simp
    simp only [hne, if_false, ok_bind, hy0, hw0]
    have f1 : st.yearlen = (baseInfo year).yearlen := by have := congrArg Info.yearlen hinfo; simpa [RrPy.II.toInfo] using this
    have f2 : st.mrange = (baseInfo year).mrange := by have := congrArg Info.mrange hinfo; simpa [RrPy.II.toInfo] using this
    have f3 : st.wdaymask = (baseInfo year).wdaymask := by have := congrArg Info.wdaymask hinfo; simpa [RrPy.II.toInfo] using this
    have f4 : st.yearordinal = (baseInfo year).yearordinal := by have := congrArg Info.yearordinal hinfo; simpa [RrPy.II.toInfo] using this
    have f5 : st.nextyearlen = (baseInfo year).nextyearlen := by have := congrArg Info.nextyearlen hinfo; simpa [RrPy.II.toInfo] using this
    have f6 : st.yearweekday = (baseInfo year).yearweekday := by have := congrArg Info.yearweekday hinfo; simpa [RrPy.II.toInfo] using this
    have f7 : st.mmask = (baseInfo year).mmask := by have := congrArg Info.mmask hinfo; simpa [RrPy.II.toInfo] using this
    have f8 : st.mdaymask = (baseInfo year).mdaymask := by have := congrArg Info.mdaymask hinfo; simpa [RrPy.II.toInfo] using this
    have f9 : st.nmdaymask = (baseInfo year).nmdaymask := by have := congrArg Info.nmdaymask hinfo; simpa [RrPy.II.toInfo] using this
    have hw0' : st.toInfo.wnomask = st.wnomask := rfl
    rw [rebuild_if6_gen r month year st.lastmonth (some year) st.mrange st.wdaymask st.nwdaymask st.yearlen hnw,
      f1, f2, f3, f4]
    rw [rebuild_if7_eq r st.eastermask (baseInfo year) year]
    -- the nth-weekday mask of the model for (year, month)
    have hnwm : buildNwdaymask r (baseInfo year).yearlen (baseInfo year).mrange (baseInfo year).wdaymask month =
        if truthy r.bynweekday = true ∧ (some month ≠ st.lastmonth ∨ some year ≠ some year) then
          buildNwdaymask r (baseInfo year).yearlen (baseInfo year).mrange (baseInfo year).wdaymask month
        else .ok st.nwdaymask := by
      by_cases hc : truthy r.bynweekday = true ∧ (some month ≠ st.lastmonth ∨ some year ≠ some year)
      · rw [if_pos hc]
      · rw [if_neg hc]
        by_cases ht : truthy r.bynweekday = true
        · have hm : some month = st.lastmonth :=
            Classical.byContradiction fun hm => hc ⟨ht, Or.inl hm⟩
          by_cases h1 : r.freq = 1
          · have := hlm h1 ht
            rw [this] at hm
            cases hm
            exact hn0
          · rw [buildNwdaymask_indep r _ _ _ month m0 h1]; exact hn0
        · rw [buildNwdaymask_untruthy r _ _ _ month ht, hnw_unt ht]
    have hem : eastermaskOf r year (baseInfo year) =
        if truthy r.byeaster = true then eastermaskOf r year (baseInfo year) else .ok st.eastermask := by
      by_cases ht : truthy r.byeaster = true
      · simp [ht]
      · rw [if_neg ht, eastermaskOf_untruthy r year _ ht, hem_unt ht]
    rw [hnwm]
    by_cases hc : truthy r.bynweekday = true ∧ (some month ≠ st.lastmonth ∨ some year ≠ some year)
    · rw [if_pos hc, if_pos hc]
      cases buildNwdaymask r (baseInfo year).yearlen (baseInfo year).mrange (baseInfo year).wdaymask month with
      | error e => rfl
      | ok nw =>
        simp only [ok_bind]
        rw [← hem]
        cases eastermaskOf r year (baseInfo year) with
        | error e => rfl
        | ok em =>
          simp [RrPy.II.ofInfo, newMonth, hly, hc, RrPy.II.toInfo, f1, f4, f5, f6, f7, f8, f9, f2, f3]
          intro h
          rcases hc.2 with h2 | h2
          · exact absurd h h2
          · exact absurd rfl h2
    · rw [if_neg hc, if_neg hc]
      simp only [ok_bind]
      rw [← hem]
      cases eastermaskOf r year (baseInfo year) with
      | error e => rfl
      | ok em =>
        simp [RrPy.II.ofInfo, newMonth, hly, hc, RrPy.II.toInfo, f1, f4, f5, f6, f7, f8, f9, f2, f3]
        intro ht hm
        exact absurd ⟨ht, Or.inl hm⟩ hc
  · -- another year: every slot is recomputed
    have hne : some year ≠ some y0 := by intro h; exact hyy (Option.some.inj h)
    rw [if_pos hne]
    by_cases hy : year < 1 ∨ year > 9999
    · rw [if_pos hy, if_pos hy]; rfl
    · rw [if_neg hy, if_neg hy]
      have hem : eastermaskOf r year (baseInfo year) =
          if truthy r.byeaster = true then eastermaskOf r year (baseInfo year) else .ok st.eastermask := by
        by_cases ht : truthy r.byeaster = true
        · simp [ht]
        · rw [if_neg ht, eastermaskOf_untruthy r year _ ht, hem_unt ht]
      cases hw : wnomaskOf r year (baseInfo year) with
      | error e => rfl
      | ok w =>
        simp only [ok_bind]
        rw [rebuild_if6_gen r month year st.lastmonth (some y0) (baseInfo year).mrange (baseInfo year).wdaymask
          st.nwdaymask (baseInfo year).yearlen hnw, rebuild_if7_eq r st.eastermask (baseInfo year) year, ← hem]
        by_cases ht : truthy r.bynweekday = true
        · have hc : truthy r.bynweekday = true ∧ (some month ≠ st.lastmonth ∨ some year ≠ some y0) := ⟨ht, Or.inr hne⟩
          rw [if_pos hc]
          cases buildNwdaymask r (baseInfo year).yearlen (baseInfo year).mrange (baseInfo year).wdaymask month with
          | error e => rfl
          | ok nw =>
            simp only [ok_bind]
            cases eastermaskOf r year (baseInfo year) with
            | error e => rfl
            | ok em => simp [RrPy.II.ofInfo, newMonth, hly, ht, hne]
        · have hc : ¬ (truthy r.bynweekday = true ∧ (some month ≠ st.lastmonth ∨ some year ≠ some y0)) := fun h => ht h.1
          rw [if_neg hc, buildNwdaymask_untruthy r _ _ _ month ht, hnw_unt ht]
          simp only [ok_bind]
          cases eastermaskOf r year (baseInfo year) with
          | error e => rfl
          | ok em => simp [RrPy.II.ofInfo, newMonth, hly, ht]

/-- the state after a successful call is again one reached by successful calls -/
theorem coherent_step (r : Rule) (st st' : RrPy.II) (hst : Coherent r st) (year month : Int)
    (h : Gen.rebuild r st year month = .ok st') : Coherent r st' := by
  rw [gen_rebuild_cached r st hst year month] at h
  cases hr : RRule.rebuild r year month with
  | error e => rw [hr] at h; cases h
  | ok info =>
    rw [hr] at h
    simp only [ok_bind] at h
    cases h
    refine ⟨year, month, rfl, ?_, ?_⟩
    · rw [hr]; rfl
    · intro h1 _
      simp [RrPy.II.ofInfo, newMonth, nwMonth_monthly r month h1]

theorem coherent_fresh (r : Rule) (st' : RrPy.II) (year month : Int) (h : Gen.rebuild r {} year month = .ok st') :
    Coherent r st' := by
  rw [gen_rebuild_fresh r year month] at h
  cases hr : RRule.rebuild r year month with
  | error e => rw [hr] at h; cases h
  | ok info =>
    rw [hr] at h
    simp only [ok_bind] at h
    cases h
    refine ⟨year, month, rfl, ?_, ?_⟩
    · rw [hr]; rfl
    · intro h1 _
      simp [RrPy.II.ofInfo, nwMonth_monthly r month h1]

/-- a call history: `rebuild(y, m)` for each pair in order, on one `_iterinfo`, all successful -/
def history (r : Rule) (calls : List (Int × Int)) : Py.R RrPy.II :=
  calls.foldlM (fun st c => Gen.rebuild r st c.1 c.2) {}

theorem history_inv (r : Rule) (calls : List (Int × Int)) (st0 : RrPy.II) (h0 : st0 = {} ∨ Coherent r st0)
    (st : RrPy.II) (h : calls.foldlM (fun st c => Gen.rebuild r st c.1 c.2) st0 = .ok st) : st = {} ∨ Coherent r st := by
  induction calls generalizing st0 with
  | nil => simp only [List.foldlM_nil, pure, Except.pure] at h; cases h; exact h0
  | cons c cs ih =>
    simp only [List.foldlM_cons, bind] at h
    cases h1 : Gen.rebuild r st0 c.1 c.2 with
    | error e => rw [h1] at h; cases h
    | ok st1 =>
      rw [h1] at h
      simp only [ok_bind] at h
      refine ih st1 (Or.inr ?_) h
      rcases h0 with h0 | h0
      · subst h0; exact coherent_fresh r st1 c.1 c.2 h1
      · exact coherent_step r st0 st1 h0 c.1 c.2 h1

theorem rebuild_after_history (r : Rule) (calls : List (Int × Int)) (st : RrPy.II) (h : history r calls = .ok st)
    (year month : Int) : (Gen.rebuild r st year month).map RrPy.II.toInfo = RRule.rebuild r year month := by
  rcases history_inv r calls {} (Or.inl rfl) st h with h0 | h0
  · subst h0
    rw [gen_rebuild_fresh]
    cases RRule.rebuild r year month <;> rfl
  · rw [gen_rebuild_cached r st h0]
    cases RRule.rebuild r year month <;> rfl

end RRuleGen
