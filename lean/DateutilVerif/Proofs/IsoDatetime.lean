/- Proofs/IsoDatetime.lean — the inverse law stated on datetimes: the fields every form shows for a valid
   datetime (isocalendar / yday / six microsecond digits) are well-formed and denote the datetime truncated
   to the form's precision. -/
import DateutilVerif.Proofs.IsoSound
namespace Iso
open Cal IsoSpec Py

theorem isoYear_range (y m d : Int) (hv : ValidDate y m d) :
    1 ≤ (isoCalendar y m d).1 ∧ (isoCalendar y m d).1 ≤ 9999 := by
  have hp := toOrdinal_pos y m d hv.1 hv.2.2
  have hm := toOrdinal_le_max y m d hv
  have ⟨_, o2⟩ := ordinal_in_year y m d hv.2.2
  obtain ⟨c1, c2, c3⟩ := isoCalendar_cases y m d o2
  have hy1 := hv.1
  have hy2 := hv.2.1
  by_cases h1 : toOrdinal y m d < isoWeek1Monday y
  · rw [c1 h1]
    have := w1_pos y hy1
    have e1 : isoWeek1Monday 1 = 1 := by decide
    refine ⟨?_, by dsimp only; omega⟩
    by_cases hy : y = 1
    · subst hy; omega
    · dsimp only; omega
  by_cases h2 : toOrdinal y m d < isoWeek1Monday (y + 1)
  · rw [c2 (by omega) h2]; exact ⟨hy1, hy2⟩
  · rw [c3 (by omega)]
    have := w1_le_max (y + 1)
    have e2 : isoWeek1Monday (9999 + 1) = 3652062 := by decide
    refine ⟨by dsimp only; omega, ?_⟩
    by_cases hy : y = 9999
    · subst hy; unfold maxOrdinal at hm; omega
    · dsimp only; omega

/-- the fields a date form shows for the date `y-m-d` -/
def dateFieldsOf (df : DateForm) (y m d : Int) : Fields :=
  match df with
  | .weekExtD | .weekBasD | .weekExt | .weekBas =>
      { year := (isoCalendar y m d).1.toNat, a := (isoCalendar y m d).2.1.toNat, b := (isoCalendar y m d).2.2.toNat }
  | .ordExt | .ordBas => { year := y.toNat, a := (yday y m d).toNat }
  | _ => { year := y.toNat, a := m.toNat, b := d.toNat }

theorem dateFieldsOf_ok (df : DateForm) (hc : df.complete = true) (y m d : Int) (hv : ValidDate y m d) :
    dateWF true df (dateFieldsOf df y m d) = true ∧
    dateOrdinal df (dateFieldsOf df y m d) = toOrdinal y m d := by
  obtain ⟨hy1, hy2, hymd⟩ := hv
  have hv : ValidDate y m d := ⟨hy1, hy2, hymd⟩
  have hb := daysInMonth_bounds y m
  have ey : ((y.toNat : Nat) : Int) = y := Int.toNat_of_nonneg (by omega)
  have cal : ∀ ext, dateWF true (calForm ext) (dateFieldsOf (calForm ext) y m d) = true ∧
      dateOrdinal (calForm ext) (dateFieldsOf (calForm ext) y m d) = toOrdinal y m d := by
    intro ext
    obtain ⟨m1, m12, d1, dd⟩ := hymd
    have em : ((m.toNat : Nat) : Int) = m := Int.toNat_of_nonneg (by omega)
    have ed : ((d.toNat : Nat) : Int) = d := Int.toNat_of_nonneg (by omega)
    rw [dateWF_calForm, dateOrdinal_calForm, show dateFieldsOf (calForm ext) y m d =
      { year := y.toNat, a := m.toNat, b := d.toNat } by cases ext <;> rfl]
    simp only [decide_eq_true_eq, ey, em, ed]
    exact ⟨hv, trivial⟩
  have week : ∀ ext, dateWF true (weekDForm ext) (dateFieldsOf (weekDForm ext) y m d) = true ∧
      dateOrdinal (weekDForm ext) (dateFieldsOf (weekDForm ext) y m d) = toOrdinal y m d := by
    intro ext
    obtain ⟨e, w1', w53, wd1, wd7, hs⟩ := weekdate_roundtrip y m d hymd
    obtain ⟨i1, i2⟩ := isoYear_range y m d hv
    have e1 : (((isoCalendar y m d).1.toNat : Nat) : Int) = (isoCalendar y m d).1 := Int.toNat_of_nonneg (by omega)
    have e2 : (((isoCalendar y m d).2.1.toNat : Nat) : Int) = (isoCalendar y m d).2.1 := Int.toNat_of_nonneg (by omega)
    have e3 : (((isoCalendar y m d).2.2.toNat : Nat) : Int) = (isoCalendar y m d).2.2 := Int.toNat_of_nonneg (by omega)
    rw [dateWF_weekDForm, dateOrdinal_weekDForm, show dateFieldsOf (weekDForm ext) y m d =
      { year := (isoCalendar y m d).1.toNat, a := (isoCalendar y m d).2.1.toNat, b := (isoCalendar y m d).2.2.toNat }
      by cases ext <;> rfl]
    simp only [decide_eq_true_eq, Bool.and_eq_true, Bool.or_eq_true, Bool.not_eq_true', e1, e2, e3]
    exact ⟨⟨by omega, Or.inr hs⟩, e⟩
  have ord : ∀ ext, dateWF true (ordForm ext) (dateFieldsOf (ordForm ext) y m d) = true ∧
      dateOrdinal (ordForm ext) (dateFieldsOf (ordForm ext) y m d) = toOrdinal y m d := by
    intro ext
    have ⟨o1, o2⟩ := ordinal_in_year y m d hymd
    have s := daysBeforeYear_succ y
    have hyd : yday y m d = toOrdinal y m d - daysBeforeYear y := by unfold yday toOrdinal; omega
    have ea : (((yday y m d).toNat : Nat) : Int) = yday y m d := Int.toNat_of_nonneg (by omega)
    rw [dateWF_ordForm, dateOrdinal_ordForm, show dateFieldsOf (ordForm ext) y m d =
      { year := y.toNat, a := (yday y m d).toNat } by cases ext <;> rfl]
    simp only [decide_eq_true_eq, ey, ea, toOrdinal_jan]
    exact ⟨by omega, by omega⟩
  cases df with
  | calExt => exact cal true
  | calBas => exact cal false
  | weekExtD => exact week true
  | weekBasD => exact week false
  | ordExt => exact ord true
  | ordBas => exact ord false
  | _ => cases hc

/-- the fields a complete form shows for a valid date are what the date scanners establish for that date -/
theorem dateFieldsOf_scan (df : DateForm) (hc : df.complete = true) (y m d : Int) (hv : ValidDate y m d) :
    UncommonOK df (dateFieldsOf df y m d) (y, m, d) [] := by
  obtain ⟨hwf, hord⟩ := dateFieldsOf_ok df hc y m d hv
  exact ⟨hwf, by rw [hord]; exact toOrdinal_pos _ _ _ hv.1 hv.2.2, by rw [hord]; exact toOrdinal_le_max _ _ _ hv,
    by rw [hord, fromOrdinal_toOrdinal y m d hv.1 hv.2.2], fun _ => rfl⟩

/-- the six decimal digits of a microsecond value -/
def digits6 (us : Nat) : List Nat :=
  [us / 100000 % 10, us / 10000 % 10, us / 1000 % 10, us / 100 % 10, us / 10 % 10, us % 10]

theorem digits6_eq (us : Nat) : digits6 us = digitsN 6 us := by
  simp [digits6, digitsN, Nat.div_div_eq_div_mul]

theorem fracMicros_take (us k : Nat) (hus : us < 1000000) (h1 : 1 ≤ k) (h6 : k ≤ 6) :
    fracMicros ((digits6 us).take k) = us - us % 10 ^ (6 - k) := by
  have hlt : us / 10 ^ (6 - k) < 10 ^ k := by
    apply Nat.div_lt_of_lt_mul
    rw [← Nat.pow_add, show 6 - k + k = 6 by omega]; exact hus
  have ht := digitsN_take k (6 - k) us
  rw [show k + (6 - k) = 6 by omega] at ht
  rw [digits6_eq, ht, fracMicros_def, List.take_of_length_le (by simp; omega), length_digitsN, ofDigits_digitsN,
    Nat.mod_eq_of_lt hlt]
  have := Nat.div_add_mod us (10 ^ (6 - k))
  rw [Nat.mul_comm] at this
  omega

theorem fracMicros_extra (us : Nat) (extra : List Nat) (hus : us < 1000000) :
    fracMicros (digits6 us ++ extra) = us := by
  rw [digits6_eq, fracMicros_def, List.take_left' (length_digitsN 6 us), length_digitsN, ofDigits_digitsN,
    Nat.mod_eq_of_lt hus, Nat.sub_self, Nat.pow_zero, Nat.mul_one]

/-- the fields a form shows for the datetime `t`, with fraction digits `frac` and offset fields `xo` -/
def dtFields (df : DateForm) (t : DT) (frac : List Nat) (xo : Fields) : Fields :=
  mergeF (dateFieldsOf df t.y t.m t.d)
    { year := 0, hh := t.hh.toNat, mm := t.mm.toNat, ss := t.ss.toNat, frac := frac } xo

/-- `t` truncated to what the time form shows -/
def truncDT (tf : TimeForm) (frac : List Nat) (t : DT) : DT :=
  { t with mm := if tf.hasM then t.mm else 0, ss := if tf.hasS then t.ss else 0,
           us := if tf.hasFrac then (fracMicros frac : Nat) else 0 }

theorem isoparse_inverts_datetime_core (t : DT) (ht : t.Valid) (df : DateForm) (hc : df.complete = true)
    (tf : TimeForm) (htf : tf ≠ .none) (frac : List Nat)
    (hfrac : tf.hasFrac = true → frac ≠ [] ∧ ∀ d ∈ frac, d ≤ 9)
    (o : OffForm) (xo : Fields) (how : offWF o xo = true) (sep : Nat) (hsep : df = .ordBas → isDigit sep = false)
    (cfg : Option Nat) (hcfg : cfg = none ∨ cfg = some sep) :
    isoparse cfg (render ⟨df, tf, o, sep⟩ (dtFields df t frac xo)) =
      .ok ⟨truncDT tf frac t, offDenote o xo⟩ := by
  obtain ⟨hv, a1, a2, a3, a4, a5, a6, a7, a8⟩ := ht
  obtain ⟨hwf, hord⟩ := dateFieldsOf_ok df hc t.y t.m t.d hv
  have hfo := fromOrdinal_toOrdinal t.y t.m t.d hv.1 hv.2.2
  have hd := dateFieldsOf_scan df hc t.y t.m t.d hv
  obtain ⟨xt, hxt⟩ : ∃ xt : Fields,
      xt = { year := 0, hh := t.hh.toNat, mm := t.mm.toNat, ss := t.ss.toNat, frac := frac } := ⟨_, rfl⟩
  have hdt : dtFields df t frac xo = mergeF (dateFieldsOf df t.y t.m t.d) xt xo := by rw [hxt]; rfl
  have hscan : TimeScan tf xt := by
    rw [hxt]
    exact ⟨htf, by show t.hh.toNat < 100; omega, by show t.mm.toNat < 100; omega,
      by show t.ss.toNat < 100; omega, hfrac⟩
  have hsh1 : (timeShown tf xt).1 = t.hh.toNat := by
    rw [hxt]; cases tf <;> first | exact absurd rfl htf | rfl
  have hsh2 : (timeShown tf xt).2.1 = if tf.hasM then t.mm.toNat else 0 := by rw [hxt]; rfl
  have hsh3 : (timeShown tf xt).2.2.1 = if tf.hasS then t.ss.toNat else 0 := by rw [hxt]; rfl
  have hsh4 : (timeShown tf xt).2.2.2 = if tf.hasFrac then fracMicros frac else 0 := by rw [hxt]; rfl
  have hW := final_time df _ tf xt o xo sep t.y t.m t.d [] hd hc hscan how
    (Or.inl ⟨by rw [hsh1]; omega, by rw [hsh2]; split <;> omega, by rw [hsh3]; split <;> omega⟩)
  rw [hdt]
  have hr := isoparse_render_core ⟨df, tf, o, sep⟩ _ cfg hW (fun _ h => hsep h) fun _ => hcfg
  rw [hr]
  congr 1
  have h24 : ¬ (timeShown tf xt).1 = 24 := by rw [hsh1]; omega
  have hden : denoteOrdinal ⟨df, tf, o, sep⟩ (mergeF (dateFieldsOf df t.y t.m t.d) xt xo) = toOrdinal t.y t.m t.d := by
    rw [denoteOrdinal_merge, if_neg h24, hord]; omega
  simp only [denote, hden, timeShown_merge, offDenote_merge, hfo, truncDT]
  have h24' : ¬ t.hh.toNat = 24 := by omega
  have e1 : ((t.hh.toNat : Nat) : Int) = t.hh := Int.toNat_of_nonneg a1
  have e2 : ((t.mm.toNat : Nat) : Int) = t.mm := Int.toNat_of_nonneg a3
  have e3 : ((t.ss.toNat : Nat) : Int) = t.ss := Int.toNat_of_nonneg a5
  simp only [hsh1, hsh2, hsh3, hsh4, h24', if_false, e1]
  cases t
  simp only at *
  cases hM : tf.hasM <;> cases hS : tf.hasS <;> cases hF : tf.hasFrac <;> simp [e2, e3]
end Iso
