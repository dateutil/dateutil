/-
  Proofs/RDScale.lean — the translated `__mul__` (dyadic factor), `__div__` (power of two) and `normalized()` equal the
  hand model of Model/RDScale.lean; the truncated quotient.
-/
import DateutilVerif.Proofs.RDGenEq
import DateutilVerif.Model.RDScale

namespace RDG
open RDM

theorem mulDy_eq (self : RD) (f : RDPy.Dy) : Gen.mulDy self f = .ok (RDM.mulDyadic self f.m f.k) := by
  unfold Gen.mulDy
  simp only []
  rw [initKw_plain _ self.weekday rfl rfl rfl]
  unfold RDM.mulDyadic RDM.scaleField RDPy.truncDy RDPy.intMulDy
  simp only [bind_ok, Int.zero_mul, Int.add_zero]

theorem divPow2_eq (self : RD) (p : RDPy.Pow2) : Gen.divPow2 self p = .ok (RDM.divPow2 self p.neg p.k) := by
  unfold Gen.divPow2
  simp only []
  rw [mulDy_eq]
  rfl

theorem normalized_eq (self : RD) : Gen.normalized self = .ok (RDM.normalizedInt self) := by
  unfold Gen.normalized
  simp only []
  rw [initKw_plain _ self.weekday rfl rfl rfl]
  unfold RDM.normalizedInt
  simp only [bind_ok, Int.zero_mul, Int.add_zero, Int.sub_self, Int.mul_zero]

/-- the truncated quotient: `a = q·b + r` with the remainder on `a`'s side of zero and smaller than `b` -/
theorem tquot_spec (a b : Int) (hb : 0 < b) :
    (0 ≤ a → 0 ≤ a - RDPy.tquot a b * b ∧ a - RDPy.tquot a b * b < b) ∧
    (a < 0 → -b < a - RDPy.tquot a b * b ∧ a - RDPy.tquot a b * b ≤ 0) := by
  unfold RDPy.tquot
  constructor
  · intro h
    rw [if_pos h]
    have h1 := Int.emod_nonneg a (Int.ne_of_gt hb)
    have h2 := Int.emod_lt_of_pos a hb
    have h3 := Int.emod_add_mul_ediv a b
    have h4 : a / b * b = b * (a / b) := Int.mul_comm _ _
    omega
  · intro h
    rw [if_neg (by omega)]
    have h1 := Int.emod_nonneg (-a) (Int.ne_of_gt hb)
    have h2 := Int.emod_lt_of_pos (-a) hb
    have h3 := Int.emod_add_mul_ediv (-a) b
    have h4 : -(-a / b) * b = -(b * (-a / b)) := by rw [Int.neg_mul, Int.mul_comm]
    omega

/-- hence truncation loses less than one unit, in either direction -/
theorem tquot_near (a b : Int) (hb : 0 < b) : -b < a - RDPy.tquot a b * b ∧ a - RDPy.tquot a b * b < b := by
  have h := tquot_spec a b hb
  by_cases ha : 0 ≤ a
  · have := h.1 ha; omega
  · have := h.2 (by omega); omega

theorem tquot_exact (a b : Int) (hb : 0 < b) (h : a % b = 0) : RDPy.tquot a b * b = a := by
  have hd : b ∣ a := Int.dvd_of_emod_eq_zero h
  obtain ⟨c, hc⟩ := hd
  unfold RDPy.tquot
  split
  · rw [hc, Int.mul_ediv_cancel_left _ (Int.ne_of_gt hb), Int.mul_comm]
  · have : -a = b * (-c) := by rw [hc, Int.mul_neg]
    rw [this, Int.mul_ediv_cancel_left _ (Int.ne_of_gt hb), Int.neg_neg, Int.mul_comm, hc]

theorem tquot_one (a : Int) : RDPy.tquot a 1 = a := by
  unfold RDPy.tquot; split <;> simp

end RDG
