/-
  Proofs/CacheNestedInit.lean — `Nested.init` builds a `Fresh` state (C11, nested cached objects):
  induction over the construction (owned iterators appended member by member, set by set).
-/
import DateutilVerif.Proofs.CacheNestedStep

namespace Nested
open Cache Queries

/-- every member machine satisfies its invariant and all of its threads are outside the critical section -/
def Good (ms : List Cache.State) : Prop :=
  ∀ (m : Nat) (M : Cache.State), ms[m]? = some M → Inv M ∧ ∀ (t : Tid) (it : Iter), M.its[t]? = some it → it.pc.inCrit = false

/-- number of threads of member m (0 if there is no such member) -/
def lenAt (ms : List Cache.State) (m : Nat) : Nat :=
  match ms[m]? with | some M => M.its.length | none => 0

theorem lenAt_some {ms : List Cache.State} {m : Nat} {M : Cache.State} (h : ms[m]? = some M) : lenAt ms m = M.its.length := by
  unfold lenAt; rw [h]

theorem subIter_linv (sh : Shared) : LInv sh subIter := ⟨rfl, rfl, rfl⟩

theorem good_set {ms : List Cache.State} {m : Nat} {M : Cache.State} (hg : Good ms) (hM : ms[m]? = some M) :
    Good (ms.set m { M with its := M.its ++ [subIter] }) := by
  intro m' X hX
  rcases set_get _ _ _ _ _ hX with ⟨_, rfl⟩ | ⟨_, hX'⟩
  · obtain ⟨hi, hp⟩ := hg m M hM
    refine ⟨inv_add_iter hi subIter (subIter_linv _) rfl, ?_⟩
    intro t it hit
    simp only [] at hit
    by_cases hlt : t < M.its.length
    · rw [List.getElem?_append_left hlt] at hit; exact hp t it hit
    · rw [List.getElem?_append_right (Nat.le_of_not_lt hlt)] at hit
      by_cases e : t - M.its.length = 0
      · rw [e] at hit; simp at hit; rw [← hit]; rfl
      · have : ([subIter])[t - M.its.length]? = none := by
          apply List.getElem?_eq_none
          simp only [List.length_cons, List.length_nil]
          exact Nat.pos_of_ne_zero e
        rw [this] at hit; cases hit
  · exact hg m' X hX'

theorem lenAt_set (ms : List Cache.State) (m m' : Nat) (M : Cache.State) (hM : ms[m]? = some M) :
    lenAt (ms.set m { M with its := M.its ++ [subIter] }) m' = if m = m' then M.its.length + 1 else lenAt ms m' := by
  unfold lenAt
  by_cases e : m = m'
  · subst e
    rw [List.getElem?_set_self (lt_of_getElem?' hM), if_pos rfl]
    simp
  · rw [List.getElem?_set_ne e, if_neg e]

theorem addSubs_spec : ∀ (l : List Nat) (ms : List Cache.State), Good ms →
    Good (addSubs ms l).1 ∧ (∀ m, lenAt ms m ≤ lenAt (addSubs ms l).1 m) ∧
    (∀ (k m : Nat) (tid : Tid), (addSubs ms l).2[k]? = some (m, tid) → lenAt ms m ≤ tid ∧ tid < lenAt (addSubs ms l).1 m) ∧
    (∀ (k k' m : Nat) (tid : Tid), (addSubs ms l).2[k]? = some (m, tid) → (addSubs ms l).2[k']? = some (m, tid) → k = k') := by
  intro l
  induction l with
  | nil => intro ms hg; exact ⟨hg, fun _ => Nat.le_refl _, fun k m tid h => by simp [addSubs] at h, fun k k' m tid h => by simp [addSubs] at h⟩
  | cons m rest ih =>
    intro ms hg
    unfold addSubs
    cases hM : ms[m]? with
    | none => simp only []; exact ih ms hg
    | some M =>
      simp only []
      have hg1 := good_set hg hM
      obtain ⟨g2, mono, rng, uniq⟩ := ih _ hg1
      have hlen1 : ∀ m', lenAt ms m' ≤ lenAt (ms.set m { M with its := M.its ++ [subIter] }) m' := by
        intro m'
        rw [lenAt_set ms m m' M hM]
        split
        · rename_i e; subst e; rw [lenAt_some hM]; omega
        · exact Nat.le_refl _
      have hself : lenAt (ms.set m { M with its := M.its ++ [subIter] }) m = M.its.length + 1 := by
        rw [lenAt_set ms m m M hM, if_pos rfl]
      refine ⟨g2, fun m' => Nat.le_trans (hlen1 m') (mono m'), ?_, ?_⟩
      · intro k m' tid h
        cases k with
        | zero =>
          simp only [List.getElem?_cons_zero, Option.some.injEq, Prod.mk.injEq] at h
          obtain ⟨rfl, rfl⟩ := h
          have h1 := mono m
          rw [hself] at h1
          rw [lenAt_some hM]
          exact ⟨Nat.le_refl _, Nat.lt_of_succ_le h1⟩
        | succ k =>
          simp only [List.getElem?_cons_succ] at h
          obtain ⟨h1, h2⟩ := rng k m' tid h
          have h3 := hlen1 m'
          exact ⟨by omega, h2⟩
      · intro k k' m' tid h h'
        cases k with
        | zero =>
          simp only [List.getElem?_cons_zero, Option.some.injEq, Prod.mk.injEq] at h
          obtain ⟨rfl, rfl⟩ := h
          cases k' with
          | zero => rfl
          | succ k' =>
            simp only [List.getElem?_cons_succ] at h'
            have := (rng k' m _ h').1
            rw [hself] at this
            omega
        | succ k =>
          simp only [List.getElem?_cons_succ] at h
          cases k' with
          | zero =>
            simp only [List.getElem?_cons_zero, Option.some.injEq, Prod.mk.injEq] at h'
            obtain ⟨rfl, rfl⟩ := h'
            have := (rng k m _ h).1
            rw [hself] at this
            omega
          | succ k' =>
            simp only [List.getElem?_cons_succ] at h'
            rw [uniq k k' m' tid h h']

theorem addSets_spec (srcOf : Nat → List Int) (direct : Nat → List Query) (nM : Nat) :
    ∀ (defs : List (List Slot × List Slot)) (ms : List Cache.State) (si0 : Nat), Good ms →
    Good (addSets srcOf direct nM ms si0 defs).1 ∧
    (∀ m, lenAt ms m ≤ lenAt (addSets srcOf direct nM ms si0 defs).1 m) ∧
    (∀ (i : Nat) (S : SetM), (addSets srcOf direct nM ms si0 defs).2[i]? = some S → S.pulls = [] ∧ Inv S.st) ∧
    (∀ (i : Nat) (S : SetM) (k m : Nat) (tid : Tid), (addSets srcOf direct nM ms si0 defs).2[i]? = some S →
        S.subs[k]? = some (m, tid) → lenAt ms m ≤ tid ∧ tid < lenAt (addSets srcOf direct nM ms si0 defs).1 m) ∧
    (∀ (i i' : Nat) (S S' : SetM) (k k' m : Nat) (tid : Tid), (addSets srcOf direct nM ms si0 defs).2[i]? = some S →
        (addSets srcOf direct nM ms si0 defs).2[i']? = some S' → S.subs[k]? = some (m, tid) → S'.subs[k']? = some (m, tid) →
        i = i' ∧ k = k') := by
  intro defs
  induction defs with
  | nil =>
    intro ms si0 hg
    exact ⟨hg, fun _ => Nat.le_refl _, fun i S h => by simp [addSets] at h, fun i S k m tid h => by simp [addSets] at h,
      fun i i' S S' k k' m tid h => by simp [addSets] at h⟩
  | cons d rest ih =>
    intro ms si0 hg
    unfold addSets
    simp only []
    obtain ⟨g1, mono1, rng1, uniq1⟩ := addSubs_spec (subMembers d.1 d.2) ms hg
    obtain ⟨g2, mono2, fresh2, rng2, uniq2⟩ := ih (addSubs ms (subMembers d.1 d.2)).1 (si0 + 1) g1
    refine ⟨g2, fun m => Nat.le_trans (mono1 m) (mono2 m), ?_, ?_, ?_⟩
    · intro i S h
      cases i with
      | zero =>
        simp only [List.getElem?_cons_zero, Option.some.injEq] at h
        subst h
        exact ⟨rfl, inv_init _ _⟩
      | succ i => simp only [List.getElem?_cons_succ] at h; exact fresh2 i S h
    · intro i S k m tid h hk
      cases i with
      | zero =>
        simp only [List.getElem?_cons_zero, Option.some.injEq] at h
        subst h
        obtain ⟨h1, h2⟩ := rng1 k m tid hk
        have h3 := mono2 m
        exact ⟨h1, Nat.lt_of_lt_of_le h2 h3⟩
      | succ i =>
        simp only [List.getElem?_cons_succ] at h
        obtain ⟨h1, h2⟩ := rng2 i S k m tid h hk
        have h3 := mono1 m
        exact ⟨by omega, h2⟩
    · intro i i' S S' k k' m tid h h' hk hk'
      cases i with
      | zero =>
        simp only [List.getElem?_cons_zero, Option.some.injEq] at h
        subst h
        cases i' with
        | zero =>
          simp only [List.getElem?_cons_zero, Option.some.injEq] at h'
          subst h'
          exact ⟨rfl, uniq1 k k' m tid hk hk'⟩
        | succ i' =>
          simp only [List.getElem?_cons_succ] at h'
          have a := (rng1 k m tid hk).2
          have b := (rng2 i' S' k' m tid h' hk').1
          exact absurd a (Nat.not_lt.mpr b)
      | succ i =>
        simp only [List.getElem?_cons_succ] at h
        cases i' with
        | zero =>
          simp only [List.getElem?_cons_zero, Option.some.injEq] at h'
          subst h'
          have a := (rng1 k' m tid hk').2
          have b := (rng2 i S k m tid h hk).1
          exact absurd a (Nat.not_lt.mpr b)
        | succ i' =>
          simp only [List.getElem?_cons_succ] at h'
          obtain ⟨e1, e2⟩ := uniq2 i i' S S' k k' m tid h h' hk hk'
          exact ⟨by rw [e1], e2⟩

/-- **`Nested.init` builds a fresh state** (one lock per object) -/
theorem fresh_init (memberSrcs : List (List Int)) (setDefs : List (List Slot × List Slot)) (qs : List (Nat × Query)) :
    Fresh (init memberSrcs setDefs qs false).1 := by
  unfold init
  simp only []
  have hg0 : Good ((List.range memberSrcs.length).map (fun m =>
      Cache.init (memberSrcs.getD m []) ((qs.filter (fun p => p.1 == m)).map (·.2)))) := by
    intro m M hM
    simp only [List.getElem?_map, Option.map_eq_some_iff] at hM
    obtain ⟨m', _, rfl⟩ := hM
    refine ⟨inv_init _ _, ?_⟩
    intro t it hit
    simp only [Cache.init, List.getElem?_map, Option.map_eq_some_iff] at hit
    obtain ⟨q, _, rfl⟩ := hit
    rfl
  obtain ⟨g, _, fresh, rng, uniq⟩ := addSets_spec (fun m => memberSrcs.getD m [])
    (fun obj => (qs.filter (fun p => p.1 == obj)).map (·.2)) memberSrcs.length setDefs _ 0 hg0
  refine ⟨rfl, fun m M hM => (g m M hM).1, fun si S hS => (fresh si S hS).2, fun si S hS => (fresh si S hS).1, ?_, uniq⟩
  intro si S k m tid M it hS hk hM hit
  exact (g m M hM).2 tid it hit

end Nested
