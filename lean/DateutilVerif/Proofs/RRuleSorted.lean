/-
  Proofs/RRuleSorted.lean — `sortBy` of a duplicate-free list is strictly sorted; the time sets
  built by the model are strictly increasing lists of valid wall times.
-/
import DateutilVerif.Proofs.RRuleLists

namespace RRule

/-- a strict total order on the elements that matter -/
structure StrictOn {α} (lt : α → α → Bool) (P : α → Prop) : Prop where
  trans : ∀ a b c, lt a b = true → lt b c = true → lt a c = true
  irrefl : ∀ a, lt a a = false
  tri : ∀ a b, P a → P b → a ≠ b → lt a b = false → lt b a = true

theorem insertBy_pairwise {α} {lt : α → α → Bool} {P : α → Prop} (so : StrictOn lt P) (x : α) (hx : P x) :
    ∀ (l : List α), (∀ y ∈ l, P y) → (∀ y ∈ l, y ≠ x) → l.Pairwise (fun a b => lt a b = true) →
    (insertBy lt x l).Pairwise (fun a b => lt a b = true) := by
  intro l
  induction l with
  | nil => intro _ _ _; simp [insertBy]
  | cons z zs ih =>
    intro hP hne hs
    unfold insertBy
    rw [List.pairwise_cons] at hs
    split
    · rename_i hzx
      rw [List.pairwise_cons]
      refine ⟨?_, ih (fun y hy => hP y (List.mem_cons_of_mem _ hy))
                     (fun y hy => hne y (List.mem_cons_of_mem _ hy)) hs.2⟩
      intro y hy
      rcases (mem_insertBy lt x y zs).mp hy with rfl | hy
      · exact hzx
      · exact hs.1 y hy
    · rename_i hzx
      have hxz : lt x z = true :=
        so.tri z x (hP z (List.mem_cons_self ..)) hx (hne z (List.mem_cons_self ..)) (by simpa using hzx)
      rw [List.pairwise_cons]
      refine ⟨?_, List.pairwise_cons.mpr hs⟩
      intro y hy
      rcases List.mem_cons.mp hy with rfl | hy
      · exact hxz
      · exact so.trans _ _ _ hxz (hs.1 y hy)

theorem sortBy_pairwise {α} {lt : α → α → Bool} {P : α → Prop} (so : StrictOn lt P) :
    ∀ (l : List α), (∀ y ∈ l, P y) → l.Nodup → (sortBy lt l).Pairwise (fun a b => lt a b = true) := by
  intro l
  induction l with
  | nil => intro _ _; simp [sortBy]
  | cons x xs ih =>
    intro hP hnd
    rw [List.nodup_cons] at hnd
    have : sortBy lt (x :: xs) = insertBy lt x (sortBy lt xs) := rfl
    rw [this]
    apply insertBy_pairwise so x (hP x (List.mem_cons_self ..))
    · intro y hy; exact hP y (List.mem_cons_of_mem _ ((mem_sortBy lt y xs).mp hy))
    · intro y hy heq; subst heq; exact hnd.1 ((mem_sortBy lt y xs).mp hy)
    · exact ih (fun y hy => hP y (List.mem_cons_of_mem _ hy)) hnd.2

theorem pairwise_nodup {α} {lt : α → α → Bool} (irrefl : ∀ a, lt a a = false) (l : List α)
    (h : l.Pairwise (fun a b => lt a b = true)) : l.Nodup := by
  unfold List.Nodup
  exact h.imp (by intro a b hab heq; subst heq; rw [irrefl] at hab; cases hab)

theorem dedup_nodup {α} [BEq α] [LawfulBEq α] : ∀ (l acc : List α), acc.Nodup → (dedup acc l).Nodup := by
  intro l
  induction l with
  | nil =>
    intro acc h; unfold dedup
    exact (List.Perm.nodup_iff (List.reverse_perm acc)).mpr h
  | cons x xs ih =>
    intro acc h
    unfold dedup
    split
    · exact ih acc h
    · rename_i hc
      apply ih
      rw [List.nodup_cons]
      exact ⟨by intro hm; exact hc (List.contains_iff_mem.mpr hm), h⟩

theorem strictInt : StrictOn ltInt (fun _ => True) :=
  ⟨by intro a b c; simp [ltInt]; omega, by intro a; simp [ltInt], by intro a b _ _; simp [ltInt]; omega⟩

theorem sortedSet_pairwise (l : List Int) : (sortedSet l).Pairwise (fun a b => ltInt a b = true) :=
  sortBy_pairwise strictInt _ (fun _ _ => trivial) (dedup_nodup l [] List.nodup_nil)

theorem sortedSet_nodup (l : List Int) : (sortedSet l).Nodup :=
  pairwise_nodup (by intro a; simp [ltInt]) _ (sortedSet_pairwise l)

theorem sortBy_nodup_int (l : List Int) (h : l.Nodup) : (sortBy ltInt l).Nodup :=
  pairwise_nodup (by intro a; simp [ltInt]) _ (sortBy_pairwise strictInt l (fun _ _ => trivial) h)

theorem normUnit_nodup (freq lvl interval start : Int) (arg : Option (List Int)) (base : Int)
    (res : Option (List Int)) (h : normUnit freq lvl interval start arg base = .ok res) :
    (res.getD []).Nodup := by
  unfold normUnit at h
  split at h
  · injection h with h; subst h
    split <;> simp
  · rename_i l
    split at h
    · split at h
      · rename_i c hc
        injection h with h; subst h
        unfold constructByset at hc
        dsimp only at hc
        split at hc
        · cases hc
        · injection hc with hc; subst hc
          exact sortBy_nodup_int _ (dedup_nodup _ [] List.nodup_nil)
      · cases h
    · injection h with h; subst h
      exact sortedSet_nodup l

def ValidHMS (t : HMS) : Prop := 0 ≤ t.1 ∧ t.1 ≤ 23 ∧ 0 ≤ t.2.1 ∧ t.2.1 ≤ 59 ∧ 0 ≤ t.2.2 ∧ t.2.2 ≤ 59

/-- seconds of the day -/
def tod (t : HMS) : Int := t.1 * 3600 + t.2.1 * 60 + t.2.2

theorem ltHMS_iff (a b : HMS) (ha : ValidHMS a) (hb : ValidHMS b) : ltHMS a b = true ↔ tod a < tod b := by
  obtain ⟨a1, a2, a3⟩ := a
  obtain ⟨b1, b2, b3⟩ := b
  unfold ValidHMS at ha hb
  simp only [ltHMS, tod, Bool.or_eq_true, decide_eq_true_eq, Bool.and_eq_true, beq_iff_eq] at *
  omega

theorem strictHMS : StrictOn ltHMS (fun _ => True) := by
  refine ⟨?_, ?_, ?_⟩
  · rintro ⟨a1, a2, a3⟩ ⟨b1, b2, b3⟩ ⟨c1, c2, c3⟩
    simp only [ltHMS, Bool.or_eq_true, decide_eq_true_eq, Bool.and_eq_true, beq_iff_eq]
    omega
  · rintro ⟨a1, a2, a3⟩; simp [ltHMS]
  · rintro ⟨a1, a2, a3⟩ ⟨b1, b2, b3⟩ _ _ hne
    simp only [ltHMS, Bool.or_eq_true, decide_eq_true_eq, Bool.and_eq_true, beq_iff_eq,
      Bool.or_eq_false_iff, Bool.and_eq_false_iff, decide_eq_false_iff_not, beq_eq_false_iff_ne]
    intro h
    have : ¬ (a1 = b1 ∧ a2 = b2 ∧ a3 = b3) := by
      intro ⟨e1, e2, e3⟩; exact hne (by rw [e1, e2, e3])
    omega

theorem checkTimes_ok : ∀ (l l' : List HMS), checkTimes l = .ok l' → l' = l ∧ ∀ t ∈ l, ValidHMS t := by
  intro l
  induction l with
  | nil => intro l' h; simp [checkTimes] at h; subst h; simp
  | cons t ts ih =>
    intro l' h
    unfold checkTimes at h
    unfold mkTime at h
    split at h
    · cases h
    · rename_i t' ht
      split at ht
      · rename_i hv
        injection ht with ht; subst ht
        split at h
        · cases h
        · rename_i l2 hl2
          injection h with h; subst h
          obtain ⟨e, hv2⟩ := ih l2 hl2
          subst e
          refine ⟨rfl, ?_⟩
          intro u hu
          rcases List.mem_cons.mp hu with rfl | hu
          · exact hv
          · exact hv2 u hu
      · cases ht

theorem productHMS_nodup (hs ms ss : List Int) (h1 : hs.Nodup) (h2 : ms.Nodup) (h3 : ss.Nodup) :
    (productHMS hs ms ss).Nodup := by
  unfold productHMS List.Nodup
  rw [List.pairwise_flatMap]
  refine ⟨?_, ?_⟩
  · intro h _
    rw [List.pairwise_flatMap]
    refine ⟨?_, ?_⟩
    · intro m _
      rw [List.pairwise_map]
      exact h3.imp (by intro a b hab heq; injection heq with _ e; injection e with _ e; exact hab e)
    · exact h2.imp (by
        intro a b hab x hx y hy heq
        simp only [List.mem_map] at hx hy
        obtain ⟨_, _, rfl⟩ := hx
        obtain ⟨_, _, rfl⟩ := hy
        injection heq with _ e; injection e with e _; exact hab e)
  · exact h1.imp (by
      intro a b hab x hx y hy heq
      simp only [List.mem_flatMap, List.mem_map] at hx hy
      obtain ⟨_, _, _, _, rfl⟩ := hx
      obtain ⟨_, _, _, _, rfl⟩ := hy
      injection heq with e _; exact hab e)

/-- a time set: strictly increasing valid wall times -/
def TsOk (ts : List HMS) : Prop := ts.Pairwise (fun a b => ltHMS a b = true) ∧ ∀ t ∈ ts, ValidHMS t

theorem buildTimeset_ok (hs ms ss : List Int) (ts : List HMS) (h1 : hs.Nodup) (h2 : ms.Nodup) (h3 : ss.Nodup)
    (h : buildTimeset hs ms ss = .ok ts) :
    TsOk ts ∧ ∀ t ∈ ts, t.1 ∈ hs ∧ t.2.1 ∈ ms ∧ t.2.2 ∈ ss := by
  unfold buildTimeset at h
  split at h
  · rename_i l hl
    injection h with h; subst h
    obtain ⟨e, hv⟩ := checkTimes_ok _ l hl
    subst e
    refine ⟨⟨sortBy_pairwise strictHMS _ (fun _ _ => trivial) (productHMS_nodup hs ms ss h1 h2 h3), ?_⟩, ?_⟩
    · intro t ht; exact hv t ((mem_sortBy ltHMS t _).mp ht)
    · intro t ht
      have := (mem_sortBy ltHMS t _).mp ht
      unfold productHMS at this
      simp only [List.mem_flatMap, List.mem_map] at this
      obtain ⟨h, hh, m, hm, s, hs', rfl⟩ := this
      exact ⟨hh, hm, hs'⟩
  · cases h

end RRule
