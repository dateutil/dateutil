/- Proofs/IsoTzSound.lean — `_parse_tzstr` accepts exactly the renderings of the offset forms: a numeric designator
   comes down to the final range checks (`parseTzstr_numeric`), which gives both directions. -/
import DateutilVerif.Proofs.IsoDigits
namespace Iso
open IsoSpec Py

/-- the value `parse_tzstr(s, zero_as_utc)` must return for the rendering of an offset form -/
def offValue (z : Bool) (o : OffForm) (x : Fields) : Off :=
  match o with
  | .naive | .Z | .z => .utc
  | .hh => if z = true ∧ x.oh = 0 then .utc
           else .fixed ((if x.neg then -1 else 1) * ((x.oh : Int) * 3600))
  | .hhmm | .hhcmm =>
      if z = true ∧ x.oh = 0 ∧ x.om = 0 then .utc
      else .fixed ((if x.neg then -1 else 1) * ((x.oh : Int) * 3600 + (x.om : Int) * 60))

theorem sign_cases (a : Nat) (m : Int)
    (h : (if [a] = [cDash] then (Except.ok (-1) : R Int) else if [a] = [cPlus] then .ok 1 else .error .ValueError) = .ok m) :
    (a = 45 ∧ m = -1) ∨ (a = 43 ∧ m = 1) := by
  by_cases h1 : a = 45
  · subst h1; simp [cDash] at h; exact Or.inl ⟨rfl, h.symm⟩
  · by_cases h2 : a = 43
    · subst h2; simp [cDash, cPlus] at h; exact Or.inr ⟨rfl, h.symm⟩
    · simp [cDash, cPlus, h1, h2] at h

theorem tz_tail (z : Bool) (m : Int) (v1 v2 : Nat) (v : Off)
    (h : (if z = true ∧ (v1 : Int) = 0 ∧ (v2 : Int) = 0 then (Except.ok IsoT.Off.utc : R IsoT.Off)
          else if (v2 : Int) > 59 then .error .ValueError
          else if (v1 : Int) > 23 then .error .ValueError
          else .ok (.fixed (m * ((v1 : Int) * 60 + (v2 : Int)) * 60))) = .ok v) :
    (z = true ∧ v1 = 0 ∧ v2 = 0 ∧ v = .utc) ∨
    (¬ (z = true ∧ v1 = 0 ∧ v2 = 0) ∧ v2 ≤ 59 ∧ v1 ≤ 23 ∧ v = .fixed (m * ((v1 : Int) * 60 + (v2 : Int)) * 60)) := by
  by_cases c : z = true ∧ (v1 : Int) = 0 ∧ (v2 : Int) = 0
  · rw [if_pos c] at h; cases h; left; exact ⟨c.1, by omega, by omega, rfl⟩
  · rw [if_neg c] at h
    by_cases c2 : (v2 : Int) > 59
    · rw [if_pos c2] at h; cases h
    · rw [if_neg c2] at h
      by_cases c3 : (v1 : Int) > 23
      · rw [if_pos c3] at h; cases h
      · rw [if_neg c3] at h; cases h
        right; exact ⟨fun hc => c ⟨hc.1, by omega, by omega⟩, by omega, by omega, rfl⟩

theorem sign_signByte (neg : Bool) :
    (if signByte neg = cDash then (Except.ok (-1) : R Int) else if signByte neg = cPlus then .ok 1
      else .error .ValueError) = .ok (if neg then -1 else 1) := by cases neg <;> rfl

/-- the range checks that end `_parse_tzstr` -/
def tzCheck (z : Bool) (mult hours minutes : Int) : R Off :=
  if z = true ∧ hours = 0 ∧ minutes = 0 then .ok .utc
  else if minutes > 59 then .error .ValueError
  else if hours > 23 then .error .ValueError
  else .ok (.fixed (mult * (hours * 60 + minutes) * 60))

theorem tzCheck_ok (z : Bool) (mult : Int) (h m : Nat) (hh : h ≤ 23) (hm : m ≤ 59) :
    tzCheck z mult h m =
      .ok (if z = true ∧ h = 0 ∧ m = 0 then .utc else .fixed (mult * ((h : Int) * 3600 + (m : Int) * 60))) := by
  unfold tzCheck
  by_cases c : z = true ∧ h = 0 ∧ m = 0
  · rw [if_pos c, if_pos ⟨c.1, by omega, by omega⟩]
  · rw [if_neg c, if_neg fun hc => c ⟨hc.1, by omega, by omega⟩, if_neg (by omega), if_neg (by omega)]
    congr 2; rw [Int.mul_assoc]; congr 1; omega

/-- `_parse_tzstr` on a numeric designator: sign, two-digit hours, then nothing, two-digit minutes, or a colon and
    two-digit minutes -/
theorem parseTzstr_numeric (neg : Bool) (h m : Nat) (hh : h < 100) (hm : m < 100) (z : Bool) (tail : Bytes)
    (ht : (tail = [] ∧ m = 0) ∨ tail = pad2 m ∨ tail = 58 :: pad2 m) :
    parseTzstr (signByte neg :: (pad2 h ++ tail)) z = tzCheck z (if neg then -1 else 1) h m := by
  have hs := sign_signByte neg
  rcases ht with ⟨rfl, rfl⟩ | rfl | rfl <;>
    simp [parseTzstr, tzCheck, pad2, hs, parseDigits_2 _ hh, parseDigits_2 _ hm, cZ, cz, cColon, bind, Except.bind]

/-- `_parse_tzstr` inverts every offset form, for both values of `zero_as_utc` -/
theorem parseTzstr_render_z (o : OffForm) (x : Fields) (z : Bool) (ho : o ≠ .naive) (hw : offWF o x = true) :
    parseTzstr (renderOff o x) z = .ok (offValue z o x) := by
  cases o with
  | naive => exact absurd rfl ho
  | Z => simp [parseTzstr, renderOff, cZ, offValue]
  | z => simp [parseTzstr, renderOff, cZ, cz, offValue]
  | hh =>
    have hw : x.oh ≤ 23 := by simpa [offWF] using hw
    have := parseTzstr_numeric x.neg x.oh 0 (by omega) (by omega) z [] (Or.inl ⟨rfl, rfl⟩)
    rw [List.append_nil, tzCheck_ok _ _ _ _ hw (by omega)] at this
    rw [renderOff, List.singleton_append, this, offValue]
    simp
  | hhmm =>
    have hw : x.oh ≤ 23 ∧ x.om ≤ 59 := by simpa [offWF] using hw
    rw [renderOff, List.append_assoc, List.singleton_append,
      parseTzstr_numeric x.neg x.oh x.om (by omega) (by omega) z _ (Or.inr (Or.inl rfl)),
      tzCheck_ok _ _ _ _ hw.1 hw.2, offValue]
  | hhcmm =>
    have hw : x.oh ≤ 23 ∧ x.om ≤ 59 := by simpa [offWF] using hw
    rw [renderOff, List.append_assoc, List.append_assoc, List.singleton_append, List.singleton_append,
      parseTzstr_numeric x.neg x.oh x.om (by omega) (by omega) z _ (Or.inr (Or.inr rfl)),
      tzCheck_ok _ _ _ _ hw.1 hw.2, offValue]

theorem parseTzstr_shape (s : Bytes) (z : Bool) (v : Off) (h : parseTzstr s z = .ok v)
    (hz : ¬ (s = [cZ] ∨ s = [cz])) :
    ∃ (neg : Bool) (oh om : Nat) (tail : Bytes), oh < 100 ∧ om < 100 ∧
      ((tail = [] ∧ om = 0) ∨ tail = pad2 om ∨ tail = 58 :: pad2 om) ∧ s = signByte neg :: (pad2 oh ++ tail) := by
  unfold parseTzstr at h
  rw [if_neg hz] at h
  by_cases hl : ¬ (s.length = 3 ∨ s.length = 5 ∨ s.length = 6)
  · rw [if_pos hl] at h; cases h
  rw [if_neg hl] at h
  simp only [bind, Except.bind] at h
  cases hm : (if s.take 1 = [cDash] then (Except.ok (-1) : R Int) else if s.take 1 = [cPlus] then .ok 1
      else .error .ValueError) with
  | error e => rw [hm] at h; cases h
  | ok mult =>
  obtain ⟨neg, e0⟩ : ∃ neg, s = signByte neg :: s.drop 1 := by
    by_cases h1 : s.take 1 = [cDash]
    · exact ⟨true, take1_eq_cons h1⟩
    · by_cases h2 : s.take 1 = [cPlus]
      · exact ⟨false, take1_eq_cons h2⟩
      · rw [if_neg h1, if_neg h2] at hm; cases hm
  rw [hm] at h
  cases hd : parseDigits ((s.drop 1).take 2) 2 with
  | error e => rw [hd] at h; cases h
  | ok hv =>
  obtain ⟨oh, hoh, -, e1⟩ := take_digits2 _ hv hd
  rw [hd] at h
  rw [List.drop_drop] at e1
  refine ⟨neg, oh, ?_⟩
  by_cases h3 : s.length = 3
  · exact ⟨0, [], hoh, by omega, Or.inl ⟨rfl, rfl⟩,
      by rw [e0, e1, List.drop_eq_nil_of_le (show s.length ≤ 1 + 2 by omega)]⟩
  rw [if_neg h3] at h
  by_cases hc : (s.drop 3).take 1 = [cColon]
  · rw [if_pos hc] at h
    cases hmi : parseDigits (s.drop 4) 2 with
    | error e => rw [hmi] at h; cases h
    | ok mv =>
    obtain ⟨om, hom, -, e2⟩ := parseDigits_inv2 _ mv hmi
    refine ⟨om, _, hoh, hom, Or.inr (Or.inr rfl), ?_⟩
    rw [e0, e1, take1_eq_cons hc, List.drop_drop, e2]; rfl
  · rw [if_neg hc] at h
    cases hmi : parseDigits (s.drop 3) 2 with
    | error e => rw [hmi] at h; cases h
    | ok mv =>
    obtain ⟨om, hom, -, e2⟩ := parseDigits_inv2 _ mv hmi
    refine ⟨om, _, hoh, hom, Or.inr (Or.inl rfl), ?_⟩
    rw [e0, e1, e2]

/-- whatever `_parse_tzstr` accepts is the rendering of an offset form -/
theorem parseTzstr_sound (s : Bytes) (z : Bool) (v : Off) (h : parseTzstr s z = .ok v) :
    ∃ o x, o ≠ OffForm.naive ∧ offWF o x = true ∧ s = renderOff o x ∧ v = offValue z o x := by
  by_cases hz : s = [cZ] ∨ s = [cz]
  · have hv : v = .utc := by
      unfold parseTzstr at h; rw [if_pos hz] at h; cases h; rfl
    subst hv
    rcases hz with rfl | rfl
    · exact ⟨.Z, { year := 0 }, by decide, rfl, rfl, rfl⟩
    · exact ⟨.z, { year := 0 }, by decide, rfl, rfl, rfl⟩
  · obtain ⟨neg, oh, om, tail, hoh, hom, ht, rfl⟩ := parseTzstr_shape s z v h hz
    rw [parseTzstr_numeric neg oh om hoh hom z tail ht] at h
    have hr : oh ≤ 23 ∧ om ≤ 59 := by
      rcases tz_tail z _ oh om v h with ⟨_, rfl, rfl, _⟩ | ⟨_, h2, h1, _⟩
      · decide
      · exact ⟨h1, h2⟩
    rw [tzCheck_ok _ _ _ _ hr.1 hr.2] at h
    cases h
    rcases ht with ⟨rfl, rfl⟩ | rfl | rfl
    · exact ⟨.hh, { year := 0, neg := neg, oh := oh }, by decide, by simpa [offWF] using hr.1, by simp [renderOff],
        by simp [offValue]⟩
    · exact ⟨.hhmm, { year := 0, neg := neg, oh := oh, om := om }, by decide, by simpa [offWF] using hr,
        by simp [renderOff], rfl⟩
    · exact ⟨.hhcmm, { year := 0, neg := neg, oh := oh, om := om }, by decide, by simpa [offWF] using hr,
        by simp [renderOff], rfl⟩

/-- the default mode (`zero_as_utc=True`) returns what the offset form denotes -/
theorem offDenote_eq (o : OffForm) (x : Fields) (ho : o ≠ .naive) :
    offDenote o x = some (offValue true o x) := by
  cases o with
  | naive => exact absurd rfl ho
  | Z => rfl
  | z => rfl
  | hh => simp only [offDenote, offValue]; split <;> simp_all
  | hhmm => simp only [offDenote, offValue]; split <;> simp_all
  | hhcmm => simp only [offDenote, offValue]; split <;> simp_all

end Iso
