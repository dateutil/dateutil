/-
  Proofs/RRuleEasterYearly.lean — YEARLY with BYEASTER on the supported class (offsets −80..250, years
  1583..4099): `rebuild`, the bridge to `dateOk` (for YEARLY and MONTHLY alike) and the period filter.
-/
import DateutilVerif.Proofs.RRuleNthYM
import DateutilVerif.Proofs.RRulePeriod

namespace RRule
open Cal

/-- BYEASTER is the only computed mask (plain BYDAY allowed) -/
structure EasterRule (r : Rule) : Prop where
  byweekno : truthy r.byweekno = false
  bynweekday : truthy r.bynweekday = false
  byeaster : truthy r.byeaster = true

variable {r : Rule} {y : Int} {info : Info}

/-- the BY-filter with an Easter mask, inside the year -/
theorem dayFiltered_easter (he : EasterRule r) (f : YearFacts r y info) (mask : List Int)
    (hnw : info.nwdaymask = none) (hm : info.eastermask = some mask) (i : Int) (h0 : 0 ≤ i) (h1 : i < info.yearlen)
    (hlen : info.yearlen ≤ (mask.length : Int)) :
    dayFiltered r info i =
      .ok (!(simpleOk r (info.yearordinal + i) && (mask[i.toNat]'(by omega) != 0))) := by
  rw [dayFiltered_eq f i h0 (by omega) (maskMiss_off he.byweekno ..) (nthMiss_none hnw i)
    (maskMiss_getElem he.byeaster hm h0 (by omega))]
  simp only [Bool.not_false, Bool.and_true]
  rfl

/-- `rebuild` of an Easter rule: succeeds for years 1583..4099 with supported offsets -/
theorem rebuild_easter (he : EasterRule r) (el : List Int) (hel : r.byeaster = some el)
    (hoff : ∀ o ∈ el, -80 ≤ o ∧ o ≤ 250) (y m : Int) (hy1 : 1583 ≤ y) (hy2 : y ≤ 4099) :
    ∃ info mask, rebuild r y m = .ok info ∧ info.nwdaymask = none ∧ info.eastermask = some mask ∧
      ∀ j : Int, 0 ≤ j → j < info.yearlen + 7 →
        Py.getIdx mask j = .ok (if (info.yearordinal + j - Spec.RRule.easterOrd y) ∈ el then 1 else 0) := by
  obtain ⟨e, he1, mask, rfl, he2⟩ := eastermaskOf_marks he.byeaster hel hoff hy1 hy2
  exact ⟨_, mask, rebuild_eq r m (by omega) (by omega) (wnomaskOf_off he.byweekno ..)
    (buildNwdaymask_off he.bynweekday ..) he1, rfl, rfl, he2⟩

/-- YEARLY argument sets with BYEASTER offsets of the supported class -/
structure EasterYArgs (a : Args) : Prop where
  freq : a.freq = 0
  interval : 1 ≤ a.interval
  valid : a.dtstart.Valid
  byweekno : a.byweekno = none
  monthday_nz : ∀ x ∈ a.bymonthday.getD [], x ≠ 0
  plain : ∀ w ∈ a.byweekday.getD [], w.2 = 0
  easter : ∃ el, a.byeaster = some el ∧ el ≠ [] ∧ ∀ o ∈ el, -80 ≤ o ∧ o ≤ 250

variable {a : Args}

/-- what the YEARLY and the MONTHLY class with BYEASTER share: the conditions of `EasterYArgs` at either frequency -/
structure EasterYMArgs (a : Args) : Prop where
  freq : a.freq = 0 ∨ a.freq = 1
  interval : 1 ≤ a.interval
  valid : a.dtstart.Valid
  byweekno : a.byweekno = none
  monthday_nz : ∀ x ∈ a.bymonthday.getD [], x ≠ 0
  plain : ∀ w ∈ a.byweekday.getD [], w.2 = 0
  easter : ∃ el, a.byeaster = some el ∧ el ≠ [] ∧ ∀ o ∈ el, -80 ≤ o ∧ o ≤ 250

theorem EasterYArgs.ym (ea : EasterYArgs a) : EasterYMArgs a :=
  ⟨Or.inl ea.freq, ea.interval, ea.valid, ea.byweekno, ea.monthday_nz, ea.plain, ea.easter⟩

def eastersOf (a : Args) : List Int := sortBy ltInt (a.byeaster.getD [])

theorem easters_facts (he : ∃ el, a.byeaster = some el ∧ el ≠ [] ∧ ∀ o ∈ el, -80 ≤ o ∧ o ≤ 250) :
    (∀ o, o ∈ eastersOf a ↔ o ∈ a.byeaster.getD []) ∧ (∀ o ∈ eastersOf a, -80 ≤ o ∧ o ≤ 250) ∧
    truthy (some (eastersOf a)) = true := by
  obtain ⟨el, hel, hne, hoff⟩ := he
  have hmem : ∀ o, o ∈ eastersOf a ↔ o ∈ el := by
    intro o; unfold eastersOf; rw [hel, Option.getD_some, mem_sortBy]
  refine ⟨by rw [hel]; exact hmem, fun o ho => hoff o ((hmem o).mp ho), ?_⟩
  rw [truthy_eq_not_isEmpty]
  cases hq : eastersOf a with
  | nil =>
    exfalso
    cases el with
    | nil => exact hne rfl
    | cons x xs => have := (hmem x).mpr (List.mem_cons_self ..); rw [hq] at this; simp at this
  | cons _ _ => rfl

theorem easter_rule (D : DateFields a r) (he : ∃ el, a.byeaster = some el ∧ el ≠ [] ∧ ∀ o ∈ el, -80 ≤ o ∧ o ≤ 250) :
    r.byeaster = some (eastersOf a) ∧ truthy r.byeaster = true := by
  have hb : r.byeaster = some (eastersOf a) := by
    obtain ⟨el, hel, _, _⟩ := he
    rw [D.byeaster]; unfold eastersOf; rw [hel]; rfl
  exact ⟨hb, by rw [hb]; exact (easters_facts he).2.2⟩

/-- the BYEASTER part of `dateOk`, for a date of year `y` -/
theorem easterPart_year (he : ∃ el, a.byeaster = some el ∧ el ≠ [] ∧ ∀ o ∈ el, -80 ≤ o ∧ o ≤ 250) (ord y : Int)
    (hy : (fromOrdinal ord).1 = y) :
    easterPart a ord = decide ((ord - Spec.RRule.easterOrd y) ∈ eastersOf a) := by
  obtain ⟨el, hel, hne, _⟩ := he
  unfold easterPart eastersOf
  rw [hel, hy]
  cases el with
  | nil => exact absurd rfl hne
  | cons x xs =>
    dsimp only [Option.getD_some]
    rw [Bool.eq_iff_iff, decide_eq_true_eq, List.contains_iff_mem, mem_sortBy]

/-- an Easter mask that marks "Easter Sunday of `y` plus a listed offset" misses a day of the year `y` exactly when the
    BYEASTER part of `dateOk` fails -/
theorem easter_miss_on (D : DateFields a r) (he : ∃ el, a.byeaster = some el ∧ el ≠ [] ∧ ∀ o ∈ el, -80 ≤ o ∧ o ≤ 250)
    (f : YearFacts r y info) {n : Int}
    (hm : Marked info.eastermask n (fun j => info.yearordinal + j - Spec.RRule.easterOrd y ∈ eastersOf a))
    {i : Int} (h0 : 0 ≤ i) (h1 : i < n) (hy : i < info.yearlen) :
    maskMiss (truthy r.byeaster) info.eastermask i = .ok (!easterPart a (info.yearordinal + i)) := by
  have hfo := date_of_yday y i f.year_lo h0 (by rw [← f.yearlen]; exact hy)
  rw [maskMiss_marked (easter_rule D he).2 hm h0 h1,
    easterPart_year he _ y (by rw [f.yearordinal, hfo])]

/-- the Easter mask of `info` marks, inside the year `y`, the days that are Easter Sunday of `y` plus a listed offset -/
def EasterMarks (a : Args) (y : Int) (info : Info) : Prop :=
  ∃ emask, info.eastermask = some emask ∧ info.yearlen ≤ (emask.length : Int) ∧
    ∀ j : Int, 0 ≤ j → j < info.yearlen →
      Py.getIdx emask j = .ok (if (info.yearordinal + j - Spec.RRule.easterOrd y) ∈ eastersOf a then 1 else 0)

theorem EasterMarks.marked (h : EasterMarks a y info) :
    Marked info.eastermask info.yearlen (fun j => info.yearordinal + j - Spec.RRule.easterOrd y ∈ eastersOf a) := by
  obtain ⟨emask, hm, _, hspec⟩ := h
  exact ⟨emask, hm, hspec⟩

/-- the Easter mask inside `rebuild`, read inside the year -/
theorem eastermaskOf_in (D : DateFields a r) (he : ∃ el, a.byeaster = some el ∧ el ≠ [] ∧ ∀ o ∈ el, -80 ≤ o ∧ o ≤ 250)
    (hy1 : 1583 ≤ y) (hy2 : y ≤ 4099) :
    ∃ e, eastermaskOf r y (baseInfo y) = .ok e ∧ ∀ w n,
      EasterMarks a y { baseInfo y with wnomask := w, nwdaymask := n, eastermask := e } := by
  obtain ⟨hbe, ht⟩ := easter_rule D he
  obtain ⟨e, he', emask, rfl, hspec⟩ := eastermaskOf_marks ht hbe (easters_facts he).2.1 hy1 hy2
  have hyl : 365 ≤ (baseInfo y).yearlen := by simp only [baseInfo]; split <;> omega
  refine ⟨_, he', fun _ _ => ⟨emask, rfl, ?_, fun j hj0 hj1 => hspec j hj0 (by dsimp only at hj1; omega)⟩⟩
  have := getIdx_ok_len emask ((baseInfo y).yearlen + 6) _ (by omega) (hspec _ (by omega) (by omega))
  dsimp only; omega

theorem EasterYMArgs.monthdayArg_nz (ea : EasterYMArgs a) : ∀ x ∈ (monthdayArg a).getD [], x ≠ 0 :=
  RRule.monthdayArg_nz ea.monthday_nz ea.valid

theorem EasterYMArgs.plainDays (ea : EasterYMArgs a) : ∀ w ∈ (weekdayArg a).getD [], w.2 = 0 ∨ a.freq > 1 := by
  rw [weekdayArg_of_ne2 (by rcases ea.freq with h | h <;> omega)]
  exact fun w hw => Or.inl (ea.plain w hw)

/-- "the model state at the start of period `k`" -/
structure EasterGood (a : Args) (r : Rule) (k : Nat) (st : State) : Prop where
  facts : YearFacts r st.cur.year st.info
  timeset : st.timeset = Spec.RRule.timesOf a none none none
  year : st.cur.year = a.dtstart.y + k * a.interval
  nwd : st.info.nwdaymask = none
  mask : ∃ mask, st.info.eastermask = some mask ∧
    ∀ j : Int, 0 ≤ j → j < st.info.yearlen + 7 →
      Py.getIdx mask j = .ok (if (st.info.yearordinal + j - Spec.RRule.easterOrd st.cur.year) ∈ eastersOf a then 1 else 0)

/-- what `rebuild` establishes for an `EasterRule` in year `y`: no nth mask, and the Easter mask marks (over the year
    and its tail) the days that are Easter Sunday of `y` plus a listed offset -/
def EasterInv (a : Args) (y _m : Int) (info : Info) : Prop :=
  info.nwdaymask = none ∧
  Marked info.eastermask (info.yearlen + 7) (fun j => info.yearordinal + j - Spec.RRule.easterOrd y ∈ eastersOf a)

theorem ey_filter (ea : EasterYMArgs a) (h : construct a = .ok r) :
    PeriodFilter a r 1583 4099 (EasterInv a) yearDays where
  lo := by omega
  hi := by omega
  rebuild := fun y m hy1 hy2 _ _ => by
    have D := construct_dateFields h
    obtain ⟨hbe, ht⟩ := easter_rule D ea.easter
    obtain ⟨e, he1, he2⟩ := eastermaskOf_marks ht hbe (easters_facts ea.easter).2.1 hy1 hy2
    exact ⟨_, rebuild_eq r m (by omega) (by omega) (wnomaskOf_off (by rw [D.byweekno, ea.byweekno]; rfl) ..)
      (buildNwdaymask_off (by rw [D.bynweekday]; exact bynweekday_plain ea.plainDays) ..) he1, rfl, he2⟩
  filtered := fun {y m info i} f inv hi =>
    have D := construct_dateFields h
    plain_filtered D ea.monthdayArg_nz ea.plainDays f i hi.1 (by have := hi.2; omega) inv.1
      (weekno_miss_off D ea.byweekno ..) (easter_miss_on D ea.easter f inv.2 hi.1 (by have := hi.2; omega) hi.2)

/-- the state invariant of the YEARLY refinement, read for this family -/
theorem ey_good (ea : EasterYArgs a) {k : Nat} {st : State} (g : PeriodGood (EasterInv a) a r k st) :
    EasterGood a r k st :=
  ⟨g.facts, g.timeset, g.yearly ea.freq, g.inv.1, g.inv.2⟩

/-- **`iter_eq_spec`, YEARLY with BYEASTER on the supported class** (the complement of D-C01d: offsets
    −80..250; years 1583..4099, where C19 ties `easter.easter` to Meeus/Jones/Butcher): FREQ=YEARLY,
    INTERVAL ≥ 1, a valid start, any BYMONTH / BYMONTHDAY (non-zero) / BYYEARDAY / plain BYDAY / BYHOUR / BYMINUTE /
    BYSECOND / BYSETPOS, any COUNT / UNTIL, no nth BYDAY / BYWEEKNO: exactly the specification's recurrence set. -/
theorem iter_eq_spec_yearly_easter (ea : EasterYArgs a) (h : construct a = .ok r) (n : Nat)
    (hlo : 1583 ≤ a.dtstart.y) (hy : a.dtstart.y + n * a.interval ≤ 4099) :
    (iter r n).1 = Spec.RRule.occ a n := by
  exact yearly_refines h ea.freq ea.valid (ey_filter ea.ym h) n hlo hy

end RRule
