/-
  Proofs/RRuleEFilter.lean — the day filter (Proofs/RRuleDayFilter.lean) for BYEASTER below YEARLY: rules without
  BYWEEKNO and nth BYDAY whose BYEASTER offsets lie on the complement of D-C01d (−80..250).  For years 1583..4099
  `rebuild` keeps the invariant `EInv` (no nth mask; the Easter mask marks the days that are Easter Sunday of their
  year plus a listed offset), under which the filter of a day of the year is `simpleOk ∧ eclause`; on the argument
  side that is the specification's `dateOk` (`dateOk_plain` of Proofs/RRuleBridge.lean); `eFilter` packs the two.
-/
import DateutilVerif.Proofs.RRuleWFilter
import DateutilVerif.Proofs.RRuleEasterYearly

namespace RRule
open Cal

/-- BYEASTER supplied, non-empty, on the complement of D-C01d -/
def EArg (a : Args) : Prop := ∃ el, a.byeaster = some el ∧ el ≠ [] ∧ ∀ o ∈ el, -80 ≤ o ∧ o ≤ 250

/-- 1 January 1583; 1583..4099 are the years on which C19 ties `easter.easter` to Meeus/Jones/Butcher -/
def eminOrd : Int := toOrdinal 1583 1 1


structure ERule (r : Rule) : Prop where
  byweekno : truthy r.byweekno = false
  bynweekday : truthy r.bynweekday = false
  byeaster : truthy r.byeaster = true
  offsets : ∀ o ∈ r.byeaster.getD [], -80 ≤ o ∧ o ≤ 250

/-- the BYEASTER clause of a rule: the date is Easter Sunday of its year plus a listed offset -/
def eclause (r : Rule) (ord : Int) : Bool :=
  (r.byeaster.getD []).contains (ord - Spec.RRule.easterOrd (fromOrdinal ord).1)

/-- what `rebuild` establishes for an `ERule` in the years 1583..4099 -/
def EInv (r : Rule) (info : Info) : Prop :=
  info.nwdaymask = none ∧ eminOrd ≤ info.yearordinal ∧
  ∃ mask, info.eastermask = some mask ∧ info.yearlen ≤ (mask.length : Int) ∧
    ∀ j : Int, 0 ≤ j → j < info.yearlen →
      Py.getIdx mask j = .ok (if eclause r (info.yearordinal + j) = true then 1 else 0)

variable {r : Rule} {y : Int} {info : Info}

theorem ERule.easterRule (he : ERule r) : EasterRule r := ⟨he.byweekno, he.bynweekday, he.byeaster⟩

theorem ERule.list (he : ERule r) : ∃ el, r.byeaster = some el := by
  have := he.byeaster
  cases hq : r.byeaster with
  | none => rw [hq] at this; simp [truthy] at this
  | some el => exact ⟨el, rfl⟩

theorem rebuild_e (he : ERule r) (y m : Int) (hy1 : 1583 ≤ y) (hy2 : y ≤ 4099) :
    ∃ info, rebuild r y m = .ok info ∧ EInv r info := by
  obtain ⟨el, hel⟩ := he.list
  have hoff : ∀ o ∈ el, -80 ≤ o ∧ o ≤ 250 := by
    have := he.offsets; rw [hel] at this; exact this
  obtain ⟨info, mask, hre, hnw, hm, hspec⟩ := rebuild_easter he.easterRule el hel hoff y m hy1 hy2
  have f := rebuild_facts r y m info hre
  have hylen : 365 ≤ info.yearlen := by rw [f.yearlen]; unfold daysInYear; split <;> omega
  refine ⟨info, hre, hnw, ?_, mask, hm, ?_, ?_⟩
  · rw [f.yearordinal]; exact year_start_mono 1583 y hy1
  · have := getIdx_ok_len mask (info.yearlen + 6) _ (by omega) (hspec (info.yearlen + 6) (by omega) (by omega))
    omega
  · intro j hj0 hj1
    rw [hspec j hj0 (by omega)]
    have hfo := date_of_yday y j (by omega) hj0 (by rw [← f.yearlen]; exact hj1)
    unfold eclause
    rw [hel, Option.getD_some, f.yearordinal, hfo]
    dsimp only
    by_cases c : (toOrdinal y 1 1 + j - Spec.RRule.easterOrd y) ∈ el
    · rw [if_pos c, if_pos (List.contains_iff_mem.mpr c)]
    · rw [if_neg c, if_neg (fun h => c (List.contains_iff_mem.mp h))]

theorem dayFiltered_e (he : ERule r) (f : YearFacts r y info) (inv : EInv r info) (i : Int) (h0 : 0 ≤ i)
    (h1 : i < info.yearlen) :
    dayFiltered r info i = .ok (!(simpleOk r (info.yearordinal + i) && eclause r (info.yearordinal + i))) := by
  obtain ⟨hnw, _, mask, hm, hlen, hspec⟩ := inv
  rw [dayFiltered_easter he.easterRule f mask hnw hm i h0 h1 hlen]
  have hgi := hspec i h0 h1
  rw [getIdx_int mask i h0 (by omega)] at hgi
  injection hgi with hgi
  rw [hgi]
  cases eclause r (info.yearordinal + i) <;> rfl

theorem eclause_eq_easterPart (a : Args) (r : Rule) (hea : EArg a) (hbe : r.byeaster = a.byeaster.map (sortBy ltInt))
    (ord : Int) : eclause r ord = easterPart a ord := by
  obtain ⟨el, hel, hne, _⟩ := hea
  unfold eclause easterPart
  rw [hbe, hel]
  cases el with
  | nil => exact absurd rfl hne
  | cons x xs =>
    dsimp only [Option.map_some, Option.getD_some]
    rw [Bool.eq_iff_iff, List.contains_iff_mem, List.contains_iff_mem, mem_sortBy]

theorem erule_of (a : Args) (r : Rule) (hea : EArg a) (hbe : r.byeaster = a.byeaster.map (sortBy ltInt))
    (hbw : truthy r.byweekno = false) (hn : truthy r.bynweekday = false) : ERule r := by
  obtain ⟨el, hel, hne, hoff⟩ := hea
  refine ⟨hbw, hn, ?_, ?_⟩
  · rw [hbe, hel, Option.map_some, truthy_eq_not_isEmpty]
    cases el with
    | nil => exact absurd rfl hne
    | cons x xs =>
      cases hq : sortBy ltInt (x :: xs) with
      | nil =>
        have := (mem_sortBy ltInt x (x :: xs)).mpr (List.mem_cons_self ..)
        rw [hq] at this; simp at this
      | cons _ _ => rfl
  · intro o ho
    rw [hbe, hel, Option.map_some, Option.getD_some, mem_sortBy] at ho
    exact hoff o ho

theorem erule_of_construct {a : Args} (h : construct a = .ok r) (hf : 3 ≤ a.freq) (hbw : a.byweekno = none)
    (hea : EArg a) : ERule r := by
  have hd := construct_nth_demoted a r h (by omega)
  obtain ⟨_, _, _, _, _, _, _, _, _, _, rfl⟩ := construct_ok a r h
  refine erule_of a _ hea rfl (by rw [hbw]; rfl) ?_
  rcases hd with hd | hd <;> rw [hd] <;> rfl

theorem eOk_of_construct {a : Args} (h : construct a = .ok r) (hf : 3 ≤ a.freq) (hv : a.dtstart.Valid)
    (hbw : a.byweekno = none) (hea : EArg a) (hz : ∀ x ∈ a.bymonthday.getD [], x ≠ 0) (ord : Int) (ho : 1 ≤ ord) :
    (simpleOk r ord && eclause r ord) = Spec.RRule.dateOk a ord := by
  have D := construct_dateFields h
  rw [dateOk_plain D (monthdayArg_nz hz hv) (fun _ _ => Or.inr (by omega)) ord ho, weeknoPart_none hbw, Bool.and_true,
    eclause_eq_easterPart a r hea D.byeaster]

/-- the day filter of a rule at FREQ ≥ DAILY with BYEASTER offsets −80..250 and no BYWEEKNO: the years 1583..4099 -/
theorem eFilter {a : Args} (h : construct a = .ok r) (hf : 3 ≤ a.freq) (hi : 1 ≤ a.interval) (hv : a.dtstart.Valid)
    (hbw : a.byweekno = none) (hea : EArg a) (hz : ∀ x ∈ a.bymonthday.getD [], x ≠ 0) :
    DayFilter a r 1583 4099 (EInv r) where
  lo := by omega
  hi := by omega
  rebuild := fun y m h1 h2 _ _ => rebuild_e (erule_of_construct h hf hbw hea) y m h1 h2
  filtered := fun {y _ info i} f inv hi' => by
    have h1y := year_start_mono 1 y f.year_lo
    have e : toOrdinal 1 1 1 = 1 := by decide
    rw [dayFiltered_e (erule_of_construct h hf hbw hea) f inv i hi'.1 hi'.2,
      eOk_of_construct h hf hv hbw hea hz _ (by rw [f.yearordinal]; have := hi'.1; omega)]

end RRule
