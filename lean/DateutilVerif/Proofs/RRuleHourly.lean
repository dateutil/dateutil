/-
  Proofs/RRuleHourly.lean — HOURLY without BYHOUR: the two argument classes (BYWEEKNO absent or harmless and no
  BYEASTER; BYEASTER −80..250 and no BYWEEKNO) as instances of Proofs/RRuleSubHourly.lean over the day filters of
  Proofs/RRuleWFilter.lean and Proofs/RRuleEFilter.lean.
-/
import DateutilVerif.Proofs.RRuleWFilter
import DateutilVerif.Proofs.RRuleEFilter
import DateutilVerif.Proofs.RRuleSubHourly

namespace RRule
open Cal

/-- HOURLY argument sets covered: no BYHOUR, BYMINUTE / BYSECOND members inside 0..59 (outside, the
    generator raises ValueError from `datetime.time` while iterating) -/
structure HourlyArgs (a : Args) : Prop where
  freq : a.freq = 4
  interval : 1 ≤ a.interval
  valid : a.dtstart.Valid
  weekno : WArg a
  byeaster : a.byeaster = none
  monthday_nz : ∀ x ∈ a.bymonthday.getD [], x ≠ 0
  byhour : a.byhour = none
  minutes_ok : ∀ x ∈ a.byminute.getD [], 0 ≤ x ∧ x ≤ 59
  seconds_ok : ∀ x ∈ a.bysecond.getD [], 0 ≤ x ∧ x ≤ 59

structure HourlyEArgs (a : Args) : Prop where
  freq : a.freq = 4
  interval : 1 ≤ a.interval
  valid : a.dtstart.Valid
  byweekno : a.byweekno = none
  easter : ∃ el, a.byeaster = some el ∧ el ≠ [] ∧ ∀ o ∈ el, -80 ≤ o ∧ o ≤ 250
  monthday_nz : ∀ x ∈ a.bymonthday.getD [], x ≠ 0
  byhour : a.byhour = none
  minutes_ok : ∀ x ∈ a.byminute.getD [], 0 ≤ x ∧ x ≤ 59
  seconds_ok : ∀ x ∈ a.bysecond.getD [], 0 ≤ x ∧ x ≤ 59

variable {a : Args} {r : Rule}

/-- the same argument set at DAILY: the date-level parts are normalised and read identically -/
def asDaily (a : Args) : Args := { a with freq := 3 }

/-- "the model state at the start of period `k`" for an HOURLY rule: `SubGood .hourly` over the filter of `WRule`s
    (`hourly_good`) -/
structure HourlyGood (a : Args) (r : Rule) (k : Nat) (st : State) : Prop where
  facts : YearFacts r st.cur.year st.info
  inv : WInv r st.info
  valid : ValidYMD st.cur.year st.cur.month st.cur.day
  hour : 0 ≤ st.cur.hour ∧ st.cur.hour ≤ 23
  idx : curOrd st.cur * 24 + st.cur.hour = Spec.RRule.startOrd a * 24 + a.dtstart.hh + k * a.interval
  timeset : st.timeset = Spec.RRule.timesOf a (some st.cur.hour) none none

/-- … and over the filter of `ERule`s (`hourly_good_easter`) -/
structure HourlyEGood (a : Args) (r : Rule) (k : Nat) (st : State) : Prop where
  facts : YearFacts r st.cur.year st.info
  inv : EInv r st.info
  valid : ValidYMD st.cur.year st.cur.month st.cur.day
  hour : 0 ≤ st.cur.hour ∧ st.cur.hour ≤ 23
  idx : curOrd st.cur * 24 + st.cur.hour = Spec.RRule.startOrd a * 24 + a.dtstart.hh + k * a.interval
  timeset : st.timeset = Spec.RRule.timesOf a (some st.cur.hour) none none

theorem hourly_good {h : construct a = .ok r} {hf hi hv hw he hz} {k : Nat} {st : State}
    (hg : SubGood .hourly (wFilter h hf hi hv hw he hz) k st) : HourlyGood a r k st :=
  ⟨hg.facts, hg.inv, hg.valid, hg.digits, hg.idx, hg.timeset⟩

theorem hourly_good_easter {h : construct a = .ok r} {hf hi hv hw he hz} {k : Nat} {st : State}
    (hg : SubGood .hourly (eFilter h hf hi hv hw he hz) k st) : HourlyEGood a r k st :=
  ⟨hg.facts, hg.inv, hg.valid, hg.digits, hg.idx, hg.timeset⟩

/-- **`iter_eq_spec`, HOURLY** (no BYHOUR): INTERVAL ≥ 1, a valid start, any BYMONTH / BYMONTHDAY (non-zero) /
    BYYEARDAY / BYDAY / BYMINUTE / BYSECOND (members 0..59) / BYSETPOS, any COUNT / UNTIL, BYWEEKNO absent or on the
    complement of D-C01c (`WArg`), no BYEASTER.
    One turn of the generator's loop may pass over several hours of the specification's grid (after a day
    that the BY-filter removed it jumps to the day's last on-grid hour), so `n` turns correspond to `m`
    periods with `n ≤ m ≤ 24·n` (at most 23 grid hours jumped over, then one step): what has been yielded after `n` turns is exactly the specification's
    recurrence set of the first `m` periods. -/
theorem iter_eq_spec_hourly (ha : HourlyArgs a) (h : construct a = .ok r) (n : Nat)
    (hle : Spec.RRule.startOrd a * 24 + a.dtstart.hh + (24 * n + 1) * a.interval + 23 < (maxOrdinal + 1) * 24) :
    ∃ m, n ≤ m ∧ m ≤ 24 * n ∧ (iter r n).1 = Spec.RRule.occ a m := by
  have hv := ha.valid
  unfold DT.Valid ValidDate at hv
  exact iter_eq_spec_hourly_filter
    (wFilter h (by rw [ha.freq]; omega) ha.interval ha.valid ha.weekno ha.byeaster ha.monthday_nz) h ha.freq
    ha.interval ha.valid (by rw [ha.byhour]; simp) ha.minutes_ok ha.seconds_ok 1 24 (by rw [ha.byhour]; simp) (by omega)
    n hv.1.1 hle

/-- **`iter_eq_spec`, HOURLY with BYEASTER** (no BYHOUR; offsets −80..250, every visited day inside 1583..4099):
    INTERVAL ≥ 1, a valid start, any BYMONTH / BYMONTHDAY (non-zero) / BYYEARDAY / BYDAY / BYMINUTE / BYSECOND
    (members 0..59) / BYSETPOS, any COUNT / UNTIL, no BYWEEKNO.  As in `iter_eq_spec_hourly`, `n` turns of the
    generator's loop correspond to `m` periods with `n ≤ m ≤ 24·n`. -/
theorem iter_eq_spec_hourly_easter (ha : HourlyEArgs a) (h : construct a = .ok r) (n : Nat)
    (hlo : 1583 ≤ a.dtstart.y)
    (hle : Spec.RRule.startOrd a * 24 + a.dtstart.hh + (24 * n + 1) * a.interval + 23 <
      (Cal.toOrdinal 4099 12 31 + 1) * 24) :
    ∃ m, n ≤ m ∧ m ≤ 24 * n ∧ (iter r n).1 = Spec.RRule.occ a m :=
  iter_eq_spec_hourly_filter
    (eFilter h (by rw [ha.freq]; omega) ha.interval ha.valid ha.byweekno ha.easter ha.monthday_nz) h ha.freq
    ha.interval ha.valid (by rw [ha.byhour]; simp) ha.minutes_ok ha.seconds_ok 1 24 (by rw [ha.byhour]; simp) (by omega)
    n hlo hle

example : HourlyEArgs { freq := 4, dtstart := ⟨2024, 1, 1, 10, 0, 0, 0⟩, byeaster := some [0, 1] } :=
  { freq := rfl, interval := by decide, valid := by decide, byweekno := rfl,
    monthday_nz := by intro x hx; simp at hx,
    easter := ⟨[0, 1], rfl, by simp, by intro o ho; simp at ho; omega⟩,
    byhour := rfl, minutes_ok := by intro x hx; simp at hx, seconds_ok := by intro x hx; simp at hx }

end RRule
