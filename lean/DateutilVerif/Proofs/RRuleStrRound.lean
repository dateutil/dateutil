/-
  Proofs/RRuleStrRound.lean — `str(rule)` parses back to the arguments it was printed from (C13):
  part by part, then the `RRULE:` line, with the parts in any order.
-/
import DateutilVerif.Proofs.RRuleStrByDay
import DateutilVerif.Proofs.RRuleStrOrder

namespace RRuleStr
open ICal (isSpace upper splitOnChar pyInt rstrip strip isDigit splitLines)

variable {po : ParseOpts}

theorem isValC_ne_eq (c : Char) (h : isValC c = true) : c ≠ '=' := by
  rintro rfl; revert h; decide
theorem isAtom_ne_eq (c : Char) (h : isAtom c = true) : c ≠ '=' := isValC_ne_eq c (isAtom_isValC c h)
theorem isAtom_ne_comma (c : Char) (h : isAtom c = true) : c ≠ ',' := by
  rintro rfl; revert h; decide

theorem isPartC_ne_semi (c : Char) (h : isPartC c = true) : c ≠ ';' := by
  rintro rfl; revert h; decide
theorem isPartC_ne_colon (c : Char) (h : isPartC c = true) : c ≠ ':' := by
  rintro rfl; revert h; decide

def GoodPart (p : List Char) : Prop := ∀ c ∈ p, isPartC c = true

theorem goodPart_mk {name value : List Char} (hname : ∀ c ∈ name, isAtom c = true) (hval : ∀ c ∈ value, isValC c = true) :
    GoodPart (name ++ '=' :: value) := by
  intro c hc
  rcases List.mem_append.mp hc with h | h
  · exact isValC_isPartC c (isAtom_isValC c (hname c h))
  · rcases List.mem_cons.mp h with rfl | h
    · decide
    · exact isValC_isPartC c (hval c h)

/-- one well-formed part: `NAME=VALUE` splits at its only `=`, upper-casing changes nothing, the handler runs -/
theorem stepU_part {name value : List Char} {u : Update}
    (hname : ∀ c ∈ name, isAtom c = true) (hval : ∀ c ∈ value, isValC c = true)
    (h : handleU po name value = .ok u) : stepU po (name ++ '=' :: value) = .ok u := by
  have hs : splitOnChar '=' (name ++ '=' :: value) = [name, value] :=
    splitOnChar_two '=' name value (fun hc => isAtom_ne_eq _ (hname _ hc) rfl) (fun hc => isValC_ne_eq _ (hval _ hc) rfl)
  have hun : upper name = name := upper_of_noLower name (fun c hc => isAtom_not_lower c (hname c hc))
  have huv : upper value = value :=
    upper_of_noLower value (fun c hc => isPartC_not_lower c (isValC_isPartC c (hval c hc)))
  unfold stepU
  rw [hs]
  simp only [hun, huv, h]

theorem stepPair_part (a : RArgs) {name value : List Char} {u : Update}
    (hname : ∀ c ∈ name, isAtom c = true) (hval : ∀ c ∈ value, isValC c = true)
    (h : handleU po name value = .ok u) : stepPair po a (name ++ '=' :: value) = .ok (u.apply a) := by
  rw [stepPair_eq, stepU_part hname hval h]

/-- a stretch of the parts list: running the loop over it applies `f`, and all its parts are well-formed -/
def PieceOK (po : ParseOpts) (piece : List (List Char)) (f : RArgs → RArgs) : Prop :=
  (∀ a, piece.foldlM (stepPair po) a = .ok (f a)) ∧ (∀ p ∈ piece, GoodPart p)

theorem PieceOK.nil : PieceOK po [] id := ⟨fun _ => rfl, fun _ h => by simp at h⟩

theorem PieceOK.append {p q : List (List Char)} {f g : RArgs → RArgs} (hp : PieceOK po p f) (hq : PieceOK po q g) :
    PieceOK po (p ++ q) (fun a => g (f a)) := by
  refine ⟨fun a => ?_, fun r hr => ?_⟩
  · rw [List.foldlM_append, hp.1 a]; exact hq.1 (f a)
  · rcases List.mem_append.mp hr with h | h
    · exact hp.2 r h
    · exact hq.2 r h

theorem PieceOK.single {name value : List Char} {u : Update}
    (hname : ∀ c ∈ name, isAtom c = true) (hval : ∀ c ∈ value, isValC c = true)
    (h : handleU po name value = .ok u) : PieceOK po [name ++ '=' :: value] u.apply := by
  refine ⟨fun a => ?_, fun r hr => ?_⟩
  · rw [List.foldlM_cons, stepPair_part a hname hval h]; rfl
  · simp at hr; subst hr; exact goodPart_mk hname hval

/-- a stretch of the parts list as `PieceOK`, whose parts moreover set keywords of `ks` only, in that order, each at most once -/
def Piece (po : ParseOpts) (ks : List Field) (piece : List (List Char)) (f : RArgs → RArgs) : Prop :=
  PieceOK po piece f ∧ (piece.map partField).Sublist (ks.map some)

theorem Piece.nil (k : Field) : Piece po [k] [] id := ⟨PieceOK.nil, List.nil_sublist _⟩

theorem Piece.append {ks ks' : List Field} {p q : List (List Char)} {f g : RArgs → RArgs} (hp : Piece po ks p f)
    (hq : Piece po ks' q g) : Piece po (ks ++ ks') (p ++ q) (fun a => g (f a)) :=
  ⟨hp.1.append hq.1, by rw [List.map_append, List.map_append]; exact hp.2.append hq.2⟩

theorem Piece.congr {ks : List Field} {p : List (List Char)} {f g : RArgs → RArgs} (hp : Piece po ks p f) (h : ∀ a, f a = g a) :
    Piece po ks p g := by
  have : f = g := funext h
  rw [← this]; exact hp

/-- the printed part of keyword `k`: its handler reads the value back -/
theorem Piece.field (k : Field) {value : List Char} {u : Update} (hval : ∀ c ∈ value, isValC c = true)
    (h : readField po k value = .ok u) : Piece po [k] [fieldName k ++ '=' :: value] u.apply := by
  have hh : handleU po (fieldName k) value = .ok u := (handleU_of_field (fieldOfName_fieldName k) value).trans h
  refine ⟨PieceOK.single (fieldName_atoms k) hval hh, ?_⟩
  rw [List.map_singleton, stepU_field (stepU_part (fieldName_atoms k) hval hh), readField_field h]
  exact List.Sublist.refl _

theorem pad_digits (w n : Nat) : ∀ c ∈ pad w n, isDigit c = true := by
  intro c hc
  simp only [pad, List.mem_append, List.mem_replicate] at hc
  rcases hc with ⟨_, rfl⟩ | hc
  · decide
  · exact showNat_digits n c hc

theorem showDT_atoms (t : Nat × Nat × Nat × Nat × Nat × Nat) : ∀ c ∈ showDT t, isAtom c = true := by
  obtain ⟨y, m, d, hh, mm, ss⟩ := t
  intro c hc
  simp only [showDT, List.mem_append, List.mem_singleton] at hc
  rcases hc with ((((((h | h) | h) | rfl) | h) | h) | h)
  all_goals first
    | exact isDigit_isAtom c (pad_digits _ _ c h)
    | decide

theorem wdName_atoms (k : Int) (h0 : 0 ≤ k) (h6 : k ≤ 6) : ∀ c ∈ wdName k, isAtom c = true :=
  (isWD_facts (isWD_wdName k h0 h6)).2.2.2.1

theorem intercalate_valC (items : List (List Char)) (h : ∀ i ∈ items, ∀ c ∈ i, isAtom c = true) :
    ∀ c ∈ intercalate [','] items, isValC c = true := by
  intro c hc
  rcases mem_intercalate [','] items c hc with h' | ⟨i, hi, hci⟩
  · simp at h'; subst h'; decide
  · exact isAtom_isValC c (h i hi c hci)

theorem showInts_valC (l : List Int) : ∀ c ∈ intercalate [','] (l.map showInt), isValC c = true :=
  intercalate_valC _ (by
    intro i hi c hc
    rcases List.mem_map.mp hi with ⟨j, _, rfl⟩
    exact showInt_isAtom j c hc)

/-- a printed part `NAME=value` with the name literal of `__str__`; used by rewriting: left to unification, `lit "NAME=" ++ v` against
    `fieldName k ++ '=' :: v` makes the unifier unfold the value first -/
theorem part_eq {s : String} {k : Field} (h : lit s = fieldName k ++ ['=']) (v : List Char) :
    lit s ++ v = fieldName k ++ '=' :: v := by
  rw [h, List.append_assoc, List.singleton_append]

theorem freqName_atoms (f : Nat) : ∀ c ∈ FREQNAMES.getD f [], isAtom c = true := by
  have key : ∀ n ∈ FREQNAMES, ∀ c ∈ n, isAtom c = true := by decide +kernel
  rw [List.getD_eq_getElem?_getD]
  cases h : FREQNAMES[f]? with
  | none => intro c hc; cases hc
  | some n => exact key n (List.mem_of_getElem? h)

/-- `_freq_map[FREQNAMES[f]] == f` -/
theorem lookup_freqName : ∀ f ∈ List.range 7, lookup freqMap (FREQNAMES.getD f []) = some (f : Int) := by decide +kernel

theorem piece_freq (f : Nat) (hf : f < 7) :
    Piece po [.freq] [lit "FREQ=" ++ FREQNAMES.getD f []] (fun a => { a with freq := some (f : Int) }) := by
  rw [part_eq (k := .freq) rfl]
  exact (Piece.field .freq (u := .freq f) (fun c hc => isAtom_isValC c (freqName_atoms f c hc))
    (by simp only [readField, lookup_freqName f (List.mem_range.mpr hf)])).congr (fun _ => rfl)

theorem showInt_valC (i : Int) : ∀ c ∈ showInt i, isValC c = true := fun c hc => isAtom_isValC c (showInt_isAtom i c hc)

theorem int!_showInt (i : Int) : int! (showInt i) = .ok i := by simp only [int!, pyInt_showInt]

theorem piece_interval (i : Int) :
    Piece po [.interval] (if i != 1 then [lit "INTERVAL=" ++ showInt i] else [])
      (fun a => { a with interval := if i != 1 then some i else a.interval }) := by
  split
  · rw [part_eq (k := .interval) rfl]
    exact (Piece.field .interval (showInt_valC i) (by simp only [readField, int!_showInt]; rfl)).congr (fun _ => rfl)
  · exact (Piece.nil _).congr (fun _ => rfl)

theorem piece_wkst (k : Int) (h0 : 0 ≤ k) (h6 : k ≤ 6) (b : Bool) :
    Piece po [.wkst] (if b then [lit "WKST=" ++ wdName k] else [])
      (fun a => { a with wkst := if b then some k else a.wkst }) := by
  split
  · rw [part_eq (k := .wkst) rfl]
    exact (Piece.field .wkst (u := .wkst k) (fun c hc => isAtom_isValC c (wdName_atoms k h0 h6 c hc))
      (by simp only [readField, (isWD_facts (isWD_wdName k h0 h6)).1])).congr (fun _ => rfl)
  · exact (Piece.nil _).congr (fun _ => rfl)

theorem piece_count (v : Option Int) :
    Piece po [.count] (match v with | some c => [lit "COUNT=" ++ showInt c] | none => [])
      (fun a => { a with count := v.or a.count }) := by
  cases v with
  | none => exact (Piece.nil _).congr (fun _ => rfl)
  | some c =>
    show Piece po [.count] [lit "COUNT=" ++ showInt c] _
    rw [part_eq (k := .count) rfl]
    exact (Piece.field .count (showInt_valC c) (by simp only [readField, int!_showInt]; rfl)).congr (fun _ => rfl)

theorem piece_until (v : Option (Nat × Nat × Nat × Nat × Nat × Nat)) :
    Piece po [.untilV] (match v with | some t => [lit "UNTIL=" ++ showDT t] | none => [])
      (fun a => { a with untilV := (v.map (fun t => (showDT t, po))).or a.untilV }) := by
  cases v with
  | none => exact (Piece.nil _).congr (fun _ => rfl)
  | some t =>
    show Piece po [.untilV] [lit "UNTIL=" ++ showDT t] _
    rw [part_eq (k := .untilV) rfl]
    exact (Piece.field .untilV (u := .untilV (showDT t) po) (fun d hd => isAtom_isValC d (showDT_atoms t d hd)) rfl).congr
      (fun _ => rfl)

/-- an empty recorded list is printed as nothing, so it comes back as "absent": what the round trip does to a BY-list -/
def normL {α : Type} (v : Option (List α)) : Option (List α) :=
  match v with
  | some [] => none
  | v => v

/-- an integer-list part of keyword `k`, assigned by `set`: printed only when non-empty, parsed back to the same list; an EMPTY
    recorded list (`()` passed to `rrule()`) is not printed and therefore comes back as absent -/
theorem piece_partOf (name : String) (k : Field) (mk : List Int → Update) (set : Option (List Int) → RArgs → RArgs)
    (v : Option (List Int)) (hname : lit name = fieldName k := by rfl)
    (hmk : ∀ value, readField po k value = (do let l ← intList value; .ok (mk l)) := by intros; rfl)
    (hset : ∀ l a, (mk l).apply a = set (some l) a := by intros; rfl) (hnone : ∀ a, set none a = a := by intros; rfl) :
    Piece po [k] (partOf name v) (set (normL v)) := by
  rcases v with _ | _ | ⟨i, l⟩
  · exact (Piece.nil k).congr (fun a => (hnone a).symm)
  · exact (Piece.nil k).congr (fun a => (hnone a).symm)
  · have hne : i :: l ≠ [] := by simp
    simp only [partOf, List.isEmpty_cons, Bool.false_eq_true, if_false, hname, List.append_assoc, List.singleton_append]
    exact (Piece.field k (showInts_valC (i :: l)) (by rw [hmk, intList_showInts (i :: l) hne]; rfl)).congr (hset _)

/-- a weekday as `__init__` records it: number 0..6, `n` absent or non-zero -/
def NormalWDay (w : WDay) : Prop := 0 ≤ w.1 ∧ w.1 ≤ 6 ∧ w.2 ≠ some 0

instance : DecidablePred NormalWDay := fun w => by unfold NormalWDay; infer_instance

theorem parseWDay_showWDayStr (w : WDay) (hw : NormalWDay w) : parseWDay (showWDayStr w) = .ok w := by
  obtain ⟨k, n⟩ := w
  obtain ⟨h0, h6, hn⟩ := hw
  cases n with
  | none => exact parseWDay_bare (isWD_wdName k h0 h6)
  | some n =>
    have hn0 : n ≠ 0 := fun h => hn (by rw [h])
    have : showWDayStr (k, some n) = showIntSigned n ++ wdName k := by simp [showWDayStr, hn0]
    rw [this]
    exact parseWDay_prefix (isWD_wdName k h0 h6) (showIntSigned_ne_nil n) (showIntSigned_signDigit n)
      (pyInt_showIntSigned n) hn0

theorem showWDayStr_atoms (w : WDay) (hw : NormalWDay w) : ∀ c ∈ showWDayStr w, isAtom c = true := by
  obtain ⟨k, n⟩ := w
  obtain ⟨h0, h6, _⟩ := hw
  intro c hc
  unfold showWDayStr at hc
  split at hc
  · split at hc
    · rcases List.mem_append.mp hc with h | h
      · exact showIntSigned_isAtom _ c h
      · exact wdName_atoms k h0 h6 c h
    · exact wdName_atoms k h0 h6 c hc
  · exact wdName_atoms k h0 h6 c hc

theorem mapM_parseWDay_show : ∀ (l : List WDay), (∀ w ∈ l, NormalWDay w) → (l.map showWDayStr).mapM parseWDay = .ok l
  | [], _ => rfl
  | w :: l, h => by
    rw [List.map_cons, List.mapM_cons, parseWDay_showWDayStr w (h w (by simp)),
      mapM_parseWDay_show l (fun v hv => h v (by simp [hv]))]
    rfl

theorem piece_byday (v : Option (List WDay)) (hv : ∀ l, v = some l → ∀ w ∈ l, NormalWDay w) :
    Piece po [.byweekday] (byDayPart v) (fun a => { a with byweekday := (normL v).or a.byweekday }) := by
  rcases v with _ | _ | ⟨w0, l0⟩
  · exact (Piece.nil _).congr (fun _ => rfl)
  · exact (Piece.nil _).congr (fun _ => rfl)
  · have hn := hv _ rfl
    have hs : splitOnChar ',' (intercalate [','] ((w0 :: l0).map showWDayStr)) = (w0 :: l0).map showWDayStr :=
      splitOnChar_intercalate ',' _ (by simp) (by
        intro q hq hc
        rcases List.mem_map.mp hq with ⟨w, hw, rfl⟩
        exact isAtom_ne_comma _ (showWDayStr_atoms w (hn w hw) _ hc) rfl)
    show Piece po [.byweekday] [lit "BYDAY=" ++ intercalate [','] ((w0 :: l0).map showWDayStr)] _
    rw [part_eq (k := .byweekday) rfl]
    exact (Piece.field .byweekday (u := .byweekday (w0 :: l0))
      (intercalate_valC _ (by
        intro i hi c hc
        rcases List.mem_map.mp hi with ⟨w, hw, rfl⟩
        exact showWDayStr_atoms w (hn w hw) c hc))
      (by simp only [readField, hs, mapM_parseWDay_show _ hn]; rfl)).congr (fun _ => rfl)

/-- printable form: `_freq` is one of the seven frequencies, `_wkst` a weekday number, and the recorded weekdays have
    numbers 0..6 with `n` absent or non-zero (`rrule.weekday` rejects `n = 0`).  The BY-lists of `_original_rule` are
    arbitrary — in particular they may be EMPTY: `rrule(…, bymonthday=())` records `()`, which `__str__` prints as nothing
    (see `normL` and the known finding D-C13-empty-by-list: the reparsed rule then re-derives the defaults from the start) -/
structure Printable (x : StrIn) : Prop where
  freq : x.freq < 7
  wkst0 : 0 ≤ x.wkst
  wkst6 : x.wkst ≤ 6
  byweekday : ∀ l, x.orig.byweekday = some l → ∀ w ∈ l, NormalWDay w

/-- the keyword arguments `str(rule)` spells out: FREQ always, INTERVAL unless 1, WKST unless it is MO and the ambient first weekday is Monday too, COUNT, UNTIL (its
    compact text, with the options it will be parsed with), and exactly the NON-EMPTY recorded BY-parts (`normL`: an empty
    recorded list is not printed, hence absent here — this is where `argsOf x` differs from the arguments the rule was
    built from) -/
def argsOf (po : ParseOpts) (x : StrIn) : RArgs :=
  { freq := some (x.freq : Int),
    interval := if x.interval != 1 then some x.interval else none,
    wkst := if x.wkst != 0 || x.fwd != 0 then some x.wkst else none,
    count := x.count,
    untilV := x.untilV.map (fun t => (showDT t, po)),
    bysetpos := normL x.orig.bysetpos, bymonth := normL x.orig.bymonth, bymonthday := normL x.orig.bymonthday,
    byyearday := normL x.orig.byyearday, byeaster := normL x.orig.byeaster, byweekno := normL x.orig.byweekno,
    byweekday := normL x.orig.byweekday, byhour := normL x.orig.byhour, byminute := normL x.orig.byminute,
    bysecond := normL x.orig.bysecond }

/-- the parts list, piece by piece in the order of `__str__` -/
theorem partsOf_piece (x : StrIn) (hx : Printable x) : ∃ f, Piece po printOrder (partsOf x) f ∧ f {} = argsOf po x :=
  ⟨_, ((((((((((((((piece_freq x.freq hx.freq).append (piece_interval x.interval)).append
    (piece_wkst x.wkst hx.wkst0 hx.wkst6 (x.wkst != 0 || x.fwd != 0))).append (piece_count x.count)).append
    (piece_until x.untilV)).append
    (piece_partOf "BYSETPOS" .bysetpos .bysetpos (fun o a => { a with bysetpos := o.or a.bysetpos }) x.orig.bysetpos)).append
    (piece_partOf "BYMONTH" .bymonth .bymonth (fun o a => { a with bymonth := o.or a.bymonth }) x.orig.bymonth)).append
    (piece_partOf "BYMONTHDAY" .bymonthday .bymonthday (fun o a => { a with bymonthday := o.or a.bymonthday }) x.orig.bymonthday)).append
    (piece_partOf "BYYEARDAY" .byyearday .byyearday (fun o a => { a with byyearday := o.or a.byyearday }) x.orig.byyearday)).append
    (piece_partOf "BYWEEKNO" .byweekno .byweekno (fun o a => { a with byweekno := o.or a.byweekno }) x.orig.byweekno)).append
    (piece_byday _ hx.byweekday)).append
    (piece_partOf "BYHOUR" .byhour .byhour (fun o a => { a with byhour := o.or a.byhour }) x.orig.byhour)).append
    (piece_partOf "BYMINUTE" .byminute .byminute (fun o a => { a with byminute := o.or a.byminute }) x.orig.byminute)).append
    (piece_partOf "BYSECOND" .bysecond .bysecond (fun o a => { a with bysecond := o.or a.bysecond }) x.orig.bysecond)).append
    (piece_partOf "BYEASTER" .byeaster .byeaster (fun o a => { a with byeaster := o.or a.byeaster }) x.orig.byeaster), by simp [argsOf]⟩

theorem partsOf_ok (x : StrIn) (hx : Printable x) :
    (partsOf x).foldlM (stepPair po) {} = .ok (argsOf po x) ∧ (∀ p ∈ partsOf x, GoodPart p) := by
  obtain ⟨f, hf, he⟩ := partsOf_piece (po := po) x hx
  exact ⟨(hf.1.1 {}).trans (congrArg _ he), hf.1.2⟩

/-- the keywords of the parts are a sublist of `printOrder`, which has no repetition -/
theorem partsOf_distinct (x : StrIn) (hx : Printable x) : (partsOf x).Pairwise Distinct := by
  obtain ⟨_, hf, _⟩ := partsOf_piece (po := {}) x hx
  have h1 : ((partsOf x).map partField).Pairwise (· ≠ ·) := List.Pairwise.sublist hf.2 (by decide)
  rw [List.pairwise_map] at h1
  exact h1.imp (fun {p q} hpq f hp hq => hpq (hp.trans hq.symm))

theorem partsOf_ne_nil (x : StrIn) : partsOf x ≠ [] := by
  unfold partsOf; simp

theorem parseRRuleLine_of_lineValue {line value : List Char} (h : lineValue line = .ok value) :
    parseRRuleLine po line = (splitOnChar ';' value).foldlM (stepPair po) {} := by
  unfold parseRRuleLine; rw [h]; rfl

theorem lineValue_noColon {line : List Char} (h : ':' ∉ line) : lineValue line = .ok line := by
  have hc : line.contains ':' = false := by rw [Bool.eq_false_iff, Ne, contains_iff]; exact h
  unfold lineValue; simp only [hc, Bool.false_eq_true, if_false]

theorem lineValue_rrule {body : List Char} (h : ':' ∉ body) : lineValue (lit "RRULE" ++ ':' :: body) = .ok body := by
  have hc : (lit "RRULE" ++ ':' :: body).contains ':' = true := by rw [contains_iff]; simp
  have hs : splitOnChar ':' (lit "RRULE" ++ ':' :: body) = [lit "RRULE", body] :=
    splitOnChar_two ':' _ _ (by decide) h
  unfold lineValue; simp only [hc, if_true, hs]; simp

theorem joined_chars {qs : List (List Char)} (h : ∀ q ∈ qs, GoodPart q) : ∀ c ∈ intercalate [';'] qs, isPartC c = true ∨ c = ';' := by
  intro c hc
  rcases mem_intercalate [';'] _ c hc with h' | ⟨p, hp, hcp⟩
  · right; simpa using h'
  · left; exact h p hp c hcp

/-- the parts of `str(rule)` in any order, joined with `;`: the text has no `:`, and the loop of `_parse_rfc_rrule` over its
    `;`-split ends in the printed arguments -/
theorem joined_perm (x : StrIn) (hx : Printable x) (qs : List (List Char)) (hperm : (partsOf x).Perm qs) :
    ':' ∉ intercalate [';'] qs ∧ (splitOnChar ';' (intercalate [';'] qs)).foldlM (stepPair po) {} = .ok (argsOf po x) := by
  have hgood : ∀ q ∈ qs, GoodPart q := fun q hq => (partsOf_ok (po := po) x hx).2 q (hperm.mem_iff.mpr hq)
  have hne : qs ≠ [] := fun h => partsOf_ne_nil x (by rw [h] at hperm; exact hperm.eq_nil)
  refine ⟨fun h => ?_, ?_⟩
  · rcases joined_chars hgood _ h with h | h
    · exact isPartC_ne_colon _ h rfl
    · revert h; decide
  · rw [splitOnChar_intercalate ';' _ hne (fun p hp hc => isPartC_ne_semi _ (hgood p hp _ hc) rfl),
      ← foldlM_stepPair_perm hperm (partsOf_distinct x hx) {}]
    exact (partsOf_ok x hx).1

/-- `str_roundtrip` for every reordering of the printed parts: any `;`-joined permutation of the parts of `str(rule)`
    parses to the printed arguments … -/
theorem parseRRuleLine_perm (x : StrIn) (hx : Printable x) (qs : List (List Char)) (hperm : (partsOf x).Perm qs) :
    parseRRuleLine po (intercalate [';'] qs) = .ok (argsOf po x) := by
  obtain ⟨hc, hf⟩ := joined_perm (po := po) x hx qs hperm
  rw [parseRRuleLine_of_lineValue (lineValue_noColon hc), hf]

/-- … with the `RRULE:` prefix too -/
theorem parseRRuleLine_perm_prefixed (x : StrIn) (hx : Printable x) (qs : List (List Char)) (hperm : (partsOf x).Perm qs) :
    parseRRuleLine po (lit "RRULE" ++ ':' :: intercalate [';'] qs) = .ok (argsOf po x) := by
  obtain ⟨hc, hf⟩ := joined_perm (po := po) x hx qs hperm
  rw [parseRRuleLine_of_lineValue (lineValue_rrule hc), hf]

/-- the text after `RRULE:` -/
def rruleBody (x : StrIn) : List Char := intercalate [';'] (partsOf x)

/-- by rewriting, not `rfl`: to compare `lit "RRULE:" ++ _` with `lit "RRULE" ++ ':' :: _` the unifier unfolds `partsOf x` on both
    sides before it looks at the two literals -/
theorem rruleLineOf_eq (x : StrIn) : rruleLineOf x = lit "RRULE" ++ ':' :: rruleBody x := by
  unfold rruleLineOf rruleBody
  rw [show lit "RRULE:" = lit "RRULE" ++ [':'] from rfl, List.append_assoc, List.singleton_append]

theorem rruleBody_chars (x : StrIn) (hx : Printable x) : ∀ c ∈ rruleBody x, isPartC c = true ∨ c = ';' :=
  joined_chars (partsOf_ok (po := {}) x hx).2

/-- the value without the `RRULE:` prefix (as `_parse_rfc` hands it over for multi-line inputs) -/
theorem parseRRuleLine_body (x : StrIn) (hx : Printable x) : parseRRuleLine po (rruleBody x) = .ok (argsOf po x) :=
  parseRRuleLine_perm x hx _ (List.Perm.refl _)

theorem parseRRuleLine_rruleLineOf (x : StrIn) (hx : Printable x) : parseRRuleLine po (rruleLineOf x) = .ok (argsOf po x) := by
  rw [rruleLineOf_eq]; exact parseRRuleLine_perm_prefixed x hx _ (List.Perm.refl _)

end RRuleStr
