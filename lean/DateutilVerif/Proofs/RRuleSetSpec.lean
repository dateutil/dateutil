/-
  Proofs/RRuleSetSpec.lean — facts about the specification side of C10 (`sortDedup`), extensionality
  of strictly increasing lists, the cursors of the initial heaps, and admissibility of `selFirstMin`.
-/
import DateutilVerif.Proofs.RRuleSet

namespace RSet

theorem insertDedup_spec (x : Int) (l : List Int) (h : l.Pairwise (· < ·)) :
    (insertDedup x l).Pairwise (· < ·) ∧ ∀ y, y ∈ insertDedup x l ↔ y = x ∨ y ∈ l := by
  induction l with
  | nil => simp [insertDedup]
  | cons a l ih =>
    have ⟨ha, hl⟩ := List.pairwise_cons.mp h
    have ⟨ih1, ih2⟩ := ih hl
    unfold insertDedup
    by_cases h1 : x < a
    · rw [if_pos h1]
      refine ⟨?_, fun y => by simp⟩
      rw [List.pairwise_cons]
      refine ⟨fun b hb => ?_, h⟩
      rcases List.mem_cons.mp hb with rfl | hb
      · exact h1
      · have := ha b hb; omega
    · rw [if_neg h1]
      by_cases h2 : x = a
      · rw [if_pos h2]
        refine ⟨h, fun y => ?_⟩
        subst h2; simp
      · rw [if_neg h2]
        refine ⟨?_, fun y => ?_⟩
        · rw [List.pairwise_cons]
          refine ⟨fun b hb => ?_, ih1⟩
          rcases (ih2 b).mp hb with rfl | hb
          · omega
          · exact ha b hb
        · rw [List.mem_cons, ih2 y, List.mem_cons]
          constructor
          · rintro (h | h | h)
            · exact Or.inr (Or.inl h)
            · exact Or.inl h
            · exact Or.inr (Or.inr h)
          · rintro (h | h | h)
            · exact Or.inr (Or.inl h)
            · exact Or.inl h
            · exact Or.inr (Or.inr h)

theorem sortDedup_spec (l : List Int) :
    (sortDedup l).Pairwise (· < ·) ∧ ∀ y, y ∈ sortDedup l ↔ y ∈ l := by
  induction l with
  | nil => simp [sortDedup]
  | cons a l ih =>
    have ⟨h1, h2⟩ := insertDedup_spec a (sortDedup l) ih.1
    refine ⟨h1, fun y => ?_⟩
    show y ∈ insertDedup a (sortDedup l) ↔ _
    rw [h2 y, ih.2 y, List.mem_cons]

theorem sorted_ext : ∀ (l1 l2 : List Int), l1.Pairwise (· < ·) → l2.Pairwise (· < ·) →
    (∀ x, x ∈ l1 ↔ x ∈ l2) → l1 = l2 := by
  intro l1
  induction l1 with
  | nil =>
    intro l2 _ _ h
    cases l2 with
    | nil => rfl
    | cons b l2 => have := (h b).mpr (by simp); cases this
  | cons a l1 ih =>
    intro l2 h1 h2 h
    cases l2 with
    | nil => have := (h a).mp (by simp); cases this
    | cons b l2 =>
      have ⟨ha, hl1⟩ := List.pairwise_cons.mp h1
      have ⟨hb, hl2⟩ := List.pairwise_cons.mp h2
      have hab : a = b := by
        have h3 := (h a).mp (by simp)
        have h4 := (h b).mpr (by simp)
        rcases List.mem_cons.mp h3 with e | h3
        · exact e
        · rcases List.mem_cons.mp h4 with e | h4
          · exact e.symm
          · have := hb a h3; have := ha b h4; omega
      subst hab
      congr 1
      apply ih l2 hl1 hl2
      intro x
      constructor
      · intro hx
        have := (h x).mp (by simp [hx])
        rcases List.mem_cons.mp this with e | h5
        · have := ha x hx; omega
        · exact h5
      · intro hx
        have := (h x).mpr (by simp [hx])
        rcases List.mem_cons.mp this with e | h5
        · have := hb x hx; omega
        · exact h5

theorem mem_elemsOf_mk (l : List (List Int)) (x : Int) :
    x ∈ elemsOf (l.filterMap mkCursor) ↔ x ∈ l.flatten := by
  induction l with
  | nil => simp [elemsOf]
  | cons s l ih =>
    cases s with
    | nil => simpa [mkCursor, List.filterMap_cons] using ih
    | cons a s =>
      simp only [List.filterMap_cons, mkCursor, List.flatten_cons, List.mem_append]
      rw [← ih]
      simp [elemsOf, Cursor.elems, or_assoc]

theorem total_mk (l : List (List Int)) : total (l.filterMap mkCursor) = totalLen l := by
  induction l with
  | nil => rfl
  | cons s l ih =>
    cases s with
    | nil => simpa [mkCursor, List.filterMap_cons, totalLen] using ih
    | cons a s =>
      simp only [List.filterMap_cons, mkCursor, totalLen, List.map_cons, List.sum_cons] at ih ⊢
      simp only [total, List.map_cons, List.sum_cons, Cursor.elems] at ih ⊢
      rw [ih]

theorem sorted_mk (l : List (List Int)) (h : ∀ s ∈ l, s.Pairwise (· ≤ ·)) :
    HSorted (l.filterMap mkCursor) := by
  intro c hc
  rw [List.mem_filterMap] at hc
  obtain ⟨s, hs, hm⟩ := hc
  cases s with
  | nil => simp [mkCursor] at hm
  | cons a s =>
    simp only [mkCursor, Option.some.injEq] at hm
    subst hm
    exact h _ hs

/-- non-vacuity of `Admissible` -/
theorem selFirstMin_adm : Admissible selFirstMin := by
  have key : ∀ hp : List Cursor, (hp = [] ∧ selFirstMin hp = none) ∨
      ∃ c rest, selFirstMin hp = some (c, rest) ∧ (c :: rest).Perm hp ∧ ∀ d ∈ rest, c.dt ≤ d.dt := by
    intro hp
    induction hp with
    | nil => exact Or.inl ⟨rfl, rfl⟩
    | cons c cs ih =>
      right
      unfold selFirstMin
      rcases ih with ⟨rfl, hn⟩ | ⟨m, rest, hs, hp, hm⟩
      · rw [hn]; exact ⟨c, [], rfl, List.Perm.refl _, by simp⟩
      · rw [hs]
        simp only []
        by_cases hle : c.dt ≤ m.dt
        · rw [if_pos hle]
          refine ⟨c, cs, rfl, List.Perm.refl _, fun d hd => ?_⟩
          rcases List.mem_cons.mp (hp.mem_iff.mpr hd) with rfl | hd'
          · exact hle
          · exact Int.le_trans hle (hm d hd')
        · rw [if_neg hle]
          refine ⟨m, c :: rest, rfl, ?_, fun d hd => ?_⟩
          · exact (List.Perm.swap c m rest).trans (List.Perm.cons c hp)
          · rcases List.mem_cons.mp hd with rfl | hd'
            · omega
            · exact hm d hd'
  refine ⟨fun hp hne => ?_, fun hp c rest h => ?_, fun hp c rest h => ?_⟩
  · rcases key hp with ⟨e, _⟩ | ⟨c, rest, hs, _, _⟩
    · exact absurd e hne
    · rw [hs]; simp
  · rcases key hp with ⟨_, hn⟩ | ⟨c', rest', hs, hp', _⟩
    · rw [hn] at h; cases h
    · rw [hs] at h; cases h; exact hp'
  · rcases key hp with ⟨_, hn⟩ | ⟨c', rest', hs, _, hm⟩
    · rw [hn] at h; cases h
    · rw [hs] at h; cases h; exact hm

end RSet
