/-
  Proofs/RRuleMonoCal.lean — strict monotonicity: the invariant and the period windows of
  the calendar frequencies (YEARLY, MONTHLY, WEEKLY, DAILY).
-/
import DateutilVerif.Proofs.RRuleMono

namespace RRule
open Cal

/-- rule-level facts (all follow from `construct`, see `construct_ruleOk`) -/
structure RuleOk (r : Rule) : Prop where
  interval : 1 ≤ r.interval
  wkst : 0 ≤ r.wkst ∧ r.wkst ≤ 6
  timeset : r.freq < 4 → TsOk (r.timeset.getD [])
  byminute : (r.byminute.getD []).Nodup
  bysecond : (r.bysecond.getD []).Nodup

theorem step_next (r : Rule) (st st' : State) (h : (step r st).2 = .ok st') :
    ∃ c fl, advance r { st with count := c } fl = .ok st' := by
  unfold step at h
  split at h
  · cases h
  · dsimp only at h
    split at h
    · cases h
    · split at h
      · cases h
      · exact ⟨_, _, h⟩

theorem month_start (y m : Int) : toOrdinal y m 1 = toOrdinal y 1 1 + daysBeforeMonth y m := by
  unfold toOrdinal; rw [daysBeforeMonth_1]; omega

theorem inst_window (o : Int) (t : HMS) (ht : ValidHMS t) :
    o * 86400 ≤ (mkInst o t).secs ∧ (mkInst o t).secs < (o + 1) * 86400 := by
  unfold ValidHMS at ht
  unfold Inst.secs mkInst; dsimp only; omega

/-- the invariant of the calendar frequencies -/
structure CalInv (r : Rule) (st : State) : Prop where
  facts : YearFacts r st.cur.year st.info
  month : 1 ≤ st.cur.month ∧ st.cur.month ≤ 12
  ts : TsOk st.timeset
  valid : 2 ≤ r.freq → ValidYMD st.cur.year st.cur.month st.cur.day
  wd : r.freq = 2 → st.cur.weekday = weekdayOfOrd (curOrd st.cur)

/-- first day (ordinal) of the period at the cursor -/
def loOrd (r : Rule) (st : State) : Int :=
  if r.freq = 0 then toOrdinal st.cur.year 1 1
  else if r.freq = 1 then toOrdinal st.cur.year st.cur.month 1
  else curOrd st.cur

/-- the items of the period lie in an ordinal window `[loOrd, hi)`, are strictly increasing, and the
    next cursor starts at or after `hi` -/
theorem cal_window (r : Rule) (ok : RuleOk r) (hf : 0 ≤ r.freq ∧ r.freq ≤ 3) (st : State) (inv : CalInv r st) :
    ∃ hi : Int, loOrd r st < hi ∧
      (∀ x ∈ (step r st).1, loOrd r st * 86400 ≤ x.secs ∧ x.secs < hi * 86400) ∧
      (step r st).1.Pairwise secsLt ∧
      (∀ st', (step r st).2 = .ok st' → CalInv r st' ∧ hi ≤ loOrd r st') := by
  have hyo := inv.facts.yearordinal
  have hyl := inv.facts.yearlen
  -- a uniform description of the day set: indices [i0, i1)
  have hds : ∃ i0 i1 : Int, dayset r st.info st.cur = .ok (intRange i0 i1) ∧
      st.info.yearordinal + i0 = loOrd r st ∧ i0 < i1 ∧
      (∀ st', (step r st).2 = .ok st' → CalInv r st' ∧ st.info.yearordinal + i1 ≤ loOrd r st') := by
    by_cases f0 : r.freq = 0
    · refine ⟨0, st.info.yearlen, dayset_yearly st.cur f0, by unfold loOrd; rw [if_pos f0, hyo]; omega, ?_, ?_⟩
      · rw [hyl]; unfold daysInYear; split <;> omega
      · intro st' h
        obtain ⟨c, fl, hadv⟩ := step_next r st st' h
        obtain ⟨e, f', ts⟩ := advance_yearly r { st with count := c } st' fl f0 hadv
        have ec : st'.cur = { st.cur with year := st.cur.year + r.interval } := e
        refine ⟨⟨by rw [ec]; exact f', by rw [ec]; exact inv.month, by rw [ts]; exact inv.ts,
                 by intro h2; omega, by intro h2; omega⟩, ?_⟩
        unfold loOrd
        rw [if_pos f0, ec, hyo, hyl, ← toOrdinal_next_year]
        exact year_start_mono _ _ (by have := ok.interval; dsimp only; omega)
    by_cases f1 : r.freq = 1
    · have hm := inv.month
      have hb := daysInMonth_bounds st.cur.year st.cur.month
      refine ⟨_, _, dayset_monthly st.cur f1 inv.facts hm.1 hm.2, ?_, by omega, ?_⟩
      · unfold loOrd; rw [if_neg f0, if_pos f1, hyo]; exact (month_start _ _).symm
      · intro st' h
        obtain ⟨c, fl, hadv⟩ := step_next r st st' h
        obtain ⟨e, m1, m12, hd, f', ts⟩ :=
          advance_monthly r { st with count := c } st' fl f1 ok.interval hm.1 hm.2 hadv
        have e : st'.cur.year * 12 + (st'.cur.month - 1) =
            st.cur.year * 12 + (st.cur.month - 1) + r.interval := e
        refine ⟨⟨f', ⟨m1, m12⟩, by rw [ts]; exact inv.ts, by intro h2; omega, by intro h2; omega⟩, ?_⟩
        unfold loOrd
        rw [if_neg f0, if_pos f1]
        have hlex := toOrdinal_lt_of_lex st.cur.year st.cur.month (daysInMonth st.cur.year st.cur.month)
          st'.cur.year st'.cur.month 1 ⟨hm.1, hm.2, by omega, by omega⟩
          ⟨m1, m12, by omega, by have := daysInMonth_bounds st'.cur.year st'.cur.month; omega⟩
          (by have := ok.interval; omega)
        rw [hyo]
        have e2 := month_start st.cur.year st.cur.month
        have : toOrdinal st.cur.year st.cur.month (daysInMonth st.cur.year st.cur.month) =
            toOrdinal st.cur.year st.cur.month 1 + daysInMonth st.cur.year st.cur.month - 1 := by
          unfold toOrdinal; omega
        omega
    by_cases f2 : r.freq = 2
    · have hv := inv.valid (by omega)
      obtain ⟨e, hd, h1, h2, h3, h4⟩ := dayset_weekly f2 inv.facts hv
      refine ⟨_, e, hd, by unfold loOrd; rw [if_neg f0, if_neg f1]; omega, h1, ?_⟩
      intro st' h
      obtain ⟨c, fl, hadv⟩ := step_next r st st' h
      have hwd := inv.wd f2
      have hrange := weekdayOfOrd_range (curOrd st.cur)
      obtain ⟨eo, v, wd', f', ts⟩ := advance_weekly r { st with count := c } st' fl f2 ok.interval hv ok.wkst
        (by show 0 ≤ st.cur.weekday ∧ st.cur.weekday ≤ 6; rw [hwd]; omega) inv.facts hadv
      have eo : curOrd st'.cur = curOrd st.cur - (st.cur.weekday - r.wkst) % 7 + 7 * r.interval := eo
      refine ⟨⟨f', ⟨v.1, v.2.1⟩, by rw [ts]; exact inv.ts, fun _ => v, ?_⟩, ?_⟩
      · intro _
        rw [wd', eo, hwd]
        have := weekdayOfOrd_add (curOrd st.cur)
          (-((weekdayOfOrd (curOrd st.cur) - r.wkst) % 7) + 7 * r.interval)
        have e3 : curOrd st.cur - (weekdayOfOrd (curOrd st.cur) - r.wkst) % 7 + 7 * r.interval =
            curOrd st.cur + (-((weekdayOfOrd (curOrd st.cur) - r.wkst) % 7) + 7 * r.interval) := by omega
        rw [e3, this]
        have := ok.wkst
        omega
      · unfold loOrd
        rw [if_neg f0, if_neg f1, eo, hwd]
        -- the day `cur + 7 − δ` is a week start, so the day set cannot reach beyond it
        have hδ : 0 ≤ (weekdayOfOrd (curOrd st.cur) - r.wkst) % 7 ∧
            (weekdayOfOrd (curOrd st.cur) - r.wkst) % 7 < 7 := by omega
        by_cases hgt : e ≤ curOrd st.cur - st.info.yearordinal + 7 - (weekdayOfOrd (curOrd st.cur) - r.wkst) % 7
        · have := ok.interval; omega
        · exfalso
          have := h3 (curOrd st.cur - st.info.yearordinal + 7 - (weekdayOfOrd (curOrd st.cur) - r.wkst) % 7)
            (by omega) (by omega)
          apply this
          have e4 : st.info.yearordinal + (curOrd st.cur - st.info.yearordinal + 7 -
              (weekdayOfOrd (curOrd st.cur) - r.wkst) % 7) =
              curOrd st.cur + (7 - (weekdayOfOrd (curOrd st.cur) - r.wkst) % 7) := by omega
          rw [e4, weekdayOfOrd_add]
          have := ok.wkst
          omega
    · have f3 : r.freq = 3 := by omega
      have hv := inv.valid (by omega)
      refine ⟨curOrd st.cur - st.info.yearordinal, curOrd st.cur - st.info.yearordinal + 1, ?_,
              by unfold loOrd; rw [if_neg f0, if_neg f1]; omega, by omega, ?_⟩
      · rw [dayset_daily st.cur (by omega) inv.facts hv, intRange_one]
      · intro st' h
        obtain ⟨c, fl, hadv⟩ := step_next r st st' h
        obtain ⟨eo, v, f', ts⟩ := advance_daily r { st with count := c } st' fl f3 ok.interval hv inv.facts hadv
        have eo : curOrd st'.cur = curOrd st.cur + r.interval := eo
        refine ⟨⟨f', ⟨v.1, v.2.1⟩, by rw [ts]; exact inv.ts, fun _ => v, by intro h2; omega⟩, ?_⟩
        unfold loOrd
        rw [if_neg f0, if_neg f1]
        have := ok.interval
        omega
  obtain ⟨i0, i1, hd, hlo, hlt, hnext⟩ := hds
  refine ⟨st.info.yearordinal + i1, by omega, ?_, ?_, hnext⟩
  · intro x hx
    rcases step_sublist r st with h | ⟨cands, pend, fl, hres, hsub⟩
    · rw [h] at hx; simp at hx
    · obtain ⟨i, hi, t, ht, rfl, _⟩ := (periodResults_spec r st _ cands pend fl hd inv.ts hres).1 x (hsub.subset hx)
      have hir := (mem_intRange _ _ _).mp hi
      have hw := inst_window (st.info.yearordinal + i) t (inv.ts.2 t ht)
      have h1 : loOrd r st * 86400 ≤ (st.info.yearordinal + i) * 86400 := by
        rw [← hlo]; apply Int.mul_le_mul_of_nonneg_right <;> omega
      have h2 : (st.info.yearordinal + i + 1) * 86400 ≤ (st.info.yearordinal + i1) * 86400 := by
        apply Int.mul_le_mul_of_nonneg_right <;> omega
      omega
  · rcases step_sublist r st with h | ⟨cands, pend, fl, hres, hsub⟩
    · rw [h]; exact List.Pairwise.nil
    · exact ((periodResults_spec r st _ cands pend fl hd inv.ts hres).2 (intRange_pairwise _ _)).sublist hsub

end RRule
