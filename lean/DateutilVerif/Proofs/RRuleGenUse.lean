/-
  Proofs/RRuleGenUse.lean — the hypotheses of the day-set / time-set obligations discharged for the way `rrule._iter`
  uses the methods: on a rule that came out of the constructor, and on an `_iterinfo` that was just rebuilt for the
  cursor's year (after any history of earlier calls).
-/
import DateutilVerif.Proofs.RRuleGenHelpers
import DateutilVerif.Proofs.RRuleGenCached
import DateutilVerif.Proofs.RRuleGenDaysets
import DateutilVerif.Proofs.RRuleConstruct
import DateutilVerif.Proofs.Calendar

namespace RRuleGen
open RRule RrPy

theorem normUnit_isSome (freq lvl interval start : Int) (arg : Option (List Int)) (base : Int) (res : Option (List Int))
    (h : normUnit freq lvl interval start arg base = .ok res) (hf : freq < lvl) : res.isSome = true := by
  unfold normUnit at h
  cases arg with
  | none =>
    simp only [hf, if_true] at h
    cases h; rfl
  | some l =>
    simp only at h
    by_cases he : (freq == lvl) = true
    · simp only [he, if_true] at h
      cases hc : constructByset interval start l base with
      | error e => rw [hc] at h; cases h
      | ok c => rw [hc] at h; cases h; rfl
    · simp only [he, if_false] at h
      cases h; rfl

theorem construct_units (a : Args) (r : Rule) (h : construct a = .ok r) :
    (r.freq < 5 → r.byminute.isSome = true) ∧ (r.freq < 6 → r.bysecond.isSome = true) := by
  obtain ⟨sp, bh, bm, bs, ts, _, _, h3, h4, _, rfl⟩ := construct_ok a r h
  exact ⟨fun hf => normUnit_isSome _ _ _ _ _ _ _ h3 hf, fun hf => normUnit_isSome _ _ _ _ _ _ _ h4 hf⟩

/-- the time-set method `_iter` selects by frequency (`{HOURLY: ii.htimeset, MINUTELY: ii.mtimeset, SECONDLY: ii.stimeset}[freq]`) -/
def genTimeset (r : Rule) (self : RrPy.II) (hour minute second : Int) : Py.R (List HMS) :=
  if r.freq = 4 then Gen.htimeset r self hour minute second
  else if r.freq = 5 then Gen.mtimeset r self hour minute second
  else Gen.stimeset r self hour minute second

/-- for every rule the constructor returns (any ambient first weekday), the selected translated method is the model's
    `gettimeset` — no side condition left -/
theorem gen_gettimeset_of_construct (k : Int) (a : Args) (r : Rule) (h : constructW k a = .ok r) (self : RrPy.II)
    (hour minute second : Int) : genTimeset r self hour minute second = gettimeset r hour minute second := by
  obtain ⟨hm, hs⟩ := construct_units (resolveW k a) r h
  unfold genTimeset gettimeset
  by_cases h4 : r.freq = 4
  · simp only [h4, if_true, beq_self_eq_true]
    exact gen_htimeset_eq_model r self hour minute second (hm (by omega)) (hs (by omega))
  · by_cases h5 : r.freq = 5
    · have n54 : ¬ ((5 : Int) = 4) := by decide
      simp only [h5, n54, if_false, if_true, beq_iff_eq, beq_self_eq_true]
      exact gen_mtimeset_eq_model r self hour minute second (hs (by omega))
    · simp only [h4, h5, if_false, beq_iff_eq]
      rfl

theorem toOrdinal_ge_jan1 (y m d : Int) (hv : Cal.validDate y m d = true) : 0 ≤ Cal.toOrdinal y m d - Cal.toOrdinal y 1 1 := by
  have hv' : Cal.ValidDate y m d := by simpa [Cal.validDate] using hv
  obtain ⟨_, _, hymd⟩ := hv'
  have h11 : Cal.ValidYMD y 1 1 := by simp [Cal.ValidYMD, Cal.daysInMonth]
  by_cases he : m = 1 ∧ d = 1
  · obtain ⟨rfl, rfl⟩ := he; omega
  · have := Cal.toOrdinal_lt_of_lex y 1 1 y m d h11 hymd (Or.inr ⟨rfl, by
      obtain ⟨m1, _, d1, _⟩ := hymd
      by_cases hm : 1 < m
      · exact Or.inl hm
      · exact Or.inr ⟨by omega, by omega⟩⟩)
    omega

/-- the day-set method `_iter` selects for the frequencies other than YEARLY
    (`{MONTHLY: ii.mdayset, WEEKLY: ii.wdayset, DAILY…SECONDLY: ii.ddayset}[freq]`; YEARLY: `gen_ydayset_eq_model`) -/
def genDayset (r : Rule) (st : RrPy.II) (c : Cursor) : Py.R (List (Option Int) × Int × Int) :=
  if r.freq = 1 then Gen.mdayset r st c.year c.month c.day
  else if r.freq = 2 then Gen.wdayset r st c.year c.month c.day
  else Gen.ddayset r st c.year c.month c.day

/-- **as `_iter` uses them**: after ANY history of successful `rebuild` calls, rebuild for the cursor's year (with whatever
    month argument) and ask for the day set of the cursor's date (month 1..12): the translated method raises what the model's
    `dayset` raises, or returns `(dset, start, end)` with the model's day set `range(start, end)` and `dset[k] == k` there. -/
theorem gen_dayset_after_rebuild (r : Rule) (hf : r.freq ≠ 0) (calls : List (Int × Int)) (st0 : RrPy.II)
    (hh : history r calls = .ok st0) (c : Cursor) (marg : Int) (st : RrPy.II)
    (hst : Gen.rebuild r st0 c.year marg = .ok st) (hm : 1 ≤ c.month ∧ c.month ≤ 12) :
    DaysetAgrees (genDayset r st c) (dayset r st.toInfo c) := by
  have hmodel : RRule.rebuild r c.year marg = .ok st.toInfo := by
    have := rebuild_after_history r calls st0 hh c.year marg
    rw [hst] at this
    exact this.symm
  obtain ⟨_, _, _, _, hinfo⟩ := rebuild_inv r c.year marg st.toInfo hmodel
  have f1 : st.yearlen = (baseInfo c.year).yearlen := by have := congrArg Info.yearlen hinfo; simpa [RrPy.II.toInfo] using this
  have f2 : st.mrange = (baseInfo c.year).mrange := by have := congrArg Info.mrange hinfo; simpa [RrPy.II.toInfo] using this
  have f4 : st.yearordinal = (baseInfo c.year).yearordinal := by have := congrArg Info.yearordinal hinfo; simpa [RrPy.II.toInfo] using this
  have hyo : st.yearordinal = Cal.toOrdinal c.year 1 1 := by rw [f4]; rfl
  have hi : Cal.validDate c.year c.month c.day = true → 0 ≤ Cal.toOrdinal c.year c.month c.day - st.yearordinal := by
    intro hv; rw [hyo]; exact toOrdinal_ge_jan1 _ _ _ hv
  unfold genDayset
  by_cases h1 : r.freq = 1
  · simp only [h1, if_true]
    refine gen_mdayset_agrees r st c h1 (Cal.isLeap c.year) ?_ ?_ hm
    · rw [f1]; simp [baseInfo, Tables.ylen]
    · rw [f2]; simp [baseInfo, Tables.mrangeOf]
  · by_cases h2 : r.freq = 2
    · have n21 : ¬ ((2 : Int) = 1) := by decide
      simp only [h2, n21, if_false, if_true]
      refine gen_wdayset_agrees r st c h2 ?_ hi
      rw [f1]; cases hl : Cal.isLeap c.year <;> simp [baseInfo, hl]
    · simp only [h1, h2, if_false]
      exact gen_ddayset_agrees r st c ⟨hf, h1, h2⟩ hi

end RRuleGen
