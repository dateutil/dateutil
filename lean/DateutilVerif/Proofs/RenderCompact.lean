/-
  Proofs/RenderCompact.lean — `YYYYMMDD[T]HHMM[SS]`, `YYYYMMDDHHMMSS`, `YYYYMMDD` (family 3 of C02): the four formats of
  `PT.renderCompact` are the templates `compact_T_s`, `compact_nosep_s`, `compact_T_min`, `compact_date` without a suffix.
-/
import DateutilVerif.Proofs.RenderGenC

namespace PM
open Py PT

section
variable (cls : Char → CClass) [AsciiOK cls]

theorem parse_compact (yf : Bool) (year century : Int) (o : Opts) (tznames : List Token) (tzi : TzInfos)
    (ho : PlainOpts o tzi) (dflt : DT) (hdv : dflt.Valid) (t : DT) (ht : t.Valid) (f : CompactFmt) :
    parse cls (Info.default false yf year century) o tznames tzi dflt (renderCompact f t) =
      .ok { dt := f.expect t dflt, tz := .naive, tokens := none } := by
  have hs : StrictOpts o tzi := ⟨ho.fz, ho.fwt, ho.tz1, ho.tz2⟩
  cases f with
  | tHMS =>
    have := tpl_compact_T_s cls yf year century o tznames tzi hs ho.df t dflt ht hdv .naive trivial
    simpa [str_compact_T_s, renderCompact, compactDate, digs, dateDigits8, pad4, pad2, Off.render, offZone_naive,
      CompactFmt.expect] using this
  | nosepHMS =>
    have := tpl_compact_nosep_s cls yf year century o tznames tzi hs ho.df t dflt ht hdv .naive trivial
    simpa [str_compact_nosep_s, renderCompact, compactDate, digs, dateDigits8, pad4, pad2, Off.render, offZone_naive,
      CompactFmt.expect] using this
  | tHM =>
    have := tpl_compact_T_min cls yf year century o tznames tzi hs ho.df t dflt ht hdv .naive trivial
    simpa [str_compact_T_min, renderCompact, compactDate, digs, dateDigits8, pad4, pad2, Off.render, offZone_naive,
      CompactFmt.expect] using this
  | date =>
    have := tpl_compact_date cls yf year century o tznames tzi hs ho.df t dflt ht hdv
    simpa [str_compact_date, renderCompact, compactDate, digs, dateDigits8, pad4, pad2, CompactFmt.expect] using this

end
end PM
