/-
  Proofs/RDYearday.lean — `relativedelta(yearday=…)` / `(nlyearday=…)`: the constructor's `ydayidx`
  scan (whole table, `decide +kernel`) and `x + relativedelta(month=, day=, leapdays=)`.
-/
import DateutilVerif.Proofs.RDDiff

namespace RDP
open RDM
set_option linter.unusedSimpArgs false

/-- the delta `relativedelta(yearday=…)` / `(nlyearday=…)` denotes after the table conversion -/
def monthDayDelta (m dd ld : Int) : RD := { month := some m, day := some dd, leapdays := ld }

theorem monthDayDelta_normalised (m dd ld : Int) : Normalised (monthDayDelta m dd ld) := by
  unfold Normalised monthDayDelta hasTimeOf; simp

theorem monthDayDelta_inDomain (m dd ld : Int) (hm : 1 ≤ m ∧ m ≤ 12) (hd : 1 ≤ dd) : InDomain (monthDayDelta m dd ld) := by
  refine ⟨monthDayDelta_normalised m dd ld, by simp [monthDayDelta], ?_, ?_, ?_⟩
  · intro v hv; simp only [monthDayDelta, Option.some.injEq] at hv; omega
  · simp only [monthDayDelta, ne_eq, Option.some.injEq]; omega
  · intro w n hw; simp [monthDayDelta] at hw

theorem ordinal_ofMicros (x : Int) (h1 : DT.minMicros ≤ x) (h2 : x ≤ DT.maxMicros) :
    (DT.ofMicros x).Valid ∧ (DT.ofMicros x).ordinal = x / DT.usPerDay ∧
    (DT.ofMicros x).timeMicros = x % DT.usPerDay := by
  have hv := DT.ofMicros_valid x h1 h2
  have hm := DT.toMicros_ofMicros x (by unfold DT.minMicros at h1; omega)
  have r := DT.timeMicros_range _ hv
  refine ⟨hv, ?_, ?_⟩ <;> (unfold DT.toMicros DT.usPerDay at *; omega)

/-- `x + relativedelta(month=m, day=dd, leapdays=ld)` for a real month, `dd ≥ 1`, `ld ∈ {0, −1}`:
    the operand moved to (m, min dd len) of its own year, one day earlier when the leap day applies;
    kind and time of day unchanged. -/
theorem applyTo_monthDayDelta (m dd ld : Int) (x : Temporal) (hx : x.Valid) (hm : 1 ≤ m ∧ m ≤ 12) (hd : 1 ≤ dd)
    (hld : ld = 0 ∨ ld = -1) :
    ∃ res, applyTo (monthDayDelta m dd ld) x = .ok res ∧ res.kind = x.kind ∧ res.t.Valid ∧
      res.t.ordinal = Cal.toOrdinal x.t.y m (min dd (Cal.daysInMonth x.t.y m)) +
        (if ld ≠ 0 ∧ m > 2 ∧ Cal.isLeap x.t.y = true then ld else 0) ∧
      res.t.hh = x.t.hh ∧ res.t.mm = x.t.mm ∧ res.t.ss = x.t.ss ∧ res.t.us = x.t.us := by
  rw [applyTo_eq_spec _ x (monthDayDelta_inDomain m dd ld hm hd) hx]
  have hti : RDSpec.hasTimeInfo (monthDayDelta m dd ld) = false := by
    unfold RDSpec.hasTimeInfo monthDayDelta; simp
  unfold RDSpec.apply RDSpec.monthShift
  simp only [hti, Bool.false_eq_true, and_false, ↓reduceIte]
  have e0 : (monthDayDelta m dd ld).years = 0 ∧ (monthDayDelta m dd ld).months = 0 ∧ (monthDayDelta m dd ld).year = none ∧
      (monthDayDelta m dd ld).month = some m ∧ (monthDayDelta m dd ld).day = some dd := ⟨rfl, rfl, rfl, rfl, rfl⟩
  rw [e0.1, e0.2.1, e0.2.2.1, e0.2.2.2.1, e0.2.2.2.2]
  simp only [Option.getD_none, Option.getD_some]
  have y1 := hx.1.1.1; have y2 := hx.1.1.2.1
  have eY : (12 * x.t.y + (m - 1) + (12 * 0 + 0)) / 12 = x.t.y := by omega
  have eM : (12 * x.t.y + (m - 1) + (12 * 0 + 0)) % 12 + 1 = m := by omega
  rw [eY, eM]
  have hb := Cal.daysInMonth_bounds x.t.y m
  generalize hdd : min dd (Cal.daysInMonth x.t.y m) = d' at *
  have hd' : 1 ≤ d' ∧ d' ≤ Cal.daysInMonth x.t.y m := by omega
  -- the shifted datetime
  have hs : RDSpec.shiftedDT (monthDayDelta m dd ld) x.t x.t.y m d' = { x.t with m := m, d := d' } := by
    unfold RDSpec.shiftedDT monthDayDelta; simp
  have hv : DT.Valid { x.t with m := m, d := d' } := by
    obtain ⟨⟨_, _, _⟩, ht⟩ := hx.1
    exact ⟨⟨y1, y2, hm.1, hm.2, hd'.1, hd'.2⟩, ht⟩
  unfold RDSpec.applyShifted RDSpec.afterDuration
  rw [hs]
  have hdur : RDSpec.duration (monthDayDelta m dd ld) (decide (m > 2) && Cal.isLeap x.t.y) =
      (if ld ≠ 0 ∧ m > 2 ∧ Cal.isLeap x.t.y = true then ld else 0) * DT.usPerDay := by
    unfold RDSpec.duration monthDayDelta DT.usPerDay
    simp only [Int.zero_mul, Int.add_zero, Int.zero_add]
    by_cases h1 : m > 2 <;> by_cases h2 : Cal.isLeap x.t.y = true <;> by_cases h3 : ld = 0 <;>
      simp [h1, h2, h3]
  rw [hdur]
  generalize hL : (if ld ≠ 0 ∧ m > 2 ∧ Cal.isLeap x.t.y = true then ld else 0) = L
  have hLr : L = 0 ∨ (L = -1 ∧ m > 2) := by
    rw [← hL]; split
    · rename_i hc
      rcases hld with h | h
      · exact absurd h hc.1
      · exact Or.inr ⟨h, hc.2.1⟩
    · exact Or.inl rfl
  have hr := toMicros_range _ hv
  -- stays inside 1..9999: the leap-day correction is −1 only from March on (`m > 2`), so the date stays after 1 January
  have hord1 : 1 ≤ ({ x.t with m := m, d := d' } : DT).ordinal + L := by
    rcases hLr with h | ⟨h, hm2⟩
    · rw [h]; have := Cal.toOrdinal_pos x.t.y m d' y1 ⟨hm.1, hm.2, hd'.1, hd'.2⟩
      unfold DT.ordinal; simp only []; omega
    · rw [h]
      have := Cal.toOrdinal_lt_of_lex x.t.y 1 1 x.t.y m d' ⟨by omega, by omega, by omega, by have := Cal.daysInMonth_bounds x.t.y 1; omega⟩
        ⟨hm.1, hm.2, hd'.1, hd'.2⟩ (Or.inr ⟨rfl, Or.inl (by omega)⟩)
      have := Cal.toOrdinal_pos x.t.y 1 1 y1 ⟨by omega, by omega, by omega, by have := Cal.daysInMonth_bounds x.t.y 1; omega⟩
      unfold DT.ordinal; simp only []; omega
  have tr := DT.timeMicros_range _ hv
  have hin : ¬ (({ x.t with m := m, d := d' } : DT).toMicros + L * DT.usPerDay < DT.minMicros ∨
      ({ x.t with m := m, d := d' } : DT).toMicros + L * DT.usPerDay > DT.maxMicros) := by
    unfold DT.toMicros DT.minMicros DT.maxMicros DT.usPerDay at *
    rcases hLr with h | ⟨h, _⟩ <;> rw [h] at hord1 ⊢ <;> omega
  rw [if_neg (by simp [fits_of_valid _ hv]), if_neg (by simp [hv]), if_neg hin]
  unfold RDSpec.weekdayStep
  have hw : (monthDayDelta m dd ld).weekday = none := rfl
  rw [hw]
  simp only []
  have hadd : ({ x.t with m := m, d := d' } : DT).addDays L =
      .ok (DT.ofMicros (({ x.t with m := m, d := d' } : DT).toMicros + L * DT.usPerDay)) := by
    unfold DT.addDays DT.addMicros; simp only []; rw [if_neg hin]
  obtain ⟨a1, a2, a3, a4, a5, a6, a7⟩ := addDays_ok _ _ L hv hadd
  exact ⟨_, rfl, rfl, a1, a2, a4, a5, a6, a7⟩

/-- days of month `m` in a non-leap year -/
def nlDim (m : Int) : Int := if m == 2 then 28 else if m == 4 || m == 6 || m == 9 || m == 11 then 30 else 31

/-- what the table scan must return for day `yd` of a non-leap year -/
def ydayLookupOK (yd : Int) : Bool :=
  match ydayLookup yd ydayidx 0 0 with
  | .ok (m, d) => decide (1 ≤ m ∧ m ≤ 12 ∧ 1 ≤ d ∧ d ≤ nlDim m ∧ Cal.dbmTable m + d = yd ∧ (m > 2 ↔ yd ≥ 60))
  | .error _ => false

theorem ydayLookup_table : ∀ k : Fin 365, ydayLookupOK (1 + (k.val : Int)) = true := by decide +kernel

theorem ydayLookup_spec (yd : Int) (h1 : 1 ≤ yd) (h2 : yd ≤ 365) :
    ∃ m d, ydayLookup yd ydayidx 0 0 = .ok (m, d) ∧ 1 ≤ m ∧ m ≤ 12 ∧ 1 ≤ d ∧ d ≤ nlDim m ∧
      Cal.dbmTable m + d = yd ∧ (m > 2 ↔ yd ≥ 60) := by
  have hk : (yd - 1).toNat < 365 := by omega
  have := ydayLookup_table ⟨(yd - 1).toNat, hk⟩
  have e : 1 + (((yd - 1).toNat : Nat) : Int) = yd := by omega
  simp only [e, ydayLookupOK] at this
  split at this
  · rename_i m d heq
    refine ⟨m, d, heq, ?_⟩
    simpa using this
  · simp at this

theorem nlDim_le (y m : Int) : nlDim m ≤ Cal.daysInMonth y m := by
  unfold nlDim Cal.daysInMonth
  by_cases h2 : m = 2
  · subst h2; simp; split <;> omega
  · simp [h2]

/-- day `n` of a non-leap year is (month `m`, day `dd`); in year `Y` that date is one day later from March on when `Y`
    is a leap year -/
theorem toOrdinal_of_yday (Y m dd n : Int) (hsum : Cal.dbmTable m + dd = n) :
    Cal.toOrdinal Y m dd = Cal.toOrdinal Y 1 1 + (n - 1) + (if m > 2 ∧ Cal.isLeap Y = true then 1 else 0) := by
  have e1 : Cal.dbmTable 1 = 0 := by decide
  unfold Cal.toOrdinal Cal.daysBeforeMonth
  rw [e1]
  by_cases hm : m > 2 <;> cases Cal.isLeap Y <;> simp [hm] <;> omega

theorem fix_monthDayDelta (m dd ld : Int) : Gen.fix (monthDayDelta m dd ld) = monthDayDelta m dd ld :=
  fix_of_normalised _ (monthDayDelta_normalised m dd ld)

theorem mk_yearday (y m dd : Int) (hy : y ≠ 0) (hl : ydayLookup y ydayidx 0 0 = .ok (m, dd)) :
    mk { yearday := some y } = .ok (monthDayDelta m dd (if 59 < y ∧ y < 366 then -1 else 0)) := by
  unfold mk
  simp only [orInt, hy, ne_eq, not_false_eq_true, ↓reduceIte, not_true_eq_false, bind, Except.bind, pure, Except.pure,
    hl, Except.map, true_and]
  rw [← fix_monthDayDelta]
  by_cases h : 59 < y ∧ y < 366 <;> simp only [h, ↓reduceIte] <;> rfl

theorem mk_nlyearday (n m dd : Int) (hn : n ≠ 0) (hl : ydayLookup n ydayidx 0 0 = .ok (m, dd)) :
    mk { nlyearday := some n } = .ok (monthDayDelta m dd 0) := by
  unfold mk
  simp only [orInt, hn, ne_eq, not_false_eq_true, ↓reduceIte, not_true_eq_false, bind, Except.bind, pure, Except.pure,
    hl, Except.map, false_and]
  rw [← fix_monthDayDelta]
  rfl

/-- a valid date whose ordinal lies in `[Jan 1 of Y, Jan 1 of Y+1)` is in year `Y` -/
theorem year_of_ordinal_in_year (t : DT) (Y : Int) (hv : t.Valid)
    (h1 : Cal.toOrdinal Y 1 1 ≤ t.ordinal) (h2 : t.ordinal < Cal.toOrdinal (Y + 1) 1 1) : t.y = Y := by
  have v := hv.1.2.2
  have j1 : ∀ z : Int, Cal.ValidYMD z 1 1 := fun z =>
    ⟨by omega, by omega, by omega, by have := Cal.daysInMonth_bounds z 1; omega⟩
  apply Classical.byContradiction
  intro hne
  by_cases hlt : t.y < Y
  · have := Cal.toOrdinal_lt_of_lex t.y t.m t.d Y 1 1 v (j1 Y) (Or.inl hlt)
    unfold DT.ordinal at h1; omega
  · by_cases he : t.y = Y + 1 ∧ t.m = 1 ∧ t.d = 1
    · unfold DT.ordinal at h2; rw [he.1, he.2.1, he.2.2] at h2; omega
    · have := Cal.toOrdinal_lt_of_lex (Y + 1) 1 1 t.y t.m t.d (j1 _) v (by
        have := v.1; have := v.2.2.1; omega)
      unfold DT.ordinal at h2; omega


end RDP
