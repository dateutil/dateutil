/-
  Proofs/ParserGenNaive.lean — `parser._build_naive` re-translated from /repo's parser/_parser.py
  (Generated/ParserOps.lean: `Gen.P.buildNaive`) = `PM.buildNaive` (Model/Parser.lean): the `repl` dict built by the loop
  over the seven field names, the month-end clipping of the default's day, `default.replace(**repl)` and the bare-weekday
  shift.  `default.replace` (C-int conversion, field validation) and `naive + relativedelta(weekday=k)` are the named
  primitives `PM.dtReplace` / `PM.weekdayShift` on both sides.
-/
import DateutilVerif.Proofs.ParserGenSmall

namespace PGen
open PM Py

theorem natOfInt_dim (y m n : Int) (h : PM.monthrange y m = .ok n) : PPy.natOfInt n = .ok n.toNat :=
  natOfInt_toNat n (monthrange_nonneg h)

/-- `if value is not None: repl[attr] = value`, for a dict `r` that has no `attr` yet -/
theorem optField {β : Type} (o : Option Nat) (r : PPy.Repl) (set : Option Nat → PPy.Repl) (K : PPy.Repl → R β)
    (h0 : set none = r) :
    Except.bind (if o ≠ none then Except.bind (PPy.optNat o) (fun v => .ok (set (some v))) else .ok r) K = K (set o) := by
  subst h0; cases o <;> rfl

/-- `default.attr if res.attr is None else res.attr` -/
theorem fieldOr_eq (o : Option Nat) (dv : Int) :
    (if o = none then (.ok dv : R Int) else Except.bind (PPy.optNat o) (fun v => .ok (v : Int))) = .ok (PM.fieldOr o dv) := by
  cases o <;> rfl

/-- `parser._build_naive` = `PM.buildNaive`: after the k-th pass of the loop over the field names the dict
    holds the first k fields of `res` -/
theorem buildNaive_eq (info : Info) (res : Res) (dflt : DT) : Gen.P.buildNaive info res dflt = PM.buildNaive res dflt := by
  unfold Gen.P.buildNaive
  rcases res with ⟨y, mo, d, wd, h, mi, s, us, tzn, tzo, ap, cs⟩
  refine (optField y _ (fun o => { year := o }) _ rfl).trans ?_
  refine (optField mo _ (fun o => { year := y, month := o }) _ rfl).trans ?_
  refine (optField d _ (fun o => { year := y, month := mo, day := o }) _ rfl).trans ?_
  refine (optField h _ (fun o => { year := y, month := mo, day := d, hour := o }) _ rfl).trans ?_
  refine (optField mi _ (fun o => { year := y, month := mo, day := d, hour := h, minute := o }) _ rfl).trans ?_
  refine (optField s _ (fun o => { year := y, month := mo, day := d, hour := h, minute := mi, second := o }) _ rfl).trans ?_
  refine (optField us _ (fun o => { year := y, month := mo, day := d, hour := h, minute := mi, second := s, microsecond := o }) _ rfl).trans ?_
  simp only [fieldOr_eq, bind_ok, PM.buildNaive, bind_eq]
  refine bind_congr_map (fun day => (⟨y, mo, day, h, mi, s, us⟩ : PPy.Repl)) ?_ fun day => bind_congr rfl fun naive => ?_
  · unfold PM.clipDay
    cases d with
    | some dv => rfl
    | none =>
      simp only [ne_eq, not_true_eq_false, not_false_eq_true, if_true, bind_eq, pure_eq, bind_assoc,
        show PM.fieldOr none dflt.d = dflt.d from rfl]
      cases hmr : PM.monthrange (PM.fieldOr y dflt.y) (PM.fieldOr mo dflt.m) with
      | error e => rfl
      | ok n =>
        simp only [bind_ok]
        by_cases hd : dflt.d > n <;> simp [bind_ok, natOfInt_dim _ _ _ hmr, hd]
  · unfold PM.shiftBareWeekday
    cases wd with
    | none => rfl
    | some w =>
      cases d with
      | none => simp [PPy.truthyOptNat, PPy.optNat, bind_ok, bind_ok_id]
      | some dv => by_cases h0 : dv = 0 <;> simp [PPy.truthyOptNat, PPy.optNat, bind_ok, bind_ok_id, h0]
end PGen
