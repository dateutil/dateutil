/-
  Proofs/CacheGlobal.lean — the global invariant of the cached-iterator machine, enabledness,
  and the termination measure (C11).
-/
import DateutilVerif.Proofs.CacheStep

namespace Cache
open Queries Py

/-- the invariant of a whole state: shared part, every thread, lock discipline -/
structure Inv (s : State) : Prop where
  sinv : SInv s.sh
  linv : ∀ (t : Tid) (it : Iter), s.its[t]? = some it → LInv s.sh it
  lockinv : ∀ (t : Tid) (it : Iter), s.its[t]? = some it → (it.pc.inCrit = true ↔ s.sh.lock = some t)
  owner : ∀ (t : Tid), s.sh.lock = some t → ∃ it : Iter, s.its[t]? = some it

theorem step_eq {s s' : State} {t : Tid} (h : step s t = some s') :
    ∃ it sh' it', s.its[t]? = some it ∧ stepIter s.sh t it = some (sh', it') ∧
      s' = { sh := sh', its := s.its.set t it' } := by
  unfold step at h
  split at h
  · cases h
  · rename_i it hit
    split at h
    · cases h
    · rename_i sh' it' hst
      simp only [Option.some.injEq] at h
      exact ⟨it, sh', it', hit, hst, h.symm⟩

theorem inv_step' {s s' : State} {t : Tid} (hi : Inv s) (h : step s t = some s') : Inv s' := by
  obtain ⟨it, sh', it', hit, hst, rfl⟩ := step_eq h
  have hl := hi.linv t it hit
  have ⟨hs', hm⟩ := stepIter_sinv hst hi.sinv hl
  have ⟨hk1, hk2⟩ := stepIter_lock hst (hi.lockinv t it hit)
  refine ⟨hs', List.forall_getElem?_set hit (stepIter_linv hst hi.sinv hl) fun t2 it2 _ h2 => LInv_mono hm (hi.linv t2 it2 h2),
    List.forall_getElem?_set hit hk1 fun t2 it2 e h2 => (hi.lockinv t2 it2 h2).trans (hk2 t2 (Ne.symm e)).symm,
    fun t2 h2 => ?_⟩
  by_cases e : t2 = t
  · subst e; exact ⟨it', List.getElem?_set_self_of_getElem? hit⟩
  · rw [List.getElem?_set_ne (Ne.symm e)]
    exact hi.owner t2 ((hk2 t2 e).mp h2)

theorem inv_init (src : List Int) (qs : List Query) (e : Option PyErr := none) : Inv (init src qs e) := by
  refine ⟨⟨rfl, Nat.zero_le _, ?_, ?_, ?_⟩, ?_, ?_, ?_⟩
  · intro n h; cases h
  · intro h; cases h
  · intro h; cases h
  · intro t it h
    simp only [init, List.getElem?_map, Option.map_eq_some_iff] at h
    obtain ⟨q, _, rfl⟩ := h
    exact ⟨rfl, rfl, rfl⟩
  · intro t it h
    simp only [init, List.getElem?_map, Option.map_eq_some_iff] at h
    obtain ⟨q, _, rfl⟩ := h
    simp [PC.inCrit, init, initShared]
  · intro t h; cases h

theorem stepIter_none {sh : Shared} {t : Tid} {it : Iter} (h : stepIter sh t it = none) :
    it.pc = .done ∨ (it.pc = .l132 ∧ sh.lock ≠ none) := by
  revert h
  fun_cases stepIter sh t it <;> intro h <;> first | cases h | skip
  next hl => exact .inr ⟨‹_›, hl ▸ nofun⟩
  · revert h; fun_cases step138 sh it <;> intro h <;> cases h
  · exact .inl ‹_›

/-- statements a thread can still execute, at most (N = length of the underlying sequence).
    One pass of `while gen:` delivers `cache[i]` and runs at most 36 statements: lines 130–134, one of 135 / 136 (the two branches
    of 134: the same weight), ten rounds of 137 / 138 (2 each, hence `2 * (10 - j)`), 139–146; 40 leaves room.  There are at most
    `N + 1 - i` passes left (one more than values: the last finds the generator exhausted), and within a pass the offsets count
    down.  The tail loop runs 3 statements per remaining value; the lines before 130 run once. -/
def mu (N : Nat) (it : Iter) : Nat :=
  match it.pc with
  | .done => 0
  | .listIter => it.pending.length + 1
  | .l147 => 3 * (N - it.i) + 3
  | .l148 => 3 * (N - it.i) + 2
  | .l149 => 3 * (N - it.i) + 1
  | .l130 => (N + 1 - it.i) * 40 + 36
  | .l131 => (N + 1 - it.i) * 40 + 35
  | .l132 => (N + 1 - it.i) * 40 + 34
  | .l133 => (N + 1 - it.i) * 40 + 33
  | .l134 => (N + 1 - it.i) * 40 + 32
  | .l135 => (N + 1 - it.i) * 40 + 31
  | .l136 => (N + 1 - it.i) * 40 + 31
  | .l137 => (N + 1 - it.i) * 40 + 9 + 2 * (10 - it.j)
  | .l138 => (N + 1 - it.i) * 40 + 8 + 2 * (10 - it.j)
  | .l139 => (N + 1 - it.i) * 40 + 8
  | .l140 => (N + 1 - it.i) * 40 + 7
  | .l141 => (N + 1 - it.i) * 40 + 6
  | .l142 => (N + 1 - it.i) * 40 + 5
  | .l144 => (N + 1 - it.i) * 40 + 4
  | .l145 => (N + 1 - it.i) * 40 + 3
  | .l146 => (N + 1 - it.i) * 40 + 2
  | .l129 => (N + 1) * 40 + 37
  | .l128 => (N + 1) * 40 + 38
  | .l127 => (N + 1) * 40 + 39
  | .l126 => (N + 1) * 40 + 40
  | .l125 => (N + 1) * 40 + 41
  | .l111 => (N + 1) * 40 + 42
  | .l108 => (N + 1) * 40 + 43
  | .l107 => (N + 1) * 40 + 43
  | .l106 => (N + 1) * 40 + 44
  | .entry => (N + 1) * 40 + 45
  | .start => (N + 1) * 40 + 46

def measure (s : State) : Nat := (s.its.map (mu s.sh.src.length)).sum

theorem mu_congr {N : Nat} {it : Iter} {p : PC} (h : it.pc = p) : mu N it = mu N { it with pc := p } := by
  subst h; rfl

/-- a `yield`: the consumer stops (measure 0) or goes on at `next` -/
theorem receive_mu {sh : Shared} {it : Iter} {x : Int} {next : PC} {N m : Nat}
    (hn : mu N { it with yielded := it.yielded ++ [x], pc := next } < m) (hm : 0 < m) :
    mu N (receive sh it x next) < m := by
  unfold receive
  dsimp only
  split
  · exact hm
  · exact hn

theorem stepIter_mu {sh sh' : Shared} {t : Tid} {it it' : Iter}
    (h : stepIter sh t it = some (sh', it')) (hs : SInv sh) (hl : LInv sh it) :
    mu sh.src.length it' < mu sh.src.length it := by
  obtain ⟨-, hl⟩ := hl
  have e3 := hs.cache_len_le
  revert h
  fun_cases stepIter sh t it <;> intro h <;> (try cases h) <;> simp only [‹it.pc = _›, Y] at hl <;>
    rw [mu_congr ‹it.pc = _›] <;> (try split) <;>
    first
    | (simp only [mu, finish, crashWith]; omega)
    | skip
  · simp only [mu]; show sh.cache.length + 1 < _; omega                   -- l107: the list iterator starts
  · refine receive_mu ?_ ?_ <;> simp only [mu, ‹it.pending = _›, List.length_cons] <;> omega   -- listIter
  · revert h                                                              -- l138
    fun_cases step138 sh it <;> intro h <;> cases h <;> simp only [mu, raiseTo] <;> omega
  · refine receive_mu ?_ ?_ <;> simp only [mu] <;> omega                  -- l145
  · refine receive_mu ?_ ?_ <;> simp only [mu] <;> omega                  -- l148

theorem measure_step {s s' : State} {t : Tid} (hi : Inv s) (h : step s t = some s') :
    measure s' < measure s ∧ s'.sh.src = s.sh.src := by
  obtain ⟨it, sh', it', hit, hst, rfl⟩ := step_eq h
  have hl := hi.linv t it hit
  have hm := (stepIter_sinv hst hi.sinv hl).2
  refine ⟨?_, hm.src_eq⟩
  simp only [measure, hm.src_eq]
  exact List.sum_map_set_lt _ hit it' (stepIter_mu hst hi.sinv hl)

end Cache
