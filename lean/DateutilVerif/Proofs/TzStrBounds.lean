/-
  Proofs/TzStrBounds.lean — the residual hypotheses of `tzstr_render_partial` discharged: values of
  short digit tokens, representable offsets (`tdCheck`), and the `ydayidx` scan for `Jn` / `n` rules.
-/
import DateutilVerif.Proofs.TzStrRender
import DateutilVerif.Proofs.TzStr

namespace TzStr

theorem pyInt_le_99 (t : String) (v : Int) (hlen : t.length ≤ 2) (h : pyInt t = some v) : 0 ≤ v ∧ v ≤ 99 := by
  unfold pyInt at h
  by_cases hd : isDigits t = true
  · rw [if_pos hd] at h
    unfold isDigits at hd
    simp only [Bool.and_eq_true, Bool.not_eq_true', List.all_eq_true, decide_eq_true_eq] at hd
    have hl : t.toList.length ≤ 2 := by rw [String.length_toList]; exact hlen
    have e48 : '0'.toNat = 48 := by decide
    cases hc : t.toList with
    | nil => rw [hc] at h; simp at h; omega
    | cons c1 r1 =>
        have d1 := digit_toNat c1 (hd.2 c1 (by rw [hc]; simp))
        cases r1 with
        | nil => rw [hc] at h; simp [e48] at h; omega
        | cons c2 r2 =>
            have d2 := digit_toNat c2 (hd.2 c2 (by rw [hc]; simp))
            cases r2 with
            | nil => rw [hc] at h; simp [e48] at h; omega
            | cons c3 r3 => rw [hc] at hl; simp at hl
  · simp [hd] at h

/-- the `ydayidx` scan succeeds on 1..366 (`yday_spec` for 1..365; 366 is day 32 of month 12) -/
theorem yday_ok (n : Int) (h1 : 1 ≤ n) (h2 : n ≤ 366) : ∃ md, ydayToMonthDay n = .ok md := by
  by_cases h : n = 366
  · exact ⟨(12, 32), by rw [h]; rfl⟩
  · obtain ⟨m, d, e, _⟩ := yday_spec n h1 (by omega)
    exact ⟨(m, d), e⟩

theorem pyInt_nonneg (t : String) (v : Int) (h : pyInt t = some v) : 0 ≤ v := by
  unfold pyInt at h
  split at h
  · cases h
    exact foldl_digits t.toList 0 ▸ Int.natCast_nonneg _
  · cases h

theorem delta_ok (r : RuleSp) (h : r.Ok) (t : Option Int) (isend : Bool) (s d : Int) :
    ∃ x, delta (r.attr t) isend s d = .ok x ∧ x.truthy = true := by
  cases r with
  | M m w dd => exact ⟨_, rfl, by simp [Delta.truthy]⟩
  | J n =>
      obtain ⟨_, h1, h2⟩ := h
      obtain ⟨md, hmd⟩ := yday_ok n.val h1 h2
      have hne : (n.val == 0) = false := by apply beq_eq_false_iff_ne.mpr; omega
      refine ⟨{ month := some md.1, day := some md.2, seconds := t.getD 7200 - (if isend then d - s else 0) }, ?_, by simp [Delta.truthy]⟩
      simp [delta, RuleSp.attr, hne, hmd, bind, Except.bind, pure, Except.pure]
  | N n =>
      have h0 := pyInt_nonneg n.tok n.val h.1
      obtain ⟨md, hmd⟩ := yday_ok (n.val + 1) (by omega) (by have := h.2; omega)
      have hne : (n.val + 1 == 0) = false := by apply beq_eq_false_iff_ne.mpr; omega
      refine ⟨{ month := some md.1, day := some md.2, leapdays := (if 59 < n.val + 1 ∧ n.val + 1 < 366 then -1 else 0),
                seconds := t.getD 7200 - (if isend then d - s else 0) }, ?_, by simp [Delta.truthy]⟩
      simp [delta, RuleSp.attr, hne, hmd, bind, Except.bind, pure, Except.pure]

/-- 362340 = 99·3600 + 99·60: both fields of an offset have at most two digits -/
theorem offsp_bound (o : OffSp) (h : o.Ok) : 0 ≤ o.val ∧ o.val ≤ 362340 := by
  cases o with
  | h n => have := pyInt_le_99 n.tok n.val h.2 h.1; simp only [OffSp.val]; omega
  | hhmm t a b =>
      obtain ⟨_, hlen, ha, hb⟩ := h
      have la : (strTake t 2).length ≤ 2 := by
        unfold strTake; rw [← String.length_toList, String.toList_ofList, List.length_take]; omega
      have lb : (strDrop t 2).length ≤ 2 := by
        unfold strDrop; rw [← String.length_toList, String.toList_ofList, List.length_drop, String.length_toList]; omega
      have := pyInt_le_99 _ a la ha
      have := pyInt_le_99 _ b lb hb
      simp only [OffSp.val]; omega
  | colon a b =>
      obtain ⟨ha, hb, _, la, lb⟩ := h
      have := pyInt_le_99 a.tok a.val la ha
      have := pyInt_le_99 b.tok b.val lb hb
      simp only [OffSp.val]; omega

theorem off_bound (o : Off) (h : o.sp.Ok) : -362340 ≤ o.val ∧ o.val ≤ 362340 := by
  have := offsp_bound o.sp h
  unfold Off.val
  split <;> omega

/-- any bound above 362340 + 3600 and far below `tdLimit` would do -/
theorem tdCheck_small (x : Int) (h : -400000 ≤ x ∧ x ≤ 400000) : tdCheck x = .ok () := by
  unfold tdCheck tdLimit
  rw [if_neg (by omega)]

end TzStr
