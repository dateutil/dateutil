/-
  Proofs/ParserGenMonad.lean — what the comparisons of the translated parser (Generated/ParserOps.lean) with the hand
  model (Model/Parser.lean) rewrite with: the laws of `Py.R`, oriented so that binds nest to the right and the
  continuation of a statement ends up at its leaves; the congruences along which a proof walks down a translated
  `if … elif …` chain; and the token look-ups of both sides in terms of the one value `tokens[k]?`.
-/
import DateutilVerif.Generated.ParserOps

namespace PGen
open PM Py

theorem bind_ok {α β : Type} (v : α) (f : α → Py.R β) : Except.bind (Except.ok v : Py.R α) f = f v := rfl
theorem bind_err {α β : Type} (e : Py.PyErr) (f : α → Py.R β) :
    Except.bind (Except.error e : Py.R α) f = Except.error e := rfl
theorem bind_eq {α β : Type} (x : R α) (f : α → R β) : (x >>= f) = Except.bind x f := rfl
theorem pure_eq {α : Type} (a : α) : (pure a : R α) = Except.ok a := rfl
theorem throw_eq {α : Type} (e : PyErr) : (throw e : R α) = Except.error e := rfl
theorem throw_eq' {α : Type} (e : PyErr) : (throw e : R α) = Except.error e := throw_eq e
theorem map_eq {α β : Type} (f : α → β) (x : R α) : f <$> x = Except.bind x (fun a => .ok (f a)) := by
  cases x <;> rfl
theorem map_eq' {α β : Type} (f : α → β) (x : R α) : Except.map f x = Except.bind x (fun a => .ok (f a)) := by
  cases x <;> rfl
theorem bind_assoc {α β γ : Type} (x : R α) (f : α → R β) (g : β → R γ) :
    Except.bind (Except.bind x f) g = Except.bind x (fun a => Except.bind (f a) g) := by cases x <;> rfl
theorem bind_ok_id {α : Type} (x : R α) : Except.bind x (fun r => .ok r) = x := by cases x <;> rfl
theorem bind_ite {α β : Type} (c : Prop) [Decidable c] (a b : R α) (f : α → R β) :
    Except.bind (if c then a else b) f = if c then Except.bind a f else Except.bind b f := by
  split <;> rfl

/-- the translation of `a and b`, `a or b` -/
theorem ite_and_ok (A : Prop) [Decidable A] (b : Bool) :
    (if A then (Except.ok b : R Bool) else .ok false) = .ok (decide A && b) := by split <;> simp [*]
theorem ite_or_ok (A : Prop) [Decidable A] (b : Bool) :
    (if A then (Except.ok true : R Bool) else .ok b) = .ok (decide A || b) := by split <;> simp [*]

/-! ### walking a translated statement

A translated `if c: A else: B` followed by more statements is `Except.bind (if c then A else B) K`; the model side of
the same place is brought to that form too (`map_eq'`, `bind_assoc`). -/

theorem bind_congr {α β : Type} {x x' : R α} {f f' : α → R β} (hx : x = x') (hf : ∀ a, f a = f' a) :
    Except.bind x f = Except.bind x' f' := by
  subst hx
  cases x with
  | error e => rfl
  | ok a => exact hf a

/-- the first parts agree up to a renaming `s` of the result (the translation carries the new index, the model the
    number of tokens consumed) -/
theorem bind_congr_map {α β γ : Type} {x : R α} {x' : R β} {K : α → R γ} {K' : β → R γ} (s : β → α)
    (hx : x = Except.bind x' (fun a => .ok (s a))) (hK : ∀ a, K (s a) = K' a) :
    Except.bind x K = Except.bind x' K' := by
  subst hx
  cases x' with
  | error e => rfl
  | ok a => exact hK a

theorem bind_ite_congr {α β γ : Type} (c : Prop) [Decidable c] (a b : R α) (K : α → R γ) (a' b' : R β)
    (K' : β → R γ) (ha : c → Except.bind a K = Except.bind a' K') (hb : ¬ c → Except.bind b K = Except.bind b' K') :
    Except.bind (if c then a else b) K = Except.bind (if c then a' else b') K' := by
  split
  · exact ha ‹_›
  · exact hb ‹_›

theorem lt_of_some {α} {l : List α} {k : Nat} {a : α} (h : l[k]? = some a) : k < l.length :=
  (List.getElem?_eq_some_iff.mp h).1
theorem ge_of_none {α} {l : List α} {k : Nat} (h : l[k]? = none) : l.length ≤ k := List.getElem?_eq_none_iff.mp h

/-- `tokens[k]` with a non-negative index, as translated, is the model's `tokAt` -/
theorem toksAt_eq (l : List Token) (k : Nat) : PPy.toksAt l ((k : Nat) : Int) = PM.tokAt l k := by
  unfold PPy.toksAt Py.getIdx PM.tokAt
  have h1 : ¬ ((k : Int) < 0) := by omega
  simp only [h1, if_false, Int.toNat_natCast, false_or]
  split
  · next h => rw [List.getElem?_eq_none (by omega)]
  · cases l[k]? <;> rfl

theorem tokAt_some {l : List Token} {k : Nat} {t : Token} (h : l[k]? = some t) : PM.tokAt l k = .ok t := by
  unfold PM.tokAt; rw [h]
theorem tokAt_none {l : List Token} {k : Nat} (h : l[k]? = none) : PM.tokAt l k = .error .IndexError := by
  unfold PM.tokAt; rw [h]
theorem tokIs_some {l : List Token} {k : Nat} {t : Token} (h : l[k]? = some t) (t' : Token) :
    PM.tokIs l k t' = decide (t = t') := by
  unfold PM.tokIs; rw [h]; exact Bool.eq_iff_iff.mpr (by simp)

/-- `len_l > j and tokens[k] == t` with `k ≤ j`: the look-up cannot raise -/
theorem guard_tokIs (l : List Token) (k j : Nat) (t : Token) (h : k ≤ j) :
    (if j < l.length then Except.bind (PPy.toksAt l ((k : Nat) : Int)) (fun tok => .ok (decide ((some tok) = (some t))))
      else (.ok false : R Bool)) = .ok (decide (j < l.length) && tokIs l k t) := by
  by_cases hj : j < l.length
  · have hk := List.getElem?_eq_getElem (Nat.lt_of_le_of_lt h hj)
    simp [hj, bind_ok, toksAt_eq, tokAt_some hk, tokIs_some hk]
  · simp [hj]

theorem tk_colon : PM.tk ":" = [':'] := rfl
theorem tk_dash : PM.tk "-" = ['-'] := rfl
theorem tk_slash : PM.tk "/" = ['/'] := rfl
theorem tk_dot : PM.tk "." = ['.'] := rfl
theorem tk_space : PM.tk " " = [' '] := rfl
theorem tk_plus : PM.tk "+" = ['+'] := rfl
theorem tk_lpar : PM.tk "(" = ['('] := rfl
theorem tk_rpar : PM.tk ")" = [')'] := rfl

end PGen
