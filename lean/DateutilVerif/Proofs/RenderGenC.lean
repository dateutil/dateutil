/-
  Proofs/RenderGenC.lean — compact forms, read by the length of the digit run: `YYYYMMDDTHHMMSS`, `YYYYMMDDHHMMSS`,
  `YYYYMMDDTHHMM`, `YYYYMMDDHHMM`, `YYYYMMDD` (templates `compact_T_s`, `compact_nosep_s`, `compact_T_min`,
  `compact_nosep_min`, `compact_date` of C02).
-/
import DateutilVerif.Proofs.RenderSentence
import DateutilVerif.Proofs.RenderFin

namespace PM
open Py PT

def core_compact_T_s (t : DT) : List Token :=
  [dtok (date8 t.y.toNat t.m.toNat t.d.toNat), ['T'], dtok [t.hh.toNat / 10, t.hh.toNat, t.mm.toNat / 10, t.mm.toNat, t.ss.toNat / 10, t.ss.toNat]]

theorem lex_compact_T_s (cls : Char → CClass) [AsciiOK cls] (t : DT) (rest : List Char) (he : NumEnds cls rest) :
    scan cls .init (str_compact_T_s t rest) = core_compact_T_s t ++ scan cls .init rest := by
  unfold str_compact_T_s core_compact_T_s
  simp only [digs_dtok, dateDigits8_eq, date8, List.cons_append, List.nil_append]
  rw [lex_dtok cls _ _ _ (numEnds_ascii cls _ _ (by decide)),
      lex_letter cls 'T' _ (by decide) (wordEnds_num cls _ _ (by first | exact ⟨_, _, rfl⟩ | exact ⟨_, _, pad2_dtok _⟩ | exact ⟨_, _, pad4_dtok _⟩ | (unfold dec12; split <;> exact ⟨_, _, rfl⟩))),
      lex_dtok cls _ _ _ he]

theorem rend_compact_T_s (cls : Char → CClass) [AsciiOK cls] (yf : Bool) (year century : Int) (o : Opts) (tznames : List Token) (tzi : TzInfos)
    (ho : StrictOpts o tzi) (hdf : o.dayfirst.getD false = false) (t dflt : DT) (ht : t.Valid) :
    Rendering cls false yf year century o tznames tzi dflt (str_compact_T_s t) (core_compact_T_s t) (NumEnds cls) (fun _ => True)
      ({ t with us := 0 }) := by
  have N := dtNums ht
  refine ⟨fun rest => by simp [str_compact_T_s], lex_compact_T_s cls t,
    { hour := some t.hh.toNat, minute := some t.mm.toNat, second := some t.ss.toNat, microsecond := some 0 }, { vals := [t.y.toNat, t.m.toNat, t.d.toNat], century := true, yIdx := some 0 }, [1],
    rfl, rfl, rfl, rfl, fun fz suf _ => ?_, ?_⟩
  · refine (loop_eight (l := core_compact_T_s t ++ suf) (by rfl) (dval_pad4 _ N.by') (dval_pad2 _ (by have := N.bm; omega)) (dval_pad2 _ (by have := N.bd; omega))).trans ?_
    refine (loop_T (by rfl) rfl).trans ?_
    exact loop_six_time (by rfl) (dval_pad2 _ (by have := N.bh; omega)) (dval_pad2 _ (by have := N.bmm; omega)) (dval_pad2 _ (by have := N.bss; omega)) (by simp)
  · refine finish_t yf year century o tznames tzi dflt ht _ _ t.y.toNat _ ?_ (convertyear_full _ ht _ (Or.inl rfl)) rfl rfl (Or.inl rfl)
      ho.tz1 ?_ (valid_fields ht (valid_hh ht) (valid_mm ht) (valid_ss ht) ⟨by decide, by decide⟩)
    · rw [hdf]; exact resolve_Ymd _ _ _ _ _
    · simp only [fieldOr, N.eh, N.emi, N.es]; rfl

theorem tpl_compact_T_s (cls : Char → CClass) [AsciiOK cls] (yf : Bool) (year century : Int) (o : Opts) (tznames : List Token) (tzi : TzInfos)
    (ho : StrictOpts o tzi) (hdf : o.dayfirst.getD false = false) (t dflt : DT) (ht : t.Valid) (_hdv : dflt.Valid) (off : Off) (hoff : off.Dom) :
    parse cls (Info.default false yf year century) o tznames tzi dflt (str_compact_T_s t off.render) =
      .ok { dt := { t with us := 0 }, tz := offZone o tznames off, tokens := none } :=
  (rend_compact_T_s cls yf year century o tznames tzi ho hdf t dflt ht).tpl ho off hoff (numEnds_off cls off) trivial

/-- C15, **a sentence containing one date**: any number of filler words, `compact_T_s`, any number of filler words -/
theorem sentence_compact_T_s (cls : Char → CClass) [AsciiOK cls] (yf : Bool) (year century : Int) (o : Opts) (tznames : List Token) (tzi : TzInfos)
    (hf : (o.fuzzy || o.fuzzyWithTokens) = true) (htz1 : tzi.applies none = false) (htz2 : tzi.applies (some ['U', 'T', 'C']) = false)
    (hdf : o.dayfirst.getD false = false) (t dflt : DT) (ht : t.Valid) (_hdv : dflt.Valid) (lead ws : List Token) (hlead : ∀ w ∈ lead, fillerWord w = true) (hws : ∀ w ∈ ws, fillerWord w = true) :
    SentenceAnswer cls (Info.default false yf year century) o tznames tzi dflt (leadChars lead ++ str_compact_T_s t (fillerChars ws)) ({ t with us := 0 })
      (leadToks lead).length ((leadToks lead).length + 3) :=
  (rend_compact_T_s cls yf year century { o with fuzzy := false, fuzzyWithTokens := false } tznames tzi ⟨rfl, rfl, htz1, htz2⟩ hdf t dflt ht).sentence
    hf lead ws hlead hws (numEnds_filler cls ws) trivial

def core_compact_nosep_s (t : DT) : List Token :=
  [dtok (date8 t.y.toNat t.m.toNat t.d.toNat ++ [t.hh.toNat / 10, t.hh.toNat, t.mm.toNat / 10, t.mm.toNat, t.ss.toNat / 10, t.ss.toNat])]

theorem lex_compact_nosep_s (cls : Char → CClass) [AsciiOK cls] (t : DT) (rest : List Char) (he : NumEnds cls rest) :
    scan cls .init (str_compact_nosep_s t rest) = core_compact_nosep_s t ++ scan cls .init rest := by
  unfold str_compact_nosep_s core_compact_nosep_s
  simp only [digs_dtok, dateDigits8_eq, date8, List.cons_append, List.nil_append]
  rw [lex_dtok cls _ _ _ he]

theorem rend_compact_nosep_s (cls : Char → CClass) [AsciiOK cls] (yf : Bool) (year century : Int) (o : Opts) (tznames : List Token) (tzi : TzInfos)
    (ho : StrictOpts o tzi) (hdf : o.dayfirst.getD false = false) (t dflt : DT) (ht : t.Valid) (hdv : dflt.Valid) :
    Rendering cls false yf year century o tznames tzi dflt (str_compact_nosep_s t) (core_compact_nosep_s t) (NumEnds cls) (fun _ => True)
      ({ t with us := dflt.us }) := by
  have N := dtNums ht
  refine ⟨fun rest => by simp [str_compact_nosep_s], lex_compact_nosep_s cls t,
    { hour := some t.hh.toNat, minute := some t.mm.toNat, second := some t.ss.toNat }, { vals := [t.y.toNat, t.m.toNat, t.d.toNat], century := true, yIdx := some 0 }, [],
    rfl, rfl, rfl, rfl, fun fz suf _ => ?_, ?_⟩
  · exact loop_fourteen (l := core_compact_nosep_s t ++ suf) (by rfl) (dval_pad4 _ N.by') (dval_pad2 _ (by have := N.bm; omega)) (dval_pad2 _ (by have := N.bd; omega)) (dval_pad2 _ (by have := N.bh; omega)) (dval_pad2 _ (by have := N.bmm; omega)) (dval_pad2 _ (by have := N.bss; omega))
  · refine finish_t yf year century o tznames tzi dflt ht _ _ t.y.toNat _ ?_ (convertyear_full _ ht _ (Or.inl rfl)) rfl rfl (Or.inl rfl)
      ho.tz1 ?_ (valid_fields ht (valid_hh ht) (valid_mm ht) (valid_ss ht) (valid_us hdv))
    · rw [hdf]; exact resolve_Ymd _ _ _ _ _
    · simp only [fieldOr, N.eh, N.emi, N.es]

theorem tpl_compact_nosep_s (cls : Char → CClass) [AsciiOK cls] (yf : Bool) (year century : Int) (o : Opts) (tznames : List Token) (tzi : TzInfos)
    (ho : StrictOpts o tzi) (hdf : o.dayfirst.getD false = false) (t dflt : DT) (ht : t.Valid) (hdv : dflt.Valid) (off : Off) (hoff : off.Dom) :
    parse cls (Info.default false yf year century) o tznames tzi dflt (str_compact_nosep_s t off.render) =
      .ok { dt := { t with us := dflt.us }, tz := offZone o tznames off, tokens := none } :=
  (rend_compact_nosep_s cls yf year century o tznames tzi ho hdf t dflt ht hdv).tpl ho off hoff (numEnds_off cls off) trivial

/-- C15, **a sentence containing one date**: any number of filler words, `compact_nosep_s`, any number of filler words -/
theorem sentence_compact_nosep_s (cls : Char → CClass) [AsciiOK cls] (yf : Bool) (year century : Int) (o : Opts) (tznames : List Token) (tzi : TzInfos)
    (hf : (o.fuzzy || o.fuzzyWithTokens) = true) (htz1 : tzi.applies none = false) (htz2 : tzi.applies (some ['U', 'T', 'C']) = false)
    (hdf : o.dayfirst.getD false = false) (t dflt : DT) (ht : t.Valid) (hdv : dflt.Valid) (lead ws : List Token) (hlead : ∀ w ∈ lead, fillerWord w = true) (hws : ∀ w ∈ ws, fillerWord w = true) :
    SentenceAnswer cls (Info.default false yf year century) o tznames tzi dflt (leadChars lead ++ str_compact_nosep_s t (fillerChars ws)) ({ t with us := dflt.us })
      (leadToks lead).length ((leadToks lead).length + 1) :=
  (rend_compact_nosep_s cls yf year century { o with fuzzy := false, fuzzyWithTokens := false } tznames tzi ⟨rfl, rfl, htz1, htz2⟩ hdf t dflt ht hdv).sentence
    hf lead ws hlead hws (numEnds_filler cls ws) trivial

def core_compact_T_min (t : DT) : List Token :=
  [dtok (date8 t.y.toNat t.m.toNat t.d.toNat), ['T'], dtok [t.hh.toNat / 10, t.hh.toNat, t.mm.toNat / 10, t.mm.toNat]]

theorem lex_compact_T_min (cls : Char → CClass) [AsciiOK cls] (t : DT) (rest : List Char) (he : NumEnds cls rest) :
    scan cls .init (str_compact_T_min t rest) = core_compact_T_min t ++ scan cls .init rest := by
  unfold str_compact_T_min core_compact_T_min
  simp only [digs_dtok, dateDigits8_eq, date8, List.cons_append, List.nil_append]
  rw [lex_dtok cls _ _ _ (numEnds_ascii cls _ _ (by decide)),
      lex_letter cls 'T' _ (by decide) (wordEnds_num cls _ _ (by first | exact ⟨_, _, rfl⟩ | exact ⟨_, _, pad2_dtok _⟩ | exact ⟨_, _, pad4_dtok _⟩ | (unfold dec12; split <;> exact ⟨_, _, rfl⟩))),
      lex_dtok cls _ _ _ he]

theorem rend_compact_T_min (cls : Char → CClass) [AsciiOK cls] (yf : Bool) (year century : Int) (o : Opts) (tznames : List Token) (tzi : TzInfos)
    (ho : StrictOpts o tzi) (hdf : o.dayfirst.getD false = false) (t dflt : DT) (ht : t.Valid) (hdv : dflt.Valid) :
    Rendering cls false yf year century o tznames tzi dflt (str_compact_T_min t) (core_compact_T_min t) (NumEnds cls) (Suf1 (Info.default false yf year century))
      ({ t with ss := dflt.ss, us := dflt.us }) := by
  have N := dtNums ht
  refine ⟨fun rest => by simp [str_compact_T_min], lex_compact_T_min cls t, { hour := some t.hh.toNat, minute := some t.mm.toNat },
    { vals := [t.y.toNat, t.m.toNat, t.d.toNat], century := true, yIdx := some 0 }, [1], rfl, rfl, rfl, rfl, fun fz suf hs => ?_, ?_⟩
  · refine (loop_eight (l := core_compact_T_min t ++ suf) (by rfl) (dval_pad4 _ N.by') (dval_pad2 _ (by have := N.bm; omega)) (dval_pad2 _ (by have := N.bd; omega))).trans ?_
    refine (loop_T (by rfl) rfl).trans ?_
    exact loop_hourmin4 (by rfl) (dval_pad2 _ (by have := N.bh; omega)) (dval_pad2 _ (by have := N.bmm; omega)) rfl rfl (suf1_next hs)
  · refine finish_t yf year century o tznames tzi dflt ht _ _ t.y.toNat _ ?_ (convertyear_full _ ht _ (Or.inl rfl)) rfl rfl (Or.inl rfl)
      ho.tz1 ?_ (valid_fields ht (valid_hh ht) (valid_mm ht) (valid_ss hdv) (valid_us hdv))
    · rw [hdf]; exact resolve_Ymd _ _ _ _ _
    · simp only [fieldOr, N.eh, N.emi]

theorem tpl_compact_T_min (cls : Char → CClass) [AsciiOK cls] (yf : Bool) (year century : Int) (o : Opts) (tznames : List Token) (tzi : TzInfos)
    (ho : StrictOpts o tzi) (hdf : o.dayfirst.getD false = false) (t dflt : DT) (ht : t.Valid) (hdv : dflt.Valid) (off : Off) (hoff : off.Dom) :
    parse cls (Info.default false yf year century) o tznames tzi dflt (str_compact_T_min t off.render) =
      .ok { dt := { t with ss := dflt.ss, us := dflt.us }, tz := offZone o tznames off, tokens := none } :=
  (rend_compact_T_min cls yf year century o tznames tzi ho hdf t dflt ht hdv).tpl ho off hoff (numEnds_off cls off) (suf1_off false yf year century off)

/-- C15, **a sentence containing one date**: any number of filler words, `compact_T_min`, any number of filler words -/
theorem sentence_compact_T_min (cls : Char → CClass) [AsciiOK cls] (yf : Bool) (year century : Int) (o : Opts) (tznames : List Token) (tzi : TzInfos)
    (hf : (o.fuzzy || o.fuzzyWithTokens) = true) (htz1 : tzi.applies none = false) (htz2 : tzi.applies (some ['U', 'T', 'C']) = false)
    (hdf : o.dayfirst.getD false = false) (t dflt : DT) (ht : t.Valid) (hdv : dflt.Valid) (lead ws : List Token) (hlead : ∀ w ∈ lead, fillerWord w = true) (hws : ∀ w ∈ ws, fillerWord w = true) :
    SentenceAnswer cls (Info.default false yf year century) o tznames tzi dflt (leadChars lead ++ str_compact_T_min t (fillerChars ws)) ({ t with ss := dflt.ss, us := dflt.us })
      (leadToks lead).length ((leadToks lead).length + 3) :=
  (rend_compact_T_min cls yf year century { o with fuzzy := false, fuzzyWithTokens := false } tznames tzi ⟨rfl, rfl, htz1, htz2⟩ hdf t dflt ht hdv).sentence
    hf lead ws hlead hws (numEnds_filler cls ws) (suf1_filler false yf year century ws)

def core_compact_nosep_min (t : DT) : List Token :=
  [dtok (date8 t.y.toNat t.m.toNat t.d.toNat ++ [t.hh.toNat / 10, t.hh.toNat, t.mm.toNat / 10, t.mm.toNat])]

theorem lex_compact_nosep_min (cls : Char → CClass) [AsciiOK cls] (t : DT) (rest : List Char) (he : NumEnds cls rest) :
    scan cls .init (str_compact_nosep_min t rest) = core_compact_nosep_min t ++ scan cls .init rest := by
  unfold str_compact_nosep_min core_compact_nosep_min
  simp only [digs_dtok, dateDigits8_eq, date8, List.cons_append, List.nil_append]
  rw [lex_dtok cls _ _ _ he]

theorem rend_compact_nosep_min (cls : Char → CClass) [AsciiOK cls] (yf : Bool) (year century : Int) (o : Opts) (tznames : List Token) (tzi : TzInfos)
    (ho : StrictOpts o tzi) (hdf : o.dayfirst.getD false = false) (t dflt : DT) (ht : t.Valid) (hdv : dflt.Valid) :
    Rendering cls false yf year century o tznames tzi dflt (str_compact_nosep_min t) (core_compact_nosep_min t) (NumEnds cls) (fun _ => True)
      ({ t with ss := dflt.ss, us := dflt.us }) := by
  have N := dtNums ht
  refine ⟨fun rest => by simp [str_compact_nosep_min], lex_compact_nosep_min cls t, { hour := some t.hh.toNat, minute := some t.mm.toNat },
    { vals := [t.y.toNat, t.m.toNat, t.d.toNat], century := true, yIdx := some 0 }, [], rfl, rfl, rfl, rfl, fun fz suf _ => ?_, ?_⟩
  · exact loop_twelve (l := core_compact_nosep_min t ++ suf) (by rfl) (dval_pad4 _ N.by') (dval_pad2 _ (by have := N.bm; omega)) (dval_pad2 _ (by have := N.bd; omega)) (dval_pad2 _ (by have := N.bh; omega)) (dval_pad2 _ (by have := N.bmm; omega))
  · refine finish_t yf year century o tznames tzi dflt ht _ _ t.y.toNat _ ?_ (convertyear_full _ ht _ (Or.inl rfl)) rfl rfl (Or.inl rfl)
      ho.tz1 ?_ (valid_fields ht (valid_hh ht) (valid_mm ht) (valid_ss hdv) (valid_us hdv))
    · rw [hdf]; exact resolve_Ymd _ _ _ _ _
    · simp only [fieldOr, N.eh, N.emi]

theorem tpl_compact_nosep_min (cls : Char → CClass) [AsciiOK cls] (yf : Bool) (year century : Int) (o : Opts) (tznames : List Token) (tzi : TzInfos)
    (ho : StrictOpts o tzi) (hdf : o.dayfirst.getD false = false) (t dflt : DT) (ht : t.Valid) (hdv : dflt.Valid) (off : Off) (hoff : off.Dom) :
    parse cls (Info.default false yf year century) o tznames tzi dflt (str_compact_nosep_min t off.render) =
      .ok { dt := { t with ss := dflt.ss, us := dflt.us }, tz := offZone o tznames off, tokens := none } :=
  (rend_compact_nosep_min cls yf year century o tznames tzi ho hdf t dflt ht hdv).tpl ho off hoff (numEnds_off cls off) trivial

/-- C15, **a sentence containing one date**: any number of filler words, `compact_nosep_min`, any number of filler words -/
theorem sentence_compact_nosep_min (cls : Char → CClass) [AsciiOK cls] (yf : Bool) (year century : Int) (o : Opts) (tznames : List Token) (tzi : TzInfos)
    (hf : (o.fuzzy || o.fuzzyWithTokens) = true) (htz1 : tzi.applies none = false) (htz2 : tzi.applies (some ['U', 'T', 'C']) = false)
    (hdf : o.dayfirst.getD false = false) (t dflt : DT) (ht : t.Valid) (hdv : dflt.Valid) (lead ws : List Token) (hlead : ∀ w ∈ lead, fillerWord w = true) (hws : ∀ w ∈ ws, fillerWord w = true) :
    SentenceAnswer cls (Info.default false yf year century) o tznames tzi dflt (leadChars lead ++ str_compact_nosep_min t (fillerChars ws)) ({ t with ss := dflt.ss, us := dflt.us })
      (leadToks lead).length ((leadToks lead).length + 1) :=
  (rend_compact_nosep_min cls yf year century { o with fuzzy := false, fuzzyWithTokens := false } tznames tzi ⟨rfl, rfl, htz1, htz2⟩ hdf t dflt ht hdv).sentence
    hf lead ws hlead hws (numEnds_filler cls ws) trivial

def core_compact_date (t : DT) : List Token :=
  [dtok (date8 t.y.toNat t.m.toNat t.d.toNat)]

theorem lex_compact_date (cls : Char → CClass) [AsciiOK cls] (t : DT) (rest : List Char) (he : NumEnds cls rest) :
    scan cls .init (str_compact_date t rest) = core_compact_date t ++ scan cls .init rest := by
  unfold str_compact_date core_compact_date
  simp only [digs_dtok, dateDigits8_eq, date8, List.cons_append, List.nil_append]
  rw [lex_dtok cls _ _ _ he]

theorem tpl_compact_date (cls : Char → CClass) [AsciiOK cls] (yf : Bool) (year century : Int) (o : Opts) (tznames : List Token) (tzi : TzInfos)
    (ho : StrictOpts o tzi) (hdf : o.dayfirst.getD false = false) (t dflt : DT) (ht : t.Valid) (hdv : dflt.Valid) :
    parse cls (Info.default false yf year century) o tznames tzi dflt (str_compact_date t []) =
      .ok { dt := { t with hh := dflt.hh, mm := dflt.mm, ss := dflt.ss, us := dflt.us }, tz := .naive, tokens := none } := by
  have N := dtNums ht
  refine tpl_date cls _ o tznames tzi ho.fz ho.fwt dflt _ (core_compact_date t) _ _ _ _
    (by simpa [scan_init_nil] using lex_compact_date cls t [] trivial)
    (loop_eight (fuel := 0) (l := core_compact_date t) (by rfl) (dval_pad4 _ N.by') (dval_pad2 _ (by have := N.bm; omega)) (dval_pad2 _ (by have := N.bd; omega))) ?_
  refine finish_t yf year century o tznames tzi dflt ht _ _ t.y.toNat _ ?_ (convertyear_full _ ht _ (Or.inl rfl)) rfl rfl (Or.inl rfl)
    ho.tz1 rfl (valid_fields ht (valid_hh hdv) (valid_mm hdv) (valid_ss hdv) (valid_us hdv))
  rw [hdf]; exact resolve_Ymd _ _ _ _ _

end PM
