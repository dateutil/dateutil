/-
  Proofs/TzStrCanon.lean — the spelling `AAA5BBB,<rule>[/<time>],M10.5.0` whose parse result `C08.parsesTo` describes.
-/
import DateutilVerif.Proofs.TzStrRender

namespace TzStr

theorem isAlpha_AAA : IsAlpha "AAA" := by unfold IsAlpha; decide
theorem isAlpha_BBB : IsAlpha "BBB" := by unfold IsAlpha; decide

/-- `AAA5BBB,<rule>[/<time>],M10.5.0` -/
def canon (r : RuleSp) (t : Option TimeSp) : Spelling :=
  { std := "AAA", stdOff := ⟨none, .h ⟨"5", 5⟩⟩, dst := "BBB", dstOff := none,
    startRule := r, startTime := t, endRule := .M ⟨"10", 10⟩ ⟨"5", 5⟩ ⟨"0", 0⟩, endTime := none }

theorem canon_wf (r : RuleSp) (t : Option TimeSp) (hr : r.Ok) (ht : optOk TimeSp.Ok t) : WellFormed (canon r t) where
  std := isAlpha_AAA
  dst := isAlpha_BBB
  stdOff := (by decide : pyInt "5" = some 5 ∧ "5".length ≤ 2)
  dstOff := trivial
  startRule := hr
  startTime := ht
  endRule := (by decide : pyInt "10" = some 10 ∧ pyInt "5" = some 5 ∧ pyInt "0" = some 0)
  endTime := trivial

/-- a string that reads `AAA5BBB,<rule>[/<time>],M10.5.0` parses to the attributes of that rule and time -/
theorem parsesTo_canon (s : String) (r : RuleSp) (t : Option TimeSp) (hr : r.Ok) (ht : optOk TimeSp.Ok t)
    (hs : s.toList = "AAA5BBB,".toList ++ ((r.chunks ++ timeChunks t).map (·.2)).flatten ++ ",M10.5.0".toList) :
    C08.parsesTo s (C08.attrOf r.rule (t.map TimeSp.val)) = true := by
  have e : s = render (canon r t) := by
    apply String.toList_inj.mp
    rw [hs]
    simp only [String.reduceToList, RuleSp.chunks, numC, pC, timeChunks, List.map_append,
      List.flatten_append, List.cons_append, List.nil_append, List.append_assoc, render, Spelling.chunks, canon,
      Off.chunks, signChunks, OffSp.chunks, optOffChunks, List.append_nil, List.map_cons, List.map_nil, List.flatten_cons,
      List.flatten_nil, String.toList_ofList]
  unfold C08.parsesTo
  rw [e, parse_render _ (canon_wf r t hr ht)]
  simp only [Spelling.res, canon, attr_eq_attrOf, beq_self_eq_true, Bool.true_and]
  decide

end TzStr
