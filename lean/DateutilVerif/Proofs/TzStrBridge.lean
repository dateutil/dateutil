/-
  Proofs/TzStrBridge.lean — C08's `TzStr.applyDelta` (a self-contained copy of the fragment of
  `relativedelta.__add__` that `tzrange.transitions` exercises) IS the C03 model `RDM.applyTo` of the
  corresponding relativedelta on `datetime(year, 1, 1)`: same instant (in seconds) or same exception.
  So C08's transition theorems rest on the model that C03 ties to /repo and proves against the docs.
-/
import DateutilVerif.Proofs.RDYearday
import DateutilVerif.Model.TzStr

namespace RDP
open RDM

/-- the relativedelta that `tzstr._delta` builds for a `TzStr.Delta`:
    `relativedelta(month=, day=, weekday=wd(n), leapdays=, seconds=)` (the constructor ends in `_fix`) -/
def rdOfDelta (D : TzStr.Delta) : RD :=
  Gen.fix { month := D.month, day := D.day, weekday := D.weekday.map (fun p => (p.1, some p.2)),
            leapdays := D.leapdays, seconds := D.seconds }

theorem rdOfDelta_fields (D : TzStr.Delta) :
    let R := rdOfDelta D
    R.months = 0 ∧ R.years = 0 ∧ R.year = none ∧ R.month = D.month ∧ R.day = D.day ∧
    R.weekday = D.weekday.map (fun p => (p.1, some p.2)) ∧ R.leapdays = D.leapdays ∧
    R.hour = none ∧ R.minute = none ∧ R.second = none ∧ R.microsecond = none ∧
    usTotal R = D.seconds * 1000000 := by
  simp only []
  unfold rdOfDelta
  generalize hpre : ({ month := D.month, day := D.day, weekday := D.weekday.map (fun p => (p.1, some p.2)), leapdays := D.leapdays, seconds := D.seconds } : RD) = pre
  have q0 : pre.months = 0 := by rw [← hpre]
  have qy : pre.years = 0 := by rw [← hpre]
  have q1 : pre.microseconds = 0 := by rw [← hpre]
  have q2 : pre.seconds = D.seconds := by rw [← hpre]
  have q3 : pre.minutes = 0 := by rw [← hpre]
  have q4 : pre.hours = 0 := by rw [← hpre]
  have q5 : pre.days = 0 := by rw [← hpre]
  have cmo : cMo pre = (0, 0) := by unfold cMo; rw [q0]; exact carry_small _ _ _ (by omega)
  refine ⟨by rw [fix_mo, cmo], by rw [fix_y, cmo, qy]; rfl, by rw [fix_year, ← hpre], by rw [fix_month, ← hpre],
    by rw [fix_day, ← hpre], by rw [fix_weekday, ← hpre], by rw [fix_leapdays, ← hpre], by rw [fix_hour, ← hpre],
    by rw [fix_minute, ← hpre], by rw [fix_second, ← hpre], by rw [fix_microsecond, ← hpre], ?_⟩
  rw [fix_usTotal]
  unfold usTotal
  rw [q1, q3, q4, q5, q2]
  omega

/-- `datetime(year, 1, 1)` -/
def jan1 (year : Int) : Temporal := ⟨.naive, { y := year, m := 1, d := 1 }⟩

/-- seconds since ordinal 0 of a result -/
def secondsOf (r : Temporal) : Int := r.t.toMicros / 1000000

theorem jumpDays_eq_weekdayJump (wd n cur : Int) : jumpDays wd (some n) cur = TzStr.weekdayJump cur wd n := by
  unfold jumpDays TzStr.weekdayJump orInt
  by_cases h : n = 0 <;> simp [h]

theorem inRange_iff (t : Int) :
    TzStr.inRange t = true ↔ ¬ (t * 1000000 < DT.minMicros ∨ t * 1000000 > DT.maxMicros) := by
  unfold TzStr.inRange DT.minMicros DT.maxMicros DT.usPerDay Cal.maxOrdinal
  simp only [decide_eq_true_eq]
  omega

/-- the weekday step: both sides -/
theorem weekdayStep_bridge (t : Int) (w : Option (Int × Int)) (ht : TzStr.inRange t = true) :
    TzStr.weekdayStep t w =
      (Except.bind (applyWeekday (w.map (fun p => (p.1, some p.2))) (DT.ofMicros (t * 1000000)))
        (fun r => (pure { kind := Kind.naive, t := r } : Py.R Temporal))).map secondsOf := by
  have hr := (inRange_iff t).1 ht
  have hx1 : DT.minMicros ≤ t * 1000000 := by omega
  have hx2 : t * 1000000 ≤ DT.maxMicros := by omega
  obtain ⟨hv, hord, _⟩ := ordinal_ofMicros _ hx1 hx2
  have htm := DT.toMicros_ofMicros (t * 1000000) (by unfold DT.minMicros at hx1; omega)
  cases w with
  | none =>
    simp only [TzStr.weekdayStep, Option.map, applyWeekday, Except.bind, pure, Except.pure, Except.map, secondsOf]
    rw [htm]; congr 1; omega
  | some p =>
    obtain ⟨wd, n⟩ := p
    simp only [TzStr.weekdayStep, Option.map, applyWeekday]
    rw [jumpDays_eq_weekdayJump]
    have hcur : (DT.ofMicros (t * 1000000)).weekday = Cal.weekdayOfOrd (t / 86400) := by
      unfold DT.weekday; rw [hord]; congr 1; unfold DT.usPerDay; omega
    rw [hcur]
    generalize TzStr.weekdayJump (Cal.weekdayOfOrd (t / 86400)) wd n = j
    unfold DT.addDays DT.addMicros
    simp only []
    rw [htm]
    have e : t * 1000000 + j * DT.usPerDay = (t + j * 86400) * 1000000 := by unfold DT.usPerDay; omega
    rw [e]
    by_cases hin : TzStr.inRange (t + j * 86400) = true
    · have hr' := (inRange_iff _).1 hin
      rw [if_pos hin, if_neg hr']
      simp only [Except.bind, pure, Except.pure, Except.map, secondsOf]
      rw [DT.toMicros_ofMicros _ (by unfold DT.minMicros at hr'; omega)]
      congr 1; omega
    · have hr' : (t + j * 86400) * 1000000 < DT.minMicros ∨ (t + j * 86400) * 1000000 > DT.maxMicros := by
        apply Classical.byContradiction; intro hc; exact hin ((inRange_iff _).2 hc)
      rw [if_neg hin, if_pos hr']
      rfl

/-- `TzStr.baseInstant` with the two "falsy ⇒ operand's value" choices made explicit -/
def baseInstant' (year month dayArg leapdays seconds : Int) : Py.R Int :=
  if year < 1 ∨ year > 9999 then .error .ValueError else
  if month < 1 ∨ month > 12 then .error .ValueError else
  if min (Cal.daysInMonth year month) dayArg < 1 then .error .ValueError else
  if TzStr.inRange ((Cal.toOrdinal year month (min (Cal.daysInMonth year month) dayArg) +
        (if (leapdays != 0 && decide (month > 2) && Cal.isLeap year) = true then leapdays else 0)) * 86400 + seconds) = true
  then .ok ((Cal.toOrdinal year month (min (Cal.daysInMonth year month) dayArg) +
        (if (leapdays != 0 && decide (month > 2) && Cal.isLeap year) = true then leapdays else 0)) * 86400 + seconds)
  else .error .OverflowError

theorem baseInstant_eq (year : Int) (D : TzStr.Delta) :
    TzStr.baseInstant year D = baseInstant' year (orInt D.month 1) (orInt D.day 1) D.leapdays D.seconds := by
  unfold TzStr.baseInstant baseInstant' orInt
  cases hm : D.month with
  | none =>
    cases hd : D.day with
    | none => rfl
    | some d => by_cases h : d = 0 <;> simp [h]
  | some m =>
    cases hd : D.day with
    | none => by_cases h : m = 0 <;> simp [h]
    | some d => by_cases h : m = 0 <;> by_cases h' : d = 0 <;> simp [h, h']

/-- µs arithmetic: the shifted date plus the relative part of `R` (leapdays after February of a leap year included) -/
theorem toMicros_add_delta (R : RD) (year month day ld secs : Int) (hld : R.leapdays = ld)
    (hus : usTotal R = secs * 1000000) :
    ({ y := year, m := month, d := day } : DT).toMicros + deltaMicros R (daysWithLeap R year month) =
      ((Cal.toOrdinal year month day +
          (if (ld != 0 && decide (month > 2) && Cal.isLeap year) = true then ld else 0)) * 86400 +
        secs) * 1000000 := by
  have hu : deltaMicros R (daysWithLeap R year month) =
      usTotal R + (daysWithLeap R year month - R.days) * 86400000000 := by
    unfold deltaMicros usTotal; omega
  rw [hu, hus]
  have hL : daysWithLeap R year month - R.days =
      (if (ld != 0 && decide (month > 2) && Cal.isLeap year) = true then ld else 0) := by
    unfold daysWithLeap
    rw [hld]
    by_cases h1 : ld = 0 <;> by_cases h2 : month > 2 <;> by_cases h3 : Cal.isLeap year = true <;>
      simp [h1, h2, h3] <;> omega
  rw [hL]
  generalize (if (ld != 0 && decide (month > 2) && Cal.isLeap year) = true then ld else 0) = L
  unfold DT.toMicros DT.ordinal DT.timeMicros DT.usPerDay
  simp only []
  omega

theorem bind_ok {α β : Type} (v : α) (f : α → Py.R β) : Except.bind (Except.ok v : Py.R α) f = f v := rfl
theorem bind_err {α β : Type} (e : Py.PyErr) (f : α → Py.R β) :
    Except.bind (Except.error e : Py.R α) f = Except.error e := rfl
theorem map_err {α β : Type} (e : Py.PyErr) (f : α → β) :
    Except.map f (Except.error e : Py.R α) = Except.error e := rfl

theorem addMicros_eq (b : DT) (δ x : Int) (h : b.toMicros + δ = x) :
    b.addMicros δ = if x < DT.minMicros ∨ x > DT.maxMicros then .error .OverflowError else .ok (DT.ofMicros x) := by
  subst h; rfl

/-- **C08's `applyDelta` is the C03 model** of `datetime(year, 1, 1) + relativedelta` for the relativedelta `_delta` builds:
    same instant (in seconds) or same exception.  `hday`: an absolute day below −2³¹ is not a C int for `datetime.replace`
    (OverflowError there, ValueError here); `_delta` only ever produces 1, 31 or a day of the `ydayidx` scan. -/
theorem applyDelta_bridge (year : Int) (D : TzStr.Delta) (hy : 1 ≤ year ∧ year ≤ 9999)
    (hday : ∀ v, D.day = some v → -2147483648 ≤ v) :
    TzStr.applyDelta year D = (applyTo (rdOfDelta D) (jan1 year)).map secondsOf := by
  obtain ⟨f1, f2, f3, f4, f5, f6, f7, f8, f9, f10, f11, f12⟩ := rdOfDelta_fields D
  generalize rdOfDelta D = R at *
  have hp : promote R (jan1 year) = jan1 year := by
    unfold promote jan1; simp
  have hk : (jan1 year).kind = Kind.naive := rfl
  have ht : (jan1 year).t = { y := year, m := 1, d := 1 } := rfl
  unfold applyTo
  rewrite [hp, hk, ht]
  have hym : ymCarry R year 1 = .ok (year, orInt D.month 1) := by
    unfold ymCarry; rw [f1, f2, f3, f4]; simp [orInt]
  simp only [bind]
  rewrite [hym, bind_ok]
  simp only []
  unfold TzStr.applyDelta
  rewrite [baseInstant_eq]
  unfold baseInstant'
  rewrite [if_neg (by omega)]
  generalize hmo : orInt D.month 1 = month
  unfold applyTail
  simp only [bind]
  by_cases hm : month < 1 ∨ month > 12
  · have : monthrange1 year month = .error .ValueError := by unfold monthrange1; rw [if_neg (by omega)]
    rewrite [if_pos hm, this, bind_err, map_err]
    rfl
  · have : monthrange1 year month = .ok (Cal.daysInMonth year month) := by unfold monthrange1; rw [if_pos (by omega)]
    rewrite [if_neg hm, this, bind_ok, f5]
    generalize hdd : min (Cal.daysInMonth year month) (orInt D.day 1) = day
    have hb := Cal.daysInMonth_bounds year month
    have hdaylo : -2147483648 ≤ day := by
      have : -2147483648 ≤ orInt D.day 1 := by
        unfold orInt; cases h : D.day with
        | none => simp
        | some v => have := hday v h; simp only []; split <;> omega
      omega
    -- replace
    have hrep : replaced R Kind.naive { y := year, m := 1, d := 1 } year month day =
        if day < 1 then .error .ValueError else .ok { y := year, m := month, d := day } := by
      unfold replaced hasAbsTime
      rw [f8, f9, f10, f11]
      simp only [Option.isSome_none, Bool.or_self, Bool.false_eq_true, and_false, ↓reduceIte, Option.getD_none]
      have hfit : fitsCInt { y := year, m := month, d := day, hh := 0, mm := 0, ss := 0, us := 0 } = true := by
        unfold fitsCInt; apply decide_eq_true; simp only []; omega
      rw [if_neg (by simp [hfit])]
      have hval : DT.valid { y := year, m := month, d := day, hh := 0, mm := 0, ss := 0, us := 0 } = true ↔ ¬ day < 1 := by
        unfold DT.valid
        rw [decide_eq_true_iff]
        constructor
        · intro hv; have := hv.1.2.2.2.2.1; simp only [] at this; omega
        · intro h
          refine ⟨⟨hy.1, hy.2, ?_, ?_, ?_, ?_⟩, ?_⟩ <;> simp only [] <;> omega
      by_cases hlo : day < 1
      · rw [if_pos hlo, if_neg (fun h => (hval.1 h) hlo)]
      · rw [if_neg hlo, if_pos (hval.2 hlo)]
    rewrite [hrep]
    by_cases hlo : day < 1
    · rewrite [if_pos hlo, if_pos hlo, bind_err, map_err]
      rfl
    · rewrite [if_neg hlo, if_neg hlo, bind_ok]
      have hdelta := toMicros_add_delta R year month day D.leapdays D.seconds f7 f12
      have had : addDelta Kind.naive { y := year, m := month, d := day } (deltaMicros R (daysWithLeap R year month)) =
          DT.addMicros { y := year, m := month, d := day } (deltaMicros R (daysWithLeap R year month)) := rfl
      rewrite [had, addMicros_eq _ _ _ hdelta]
      generalize ((Cal.toOrdinal year month day +
              (if (D.leapdays != 0 && decide (month > 2) && Cal.isLeap year) = true then D.leapdays else 0)) * 86400 +
            D.seconds) = t
      by_cases hin : TzStr.inRange t = true
      · have hr := (inRange_iff t).1 hin
        rewrite [if_pos hin, if_neg hr, bind_ok, f6]
        exact weekdayStep_bridge t D.weekday hin
      · have hr : t * 1000000 < DT.minMicros ∨ t * 1000000 > DT.maxMicros := by
          apply Classical.byContradiction; intro hc; exact hin ((inRange_iff _).2 hc)
        rewrite [if_neg hin, if_pos hr, bind_err, map_err]
        rfl

end RDP
