/- Proofs/IsoErrors.lean — the only exception kind the isoparser model raises is ValueError: `OnlyVE` is `Py.Sat` with
   nothing said of the value, so each function's fact is a walk along its shape with the rules of Proofs/PySat.lean;
   and a configured separator is exact. -/
import DateutilVerif.Proofs.IsoRender
import DateutilVerif.Proofs.PySat
namespace Iso
open Cal Py

/-- the only exception kind a computation can raise is ValueError -/
def OnlyVE {α} (r : R α) : Prop := ∀ e, r = .error e → e = .ValueError

theorem onlyVE_iff_sat {α} (x : R α) : OnlyVE x ↔ Sat x (fun _ => True) (· = .ValueError) := by
  cases x with
  | ok a => exact ⟨fun _ => trivial, fun _ e h => by cases h⟩
  | error e => exact ⟨fun h => h e rfl, fun h e' h' => by cases h'; exact h⟩

theorem OnlyVE.sat {α} {x : R α} (h : OnlyVE x) : Sat x (fun _ => True) (· = .ValueError) := (onlyVE_iff_sat x).mp h
theorem OnlyVE.of_sat {α} {x : R α} (h : Sat x (fun _ => True) (· = .ValueError)) : OnlyVE x :=
  (onlyVE_iff_sat x).mpr h

theorem onlyVE_pure {α} (a : α) : OnlyVE (pure a : R α) := by intro e h; cases h
theorem onlyVE_ebind {α β} (r : R α) (f : α → R β) (h1 : OnlyVE r) (h2 : ∀ a, OnlyVE (f a)) :
    OnlyVE (r.bind f) := .of_sat (.bind h1.sat fun a _ => (h2 a).sat)
theorem onlyVE_match {α β} (r : R α) (f : α → R β) (h1 : OnlyVE r) (h2 : ∀ a, OnlyVE (f a)) :
    OnlyVE (match r with | .error e => .error e | .ok v => f v) := by
  cases r with
  | error e' => intro e h; cases h; exact h1 _ rfl
  | ok a => exact h2 a

theorem onlyVE_parseDigits (f : Bytes) (w : Nat) : OnlyVE (parseDigits f w) :=
  fun e h => parseDigits_err f w e h

theorem onlyVE_commonDay (ext : Bool) (y m : Int) (r : Bytes) : OnlyVE (commonDay ext y m r) :=
  .of_sat <| .ite (.err rfl) <| .ite (.err rfl) <| .bind (onlyVE_parseDigits _ _).sat fun _ _ => .ok trivial

theorem onlyVE_commonMonth (ext : Bool) (y : Int) (r : Bytes) : OnlyVE (commonMonth ext y r) :=
  .of_sat <| .ite (.err rfl) <| .bind (onlyVE_parseDigits _ _).sat fun _ _ =>
    .ite (.ite (.ok trivial) (.err rfl)) (onlyVE_commonDay _ _ _ _).sat

theorem onlyVE_common (s : Bytes) : OnlyVE (parseIsodateCommon s) := by
  rw [parseIsodateCommon_stages]
  exact .of_sat <| .ite (.err rfl) <| .bind (onlyVE_parseDigits _ _).sat fun _ _ =>
    .ite (.ok trivial) (onlyVE_commonMonth _ _ _).sat

theorem onlyVE_mkDateOrd (y m d : Int) : OnlyVE (mkDateOrd y m d) :=
  .of_sat <| .ite (.ok trivial) (.err rfl)

theorem onlyVE_calculateWeekdate (y w d : Int) : OnlyVE (calculateWeekdate y w d) := by
  rw [calculateWeekdate_char]; exact .of_sat <| .ite (.ok trivial) (.err rfl)

theorem onlyVE_ordinalResult (year ord : Int) (t : Bytes) : OnlyVE (ordinalResult year ord t) := by
  rw [ordinalResult_char]; exact .of_sat <| .ite (.ok trivial) (.err rfl)

theorem onlyVE_uncommonWeekDay (ext : Bool) (y w : Int) (r : Bytes) : OnlyVE (uncommonWeekDay ext y w r) :=
  .of_sat <| .ite
    (.ite (.err rfl) <| .bind (onlyVE_parseDigits _ _).sat fun _ _ =>
      .bind (onlyVE_calculateWeekdate _ _ _).sat fun _ _ => .ok trivial)
    (.bind (onlyVE_calculateWeekdate _ _ _).sat fun _ _ => .ok trivial)

theorem onlyVE_uncommon (s : Bytes) : OnlyVE (parseIsodateUncommon s) := by
  rw [parseIsodateUncommon_stages]
  exact .of_sat <| .ite (.err rfl) <| .bind (onlyVE_parseDigits _ _).sat fun _ _ => .ite
    (.bind (onlyVE_parseDigits _ _).sat fun _ _ => (onlyVE_uncommonWeekDay _ _ _ _).sat)
    (.ite (.err rfl) <| .bind (onlyVE_parseDigits _ _).sat fun _ _ => (onlyVE_ordinalResult _ _ _).sat)

/-- `_parse_isodate` falls back to the uncommon scanner exactly on the ValueError of the common one -/
theorem onlyVE_parseIsodate (s : Bytes) : OnlyVE (parseIsodate s) := by
  unfold parseIsodate
  cases h : parseIsodateCommon s with
  | ok v => exact .of_sat (.ok trivial)
  | error e => cases onlyVE_common s e h; exact onlyVE_uncommon s

theorem onlyVE_parseTzstr (s : Bytes) (z : Bool) : OnlyVE (parseTzstr s z) :=
  .of_sat <| .ite (.ok trivial) <| .ite (.err rfl) <|
    .bind (P' := fun _ => True) (.ite (.ok trivial) (.ite (.ok trivial) (.err rfl))) fun _ _ =>
    .bind (onlyVE_parseDigits _ _).sat fun _ _ =>
    .bind (.ite (.ok trivial) (onlyVE_parseDigits _ _).sat) fun _ _ =>
    .ite (.ok trivial) (.ite (.err rfl) (.ite (.err rfl) (.ok trivial)))

theorem onlyVE_sepStep (k : Nat) (r : Bytes) (hs : Bool) : OnlyVE (sepStep k r hs) :=
  .of_sat <| .ite (.ok trivial) <| .ite (.ite (.err rfl) (.ok trivial)) (.ok trivial)

/-- the loop's `match`es on a result re-raise its error: case on the scrutinee -/
theorem onlyVE_timeLoop (ks : List Nat) (r : Bytes) (hs : Bool) (c : TComps) : OnlyVE (timeLoop ks r hs c) := by
  induction ks generalizing r hs c with
  | nil => exact .of_sat (.ok trivial)
  | cons k ks ih =>
    unfold timeLoop
    refine .of_sat <| .ite (.ok trivial) <| .ite (.ite (.err rfl) ?_) ?_
    · cases hq : parseTzstr r true with
      | error e => exact .err (onlyVE_parseTzstr r true e hq)
      | ok tz => exact .ok trivial
    · cases hq : sepStep k r hs with
      | error e => exact .err (onlyVE_sepStep k r hs e hq)
      | ok p =>
        refine .ite ?_ (.ite ?_ (ih _ _ _).sat)
        · cases hd : parseDigits (p.1.take 2) 2 with
          | error e => exact .err (onlyVE_parseDigits _ _ e hd)
          | ok v => exact (ih _ _ _).sat
        · cases matchFraction p.1 with
          | none => exact (ih _ _ _).sat
          | some q => exact (ih _ _ _).sat

theorem onlyVE_parseIsotime (s : Bytes) : OnlyVE (parseIsotime s) := by
  unfold parseIsotime
  refine .of_sat <| .ite (.err rfl) ?_
  cases hq : timeLoop [0, 1, 2, 3, 4, 5] s false {} with
  | error e => exact .err (onlyVE_timeLoop _ _ _ _ e hq)
  | ok p => exact .ite (.err rfl) (.ite (.err rfl) (.ok trivial))

theorem onlyVE_mkDatetime (y m d hh mm ss us : Int) (tz : Option Off) :
    OnlyVE (mkDatetime y m d hh mm ss us tz) :=
  .of_sat <| .ite (.ok trivial) (.err rfl)

/-- `datetime + timedelta` inside `try … except OverflowError: raise ValueError` -/
theorem onlyVE_overflowToValue_addDays (t : DT) (n : Int) : OnlyVE (overflowToValue (t.addDays n)) := by
  unfold DT.addDays DT.addMicros
  dsimp only
  split
  · exact .of_sat (.err rfl)
  · exact .of_sat (.ok trivial)

theorem onlyVE_isoparse (cfg : Option Nat) (s : Bytes) : OnlyVE (isoparse cfg s) :=
  .of_sat <| .bind (onlyVE_parseIsodate s).sat fun _ _ => .ite
    (.ite
      (.bind (onlyVE_parseIsotime _).sat fun _ _ => .ite
        (.bind (onlyVE_mkDatetime _ _ _ _ _ _ _ _).sat fun _ _ =>
          .bind (onlyVE_overflowToValue_addDays _ _).sat fun _ _ => .ok trivial)
        (onlyVE_mkDatetime _ _ _ _ _ _ _ _).sat)
      (.err rfl))
    (onlyVE_mkDatetime _ _ _ _ _ _ _ _).sat

/-- with a configured separator no other byte between date and time is accepted -/
theorem sep_exact_core (c : Nat) (s : Bytes) (v : Result) (h : isoparse (some c) s = .ok v) :
    ∃ ymd rest, parseIsodate s = .ok (ymd, rest) ∧ (rest = [] ∨ ∃ r, rest = c :: r) := by
  unfold isoparse at h
  cases hp : parseIsodate s with
  | error e => simp [hp, bind, Except.bind] at h
  | ok p =>
    obtain ⟨ymd, rest⟩ := p
    refine ⟨ymd, rest, rfl, ?_⟩
    by_cases hr : rest = []
    · exact Or.inl hr
    · right
      simp only [hp, bind, Except.bind] at h
      rw [if_pos hr] at h
      by_cases hc : (some c : Option Nat) = none ∨ List.take 1 rest = (some c : Option Nat).toList
      · rcases hc with hc | hc
        · cases hc
        · exact ⟨_, take1_eq_cons hc⟩
      · rw [if_neg hc] at h; cases h

theorem onlyVE_mkSep (sep : Option (List Nat)) : OnlyVE (mkSep sep) := by
  unfold mkSep
  split
  · exact .of_sat (.ok trivial)
  · exact .of_sat <| .ite (.err rfl) (.ok trivial)
  · exact .of_sat (.err rfl)

theorem onlyVE_asciiGate {α} (isStr : Bool) (s : Bytes) (f : Bytes → R α) (hf : ∀ s, OnlyVE (f s)) :
    OnlyVE (asciiGate isStr s f) :=
  .of_sat <| .ite (.err rfl) (hf s).sat

theorem onlyVE_isoparseFull (sep : Option (List Nat)) (isStr : Bool) (s : Bytes) :
    OnlyVE (isoparseFull sep isStr s) :=
  .of_sat <| .bind (onlyVE_mkSep sep).sat fun sp _ => (onlyVE_asciiGate _ _ _ (onlyVE_isoparse sp)).sat

theorem onlyVE_parseIsodateEntry (s : Bytes) : OnlyVE (parseIsodateEntry s) :=
  .of_sat <| .bind (onlyVE_parseIsodate s).sat fun _ _ => .ite (.err rfl) (.ite (.ok trivial) (.err rfl))

theorem onlyVE_parseIsotimeEntry (s : Bytes) : OnlyVE (parseIsotimeEntry s) :=
  .of_sat <| .bind (onlyVE_parseIsotime s).sat fun _ _ => .ite (.ok trivial) (.err rfl)

end Iso
