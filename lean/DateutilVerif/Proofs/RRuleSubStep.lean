/-
  Proofs/RRuleSubStep.lean — what the three sub-daily `advance` branches share.  A family contributes `SubBy`: on the
  grid the model's acceptance test on BYHOUR / BYMINUTE / BYSECOND (`SubFreq.accepts`) is the argument lists'
  `listed`; `gettimeset` at a listed wall time is the specification's time set; and from every grid unit a listed one
  is at most `S` steps away.  From that: the search of an `advance` has a target (`SubGood.reach`), every `advance`
  ends alike — the new wall time with its time set, then `fixDay` over the whole days carried (`SubGood.arrive`) —
  and the initial state is the state of period 0 (`sub_init`); `iter_eq_spec_sub` puts the refinement together.
-/
import DateutilVerif.Proofs.RRuleSubGrid
import DateutilVerif.Proofs.RRuleModDistance
import DateutilVerif.Proofs.RRuleMonoSub

namespace RRule
open Cal

/-- the test `(not byhour or hour in byhour) and …` that the frequency's search for the next period applies, on a unit
    count `V` from the start of some day -/
def SubFreq.accepts : SubFreq → Rule → Int → Bool
  | .hourly, r, V => !(truthy r.byhour) || memO (V % 24) r.byhour
  | .minutely, r, V => (!(truthy r.byhour) || memO (V / 60 % 24) r.byhour) &&
      (!(truthy r.byminute) || memO (V % 60) r.byminute)
  | .secondly, r, V => (!(truthy r.byhour) || memO (V / 3600 % 24) r.byhour) &&
      (!(truthy r.byminute) || memO (V / 60 % 60) r.byminute) && (!(truthy r.bysecond) || memO (V % 60) r.bysecond)

/-- what a sub-daily family contributes about BYHOUR / BYMINUTE / BYSECOND -/
structure SubBy (C : SubFreq) (a : Args) (r : Rule) (S : Nat) : Prop where
  accepts : ∀ V k z : Int, V = C.tod a.dtstart.hh a.dtstart.mm a.dtstart.ss + k * a.interval + C.U * z →
    C.accepts r V = C.listed a (V % C.U)
  timeset : ∀ h m s, C.Digits h m s → C.listed a (C.tod h m s) = true →
    gettimeset r h m s = .ok (C.times a (C.tod h m s))
  reach : ∀ k : Nat, ∃ t : Nat, 1 ≤ t ∧ t ≤ S ∧
    C.listed a ((C.tod a.dtstart.hh a.dtstart.mm a.dtstart.ss + ((k + t : Nat) : Int) * a.interval) % C.U) = true

/-- the orbit of `+interval` on the units of the day has period `base / gcd(interval, base)` in the step index -/
theorem orbit_window (interval base : Int) (hb : 0 < base) (k j : Nat) :
    ∃ t : Nat, 1 ≤ t ∧ (t : Int) ≤ base / ((Int.gcd interval base : Nat) : Int) ∧
      ∃ z : Int, ((k + t : Nat) : Int) * interval = (j : Int) * interval + base * z := by
  obtain ⟨g, hg⟩ : ∃ g : Int, g = ((Int.gcd interval base : Nat) : Int) := ⟨_, rfl⟩
  rw [← hg]
  have hgpos : 0 < g := by rw [hg]; exact gcd_cast_pos interval base hb
  have d1 : g ∣ interval := by rw [hg]; exact Int.gcd_dvd_left interval base
  have d2 : g ∣ base := by rw [hg]; exact Int.gcd_dvd_right interval base
  obtain ⟨P, hP⟩ : ∃ P, P = base / g := ⟨_, rfl⟩
  rw [← hP]
  have hPg : g * P = base := by rw [hP]; exact Int.mul_ediv_cancel' d2
  have hig : g * (interval / g) = interval := Int.mul_ediv_cancel' d1
  have hPpos : 1 ≤ P := by
    by_cases h : P < 1
    · exfalso
      have : g * P ≤ g * 0 := Int.mul_le_mul_of_nonneg_left (by omega) (by omega)
      rw [hPg, Int.mul_zero] at this; omega
    · omega
  have hPi : P * interval = base * (interval / g) := by
    calc P * interval = P * (g * (interval / g)) := by rw [hig]
      _ = (g * P) * (interval / g) := by rw [← Int.mul_assoc, Int.mul_comm P g]
      _ = base * (interval / g) := by rw [hPg]
  -- t = ((j − k − 1) mod P) + 1
  obtain ⟨q, hq⟩ : ∃ q, q = ((j : Int) - k - 1) / P := ⟨_, rfl⟩
  obtain ⟨rr, hrr⟩ : ∃ rr, rr = ((j : Int) - k - 1) % P := ⟨_, rfl⟩
  have hdecomp : rr + P * q = (j : Int) - k - 1 := by rw [hrr, hq]; exact Int.emod_add_mul_ediv _ _
  have hr0 : 0 ≤ rr := by rw [hrr]; exact Int.emod_nonneg _ (by omega)
  have hr1 : rr < P := by rw [hrr]; exact Int.emod_lt_of_pos _ (by omega)
  refine ⟨(rr + 1).toNat, by omega, by omega, -(q * (interval / g)), ?_⟩
  have ecast : (((k + (rr + 1).toNat : Nat)) : Int) = (j : Int) - P * q := by omega
  rw [ecast, Int.sub_mul, Int.mul_assoc, Int.mul_comm q interval, ← Int.mul_assoc, hPi, Int.mul_neg]
  rw [Int.mul_assoc, Int.mul_comm (interval / g) q]
  omega

/-- `rep_rate // gcd(interval, rep_rate)`, the number of passes the loops allow themselves -/
theorem reps_eq (interval base : Int) (hb : 0 < base) :
    ((Py.fdiv base ((Int.gcd interval base : Nat) : Int)).toNat : Int) = base / ((Int.gcd interval base : Nat) : Int) ∧
    base / ((Int.gcd interval base : Nat) : Int) ≤ base := by
  have hgi := gcd_cast_pos interval base hb
  rw [Py.fdiv_pos _ hgi]
  have h0 : 0 ≤ base / ((Int.gcd interval base : Nat) : Int) := Int.ediv_nonneg (by omega) (by omega)
  exact ⟨Int.toNat_of_nonneg h0, Int.ediv_le_self _ (by omega)⟩

/-- **the MINUTELY and SECONDLY reachability loops, as one search**: a loop `L` over states `s` that stand for a unit
    count `val s` of the day, each pass of which (`hpass`) goes `d ≥ 1` grid steps on over units that are not accepted,
    tests the unit `V` reached, and either returns it or goes on from `norm V` (the same unit, days carried away).  With
    the test and `norm` blind to whole days (`hshift`), the loop stops at the LEAST accepted grid unit within its fuel.
    `day` and `fx` are the loops' running `day` and `fixday`: every pass adds the days its unit count carries and raises
    the flag when there are any, so at the end they hold the days carried in total. -/
theorem search_least {σ ρ : Type} (L : Nat → σ → Int → Bool → Except Status ρ) (val : σ → Int) (norm : Int → σ)
    (out : σ → Int → Bool → ρ) (P : σ → Prop) (ok : Int → Bool) (U i : Int) (hU : 0 < U) (hi : 1 ≤ i)
    (hval : ∀ s, P s → 0 ≤ val s) (hnorm : ∀ V, 0 ≤ V → P (norm V) ∧ val (norm V) = V % U)
    (hshift : ∀ V c, ok (V - U * c) = ok V ∧ norm (V - U * c) = norm V)
    (hpass : ∀ n s day fx, P s → (∃ ts : Nat, 1 ≤ ts ∧ ok (val s + ts * i) = true) →
      ∃ d : Nat, 1 ≤ d ∧ (∀ t' : Nat, 1 ≤ t' → t' < d → ok (val s + t' * i) = false) ∧
        L (n + 1) s day fx =
          if ok (val s + d * i) = true then
            .ok (out (norm (val s + d * i)) (if (val s + d * i) / U ≠ 0 then day + (val s + d * i) / U else day)
              (if (val s + d * i) / U ≠ 0 then true else fx))
          else L n (norm (val s + d * i)) (if (val s + d * i) / U ≠ 0 then day + (val s + d * i) / U else day)
              (if (val s + d * i) / U ≠ 0 then true else fx)) :
    ∀ (n : Nat) (s : σ) (day : Int) (fx : Bool), P s →
    (∃ t : Nat, 1 ≤ t ∧ t ≤ n ∧ ok (val s + t * i) = true) →
    ∃ t : Nat, 1 ≤ t ∧ t ≤ n ∧ ok (val s + t * i) = true ∧
      (∀ t' : Nat, 1 ≤ t' → t' < t → ok (val s + t' * i) = false) ∧
      L n s day fx =
        .ok (out (norm (val s + t * i)) (day + (val s + t * i) / U) (fx || decide ((val s + t * i) / U ≠ 0))) := by
  intro n
  induction n with
  | zero => intro s day fx _ ⟨t, h1, h2, _⟩; omega
  | succ n ih =>
    intro s day fx hP ⟨ts, hts1, hts2, hts3⟩
    obtain ⟨d, hd1, hd4, hd5⟩ := hpass n s day fx hP ⟨ts, hts1, hts3⟩
    have hdts : d ≤ ts := by
      by_cases hc : d ≤ ts
      · exact hc
      · have := hd4 ts hts1 (by omega)
        rw [this] at hts3; cases hts3
    have hv0 := hval s hP
    have hdi : (0 : Int) ≤ (d : Int) * i := Int.mul_nonneg (by omega) (by omega)
    obtain ⟨V1, hV1⟩ : ∃ V1, V1 = val s + (d : Int) * i := ⟨_, rfl⟩
    rw [← hV1] at hd5
    have hV10 : 0 ≤ V1 := by omega
    obtain ⟨c, hc⟩ : ∃ c, c = V1 / U := ⟨_, rfl⟩
    have hc0 : 0 ≤ c := by rw [hc]; exact Int.ediv_nonneg hV10 (by omega)
    rw [hd5, ← hc]
    by_cases hok : ok V1 = true
    · rw [if_pos hok]
      refine ⟨d, hd1, by omega, by rw [← hV1]; exact hok, hd4, ?_⟩
      rw [← hV1, ← hc]
      by_cases hz : c = 0 <;> simp [hz]
    · rw [if_neg hok]
      have hokf : ok V1 = false := by
        cases hq : ok V1 with
        | false => rfl
        | true => exact absurd hq hok
      have hts' : ts ≠ d := by
        intro e; subst e; rw [← hV1, hokf] at hts3; cases hts3
      obtain ⟨hPn, hvn⟩ := hnorm V1 hV10
      have key : ∀ u : Nat, val (norm V1) + (u : Int) * i = val s + ((u + d : Nat) : Int) * i - U * c := by
        intro u; rw [hvn, Int.emod_def, ← hc]; push_cast; rw [Int.add_mul]; omega
      obtain ⟨t, ht1, ht2, ht3, ht4, ht5⟩ := ih (norm V1) (if c ≠ 0 then day + c else day)
        (if c ≠ 0 then true else fx) hPn
        ⟨ts - d, by omega, by omega, by
          rw [key, (hshift _ _).1]
          have e : ts - d + d = ts := by omega
          rw [e]; exact hts3⟩
      have htle : t ≤ ts - d := by
        by_cases hc' : t ≤ ts - d
        · exact hc'
        · exfalso
          have := ht4 (ts - d) (by omega) (by omega)
          rw [key, (hshift _ _).1] at this
          have e : ts - d + d = ts := by omega
          rw [e, hts3] at this; cases this
      refine ⟨t + d, by omega, by omega, ?_, ?_, ?_⟩
      · rw [key, (hshift _ _).1] at ht3; exact ht3
      · intro t' a b
        by_cases h1 : t' < d
        · exact hd4 t' a h1
        · by_cases h2 : t' = d
          · subst h2; rw [← hV1]; exact hokf
          · have := ht4 (t' - d) (by omega) (by omega)
            rw [key, (hshift _ _).1] at this
            have e : t' - d + d = t' := by omega
            rw [e] at this; exact this
      · have hVn : 0 ≤ val (norm V1) + (t : Int) * i :=
          Int.add_nonneg (hval _ hPn) (Int.mul_nonneg (by omega) (by omega))
        rw [ht5, key, (hshift _ _).2, shift_ediv _ _ _ hU]
        rw [key] at hVn
        have hq0 := Int.ediv_nonneg hVn (show 0 ≤ U by omega)
        rw [shift_ediv _ _ _ hU] at hq0
        generalize (val s + ((t + d : Nat) : Int) * i) / U = q at hq0 ⊢
        by_cases hz : c = 0
        · subst hz; simp
        · have hq : q ≠ 0 := by omega
          simp only [ne_eq, hz, not_false_eq_true, ↓reduceIte, hq, decide_true, Bool.or_true]
          rw [show day + c + (q - c) = day + q by omega, Bool.true_or]

/-- a listed unit anywhere on the grid is met from every grid unit within that bound -/
theorem SubFreq.reach_of_listed (C : SubFreq) (a : Args) (j : Nat)
    (hj : C.listed a ((C.tod a.dtstart.hh a.dtstart.mm a.dtstart.ss + (j : Int) * a.interval) % C.U) = true) (k : Nat) :
    ∃ t : Nat, 1 ≤ t ∧ (t : Int) ≤ C.U / ((Int.gcd a.interval C.U : Nat) : Int) ∧
      C.listed a ((C.tod a.dtstart.hh a.dtstart.mm a.dtstart.ss + ((k + t : Nat) : Int) * a.interval) % C.U) = true := by
  obtain ⟨t, ht1, ht2, z, hz⟩ := orbit_window a.interval C.U C.U_pos k j
  refine ⟨t, ht1, ht2, ?_⟩
  rw [hz, ← Int.add_assoc, Int.add_mul_emod_self_left]
  exact hj

/-- … in particular within a day's worth of steps -/
theorem SubFreq.reach_day (C : SubFreq) (a : Args) (j : Nat)
    (hj : C.listed a ((C.tod a.dtstart.hh a.dtstart.mm a.dtstart.ss + (j : Int) * a.interval) % C.U) = true) (k : Nat) :
    ∃ t : Nat, 1 ≤ t ∧ (t : Int) ≤ C.U ∧
      C.listed a ((C.tod a.dtstart.hh a.dtstart.mm a.dtstart.ss + ((k + t : Nat) : Int) * a.interval) % C.U) = true := by
  obtain ⟨t, ht1, ht2, ht3⟩ := C.reach_of_listed a j hj k
  have := (reps_eq a.interval C.U C.U_pos).2
  exact ⟨t, ht1, by omega, ht3⟩

/-- a BY list at the rule's own frequency that passed `__construct_byset` has a member on the start's orbit modulo
    gcd(interval, base), which every grid value `W` reaches within `base` steps -/
theorem own_reach (freq interval start base : Int) (l : List Int) (res : Option (List Int))
    (h : normUnit freq freq interval start (some l) base = .ok res) (hb : 0 < base)
    (hr : ∀ x ∈ l, 0 ≤ x ∧ x < base) (W : Int) (hW : (W - start) % ((Int.gcd interval base : Nat) : Int) = 0) :
    ∃ t : Nat, 1 ≤ t ∧ (t : Int) ≤ base ∧ l.contains ((W + (t : Int) * interval) % base) = true := by
  obtain ⟨c, _, hne, hmem⟩ := own_kept _ _ _ _ l _ h hb
  obtain ⟨x, hx⟩ : ∃ x, x ∈ c := by
    cases c with
    | nil => exact absurd rfl hne
    | cons x _ => exact ⟨x, List.mem_cons_self ..⟩
  obtain ⟨hxl, hxc⟩ := (hmem x).mp hx
  have hxr := hr x hxl
  obtain ⟨s, hs1, hs2, hs3⟩ := reach interval base W x hb (by
    have e : x - W = (x - start) - (W - start) := by omega
    rw [e]
    exact Int.emod_eq_zero_of_dvd (Int.dvd_sub (Int.dvd_of_emod_eq_zero hxc) (Int.dvd_of_emod_eq_zero hW)))
  refine ⟨s, hs1, hs2, ?_⟩
  rw [hs3, Int.emod_eq_of_lt hxr.1 hxr.2, List.contains_iff_mem]
  exact hxl

variable {a : Args} {r : Rule} {ylo yhi : Int} {Inv : Info → Prop} {C : SubFreq} {F : DayFilter a r ylo yhi Inv}
  {S k : Nat} {st : State}

namespace SubGood

/-- the unit `u` grid steps after the cursor's, counted from the start of the cursor's day, is on the start's grid -/
theorem on_grid (hg : SubGood C F k st) (u : Nat) :
    C.tod st.cur.hour st.cur.minute st.cur.second + (u : Int) * a.interval =
      C.tod a.dtstart.hh a.dtstart.mm a.dtstart.ss + ((k + u : Nat) : Int) * a.interval +
        C.U * (Spec.RRule.startOrd a - curOrd st.cur) := by
  have := hg.idx
  unfold SubFreq.T0 at this
  push_cast
  rw [Int.add_mul, Int.mul_sub, Int.mul_comm C.U, Int.mul_comm C.U]
  omega

theorem accepts_eq (hg : SubGood C F k st) (B : SubBy C a r S) (u : Nat) :
    C.accepts r (C.tod st.cur.hour st.cur.minute st.cur.second + (u : Int) * a.interval) =
      C.listed a ((C.tod st.cur.hour st.cur.minute st.cur.second + (u : Int) * a.interval) % C.U) :=
  B.accepts _ _ _ (hg.on_grid u)

/-- `s0` grid steps after the cursor's unit, a listed unit is at most `S` steps further -/
theorem reach (hg : SubGood C F k st) (B : SubBy C a r S) (s0 : Nat) :
    ∃ t : Nat, 1 ≤ t ∧ t ≤ S ∧ C.accepts r (C.tod st.cur.hour st.cur.minute st.cur.second +
      ((s0 + t : Nat) : Int) * a.interval) = true := by
  obtain ⟨t, ht1, ht2, ht3⟩ := B.reach (k + s0)
  refine ⟨t, ht1, ht2, ?_⟩
  rw [hg.accepts_eq B, hg.on_grid, Int.add_mul_emod_self_left, ← Nat.add_assoc]
  exact ht3

/-- … and within the loops' own bound -/
theorem reach_fuel (hg : SubGood C F k st) (B : SubBy C a r S) (s0 : Nat) :
    ∃ t : Nat, 1 ≤ t ∧ (t : Int) ≤ C.U / ((Int.gcd a.interval C.U : Nat) : Int) ∧
      C.accepts r (C.tod st.cur.hour st.cur.minute st.cur.second + ((s0 + t : Nat) : Int) * a.interval) = true := by
  -- any listed unit on the grid will do; `B.reach 0` names one
  obtain ⟨j, _, _, hj⟩ := B.reach 0
  obtain ⟨t, ht1, ht2, ht3⟩ := C.reach_of_listed a (0 + j) hj (k + s0)
  refine ⟨t, ht1, ht2, ?_⟩
  rw [hg.accepts_eq B, hg.on_grid, Int.add_mul_emod_self_left, ← Nat.add_assoc]
  exact ht3

/-- **the end of every sub-daily `advance`**: at the listed unit `s` grid steps on, `V` units from the start of the
    cursor's day, the time set is the specification's, and `fixDay` over the `V / U` whole days carried leads to the
    state of period `k + s` -/
theorem arrive (hg : SubGood C F k st) (B : SubBy C a r S) (c : Option Int) (s : Nat) (V : Int)
    (hV : V = C.tod st.cur.hour st.cur.minute st.cur.second + (s : Int) * a.interval) (hV0 : 0 ≤ V)
    (h' m' s' : Int) (hd : C.Digits h' m' s') (htod : C.tod h' m' s' = V % C.U)
    (hl : C.accepts r V = true) (b : Bool) (hb : b = false → V / C.U = 0)
    (hle : curOrd st.cur + V / C.U ≤ toOrdinal yhi 12 31) :
    gettimeset r h' m' s' = .ok (C.times a (V % C.U)) ∧
    ∃ st', fixDay r { cur := { st.cur with day := st.cur.day + V / C.U, hour := h', minute := m', second := s' },
                      info := st.info, timeset := C.times a (V % C.U), count := c } b = .ok st' ∧
      SubGood C F (k + s) st' := by
  have hU := C.U_pos
  have hl' : C.listed a (V % C.U) = true := by rw [hV] at hl ⊢; rw [← hg.accepts_eq B]; exact hl
  refine ⟨by rw [← htod] at hl' ⊢; exact B.timeset _ _ _ hd hl', ?_⟩
  obtain ⟨hm1, hm12, hd1, hd2⟩ := hg.valid
  have hnd : 0 ≤ V / C.U := Int.ediv_nonneg hV0 (by omega)
  have hcur : curOrd { st.cur with day := st.cur.day + V / C.U, hour := h', minute := m', second := s' } =
      curOrd st.cur + V / C.U := by
    unfold curOrd toOrdinal; dsimp only; omega
  obtain ⟨st', hfix, hyl, hinv⟩ := fixDay_filter F
    { cur := { st.cur with day := st.cur.day + V / C.U, hour := h', minute := m', second := s' },
      info := st.info, timeset := C.times a (V % C.U), count := c }
    b hm1 hm12 (by dsimp only; omega) hg.year_lo (by dsimp only; rw [hcur]; exact hle) hg.inv
  obtain ⟨e, v, f', eh, em, es, ts⟩ := fixDay_any r _ st' b hfix hm1 hm12 (by dsimp only; omega)
    (by intro hb'; dsimp only; rw [hb hb', Int.add_zero]; exact hg.valid) hg.facts
  dsimp only at eh em es ts
  refine ⟨st', hfix, f', hyl, hinv, v, by rw [eh, em, es]; exact hd, ?_, by rw [ts, eh, em, es, htod]⟩
  rw [e, eh, em, es, htod, hcur, Int.add_mul]
  have h1 := hg.idx
  have h2 := Int.emod_add_mul_ediv V C.U
  rw [Int.mul_comm] at h2
  push_cast
  rw [Int.add_mul]
  omega

end SubGood

/-- the initial state is the state of period 0: its time set is empty exactly when the start is not listed -/
theorem sub_init (C : SubFreq) (F : DayFilter a r ylo yhi Inv) (h : construct a = .ok r) (hf : a.freq = C.freq)
    (hv : a.dtstart.Valid) (B : SubBy C a r S) (hlo : ylo ≤ a.dtstart.y) (hhi : a.dtstart.y ≤ yhi) :
    ∃ st0, init r = .ok st0 ∧ SubGood C F 0 st0 ∧ st0.count = r.count := by
  have hvm := hv.1.2.2
  obtain ⟨info, hre, hinv⟩ := F.rebuild a.dtstart.y a.dtstart.m hlo hhi hvm.1 hvm.2.1
  obtain ⟨hfr, _, _, _, _, _, hd, _⟩ := construct_fields a r h
  unfold DT.Valid ValidDate at hv
  have hdig : C.Digits a.dtstart.hh a.dtstart.mm a.dtstart.ss := by
    cases C <;> simp only [SubFreq.Digits] <;> omega
  have hacc := B.accepts (C.tod a.dtstart.hh a.dtstart.mm a.dtstart.ss) 0 0 (by simp)
  have hw := C.tod_range hdig
  rw [Int.emod_eq_of_lt hw.1 hw.2] at hacc
  -- the start is tested as every later unit is
  have hcond : ((r.freq ≥ 4 && truthy r.byhour && !(memO a.dtstart.hh r.byhour)) ||
      (r.freq ≥ 5 && truthy r.byminute && !(memO a.dtstart.mm r.byminute)) ||
      (r.freq ≥ 6 && truthy r.bysecond && !(memO a.dtstart.ss r.bysecond))) =
      !(C.listed a (C.tod a.dtstart.hh a.dtstart.mm a.dtstart.ss)) := by
    obtain ⟨e1, e2, e3, e4, e5, e6⟩ : a.dtstart.hh % 24 = a.dtstart.hh ∧
        (a.dtstart.hh * 60 + a.dtstart.mm) / 60 % 24 = a.dtstart.hh ∧
        (a.dtstart.hh * 60 + a.dtstart.mm) % 60 = a.dtstart.mm ∧
        ((a.dtstart.hh * 60 + a.dtstart.mm) * 60 + a.dtstart.ss) / 3600 % 24 = a.dtstart.hh ∧
        ((a.dtstart.hh * 60 + a.dtstart.mm) * 60 + a.dtstart.ss) / 60 % 60 = a.dtstart.mm ∧
        ((a.dtstart.hh * 60 + a.dtstart.mm) * 60 + a.dtstart.ss) % 60 = a.dtstart.ss := by omega
    rw [← hacc, hfr, hf]
    cases C <;> simp only [SubFreq.freq, SubFreq.accepts, SubFreq.tod, e1, e2, e3, e4, e5, e6] <;>
      generalize truthy r.byhour = T1 <;> generalize truthy r.byminute = T2 <;> generalize truthy r.bysecond = T3 <;>
      generalize memO a.dtstart.hh r.byhour = M1 <;> generalize memO a.dtstart.mm r.byminute = M2 <;>
      generalize memO a.dtstart.ss r.bysecond = M3 <;> revert T1 T2 T3 M1 M2 M3 <;> decide
  refine ⟨{ cur := { year := a.dtstart.y, month := a.dtstart.m, day := a.dtstart.d, hour := a.dtstart.hh,
                     minute := a.dtstart.mm, second := a.dtstart.ss, weekday := r.dtstart.weekday },
            info := info, timeset := C.times a (C.tod a.dtstart.hh a.dtstart.mm a.dtstart.ss), count := r.count },
    ?_, ⟨rebuild_facts r _ _ info hre, hlo, hinv, hv.1.2.2, hdig, ?_, rfl⟩, rfl⟩
  · unfold init
    simp only [hd, bind, Except.bind, hre, pure, Except.pure]
    rw [if_neg (by rw [hfr, hf]; cases C <;> decide), hcond]
    cases hl : C.listed a (C.tod a.dtstart.hh a.dtstart.mm a.dtstart.ss) with
    | true => rw [if_neg (by decide), B.timeset _ _ _ hdig hl]
    | false => rw [if_pos (by decide), C.times_unlisted a _ hl]
  · unfold curOrd SubFreq.T0 Spec.RRule.startOrd DT.ordinal; simp

/-- **refinement with skipping for a sub-daily frequency**, given what the family knows about the BY lists (`B`) and what
    one `advance` does on the grid (`hstep`, as long as `S` further steps stay inside the filter's years): `n` turns of
    the generator's loop correspond to `m` periods, `n ≤ m ≤ J·n`.  `J ≥ U − 1 + S`: one turn passes over at most the rest
    of a removed day (`U − 1` units) and `S` steps of search (`SubGood.next`); in `hle` the `+ S` steps are the look-ahead
    of the last `advance` and `U − 1` is the rest of its day. -/
theorem iter_eq_spec_sub (C : SubFreq) (F : DayFilter a r ylo yhi Inv) (h : construct a = .ok r) (hf : a.freq = C.freq)
    (hi : 1 ≤ a.interval) (hv : a.dtstart.Valid) (B : SubBy C a r S) (J : Nat) (hJ : C.U - 1 + (S : Int) ≤ J)
    (hstep : ∀ k st fl c, SubGood C F k st →
      curOrd st.cur * C.U + (C.U - 1) + S * a.interval < (toOrdinal yhi 12 31 + 1) * C.U → SubStep C F S k st fl c)
    (n : Nat) (hlo : ylo ≤ a.dtstart.y)
    (hle : C.T0 a + ((J * n + S : Nat) : Int) * a.interval + (C.U - 1) < (toOrdinal yhi 12 31 + 1) * C.U) :
    ∃ m, n ≤ m ∧ m ≤ J * n ∧ (iter r n).1 = Spec.RRule.occ a m := by
  have hU := C.U_pos
  have hni : (0 : Int) ≤ ((J * n + S : Nat) : Int) * a.interval := Int.mul_nonneg (by omega) (by omega)
  have hbound : ∀ k : Nat, k < J * n → ∀ st, SubGood C F k st →
      curOrd st.cur * C.U + (C.U - 1) + S * a.interval < (toOrdinal yhi 12 31 + 1) * C.U := by
    intro k hk st hg
    have := hg.idx
    have hw := C.tod_range hg.digits
    have hmono : (k : Int) * a.interval ≤ ((J * n : Nat) : Int) * a.interval :=
      Int.mul_le_mul_of_nonneg_right (by omega) (by omega)
    have e : ((J * n + S : Nat) : Int) * a.interval = ((J * n : Nat) : Int) * a.interval + S * a.interval := by
      rw [← Int.add_mul]; congr 1
    omega
  have hJ1 : 1 ≤ J := by have := C.U_ge; omega
  have sim : SkipSim a r (J * n) J (SubGood C F) := {
    agree := construct_cuts h
    step := by
      intro k st hk hg
      have hb := hbound k hk st hg
      have hw := C.tod_range hg.digits
      have hSi : (0 : Int) ≤ S * a.interval := Int.mul_nonneg (by omega) (by omega)
      have hlt : curOrd st.cur * C.U < (toOrdinal yhi 12 31 + 1) * C.U := by omega
      have hle' : curOrd st.cur ≤ maxOrdinal := by
        have := Int.lt_of_mul_lt_mul_right hlt (by omega)
        have := yhi_ord_le F
        omega
      obtain ⟨fl, hres, hflag, hbnd⟩ := hg.results h hf hv hle'
      refine ⟨fl, hres, hbnd, ?_⟩
      intro c
      obtain ⟨st', k', hadv, h1, h2, hg', hskip⟩ := hg.next hf hi fl c S hflag (hstep k st fl c hg hb)
      exact ⟨st', k', hadv, h1, by omega, hg', hskip⟩ }
  -- the start lies in the filter's years
  have hhi : a.dtstart.y ≤ yhi := by
    have hv' := hv
    unfold DT.Valid ValidDate at hv'
    have hd := C.tod_range (show C.Digits a.dtstart.hh a.dtstart.mm a.dtstart.ss by
      cases C <;> simp only [SubFreq.Digits] <;> omega)
    have hlt : Spec.RRule.startOrd a * C.U < (toOrdinal yhi 12 31 + 1) * C.U := by unfold SubFreq.T0 at hle; omega
    have := Int.lt_of_mul_lt_mul_right hlt (by omega)
    exact year_le_of_ord_le _ _ _ _ hv'.1.2.2 (by unfold Spec.RRule.startOrd DT.ordinal at this; omega)
  obtain ⟨st0, hinit, hg0, hc0⟩ := sub_init C F h hf hv B hlo hhi
  exact iter_refines_skip sim hJ1 st0 hinit hg0 hc0 n (by omega)

end RRule
