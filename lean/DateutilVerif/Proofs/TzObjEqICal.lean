/- Proofs/TzObjEqICal.lean — `tzical._parse_offset`, `_tzicalvtz._find_compdt/_find_comp/utcoffset/dst` TRANSLATED from tz/tz.py
   (Generated/TzObjKernels.lean, regenerated on every run) equal the hand model of Model/ICal.lean: `parseOffset`,
   `findCompdt`, `findCompCached` (result AND both cache lists, entry by entry), `utcoffset`, `dst`. -/
import DateutilVerif.Generated.TzObjKernels
import DateutilVerif.Proofs.TzGenEqGeneric
import DateutilVerif.Proofs.ICal
set_option linter.unusedSimpArgs false
namespace TzGen
open Py DtPy ObjPy ICal

theorem sget0 (c : Char) (r : List Char) : ObjPy.sget (c :: r) 0 = .ok [c] := by
  simp [ObjPy.sget, DtPy.lgetR]

theorem pyInt_eq (x : List Char) :
    ObjPy.pyInt x = (match ICal.pyInt x with | some v => .ok v | none => .error .ValueError) := rfl

theorem take4drop2 (s : List Char) : (s.take 4).drop 2 = (s.drop 2).take 2 := by
  rw [List.drop_take]

theorem len4 (r : List Char) : ((r.length : Int) = 4) ↔ r.length = 4 := by omega
theorem len6 (r : List Char) : ((r.length : Int) = 6) ↔ r.length = 6 := by omega

/-- the digits of `_parse_offset`, whatever the sign and the rest of the text are -/
theorem offBody_eq (signal : Int) (s : List Char) :
    (if ((s.length : Int) = 4) then
        Except.bind (ObjPy.pyInt (s.take 2)) fun h => Except.bind (ObjPy.pyInt (s.drop 2)) fun m =>
          .ok (((h * 3600) + (m * 60)) * signal)
      else if ((s.length : Int) = 6) then
        Except.bind (ObjPy.pyInt (s.take 2)) fun h => Except.bind (ObjPy.pyInt ((s.take 4).drop 2)) fun m =>
          Except.bind (ObjPy.pyInt (s.drop 4)) fun sec => .ok ((((h * 3600) + (m * 60)) + sec) * signal)
      else .error .ValueError : R Int) =
    (if s.length == 4 then do
        let h ← ObjPy.pyInt (s.take 2); let m ← ObjPy.pyInt (s.drop 2)
        .ok ((h * 3600 + m * 60) * signal)
      else if s.length == 6 then do
        let h ← ObjPy.pyInt (s.take 2); let m ← ObjPy.pyInt ((s.drop 2).take 2); let sec ← ObjPy.pyInt (s.drop 4)
        .ok ((h * 3600 + m * 60 + sec) * signal)
      else .error .ValueError) := by
  simp only [len4, len6, take4drop2, beq_iff_eq]; rfl

-- `pyInt` is made opaque: otherwise the unifier, meeting a stuck `match pyInt x with …`, unfolds `pyInt` (and `strip`
-- under it) at every comparison of the two sides
attribute [local irreducible] ICal.pyInt in
theorem parseOffset_eq (s : List Char) : Gen.tzical_parseOffset s = ICal.parseOffset s := by
  unfold Gen.tzical_parseOffset ICal.parseOffset
  cases h : ICal.strip s with
  | nil => rfl
  | cons c rest =>
    by_cases h1 : c = '+'
    · subst h1; exact offBody_eq 1 rest
    · by_cases h2 : c = '-'
      · subst h2; exact offBody_eq (-1) rest
      · have hc : ¬ ([c] = ['+'] ∨ [c] = ['-']) := by simp [h1, h2]
        have b1 : (c == '+') = false := by simp [h1]
        have b2 : (c == '-') = false := by simp [h2]
        simp only [sget0, Except.bind, hc, b1, b2, if_false, Bool.false_eq_true]
        exact offBody_eq 1 (c :: rest)

/-- the naive whole-second datetime `rrule.before` returns -/
def Dn0 (o : Int) : Dt := { us := o * M, fold := false, attached := false }

theorem div_D (w f : Int) (h0 : 0 ≤ f) (h1 : f < M) : (w * M + f) / M = w := by unfold M at *; omega

theorem findCompdt_eq (comps : List ZComp) (c : ZComp) (w f : Int) (fold att : Bool) (h0 : 0 ≤ f) (h1 : f < M) :
    Gen.tzicalvtz_findCompdt comps c (D w f fold att) = .ok ((ICal.findCompdt c w fold).map Dn0) := by
  unfold Gen.tzicalvtz_findCompdt ICal.findCompdt ObjPy.rruleBefore
  have hd : (c.diff * M < 0) ↔ c.diff < 0 := by unfold M; omega
  have e2 : (w * M + f + -(c.diff * M)) / M = w - c.diff := by
    have : w * M + f + -(c.diff * M) = (w - c.diff) * M + f := by rw [Int.sub_mul]; omega
    rw [this]; exact div_D _ f h0 h1
  cases fold <;> by_cases hneg : c.diff < 0 <;>
    simp [hd, hneg, foldOf, D, Except.bind, addTd, tdSeconds, div_D w f h0 h1, e2, Dn0] <;> rfl

/-- Gen accumulators `(lastcompdt, lastcomp)` of the selection loop from the model's `Option (onset × index)` -/
def toGen (comps : List ZComp) : Option (Int × Nat) → Option Dt × Option ZComp
  | none => (none, none)
  | some (d, i) => (some (Dn0 d), some (comps.getD i default))

theorem scan_eq (comps : List ZComp) (w : Int) (fold : Bool)
    (step : Option Dt × Option ZComp → ZComp → R (Option Dt × Option ZComp))
    (hstep : ∀ acc c i, comps.getD i default = c →
      step (toGen comps acc) c = .ok (toGen comps (selStep w fold acc (c, i))))
    (l : List ZComp) (k : Nat) (hl : comps.drop k = l) (acc : Option (Int × Nat)) :
    List.foldlM step (toGen comps acc) l = .ok (toGen comps ((l.zipIdx k).foldl (selStep w fold) acc)) := by
  induction l generalizing k acc with
  | nil => rfl
  | cons c l ih =>
    have hk : comps.getD k default = c := by
      have := congrArg (fun x => x[0]?) hl
      simp at this
      simp [List.getD_eq_getElem?_getD, this]
    have hl' : comps.drop (k + 1) = l := by rw [← List.tail_drop, hl]; rfl
    simp only [List.foldlM_cons, List.zipIdx_cons, List.foldl_cons]
    rw [hstep acc c k hk]
    exact ih (k + 1) hl' _

theorem brk_stays (step : Bool × Option ZComp → ZComp → R (Bool × Option ZComp))
    (hstep : ∀ lc c, step (true, lc) c = .ok (true, lc)) (l : List ZComp) (lc : Option ZComp) :
    List.foldlM step (true, lc) l = .ok (true, lc) := by
  induction l with
  | nil => rfl
  | cons c l ih => simp only [List.foldlM_cons, hstep]; exact ih

theorem firstStd_eq (step : Bool × Option ZComp → ZComp → R (Bool × Option ZComp))
    (h1 : ∀ lc c, step (true, lc) c = .ok (true, lc))
    (h2 : ∀ lc c, step (false, lc) c = if ¬ (c.isdst = true) then .ok (true, some c) else .ok (false, lc))
    (l : List ZComp) (lc : Option ZComp) :
    List.foldlM step (false, lc) l =
      .ok (match l.find? (fun c => !c.isdst) with | some c => (true, some c) | none => (false, lc)) := by
  induction l with
  | nil => rfl
  | cons c l ih =>
    simp only [List.foldlM_cons, h2]
    by_cases hd : c.isdst = true
    · simp only [hd, not_true_eq_false, if_false, List.find?_cons, Bool.not_true]
      exact ih
    · have : c.isdst = false := by simpa using hd
      simp only [this, Bool.false_eq_true, not_false_eq_true, if_true, List.find?_cons, Bool.not_false]
      exact brk_stays step h1 l _

theorem find_findIdx {α} [Inhabited α] (l : List α) (p : α → Bool) :
    l.find? p = (l.findIdx? p).map (fun i => l.getD i default) := by
  induction l with
  | nil => rfl
  | cons a l ih =>
    by_cases h : p a = true
    · simp [List.find?_cons, List.findIdx?_cons, h]
    · have : p a = false := by simpa using h
      simp [List.find?_cons, List.findIdx?_cons, this, ih, Option.map_map, Function.comp_def]

/-- the cache lists of the implementation from the model's cache, for queries whose microsecond part is `f` -/
def keyOf (f : Int) (e : Int × Bool) : Dt × Int := ({ us := e.1 * M + f, fold := e.2, attached := false }, b2i e.2)
def cdOf (f : Int) (cache : Cache) : List (Dt × Int) := cache.map (fun e => keyOf f e.1)
def ccOf (comps : List ZComp) (cache : Cache) : List (Option ZComp) := cache.map (fun e => some (comps.getD e.2 default))

theorem key_beq (f : Int) (a q : Int × Bool) :
    ((keyOf f a).1.us == (keyOf f q).1.us && (keyOf f a).2 == (keyOf f q).2) = (a == q) := by
  obtain ⟨a1, a2⟩ := a; obtain ⟨q1, q2⟩ := q
  have hm : (a1 * M + f = q1 * M + f) ↔ a1 = q1 := by unfold M; omega
  cases a2 <;> cases q2 <;> simp [keyOf, b2i] <;> (rw [Bool.eq_iff_iff]; simp [hm])

theorem index_eq (f : Int) (cache : Cache) (q : Int × Bool) :
    ObjPy.index (cdOf f cache) (keyOf f q) =
      (match cache.findIdx? (fun e => e.1 == q) with | some i => .ok (i : Int) | none => .error .ValueError) := by
  unfold ObjPy.index cdOf
  have : (List.map (fun e => keyOf f e.1) cache).findIdx? (fun e => e.1.us == (keyOf f q).1.us && e.2 == (keyOf f q).2)
      = cache.findIdx? (fun e => e.1 == q) := by
    induction cache with
    | nil => rfl
    | cons a l ih => simp only [List.map_cons, List.findIdx?_cons, key_beq, ih]
  rw [this]
  cases cache.findIdx? (fun e => e.1 == q) <;> rfl

theorem findIdx_lt {α} (l : List α) (p : α → Bool) (i : Nat) (h : l.findIdx? p = some i) : i < l.length := by
  induction l generalizing i with
  | nil => simp at h
  | cons a l ih =>
    by_cases hp : p a = true
    · simp [List.findIdx?_cons, hp] at h; subst h; simp
    · have : p a = false := by simpa using hp
      simp only [List.findIdx?_cons, this, Bool.false_eq_true, if_false, Option.map_eq_some_iff] at h
      obtain ⟨j, hj, rfl⟩ := h
      have := ih j hj
      simp; omega

theorem map_dropLast' {α β} (g : α → β) (l : List α) : (l.map g).dropLast = l.dropLast.map g := by
  simp [List.dropLast_eq_take, List.map_take]

/-- the end of `_find_comp`: the answer is put in front of both cache lists, which are cut back to ten entries -/
theorem cache_store (comps : List ZComp) (cache : Cache) (f w : Int) (fold : Bool) (i : Nat) :
    (Except.bind (if (((keyOf f (w, fold) :: cdOf f cache).length : Int) > 10) then
          Except.bind (ObjPy.pop (keyOf f (w, fold) :: cdOf f cache)) fun cd =>
          Except.bind (ObjPy.pop (some (comps.getD i default) :: ccOf comps cache)) fun cc => .ok (cd, cc)
        else .ok (keyOf f (w, fold) :: cdOf f cache, some (comps.getD i default) :: ccOf comps cache))
      fun (cd, cc) => .ok (some (comps.getD i default), cd, cc)) =
    .ok (some (comps.getD i default),
      cdOf f (if (((w, fold), i) :: cache).length > 10 then (((w, fold), i) :: cache).dropLast else ((w, fold), i) :: cache),
      ccOf comps (if (((w, fold), i) :: cache).length > 10 then (((w, fold), i) :: cache).dropLast
        else ((w, fold), i) :: cache)) := by
  by_cases hlen : cache.length + 1 > 10
  · have hz : (10 : Int) < (cache.length : Int) + 1 := by omega
    simp [hlen, hz, ObjPy.pop, cdOf, ccOf, map_dropLast', Except.bind]
  · have hz : ¬ ((10 : Int) < (cache.length : Int) + 1) := by omega
    simp [hlen, hz, cdOf, ccOf, Except.bind]

theorem findComp_eq (comps : List ZComp) (hne : comps ≠ []) (cache : Cache) (w f : Int) (fold att : Bool)
    (h0 : 0 ≤ f) (h1 : f < M) :
    Gen.tzicalvtz_findComp comps (cdOf f cache) (ccOf comps cache) (D w f fold att) =
      .ok (some (comps.getD (findCompCached comps cache w fold).1 default),
           cdOf f (findCompCached comps cache w fold).2, ccOf comps (findCompCached comps cache w fold).2) := by
  unfold Gen.tzicalvtz_findComp findCompCached
  by_cases hl : comps.length = 1
  · obtain ⟨c, rfl⟩ := List.length_eq_one_iff.mp hl
    simp [DtPy.lgetR, Except.bind]
  · have hl1 : ¬ ((comps.length : Int) = 1) := by omega
    have hl2 : (comps.length == 1) = false := by simpa using hl
    have hk : (DtPy.naive (D w f fold att), DtPy.foldOf (DtPy.naive (D w f fold att))) = keyOf f (w, fold) := by
      cases fold <;> rfl
    simp only [hl1, hl2, if_false, Bool.false_eq_true, hk, index_eq, find_findIdx cache]
    cases hfi : cache.findIdx? (fun e => e.1 == (w, fold)) with
    | some i =>
      have hi := findIdx_lt _ _ _ hfi
      have hget : DtPy.lgetR (ccOf comps cache) (i : Int) = .ok (some (comps.getD (cache.getD i default).2 default)) := by
        apply lgetR_nat
        simp [ccOf, List.getD_eq_getElem?_getD, List.getElem?_eq_getElem hi]
      simp [Except.bind, hget, ObjPy.tryExcept]
    | none =>
      have hscan : ∀ step : Option Dt × Option ZComp → ZComp → R (Option Dt × Option ZComp),
          (∀ acc c i, comps.getD i default = c → step (toGen comps acc) c = .ok (toGen comps (selStep w fold acc (c, i)))) →
          List.foldlM step (none, none) comps = .ok (toGen comps ((comps.zipIdx 0).foldl (selStep w fold) none)) :=
        fun step hs => scan_eq comps w fold step hs comps 0 (by simp) none
      simp only [ObjPy.tryExcept, Except.bind, if_true, Option.map_none]
      rw [hscan]
      · have hidx : findCompIdx comps w fold = (match List.foldl (selStep w fold) none comps.zipIdx with
            | some (_, i) => i
            | none => match comps.findIdx? (fun c => !c.isdst) with | some i => i | none => 0) := by
          unfold findCompIdx; simp only [hl2, Bool.false_eq_true, if_false]
          cases List.foldl (selStep w fold) none comps.zipIdx <;> rfl
        rw [hidx]
        have store := fun i => cache_store comps cache f w fold i
        simp only [Except.bind] at store
        cases hsel : List.foldl (selStep w fold) none comps.zipIdx with
        | some p => exact store p.2
        | none =>
          simp only [toGen, ne_eq, not_true_eq_false, not_false_eq_true, if_true]
          rw [firstStd_eq _ (by intro lc c; rfl) (by intro lc c; rfl), find_findIdx]
          cases hfs : comps.findIdx? (fun c => !c.isdst) with
          | some i => exact store i
          | none =>
            have h0' : DtPy.lgetR comps 0 = .ok (comps.getD 0 default) := by
              cases comps with
              | nil => exact absurd rfl hne
              | cons a l => simp [DtPy.lgetR]
            simp only [Option.map_none, Bool.false_eq_true, if_false, h0']
            exact store 0
      · intro acc c i hc
        have hc' : comps[i]?.getD default = c := by simpa [List.getD_eq_getElem?_getD] using hc
        have hn : DtPy.naive (D w f fold att) = D w f fold false := rfl
        rw [hn, findCompdt_eq comps _ w f fold false h0 h1]
        have hM : ∀ a b : Int, (a * M < b * M) ↔ a < b := by intro a b; unfold M; omega
        cases hcd : findCompdt c w fold with
        | none => cases acc <;> simp [toGen, selStep, hcd, hc']
        | some d =>
          cases acc with
          | none => simp [toGen, selStep, hcd, hc']
          | some p =>
            obtain ⟨bd, bi⟩ := p
            by_cases hlt : bd < d <;> simp [toGen, selStep, hcd, hc', ObjPy.cmpDt, Dn0, hM, hlt]

theorem ical_utcoffset_eq (comps : List ZComp) (hne : comps ≠ []) (cache : Cache) (hinv : CacheInv comps cache)
    (w f : Int) (fold att : Bool) (h0 : 0 ≤ f) (h1 : f < M) :
    Gen.tzicalvtz_utcoffset comps (cdOf f cache) (ccOf comps cache) (D w f fold att) =
      .ok (tdSeconds (ICal.utcoffset comps w fold),
           cdOf f (findCompCached comps cache w fold).2, ccOf comps (findCompCached comps cache w fold).2) := by
  unfold Gen.tzicalvtz_utcoffset ICal.utcoffset
  rw [findComp_eq comps hne cache w f fold att h0 h1, (findCompCached_spec comps cache w fold hinv).1]
  simp [Except.bind, DtPy.attr]

theorem ical_dst_eq (comps : List ZComp) (hne : comps ≠ []) (cache : Cache) (hinv : CacheInv comps cache)
    (w f : Int) (fold att : Bool) (h0 : 0 ≤ f) (h1 : f < M) :
    Gen.tzicalvtz_dst comps (cdOf f cache) (ccOf comps cache) (D w f fold att) =
      .ok (tdSeconds (ICal.dst comps w fold),
           cdOf f (findCompCached comps cache w fold).2, ccOf comps (findCompCached comps cache w fold).2) := by
  unfold Gen.tzicalvtz_dst ICal.dst
  rw [findComp_eq comps hne cache w f fold att h0 h1, (findCompCached_spec comps cache w fold hinv).1]
  generalize comps.getD (findCompIdx comps w fold) default = c
  cases h : c.isdst <;> simp [Except.bind, DtPy.attr, h, tdSeconds]

/-- `_tzicalvtz.tzname`: the TZNAME (an uninterpreted field `names` of the component objects) of the component the
    model's selection picks -/
theorem ical_tzname_eq (comps : List ZComp) (names : ZComp → Option (List Char)) (hne : comps ≠ []) (cache : Cache)
    (hinv : CacheInv comps cache) (w f : Int) (fold att : Bool) (h0 : 0 ≤ f) (h1 : f < M) :
    Gen.tzicalvtz_tzname comps names (cdOf f cache) (ccOf comps cache) (D w f fold att) =
      .ok (names (comps.getD (findCompIdx comps w fold) default),
           cdOf f (findCompCached comps cache w fold).2, ccOf comps (findCompCached comps cache w fold).2) := by
  unfold Gen.tzicalvtz_tzname
  rw [findComp_eq comps hne cache w f fold att h0 h1, (findCompCached_spec comps cache w fold hinv).1]
  simp [Except.bind, DtPy.attr]
end TzGen
