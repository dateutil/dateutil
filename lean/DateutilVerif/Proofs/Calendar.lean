/-
  Proofs/Calendar.lean — the calendar model step by step (days before a year / a month), `fromOrdinal` and
  `toOrdinal` inverse to each other on valid dates (CPython's `_ord2ymd` / `_ymd2ord`), `toOrdinal` monotone.
-/
import DateutilVerif.Base.Calendar

namespace Cal

theorem isLeap_iff (y : Int) : isLeap y = true ↔ (y % 4 = 0 ∧ (y % 100 ≠ 0 ∨ y % 400 = 0)) := by
  unfold isLeap; simp

theorem daysBeforeYear_succ (y : Int) :
    daysBeforeYear (y + 1) = daysBeforeYear y + daysInYear y := by
  unfold daysBeforeYear daysInYear isLeap
  split <;> simp_all <;> omega

theorem daysInMonth_bounds (y m : Int) : 28 ≤ daysInMonth y m ∧ daysInMonth y m ≤ 31 := by
  unfold daysInMonth; split <;> split <;> omega

theorem daysBeforeMonth_succ (y m : Int) (h1 : 1 ≤ m) (h2 : m ≤ 12) :
    daysBeforeMonth y (m + 1) = daysBeforeMonth y m + daysInMonth y m := by
  have : m = 1 ∨ m = 2 ∨ m = 3 ∨ m = 4 ∨ m = 5 ∨ m = 6 ∨ m = 7 ∨ m = 8 ∨ m = 9 ∨ m = 10 ∨ m = 11 ∨ m = 12 := by omega
  rcases this with h|h|h|h|h|h|h|h|h|h|h|h <;> subst h <;>
    cases hl : isLeap y <;> simp [daysBeforeMonth, dbmTable, daysInMonth, hl]

theorem daysBeforeMonth_13 (y : Int) : daysBeforeMonth y 13 = daysInYear y := by
  cases hl : isLeap y <;> simp [daysBeforeMonth, dbmTable, daysInYear, hl]

theorem daysBeforeMonth_1 (y : Int) : daysBeforeMonth y 1 = 0 := by
  simp [daysBeforeMonth, dbmTable]

theorem daysBeforeMonth_mono (y m m' : Int) (h1 : 1 ≤ m) (h : m ≤ m') (h2 : m' ≤ 13) :
    daysBeforeMonth y m ≤ daysBeforeMonth y m' := by
  have hm : m' = m + (m' - m).toNat := by omega
  generalize (m' - m).toNat = k at hm
  subst hm
  induction k with
  | zero => simp
  | succ k ih =>
    have := daysBeforeMonth_succ y (m + k) (by omega) (by omega)
    have := daysInMonth_bounds y (m + k)
    have := ih (by omega) (by omega)
    have e : m + ((k + 1 : Nat) : Int) = m + k + 1 := by omega
    rw [e]; omega

theorem daysBeforeMonth_lt (y m m' : Int) (h1 : 1 ≤ m) (h : m < m') (h2 : m' ≤ 13) :
    daysBeforeMonth y m + daysInMonth y m ≤ daysBeforeMonth y m' := by
  rw [← daysBeforeMonth_succ y m h1 (by omega)]
  exact daysBeforeMonth_mono y (m + 1) m' (by omega) (by omega) h2

/-- From March on the leap day is behind: the day number in terms of the year's own quotients. -/
theorem toOrdinal_after_feb (y m d : Int) (hm : 2 < m) :
    toOrdinal y m d = 365 * y + y / 4 - y / 100 + y / 400 - 365 + dbmTable m + d := by
  have hs := daysBeforeYear_succ y
  have hn : daysBeforeYear (y + 1) = y * 365 + y / 4 - y / 100 + y / 400 := by
    unfold daysBeforeYear; rw [Int.add_sub_cancel]
  have hc : (decide (m > 2) && isLeap y) = isLeap y := by simp [hm]
  unfold toOrdinal daysBeforeMonth
  unfold daysInYear at hs
  rw [hc]; split <;> simp_all <;> omega

def monthOfYdayOK (leap : Bool) (n : Int) : Bool :=
  let m := monthOfYday leap n
  decide (1 ≤ m ∧ m ≤ 12 ∧
    dbmTable m + (if m > 2 && leap then 1 else 0) ≤ n ∧
    n < dbmTable (m + 1) + (if m + 1 > 2 && leap then 1 else 0))

theorem monthOfYday_table : ∀ leap : Bool, ∀ k : Fin 366,
    (k.val < (if leap then 366 else 365)) → monthOfYdayOK leap (k.val : Int) = true := by
  decide +kernel

theorem monthOfYday_spec (leap : Bool) (n : Int) (h0 : 0 ≤ n) (h1 : n < (if leap then 366 else 365)) :
    1 ≤ monthOfYday leap n ∧ monthOfYday leap n ≤ 12 ∧
    dbmTable (monthOfYday leap n) + (if monthOfYday leap n > 2 && leap then 1 else 0) ≤ n ∧
    n < dbmTable (monthOfYday leap n + 1) + (if monthOfYday leap n + 1 > 2 && leap then 1 else 0) := by
  have hn : n.toNat < 366 := by cases leap <;> simp at h1 <;> omega
  have := monthOfYday_table leap ⟨n.toNat, hn⟩ (by cases leap <;> simp at h1 ⊢ <;> omega)
  have e : ((n.toNat : Nat) : Int) = n := by omega
  simp only [e, monthOfYdayOK, decide_eq_true_eq] at this
  exact this

theorem monthDay_spec (y n : Int) (h0 : 0 ≤ n) (h1 : n < daysInYear y) :
    daysBeforeMonth y (monthDayOfYday (isLeap y) n).1 + (monthDayOfYday (isLeap y) n).2 = n + 1 ∧
    ValidYMD y (monthDayOfYday (isLeap y) n).1 (monthDayOfYday (isLeap y) n).2 := by
  unfold daysInYear at h1
  have h := monthOfYday_spec (isLeap y) n h0 h1
  simp only [monthDayOfYday, ValidYMD]
  generalize monthOfYday (isLeap y) n = m at h
  obtain ⟨m1, m12, lo, hi⟩ := h
  have hs := daysBeforeMonth_succ y m m1 m12
  unfold daysBeforeMonth at hs ⊢
  refine ⟨by omega, m1, m12, by omega, ?_⟩
  omega

theorem year_decomp (a b c d : Int) (hb : 0 ≤ b ∧ b ≤ 3) (hc : 0 ≤ c ∧ c ≤ 24)
    (hd : 0 ≤ d ∧ d ≤ 3) :
    daysBeforeYear (a * 400 + 1 + b * 100 + c * 4 + d) = a * 146097 + b * 36524 + c * 1461 + d * 365 ∧
    isLeap (a * 400 + 1 + b * 100 + c * 4 + d) = (d == 3 && (c != 24 || b == 3)) := by
  unfold daysBeforeYear isLeap
  refine ⟨by omega, ?_⟩
  rw [Bool.eq_iff_iff]
  simp only [Bool.and_eq_true, beq_iff_eq, Bool.or_eq_true, bne_iff_ne, ne_eq]
  omega

/-- `toordinal ∘ fromordinal = id` and `fromordinal` lands on a valid date. -/
theorem toOrdinal_fromOrdinal (n : Int) (h : 1 ≤ n) :
    toOrdinal (fromOrdinal n).1 (fromOrdinal n).2.1 (fromOrdinal n).2.2 = n ∧
    ValidYMD (fromOrdinal n).1 (fromOrdinal n).2.1 (fromOrdinal n).2.2 ∧ 1 ≤ (fromOrdinal n).1 := by
  unfold fromOrdinal
  simp only []
  -- name the quotients and remainders, keep only their linear facts
  have split (a b : Int) (hb : 0 < b) : a = a / b * b + a % b ∧ 0 ≤ a % b ∧ a % b < b :=
    ⟨(Int.ediv_mul_add_emod a b).symm, Int.emod_nonneg a (by omega), Int.emod_lt_of_pos a hb⟩
  have s1 := split (n - 1) 146097 (by decide)
  generalize (n - 1) / 146097 = n400 at s1 ⊢
  generalize (n - 1) % 146097 = r at s1 ⊢
  have s2 := split r 36524 (by decide)
  generalize r / 36524 = n100 at s2 ⊢
  generalize r % 36524 = r2 at s2 ⊢
  have s3 := split r2 1461 (by decide)
  generalize r2 / 1461 = n4 at s3 ⊢
  generalize r2 % 1461 = r3 at s3 ⊢
  have s4 := split r3 365 (by decide)
  generalize r3 / 365 = n1 at s4 ⊢
  generalize r3 % 365 = r4 at s4 ⊢
  clear split
  have b0 : 0 ≤ n400 := by omega
  have b2 : 0 ≤ n100 ∧ n100 ≤ 4 := by omega
  have b3 : 0 ≤ n4 ∧ n4 ≤ 24 := by omega
  have b4 : 0 ≤ n1 ∧ n1 ≤ 4 := by omega
  have e : n - 1 = n400 * 146097 + n100 * 36524 + n4 * 1461 + n1 * 365 + r4 := by omega
  have br4 : 0 ≤ r4 ∧ r4 < 365 := by omega
  by_cases hc : (n1 == 4 || n100 == 4) = true
  · rw [if_pos hc]
    simp only [Bool.or_eq_true, beq_iff_eq] at hc
    simp only [toOrdinal, ValidYMD]
    -- the last day of a leap year
    rcases hc with hc | hc
    · subst hc
      have hr4z : r4 = 0 := by omega
      have := year_decomp n400 n100 n4 3 (by omega) b3 (by omega)
      have e2 : n400 * 400 + 1 + n100 * 100 + n4 * 4 + 4 - 1 = n400 * 400 + 1 + n100 * 100 + n4 * 4 + 3 := by omega
      rw [e2, this.1]
      have hl : isLeap (n400 * 400 + 1 + n100 * 100 + n4 * 4 + 3) = true := by
        rw [this.2]; simp; omega
      simp [daysBeforeMonth, dbmTable, daysInMonth, hl]
      omega
    · subst hc
      have : n4 = 0 ∧ n1 = 0 ∧ r4 = 0 := by omega
      obtain ⟨h4, h1', hr4z⟩ := this
      subst h4 h1' hr4z
      have := year_decomp n400 3 24 3 (by omega) (by omega) (by omega)
      have e2 : n400 * 400 + 1 + 4 * 100 + 0 * 4 + 0 - 1 = n400 * 400 + 1 + 3 * 100 + 24 * 4 + 3 := by omega
      rw [e2, this.1]
      have hl : isLeap (n400 * 400 + 1 + 3 * 100 + 24 * 4 + 3) = true := by
        rw [this.2]; simp
      generalize hY : n400 * 400 + 1 + 3 * 100 + 24 * 4 + 3 = Y at this hl ⊢
      simp [daysBeforeMonth, dbmTable, daysInMonth, hl]
      omega
  · rw [if_neg hc]
    simp only [Bool.or_eq_true, beq_iff_eq, not_or] at hc
    have yd := year_decomp n400 n100 n4 n1 (by omega) b3 (by omega)
    rw [← yd.2]
    generalize hy : n400 * 400 + 1 + n100 * 100 + n4 * 4 + n1 = y at yd ⊢
    have hdy : r4 < daysInYear y := by unfold daysInYear; split <;> omega
    have ms := monthDay_spec y r4 br4.1 hdy
    dsimp only
    refine ⟨?_, ms.2, by omega⟩
    unfold toOrdinal
    rw [yd.1]
    omega

/-- `toOrdinal` is strictly monotone for the lexicographic order on valid dates. -/
theorem toOrdinal_lt_of_lex (y m d y' m' d' : Int) (h : ValidYMD y m d) (h' : ValidYMD y' m' d')
    (hlt : y < y' ∨ (y = y' ∧ (m < m' ∨ (m = m' ∧ d < d')))) :
    toOrdinal y m d < toOrdinal y' m' d' := by
  obtain ⟨m1, m12, d1, dd⟩ := h
  obtain ⟨m1', m12', d1', dd'⟩ := h'
  unfold toOrdinal
  rcases hlt with hy | ⟨hy, hm | ⟨hm, hd⟩⟩
  · have hmono : ∀ k : Nat, daysBeforeYear (y + 1) ≤ daysBeforeYear (y + 1 + k) := by
      intro k
      induction k with
      | zero => simp
      | succ k ih =>
        have := daysBeforeYear_succ (y + 1 + k)
        have e : y + 1 + ((k + 1 : Nat) : Int) = y + 1 + k + 1 := by omega
        rw [e, this]; unfold daysInYear; split <;> omega
    have hk := hmono (y' - (y + 1)).toNat
    have e : y + 1 + ((y' - (y + 1)).toNat : Int) = y' := by omega
    rw [e] at hk
    have hs := daysBeforeYear_succ y
    have h13 := daysBeforeMonth_13 y
    have hle := daysBeforeMonth_lt y m 13 m1 (by omega) (by omega)
    have h0 := daysBeforeMonth_mono y' 1 m' (by omega) m1' (by omega)
    rw [daysBeforeMonth_1] at h0
    omega
  · subst hy
    have := daysBeforeMonth_lt y m m' m1 hm (by omega)
    omega
  · subst hy; subst hm; omega

theorem year_start_mono (y y' : Int) (h : y ≤ y') : toOrdinal y 1 1 ≤ toOrdinal y' 1 1 := by
  by_cases c : y = y'
  · subst c; omega
  · have v : ∀ z : Int, ValidYMD z 1 1 := fun z =>
      ⟨by omega, by omega, by omega, by have := daysInMonth_bounds z 1; omega⟩
    have := toOrdinal_lt_of_lex y 1 1 y' 1 1 (v y) (v y') (Or.inl (by omega))
    omega

theorem toOrdinal_inj (y m d y' m' d' : Int) (h : ValidYMD y m d) (h' : ValidYMD y' m' d')
    (he : toOrdinal y m d = toOrdinal y' m' d') : y = y' ∧ m = m' ∧ d = d' := by
  by_cases c1 : y < y'
  · have := toOrdinal_lt_of_lex y m d y' m' d' h h' (Or.inl c1); omega
  by_cases c2 : y' < y
  · have := toOrdinal_lt_of_lex y' m' d' y m d h' h (Or.inl c2); omega
  have hy : y = y' := by omega
  subst hy
  by_cases c3 : m < m'
  · have := toOrdinal_lt_of_lex y m d y m' d' h h' (Or.inr ⟨rfl, Or.inl c3⟩); omega
  by_cases c4 : m' < m
  · have := toOrdinal_lt_of_lex y m' d' y m d h' h (Or.inr ⟨rfl, Or.inl c4⟩); omega
  have hm : m = m' := by omega
  subst hm
  unfold toOrdinal at he
  exact ⟨rfl, rfl, by omega⟩

theorem toOrdinal_pos (y m d : Int) (hy : 1 ≤ y) (h : ValidYMD y m d) : 1 ≤ toOrdinal y m d := by
  have := toOrdinal_lt_of_lex 0 12 31 y m d (by decide) h (Or.inl (by omega))
  have e : toOrdinal 0 12 31 = 0 := by decide
  omega

/-- `fromordinal ∘ toordinal = id` on valid dates. -/
theorem fromOrdinal_toOrdinal (y m d : Int) (hy : 1 ≤ y) (h : ValidYMD y m d) :
    fromOrdinal (toOrdinal y m d) = (y, m, d) := by
  have hp := toOrdinal_pos y m d hy h
  have ⟨e, v, _⟩ := toOrdinal_fromOrdinal (toOrdinal y m d) hp
  have := toOrdinal_inj _ _ _ _ _ _ v h e
  ext <;> simp [this.1, this.2.1, this.2.2]

/-- moving by `k` days moves the weekday by `k` (mod 7) -/
theorem weekdayOfOrd_add (n k : Int) : weekdayOfOrd (n + k) = (weekdayOfOrd n + k) % 7 := by
  unfold weekdayOfOrd; omega

theorem weekdayOfOrd_range (n : Int) : 0 ≤ weekdayOfOrd n ∧ weekdayOfOrd n < 7 := by
  unfold weekdayOfOrd; omega

end Cal
