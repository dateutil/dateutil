/-
  Proofs/ParserGenNum.lean — `parser._parse_numeric_token` re-translated from /repo's parser/_parser.py
  (Generated/ParserOps.lean) = `PM.parseNumericToken` (Model/Parser.lean), every arm (`numHourMin`, `numSix`, `numEight`,
  `numHms`, `numColon`, `numSep`, `numJump`, `numAmpmOrDay` with `dayOrFail`), for every token list, index,
  `_ymd` state and result record.
-/
import DateutilVerif.Proofs.ParserGenHms

namespace PGen
open PM Py

theorem strFind_six (s : Token) :
    (6 < s.length ∧ PPy.strFind s '.' = 6) = (6 < s.length ∧ s.idxOf '.' = 6) := by
  apply propext
  unfold PPy.strFind
  constructor
  · rintro ⟨h, h2⟩
    refine ⟨h, ?_⟩
    split at h2
    · exact Int.ofNat.inj h2
    · cases h2
  · rintro ⟨h, h2⟩
    refine ⟨h, ?_⟩
    have hm : '.' ∈ s := by
      by_cases hn : '.' ∈ s
      · exact hn
      · have := List.idxOf_eq_length hn
        omega
    have hc : s.contains '.' = true := by simpa using hm
    rw [if_pos hc, h2]; rfl

theorem adjustAmpm_nonneg (h a : Nat) : 0 ≤ Gen.adjustAmpm (h : Int) (a : Int) := by
  unfold Gen.adjustAmpm
  simp only []
  split
  · omega
  · split <;> omega

theorem natOfInt_adjust (h a : Nat) :
    PPy.natOfInt (Gen.adjustAmpm (h : Int) (a : Int)) = .ok (Gen.adjustAmpm (h : Int) (a : Int)).toNat :=
  natOfInt_toNat _ (adjustAmpm_nonneg h a)

theorem geNat_zero (v : Dec) : v.geNat 0 = true := by simp [PM.Dec.geNat]

theorem toDecimal_err (cls : Char → CClass) (s : Token) (e : PyErr) (h : PM.toDecimal cls s = .error e) :
    e = .ValueError := by
  unfold PM.toDecimal at h
  split at h
  · cases h
  · injection h with h; exact h.symm

/-- `idx + 1 >= len_l or (tokens[idx+1] != ':' and info.hms(tokens[idx+1]) is None)`, as translated -/
theorem noHmsAhead_eq (info : Info) (l : List Token) (k : Nat) :
    (if k ≥ l.length then (.ok true : R Bool) else
      Except.bind (PPy.toksAt l ((k : Nat) : Int)) (fun tok_4 =>
        Except.bind ((if (¬ ((some tok_4) = (some (PM.tk ":")))) then
            Except.bind (PPy.toksAt l ((k : Nat) : Int)) (fun tok_5 =>
              Except.bind (Gen.P.info_hms info tok_5) (fun q_6 =>
                .ok (decide (q_6 = none))))
            else .ok false)) (fun b_7 =>
          .ok (decide (b_7 = true)))))
      = .ok (decide (k ≥ l.length ∨ (!tokIs l k [':'] ∧ !hmsAtIs info l k))) := by
  cases h : l[k]? with
  | none => simp [ge_of_none h]
  | some t =>
    have hm : hmsAtIs info l k = (info.hmsOf t).isSome := by unfold PM.hmsAtIs; rw [h]; rfl
    simp only [toksAt_eq, tokAt_some h, tokIs_some h, hm, info_hms_eq, bind_ok, tk_colon]
    by_cases ht : t = [':'] <;> cases hq : info.hmsOf t <;> simp [bind_ok, ht, Nat.not_le.mpr (lt_of_some h)]

/-- `parser._parse_numeric_token` = `PM.parseNumericToken` (the model returns how far `idx` moved).
    Both are the same chain of tests; the proof walks it (`bind_ite_congr`), one bullet per arm. The tokens behind
    `idx` are looked at through `tokens[idx + j]?`, case by case where an arm reads one. -/
theorem parseNumericToken_eq (cls : Char → CClass) (info : Info) (fuzzy : Bool) (tokens : List Token) (idx : Nat)
    (ymd : Ymd) (res : Res) :
    Gen.P.parseNumericToken cls info tokens idx ymd res fuzzy =
      (PM.parseNumericToken cls info fuzzy tokens idx ymd res).map (fun r => (idx + r.1, r.2.1, r.2.2)) := by
  unfold Gen.P.parseNumericToken PM.parseNumericToken
  -- the guarded look-ups first: their lemmas are stated on the text of the translation, which the rewrites below change.
  -- If this `simp only` makes no progress the translator prints these tests in another shape: restate the three lemmas
  -- from the text in Generated/ParserOps.lean (bound names do not matter, the nesting does).
  simp only [noHmsAhead_eq, guard_tokIs tokens (idx + 3) (idx + 4) _ (Nat.le_succ _),
    guard_tokIs tokens (idx + 3) (idx + 3) _ (Nat.le_refl _)]
  simp only [toksAt_eq, bind_eq, toDecimal_eq]
  cases h0 : tokens[idx]? with
  | none => rw [tokAt_none h0]; rfl
  | some s =>
  have hlt := lt_of_some h0
  simp only [tokAt_some h0, bind_ok]
  cases hv : PM.toDecimal cls s with
  | error e => cases toDecimal_err cls s e hv; rfl
  | ok value =>
  simp only [bind_ok, ite_and_ok, ite_or_ok, Bool.and_eq_true, Bool.or_eq_true, decide_eq_true_eq,
    Option.isNone_iff_eq_none, map_eq']
  -- `19990101T23[59]`
  refine bind_ite_congr _ _ _ _ _ _ _ (fun _ => ?_) (fun _ => ?_)
  · simp only [PM.numHourMin, bind_eq, pure_eq, bind_assoc, bind_ite, bind_ok, Nat.add_zero]
  -- `YYMMDD` / `HHMMSS[.ss]`
  rw [bind_assoc]
  simp only [gt_iff_lt, strFind_six]
  refine bind_ite_congr _ _ _ _ _ _ _ (fun _ => ?_) (fun _ => ?_)
  · simp only [PM.numSix, bind_eq, pure_eq, bind_assoc, bind_ite, bind_ok, appendTok_eq, parsems_eq, Nat.add_zero]
    simp
  -- `YYYYMMDD[hhmm[ss]]`
  rw [bind_assoc]
  refine bind_ite_congr _ _ _ _ _ _ _ (fun _ => ?_) (fun _ => ?_)
  · simp only [PM.numEight, bind_eq, pure_eq, bind_assoc, bind_ite, bind_ok, appendTok_eq, Nat.add_zero, gt_iff_lt]
  simp only [findHmsIdx_eq info idx tokens true hlt, bind_ok]
  cases hf : PM.findHmsIdx info idx tokens true with
  | some p =>
    -- `HH[ ]h`, `MM[ ]m`, `SS[.ss][ ]s`
    rcases p with ⟨j, h0⟩
    have hp := (parseHms_eq info idx tokens j h0 (findHmsIdx_spec info idx tokens true j h0 hf)).1
    have hadd : idx + ((if j > idx then j else idx) - idx) = (if j > idx then j else idx) := by
      split <;> omega
    simp only [Option.map_some, ne_eq, reduceCtorEq, not_false_eq_true, if_true, hp, bind_ok, PPy.optNat, assignHms_eq,
      PM.numHms, bind_eq, pure_eq, bind_assoc, hadd]
  | none =>
  simp only [Option.map_none, ne_eq, not_true_eq_false, if_false]
  cases h1 : tokens[idx + 1]? with
  | none =>
    -- the last token: a year / month / day
    have ge1 := ge_of_none h1
    have lt2 : ¬ idx + 2 < tokens.length := Nat.not_lt.mpr (Nat.le_succ_of_le ge1)
    simp only [lt2, Nat.not_lt.mpr ge1, ge_iff_le, ge1, if_false, if_true, false_and, true_or, bind_ok,
      Bool.false_eq_true, PM.numJump, appendDec_eq, bind_eq, pure_eq, bind_assoc]
  | some t1 =>
  have lt1 := lt_of_some h1
  simp only [tokAt_some h1, tokIs_some h1, lt1, ge_iff_le, Nat.not_le.mpr lt1, false_or, true_and, if_false, bind_ok,
    ite_and_ok, tk_colon, tk_dash, tk_slash, tk_dot, Option.some.injEq, Bool.and_eq_true, decide_eq_true_eq,
    Option.any_some, info_jump_eq]
  -- `HH:MM[:SS[.ss]]`
  repeat rw [bind_assoc]
  refine bind_ite_congr _ _ _ _ _ _ _ (fun _ => ?_) (fun _ => ?_)
  · simp only [PM.numColon, bind_eq, pure_eq, bind_assoc, bind_ite, bind_ok, parseMinSec_eq, parsems_eq, Nat.add_assoc]
  -- `01-01[-01]`, `01-Jan[-01]`
  repeat rw [bind_assoc]
  refine bind_ite_congr _ _ _ _ _ _ _ (fun _ => ?_) (fun _ => ?_)
  · simp only [PM.numSep, tokAt_some h1, bind_eq, pure_eq, bind_assoc, bind_ok, appendTok_eq]
    refine bind_congr rfl fun a => ?_
    cases h2 : tokens[idx + 2]? with
    | none => simp only [Nat.not_lt.mpr (ge_of_none h2), if_false, bind_ok, Bool.false_eq_true]
    | some t2 =>
      simp only [lt_of_some h2, if_true, tokAt_some h2, bind_ok, info_month_eq, appendNat_eq, decide_not,
        Bool.not_eq_true', decide_eq_false_iff_not, ite_not]
      refine bind_ite_congr _ _ _ _ _ _ _ (fun _ => ?_) (fun _ => ?_)
      · simp only [bind_ok]
      -- the second member, then the third
      rw [bind_assoc, bind_assoc]
      refine bind_congr ?_ fun y => ?_
      · unfold PM.sepSecond
        cases info.monthOf t2 <;> simp [bind_ok_id, PPy.optNat, bind_ok]
      rw [bind_assoc]
      refine bind_ite_congr _ _ _ _ _ _ _ (fun _ => ?_) (fun _ => ?_)
      · cases h4 : tokens[idx + 4]? with
        | none => simp only [tokAt_none h4, bind_err]
        | some t4 =>
          simp only [tokAt_some h4, bind_ok, PM.sepThird]
          cases info.monthOf t4 <;> simp [bind_ok_id, PPy.optNat, bind_ok, bind_assoc, Nat.add_assoc]
      · simp only [bind_ok, Nat.add_assoc]
  -- a number followed by a jump word: `12 am`, or a year / month / day
  repeat rw [bind_assoc]
  refine bind_ite_congr _ _ _ _ _ _ _ (fun _ => ?_) (fun _ => ?_)
  · simp only [PM.numJump, bind_eq, pure_eq, bind_assoc, bind_ok, appendDec_eq]
    cases h2 : tokens[idx + 2]? with
    | none => simp only [Nat.not_lt.mpr (ge_of_none h2), if_false, bind_ok, Bool.false_eq_true, bind_assoc]
    | some t2 =>
      simp only [lt_of_some h2, if_true, tokAt_some h2, bind_ok, info_ampm_eq, Option.bind_some]
      cases ha : info.ampmOf t2 with
      | none => simp only [bind_ok, not_true_eq_false, decide_false, Bool.false_eq_true, if_false, bind_assoc]
      | some ap => simp [bind_ok, PPy.optNat, natOfInt_adjust, PM.adjustAmpm]
  -- `12am`, else `could_be_day` / `not fuzzy` / nothing
  · simp only [PM.numAmpmOrDay, PM.dayOrFail, h1, bind_eq, pure_eq, bind_assoc, bind_ok, appendDec_eq, info_ampm_eq,
      couldBeDay_eq, Option.bind_some]
    cases ha : info.ampmOf t1 with
    | none => simp [bind_ok, bind_assoc, bind_ite, throw_eq', bind_err]
    | some ap =>
      simp [bind_ok, bind_assoc, bind_ite, throw_eq', bind_err, PPy.optNat, natOfInt_adjust, PM.adjustAmpm, geNat_zero]

end PGen
