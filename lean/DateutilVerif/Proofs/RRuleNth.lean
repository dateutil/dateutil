/-
  Proofs/RRuleNth.lean — the nth-weekday mask of `_iterinfo.rebuild` (the loop `for wday, n in
  rr._bynweekday` inside `for first, last in ranges`, with the range guard of the D-C01b fix): one `(weekday, n)` inside one `(first, last)` range marks exactly the day
  of the range that has that weekday and is the `n`-th such day from the start (`n > 0`) or from the
  end (`n < 0`); nothing raises and no other entry changes.
-/
import DateutilVerif.Proofs.RRuleEaster
import DateutilVerif.Proofs.Range

namespace RRule
open Cal

/-- `j` is the `n`-th day of its weekday inside `[first, last]`, counted from the start or the end -/
def nthAt (first last j n : Int) : Prop :=
  if n > 0 then (j - first) / 7 + 1 = n else -((last - j) / 7 + 1) = n

instance (first last j n : Int) : Decidable (nthAt first last j n) := by unfold nthAt; exact inferInstance

variable {r : Rule} {y : Int} {info : Info}

theorem markNth_spec (f : YearFacts r y info) (first last : Int) (h0 : 0 ≤ first) (hl : last < info.yearlen)
    (mask : List Int) (hlen : (mask.length : Int) = info.yearlen) (wn : Int × Int)
    (hw : 0 ≤ wn.1 ∧ wn.1 ≤ 6) (hn : wn.2 ≠ 0) :
    ∃ mask', markNth info.wdaymask first last mask wn = .ok mask' ∧ mask'.length = mask.length ∧
      ∀ j : Int, 0 ≤ j → j < info.yearlen →
        Py.getIdx mask' j =
          (if first ≤ j ∧ j ≤ last ∧ weekdayOfOrd (info.yearordinal + j) = wn.1 ∧ nthAt first last j wn.2
           then .ok 1 else Py.getIdx mask j) := by
  have hylen : info.yearlen ≤ 366 := by rw [f.yearlen]; unfold daysInYear; split <;> omega
  obtain ⟨wday, n⟩ := wn
  dsimp only at hw hn ⊢
  have hwd : ∀ i j : Int, weekdayOfOrd (info.yearordinal + j) =
      (weekdayOfOrd (info.yearordinal + i) + (j - i)) % 7 := by
    intro i j
    have e : info.yearordinal + j = info.yearordinal + i + (j - i) := by omega
    rw [e, weekdayOfOrd_add]
  unfold markNth
  dsimp only
  by_cases hneg : n < 0
  · rw [if_pos hneg]
    by_cases hi : last + (n + 1) * 7 < first
    · rw [if_pos hi]
      refine ⟨mask, rfl, rfl, ?_⟩
      intro j hj0 hj1
      rw [if_neg]
      rintro ⟨h1, h2, _, h4⟩
      unfold nthAt at h4; rw [if_neg (by omega)] at h4
      omega
    · rw [if_neg hi]
      have hir : 0 ≤ last + (n + 1) * 7 ∧ last + (n + 1) * 7 < 379 := by omega
      rw [wdaymask_date f _ hir.1 hir.2]
      dsimp only
      have hrange := weekdayOfOrd_range (info.yearordinal + (last + (n + 1) * 7))
      rw [Py.fmod_pos _ (by omega : (0 : Int) < 7)]
      generalize hw0 : weekdayOfOrd (info.yearordinal + (last + (n + 1) * 7)) = w0 at hrange
      have hwd' := hwd (last + (n + 1) * 7)
      rw [hw0] at hwd'
      by_cases hin : first ≤ last + (n + 1) * 7 - (w0 - wday) % 7 ∧ last + (n + 1) * 7 - (w0 - wday) % 7 ≤ last
      · rw [if_pos hin]
        obtain ⟨m1, hm1, hl1, _⟩ := getIdx_set mask (last + (n + 1) * 7 - (w0 - wday) % 7) 0 1
          (by omega) (by omega)
        refine ⟨m1, hm1, hl1, ?_⟩
        intro j hj0 hj1
        obtain ⟨m1', hm1', _, hg⟩ := getIdx_set mask (last + (n + 1) * 7 - (w0 - wday) % 7) j 1
          (by omega) (by omega)
        rw [hm1] at hm1'; injection hm1' with e; subst e
        rw [hg]
        by_cases c : j = last + (n + 1) * 7 - (w0 - wday) % 7
        · rw [if_pos c, if_pos]
          refine ⟨by omega, by omega, ?_, ?_⟩
          · rw [hwd' j]; omega
          · unfold nthAt; rw [if_neg (by omega)]; omega
        · rw [if_neg c, if_neg]
          rintro ⟨h1, h2, h3, h4⟩
          unfold nthAt at h4; rw [if_neg (by omega)] at h4
          rw [hwd' j] at h3
          omega
      · rw [if_neg hin]
        refine ⟨mask, rfl, rfl, ?_⟩
        intro j hj0 hj1
        rw [if_neg]
        rintro ⟨h1, h2, h3, h4⟩
        unfold nthAt at h4; rw [if_neg (by omega)] at h4
        rw [hwd' j] at h3
        omega
  · rw [if_neg hneg]
    have hpos : 0 < n := by omega
    by_cases hi : first + (n - 1) * 7 > last
    · rw [if_pos hi]
      refine ⟨mask, rfl, rfl, ?_⟩
      intro j hj0 hj1
      rw [if_neg]
      rintro ⟨h1, h2, _, h4⟩
      unfold nthAt at h4; rw [if_pos hpos] at h4
      omega
    · rw [if_neg hi]
      have hir : 0 ≤ first + (n - 1) * 7 ∧ first + (n - 1) * 7 < 379 := by omega
      rw [wdaymask_date f _ hir.1 hir.2]
      dsimp only
      have hrange := weekdayOfOrd_range (info.yearordinal + (first + (n - 1) * 7))
      rw [Py.fmod_pos _ (by omega : (0 : Int) < 7)]
      generalize hw0 : weekdayOfOrd (info.yearordinal + (first + (n - 1) * 7)) = w0 at hrange
      have hwd' := hwd (first + (n - 1) * 7)
      rw [hw0] at hwd'
      by_cases hin : first ≤ first + (n - 1) * 7 + (7 - w0 + wday) % 7 ∧ first + (n - 1) * 7 + (7 - w0 + wday) % 7 ≤ last
      · rw [if_pos hin]
        obtain ⟨m1, hm1, hl1, _⟩ := getIdx_set mask (first + (n - 1) * 7 + (7 - w0 + wday) % 7) 0 1
          (by omega) (by omega)
        refine ⟨m1, hm1, hl1, ?_⟩
        intro j hj0 hj1
        obtain ⟨m1', hm1', _, hg⟩ := getIdx_set mask (first + (n - 1) * 7 + (7 - w0 + wday) % 7) j 1
          (by omega) (by omega)
        rw [hm1] at hm1'; injection hm1' with e; subst e
        rw [hg]
        by_cases c : j = first + (n - 1) * 7 + (7 - w0 + wday) % 7
        · rw [if_pos c, if_pos]
          refine ⟨by omega, by omega, ?_, ?_⟩
          · rw [hwd' j]; omega
          · unfold nthAt; rw [if_pos hpos]; omega
        · rw [if_neg c, if_neg]
          rintro ⟨h1, h2, h3, h4⟩
          unfold nthAt at h4; rw [if_pos hpos] at h4
          rw [hwd' j] at h3
          omega
      · rw [if_neg hin]
        refine ⟨mask, rfl, rfl, ?_⟩
        intro j hj0 hj1
        rw [if_neg]
        rintro ⟨h1, h2, h3, h4⟩
        unfold nthAt at h4; rw [if_pos hpos] at h4
        rw [hwd' j] at h3
        omega

/-- the condition under which the pair `wn` marks index `j` -/
def marks (info : Info) (first last j : Int) (wn : Int × Int) : Prop :=
  first ≤ j ∧ j ≤ last ∧ weekdayOfOrd (info.yearordinal + j) = wn.1 ∧ nthAt first last j wn.2

instance (info : Info) (first last j : Int) (wn : Int × Int) : Decidable (marks info first last j wn) := by
  unfold marks; exact inferInstance

/-- all pairs of BYDAY inside one range -/
theorem markNth_fold (f : YearFacts r y info) (first last : Int) (h0 : 0 ≤ first) (hl : last < info.yearlen) :
    ∀ (nwl : List (Int × Int)) (mask : List Int), (mask.length : Int) = info.yearlen →
    (∀ wn ∈ nwl, (0 ≤ wn.1 ∧ wn.1 ≤ 6) ∧ wn.2 ≠ 0) →
    ∃ mask', nwl.foldlM (markNth info.wdaymask first last) mask = .ok mask' ∧ mask'.length = mask.length ∧
      ∀ j : Int, 0 ≤ j → j < info.yearlen →
        Py.getIdx mask' j = (if ∃ wn ∈ nwl, marks info first last j wn then .ok 1 else Py.getIdx mask j) := by
  intro nwl
  induction nwl with
  | nil => intro mask _ _; exact ⟨mask, rfl, rfl, by intro j _ _; simp⟩
  | cons wn wns ih =>
    intro mask hlen hok
    have hwn := hok wn (List.mem_cons_self ..)
    obtain ⟨m1, h1, hl1, hg1⟩ := markNth_spec f first last h0 hl mask hlen wn hwn.1 hwn.2
    obtain ⟨m2, h2, hl2, hg2⟩ := ih m1 (by rw [hl1]; exact hlen) (fun w hw => hok w (List.mem_cons_of_mem _ hw))
    refine ⟨m2, ?_, by rw [hl2, hl1], ?_⟩
    · rw [List.foldlM_cons, h1]; exact h2
    · intro j hj0 hj1
      rw [hg2 j hj0 hj1, hg1 j hj0 hj1]
      by_cases c1 : ∃ w ∈ wns, marks info first last j w
      · rw [if_pos c1, if_pos]
        obtain ⟨w, hw, hm⟩ := c1
        exact ⟨w, List.mem_cons_of_mem _ hw, hm⟩
      · rw [if_neg c1]
        by_cases c2 : first ≤ j ∧ j ≤ last ∧ weekdayOfOrd (info.yearordinal + j) = wn.1 ∧ nthAt first last j wn.2
        · rw [if_pos c2, if_pos ⟨wn, List.mem_cons_self .., c2⟩]
        · rw [if_neg c2, if_neg]
          rintro ⟨w, hw, hm⟩
          rcases List.mem_cons.mp hw with rfl | hw
          · exact c2 hm
          · exact c1 ⟨w, hw, hm⟩

def sliceOK (leap : Bool) (m : Int) : Bool :=
  Py.slice (Tables.mrangeOf leap) (some (m - 1)) (some (m + 1)) none ==
    .ok [dbmTable m + (if m > 2 && leap then 1 else 0), dbmTable (m + 1) + (if m + 1 > 2 && leap then 1 else 0)]

theorem slice_table : ∀ leap : Bool, ∀ k : Fin 12, sliceOK leap (1 + (k.val : Int)) = true := by decide +kernel

theorem mrange_slice (leap : Bool) (m : Int) (h1 : 1 ≤ m) (h2 : m ≤ 12) :
    Py.slice (Tables.mrangeOf leap) (some (m - 1)) (some (m + 1)) none =
      .ok [dbmTable m + (if m > 2 && leap then 1 else 0), dbmTable (m + 1) + (if m + 1 > 2 && leap then 1 else 0)] := by
  have := allRange_lift 1 12 (sliceOK leap) (slice_table leap) m h1 (by omega)
  simpa [sliceOK] using this

/-- **the nth-weekday mask of a MONTHLY rule**: building it raises nothing, and index `j` is marked
    exactly when its date lies in the cursor's month, has the weekday of one of the BYDAY pairs and is
    the `n`-th such weekday of the month counted from the start (`n > 0`) or the end (`n < 0`) -/
theorem nwdaymask_monthly (f : YearFacts r y info) (hf : r.freq = 1) (nwl : List (Int × Int)) (hne : nwl ≠ [])
    (hnw : r.bynweekday = some nwl) (hok : ∀ wn ∈ nwl, (0 ≤ wn.1 ∧ wn.1 ≤ 6) ∧ wn.2 ≠ 0)
    (month : Int) (hm1 : 1 ≤ month) (hm12 : month ≤ 12) :
    ∃ mask, buildNwdaymask r info.yearlen info.mrange info.wdaymask month = .ok (some mask) ∧
      (mask.length : Int) = info.yearlen ∧
      ∀ j : Int, 0 ≤ j → j < info.yearlen →
        Py.getIdx mask j = .ok (if ∃ wn ∈ nwl, marks info (daysBeforeMonth y month)
            (daysBeforeMonth y month + daysInMonth y month - 1) j wn then 1 else 0) := by
  have hyl := f.yearlen
  have hylen : 365 ≤ info.yearlen ∧ info.yearlen ≤ 366 := by rw [hyl]; unfold daysInYear; split <;> omega
  unfold buildNwdaymask
  rw [hnw]
  cases nwl with
  | nil => exact absurd rfl hne
  | cons nw0 nws =>
    simp only [bind, Except.bind]
    rw [if_neg (by simp [hf]), if_pos (by simp [hf]), f.mrange, mrange_slice _ month hm1 hm12]
    have hs := daysBeforeMonth_succ y month hm1 hm12
    have hb := daysInMonth_bounds y month
    have hdbm0 := daysBeforeMonth_mono y 1 month (by omega) hm1 (by omega)
    rw [daysBeforeMonth_1] at hdbm0
    have hdbm1 := daysBeforeMonth_mono y (month + 1) 13 (by omega) (by omega) (by omega)
    rw [daysBeforeMonth_13, ← hyl] at hdbm1
    have e1 : dbmTable month + (if (decide (month > 2) && isLeap y) = true then 1 else 0) = daysBeforeMonth y month := rfl
    have e2 : dbmTable (month + 1) + (if (decide (month + 1 > 2) && isLeap y) = true then 1 else 0) - 1 =
        daysBeforeMonth y month + daysInMonth y month - 1 := by
      have : dbmTable (month + 1) + (if (decide (month + 1 > 2) && isLeap y) = true then 1 else 0) =
          daysBeforeMonth y (month + 1) := rfl
      rw [this, hs]
    have hlen0 : ((List.replicate info.yearlen.toNat (0 : Int)).length : Int) = info.yearlen := by
      rw [List.length_replicate]; omega
    obtain ⟨mask, h1, hl2, h3⟩ := markNth_fold f (daysBeforeMonth y month)
      (daysBeforeMonth y month + daysInMonth y month - 1) hdbm0 (by omega) (nw0 :: nws) _ hlen0 hok
    simp only [pure, Except.pure, List.isEmpty_cons, Bool.false_eq_true, ↓reduceIte, List.foldlM_cons,
      List.foldlM_nil, bind, Except.bind, e1, e2] at h1 ⊢
    rw [h1]
    refine ⟨mask, rfl, by rw [hl2]; exact hlen0, ?_⟩
    intro j hj0 hj1
    rw [h3 j hj0 hj1]
    split
    · rfl
    · rw [getIdx_int _ j hj0 (by rw [hlen0]; exact hj1)]
      simp

end RRule
