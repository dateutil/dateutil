/-
  Proofs/RRuleSecondlyBS.lean — SECONDLY WITH BYSECOND (and optionally BYHOUR / BYMINUTE) under the explicit reachability
  hypothesis `reachableSS`: some second of the grid has listed hour, minute and second.  The two argument classes as
  instances of Proofs/RRuleSubSecondly.lean.
-/
import DateutilVerif.Proofs.RRuleSecondly

namespace RRule
open Cal

structure SecondlyBSArgs (a : Args) : Prop where
  freq : a.freq = 6
  interval : 1 ≤ a.interval
  valid : a.dtstart.Valid
  weekno : WArg a
  byeaster : a.byeaster = none
  monthday_nz : ∀ x ∈ a.bymonthday.getD [], x ≠ 0
  hours : a.byhour = none ∨ ∃ l, a.byhour = some l ∧ l ≠ []
  minutes : a.byminute = none ∨ ∃ l, a.byminute = some l ∧ l ≠ []
  seconds : ∃ l, a.bysecond = some l
  reach : reachableSS a

structure SecondlyBSEArgs (a : Args) : Prop where
  freq : a.freq = 6
  interval : 1 ≤ a.interval
  valid : a.dtstart.Valid
  byweekno : a.byweekno = none
  easter : ∃ el, a.byeaster = some el ∧ el ≠ [] ∧ ∀ o ∈ el, -80 ≤ o ∧ o ≤ 250
  monthday_nz : ∀ x ∈ a.bymonthday.getD [], x ≠ 0
  hours : a.byhour = none ∨ ∃ l, a.byhour = some l ∧ l ≠ []
  minutes : a.byminute = none ∨ ∃ l, a.byminute = some l ∧ l ≠ []
  seconds : ∃ l, a.bysecond = some l
  reach : reachableSS a

variable {a : Args} {r : Rule}

theorem secondly_reach_ss (hr : reachableSS a) (k : Nat) :
    ∃ t : Nat, 1 ≤ t ∧ t ≤ 86400 ∧ SubFreq.listed .secondly a
      (((a.dtstart.hh * 60 + a.dtstart.mm) * 60 + a.dtstart.ss + ((k + t : Nat) : Int) * a.interval) % 86400) = true := by
  unfold reachableSS at hr
  rw [List.any_eq_true] at hr
  obtain ⟨j, _, hj⟩ := hr
  exact secondly_reach a j hj k

/-- **`iter_eq_spec`, SECONDLY with BYSECOND** (BYHOUR, BYMINUTE optional) under `reachableSS a`: `n ≤ m ≤ 172800·n`
    (86399 + 86400, as in `iter_eq_spec_secondly_bhm`) -/
theorem iter_eq_spec_secondly_bysecond (sa : SecondlyBSArgs a) (h : construct a = .ok r) (n : Nat)
    (hle : ((Spec.RRule.startOrd a * 24 + a.dtstart.hh) * 60 + a.dtstart.mm) * 60 + a.dtstart.ss +
      (172800 * n + 86400) * a.interval + 86399 < (maxOrdinal + 1) * 86400) :
    ∃ m, n ≤ m ∧ m ≤ 172800 * n ∧ (iter r n).1 = Spec.RRule.occ a m := by
  have hv := sa.valid
  unfold DT.Valid ValidDate at hv
  exact iter_eq_spec_secondly_filter (wFilter h (by rw [sa.freq]; omega) sa.interval sa.valid sa.weekno sa.byeaster sa.monthday_nz) h sa.freq sa.interval sa.valid sa.hours sa.minutes
    86400 172800 (secondly_reach_ss sa.reach) (by omega) n hv.1.1 hle

/-- **`iter_eq_spec_secondly_bysecond_easter`**: `iter_eq_spec_secondly_bysecond` with BYEASTER instead of "no
    BYEASTER" — offsets −80..250 (the complement of D-C01d), no BYWEEKNO, a start in a year ≥ 1583 and every
    visited day not after 31 December 4099 (where C19 ties `easter.easter` to Meeus/Jones/Butcher); everything
    else as there, `n ≤ m ≤ 172800·n`. -/
theorem iter_eq_spec_secondly_bysecond_easter (sa : SecondlyBSEArgs a) (h : construct a = .ok r) (n : Nat)
    (hlo : 1583 ≤ a.dtstart.y)
    (hle : ((Spec.RRule.startOrd a * 24 + a.dtstart.hh) * 60 + a.dtstart.mm) * 60 + a.dtstart.ss +
      (172800 * n + 86400) * a.interval + 86399 < (Cal.toOrdinal 4099 12 31 + 1) * 86400) :
    ∃ m, n ≤ m ∧ m ≤ 172800 * n ∧ (iter r n).1 = Spec.RRule.occ a m :=
  iter_eq_spec_secondly_filter (eFilter h (by rw [sa.freq]; omega) sa.interval sa.valid sa.byweekno sa.easter sa.monthday_nz) h sa.freq sa.interval sa.valid sa.hours sa.minutes
    86400 172800 (secondly_reach_ss sa.reach) (by omega) n hlo hle

-- a SecondlyBSArgs instance: every 45 seconds from 09:00:00, only at seconds 0 and 30 of minutes 0 and 30
-- (reachability by the explicit witness j = 0, the start itself)
example : SecondlyBSArgs { freq := 6, dtstart := ⟨2024, 1, 1, 9, 0, 0, 0⟩, interval := 45, byminute := some [0, 30],
                           bysecond := some [0, 30] } :=
  ⟨rfl, by decide, by decide, Or.inl rfl, rfl, by intro x hx; simp at hx, Or.inl rfl,
   Or.inr ⟨[0, 30], rfl, by decide⟩, ⟨[0, 30], rfl⟩,
   List.any_eq_true.mpr ⟨0, List.mem_range.mpr (by omega), by decide⟩⟩
-- … and one whose start is not itself listed: every 7 s from 09:00:00 at second 21 only (witness j = 3)
example : SecondlyBSArgs { freq := 6, dtstart := ⟨2024, 1, 1, 9, 0, 0, 0⟩, interval := 7, bysecond := some [21] } :=
  ⟨rfl, by decide, by decide, Or.inl rfl, rfl, by intro x hx; simp at hx, Or.inl rfl, Or.inl rfl, ⟨[21], rfl⟩,
   List.any_eq_true.mpr ⟨3, List.mem_range.mpr (by omega), by decide⟩⟩

-- non-vacuity: the hypotheses are satisfiable
example : SecondlyBSEArgs { freq := 6, dtstart := ⟨2024, 1, 1, 9, 0, 0, 0⟩, interval := 45, byeaster := some [0, 1],
                            byminute := some [0, 30], bysecond := some [0, 30] } :=
  { freq := rfl, interval := (by decide), valid := (by decide), byweekno := rfl,
    easter := ⟨[0, 1], rfl, by simp, by intro o ho; simp at ho; omega⟩,
    monthday_nz := (by intro x hx; simp at hx), hours := Or.inl rfl, minutes := Or.inr ⟨[0, 30], rfl, by decide⟩,
    seconds := ⟨[0, 30], rfl⟩, reach := List.any_eq_true.mpr ⟨0, List.mem_range.mpr (by omega), by decide⟩ }

end RRule
