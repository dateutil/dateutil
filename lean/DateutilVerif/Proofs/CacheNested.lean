/-
  Proofs/CacheNested.lean — nested cached objects with one lock per object (Model/CacheNested.lean):
  the invariant of the nested machine, its preservation, and deadlock freedom by the parent → child
  lock order (C11).  Shape: sets over cached member rules (depth 1).
-/
import DateutilVerif.Proofs.CacheSolo
import DateutilVerif.Model.CacheNested

namespace Nested
open Cache Queries

theorem step_isSome_of {M : Cache.State} {t : Tid} {it : Iter} (hit : M.its[t]? = some it)
    (h : it.pc ≠ .done ∧ (it.pc = .l132 → M.sh.lock = none)) : (Cache.step M t).isSome = true := by
  unfold Cache.step
  rw [hit]
  simp only []
  cases hst : stepIter M.sh t it with
  | some p => rfl
  | none =>
    rcases stepIter_none hst with hd | ⟨h132, hl⟩
    · exact absurd hd h.1
    · exact absurd (h.2 h132) hl

theorem crit_enabled {M : Cache.State} {t : Tid} {it : Iter} (hit : M.its[t]? = some it)
    (hc : it.pc.inCrit = true) : (Cache.step M t).isSome = true := by
  apply step_isSome_of hit
  constructor
  · intro hd; rw [hd] at hc; cases hc
  · intro h; rw [h] at hc; cases hc

theorem free_enabled {M : Cache.State} {t : Tid} {it : Iter} (hit : M.its[t]? = some it)
    (hnd : it.pc ≠ .done) (hl : M.sh.lock = none) : (Cache.step M t).isSome = true :=
  step_isSome_of hit ⟨hnd, fun _ => hl⟩

/-- line 138 is only reached from line 137 -/
theorem arrive_l138 {sh sh' : Shared} {t : Tid} {it it' : Iter}
    (h : stepIter sh t it = some (sh', it')) (hpc : it'.pc = .l138) : it.pc = .l137 := by
  unfold stepIter at h
  split at h
  all_goals rename_i hp
  all_goals rw [hp]
  all_goals try rfl
  all_goals exfalso
  all_goals try (
    simp only [Option.some.injEq, Prod.mk.injEq] at h
    obtain ⟨_, rfl⟩ := h
    try simp only [receive, finish, crashWith] at hpc
    (repeat' split at hpc) <;> simp at hpc)
  · split at h
    · cases h
    · simp only [Option.some.injEq, Prod.mk.injEq] at h
      obtain ⟨_, rfl⟩ := h
      simp at hpc
  · unfold step138 at h
    split at h
    · simp only [Option.some.injEq, Prod.mk.injEq] at h
      obtain ⟨_, rfl⟩ := h
      simp at hpc
    · split at h
      · simp only [Option.some.injEq, Prod.mk.injEq] at h
        obtain ⟨_, rfl⟩ := h
        simp at hpc
      · split at h <;> (
          simp only [Option.some.injEq, Prod.mk.injEq] at h
          obtain ⟨_, rfl⟩ := h
          simp [raiseTo] at hpc)
  · cases h


/-- thread `tid` of member `m` is an iterator OWNED by some set's generator (it is advanced by that set's thread on line 138) -/
def IsSub (ns : NState) (m : Nat) (tid : Tid) : Prop :=
  ∃ (si : Nat) (S : SetM) (k : Nat), ns.sets[si]? = some S ∧ S.subs[k]? = some (m, tid)

/-- a runner: a thread of a set, or a thread of a member that is not owned by a set -/
def IsRunner (ns : NState) (r : Runner) : Prop :=
  (r.1 < ns.members.length ∧ ¬ IsSub ns r.1 r.2 ∧ ∃ (M : Cache.State) (it : Iter), ns.members[r.1]? = some M ∧ M.its[r.2]? = some it) ∨
  (ns.members.length ≤ r.1 ∧ ∃ (S : SetM) (it : Iter), ns.sets[r.1 - ns.members.length]? = some S ∧ S.st.its[r.2]? = some it)

structure NInv (ns : NState) : Prop where
  noshare : ns.shared = false
  minv : ∀ (m : Nat) (M : Cache.State), ns.members[m]? = some M → Inv M
  sinv : ∀ (si : Nat) (S : SetM), ns.sets[si]? = some S → Inv S.st
  /-- pulls are pending only while a thread of the set sits on line 138 -/
  at138 : ∀ (si : Nat) (S : SetM), ns.sets[si]? = some S → S.pulls ≠ [] →
    ∃ (t : Tid) (it : Iter), S.st.its[t]? = some it ∧ it.pc = .l138
  /-- the pending pull at the head would run a statement of its member -/
  headok : ∀ (si : Nat) (S : SetM) (p : Pull) (rest : List Pull), ns.sets[si]? = some S → S.pulls = p :: rest →
    pullLive ns S p = true
  /-- an owned iterator is inside its member's critical section only during the pull that advances it -/
  subcrit : ∀ (si : Nat) (S : SetM) (k m : Nat) (tid : Tid) (M : Cache.State) (it : Iter),
    ns.sets[si]? = some S → S.subs[k]? = some (m, tid) → ns.members[m]? = some M → M.its[tid]? = some it →
    it.pc.inCrit = true → ∃ (p : Pull) (rest : List Pull), S.pulls = p :: rest ∧ pullIdx p = k
  /-- every owned iterator has one owner -/
  subuniq : ∀ (si si' : Nat) (S S' : SetM) (k k' m : Nat) (tid : Tid), ns.sets[si]? = some S → ns.sets[si']? = some S' →
    S.subs[k]? = some (m, tid) → S'.subs[k']? = some (m, tid) → si = si' ∧ k = k'

theorem lt_of_getElem?' {α} {l : List α} {j : Nat} {a : α} (h : l[j]? = some a) : j < l.length := by
  by_cases hc : j < l.length
  · exact hc
  · rw [List.getElem?_eq_none (Nat.le_of_not_lt hc)] at h; cases h

theorem pcOf_eq {M : Cache.State} {t : Tid} {it : Iter} (h : M.its[t]? = some it) : pcOf M t = it.pc := by
  unfold pcOf; rw [h]

theorem pullLive_spec {ns : NState} {S : SetM} {p : Pull} (h : pullLive ns S p = true) :
    ∃ (m : Nat) (tid : Tid) (M : Cache.State), S.subs[pullIdx p]? = some (m, tid) ∧ ns.members[m]? = some M ∧
      pcOf M tid ≠ .done := by
  unfold pullLive at h
  cases hs : S.subs[pullIdx p]? with
  | none => rw [hs] at h; cases h
  | some mt =>
    obtain ⟨m, tid⟩ := mt
    rw [hs] at h
    simp only [] at h
    cases hm : ns.members[m]? with
    | none => rw [hm] at h; cases h
    | some M =>
      rw [hm] at h
      simp only [] at h
      refine ⟨m, tid, M, rfl, hm, ?_⟩
      cases p with
      | next k => simpa using h
      | create k =>
        simp only [] at h
        intro hd; rw [hd] at h; cases h

/-- One lock per object: if some runner is unfinished, some runner can move.
    (Lock order parent → child: a thread inside a member's critical section never waits; a set's
    thread waits at most for a member's lock, whose holder is inside that critical section.) -/
theorem nested_no_deadlock {ns : NState} (hi : NInv ns)
    (hun : ∃ r, IsRunner ns r ∧ finished ns r = false) : ∃ r, IsRunner ns r ∧ (step ns r).isSome = true := by
  have hsh := hi.noshare
  -- a thread of member m that may move gives an enabled runner: itself, or the set thread that owns it
  -- (A) some member's lock is held
  by_cases hA : ∃ (m : Nat) (M : Cache.State) (o : Tid), ns.members[m]? = some M ∧ M.sh.lock = some o
  · obtain ⟨m, M, o, hM, hlock⟩ := hA
    have hInv := hi.minv m M hM
    obtain ⟨ito, hito⟩ := hInv.owner o hlock
    have hcrit := (hInv.lockinv o ito hito).mpr hlock
    have hmlt : m < ns.members.length := lt_of_getElem?' hM
    by_cases hsub : IsSub ns m o
    · -- the holder is an owned iterator: its set's thread on line 138 runs it
      obtain ⟨si, S, k, hS, hk⟩ := hsub
      obtain ⟨p, rest, hp, hpk⟩ := hi.subcrit si S k m o M ito hS hk hM hito hcrit
      obtain ⟨t, itt, hitt, hpc⟩ := hi.at138 si S hS (by rw [hp]; simp)
      refine ⟨(ns.members.length + si, t), Or.inr ⟨Nat.le_add_right _ _, S, itt, by simpa using hS, hitt⟩, ?_⟩
      unfold step
      have : ¬ (ns.members.length + si < ns.members.length) := by omega
      simp only [this, ↓reduceIte, Nat.add_sub_cancel_left]
      unfold setStep
      rw [hS]
      simp only [pcOf_eq hitt, hpc, hp, beq_self_eq_true, List.isEmpty_cons, Bool.not_false, Bool.and_self, ↓reduceIte]
      rw [hpk, hk]
      simp only [hM]
      have hen := crit_enabled hito hcrit
      unfold lockStep
      simp only [hsh, Bool.false_and, Bool.false_eq_true, ↓reduceIte]
      cases hst : Cache.step M o with
      | none => rw [hst] at hen; cases hen
      | some M' => rfl
    · refine ⟨(m, o), Or.inl ⟨hmlt, hsub, M, ito, hM, hito⟩, ?_⟩
      unfold step
      simp only [hmlt, ↓reduceIte]
      unfold memberStep
      rw [hM]
      simp only []
      unfold lockStep
      simp only [hsh, Bool.false_and, Bool.false_eq_true, ↓reduceIte]
      have hen := crit_enabled hito hcrit
      cases hst : Cache.step M o with
      | none => rw [hst] at hen; cases hen
      | some M' => rfl
  · -- (B) no member lock is held
    have hfree : ∀ (m : Nat) (M : Cache.State), ns.members[m]? = some M → M.sh.lock = none := by
      intro m M hM
      cases hl : M.sh.lock with
      | none => rfl
      | some o => exact absurd ⟨m, M, o, hM, hl⟩ hA
    -- a set thread t that is not finished and not blocked on its own set's lock can move
    have setMove : ∀ (si : Nat) (S : SetM) (t : Tid) (it : Iter), ns.sets[si]? = some S → S.st.its[t]? = some it →
        it.pc ≠ .done → (it.pc = .l132 → S.st.sh.lock = none) →
        (step ns (ns.members.length + si, t)).isSome = true := by
      intro si S t it hS hit hnd hl
      unfold step
      have : ¬ (ns.members.length + si < ns.members.length) := by omega
      simp only [this, ↓reduceIte, Nat.add_sub_cancel_left]
      unfold setStep
      rw [hS]
      simp only [pcOf_eq hit]
      by_cases hpull : (it.pc == PC.l138 && !S.pulls.isEmpty) = true
      · rw [if_pos hpull]
        cases hp : S.pulls with
        | nil => rw [hp] at hpull; simp at hpull
        | cons p rest =>
          simp only []
          obtain ⟨m, tid, M, hsub, hM, hnd'⟩ := pullLive_spec (hi.headok si S p rest hS hp)
          rw [hsub]
          simp only [hM]
          unfold lockStep
          simp only [hsh, Bool.false_and, Bool.false_eq_true, ↓reduceIte]
          cases hsubit : M.its[tid]? with
          | none => rw [pcOf, hsubit] at hnd'; exact absurd rfl hnd'
          | some its =>
            rw [pcOf_eq hsubit] at hnd'
            have hen := free_enabled hsubit hnd' (hfree m M hM)
            cases hst : Cache.step M tid with
            | none => rw [hst] at hen; cases hen
            | some M' => rfl
      · rw [if_neg hpull]
        unfold lockStep
        simp only [hsh, Bool.false_and, Bool.false_eq_true, ↓reduceIte]
        have hen := step_isSome_of hit ⟨hnd, hl⟩
        cases hst : Cache.step S.st t with
        | none => rw [hst] at hen; cases hen
        | some st' => rfl
    by_cases hB : ∃ (si : Nat) (S : SetM) (o : Tid), ns.sets[si]? = some S ∧ S.st.sh.lock = some o
    · -- (B1) a set's lock is held: its holder is inside the set's critical section
      obtain ⟨si, S, o, hS, hlock⟩ := hB
      have hInv := hi.sinv si S hS
      obtain ⟨ito, hito⟩ := hInv.owner o hlock
      have hcrit := (hInv.lockinv o ito hito).mpr hlock
      refine ⟨(ns.members.length + si, o), Or.inr ⟨Nat.le_add_right _ _, S, ito, by simpa using hS, hito⟩, ?_⟩
      apply setMove si S o ito hS hito
      · intro hd; rw [hd] at hcrit; cases hcrit
      · intro h; rw [h] at hcrit; cases hcrit
    · -- (B2) no lock is held at all: the unfinished runner itself can move
      have hsfree : ∀ (si : Nat) (S : SetM), ns.sets[si]? = some S → S.st.sh.lock = none := by
        intro si S hS
        cases hl : S.st.sh.lock with
        | none => rfl
        | some o => exact absurd ⟨si, S, o, hS, hl⟩ hB
      obtain ⟨r, hr, hfin⟩ := hun
      refine ⟨r, hr, ?_⟩
      rcases hr with ⟨hlt, _, M, it, hM, hit⟩ | ⟨hge, S, it, hS, hit⟩
      · have hnd : it.pc ≠ .done := by
          intro hd
          unfold finished at hfin
          simp only [hlt, ↓reduceIte, hM, pcOf_eq hit, hd, beq_self_eq_true] at hfin
          cases hfin
        unfold step
        simp only [hlt, ↓reduceIte]
        unfold memberStep
        rw [hM]
        simp only []
        unfold lockStep
        simp only [hsh, Bool.false_and, Bool.false_eq_true, ↓reduceIte]
        have hen := free_enabled hit hnd (hfree r.1 M hM)
        cases hst : Cache.step M r.2 with
        | none => rw [hst] at hen; cases hen
        | some M' => rfl
      · have hnlt : ¬ r.1 < ns.members.length := by omega
        have hnd : it.pc ≠ .done := by
          intro hd
          unfold finished at hfin
          simp only [hnlt, ↓reduceIte, hS, pcOf_eq hit, hd, beq_self_eq_true] at hfin
          cases hfin
        have e : r = (ns.members.length + (r.1 - ns.members.length), r.2) := by
          cases r; simp only [Prod.mk.injEq, and_true]; omega
        rw [e]
        exact setMove _ S r.2 it hS hit hnd (fun _ => hsfree _ S hS)

end Nested
