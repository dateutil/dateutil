/-
  Proofs/RRuleStrOpts.lean — the two outcomes of `rrulestr`, followed through `_parse_rfc` in one pass (`Py.Sat`): a result in
  which `ignoretz` / `tzinfos` / `cache` have reached every `parser.parse` call and every constructor, on all three paths
  (single-line fast path, several lines with one rule, set), or a ValueError (C13).
-/
import DateutilVerif.Proofs.PySat
import DateutilVerif.Proofs.RRuleStrDispatch

namespace RRuleStr
open ICal (isSpace upper splitOnChar pyInt rstrip strip isDigit splitLines)

variable {po : ParseOpts}

/-- the UNTIL value of an assignment, when it is one, was parsed with `po` -/
def Update.optsOK (po : ParseOpts) : Update → Prop
  | .untilV _ p => p = po
  | _ => True

/-- the UNTIL value among the arguments, when present, was parsed with `po` -/
def RArgs.optsOK (po : ParseOpts) (a : RArgs) : Prop := ∀ u, a.untilV = some u → u.2 = po

macro "fin_opts " h:ident : tactic => `(tactic|
  first
    | (cases $h:ident; first | trivial | rfl)
    | (try simp only [bind, Except.bind] at $h:ident
       split at $h:ident <;> first | (cases $h:ident; done) | (cases $h:ident; first | trivial | rfl)))

/-- only the UNTIL handler makes an UNTIL assignment, and it hands the options on -/
theorem handleU_optsOK {name value : List Char} {u : Update} (h : handleU po name value = .ok u) : u.optsOK po := by
  rw [handleU_eq] at h
  split at h
  · next f _ =>
    by_cases hf : f = .untilV
    · subst hf; cases h; rfl
    · cases u
      case untilV => exact absurd (readField_field h).symm hf
      all_goals trivial
  · cases h

theorem apply_optsOK {u : Update} {a : RArgs} (hu : u.optsOK po) (ha : a.optsOK po) : (u.apply a).optsOK po := by
  cases u
  case untilV => intro w hw; cases hw; exact hu
  all_goals exact ha

/-- the only exception kind a computation can end in is ValueError -/
abbrev OnlyVE {α : Type} (r : Py.R α) : Prop := Py.Sat r (fun _ => True) (· = .ValueError)

/-- one part, in any state: it keeps "the UNTIL value was parsed with `po`", and the `try` statement turns every failure into ValueError -/
theorem stepPair_sat (a : RArgs) (pair : List Char) :
    Py.Sat (stepPair po a pair) (fun a' => a.optsOK po → a'.optsOK po) (· = .ValueError) := by
  unfold stepPair handle
  split
  · next name value _ =>
    cases hh : handleU po (upper name) (upper value) with
    | error e => exact rfl
    | ok u => exact fun ha => apply_optsOK (handleU_optsOK hh) ha
  · exact rfl

theorem empty_optsOK : ({} : RArgs).optsOK po := by intro u hu; cases hu

theorem lineValue_onlyVE (line : List Char) : OnlyVE (lineValue line) := by
  unfold lineValue
  refine .ite ?_ (.ok trivial)
  split
  · exact .ite (.err rfl) (.ok trivial)
  · exact .err rfl

/-- `_parse_rfc_rrule(line, ignoretz=…, tzinfos=…)`: the UNTIL value is parsed with exactly these options -/
theorem ruleOf_sat (v : List Char) : Py.Sat (ruleOf po v) (RArgs.optsOK po) (· = .ValueError) :=
  .bind (P' := RArgs.optsOK po)
    (.bind (lineValue_onlyVE v) fun _ _ => .foldlM _ _ _ empty_optsOK fun a p _ ha =>
      (stepPair_sat a p).mono (fun _ h => h ha) (fun _ h => h))
    fun _ ha => .ite (.err rfl) (.ok ha)

/-- every date value collected from EXDATE / DTSTART lines was parsed with `po` -/
def Acc.optsOK (po : ParseOpts) (acc : Acc) : Prop :=
  (∀ d ∈ acc.exdatevals, d.2.2 = po) ∧ (∀ d, acc.dtstart = some d → d.2.2 = po)

theorem dateParmsOk_onlyVE (parms : List (List Char)) : OnlyVE (dateParmsOk parms) :=
  .ite (.err rfl) (.ite (.err rfl) (.ok trivial))

/-- the property dispatch, arm by arm: an EXDATE / DTSTART value is recorded with `po`; unsupported parameters, a second
    DTSTART value and unknown properties are ValueErrors -/
theorem stepProp_sat {acc : Acc} (name : List Char) (parms : List (List Char)) (value : List Char) (ha : acc.optsOK po) :
    Py.Sat (stepProp po acc name parms value) (Acc.optsOK po) (· = .ValueError) :=
  .ite (.ite (.err rfl) (.ok ha)) <|
  .ite (.ite (.err rfl) (.ok ha)) <|
  .ite (.ite (.err rfl) (.ok ha)) <|
  .ite (.bind (dateParmsOk_onlyVE _) fun _ _ => .ok
    ⟨fun d hd => (List.mem_append.mp hd).elim (ha.1 d) fun hd => by obtain ⟨x, _, rfl⟩ := List.mem_map.mp hd; rfl, ha.2⟩) <|
  .ite (.bind (dateParmsOk_onlyVE _) fun _ _ => .ite (.err rfl) (.ok ⟨ha.1, fun d hd => by cases hd; rfl⟩))
    (.err rfl)

theorem stepLine_sat {acc : Acc} (line : List Char) (ha : acc.optsOK po) :
    Py.Sat (stepLine po acc line) (Acc.optsOK po) (· = .ValueError) := by
  rw [stepLine_eq]; exact .ite (.ok ha) (stepProp_sat _ _ _ ha)

theorem emptyAcc_optsOK : ({} : Acc).optsOK po :=
  ⟨fun d hd => by simp at hd, fun d hd => by cases hd⟩

/-- what "the options reached everything" means for a result: every UNTIL of every rule, every RDATE and EXDATE value and
    the DTSTART value carry `po` (the `ignoretz` / `tzinfos` the caller passed), and the rule / the set is built with
    `cache` -/
def Parsed.optsOK (po : ParseOpts) (cache : Bool) : Parsed → Prop
  | .rule a dt c => a.optsOK po ∧ (∀ d, dt = some d → d.2.2 = po) ∧ c = cache
  | .set rr ex rd exd dt _ c =>
      (∀ a ∈ rr, a.optsOK po) ∧ (∀ a ∈ ex, a.optsOK po) ∧ (∀ d ∈ rd, d.2 = po) ∧ (∀ d ∈ exd, d.2.2 = po) ∧
      (∀ d, dt = some d → d.2.2 = po) ∧ c = cache

/-- the two single-rule paths (`_parse_rfc_rrule(…, cache=cache, ignoretz=ignoretz, tzinfos=tzinfos)`) -/
theorem buildRule_sat (v : List Char) {dt : Option DateV} (cache : Bool) (hdt : ∀ d, dt = some d → d.2.2 = po) :
    Py.Sat (buildRule po v dt cache) (Parsed.optsOK po cache) (· = .ValueError) :=
  .bind (ruleOf_sat v) fun _ ha => .ok ⟨ha, hdt, rfl⟩

theorem buildSet_sat {acc : Acc} (c kw cache : Bool) (ha : acc.optsOK po) :
    Py.Sat (buildSet po acc c kw cache) (Parsed.optsOK po cache) (· = .ValueError) :=
  .bind (.mapM _ ruleOf_sat _) fun _ hrr => .bind (.mapM _ ruleOf_sat _) fun _ hex =>
    .ok ⟨hrr, hex, fun d hd => by obtain ⟨x, _, rfl⟩ := List.mem_map.mp hd; rfl, ha.1, ha.2, rfl⟩

/-- all three paths of `_parse_rfc` -/
theorem parseLines_sat (cache : Bool) (s : List Char) (lines : List (List Char)) (f c kw : Bool) :
    Py.Sat (parseLines po cache s lines f c kw) (Parsed.optsOK po cache) (· = .ValueError) :=
  .ite (buildRule_sat _ _ (fun d hd => by cases hd)) <|                     -- the single-line fast path
    .bind (.foldlM _ _ _ emptyAcc_optsOK fun _ l _ ha => stepLine_sat l ha) fun acc hacc =>
      .ite (buildSet_sat _ _ _ hacc) <| by                                  -- the set path
        split
        · exact buildRule_sat _ _ hacc.2                                    -- several lines, one rule
        · exact .err rfl                                                    -- no RRULE at all

/-- whatever the text and the options: every failure of the model of `rrulestr` is a ValueError — unknown and malformed parts,
    unsupported properties and parameters, the empty text, a missing FREQ, a text without any RRULE — and in every successful
    result every date value (UNTIL of every rule and exrule, RDATE, EXDATE, DTSTART) was parsed with exactly the `ignoretz` /
    `tzinfos` that were passed, and the rule or set was built with exactly the `cache` that was passed -/
theorem parseRfc_sat (s : List Char) (o : Opts) (kw : Bool) :
    Py.Sat (parseRfc s o kw) (Parsed.optsOK o.po o.cache) (· = .ValueError) :=
  .ite (.err rfl) (parseLines_sat _ _ _ _ _ _)

end RRuleStr
