/-
  Proofs/RRuleDayset.lean — `getdayset` covers exactly the days of the period:
  the whole year (YEARLY), the cursor's month (MONTHLY), the days from the cursor to the day
  before the next week start (WEEKLY), the cursor's day (DAILY and finer).
-/
import DateutilVerif.Proofs.RRuleAdvance
import DateutilVerif.Proofs.RRuleLists

namespace RRule
open Cal RRule.Tables

theorem intRange_pairwise (a b : Int) : (intRange a b).Pairwise (· < ·) := by
  unfold intRange
  rw [List.pairwise_map]
  have : (List.range (b - a).toNat).Pairwise (· < ·) := List.pairwise_lt_range
  exact this.imp (by intro x y h; omega)

theorem intRange_one (x : Int) : intRange x (x + 1) = [x] := by
  unfold intRange
  have : (x + 1 - x).toNat = 1 := by omega
  rw [this]; simp [List.range_succ]

variable {r : Rule} {info : Info}

/-- **YEARLY**: indices `0 … yearlen−1`, i.e. every day of the cursor's year -/
theorem dayset_yearly (c : Cursor) (hf : r.freq = 0) : dayset r info c = .ok (intRange 0 info.yearlen) := by
  unfold dayset; rw [if_pos (by simp [hf])]

/-- **MONTHLY**: the indices of the days of the cursor's month: `toOrdinal y m 1 − yearordinal` up to
    (excluding) the first day of the next month -/
theorem dayset_monthly (c : Cursor) (hf : r.freq = 1) (f : YearFacts r c.year info)
    (hm1 : 1 ≤ c.month) (hm12 : c.month ≤ 12) :
    dayset r info c = .ok (intRange (daysBeforeMonth c.year c.month)
                                   (daysBeforeMonth c.year c.month + daysInMonth c.year c.month)) := by
  unfold dayset
  rw [if_neg (by simp [hf]), if_pos (by simp [hf]), f.mrange,
      mrange_spec _ (c.month - 1) (by omega) (by omega), mrange_spec _ c.month (by omega) (by omega)]
  dsimp only
  have e : c.month - 1 + 1 = c.month := by omega
  rw [e, ← daysBeforeMonth_succ c.year c.month hm1 hm12]
  rfl

/-- index of a valid date of the year -/
theorem index_range (y m d : Int) (hv : ValidYMD y m d) :
    0 ≤ toOrdinal y m d - toOrdinal y 1 1 ∧ toOrdinal y m d - toOrdinal y 1 1 < daysInYear y := by
  obtain ⟨m1, m12, d1, dd⟩ := hv
  unfold toOrdinal
  rw [daysBeforeMonth_1]
  have h0 := daysBeforeMonth_mono y 1 m (by omega) m1 (by omega)
  rw [daysBeforeMonth_1] at h0
  have hs := daysBeforeMonth_succ y m m1 m12
  have h13 := daysBeforeMonth_mono y (m + 1) 13 (by omega) (by omega) (by omega)
  rw [daysBeforeMonth_13] at h13
  omega

/-- **DAILY and finer**: the single index of the cursor's day -/
theorem dayset_daily (c : Cursor) (hf : 3 ≤ r.freq) (f : YearFacts r c.year info)
    (hv : ValidYMD c.year c.month c.day) :
    dayset r info c = .ok [curOrd c - info.yearordinal] := by
  have hr := index_range c.year c.month c.day hv
  unfold dayset
  rw [if_neg (by simp; omega), if_neg (by simp; omega)]
  have hvd : Cal.validDate c.year c.month c.day = true := by
    unfold validDate; rw [decide_eq_true_eq]; exact ⟨f.year_lo, f.year_hi, hv⟩
  rw [if_neg (by simp [hvd])]
  dsimp only
  rw [if_neg (by simp; omega)]
  rw [f.yearordinal, f.yearlen, if_neg (by omega)]
  rfl

/-- the `wdayset` loop: it stops at the first index after `i` whose weekday is `wkst`, at most 7 later -/
theorem wdaysetEnd_spec {y : Int} (f : YearFacts r y info) (wkst : Int) : ∀ (n : Nat) (i : Int),
    0 ≤ i → i + n ≤ info.yearlen + 7 → 1 ≤ n →
    ∃ e, wdaysetEnd info wkst n i = .ok e ∧ i < e ∧ e ≤ i + n ∧
      (∀ j, i < j → j < e → weekdayOfOrd (info.yearordinal + j) ≠ wkst) ∧
      (e = i + n ∨ weekdayOfOrd (info.yearordinal + e) = wkst) := by
  intro n
  induction n with
  | zero => intro i _ _ h; omega
  | succ k ih =>
    intro i h0 hn _
    have hlen : info.yearlen ≤ 366 := by rw [f.yearlen]; unfold daysInYear; split <;> omega
    unfold wdaysetEnd
    rw [if_neg (by omega), wdaymask_date f (i + 1) (by omega) (by omega)]
    dsimp only
    by_cases hw : weekdayOfOrd (info.yearordinal + (i + 1)) = wkst
    · rw [if_pos (by simp [hw])]
      refine ⟨i + 1, rfl, by omega, by omega, ?_, Or.inr hw⟩
      intro j h1 h2; omega
    · rw [if_neg (by simp [hw])]
      by_cases hk : k = 0
      · subst hk
        refine ⟨i + 1, by simp [wdaysetEnd], by omega, by omega, ?_, Or.inl (by omega)⟩
        intro j h1 h2; omega
      · obtain ⟨e, he, h1, h2, h3, h4⟩ := ih (i + 1) (by omega) (by omega) (by omega)
        refine ⟨e, he, by omega, by omega, ?_, ?_⟩
        · intro j hj1 hj2
          by_cases hj : j = i + 1
          · subst hj; exact hw
          · exact h3 j (by omega) hj2
        · rcases h4 with h4 | h4
          · left; omega
          · right; exact h4

/-- **WEEKLY**: the indices from the cursor's day to the day before the next week start -/
theorem dayset_weekly {c : Cursor} (hf : r.freq = 2) (f : YearFacts r c.year info)
    (hv : ValidYMD c.year c.month c.day) :
    ∃ e, dayset r info c = .ok (intRange (curOrd c - info.yearordinal) e) ∧
      curOrd c - info.yearordinal < e ∧ e ≤ curOrd c - info.yearordinal + 7 ∧
      (∀ j, curOrd c - info.yearordinal < j → j < e → weekdayOfOrd (info.yearordinal + j) ≠ r.wkst) ∧
      (e = curOrd c - info.yearordinal + 7 ∨ weekdayOfOrd (info.yearordinal + e) = r.wkst) := by
  have hr := index_range c.year c.month c.day hv
  have hvd : Cal.validDate c.year c.month c.day = true := by
    unfold validDate; rw [decide_eq_true_eq]; exact ⟨f.year_lo, f.year_hi, hv⟩
  rw [← f.yearordinal, ← f.yearlen] at hr
  obtain ⟨e, he, h1, h2, h3, h4⟩ := wdaysetEnd_spec f r.wkst 7 (curOrd c - info.yearordinal)
    (by unfold curOrd; omega) (by unfold curOrd; omega) (by omega)
  refine ⟨e, ?_, h1, h2, h3, h4⟩
  unfold dayset
  rw [if_neg (by simp [hf]), if_neg (by simp [hf]), if_neg (by simp [hvd])]
  dsimp only
  rw [if_pos (by simp [hf])]
  unfold curOrd at he
  rw [he]
  rfl

end RRule
