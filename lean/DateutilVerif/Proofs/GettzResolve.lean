/-
  Proofs/GettzResolve.lean — the decision logic of `gettz.nocache` (Model/GettzResolve.lean):
  lemmas about the two loops and the fall-back chain.
-/
import DateutilVerif.Model.GettzResolve

namespace Gettz

variable {e : Env}

/-- a TZFILES entry that the unnamed loop passes over: stands for no path, or for a path that is
not a file, or for a file `tzfile` rejects with a HANDLED exception -/
def LocalSkip (e : Env) (fp : String) : Prop :=
  localCand e fp = none ∨ ∃ p, localCand e fp = some p ∧
    (e.isfile p = false ∨ e.load p = .osError ∨ e.load p = .valueError)

theorem localLoop_skip {fp : String} {rest : List String} (h : LocalSkip e fp) :
    localLoop e (fp :: rest) = localLoop e rest := by
  rcases h with h | ⟨p, h, h2⟩
  · simp [localLoop, h]
  · simp only [localLoop, h]
    rcases h2 with h2 | h2 | h2
    · simp [h2]
    · cases hi : e.isfile p <;> simp [h2]
    · cases hi : e.isfile p <;> simp [h2]

theorem localLoop_first_wins {pre post : List String} {fp p : String}
    (hpre : ∀ q ∈ pre, LocalSkip e q) (hc : localCand e fp = some p) (hf : e.isfile p = true)
    (hl : e.load p = .ok) : localLoop e (pre ++ fp :: post) = .ok (.file p) := by
  induction pre with
  | nil => simp [localLoop, hc, hf, hl]
  | cons a pre ih =>
    rw [List.cons_append, localLoop_skip (hpre a (by simp))]
    exact ih (fun q hq => hpre q (by simp [hq]))

theorem localLoop_all_skipped {l : List String} (h : ∀ q ∈ l, LocalSkip e q) : localLoop e l = .ok .localZone := by
  induction l with
  | nil => rfl
  | cons a l ih =>
    rw [localLoop_skip (h a (by simp))]
    exact ih (fun q hq => h q (by simp [hq]))

theorem localLoop_ok_cases {l : List String} {r : Resolution} (h : localLoop e l = .ok r) :
    r = .localZone ∨ ∃ p, r = .file p ∧ e.isfile p = true ∧ e.load p = .ok := by
  induction l with
  | nil => simp only [localLoop, Except.ok.injEq] at h; exact .inl h.symm
  | cons a l ih =>
    simp only [localLoop] at h
    split at h
    · exact ih h
    · rename_i p _
      split at h
      · rename_i hf
        split at h
        · rename_i hl
          simp only [Except.ok.injEq] at h
          exact .inr ⟨p, h.symm, hf, hl⟩
        · exact ih h
        · exact ih h
        · cases h
      · exact ih h

theorem localLoop_error {l : List String} {err : Err} (h : localLoop e l = .error err) :
    err = .structError ∧ ∃ p, e.isfile p = true ∧ e.load p = .structError := by
  induction l with
  | nil => cases h
  | cons a l ih =>
    simp only [localLoop] at h
    split at h
    · exact ih h
    · rename_i p _
      split at h
      · rename_i hf
        split at h
        · cases h
        · exact ih h
        · exact ih h
        · rename_i hl
          simp only [Except.error.injEq] at h
          exact ⟨h.symm, p, hf, hl⟩
      · exact ih h

/-- a TZPATHS entry the search loop passes over: offers no candidate, or one that `tzfile` rejects
with a handled exception -/
def SearchSkip (e : Env) (name path : String) : Prop :=
  candidate e path name = none ∨ ∃ c, candidate e path name = some c ∧ (e.load c = .osError ∨ e.load c = .valueError)

theorem searchLoop_skip {name path : String} {rest : List String} (h : SearchSkip e name path) :
    searchLoop e name (path :: rest) = searchLoop e name rest := by
  rcases h with h | ⟨c, h, h2 | h2⟩ <;> simp [searchLoop, h, *]

theorem searchLoop_first_wins {name p c : String} {pre post : List String}
    (hpre : ∀ q ∈ pre, SearchSkip e name q) (hc : candidate e p name = some c) (hl : e.load c = .ok) :
    searchLoop e name (pre ++ p :: post) = .ok (some c) := by
  induction pre with
  | nil => simp [searchLoop, hc, hl]
  | cons a pre ih =>
    rw [List.cons_append, searchLoop_skip (hpre a (by simp))]
    exact ih (fun q hq => hpre q (by simp [hq]))

theorem searchLoop_all_skipped {name : String} {l : List String} (h : ∀ q ∈ l, SearchSkip e name q) :
    searchLoop e name l = .ok none := by
  induction l with
  | nil => rfl
  | cons a l ih =>
    rw [searchLoop_skip (h a (by simp))]
    exact ih (fun q hq => h q (by simp [hq]))

theorem candidate_isfile {path name c : String} (h : candidate e path name = some c) : e.isfile c = true := by
  unfold candidate at h
  split at h
  · exact Option.some.inj h ▸ ‹_›
  · split at h
    · exact Option.some.inj h ▸ ‹_›
    · cases h

theorem searchLoop_some {name : String} {l : List String} {c : String} (h : searchLoop e name l = .ok (some c)) :
    e.isfile c = true ∧ e.load c = .ok ∧ ∃ p ∈ l, candidate e p name = some c := by
  induction l with
  | nil => simp [searchLoop] at h
  | cons a l ih =>
    simp only [searchLoop] at h
    split at h
    · obtain ⟨h1, h2, p, hp, h3⟩ := ih h
      exact ⟨h1, h2, p, by simp [hp], h3⟩
    · rename_i c' hc
      split at h
      · rename_i hl
        simp only [Except.ok.injEq, Option.some.injEq] at h
        subst h
        exact ⟨candidate_isfile hc, hl, a, by simp, hc⟩
      · obtain ⟨h1, h2, p, hp, h3⟩ := ih h
        exact ⟨h1, h2, p, by simp [hp], h3⟩
      · obtain ⟨h1, h2, p, hp, h3⟩ := ih h
        exact ⟨h1, h2, p, by simp [hp], h3⟩
      · cases h

theorem searchLoop_error {name : String} {l : List String} {err : Err} (h : searchLoop e name l = .error err) :
    err = .structError ∧ ∃ c, e.isfile c = true ∧ e.load c = .structError := by
  induction l with
  | nil => cases h
  | cons a l ih =>
    simp only [searchLoop] at h
    split at h
    · exact ih h
    · rename_i c hc
      split at h
      · cases h
      · exact ih h
      · exact ih h
      · rename_i hl
        simp only [Except.error.injEq] at h
        exact ⟨h.symm, c, candidate_isfile hc, hl⟩

end Gettz
