/-
  Proofs/RRuleRefine.lean — the refinement skeleton of `iter_eq_spec`, independent of the
  frequency: if, period by period, the model's candidate list is the specification's `sel a k`
  and `advance` leads from the cursor of period `k` to the cursor of period `k+1`, then the values
  yielded in `n` periods are exactly `Spec.RRule.occ a n` (DTSTART / UNTIL / COUNT cuts included).
-/
import DateutilVerif.Proofs.RRuleEmit
import DateutilVerif.Spec.RRule

namespace RRule
open Spec.RRule (Cut push)

/-- rule and argument set agree on what the cuts look at -/
structure CutsAgree (a : Args) (r : Rule) : Prop where
  dtstart : r.dtstart = { a.dtstart with us := 0 }
  untilDT : r.untilDT = a.untilDT
  count : r.count = a.count

theorem push_done (a : Args) (lo hi : Int) (c : Cut) (h : c.done = true) (l : List Inst) :
    l.foldl (push a lo hi) c = c := by
  induction l with
  | nil => rfl
  | cons x xs ih =>
    simp only [List.foldl_cons]
    rw [show push a lo hi c x = c by unfold push; rw [if_pos h]]; exact ih

/-- remaining count of the model when the specification has emitted `n` items -/
def remaining (a : Args) (n : Int) : Option Int := a.count.map (· - n)

/-- what one period does on both sides -/
structure PeriodAgree (a : Args) (c c' : Cut) (em : List Inst × Option Status × Option Int) : Prop where
  out : c'.out = em.1.reverse ++ c.out
  n : c'.n = c.n + em.1.length
  running : em.2.1 = none → c'.done = false ∧ em.2.2 = remaining a c'.n
  stopped : em.2.1 ≠ none → c'.done = true

/-- one period: `emit` (model) against the fold of `push` (specification) -/
theorem emit_push (a : Args) (r : Rule) (ag : CutsAgree a r) (hi : Int) :
    ∀ (l : List Inst) (c : Cut), c.done = false → (∀ x ∈ l, 0 ≤ x.ord ∧ x.ord ≤ hi) →
    PeriodAgree a c (l.foldl (push a 0 hi) c) (emit r l (remaining a c.n)) := by
  intro l
  induction l with
  | nil => intro c hc _; exact ⟨by simp [emit], by simp [emit], by intro _; exact ⟨hc, rfl⟩, by simp [emit]⟩
  | cons x xs ih =>
    intro c hc hb
    have hx := hb x (List.mem_cons_self ..)
    have hxs : ∀ y ∈ xs, 0 ≤ y.ord ∧ y.ord ≤ hi := fun y hy => hb y (List.mem_cons_of_mem _ hy)
    simp only [List.foldl_cons]
    have hau : Spec.RRule.afterUntil a x = afterUntil r x := by
      unfold afterUntil Spec.RRule.afterUntil; rw [ag.untilDT]; cases a.untilDT <;> simp
    have hst : Spec.RRule.startMicros a = r.dtstart.toMicros := by
      unfold Spec.RRule.startMicros; rw [ag.dtstart]
    unfold emit
    by_cases h1 : afterUntil r x = true
    · -- UNTIL passed: both sides are finished
      rw [if_pos h1]
      have hp : push a 0 hi c x = { c with done := true } := by
        unfold push; rw [if_neg (by simp [hc]), hau, if_pos h1]
      rw [hp, push_done a 0 hi _ rfl xs]
      exact ⟨by simp, by simp, (by intro h; cases h), (by intro _; rfl)⟩
    · rw [if_neg h1]
      by_cases h2 : x.micros ≥ r.dtstart.toMicros
      · rw [if_pos h2]
        cases hcnt : a.count with
        | none =>
          have hrem : ∀ n, remaining a n = none := by intro n; unfold remaining; rw [hcnt]; rfl
          rw [hrem]; dsimp only
          have hp : push a 0 hi c x = { out := x :: c.out, n := c.n + 1, done := false } := by
            unfold push
            rw [if_neg (by simp [hc]), hau, if_neg h1, hst, if_neg (by omega)]
            unfold Spec.RRule.countDone; rw [hcnt]; dsimp only
            rw [if_neg (by simp), if_neg (by omega), if_pos hx.1]
          rw [hp]
          have := ih { out := x :: c.out, n := c.n + 1, done := false } rfl hxs
          rw [hrem] at this
          exact ⟨by rw [this.out]; simp, by rw [this.n]; simp only [List.length_cons]; push_cast; omega,
                 by intro h; have := this.running h; rw [hrem]; rw [hrem] at this; exact this,
                 this.stopped⟩
        | some cnt =>
          have hrem : ∀ n, remaining a n = some (cnt - n) := by intro n; unfold remaining; rw [hcnt]; rfl
          rw [hrem]; dsimp only
          by_cases h3 : cnt - c.n - 1 < 0
          · rw [if_pos h3]
            have hp : push a 0 hi c x = { c with done := true } := by
              unfold push
              rw [if_neg (by simp [hc]), hau, if_neg h1, hst, if_neg (by omega)]
              unfold Spec.RRule.countDone; rw [hcnt]; dsimp only
              rw [if_pos (by simp; omega)]
            rw [hp, push_done a 0 hi _ rfl xs]
            exact ⟨by simp, by simp, (by intro h; cases h), (by intro _; rfl)⟩
          · rw [if_neg h3]
            have hp : push a 0 hi c x = { out := x :: c.out, n := c.n + 1, done := false } := by
              unfold push
              rw [if_neg (by simp [hc]), hau, if_neg h1, hst, if_neg (by omega)]
              unfold Spec.RRule.countDone; rw [hcnt]; dsimp only
              rw [if_neg (by simp; omega), if_neg (by omega), if_pos hx.1]
            rw [hp]
            have := ih { out := x :: c.out, n := c.n + 1, done := false } rfl hxs
            rw [hrem] at this
            have e : cnt - (c.n + 1) = cnt - c.n - 1 := by omega
            dsimp only at this
            rw [e] at this
            exact ⟨by rw [this.out]; simp, by rw [this.n]; simp only [List.length_cons]; push_cast; omega,
                   this.running, this.stopped⟩
      · rw [if_neg h2]
        have hp : push a 0 hi c x = c := by
          unfold push
          rw [if_neg (by simp [hc]), hau, if_neg h1, hst, if_pos (by omega)]
        rw [hp]
        exact ih c hc hxs

/-- the specification's fold over the selected periods `k, k+1, …, k+n−1` -/
def specFrom (a : Args) (hi : Int) (c : Cut) (k n : Nat) : Cut :=
  (List.range' k n).foldl (fun c (j : Nat) => (Spec.RRule.sel a (j : Int)).foldl (push a 0 hi) c) c

theorem specFrom_done (a : Args) (hi : Int) (c : Cut) (h : c.done = true) : ∀ (n k : Nat),
    specFrom a hi c k n = c := by
  intro n
  induction n with
  | zero => intro k; rfl
  | succ n ih =>
    intro k
    unfold specFrom
    rw [List.range'_succ, List.foldl_cons, push_done a 0 hi c h]
    exact ih (k + 1)

/-- instants before the start that are not after UNTIL do not move the specification's cut -/
theorem push_pre (a : Args) (lo hi : Int) (c : Cut) (pre : List Inst)
    (h : ∀ x ∈ pre, x.micros < Spec.RRule.startMicros a ∧ Spec.RRule.afterUntil a x = false) :
    pre.foldl (push a lo hi) c = c := by
  induction pre with
  | nil => rfl
  | cons x xs ih =>
    simp only [List.foldl_cons]
    have hx := h x (List.mem_cons_self ..)
    have : push a lo hi c x = c := by
      unfold push
      by_cases hd : c.done = true
      · rw [if_pos hd]
      · rw [if_neg hd, hx.2, if_neg (by simp), if_pos hx.1]
    rw [this]
    exact ih (fun y hy => h y (List.mem_cons_of_mem _ hy))

/-- period-by-period agreement of model and specification for the first `N` periods:
    `Good k st` = "`st` is the model state at the start of period `k`" (count excluded).  `pre` are candidates of the
    specification's period that the model's period does not contain; they lie before the start, so neither side yields
    them.  Only WEEKLY has any: the model's week 0 begins at the start's day, the specification's at the week start -/
structure Simulation (a : Args) (r : Rule) (N : Nat) (Good : Nat → State → Prop) : Prop where
  agree : CutsAgree a r
  results : ∀ k st, k < N → Good k st → ∃ fl pre cands,
    periodResults r st = .ok (cands, none, fl) ∧ Spec.RRule.sel a (k : Int) = pre ++ cands ∧
    (∀ x ∈ pre, x.micros < Spec.RRule.startMicros a ∧ Spec.RRule.afterUntil a x = false) ∧
    (∀ x ∈ cands, 0 ≤ x.ord ∧ x.ord ≤ Cal.maxOrdinal)
  next : ∀ k st fl c, k + 1 < N → Good k st →
    ∃ st', advance r { st with count := c } fl = .ok st' ∧ Good (k + 1) st'

theorem run_refines {a : Args} {r : Rule} {N : Nat} {Good : Nat → State → Prop}
    (sim : Simulation a r N Good) : ∀ (n k : Nat) (st : State) (c : Cut),
    Good k st → k + n ≤ N → c.done = false → st.count = remaining a c.n →
    (specFrom a Cal.maxOrdinal c k n).out = (run r n st).1.reverse ++ c.out := by
  intro n
  induction n with
  | zero => intro k st c _ _ _ _; simp [specFrom, run]
  | succ n ih =>
    intro k st c hg hk hc hcnt
    obtain ⟨fl, pre, cands, hres, hsel, hpre, hbnd⟩ := sim.results k st (by omega) hg
    have pa := emit_push a r sim.agree Cal.maxOrdinal cands c hc hbnd
    rw [← hcnt] at pa
    unfold specFrom
    rw [List.range'_succ, List.foldl_cons, hsel, List.foldl_append, push_pre a 0 Cal.maxOrdinal c pre hpre]
    generalize hc' : cands.foldl (push a 0 Cal.maxOrdinal) c = c' at pa
    have hfold : (List.range' (k + 1) n).foldl
        (fun c (j : Nat) => (Spec.RRule.sel a (j : Int)).foldl (push a 0 Cal.maxOrdinal) c) c' =
        specFrom a Cal.maxOrdinal c' (k + 1) n := rfl
    rw [hfold]
    unfold run step
    rw [hres]
    dsimp only
    generalize hem : emit r cands st.count = em at pa
    cases hs : em.2.1 with
    | some s =>
      dsimp only
      rw [specFrom_done a _ c' (pa.stopped (by rw [hs]; simp))]
      exact pa.out
    | none =>
      dsimp only
      obtain ⟨hdone, hrem⟩ := pa.running hs
      by_cases hn : n = 0
      · subst hn
        have : specFrom a Cal.maxOrdinal c' (k + 1) 0 = c' := rfl
        rw [this, pa.out]
        cases advance r { st with count := em.2.2 } fl with
        | error s => rfl
        | ok st' => simp [run]
      · obtain ⟨st', hadv, hg'⟩ := sim.next k st fl em.2.2 (by omega) hg
        rw [hadv]
        dsimp only
        have hc2 : st'.count = remaining a c'.n := by
          rw [advance_count r _ st' fl hadv]; exact hrem
        rw [ih (k + 1) st' c' hg' (by omega) hdone hc2, pa.out]
        simp

/-- **refinement**: under a period-by-period simulation the model yields exactly the specification's
    recurrence set of the first `n` selected periods -/
theorem iter_refines {a : Args} {r : Rule} {N : Nat} {Good : Nat → State → Prop}
    (sim : Simulation a r N Good) (st0 : State) (hinit : init r = .ok st0) (hg : Good 0 st0)
    (hc0 : st0.count = r.count) (n : Nat) (hn : n ≤ N) :
    (iter r n).1 = Spec.RRule.occ a n := by
  unfold iter; rw [hinit]; dsimp only
  unfold Spec.RRule.occ
  have hcnt : st0.count = remaining a 0 := by
    rw [hc0, sim.agree.count]; unfold remaining; cases a.count <;> simp
  have := run_refines sim n 0 st0 { out := [], n := 0, done := false } hg (by omega) rfl hcnt
  unfold specFrom at this
  rw [List.range_eq_range']
  dsimp only
  rw [this]; simp

end RRule
