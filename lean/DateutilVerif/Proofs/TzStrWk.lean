/- Proofs/TzStrWk.lean — invariants of the TZ-string parser model `TzStr.parse` by inversion: what the abbreviation loop can
   change (`abbrLoop_preserves`), where the parts of a successful result come from (`parseTokens_inv`), and from them: every rule
   record it returns with a weekday also has a week (`stdRule`'s M-branch sets month/week/weekday together, `depRule` sets
   week and weekday together, the abbreviation loop never touches the rules).  That discharges the `WkOk` hypothesis of the
   translated `tzstr.__init__` obligation; Proofs/TzStrAbbr.lean reads the letter invariant off the same two lemmas. -/
import DateutilVerif.Proofs.TzStrParseRule
import DateutilVerif.Proofs.TzObjEqStr
namespace TzGen
open TzStr

/-- a rule with a weekday has a week -/
def W (x : Attr) : Prop := x.weekday.isSome → x.week.isSome

theorem W_default : W ({} : Attr) := by intro h; cases h

theorem ruleHead_W (l : Array String) (st : St) (x : Attr) (u : List Nat) (i : Nat)
    (h : ruleHead l st = some (x, u, i)) : W x := by
  unfold ruleHead at h
  simp only [bind, pure, Option.bind_eq_some_iff] at h
  obtain ⟨t, _, h⟩ := h
  split at h
  · simp only [Option.bind_eq_some_iff] at h
    obtain ⟨_, _, _, _, h⟩ := h
    simp at h; obtain ⟨rfl, _, _⟩ := h; intro hw; cases hw
  · split at h
    · simp only [Option.bind_eq_some_iff] at h
      obtain ⟨_, _, m, _, s1, _, h⟩ := h
      split at h
      · cases h
      · simp only [Option.bind_eq_some_iff] at h
        obtain ⟨_, _, w, _, s2, _, h⟩ := h
        split at h
        · cases h
        · simp only [Option.bind_eq_some_iff] at h
          obtain ⟨_, _, d, _, h⟩ := h
          simp at h; obtain ⟨rfl, _, _⟩ := h; intro _; rfl
    · simp only [Option.bind_eq_some_iff] at h
      obtain ⟨_, _, h⟩ := h
      simp at h; obtain ⟨rfl, _, _⟩ := h; intro hw; cases hw

theorem ruleTime_res (l : Array String) (st st' : St) (tm : Int) (h : ruleTime l st = some (tm, st')) :
    st'.res = st.res := by
  unfold ruleTime at h
  simp only [bind, pure, Option.bind_eq_some_iff] at h
  obtain ⟨t, _, h⟩ := h
  split at h
  · simp only [Option.bind_eq_some_iff] at h
    obtain ⟨_, _, _, _, h⟩ := h
    simp at h; obtain ⟨_, rfl⟩ := h; rfl
  · split at h
    · simp only [Option.bind_eq_some_iff] at h
      obtain ⟨_, _, _, _, _, _, h⟩ := h
      split at h
      · simp only [Option.bind_eq_some_iff] at h
        obtain ⟨_, _, _, _, h⟩ := h
        simp at h; obtain ⟨_, rfl⟩ := h; rfl
      · simp at h; obtain ⟨_, rfl⟩ := h; rfl
    · split at h
      · simp only [Option.bind_eq_some_iff] at h
        obtain ⟨_, _, h⟩ := h
        simp at h; obtain ⟨_, rfl⟩ := h; rfl
      · cases h

theorem ruleTail_W (l : Array String) (x x' : Attr) (st st' : St) (h : ruleTail l x st = some (x', st')) :
    (W x → W x') ∧ st'.res = st.res := by
  unfold ruleTail at h
  simp only [bind, pure, Option.bind_eq_some_iff] at h
  obtain ⟨⟨x1, st1⟩, h1, h⟩ := h
  have key : (W x → W x1) ∧ st1.res = st.res := by
    split at h1
    · simp only [Option.bind_eq_some_iff] at h1
      obtain ⟨⟨tm, st2⟩, h2, h1⟩ := h1
      simp at h1; obtain ⟨rfl, rfl⟩ := h1
      exact ⟨fun hw => hw, (ruleTime_res _ _ _ _ h2).trans rfl⟩
    · simp at h1; obtain ⟨rfl, rfl⟩ := h1; exact ⟨id, rfl⟩
  split at h
  · cases h
  · simp at h; obtain ⟨rfl, rfl⟩ := h; exact key

theorem stdRule_W (l : Array String) (st st' : St) (x : Attr) (h : stdRule l st = some (x, st')) :
    W x ∧ st'.res = st.res := by
  rw [stdRule_eq] at h
  simp only [bind, Option.bind_eq_some_iff] at h
  obtain ⟨⟨x0, u, i⟩, h0, h⟩ := h
  have := ruleTail_W _ _ _ _ _ h
  exact ⟨this.1 (ruleHead_W _ _ _ _ _ h0), this.2⟩

theorem depRule_W (l : Array String) (st st' : St) (a : Attr) (h : depRule l st = some (a, st')) :
    W a ∧ st'.res = st.res := by
  unfold depRule at h
  simp only [bind, pure, Option.bind_eq_some_iff] at h
  obtain ⟨_, _, mo, _, _, _, v, _, _, _, n, _, _, _, tm, _, h⟩ := h
  simp only [Option.some.injEq, Prod.mk.injEq] at h
  obtain ⟨rfl, rfl⟩ := h
  refine ⟨?_, rfl⟩
  intro hw
  by_cases hv : (v.fst != 0) = true
  · simp [hv]
  · simp [hv] at hw

theorem offCore_res (l : Array String) (st st' : St) (sg v : Int) (h : offCore l st sg = some (v, st')) :
    st'.res = st.res := by
  unfold offCore at h
  simp only [bind, pure, Option.bind_eq_some_iff] at h
  obtain ⟨t, _, h⟩ := h
  split at h
  · simp only [Option.bind_eq_some_iff] at h
    obtain ⟨_, _, _, _, h⟩ := h
    simp at h; obtain ⟨_, rfl⟩ := h; rfl
  · split at h
    · simp only [Option.bind_eq_some_iff] at h
      obtain ⟨_, _, _, _, _, _, h⟩ := h
      simp at h; obtain ⟨_, rfl⟩ := h; rfl
    · split at h
      · simp only [Option.bind_eq_some_iff] at h
        obtain ⟨_, _, h⟩ := h
        simp at h; obtain ⟨_, rfl⟩ := h; rfl
      · cases h

theorem parseOffset_res (l : Array String) (st st' : St) (v : Int) (h : parseOffset l st = some (v, st')) :
    st'.res = st.res := by
  rw [TzStr.parseOffset_eq] at h
  split at h
  · cases h
  · split at h
    · exact (offCore_res _ _ _ _ _ h).trans rfl
    · exact offCore_res _ _ _ _ _ h

/-- the offset step after an abbreviation changes at most one of the two offsets -/
theorem step_res (l : Array String) (r0 : Res) (i : Nat) (u : List Nat) (isStd : Bool) (st1 : St)
    (h : (match l[i]? with
          | some t =>
            if (t == "+" || t == "-" || firstIsDigit t) = true then do
              let (v, st') ← parseOffset l { res := r0, i := i, used := u }
              let res := if isStd then { st'.res with stdoffset := some v } else { st'.res with dstoffset := some v }
              pure { st' with res := res }
            else pure { res := r0, i := i, used := u }
          | none => pure { res := r0, i := i, used := u } : P St) = some st1) :
    st1.res = r0 ∨ ∃ v, st1.res = { r0 with stdoffset := some v } ∨ st1.res = { r0 with dstoffset := some v } := by
  split at h
  · split at h
    · simp only [bind, pure, Option.bind_eq_some_iff] at h
      obtain ⟨⟨v, st2⟩, hp, h⟩ := h
      have hr : st2.res = r0 := parseOffset_res _ _ _ _ hp
      simp only [Option.some.injEq] at h
      subst h
      refine Or.inr ⟨v, ?_⟩
      cases isStd <;> simp [hr]
    · simp only [pure, Option.some.injEq] at h
      subst h
      exact Or.inl rfl
  · simp only [pure, Option.some.injEq] at h
    subst h
    exact Or.inl rfl

/-- **what the abbreviation loop can do to the result**: set an abbreviation to the join of a run of letter tokens
    (`skipAbbr`), and set an offset.  Whatever both kinds of update preserve, the loop preserves. -/
theorem abbrLoop_preserves (Q : Res → Prop) (l : Array String)
    (habbr : ∀ r i, Q r → Q { r with stdabbr := some (String.join ((l.toList.drop i).take (skipAbbr l.toList i - i))) } ∧
      Q { r with dstabbr := some (String.join ((l.toList.drop i).take (skipAbbr l.toList i - i))) })
    (hoff : ∀ r v, Q r → Q { r with stdoffset := some v } ∧ Q { r with dstoffset := some v })
    (fuel : Nat) (st st' : St) (h : abbrLoop l fuel st = some st') (h0 : Q st.res) : Q st'.res := by
  induction fuel generalizing st with
  | zero => unfold abbrLoop at h; cases h; exact h0
  | succ n ih =>
    unfold abbrLoop at h
    split at h
    · simp only [] at h
      split at h
      · split at h
        · cases h
        · rename_i st1 hstep
          have h1 : Q st1.res := by
            have hset : ∀ c : Bool, Q (if c = true
                then { st.res with stdabbr := some (String.join ((l.toList.drop st.i).take (skipAbbr l.toList st.i - st.i))) }
                else { st.res with dstabbr := some (String.join ((l.toList.drop st.i).take (skipAbbr l.toList st.i - st.i))) }) := by
              intro c; cases c
              · exact (habbr _ _ h0).2
              · exact (habbr _ _ h0).1
            rcases step_res _ _ _ _ _ _ hstep with e | ⟨v, e | e⟩ <;> rw [e]
            · exact hset _
            · exact (hoff _ v (hset _)).1
            · exact (hoff _ v (hset _)).2
          repeat' split at h
          all_goals (try simp only [Bool.false_eq_true, if_false, if_true] at h)
          all_goals first
            | (cases h; exact h1)
            | exact ih _ h h1
      · cases h; exact h0
    · cases h; exact h0

/-- **the shape of a successful parse**: the abbreviations are those the loop left, and the two rules are either what the
    loop left, or two `depRule` results (the deprecated comma format), or two `stdRule` results -/
theorem parseTokens_inv (l0 : Array String) (res : Res) (h : parseTokens l0 = .ok (some res)) :
    ∃ st0, abbrLoop l0 3 {} = some st0 ∧ res.stdabbr = st0.res.stdabbr ∧ res.dstabbr = st0.res.dstabbr ∧
      ((res.start = st0.res.start ∧ res.«end» = st0.res.«end») ∨
       (∃ l s1 s1' s2 s2', depRule l s1 = some (res.start, s1') ∧ depRule l s2 = some (res.«end», s2')) ∨
       (∃ l s1 s1' s2 s2', stdRule l s1 = some (res.start, s1') ∧ stdRule l s2 = some (res.«end», s2'))) := by
  unfold parseTokens at h
  split at h
  · cases h
  · rename_i st0 hab
    refine ⟨st0, hab, ?_⟩
    split at h
    rename_i x l stOpt heq
    have hst : ∀ st, stOpt = some st → st.res = st0.res := by
      intro st hs; subst hs
      split at heq
      · simp only [] at heq
        split at heq <;> (simp only [Prod.mk.injEq] at heq; obtain ⟨_, h2⟩ := heq; cases h2)
        rfl
      · simp only [Prod.mk.injEq] at heq; obtain ⟨_, h2⟩ := heq; cases h2; rfl
    clear heq
    split at h
    · cases h
    · rename_i st
      have hs := hst st rfl
      simp only [] at h
      split at h
      · simp only [Except.ok.injEq, Option.some.injEq] at h; subst h
        exact ⟨by rw [← hs], by rw [← hs], Or.inl ⟨by rw [← hs], by rw [← hs]⟩⟩
      · split at h
        · split at h
          · cases h
          · rename_i a st1 hd1
            split at h
            · cases h
            · rename_i b st2 hd2
              have r2 : st2.res = st0.res := by rw [(depRule_W _ _ _ _ hd2).2, (depRule_W _ _ _ _ hd1).2, hs]
              have fin : ∀ (o : Option Int) (u : Bool),
                  ({ ({ st2.res with start := a, «end» := b, deprecated := true, dstoffset := o } : Res) with anyUnused := u } : Res) = res →
                  res.stdabbr = st0.res.stdabbr ∧ res.dstabbr = st0.res.dstabbr ∧
                  ((res.start = st0.res.start ∧ res.«end» = st0.res.«end») ∨
                   (∃ l s1 s1' s2 s2', depRule l s1 = some (res.start, s1') ∧ depRule l s2 = some (res.«end», s2')) ∨
                   (∃ l s1 s1' s2 s2', stdRule l s1 = some (res.start, s1') ∧ stdRule l s2 = some (res.«end», s2'))) := by
                intro o u e; subst e
                exact ⟨by rw [← r2], by rw [← r2], Or.inr (Or.inl ⟨_, _, _, _, _, hd1, hd2⟩)⟩
              split at h
              · by_cases hc : (l[st2.i]?.getD "" == "-" || l[st2.i]?.getD "" == "+") = true
                · simp only [hc, ↓reduceIte] at h
                  repeat' split at h
                  all_goals first
                    | (cases h; done)
                    | (simp only [Except.ok.injEq, Option.some.injEq] at h; exact fin _ _ h)
                · simp only [hc, Bool.false_eq_true, ↓reduceIte] at h
                  repeat' split at h
                  all_goals first
                    | (cases h; done)
                    | (simp only [Except.ok.injEq, Option.some.injEq] at h; exact fin _ _ h)
              · simp only [Except.ok.injEq, Option.some.injEq] at h; exact fin _ _ h
        · split at h
          · split at h
            · cases h
            · rename_i a st1 hd1
              split at h
              · cases h
              · rename_i b st2 hd2
                have r2 : st2.res = st0.res := by rw [(stdRule_W _ _ _ _ hd2).2, (stdRule_W _ _ _ _ hd1).2, hs]
                split at h
                · cases h
                · simp only [Except.ok.injEq, Option.some.injEq] at h; subst h
                  exact ⟨by rw [← r2], by rw [← r2], Or.inr (Or.inr ⟨_, _, _, _, _, hd1, hd2⟩)⟩
          · simp only [Except.ok.injEq, Option.some.injEq] at h; subst h
            exact ⟨by rw [← hs], by rw [← hs], Or.inl ⟨by rw [← hs], by rw [← hs]⟩⟩

theorem parseTokens_W (l0 : Array String) (res : Res) (h : parseTokens l0 = .ok (some res)) :
    W res.start ∧ W res.«end» := by
  obtain ⟨st0, hab, _, _, hr | ⟨_, _, _, _, _, h1, h2⟩ | ⟨_, _, _, _, _, h1, h2⟩⟩ := parseTokens_inv l0 res h
  · have := abbrLoop_preserves (fun r => r.start = {} ∧ r.«end» = {}) l0 (fun _ _ hq => ⟨hq, hq⟩) (fun _ _ hq => ⟨hq, hq⟩)
      3 {} st0 hab ⟨rfl, rfl⟩
    rw [hr.1, hr.2, this.1, this.2]
    exact ⟨W_default, W_default⟩
  · exact ⟨(depRule_W _ _ _ _ h1).1, (depRule_W _ _ _ _ h2).1⟩
  · exact ⟨(stdRule_W _ _ _ _ h1).1, (stdRule_W _ _ _ _ h2).1⟩

theorem parse_W (s : String) (res : Res) (h : TzStr.parse s = .ok (some res)) : WkOk res.start ∧ WkOk res.«end» := by
  have := parseTokens_W _ _ h
  exact ⟨fun _ hw => this.1 hw, fun _ hw => this.2 hw⟩
end TzGen
