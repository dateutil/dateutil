/-
  Proofs/ICal.lean — for C17.  The ten-entry cache of `_find_comp` is transparent because every cached pair equals the
  uncached answer (`CacheInv`); `rrule.before(x, inc=True)` on an onset list is the last listed onset ≤ x; and inside one
  yearly cycle a STANDARD + DAYLIGHT pair selects the DAYLIGHT component exactly where a range zone's interval semantics
  (`cycleIsDst`) says daylight time.
-/
import DateutilVerif.Model.ICal

namespace ICal

/-- every cached pair equals the uncached answer -/
def CacheInv (comps : List ZComp) (c : Cache) : Prop :=
  ∀ e ∈ c, e.2 = findCompIdx comps e.1.1 e.1.2

theorem findCompCached_spec (comps : List ZComp) (c : Cache) (w : Int) (fold : Bool) (h : CacheInv comps c) :
    (findCompCached comps c w fold).1 = findCompIdx comps w fold ∧
    CacheInv comps (findCompCached comps c w fold).2 ∧ (findCompCached comps c w fold).2.length ≤ max c.length 10 := by
  unfold findCompCached
  by_cases h1 : (comps.length == 1) = true
  · simp only [h1, if_true]
    refine ⟨?_, h, by omega⟩
    unfold findCompIdx; simp [h1]
  · have h1' : (comps.length == 1) = false := by simpa using h1
    simp only [h1', Bool.false_eq_true, ↓reduceIte]
    cases hf : c.find? (fun e => e.1 == (w, fold)) with
    | some e =>
      simp only []
      have hm := List.mem_of_find?_eq_some hf
      have hp := List.find?_some hf
      simp only [beq_iff_eq] at hp
      refine ⟨?_, h, by omega⟩
      have := h e hm
      rw [hp] at this
      exact this
    | none =>
      simp only []
      have hnew : CacheInv comps (((w, fold), findCompIdx comps w fold) :: c) := by
        intro e he
        cases he with
        | head => rfl
        | tail _ he => exact h e he
      refine ⟨trivial, ?_, ?_⟩
      · split
        · intro e he
          exact hnew e (List.dropLast_subset _ he)
        · exact hnew
      · split
        · simp [List.length_dropLast]; omega
        · rename_i hlen
          simp at hlen ⊢
          omega

/-- run a whole query history through the cache -/
def runCached (comps : List ZComp) (qs : List (Int × Bool)) (c : Cache) : List Nat × Cache :=
  qs.foldl (fun acc q => let r := findCompCached comps acc.2 q.1 q.2; (acc.1 ++ [r.1], r.2)) ([], c)

theorem runCached_aux (comps : List ZComp) (qs : List (Int × Bool)) (pre : List Nat) (c : Cache) (h : CacheInv comps c) :
    (qs.foldl (fun acc q => let r := findCompCached comps acc.2 q.1 q.2; (acc.1 ++ [r.1], r.2)) (pre, c)).1
      = pre ++ qs.map (fun q => findCompIdx comps q.1 q.2) := by
  induction qs generalizing pre c with
  | nil => simp
  | cons q qs ih =>
    have sp := findCompCached_spec comps c q.1 q.2 h
    simp only [List.foldl_cons, List.map_cons]
    rw [ih _ _ sp.2.1, sp.1]
    simp

theorem lastLE_foldl (l : List Int) (x : Int) (acc : Option Int) :
    l.foldl (fun acc o => if o ≤ x then some o else acc) acc =
      (match (l.filter (· ≤ x)).getLast? with | some o => some o | none => acc) := by
  induction l generalizing acc with
  | nil => simp
  | cons a l ih =>
    simp only [List.foldl_cons]
    rw [ih]
    by_cases ha : a ≤ x
    · simp only [ha, if_true, List.filter_cons, decide_true]
      cases h : (l.filter (· ≤ x)).getLast? with
      | none =>
        have : l.filter (· ≤ x) = [] := by simpa using h
        simp [this]
      | some o =>
        have hne : l.filter (· ≤ x) ≠ [] := by intro hc; simp [hc] at h
        simp [List.getLast?_cons, h]
    · simp [ha]

/-- `rrule.before(x, inc=True)` on an onset list: the LAST listed onset ≤ x -/
theorem lastLE_eq (l : List Int) (x : Int) : lastLE l x = (l.filter (· ≤ x)).getLast? := by
  unfold lastLE
  rw [lastLE_foldl]
  cases (l.filter (· ≤ x)).getLast? <;> rfl

theorem lastLE_some (l : List Int) (x o : Int) (h : lastLE l x = some o) : o ∈ l ∧ o ≤ x := by
  rw [lastLE_eq] at h
  have := List.mem_of_getLast? h
  simpa using this

theorem lastLE_none (l : List Int) (x : Int) : lastLE l x = none ↔ ∀ o ∈ l, x < o := by
  rw [lastLE_eq]
  simp

/-- on a sorted onset list the answer is the greatest onset ≤ x -/
theorem lastLE_max (l : List Int) (x o : Int) (hs : l.Pairwise (· ≤ ·)) (h : lastLE l x = some o) :
    ∀ o' ∈ l, o' ≤ x → o' ≤ o := by
  rw [lastLE_eq] at h
  intro o' ho' hx
  have hm : o' ∈ l.filter (· ≤ x) := by simp [ho', hx]
  have hsf : (l.filter (· ≤ x)).Pairwise (· ≤ ·) := hs.filter _
  generalize l.filter (· ≤ x) = f at *
  induction f with
  | nil => simp at hm
  | cons a f ih =>
    cases f with
    | nil => simp at h hm; omega
    | cons b f =>
      simp only [List.getLast?_cons_cons] at h
      cases hm with
      | head =>
        have hb : o ∈ (b :: f) := List.mem_of_getLast? h
        have := (List.pairwise_cons.mp hsf).1 o hb
        exact this
      | tail _ hm => exact ih h hm (List.pairwise_cons.mp hsf).2

/-- **latest-onset selection, two components**: the later of the two latest onsets wins, the
    first component on a tie; with no onset reached, the first STANDARD component, else the first. -/
theorem select_two (a b : ZComp) (w : Int) (fold : Bool) :
    findCompIdx [a, b] w fold =
      (match findCompdt a w fold, findCompdt b w fold with
       | some da, some db => if da < db then 1 else 0
       | some _, none => 0
       | none, some _ => 1
       | none, none => if !a.isdst then 0 else if !b.isdst then 1 else 0) := by
  unfold findCompIdx
  simp only [List.length_cons, List.length_nil, List.zipIdx, List.foldl_cons, List.foldl_nil, selStep]
  cases ha : findCompdt a w fold <;> cases hb : findCompdt b w fold <;> simp [List.findIdx?_cons]
  · cases a.isdst <;> cases b.isdst <;> simp
  · rename_i da db
    by_cases h : da < db <;> simp [h]

/-- the interval semantics of a range zone inside one cycle `[on, nextOn)`: daylight time on
    `[on, off)`, and on the repeated hour `[off, off+saving)` for `fold = 0` -/
def cycleIsDst (off saving w : Int) (fold : Bool) : Bool :=
  decide (w < off) || (decide (w < off + saving) && !fold)

/-- **VTIMEZONE = range zone inside a cycle.** STANDARD component (onsets `S`, in daylight wall time)
    listed first, DAYLIGHT component (onsets `D`, in standard wall time) second; for every wall time of
    the cycle and either fold the selected component is the DAYLIGHT one exactly when the range zone
    says daylight time. `H1–H3` say "the onsets in force are this cycle's transitions" in terms of
    `before(x, inc=True)`. -/
theorem two_comp_cycle (S D : List Int) (stdOff dstOff on off nextOn w : Int) (fold : Bool)
    (hsav : stdOff < dstOff) (h1 : on < off) (h2 : off + (dstOff - stdOff) ≤ nextOn)
    (hw1 : on ≤ w) (hw2 : w < nextOn)
    (H1 : ∀ x, on ≤ x → x < nextOn → lastLE D x = some on)
    (H2 : ∀ x, on ≤ x → x < off + (dstOff - stdOff) → ∀ p, lastLE S x = some p → p < on)
    (H3 : ∀ x, off + (dstOff - stdOff) ≤ x → x < nextOn + (dstOff - stdOff) → lastLE S x = some (off + (dstOff - stdOff))) :
    let comps := [{ tzoffsetfrom := dstOff, tzoffsetto := stdOff, isdst := false, onsets := S : ZComp },
                  { tzoffsetfrom := stdOff, tzoffsetto := dstOff, isdst := true, onsets := D : ZComp }]
    findCompIdx comps w fold = (if cycleIsDst off (dstOff - stdOff) w fold then 1 else 0) ∧
    utcoffset comps w fold = (if cycleIsDst off (dstOff - stdOff) w fold then dstOff else stdOff) ∧
    dst comps w fold = (if cycleIsDst off (dstOff - stdOff) w fold then dstOff - stdOff else 0) := by
  intro comps
  have key : findCompIdx comps w fold = (if cycleIsDst off (dstOff - stdOff) w fold then 1 else 0) := by
    simp only [comps]
    rw [select_two]
    simp only [findCompdt, ZComp.diff]
    have hneg : (stdOff - dstOff < 0) = True := by simp; omega
    have hpos : ¬ (dstOff - stdOff < 0) := by omega
    simp only [hneg, decide_true, Bool.true_and, hpos, decide_false, Bool.false_and, Bool.false_eq_true, if_false]
    rw [H1 w hw1 hw2]
    unfold cycleIsDst
    cases fold with
    | false =>
      simp only [Bool.false_eq_true, if_false, Bool.not_false, Bool.and_true]
      by_cases c : w < off + (dstOff - stdOff)
      · have hc : (decide (w < off) || decide (w < off + (dstOff - stdOff))) = true := by simp [c]
        rw [hc]
        cases hs : lastLE S w with
        | none => simp
        | some p => have := H2 w hw1 c p hs; simp [this]
      · have hc : (decide (w < off) || decide (w < off + (dstOff - stdOff))) = false := by simp; omega
        rw [hc, H3 w (by omega) (by omega)]
        simp; omega
    | true =>
      simp only [if_true, Bool.not_true, Bool.and_false, Bool.or_false]
      have e : w - (stdOff - dstOff) = w + (dstOff - stdOff) := by omega
      rw [e]
      by_cases c : w < off
      · simp only [c, decide_true, if_true]
        cases hs : lastLE S (w + (dstOff - stdOff)) with
        | none => simp
        | some p => have := H2 _ (by omega) (by omega) p hs; simp [this]
      · simp only [c, decide_false, Bool.false_eq_true, if_false]
        rw [H3 _ (by omega) (by omega)]
        simp; omega
  refine ⟨key, ?_, ?_⟩
  · unfold utcoffset; rw [key]; split <;> simp [comps]
  · unfold dst; rw [key]; split <;> simp [comps, ZComp.diff]

/-- `tzrangebase._isdst` for one year's transitions `(on, off)` (both on the standard side) -/
def rangeIsDst (on off saving w : Int) (fold : Bool) : Bool :=
  let naive := if on < off then decide (on ≤ w ∧ w < off) else !(decide (off ≤ w ∧ w < on))
  if !naive && decide (off ≤ w ∧ w < off + saving) then !fold else naive

theorem range_eq_cycle_same_year (on off saving w : Int) (fold : Bool) (h1 : on < off) (hs : 0 < saving) (hw : on ≤ w) :
    rangeIsDst on off saving w fold = cycleIsDst off saving w fold := by
  unfold rangeIsDst cycleIsDst
  simp only [h1, if_true]
  rw [Bool.eq_iff_iff]
  cases fold <;> simp <;> omega

theorem range_eq_cycle_next_year (off nextOn nextOff saving w : Int) (fold : Bool) (h1 : nextOn < nextOff)
    (hs : 0 < saving) (hw1 : off + saving ≤ w) (hw2 : w < nextOn) :
    rangeIsDst nextOn nextOff saving w fold = cycleIsDst off saving w fold := by
  unfold rangeIsDst cycleIsDst
  simp only [h1, if_true]
  rw [Bool.eq_iff_iff]
  cases fold <;> simp <;> omega

end ICal
