/-
  Proofs/RRuleMinutelyBy.lean — MINUTELY with BYMINUTE (members 0..59) and no BYHOUR: a list that passed
  `__construct_byset` has a member on the start's orbit, reached from every grid minute within 60 steps; the two
  argument classes as instances of Proofs/RRuleSubMinutely.lean.
-/
import DateutilVerif.Proofs.RRuleMinutely

namespace RRule
open Cal

structure MinutelyByArgs (a : Args) : Prop where
  freq : a.freq = 5
  interval : 1 ≤ a.interval
  valid : a.dtstart.Valid
  weekno : WArg a
  byeaster : a.byeaster = none
  monthday_nz : ∀ x ∈ a.bymonthday.getD [], x ≠ 0
  byhour : a.byhour = none
  minutes : ∃ l, a.byminute = some l ∧ ∀ x ∈ l, 0 ≤ x ∧ x ≤ 59
  seconds_ok : ∀ x ∈ a.bysecond.getD [], 0 ≤ x ∧ x ≤ 59

structure MinutelyByEArgs (a : Args) : Prop where
  freq : a.freq = 5
  interval : 1 ≤ a.interval
  valid : a.dtstart.Valid
  byweekno : a.byweekno = none
  easter : ∃ el, a.byeaster = some el ∧ el ≠ [] ∧ ∀ o ∈ el, -80 ≤ o ∧ o ≤ 250
  monthday_nz : ∀ x ∈ a.bymonthday.getD [], x ≠ 0
  byhour : a.byhour = none
  minutes : ∃ l, a.byminute = some l ∧ ∀ x ∈ l, 0 ≤ x ∧ x ≤ 59
  seconds_ok : ∀ x ∈ a.bysecond.getD [], 0 ≤ x ∧ x ≤ 59

variable {a : Args} {r : Rule}

theorem minutely_reach_byminute (h : construct a = .ok r) (hf : a.freq = 5) (hbh : a.byhour = none)
    (hm : ∃ l, a.byminute = some l ∧ ∀ x ∈ l, 0 ≤ x ∧ x ≤ 59) (k : Nat) :
    ∃ t : Nat, 1 ≤ t ∧ t ≤ 60 ∧ SubFreq.listed .minutely a
      ((a.dtstart.hh * 60 + a.dtstart.mm + ((k + t : Nat) : Int) * a.interval) % 1440) = true := by
  obtain ⟨_, _, _, _, _, _, _, h3, _, _, _⟩ := construct_ok a r h
  obtain ⟨l, hl, hlr⟩ := hm
  rw [hf, hl] at h3
  have d1 : ((Int.gcd a.interval 60 : Nat) : Int) ∣ a.interval := Int.gcd_dvd_left a.interval 60
  obtain ⟨t, ht1, ht2, ht3⟩ := own_reach _ _ _ _ l _ h3 (by omega) (fun x hx => by have := hlr x hx; omega)
    (a.dtstart.mm + (k : Int) * a.interval) (by
      have e : a.dtstart.mm + (k : Int) * a.interval - a.dtstart.mm = k * a.interval := by omega
      rw [e]; exact Int.emod_eq_zero_of_dvd (Int.dvd_trans d1 (Int.dvd_mul_left _ _)))
  refine ⟨t, ht1, by omega, ?_⟩
  have e : (a.dtstart.hh * 60 + a.dtstart.mm + ((k + t : Nat) : Int) * a.interval) % 60 =
      (a.dtstart.mm + (k : Int) * a.interval + (t : Int) * a.interval) % 60 := by
    push_cast; rw [Int.add_mul]; omega
  rw [listed_minutely, hbh, hl, e]
  exact ht3

/-- **`iter_eq_spec`, MINUTELY with BYMINUTE** (members 0..59; no BYHOUR): `n` turns correspond to `m` periods,
    `n ≤ m ≤ 1500·n` (at most 1439 grid minutes jumped over on a removed day, then at most 60 to a listed minute) -/
theorem iter_eq_spec_minutely_byminute (ma : MinutelyByArgs a) (h : construct a = .ok r) (n : Nat)
    (hle : (Spec.RRule.startOrd a * 24 + a.dtstart.hh) * 60 + a.dtstart.mm + (1500 * n + 60) * a.interval + 1439 <
      (maxOrdinal + 1) * 1440) :
    ∃ m, n ≤ m ∧ m ≤ 1500 * n ∧ (iter r n).1 = Spec.RRule.occ a m := by
  have hv := ma.valid
  unfold DT.Valid ValidDate at hv
  exact iter_eq_spec_minutely_filter (wFilter h (by rw [ma.freq]; omega) ma.interval ma.valid ma.weekno ma.byeaster ma.monthday_nz) h ma.freq ma.interval ma.valid (Or.inl ma.byhour) ma.seconds_ok 60 1500
    (minutely_reach_byminute h ma.freq ma.byhour ma.minutes) (by omega) n hv.1.1 hle

/-- **`iter_eq_spec_minutely_byminute_easter`**: `iter_eq_spec_minutely_byminute` with BYEASTER instead of "no
    BYEASTER" — offsets −80..250 (the complement of D-C01d), no BYWEEKNO, a start in a year ≥ 1583 and every
    visited day not after 31 December 4099 (where C19 ties `easter.easter` to Meeus/Jones/Butcher); everything
    else as there, `n ≤ m ≤ 1500·n`. -/
theorem iter_eq_spec_minutely_byminute_easter (ma : MinutelyByEArgs a) (h : construct a = .ok r) (n : Nat)
    (hlo : 1583 ≤ a.dtstart.y)
    (hle : (Spec.RRule.startOrd a * 24 + a.dtstart.hh) * 60 + a.dtstart.mm + (1500 * n + 60) * a.interval + 1439 <
      (Cal.toOrdinal 4099 12 31 + 1) * 1440) :
    ∃ m, n ≤ m ∧ m ≤ 1500 * n ∧ (iter r n).1 = Spec.RRule.occ a m :=
  iter_eq_spec_minutely_filter (eFilter h (by rw [ma.freq]; omega) ma.interval ma.valid ma.byweekno ma.easter ma.monthday_nz) h ma.freq ma.interval ma.valid (Or.inl ma.byhour) ma.seconds_ok 60 1500
    (minutely_reach_byminute h ma.freq ma.byhour ma.minutes) (by omega) n hlo hle

-- non-vacuity: the hypotheses are satisfiable
example : MinutelyByEArgs { freq := 5, dtstart := ⟨2024, 1, 1, 10, 0, 0, 0⟩, byeaster := some [0, 1],
                            byminute := some [0, 30] } :=
  { freq := rfl, interval := (by decide), valid := (by decide), byweekno := rfl,
    easter := ⟨[0, 1], rfl, by simp, by intro o ho; simp at ho; omega⟩,
    monthday_nz := (by intro x hx; simp at hx), byhour := rfl, minutes := ⟨[0, 30], rfl, by intro x hx; simp at hx; omega⟩,
    seconds_ok := (by intro x hx; simp at hx) }

end RRule
