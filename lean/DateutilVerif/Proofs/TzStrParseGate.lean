/-
  Proofs/TzStrParseGate.lean — the gate conditions of `parseTokens` on the tokens of a spelling:
  no ";" to rewrite, exactly two ",", at most two "/", every token after the first "," allowed.
-/
import DateutilVerif.Proofs.TzStrParseAbbr

namespace TzStr

def TokOK (t : String) : Prop := (t == ",") = false ∧ (t == ";") = false

def RuleTokOK (t : String) : Prop :=
  TokOK t ∧ (inSet t [",", "/", "J", "M", ".", "-", ":"] || allCharsIn t "0123456789") = true

theorem dig_ruleTok (t : String) (h : IsDig t) : RuleTokOK t ∧ (t == "/") = false := by
  have hd := digTok_of t h
  exact ⟨⟨⟨hd.comma, hd.semi⟩, by simp [hd.allDig]⟩, hd.slash⟩

theorem num_ruleTok (n : Num) (h : n.Ok) : RuleTokOK n.tok ∧ (n.tok == "/") = false := dig_ruleTok _ (n.isDig h)

/-- the literal tokens of the rule part pass the gate -/
structure LitToks : Prop where
  M : RuleTokOK "M" ∧ ("M" == "/") = false
  J : RuleTokOK "J" ∧ ("J" == "/") = false
  dot : RuleTokOK "." ∧ ("." == "/") = false
  colon : RuleTokOK ":" ∧ (":" == "/") = false
  slash : RuleTokOK "/"

theorem litToks : LitToks := by
  refine ⟨?_, ?_, ?_, ?_, ?_⟩ <;> (unfold RuleTokOK TokOK; decide)

theorem off_toks_ok (o : Off) (h : o.sp.Ok) : ∀ t ∈ toksOf o.chunks, TokOK t := by
  obtain ⟨sign, sp⟩ := o
  have hsign : ∀ t ∈ toksOf (signChunks sign), TokOK t := by
    intro t ht
    cases sign with
    | none => simp [signChunks, toksOf] at ht
    | some b => cases b <;> (simp [signChunks, toksOf] at ht; subst ht; unfold TokOK; decide)
  have hsp : ∀ t ∈ toksOf sp.chunks, TokOK t := by
    intro t ht
    cases sp with
    | h n => simp [OffSp.chunks, numC, toksOf] at ht; subst ht; exact (num_ruleTok n h.1).1.1
    | hhmm t' a b => simp [OffSp.chunks, toksOf] at ht; subst ht; exact (dig_ruleTok _ h.1).1.1
    | colon a b =>
        simp [OffSp.chunks, numC, pC, toksOf] at ht
        rcases ht with e | e | e
        · subst e; exact (num_ruleTok a h.1).1.1
        · subst e; unfold TokOK; decide
        · subst e; exact (num_ruleTok b h.2.1).1.1
  intro t ht
  simp only [Off.chunks, toksOf_append, List.mem_append] at ht
  rcases ht with e | e
  · exact hsign t e
  · exact hsp t e

theorem rule_toks_ok (r : RuleSp) (h : r.Ok) : ∀ t ∈ toksOf r.chunks, RuleTokOK t ∧ (t == "/") = false := by
  intro t ht
  cases r with
  | M m w d =>
      simp [RuleSp.chunks, numC, pC, toksOf] at ht
      rcases ht with e | e | e | e | e | e
      · subst e; exact litToks.M
      · subst e; exact num_ruleTok m h.1
      · subst e; exact litToks.dot
      · subst e; exact num_ruleTok w h.2.1
      · subst e; exact litToks.dot
      · subst e; exact num_ruleTok d h.2.2
  | J n =>
      simp [RuleSp.chunks, numC, toksOf] at ht
      rcases ht with e | e
      · subst e; exact litToks.J
      · subst e; exact num_ruleTok n h.1
  | N n =>
      simp [RuleSp.chunks, numC, toksOf] at ht
      subst ht; exact num_ruleTok n h.1

theorem body_toks_ok (t : TimeSp) (h : t.Ok) : ∀ x ∈ toksOf t.body, RuleTokOK x ∧ (x == "/") = false := by
  intro x hx
  cases t with
  | h n => simp [TimeSp.body, numC, toksOf] at hx; subst hx; exact num_ruleTok n h.1
  | hhmm t' a b => simp [TimeSp.body, toksOf] at hx; subst hx; exact dig_ruleTok _ h.1
  | hm a b =>
      simp [TimeSp.body, numC, pC, toksOf] at hx
      rcases hx with e | e | e
      · subst e; exact num_ruleTok a h.1
      · subst e; exact litToks.colon
      · subst e; exact num_ruleTok b h.2.1
  | hms a b c =>
      simp [TimeSp.body, numC, pC, toksOf] at hx
      rcases hx with e | e | e | e | e
      · subst e; exact num_ruleTok a h.1
      · subst e; exact litToks.colon
      · subst e; exact num_ruleTok b h.2.1
      · subst e; exact litToks.colon
      · subst e; exact num_ruleTok c h.2.2.1

theorem filter_nil_of {p : String → Bool} {l : List String} (h : ∀ t ∈ l, p t = false) : l.filter p = [] := by
  rw [List.filter_eq_nil_iff]; intro t ht; simp [h t ht]

theorem time_toks_ok (tm : Option TimeSp) (h : optOk TimeSp.Ok tm) :
    (∀ x ∈ toksOf (timeChunks tm), RuleTokOK x) ∧
    ((toksOf (timeChunks tm)).filter (· == "/")).length ≤ 1 := by
  cases tm with
  | none => simp [timeChunks, toksOf]
  | some t =>
      have hb := body_toks_ok t h
      refine ⟨?_, ?_⟩
      · intro x hx
        simp only [timeChunks, toksOf_cons, List.mem_cons] at hx
        rcases hx with e | e
        · subst e; exact litToks.slash
        · exact (hb x e).1
      · simp only [timeChunks, toksOf_cons]
        rw [List.filter_cons, filter_nil_of (fun x hx => (hb x hx).2)]
        split <;> simp

end TzStr
