/-
  Proofs/ZonesCount.lean — the wall-clock structure of a coherent, well-formed zone by index:
  segment `c` (the instants with `c` transitions ≤ t) is read on the wall clock as the interval
  `[Lo (c-1), Hi c)`; the ends `Hi` and the starts `Lo` increase, and `Hi i < Lo (i+1)` (WF), so a
  wall time lies in at most two consecutive images.  `wall0 = Hi`, `wall1 = min Hi Lo`.
-/
import DateutilVerif.Proofs.Zones

namespace TZ
open Spec

theorem mono_of_step (f : Nat → Int) (n : Nat) (h : ∀ i, i + 1 < n → f i ≤ f (i + 1)) :
    ∀ i j, i ≤ j → j < n → f i ≤ f j := by
  intro i j hij hj
  induction j with
  | zero => have : i = 0 := by omega
            subst this; exact Int.le_refl _
  | succ k ih =>
      by_cases e : i = k + 1
      · subst e; exact Int.le_refl _
      · have := ih (by omega) (by omega)
        have := h k hj
        omega

section
variable {z : TzFile} {b s : TType} (hc : Coherent z b s) (hwf : WFz z b)
include hc hwf

theorem Coherent.lo_mono (i j : Nat) (hij : i ≤ j) (hj : j < z.utc.length) : Lo z b i ≤ Lo z b j :=
  mono_of_step (Lo z b) z.utc.length (fun k hk => Int.le_of_lt (hc.lo_step hwf k hk)) i j hij hj

theorem Coherent.hi_mono (i j : Nat) (hij : i ≤ j) (hj : j < z.utc.length) : Hi z b i ≤ Hi z b j :=
  mono_of_step (Hi z b) z.utc.length (fun k hk => Int.le_of_lt (hc.hi_step hwf k hk)) i j hij hj

/-- **a pre-image lies in segment `k0` or `k0+1`**, `k0` the fold=0 wall count -/
theorem Coherent.pre_seg (w t : Int) (hp : w = t + Bo z b (bisectRight z.utc t)) :
    bisectRight z.utc t = bisectRight z.wall0 w ∨
    bisectRight z.utc t = bisectRight z.wall0 w + 1 := by
  have hcn := bisectRight_le z.utc t
  have hkn : bisectRight z.wall0 w ≤ z.utc.length := by rw [← hc.w0_len]; exact bisectRight_le _ _
  obtain ⟨c1, c2⟩ := (hc.count_utc hwf t _ hcn).mp rfl
  obtain ⟨k1, k2⟩ := (hc.count_w0 hwf w _ hkn).mp rfl
  generalize bisectRight z.utc t = c at *
  generalize bisectRight z.wall0 w = k at *
  by_cases h1 : c < k
  · exfalso
    have a := c2 (by omega)
    have m := hc.hi_mono hwf c (k - 1) (by omega) (by omega)
    have := k1 (by omega)
    simp only [Hi] at m this
    omega
  by_cases h2 : k + 2 ≤ c
  · exfalso
    have a := c1 (by omega)
    have k' := k2 (by omega)
    have hl := hc.hi_lo hwf k (by omega)
    have m := hc.lo_mono hwf (k + 1) (c - 1) (by omega) (by omega)
    have e : c - 1 + 1 = c := by omega
    simp only [Lo, Hi, e] at m hl k'
    omega
  omega

/-- segment `c` reads `w` ⇒ `w − offset(c)` is an instant of segment `c` -/
theorem Coherent.seg_pre (w : Int) (c : Nat) (hcn : c ≤ z.utc.length)
    (h1 : 0 < c → Lo z b (c - 1) ≤ w) (h2 : c < z.utc.length → w < Hi z b c) :
    bisectRight z.utc (w - Bo z b c) = c := by
  rw [hc.count_utc hwf _ c hcn]
  refine ⟨fun h0 => ?_, fun hn => ?_⟩
  · have := h1 h0
    have e : c - 1 + 1 = c := by omega
    simp only [Lo, e] at this; omega
  · have := h2 hn
    simp only [Hi] at this; omega

/-- the fold=1 wall count: one more than the fold=0 count exactly when the next segment reads `w` too -/
theorem Coherent.count_w1_eq (w : Int) :
    bisectRight z.wall1 w =
      if bisectRight z.wall0 w < z.utc.length ∧ Lo z b (bisectRight z.wall0 w) ≤ w
      then bisectRight z.wall0 w + 1 else bisectRight z.wall0 w := by
  have hkn : bisectRight z.wall0 w ≤ z.utc.length := by rw [← hc.w0_len]; exact bisectRight_le _ _
  obtain ⟨k1, k2⟩ := (hc.count_w0 hwf w _ hkn).mp rfl
  generalize bisectRight z.wall0 w = k at *
  by_cases hP : k < z.utc.length ∧ Lo z b k ≤ w
  · rw [if_pos hP, hc.count_w1 hwf w (k + 1) (by omega)]
    refine ⟨fun _ => ?_, fun hn => ?_⟩
    · simp only [Nat.add_sub_cancel]; omega
    · have a := k2 hP.1
      have m := hc.hi_step hwf k hn
      have l := hc.hi_lo hwf k hn
      omega
  · rw [if_neg hP, hc.count_w1 hwf w k hkn]
    refine ⟨fun h0 => ?_, fun hn => ?_⟩
    · have := k1 h0; omega
    · have := k2 hn
      have : ¬ Lo z b k ≤ w := fun h => hP ⟨hn, h⟩
      omega

end

end TZ
