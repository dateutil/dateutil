/-
  Proofs/RRuleSecondly.lean — SECONDLY without BYHOUR / BYMINUTE / BYSECOND: the two argument classes (BYWEEKNO absent or
  harmless and no BYEASTER; BYEASTER −80..250 and no BYWEEKNO) as instances of Proofs/RRuleSubSecondly.lean over the day
  filters of Proofs/RRuleWFilter.lean and Proofs/RRuleEFilter.lean.
-/
import DateutilVerif.Proofs.RRuleWFilter
import DateutilVerif.Proofs.RRuleEFilter
import DateutilVerif.Proofs.RRuleSubSecondly

namespace RRule
open Cal

structure SecondlyArgs (a : Args) : Prop where
  freq : a.freq = 6
  interval : 1 ≤ a.interval
  valid : a.dtstart.Valid
  weekno : WArg a
  byeaster : a.byeaster = none
  monthday_nz : ∀ x ∈ a.bymonthday.getD [], x ≠ 0
  byhour : a.byhour = none
  byminute : a.byminute = none
  bysecond : a.bysecond = none

structure SecondlyEArgs (a : Args) : Prop where
  freq : a.freq = 6
  interval : 1 ≤ a.interval
  valid : a.dtstart.Valid
  byweekno : a.byweekno = none
  easter : ∃ el, a.byeaster = some el ∧ el ≠ [] ∧ ∀ o ∈ el, -80 ≤ o ∧ o ≤ 250
  monthday_nz : ∀ x ∈ a.bymonthday.getD [], x ≠ 0
  byhour : a.byhour = none
  byminute : a.byminute = none
  bysecond : a.bysecond = none

variable {a : Args} {r : Rule}

/-- "the model state at the start of period `k`" for a SECONDLY rule: `SubGood .secondly` over the filter of `WRule`s
    (`secondly_good`) -/
structure SecondlyGood (a : Args) (r : Rule) (k : Nat) (st : State) : Prop where
  facts : YearFacts r st.cur.year st.info
  inv : WInv r st.info
  valid : ValidYMD st.cur.year st.cur.month st.cur.day
  hour : 0 ≤ st.cur.hour ∧ st.cur.hour ≤ 23
  minute : 0 ≤ st.cur.minute ∧ st.cur.minute ≤ 59
  second : 0 ≤ st.cur.second ∧ st.cur.second ≤ 59
  idx : ((curOrd st.cur * 24 + st.cur.hour) * 60 + st.cur.minute) * 60 + st.cur.second =
    ((Spec.RRule.startOrd a * 24 + a.dtstart.hh) * 60 + a.dtstart.mm) * 60 + a.dtstart.ss + k * a.interval
  timeset : st.timeset = Spec.RRule.timesOf a (some st.cur.hour) (some st.cur.minute) (some st.cur.second)

/-- … and over the filter of `ERule`s (`secondly_good_easter`) -/
structure SecondlyEGood (a : Args) (r : Rule) (k : Nat) (st : State) : Prop where
  facts : YearFacts r st.cur.year st.info
  inv : EInv r st.info
  valid : ValidYMD st.cur.year st.cur.month st.cur.day
  hour : 0 ≤ st.cur.hour ∧ st.cur.hour ≤ 23
  minute : 0 ≤ st.cur.minute ∧ st.cur.minute ≤ 59
  second : 0 ≤ st.cur.second ∧ st.cur.second ≤ 59
  idx : ((curOrd st.cur * 24 + st.cur.hour) * 60 + st.cur.minute) * 60 + st.cur.second =
    ((Spec.RRule.startOrd a * 24 + a.dtstart.hh) * 60 + a.dtstart.mm) * 60 + a.dtstart.ss + k * a.interval
  timeset : st.timeset = Spec.RRule.timesOf a (some st.cur.hour) (some st.cur.minute) (some st.cur.second)

theorem secondly_good {h : construct a = .ok r} {hf hi hv hw he hz} {k : Nat} {st : State}
    (hg : SubGood .secondly (wFilter h hf hi hv hw he hz) k st) : SecondlyGood a r k st :=
  ⟨hg.facts, hg.inv, hg.valid, hg.digits.1, hg.digits.2.1, hg.digits.2.2, hg.secondly.1, hg.secondly.2⟩

theorem secondly_good_easter {h : construct a = .ok r} {hf hi hv hw he hz} {k : Nat} {st : State}
    (hg : SubGood .secondly (eFilter h hf hi hv hw he hz) k st) : SecondlyEGood a r k st :=
  ⟨hg.facts, hg.inv, hg.valid, hg.digits.1, hg.digits.2.1, hg.digits.2.2, hg.secondly.1, hg.secondly.2⟩

theorem secondly_reach_all (hbh : a.byhour = none) (hbm : a.byminute = none) (hbs : a.bysecond = none) (k : Nat) :
    ∃ t : Nat, 1 ≤ t ∧ t ≤ 1 ∧ SubFreq.listed .secondly a
      (((a.dtstart.hh * 60 + a.dtstart.mm) * 60 + a.dtstart.ss + ((k + t : Nat) : Int) * a.interval) % 86400) = true :=
  ⟨1, by omega, by omega, by rw [listed_secondly, listed3, hbh, hbm, hbs]; rfl⟩

/-- **`iter_eq_spec`, SECONDLY** (no BYHOUR / BYMINUTE / BYSECOND): as `iter_eq_spec_hourly`, with up to 86400
    periods passed over per turn -/
theorem iter_eq_spec_secondly (sa : SecondlyArgs a) (h : construct a = .ok r) (n : Nat)
    (hle : ((Spec.RRule.startOrd a * 24 + a.dtstart.hh) * 60 + a.dtstart.mm) * 60 + a.dtstart.ss +
      (86400 * n + 1) * a.interval + 86399 < (maxOrdinal + 1) * 86400) :
    ∃ m, n ≤ m ∧ m ≤ 86400 * n ∧ (iter r n).1 = Spec.RRule.occ a m := by
  have hv := sa.valid
  unfold DT.Valid ValidDate at hv
  exact iter_eq_spec_secondly_filter (wFilter h (by rw [sa.freq]; omega) sa.interval sa.valid sa.weekno sa.byeaster sa.monthday_nz) h sa.freq sa.interval sa.valid (Or.inl sa.byhour) (Or.inl sa.byminute)
    1 86400 (secondly_reach_all sa.byhour sa.byminute sa.bysecond) (by omega) n hv.1.1 hle

/-- **`iter_eq_spec_secondly_easter`**: `iter_eq_spec_secondly` with BYEASTER instead of "no BYEASTER" — offsets
    −80..250 (the complement of D-C01d), no BYWEEKNO, a start in a year ≥ 1583 and every visited day not after 31
    December 4099 (where C19 ties `easter.easter` to Meeus/Jones/Butcher); everything else as there, `n ≤ m ≤
    86400·n`. -/
theorem iter_eq_spec_secondly_easter (sa : SecondlyEArgs a) (h : construct a = .ok r) (n : Nat)
    (hlo : 1583 ≤ a.dtstart.y)
    (hle : ((Spec.RRule.startOrd a * 24 + a.dtstart.hh) * 60 + a.dtstart.mm) * 60 + a.dtstart.ss +
      (86400 * n + 1) * a.interval + 86399 < (Cal.toOrdinal 4099 12 31 + 1) * 86400) :
    ∃ m, n ≤ m ∧ m ≤ 86400 * n ∧ (iter r n).1 = Spec.RRule.occ a m :=
  iter_eq_spec_secondly_filter (eFilter h (by rw [sa.freq]; omega) sa.interval sa.valid sa.byweekno sa.easter sa.monthday_nz) h sa.freq sa.interval sa.valid (Or.inl sa.byhour) (Or.inl sa.byminute)
    1 86400 (secondly_reach_all sa.byhour sa.byminute sa.bysecond) (by omega) n hlo hle

-- non-vacuity: the hypotheses are satisfiable
example : SecondlyEArgs { freq := 6, dtstart := ⟨2024, 1, 1, 10, 0, 0, 0⟩, byeaster := some [0, 1] } :=
  { freq := rfl, interval := (by decide), valid := (by decide), byweekno := rfl,
    easter := ⟨[0, 1], rfl, by simp, by intro o ho; simp at ho; omega⟩,
    monthday_nz := (by intro x hx; simp at hx), byhour := rfl, byminute := rfl, bysecond := rfl }

end RRule
