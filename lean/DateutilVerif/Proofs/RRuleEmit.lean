/-
  Proofs/RRuleEmit.lean — the emission loop (until / dtstart / count) and what it implies for the
  whole iteration, for EVERY rule and every fuel (no hypothesis on the rule).
-/
import DateutilVerif.Proofs.RRuleAdvanceEq

namespace RRule

theorem emit_sublist (r : Rule) : ∀ (l : List Inst) (c : Option Int), (emit r l c).1.Sublist l := by
  intro l
  induction l with
  | nil => intro c; simp [emit]
  | cons x xs ih =>
    intro c
    unfold emit
    split
    · exact List.nil_sublist _
    · split
      · cases c with
        | none => simpa using (ih none).cons₂ x
        | some n =>
          dsimp only
          split
          · exact List.nil_sublist _
          · simpa using (ih (some (n - 1))).cons₂ x
      · exact (ih c).cons x

/-- every yielded value passed both tests of the loop: not after UNTIL, not before DTSTART -/
theorem emit_mem (r : Rule) : ∀ (l : List Inst) (c : Option Int),
    ∀ x ∈ (emit r l c).1, r.dtstart.toMicros ≤ x.micros ∧ afterUntil r x = false := by
  intro l
  induction l with
  | nil => intro c x hx; simp [emit] at hx
  | cons y ys ih =>
    intro c x hx
    unfold emit at hx
    split at hx
    · simp at hx
    · rename_i hu
      split at hx
      · rename_i hs
        cases c with
        | none =>
          simp only [List.mem_cons] at hx
          rcases hx with rfl | hx
          · exact ⟨hs, by simpa using hu⟩
          · exact ih none x hx
        | some n =>
          dsimp only at hx
          split at hx
          · simp at hx
          · simp only [List.mem_cons] at hx
            rcases hx with rfl | hx
            · exact ⟨hs, by simpa using hu⟩
            · exact ih _ x hx
      · exact ih c x hx

/-- with `count = n`: at most `n` values are yielded, and while the generator has not returned the
    remaining count is exactly `n − yielded` -/
theorem emit_count (r : Rule) : ∀ (l : List Inst) (n : Int),
    ((emit r l (some n)).1.length : Int) ≤ max n 0 ∧
    ((emit r l (some n)).2.1 = none →
      (emit r l (some n)).2.2 = some (n - (emit r l (some n)).1.length) ∧ ((emit r l (some n)).1.length : Int) ≤ n ∨
      (emit r l (some n)).1 = [] ∧ (emit r l (some n)).2.2 = some n) := by
  intro l
  induction l with
  | nil => intro n; simp [emit]; omega
  | cons y ys ih =>
    intro n
    unfold emit
    split
    · simp; omega
    · split
      · dsimp only
        split
        · simp; omega
        · rename_i hn
          have := ih (n - 1)
          simp only [List.length_cons]
          refine ⟨by omega, ?_⟩
          intro hnone
          rcases this.2 hnone with ⟨h1, h2⟩ | ⟨h1, h2⟩
          · left; rw [h1]; constructor
            · congr 1; push_cast; omega
            · push_cast; omega
          · left; rw [h2, h1]; simp; omega
      · exact ih n

theorem fixDay_count (r : Rule) (st st' : State) (b : Bool) (h : fixDay r st b = .ok st') :
    st'.count = st.count := by
  unfold fixDay at h
  dsimp only at h
  repeat' (split at h <;> try dsimp only at h)
  all_goals first
    | (cases h; done)
    | (cases h; rfl)

theorem advance_count (r : Rule) (st st' : State) (f : Bool) (h : advance r st f = .ok st') :
    st'.count = st.count := by
  have hf : r.freq = 0 ∨ r.freq = 1 ∨ r.freq = 2 ∨ r.freq = 3 ∨ r.freq = 4 ∨ r.freq = 5 ∨ r.freq = 6 ∨
      (r.freq < 0 ∨ 6 < r.freq) := by omega
  rcases hf with hf | hf | hf | hf | hf | hf | hf | hf
  · rw [advance_yearly_eq r st f hf] at h
    repeat' split at h
    all_goals cases h
    rfl
  · rw [advance_monthly_eq r st f hf] at h
    dsimp only at h
    repeat' split at h
    all_goals cases h
    all_goals rfl
  · rw [advance_weekly_eq r st f hf] at h; exact (fixDay_count r _ st' _ h :)
  · rw [advance_daily_eq r st f hf] at h; exact (fixDay_count r _ st' _ h :)
  · rw [advance_hourly_eq r st f hf] at h
    dsimp only at h
    split at h
    · cases h
    · split at h
      · cases h
      · exact (fixDay_count r _ st' _ h :)
  · rw [advance_minutely_eq r st f hf] at h
    dsimp only at h
    split at h
    · cases h
    · split at h
      · cases h
      · exact (fixDay_count r _ st' _ h :)
  · rw [advance_secondly_eq r st f hf] at h
    dsimp only at h
    split at h
    · cases h
    · split at h
      · cases h
      · exact (fixDay_count r _ st' _ h :)
  · rw [advance_other_eq r st f hf] at h; cases h

theorem init_count (r : Rule) (st : State) (h : init r = .ok st) : st.count = r.count := by
  unfold init at h
  simp only [bind, Except.bind, pure, Except.pure] at h
  repeat' split at h
  all_goals first
    | (cases h; done)
    | (injection h with h; subst h; rfl)

theorem step_char (r : Rule) (st : State) :
    (∃ e, step r st = ([], .error e)) ∨
    ∃ cands, (step r st).1 = (emit r cands st.count).1 ∧
      ∀ st', (step r st).2 = .ok st' →
        (emit r cands st.count).2.1 = none ∧ st'.count = (emit r cands st.count).2.2 := by
  unfold step
  split
  · left; exact ⟨_, rfl⟩
  · rename_i cands pending filtered _
    right
    refine ⟨cands, ?_, ?_⟩
    · dsimp only
      split
      · rfl
      · split <;> rfl
    · intro st' h
      dsimp only at h
      split at h
      · cases h
      · rename_i hnone
        split at h
        · cases h
        · exact ⟨hnone, advance_count r _ st' _ h⟩

theorem step_mem (r : Rule) (st : State) :
    ∀ x ∈ (step r st).1, r.dtstart.toMicros ≤ x.micros ∧ afterUntil r x = false := by
  intro x hx
  rcases step_char r st with ⟨e, he⟩ | ⟨cands, h1, _⟩
  · rw [he] at hx; simp at hx
  · rw [h1] at hx; exact emit_mem r _ _ x hx

/-- a property of every period's output, under an invariant of the states, holds of the whole run -/
theorem run_forall_inv (r : Rule) (I : State → Prop) (P : Inst → Prop)
    (hP : ∀ st, I st → ∀ x ∈ (step r st).1, P x)
    (hI : ∀ st st', I st → (step r st).2 = .ok st' → I st') :
    ∀ (n : Nat) (st : State), I st → ∀ x ∈ (run r n st).1, P x := by
  intro n
  induction n with
  | zero => intro st _ x hx; simp [run] at hx
  | succ n ih =>
    intro st hi x hx
    unfold run at hx
    have h1 := hP st hi
    have h2 := hI st
    generalize step r st = sr at hx h1 h2
    obtain ⟨out, res⟩ := sr
    cases res with
    | error s => exact h1 x hx
    | ok st' =>
      dsimp only at hx
      rcases List.mem_append.mp hx with h | h
      · exact h1 x h
      · exact ih st' (h2 st' hi rfl) x h

/-- every value of the whole iteration is at or after DTSTART and not after UNTIL -/
theorem iter_mem (r : Rule) (n : Nat) :
    ∀ x ∈ (iter r n).1, r.dtstart.toMicros ≤ x.micros ∧ afterUntil r x = false := by
  unfold iter; split
  · intro x hx; simp at hx
  · exact run_forall_inv r (fun _ => True) _ (fun st _ => step_mem r st) (fun _ _ _ _ => trivial) n _ trivial

theorem run_count (r : Rule) : ∀ (fuel : Nat) (st : State) (n : Int), st.count = some n →
    ((run r fuel st).1.length : Int) ≤ max n 0 := by
  intro fuel
  induction fuel with
  | zero => intro st n _; simp [run]; omega
  | succ k ih =>
    intro st n hn
    unfold run
    rcases step_char r st with ⟨e, he⟩ | ⟨cands, h1, h2⟩
    · rw [he]; simp; omega
    · rw [hn] at h1 h2
      have hc := emit_count r cands n
      generalize hsr : step r st = sr at h1 h2
      obtain ⟨out, res⟩ := sr
      dsimp only at h1 h2
      subst h1
      cases res with
      | error s => dsimp only; exact hc.1
      | ok st' =>
        dsimp only
        obtain ⟨hnone, hcnt⟩ := h2 st' rfl
        rcases hc.2 hnone with ⟨e1, e2⟩ | ⟨e1, e2⟩
        · have := ih st' _ (hcnt.trans e1)
          simp only [List.length_append]; push_cast; omega
        · have := ih st' _ (hcnt.trans e2)
          rw [e1]; simpa using this

end RRule
