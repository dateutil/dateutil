/-
  Proofs/RRuleMasks.lean — what `_iterinfo.rebuild` computes, in calendar terms: for the year `y`
  of the cursor, mask index `i` stands for the date with ordinal `toOrdinal y 1 1 + i`, and the
  month / month-day / negative month-day / weekday masks hold that date's month, day, day counted
  from the month's end, and weekday — for every index of the year and of the 7-day tail.
-/
import DateutilVerif.Proofs.RRuleTables
import DateutilVerif.Model.RRule
import DateutilVerif.Proofs.Calendar

namespace RRule
open Cal RRule.Tables

/-- the date at offset `i` from 1 January of year `y`, inside the year -/
theorem date_of_yday (y i : Int) (hy : 1 ≤ y) (h0 : 0 ≤ i) (h1 : i < daysInYear y) :
    fromOrdinal (toOrdinal y 1 1 + i) =
      (y, monthOfYday (isLeap y) i, (monthDayOfYday (isLeap y) i).2) := by
  have h := monthDay_spec y i h0 h1
  have e : toOrdinal y 1 1 + i =
      toOrdinal y (monthDayOfYday (isLeap y) i).1 (monthDayOfYday (isLeap y) i).2 := by
    unfold toOrdinal; rw [daysBeforeMonth_1]; omega
  rw [e, fromOrdinal_toOrdinal y _ _ hy h.2]
  rfl

theorem toOrdinal_next_year (y : Int) : toOrdinal (y + 1) 1 1 = toOrdinal y 1 1 + daysInYear y := by
  unfold toOrdinal; rw [daysBeforeYear_succ, daysBeforeMonth_1, daysBeforeMonth_1]; omega

theorem daysInYear_eq_ylen (y : Int) : daysInYear y = ylen (isLeap y) := by
  unfold daysInYear ylen; rfl

/-- the date at offset `i` from 1 January of year `y`, including the 7-day tail in year `y+1` -/
theorem date_of_index (y i : Int) (hy : 1 ≤ y) (h0 : 0 ≤ i) (h1 : i < daysInYear y + 7) :
    fromOrdinal (toOrdinal y 1 1 + i) =
      (if i < daysInYear y then (y, monthAt (isLeap y) i, mdayAt (isLeap y) i)
       else (y + 1, 1, i - daysInYear y + 1)) := by
  by_cases c : i < daysInYear y
  · rw [if_pos c, date_of_yday y i hy h0 c]
    have c' : i < ylen (isLeap y) := by rw [← daysInYear_eq_ylen]; exact c
    simp only [monthAt, mdayAt, if_pos c']
  · rw [if_neg c]
    have e : toOrdinal y 1 1 + i = toOrdinal (y + 1) 1 1 + (i - daysInYear y) := by
      rw [toOrdinal_next_year]; omega
    have hlt : i - daysInYear y < daysInYear (y + 1) := by
      have : 365 ≤ daysInYear (y + 1) := by unfold daysInYear; split <;> omega
      omega
    rw [e, date_of_yday (y + 1) (i - daysInYear y) (by omega) (by omega) hlt]
    have h7 : i - daysInYear y < 7 := by omega
    have hm : monthOfYday (isLeap (y + 1)) (i - daysInYear y) = 1 := by
      unfold monthOfYday; simp only []; rw [if_pos (by omega)]
    simp only [monthDayOfYday, hm]
    simp [dbmTable]

/-- the facts `rebuild` establishes about the year -/
structure YearFacts (r : Rule) (y : Int) (info : Info) : Prop where
  yearlen : info.yearlen = daysInYear y
  nextyearlen : info.nextyearlen = daysInYear (y + 1)
  yearordinal : info.yearordinal = toOrdinal y 1 1
  yearweekday : info.yearweekday = weekdayOfOrd (toOrdinal y 1 1)
  mmask : info.mmask = mmaskOf (isLeap y)
  mdaymask : info.mdaymask = mdaymaskOf (isLeap y)
  nmdaymask : info.nmdaymask = nmdaymaskOf (isLeap y)
  mrange : info.mrange = mrangeOf (isLeap y)
  wdaymask : info.wdaymask = Gen.WDAYMASK.drop (weekdayOfOrd (toOrdinal y 1 1)).toNat
  year_lo : 1 ≤ y
  year_hi : y ≤ 9999

theorem rebuild_facts (r : Rule) (y m : Int) (info : Info) (h : rebuild r y m = .ok info) :
    YearFacts r y info := by
  unfold rebuild at h
  split at h
  · cases h
  · rename_i hyr
    split at h
    · cases h
    · split at h
      · cases h
      · split at h
        · cases h
        · injection h with h
          subst h
          constructor <;> first
            | (simp only [baseInfo, daysInYear]; done)
            | (simp only [baseInfo, mmaskOf, mdaymaskOf, nmdaymaskOf, mrangeOf]; done)
            | rfl
            | omega

theorem getIdx_drop {α} (l : List α) (k : Nat) (i : Int) (h0 : 0 ≤ i) (h1 : i + k < l.length) :
    Py.getIdx (l.drop k) i = Py.getIdx l (i + k) := by
  unfold Py.getIdx
  have e1 : ((l.drop k).length : Int) = (l.length : Int) - k := by
    rw [List.length_drop]; omega
  simp only [e1]
  rw [if_neg (by omega), if_neg (by omega), if_neg (by omega), if_neg (by omega)]
  rw [List.getElem?_drop]
  have : (i + (k : Int)).toNat = k + i.toNat := by omega
  rw [this]

variable {r : Rule} {y : Int} {info : Info}

/-- `mmask[i]` is the month of the date at index `i` (year and 7-day tail) -/
theorem mmask_date (f : YearFacts r y info) (i : Int) (h0 : 0 ≤ i) (h1 : i < info.yearlen + 7) :
    Py.getIdx info.mmask i = .ok (fromOrdinal (info.yearordinal + i)).2.1 := by
  rw [f.yearlen] at h1
  rw [f.mmask, f.yearordinal, date_of_index y i f.year_lo h0 h1,
      mmask_spec _ i h0 (by rw [← daysInYear_eq_ylen]; exact h1)]
  unfold monthAt; rw [← daysInYear_eq_ylen]
  split <;> rfl

/-- `mdaymask[i]` is the day of the month of the date at index `i` -/
theorem mdaymask_date (f : YearFacts r y info) (i : Int) (h0 : 0 ≤ i) (h1 : i < info.yearlen + 7) :
    Py.getIdx info.mdaymask i = .ok (fromOrdinal (info.yearordinal + i)).2.2 := by
  rw [f.yearlen] at h1
  rw [f.mdaymask, f.yearordinal, date_of_index y i f.year_lo h0 h1,
      mdaymask_spec _ i h0 (by rw [← daysInYear_eq_ylen]; exact h1)]
  unfold mdayAt; rw [← daysInYear_eq_ylen]
  split <;> rfl

/-- `nmdaymask[i]` is the day counted from the end of its month (−1 = last day) -/
theorem nmdaymask_date (f : YearFacts r y info) (i : Int) (h0 : 0 ≤ i) (h1 : i < info.yearlen + 7) :
    Py.getIdx info.nmdaymask i =
      .ok ((fromOrdinal (info.yearordinal + i)).2.2 -
           daysInMonth (fromOrdinal (info.yearordinal + i)).1 (fromOrdinal (info.yearordinal + i)).2.1 - 1) := by
  rw [f.yearlen] at h1
  rw [f.nmdaymask, f.yearordinal, date_of_index y i f.year_lo h0 h1,
      nmdaymask_spec _ i h0 (by rw [← daysInYear_eq_ylen]; exact h1)]
  unfold nmdayAt; rw [← daysInYear_eq_ylen]
  split
  · simp only [daysInMonth_eq_dimL, mdayAt, monthAt, ← daysInYear_eq_ylen]
    rename_i hc; rw [if_pos hc, if_pos hc]
  · simp [daysInMonth]

/-- `wdaymask[i]` is the weekday of the date at index `i` -/
theorem wdaymask_date (f : YearFacts r y info) (i : Int) (h0 : 0 ≤ i) (h1 : i < 379) :
    Py.getIdx info.wdaymask i = .ok (weekdayOfOrd (info.yearordinal + i)) := by
  have hw := weekdayOfOrd_range (toOrdinal y 1 1)
  rw [f.wdaymask, f.yearordinal, getIdx_drop _ _ i h0 (by rw [lengths.2.2.2.2.2.2.1]; omega)]
  have e : ((weekdayOfOrd (toOrdinal y 1 1)).toNat : Int) = weekdayOfOrd (toOrdinal y 1 1) := by omega
  rw [e, wdaymask_spec _ (by omega) (by omega), weekdayOfOrd_add]
  congr 1; omega

end RRule
