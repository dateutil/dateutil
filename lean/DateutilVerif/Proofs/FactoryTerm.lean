/-
  Proofs/FactoryTerm.lean — a global variant: every statement executed by any thread strictly
  decreases `measure s`; reference drops and collections leave it unchanged.  Hence every schedule
  executes at most `measure s₀` thread statements (finite scripts ⇒ finite runs), whatever the
  interleaving.  No invariant is needed: the argument is purely about control flow + an
  amortised potential (2 · length of the strong cache) that pays for the `set_cache_size` loop.
-/
import DateutilVerif.Proofs.FactoryInv

namespace Fact

variable {kd : Kind} {res : Key → Res}

def pcRank : Pc → Nat
  | .idle => 0
  | .xRelX => 1 | .xRet => 1 | .xRel => 2 | .xEvict => 3 | .xLen => 4 | .xTouch => 8
  | .lSdWrite => 9 | .lSdRead => 10 | .lInit => 11 | .lAlloc => 12 | .lTest => 13 | .lGet => 14 | .lAcq => 15
  | .gRetE => 1 | .gRelE => 2 | .gStore => 9 | .gCheck => 10 | .gInit => 11 | .gAlloc => 12 | .gTest => 13
  | .gGet => 14 | .gAcq => 15
  | .sRel => 1 | .sPop => 2 | .sLoop => 3 | .sSet => 4 | .sAcq => 5
  | .cRel => 1 | .cStrong => 2 | .cWeak => 3 | .cAcq => 4
  | .fRet => 1 | .fInit => 2 | .fAlloc => 3
  | .uRet => 1 | .uStore => 2 | .uInit => 3 | .uAlloc => 4 | .uTest => 5

def opCost : Op → Nat
  | .call _ => 17
  | .fresh _ => 4
  | .setSize _ => 6
  | .clear => 5

def thCost (th : Thread) : Nat := pcRank th.pc + (th.todo.map opCost).sum

def measure (s : State) : Nat := 2 * s.g.strong.length + (s.ths.map thCost).sum

theorem tstep_decreases {t : Tid} {g g' : Glob} {th th' : Thread} (h : tstep kd res t g th = some (g', th')) :
    2 * g'.strong.length + thCost th' < 2 * g.strong.length + thCost th := by
  revert h
  fun_cases tstep kd res t g th <;> intro h <;> cases h <;> (try split) <;>
    simp only [thCost, pcRank, ‹th.pc = _›, List.length_nil] <;>
    (try simp only [‹g.strong = _›, List.length_cons]) <;>
    (try simp only [‹th.todo = _›, List.map_cons, List.sum_cons, opCost]) <;>
    first | omega | (have := touch_length_le g.strong th.key ‹Id›; omega)

theorem step_thr_decreases {s s' : State} {t : Tid} (h : step kd res s (.thr t) = some s') :
    measure s' < measure s := by
  obtain ⟨th, g', th', hth, hstep, rfl⟩ := step_thr h
  have h1 := tstep_decreases hstep
  have h2 := List.sum_map_set thCost hth th'
  simp only [measure]
  omega

theorem step_env_measure {s s' : State} {l : Label} (hl : ∀ t, l ≠ .thr t) (h : step kd res s l = some s') :
    measure s' = measure s := by
  cases l with
  | thr t => exact absurd rfl (hl t)
  | drop t n => cases step_drop h; rfl
  | collect k => obtain ⟨_, _, _, rfl⟩ := step_collect h; rfl

/-- execute a list of labels, each of which must be enabled -/
def runLabels (kd : Kind) (res : Key → Res) : State → List Label → Option State
  | s, [] => some s
  | s, l :: ls => match step kd res s l with
    | none => none
    | some s' => runLabels kd res s' ls

def isThr : Label → Bool
  | .thr _ => true
  | _ => false

theorem run_bounded {s s' : State} {ls : List Label} (h : runLabels kd res s ls = some s') :
    (ls.filter isThr).length + measure s' ≤ measure s := by
  induction ls generalizing s with
  | nil => simp only [runLabels, Option.some.injEq] at h; subst h; simp
  | cons l ls ih =>
    simp only [runLabels] at h
    split at h
    · cases h
    · rename_i s1 hs1
      have := ih h
      cases l with
      | thr t =>
        have hd := step_thr_decreases hs1
        simp only [List.filter_cons, isThr, if_true, List.length_cons]; omega
      | drop t n =>
        have he := step_env_measure (l := .drop t n) (fun _ h => by cases h) hs1
        simp only [List.filter_cons, isThr]; simp; omega
      | collect k =>
        have he := step_env_measure (l := .collect k) (fun _ h => by cases h) hs1
        simp only [List.filter_cons, isThr]; simp; omega

theorem run_reachable {s0 s s' : State} {ls : List Label} (hr : Reachable kd res s0 s)
    (h : runLabels kd res s ls = some s') : Reachable kd res s0 s' := by
  induction ls generalizing s with
  | nil => simp only [runLabels, Option.some.injEq] at h; subst h; exact hr
  | cons l ls ih =>
    simp only [runLabels] at h
    split at h
    · cases h
    · rename_i s1 hs1
      exact ih (Reachable.step hr hs1) h

end Fact
