/- Proofs/IsoWeek.lean — ISO week arithmetic: the Monday of week 1, `_calculate_weekdate`,
   and `isocalendar` as the inverse of (ISO year, week, weekday) ↦ ordinal. -/
import DateutilVerif.Model.IsoParser
import DateutilVerif.Spec.IsoForms
import DateutilVerif.Proofs.Calendar
namespace Iso
open Cal

theorem toOrdinal_jan (y d : Int) : toOrdinal y 1 d = daysBeforeYear y + d := by
  simp [toOrdinal, daysBeforeMonth, dbmTable]

/-- the Monday of ISO week 1 is a Monday within three days of January 1st -/
theorem w1_facts (y : Int) :
    (isoWeek1Monday y + 6) % 7 = 0 ∧ daysBeforeYear y - 2 ≤ isoWeek1Monday y ∧
    isoWeek1Monday y ≤ daysBeforeYear y + 4 := by
  unfold isoWeek1Monday
  simp only [toOrdinal_jan]
  generalize daysBeforeYear y = F
  split <;> omega

theorem daysInYear_cases (y : Int) : daysInYear y = 365 ∨ daysInYear y = 366 := by
  unfold daysInYear; split <;> simp

/-- consecutive ISO years start 52 or 53 weeks apart -/
theorem w1_step (y : Int) :
    isoWeek1Monday (y + 1) - isoWeek1Monday y = 364 ∨ isoWeek1Monday (y + 1) - isoWeek1Monday y = 371 := by
  have a := w1_facts y
  have b := w1_facts (y + 1)
  have s := daysBeforeYear_succ y
  have e := daysInYear_cases y
  omega

/-- `isocalendar()` by the ISO year the day falls in: the year before, the year itself, the year after -/
theorem isoCalendar_cases (y m d : Int)
    (hhi : toOrdinal y m d ≤ daysBeforeYear (y + 1)) :
    (toOrdinal y m d < isoWeek1Monday y →
      isoCalendar y m d = (y - 1, (toOrdinal y m d - isoWeek1Monday (y - 1)) / 7 + 1,
        (toOrdinal y m d - isoWeek1Monday (y - 1)) % 7 + 1)) ∧
    (isoWeek1Monday y ≤ toOrdinal y m d → toOrdinal y m d < isoWeek1Monday (y + 1) →
      isoCalendar y m d = (y, (toOrdinal y m d - isoWeek1Monday y) / 7 + 1,
        (toOrdinal y m d - isoWeek1Monday y) % 7 + 1)) ∧
    (isoWeek1Monday (y + 1) ≤ toOrdinal y m d →
      isoCalendar y m d = (y + 1, (toOrdinal y m d - isoWeek1Monday (y + 1)) / 7 + 1,
        (toOrdinal y m d - isoWeek1Monday (y + 1)) % 7 + 1)) := by
  have st := w1_step y
  have f1 := w1_facts (y + 1)
  unfold isoCalendar
  simp only [Py.fdiv_pos _ (by decide : (0 : Int) < 7), Py.fmod_pos _ (by decide : (0 : Int) < 7)]
  generalize toOrdinal y m d = o at *
  generalize isoWeek1Monday y = w at *
  generalize isoWeek1Monday (y + 1) = wn at *
  refine ⟨fun h => ?_, fun h1 h2 => ?_, fun h => ?_⟩
  · rw [if_pos (by omega)]
  · rw [if_neg (by omega), if_neg (by omega)]
  · rw [if_neg (by omega), if_pos (by omega)]
    congr 2 <;> omega

theorem dby_mono (a b : Int) (h : a ≤ b) : daysBeforeYear a + 365 * (b - a) ≤ daysBeforeYear b := by
  unfold daysBeforeYear; omega

theorem ordinal_in_year (y m d : Int) (h : ValidYMD y m d) :
    daysBeforeYear y + 1 ≤ toOrdinal y m d ∧ toOrdinal y m d ≤ daysBeforeYear (y + 1) := by
  obtain ⟨m1, m12, d1, dd⟩ := h
  have h0 := daysBeforeMonth_mono y 1 m (by omega) m1 (by omega)
  have h1 := daysBeforeMonth_succ y m m1 m12
  have h2 := daysBeforeMonth_mono y (m + 1) 13 (by omega) (by omega) (by omega)
  rw [daysBeforeMonth_13] at h2
  rw [daysBeforeMonth_1] at h0
  rw [daysBeforeYear_succ]
  unfold toOrdinal; omega

theorem isoCalendar_of_week (iy y m d : Int) (hv : ValidYMD y m d)
    (h1 : isoWeek1Monday iy ≤ toOrdinal y m d) (h2 : toOrdinal y m d < isoWeek1Monday (iy + 1)) :
    isoCalendar y m d = (iy, (toOrdinal y m d - isoWeek1Monday iy) / 7 + 1,
                             (toOrdinal y m d - isoWeek1Monday iy) % 7 + 1) := by
  have ⟨o1, o2⟩ := ordinal_in_year y m d hv
  obtain ⟨c1, c2, c3⟩ := isoCalendar_cases y m d o2
  have fa := w1_facts iy
  have fb := w1_facts (iy + 1)
  have hiy : iy = y - 1 ∨ iy = y ∨ iy = y + 1 := by
    by_cases c1 : iy ≤ y - 2
    · have := dby_mono (iy + 1) y (by omega); omega
    · by_cases c2 : y + 2 ≤ iy
      · have := dby_mono (y + 1) iy (by omega); omega
      · omega
  rcases hiy with rfl | rfl | rfl
  · rw [show y - 1 + 1 = y by omega] at h2; exact c1 h2
  · exact c2 h1 h2
  · exact c3 h1

/-- every valid date lies in exactly one ISO year: the (ISO year, week, weekday) ↦ ordinal map
    inverts `isocalendar` -/
theorem weekdate_roundtrip (y m d : Int) (hv : ValidYMD y m d) :
    isoWeek1Monday (isoCalendar y m d).1 + ((isoCalendar y m d).2.1 - 1) * 7 +
      ((isoCalendar y m d).2.2 - 1) = toOrdinal y m d ∧
    1 ≤ (isoCalendar y m d).2.1 ∧ (isoCalendar y m d).2.1 ≤ 53 ∧
    1 ≤ (isoCalendar y m d).2.2 ∧ (isoCalendar y m d).2.2 ≤ 7 ∧
    (isoCalendar y m d).2.1 ≤ IsoSpec.isoWeeksInYear (isoCalendar y m d).1 := by
  have ⟨o1, o2⟩ := ordinal_in_year y m d hv
  have key : ∃ iy, isoWeek1Monday iy ≤ toOrdinal y m d ∧ toOrdinal y m d < isoWeek1Monday (iy + 1) := by
    have g0 := w1_facts (y - 1)
    have g2 := w1_facts (y + 2)
    have s0 := daysBeforeYear_succ (y - 1)
    have s2 := daysBeforeYear_succ (y + 1)
    have e0 := daysInYear_cases (y - 1)
    have e2 := daysInYear_cases (y + 1)
    rw [show y - 1 + 1 = y by omega] at s0
    rw [show y + 1 + 1 = y + 2 by omega] at s2
    by_cases c1 : toOrdinal y m d < isoWeek1Monday y
    · exact ⟨y - 1, by omega, by rw [show y - 1 + 1 = y by omega]; exact c1⟩
    · by_cases c2 : toOrdinal y m d < isoWeek1Monday (y + 1)
      · exact ⟨y, by omega, c2⟩
      · exact ⟨y + 1, by omega, by rw [show y + 1 + 1 = y + 2 by omega]; omega⟩
  obtain ⟨iy, h1, h2⟩ := key
  rw [isoCalendar_of_week iy y m d hv h1 h2]
  have st := w1_step iy
  unfold IsoSpec.isoWeeksInYear
  dsimp only
  omega

theorem jan4_week1 (y : Int) :
    toOrdinal y 1 4 - ((isoCalendar y 1 4).2.2 - 1) = isoWeek1Monday y := by
  have f := w1_facts y
  have st := w1_step y
  have s := daysBeforeYear_succ y
  have e := daysInYear_cases y
  rw [(isoCalendar_cases y 1 4 (by rw [toOrdinal_jan]; omega)).2.1 (by rw [toOrdinal_jan]; omega)
    (by rw [toOrdinal_jan]; omega), toOrdinal_jan]
  dsimp only; omega

theorem daysBeforeYear_ge (y : Int) (hy : 2 ≤ y) : 365 ≤ daysBeforeYear y := by
  unfold daysBeforeYear; omega

theorem w1_pos (y : Int) (hy : 1 ≤ y) : 1 ≤ isoWeek1Monday y := by
  by_cases h : y = 1
  · subst h; decide
  · have := w1_facts y; have := daysBeforeYear_ge y (by omega); omega

theorem isoWeeksInYear_cases (y : Int) : IsoSpec.isoWeeksInYear y = 52 ∨ IsoSpec.isoWeeksInYear y = 53 := by
  have := w1_step y; unfold IsoSpec.isoWeeksInYear; omega

theorem w1_le_max (y : Int) (hy : y ≤ 9999) : isoWeek1Monday y ≤ maxOrdinal := by
  have f := w1_facts y
  have := dby_mono y 9999 hy
  have e : daysBeforeYear 9999 = 3651694 := by decide
  unfold maxOrdinal; omega

/-- in a year that `date` has, `_calculate_weekdate` comes down to its range checks: week 1 starts on a day
    that exists, so only the upper end of `date + timedelta` and the week-53 test remain -/
theorem calculateWeekdate_eq (y w d : Int) (hy : 1 ≤ y ∧ y ≤ 9999) (hw : 0 < w ∧ w < 54) (hd : 0 < d ∧ d < 8) :
    calculateWeekdate y w d =
      if isoWeek1Monday y + ((w - 1) * 7 + (d - 1)) > maxOrdinal then .error .ValueError
      else if w = 53 ∧ (isoCalendar (fromOrdinal (isoWeek1Monday y + ((w - 1) * 7 + (d - 1)))).1
          (fromOrdinal (isoWeek1Monday y + ((w - 1) * 7 + (d - 1)))).2.1
          (fromOrdinal (isoWeek1Monday y + ((w - 1) * 7 + (d - 1)))).2.2).2.1 ≠ 53 then .error .ValueError
      else .ok (fromOrdinal (isoWeek1Monday y + ((w - 1) * 7 + (d - 1)))) := by
  have hp := w1_pos y hy.1
  have hm := w1_le_max y hy.2
  have hv : validDate y 1 4 = true := by simp [validDate, ValidDate, ValidYMD, daysInMonth]; omega
  unfold calculateWeekdate
  rw [if_neg (not_not_intro hw), if_neg (not_not_intro hd)]
  simp only [mkDateOrd, hv, if_true, bind, Except.bind, jan4_week1, ordChecked]
  rw [if_neg (by omega)]
  simp only []
  by_cases ho : isoWeek1Monday y + ((w - 1) * 7 + (d - 1)) > maxOrdinal
  · rw [if_pos (Or.inr ho), if_pos ho]; rfl
  · rw [if_neg (by omega), if_neg ho]; rfl

/-- day `d` of week `w` counted from the first Monday of ISO year `y` lies in week `w` of its own ISO calendar exactly
    if `y` has that many weeks (otherwise it is in week 1 of the next year) -/
theorem isoWeek_of_weekdate (y w d : Int) (hw : 1 ≤ w ∧ w ≤ 53) (hd : 1 ≤ d ∧ d ≤ 7) (o : Int)
    (ho : o = isoWeek1Monday y + ((w - 1) * 7 + (d - 1))) (h1 : 1 ≤ o) :
    (isoCalendar (fromOrdinal o).1 (fromOrdinal o).2.1 (fromOrdinal o).2.2).2.1 = w ↔
      w ≤ IsoSpec.isoWeeksInYear y := by
  have ⟨e, v, _⟩ := toOrdinal_fromOrdinal o h1
  have st := w1_step y
  unfold IsoSpec.isoWeeksInYear
  by_cases hle : w ≤ (isoWeek1Monday (y + 1) - isoWeek1Monday y) / 7
  · rw [isoCalendar_of_week y _ _ _ v (by rw [e]; omega) (by rw [e]; omega), e]
    exact ⟨fun _ => hle, fun _ => by dsimp only; omega⟩
  · have st2 := w1_step (y + 1)
    rw [isoCalendar_of_week (y + 1) _ _ _ v (by rw [e]; omega) (by rw [e]; omega), e]
    exact ⟨fun h => by dsimp only at h; omega, fun h => absurd h hle⟩

/-- `_calculate_weekdate` returns the day `d` of week `w` of ISO year `y` exactly if `date` has the year, the ISO
    year has the week, the week has the day and `date` has the result; every other input is a ValueError -/
theorem calculateWeekdate_char (y w d : Int) :
    calculateWeekdate y w d =
      if 1 ≤ y ∧ y ≤ 9999 ∧ 1 ≤ w ∧ w ≤ IsoSpec.isoWeeksInYear y ∧ 1 ≤ d ∧ d ≤ 7 ∧
         isoWeek1Monday y + (w - 1) * 7 + (d - 1) ≤ maxOrdinal
      then .ok (fromOrdinal (isoWeek1Monday y + (w - 1) * 7 + (d - 1))) else .error .ValueError := by
  have wk := isoWeeksInYear_cases y
  by_cases hw : ¬ (0 < w ∧ w < 54)
  · rw [calculateWeekdate, if_pos hw, if_neg (by omega)]
  by_cases hd : ¬ (0 < d ∧ d < 8)
  · rw [calculateWeekdate, if_neg hw, if_pos hd, if_neg (by omega)]
  by_cases hy : ¬ (1 ≤ y ∧ y ≤ 9999)
  · have hv : ¬ validDate y 1 4 = true := by
      simp only [validDate, decide_eq_true_eq]; exact fun hv => hy ⟨hv.1, hv.2.1⟩
    rw [calculateWeekdate, if_neg hw, if_neg hd, mkDateOrd, if_neg hv, if_neg (by omega)]
    rfl
  have hw := Decidable.not_not.mp hw
  have hd := Decidable.not_not.mp hd
  have hy := Decidable.not_not.mp hy
  have hp := w1_pos y hy.1
  rw [calculateWeekdate_eq y w d hy hw hd, Int.add_assoc]
  generalize ho : isoWeek1Monday y + ((w - 1) * 7 + (d - 1)) = o
  by_cases hm : o > maxOrdinal
  · rw [if_pos hm, if_neg (by omega)]
  have hwk := isoWeek_of_weekdate y w d (by omega) (by omega) o ho.symm (by omega)
  rw [if_neg hm]
  by_cases h53 : w = 53 ∧ (isoCalendar (fromOrdinal o).1 (fromOrdinal o).2.1 (fromOrdinal o).2.2).2.1 ≠ 53
  · rw [if_pos h53, if_neg (fun h => h53.2 (h53.1 ▸ hwk.mpr h.2.2.2.1))]
  · have hle : w ≤ IsoSpec.isoWeeksInYear y := by
      by_cases hw53 : w = 53
      · exact hwk.mp (Decidable.not_not.mp fun hn => h53 ⟨hw53, hw53 ▸ hn⟩)
      · omega
    rw [if_neg h53, if_pos ⟨hy.1, hy.2, by omega, hle, by omega, by omega, by omega⟩]

end Iso
