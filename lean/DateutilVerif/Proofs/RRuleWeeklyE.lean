/-
  Proofs/RRuleWeeklyE.lean — WEEKLY with BYEASTER, offsets −74..250, years 1583..4099, BYWEEKNO absent.  A period
  beginning in late December reads up to six entries of the 7-day TAIL of the OLD year's Easter mask for 1..6 January,
  which the specification compares with the NEW year's Easter.  Easter Sunday lies between day-of-year index 80
  (22 March) and `yearlen − 251` (25 April), so
    * the model marks a tail index only for an offset ≥ 251 — never on the class (offsets ≤ 250), and
    * the specification accepts 1..6 January only for an offset in −115..−75.
  Hence for offsets −74..250 both sides agree on the tail (nothing there); for an offset in −80..−75 they differ
  (known finding D-C01d, WEEKLY form: e.g. WEEKLY, WKST=WE, DTSTART 1817-12-31, BYEASTER −75 — the specification has
  1818-01-06 = Easter 1818-03-22 − 75, the model nothing; or DTSTART 1817-12-29, BYEASTER −80 — 1818-01-01).
-/
import DateutilVerif.Proofs.RRuleEasterYearly

namespace RRule
open Cal

/-- Easter Sunday of a year 1583..4099 lies between 22 March and 25 April -/
theorem easter_yday_range (y : Int) (hy1 : 1583 ≤ y) (hy2 : y ≤ 4099) :
    80 ≤ Spec.RRule.easterOrd y - toOrdinal y 1 1 ∧
    Spec.RRule.easterOrd y - toOrdinal y 1 1 + 251 ≤ daysInYear y := by
  have hw := C19.western_eq_mjb y hy1 hy2
  unfold C19.westernOK at hw
  split at hw
  · rename_i y' m d he
    simp only [Bool.and_eq_true, beq_iff_eq, decide_eq_true_eq, Bool.or_eq_true] at hw
    obtain ⟨⟨⟨⟨hyy, hmd⟩, hv⟩, _⟩, hrange⟩ := hw
    subst hyy
    have heo : Spec.RRule.easterOrd y' = toOrdinal y' m d := by
      unfold Spec.RRule.easterOrd; rw [← hmd]
    rw [heo]
    unfold toOrdinal daysBeforeMonth daysInYear
    rw [show dbmTable 1 = 0 from rfl]
    rcases hrange with ⟨hm, hd⟩ | ⟨hm, hd⟩
    · subst hm; obtain ⟨_, _, _, hd2⟩ := hv
      have : daysInMonth y' 3 = 31 := by unfold daysInMonth; rfl
      simp only [show dbmTable 3 = 59 from rfl]
      cases isLeap y' <;> simp <;> omega
    · subst hm; obtain ⟨_, _, hd1, _⟩ := hv
      simp only [show dbmTable 4 = 90 from rfl]
      cases isLeap y' <;> simp <;> omega
  · cases hw

/-- WEEKLY argument sets with BYEASTER offsets −74..250 -/
structure WeeklyEArgs (a : Args) : Prop where
  freq : a.freq = 2
  interval : 1 ≤ a.interval
  valid : a.dtstart.Valid
  byweekno : a.byweekno = none
  monthday_nz : ∀ x ∈ a.bymonthday.getD [], x ≠ 0
  easter : ∃ el, a.byeaster = some el ∧ el ≠ [] ∧ ∀ o ∈ el, -74 ≤ o ∧ o ≤ 250
  setpos : a.bysetpos = none ∨ weekdayOfOrd (Spec.RRule.startOrd a) = a.wkst.getD 0
  wkst : 0 ≤ a.wkst.getD 0 ∧ a.wkst.getD 0 ≤ 6
  until_ge : ∀ u, a.untilDT = some u → Spec.RRule.startMicros a ≤ u.toMicros

variable {a : Args} {r : Rule} {y : Int} {info : Info}

theorem WeeklyEArgs.base (wa : WeeklyEArgs a) : WeeklyBase a := ⟨wa.freq, wa.valid, wa.setpos, wa.wkst, wa.until_ge⟩

theorem WeeklyEArgs.easter80 (wa : WeeklyEArgs a) : ∃ el, a.byeaster = some el ∧ el ≠ [] ∧ ∀ o ∈ el, -80 ≤ o ∧ o ≤ 250 := by
  obtain ⟨el, h1, h2, h3⟩ := wa.easter
  exact ⟨el, h1, h2, fun o ho => ⟨by have := (h3 o ho).1; omega, (h3 o ho).2⟩⟩

/-- on 1..6 January of the year after `y` the Easter mask of year `y` is unmarked (offsets ≤ 250) and the BYEASTER part
    of `dateOk` fails (offsets ≥ −74): the mask misses them exactly as the specification does -/
theorem easter_miss_tail (D : DateFields a r) (wa : WeeklyEArgs a) (f : YearFacts r y info) (hy1 : 1583 ≤ y)
    (hy2 : y + 1 ≤ 4099)
    (hm : Marked info.eastermask (info.yearlen + 7) (fun j => info.yearordinal + j - Spec.RRule.easterOrd y ∈ eastersOf a))
    {i : Int} (h0 : info.yearlen ≤ i) (h1 : i < info.yearlen + 6) :
    maskMiss (truthy r.byeaster) info.eastermask i = .ok (!easterPart a (info.yearordinal + i)) := by
  have hl : 365 ≤ info.yearlen := by rw [f.yearlen]; unfold daysInYear; split <;> omega
  obtain ⟨hmem, hoff, _⟩ := easters_facts wa.easter80
  obtain ⟨el, hel, _, hoff74⟩ := wa.easter
  rw [hel, Option.getD_some] at hmem
  have hdate := date_of_index y i f.year_lo (by omega) (by rw [← f.yearlen]; omega)
  rw [if_neg (by rw [← f.yearlen]; omega), ← f.yearordinal] at hdate
  have hey := easter_yday_range y hy1 (by omega)
  have hey' := easter_yday_range (y + 1) (by omega) hy2
  rw [toOrdinal_next_year, ← f.yearordinal, ← f.yearlen] at hey'
  rw [← f.yearordinal, ← f.yearlen] at hey
  rw [maskMiss_marked (easter_rule D wa.easter80).2 hm (by omega) (by omega),
    easterPart_year wa.easter80 _ (y + 1) (by rw [hdate])]
  have n1 : ¬ (info.yearordinal + i - Spec.RRule.easterOrd y ∈ eastersOf a) := fun hx => by
    have := (hoff _ hx).2; omega
  have n2 : ¬ (info.yearordinal + i - Spec.RRule.easterOrd (y + 1) ∈ eastersOf a) := fun hx => by
    have := (hoff74 _ ((hmem _).mp hx)).1; omega
  rw [decide_eq_false n1, decide_eq_false n2]

theorem we_filter (wa : WeeklyEArgs a) (h : construct a = .ok r) :
    PeriodFilter a r 1583 4099 (fun y m info => 1583 ≤ y ∧ EasterInv a y m info) (weekDays r 4099) where
  lo := by omega
  hi := by omega
  rebuild := fun y m hy1 hy2 _ _ => by
    have D := construct_dateFields h
    obtain ⟨hbe, ht⟩ := easter_rule D wa.easter80
    obtain ⟨e, he1, he2⟩ := eastermaskOf_marks ht hbe (easters_facts wa.easter80).2.1 hy1 hy2
    exact ⟨_, rebuild_eq r m (by omega) (by omega) (wnomaskOf_off (D.weekno_off wa.byweekno) ..)
      (buildNwdaymask_off (by rw [D.bynweekday]; exact bynweekday_plain fun _ _ => Or.inr (by rw [wa.freq]; omega)) ..)
      he1, hy1, rfl, he2⟩
  filtered := fun {y m info i} f inv hi => by
    have D := construct_dateFields h
    obtain ⟨h0, h1, h2⟩ := hi
    have hl : 365 ≤ info.yearlen := by rw [f.yearlen]; unfold daysInYear; split <;> omega
    have hr : i < info.yearlen + 6 := by unfold readEnd at h1; omega
    refine plain_filtered D (monthdayArg_nz wa.monthday_nz wa.valid) (fun _ _ => Or.inr (by rw [wa.freq]; omega)) f i h0
      (by omega) inv.2.1 (weekno_miss_off D wa.byweekno ..) ?_
    by_cases c : i < info.yearlen
    · exact easter_miss_on D wa.easter80 f inv.2.2 h0 (by omega) c
    · refine easter_miss_tail D wa f inv.1 ?_ inv.2.2 (by omega) hr
      -- the tail day lies in year `y+1`, not after 31 December 4099
      by_cases c2 : y + 1 ≤ 4099
      · exact c2
      · exfalso
        have e1 : toOrdinal (4099 + 1) 1 1 = toOrdinal 4099 12 31 + 1 := year_hi_next 4099
        have e2 := year_start_mono (4099 + 1) (y + 1) (by omega)
        rw [toOrdinal_next_year y, ← f.yearordinal, ← f.yearlen] at e2
        omega

/-- **`iter_eq_spec`, WEEKLY with BYEASTER**, offsets −74..250, years 1583..4099 (every week of the first `n` periods
    ends not after 31 December 4099): FREQ=WEEKLY, INTERVAL ≥ 1, a week start 0..6, a valid start, UNTIL (if any) not
    before the start, any BYMONTH / BYMONTHDAY (non-zero) / BYYEARDAY / BYDAY / BYHOUR / BYMINUTE / BYSECOND, any COUNT,
    no BYWEEKNO, BYSETPOS only when the start falls on the week start -/
theorem iter_eq_spec_weekly_easter (wa : WeeklyEArgs a) (h : construct a = .ok r) (n : Nat)
    (hlo : 1583 ≤ a.dtstart.y) (hn : W0 a + 7 * (n * a.interval) + 7 ≤ toOrdinal 4099 12 31 + 1) :
    (iter r n).1 = Spec.RRule.occ a n :=
  weekly_refines h wa.base (we_filter wa h) n hlo hn

-- a WeeklyEArgs instance: week by week, Ash Wednesday (−46), Easter Monday, and the extreme offsets of the class
example : WeeklyEArgs { freq := 2, dtstart := ⟨2024, 12, 30, 9, 0, 0, 0⟩, byeaster := some [-74, -46, 1, 250] } :=
  ⟨rfl, by decide, by decide, rfl, by intro x hx; simp at hx, ⟨[-74, -46, 1, 250], rfl, by decide, by decide⟩,
   Or.inl rfl, by decide, by intro u hu; cases hu⟩

end RRule
