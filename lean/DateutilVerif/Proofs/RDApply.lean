/-
  Proofs/RDApply.lean — `RDM.applyTo` (the model of `relativedelta.__add__`) against the documented
  semantics `RDSpec.apply`: the piecewise ±12 month carry is the total-month formula, the
  timedelta is the exact duration, the weekday jump is the nth-weekday search.
-/
import DateutilVerif.Proofs.RDAlgebra
import DateutilVerif.Spec.RelativeDelta
import DateutilVerif.Proofs.Time

namespace RDP
open RDM
set_option linter.unusedSimpArgs false

theorem orInt_getD (a : Option Int) (b : Int) (h : a ≠ some 0) : orInt a b = a.getD b := by
  unfold orInt
  cases a with
  | none => rfl
  | some v =>
    have : v ≠ 0 := fun e => h (by rw [e])
    simp [this]

/-- lines 366-376 compute the total-month formula whenever |months| ≤ 12 and the month is a month -/
theorem ymCarry_eq_shift (d : RD) (y m : Int) (hmo : -12 ≤ d.months ∧ d.months ≤ 12)
    (hm : 1 ≤ orInt d.month m ∧ orInt d.month m ≤ 12) :
    ymCarry d y m = .ok ((12 * (orInt d.year y) + (orInt d.month m - 1) + (12 * d.years + d.months)) / 12,
                         (12 * (orInt d.year y) + (orInt d.month m - 1) + (12 * d.years + d.months)) % 12 + 1) := by
  unfold ymCarry Py.iabs
  generalize orInt d.month m = m0 at *
  generalize orInt d.year y = y0 at *
  split
  · rw [if_neg (by split <;> omega)]
    split
    · congr 2 <;> omega
    · split
      · congr 2 <;> omega
      · congr 2 <;> omega
  · congr 2 <;> omega

theorem daysToNext_table : ∀ a b : Fin 7,
    RDSpec.daysToNext a.val b.val = (7 - (a.val : Int) + b.val) % 7 := by decide
theorem daysToPrev_table : ∀ a b : Fin 7,
    RDSpec.daysToPrev a.val b.val = ((a.val : Int) - b.val) % 7 := by decide

theorem nOf_eq (n : Option Int) : RDSpec.nOf n = orInt n 1 := by
  unfold RDSpec.nOf orInt
  cases n with
  | none => rfl
  | some v => by_cases h : v = 0 <;> simp [h]

/-- the code's jump formula is the nth-weekday search of the documentation -/
theorem jumpDays_eq_spec (w : Int) (n : Option Int) (r : Int) (hw : 0 ≤ w ∧ w ≤ 6) (hr : 0 ≤ r ∧ r < 7) :
    jumpDays w n r = RDSpec.nthWeekdayOffset r w (RDSpec.nOf n) := by
  rw [nOf_eq]
  have h1 := daysToNext_table ⟨r.toNat, by omega⟩ ⟨w.toNat, by omega⟩
  have h2 := daysToPrev_table ⟨r.toNat, by omega⟩ ⟨w.toNat, by omega⟩
  simp only [] at h1 h2
  have er : ((r.toNat : Nat) : Int) = r := by omega
  have ew : ((w.toNat : Nat) : Int) = w := by omega
  rw [er, ew] at h1 h2
  unfold jumpDays RDSpec.nthWeekdayOffset Py.iabs
  rw [h1, h2]
  generalize orInt n 1 = k
  split
  · split <;> omega
  · split <;> omega

theorem promote_t (d : RD) (x : Temporal) : (promote d x).t = x.t := by
  unfold promote; split <;> rfl

theorem hasTimeOf_ne_zero (d : RD) : hasTimeOf d ≠ 0 ↔ RDSpec.hasTimeInfo d = true := by
  unfold hasTimeOf RDSpec.hasTimeInfo
  simp only [Bool.or_eq_true, bne_iff_ne, ne_eq, Option.isSome_iff_ne_none]
  split
  · rename_i h
    refine ⟨fun _ => ?_, fun _ => by decide⟩
    simp only [or_assoc]; exact h
  · rename_i h
    refine ⟨fun c => absurd rfl c, fun c => ?_⟩
    simp only [or_assoc] at c; exact absurd c h

theorem promote_kind (d : RD) (x : Temporal) (hd : Normalised d) :
    (promote d x).kind = if x.kind = .date ∧ RDSpec.hasTimeInfo d = true then .naive else x.kind := by
  unfold promote
  rw [hd.2.2.2.2.2]
  by_cases h : RDSpec.hasTimeInfo d = true
  · have := (hasTimeOf_ne_zero d).2 h
    by_cases hk : x.kind = .date <;> simp [h, hk, this]
  · have : ¬ hasTimeOf d ≠ 0 := fun c => h ((hasTimeOf_ne_zero d).1 c)
    simp [h, this]

theorem deltaMicros_eq_duration (d : RD) (y m : Int) :
    deltaMicros d (daysWithLeap d y m) = RDSpec.duration d (decide (m > 2) && Cal.isLeap y) := by
  unfold deltaMicros daysWithLeap RDSpec.duration
  by_cases hl : d.leapdays = 0
  · simp only [hl, ne_eq, not_true_eq_false, false_and, ↓reduceIte]
    split <;> omega
  · by_cases hm : m > 2 <;> by_cases hy : Cal.isLeap y = true <;>
      simp only [hl, hm, hy, ne_eq, not_false_eq_true, true_and, and_true, and_false, false_and,
        ↓reduceIte, decide_true, decide_false, Bool.and_true, Bool.true_and, Bool.false_and,
        Bool.and_false, Bool.false_eq_true] <;> omega

theorem addDelta_eq (d : RD) (k : Kind) (base : DT) (leap : Bool)
    (hk : k = .date → d.hours = 0 ∧ d.minutes = 0 ∧ d.seconds = 0 ∧ d.microseconds = 0) :
    addDelta k base (RDSpec.duration d leap) = base.addMicros (RDSpec.duration d leap) := by
  unfold addDelta
  cases k with
  | date =>
    obtain ⟨h1, h2, h3, h4⟩ := hk rfl
    simp only []
    unfold DT.addDays
    congr 1
    unfold RDSpec.duration DT.usPerDay
    rw [h1, h2, h3, h4]
    generalize (d.days + if leap = true then d.leapdays else 0) = n
    omega
  | naive => rfl
  | aware z => rfl

theorem applyWeekday_eq (wd : Option (Int × Option Int)) (x2 : Int) (k : Kind)
    (h1 : ¬ (x2 < DT.minMicros ∨ x2 > DT.maxMicros))
    (hwd : ∀ w n, wd = some (w, n) → 0 ≤ w ∧ w ≤ 6) :
    Except.bind (applyWeekday wd (DT.ofMicros x2)) (fun v => (pure { kind := k, t := v } : Py.R Temporal)) =
    RDSpec.weekdayStep wd k x2 := by
  unfold RDSpec.weekdayStep
  cases wd with
  | none => rfl
  | some p =>
    obtain ⟨w, n⟩ := p
    have hw := hwd w n rfl
    have hx : DT.usPerDay ≤ x2 := by unfold DT.minMicros at h1; omega
    have ht := DT.toMicros_ofMicros x2 hx
    have hr := Cal.weekdayOfOrd_range (DT.ofMicros x2).ordinal
    have hj := jumpDays_eq_spec w n (DT.ofMicros x2).weekday hw hr
    simp only [applyWeekday, Except.bind]
    unfold DT.addDays DT.addMicros
    rw [ht, hj]
    have e : x2 + RDSpec.nthWeekdayOffset (DT.ofMicros x2).weekday w (RDSpec.nOf n) * DT.usPerDay
        = RDSpec.afterWeekday x2 w n := by
      unfold RDSpec.afterWeekday DT.usPerDay; rfl
    rw [e]
    by_cases hc : RDSpec.afterWeekday x2 w n < DT.minMicros ∨ RDSpec.afterWeekday x2 w n > DT.maxMicros
    · simp only [hc, ↓reduceIte]
    · simp only [hc, ↓reduceIte]; rfl

/-- steps after the month carry: the model's tail is the spec's tail -/
theorem applyTail_eq (d : RD) (k : Kind) (t0 : DT) (y m : Int) (hm : 1 ≤ m ∧ m ≤ 12)
    (hday : d.day ≠ some 0)
    (hk : k = .date → hasAbsTime d = false ∧ d.hours = 0 ∧ d.minutes = 0 ∧ d.seconds = 0 ∧ d.microseconds = 0)
    (hwd : ∀ w n, d.weekday = some (w, n) → 0 ≤ w ∧ w ≤ 6) :
    applyTail d k t0 y m =
      RDSpec.applyShifted d k t0 y m (min (d.day.getD t0.d) (Cal.daysInMonth y m)) := by
  unfold applyTail RDSpec.applyShifted
  have hmr : monthrange1 y m = .ok (Cal.daysInMonth y m) := by
    unfold monthrange1; rw [if_pos hm]
  rw [hmr, orInt_getD _ _ hday, Int.min_comm]
  simp only [bind]
  rw [show ∀ (f : Int → Py.R Temporal), Except.bind (Except.ok (Cal.daysInMonth y m)) f = f (Cal.daysInMonth y m) from fun _ => rfl]
  generalize min (Cal.daysInMonth y m) (d.day.getD t0.d) = dd
  -- replace
  have hrep : replaced d k t0 y m dd =
      if ¬ fitsCInt (RDSpec.shiftedDT d t0 y m dd) then .error .OverflowError
      else if (RDSpec.shiftedDT d t0 y m dd).Valid then .ok (RDSpec.shiftedDT d t0 y m dd) else .error .ValueError := by
    unfold replaced
    rw [if_neg]
    · simp only [DT.valid, decide_eq_true_eq]; rfl
    · intro ⟨h1, h2⟩; have := (hk h1).1; rw [this] at h2; exact absurd h2 (by decide)
  rw [hrep]
  by_cases hc : fitsCInt (RDSpec.shiftedDT d t0 y m dd) = true
  · simp only [hc, not_true_eq_false, ↓reduceIte]
    by_cases hv : (RDSpec.shiftedDT d t0 y m dd).Valid
    · simp only [hv, not_true_eq_false, ↓reduceIte, Except.bind]
      rw [deltaMicros_eq_duration, addDelta_eq d k _ _ (fun h => (hk h).2)]
      unfold DT.addMicros
      simp only []
      have ea : (RDSpec.shiftedDT d t0 y m dd).toMicros + RDSpec.duration d (decide (m > 2) && Cal.isLeap y)
          = RDSpec.afterDuration d t0 y m dd := rfl
      rw [ea]
      by_cases hr : RDSpec.afterDuration d t0 y m dd < DT.minMicros ∨ RDSpec.afterDuration d t0 y m dd > DT.maxMicros
      · simp only [hr, ↓reduceIte, Except.bind]
      · simp only [hr, ↓reduceIte]
        exact applyWeekday_eq d.weekday _ k hr hwd
    · simp only [hv, not_false_eq_true, ↓reduceIte, Except.bind]
  · rw [if_pos hc, if_pos hc]; rfl

/-- hypotheses of the property's domain on the delta: produced by the constructor (normalised),
    absolute year/month/day not 0 (falsy ⇒ ignored by the code), absolute month a month,
    weekday 0..6 -/
structure InDomain (d : RD) : Prop where
  norm : Normalised d
  year : d.year ≠ some 0
  month : ∀ v, d.month = some v → 1 ≤ v ∧ v ≤ 12
  day : d.day ≠ some 0
  wd : ∀ w n, d.weekday = some (w, n) → 0 ≤ w ∧ w ≤ 6

theorem hasTimeOf_zero (d : RD) (h : hasTimeOf d = 0) :
    hasAbsTime d = false ∧ d.hours = 0 ∧ d.minutes = 0 ∧ d.seconds = 0 ∧ d.microseconds = 0 := by
  unfold hasTimeOf at h
  split at h
  · exact absurd h (by decide)
  · rename_i hn
    simp only [not_or, ne_eq, Classical.not_not] at hn
    obtain ⟨h1, h2, h3, h4, h5, h6, h7, h8⟩ := hn
    refine ⟨?_, h1, h2, h3, h4⟩
    unfold hasAbsTime; rw [h5, h6, h7, h8]; rfl

theorem applyTo_eq_spec (d : RD) (x : Temporal) (hd : InDomain d) (hx : x.Valid) :
    applyTo d x = RDSpec.apply d x := by
  obtain ⟨hn, hy, hm, hday, hwd⟩ := hd
  obtain ⟨hxv, hxd⟩ := hx
  have hxm : 1 ≤ x.t.m ∧ x.t.m ≤ 12 := ⟨hxv.1.2.2.1, hxv.1.2.2.2.1⟩
  have em : orInt d.month x.t.m = d.month.getD x.t.m :=
    orInt_getD _ _ (fun e => by have := hm 0 e; omega)
  have hm0 : 1 ≤ orInt d.month x.t.m ∧ orInt d.month x.t.m ≤ 12 := by
    rw [em]; cases h : d.month with
    | none => exact hxm
    | some v => exact hm v h
  have hmo : -12 ≤ d.months ∧ d.months ≤ 12 := by have := hn.2.2.2.2.1; omega
  unfold applyTo RDSpec.apply
  rw [promote_t, ymCarry_eq_shift d _ _ hmo hm0, em, orInt_getD _ _ hy]
  simp only [bind, Except.bind, RDSpec.monthShift]
  rw [applyTail_eq d _ _ _ _ (by omega) hday ?_ hwd, promote_kind d x hn]
  intro hk
  rw [promote_kind d x hn] at hk
  have hz : hasTimeOf d = 0 := by
    apply Classical.byContradiction
    intro hc
    have := (hasTimeOf_ne_zero d).1 hc
    by_cases hkd : x.kind = .date
    · simp [hkd, this] at hk
    · simp [hkd] at hk
  exact hasTimeOf_zero d hz

theorem bind_eq_ok {α β : Type} {x : Py.R α} {f : α → Py.R β} {b : β} (h : x.bind f = .ok b) :
    ∃ a, x = .ok a ∧ f a = .ok b := by
  cases x with
  | error e => cases h
  | ok a => exact ⟨a, rfl, h⟩

/-- the result of `x + delta` has the kind of the (possibly promoted) operand: every step has to succeed and the last one
    builds the result with that kind -/
theorem applyTo_kind (d : RD) (x r : Temporal) (h : applyTo d x = .ok r) : r.kind = (promote d x).kind := by
  obtain ⟨ym, _, h⟩ := bind_eq_ok h
  obtain ⟨dim, _, h⟩ := bind_eq_ok h
  obtain ⟨base, _, h⟩ := bind_eq_ok h
  obtain ⟨ret, _, h⟩ := bind_eq_ok h
  obtain ⟨w, _, h⟩ := bind_eq_ok h
  injection h with h
  rw [← h]

theorem toMicros_range (t : DT) (h : t.Valid) : DT.minMicros ≤ t.toMicros ∧ t.toMicros ≤ DT.maxMicros := by
  have hr := DT.timeMicros_range t h
  obtain ⟨⟨hy1, hy2, hv⟩, _⟩ := h
  have h1 := Cal.toOrdinal_pos t.y t.m t.d hy1 hv
  have h2 : Cal.toOrdinal t.y t.m t.d ≤ Cal.maxOrdinal := by
    have e9 : Cal.toOrdinal 9999 12 31 = 3652059 := by decide
    unfold Cal.maxOrdinal
    by_cases hc : t.y = 9999 ∧ t.m = 12 ∧ t.d = 31
    · rw [hc.1, hc.2.1, hc.2.2, e9]; exact Int.le_refl _
    · have hlex : t.y < 9999 ∨ (t.y = 9999 ∧ (t.m < 12 ∨ (t.m = 12 ∧ t.d < 31))) := by
        have hd : t.d ≤ Cal.daysInMonth t.y t.m := hv.2.2.2
        have hm : t.m ≤ 12 := hv.2.1
        by_cases hy : t.y = 9999
        · right; refine ⟨hy, ?_⟩
          by_cases hm12 : t.m = 12
          · right; refine ⟨hm12, ?_⟩
            have : Cal.daysInMonth t.y 12 = 31 := by unfold Cal.daysInMonth; simp
            rw [hm12, this] at hd
            have : t.d ≠ 31 := fun e => hc ⟨hy, hm12, e⟩
            omega
          · left; omega
        · left; omega
      have := Cal.toOrdinal_lt_of_lex t.y t.m t.d 9999 12 31 hv (by decide) hlex
      omega
  unfold DT.toMicros DT.minMicros DT.maxMicros DT.ordinal DT.usPerDay Cal.maxOrdinal at *
  omega

/-- a delta with nothing but years and months (what `relativedelta(dt1, dt2)` adds in its loop) -/
def MonthsOnly (r : RD) : Prop :=
  r.days = 0 ∧ r.leapdays = 0 ∧ r.hours = 0 ∧ r.minutes = 0 ∧ r.seconds = 0 ∧ r.microseconds = 0 ∧
  r.year = none ∧ r.month = none ∧ r.day = none ∧ r.weekday = none ∧ r.hour = none ∧
  r.minute = none ∧ r.second = none ∧ r.microsecond = none ∧ r.hasTime = 0 ∧
  -11 ≤ r.months ∧ r.months ≤ 11

/-- `(y, m, d)` shifted by `k` whole months with the day clipped, other fields kept -/
def shiftDT (t : DT) (k : Int) : DT :=
  { t with y := (12 * t.y + (t.m - 1) + k) / 12, m := (12 * t.y + (t.m - 1) + k) % 12 + 1,
           d := min t.d (Cal.daysInMonth ((12 * t.y + (t.m - 1) + k) / 12) ((12 * t.y + (t.m - 1) + k) % 12 + 1)) }

theorem shiftDT_valid (t : DT) (k : Int) (h : t.Valid)
    (hy : 1 ≤ (12 * t.y + (t.m - 1) + k) / 12 ∧ (12 * t.y + (t.m - 1) + k) / 12 ≤ 9999) :
    (shiftDT t k).Valid := by
  obtain ⟨⟨_, _, _, _, hd1, _⟩, ht⟩ := h
  have hb := Cal.daysInMonth_bounds ((12 * t.y + (t.m - 1) + k) / 12) ((12 * t.y + (t.m - 1) + k) % 12 + 1)
  unfold shiftDT DT.Valid Cal.ValidDate Cal.ValidYMD
  simp only []
  refine ⟨⟨hy.1, hy.2, by omega, by omega, by omega, by omega⟩, ht⟩

theorem fits_of_valid (t : DT) (hv : t.Valid) : fitsCInt t = true := by
  obtain ⟨⟨a1, a2, a3, a4, a5, a6⟩, a7⟩ := hv
  have := Cal.daysInMonth_bounds t.y t.m
  unfold fitsCInt; apply decide_eq_true; omega

/-- a delta in normal form with relative fields only (no absolute field, weekday or leapdays) on a valid operand: the
    clipped month shift, then the duration; the errors are those of `replace` and of leaving years 1..9999 -/
theorem applyTo_relative (r : RD) (x : Temporal) (hn : Normalised r) (hx : x.Valid)
    (f : r.year = none ∧ r.month = none ∧ r.day = none ∧ r.weekday = none ∧ r.hour = none ∧ r.minute = none ∧
         r.second = none ∧ r.microsecond = none ∧ r.leapdays = 0) :
    applyTo r x =
      if ¬ fitsCInt (shiftDT x.t (12 * r.years + r.months)) = true then .error .OverflowError
      else if ¬ (shiftDT x.t (12 * r.years + r.months)).Valid then .error .ValueError
      else if (shiftDT x.t (12 * r.years + r.months)).toMicros + usTotal r < DT.minMicros ∨
          (shiftDT x.t (12 * r.years + r.months)).toMicros + usTotal r > DT.maxMicros then .error .OverflowError
      else .ok { kind := if x.kind = .date ∧ RDSpec.hasTimeInfo r = true then .naive else x.kind,
                 t := DT.ofMicros ((shiftDT x.t (12 * r.years + r.months)).toMicros + usTotal r) } := by
  obtain ⟨f1, f2, f3, f4, f5, f6, f7, f8, f9⟩ := f
  have hdom : InDomain r := by
    refine ⟨hn, by simp [f1], ?_, by simp [f3], ?_⟩
    · intro v hv; rw [f2] at hv; contradiction
    · intro w n hw; rw [f4] at hw; contradiction
  rw [applyTo_eq_spec r x hdom hx]
  unfold RDSpec.apply RDSpec.monthShift
  simp only [f1, f2, f3, Option.getD_none]
  have es : RDSpec.shiftedDT r x.t ((12 * x.t.y + (x.t.m - 1) + (12 * r.years + r.months)) / 12)
      ((12 * x.t.y + (x.t.m - 1) + (12 * r.years + r.months)) % 12 + 1)
      (min x.t.d (Cal.daysInMonth ((12 * x.t.y + (x.t.m - 1) + (12 * r.years + r.months)) / 12)
        ((12 * x.t.y + (x.t.m - 1) + (12 * r.years + r.months)) % 12 + 1))) = shiftDT x.t (12 * r.years + r.months) := by
    unfold RDSpec.shiftedDT shiftDT; simp only [f5, f6, f7, f8, Option.getD_none]
  have hdur : ∀ l, RDSpec.duration r l = usTotal r := by
    intro l; unfold RDSpec.duration usTotal; rw [f9]; split <;> omega
  unfold RDSpec.applyShifted RDSpec.afterDuration RDSpec.weekdayStep
  rw [es, hdur, f4]

/-- what `MonthsOnly` gives for `applyTo_relative` -/
theorem monthsOnly_relative (r : RD) (hr : MonthsOnly r) :
    Normalised r ∧ (r.year = none ∧ r.month = none ∧ r.day = none ∧ r.weekday = none ∧ r.hour = none ∧
      r.minute = none ∧ r.second = none ∧ r.microsecond = none ∧ r.leapdays = 0) ∧ usTotal r = 0 := by
  obtain ⟨h1, h2, h3, h4, h5, h6, h7, h8, h9, h10, h11, h12, h13, h14, h15, h16, h17⟩ := hr
  have hto : hasTimeOf r = 0 := by unfold hasTimeOf; simp [h3, h4, h5, h6, h11, h12, h13, h14]
  refine ⟨⟨by omega, by omega, by omega, by omega, by omega, by rw [h15, hto]⟩,
    ⟨h7, h8, h9, h10, h11, h12, h13, h14, h2⟩, ?_⟩
  unfold usTotal; rw [h1, h3, h4, h5, h6]; rfl

/-- a months-only delta on any valid operand: the clipped month shift when that is a date of years 1..9999, else the
    error `replace` raises -/
theorem applyTo_months_only_total (r : RD) (x : Temporal) (hr : MonthsOnly r) (hx : x.Valid) :
    applyTo r x =
      if ¬ fitsCInt (shiftDT x.t (12 * r.years + r.months)) = true then .error .OverflowError
      else if ¬ (shiftDT x.t (12 * r.years + r.months)).Valid then .error .ValueError
      else .ok { kind := x.kind, t := shiftDT x.t (12 * r.years + r.months) } := by
  obtain ⟨hn, f, hz⟩ := monthsOnly_relative r hr
  have hti : RDSpec.hasTimeInfo r = false := by
    unfold RDSpec.hasTimeInfo; rw [hr.2.2.1, hr.2.2.2.1, hr.2.2.2.2.1, hr.2.2.2.2.2.1, f.2.2.2.2.1, f.2.2.2.2.2.1,
      f.2.2.2.2.2.2.1, f.2.2.2.2.2.2.2.1]; rfl
  rw [applyTo_relative r x hn hx f, hz, hti]
  split
  · rfl
  · split
    · rfl
    · rename_i hv
      have hv := Classical.not_not.1 hv
      have hrange := toMicros_range _ hv
      rw [Int.add_zero, if_neg (by omega), DT.ofMicros_toMicros _ hv]
      simp

theorem applyTo_months_only (r : RD) (x : Temporal) (hr : MonthsOnly r) (hx : x.Valid)
    (hy : 1 ≤ (12 * x.t.y + (x.t.m - 1) + (12 * r.years + r.months)) / 12 ∧
          (12 * x.t.y + (x.t.m - 1) + (12 * r.years + r.months)) / 12 ≤ 9999) :
    applyTo r x = .ok { kind := x.kind, t := shiftDT x.t (12 * r.years + r.months) } := by
  have hv := shiftDT_valid x.t (12 * r.years + r.months) hx.1 hy
  rw [applyTo_months_only_total r x hr hx, if_neg (by simp [fits_of_valid _ hv]), if_neg (by simp [hv])]

/-- time-of-day fields are determined by `timeMicros` on valid datetimes -/
theorem time_fields_of_timeMicros (s t : DT) (hs : s.Valid) (ht : t.Valid) (h : s.timeMicros = t.timeMicros) :
    s.hh = t.hh ∧ s.mm = t.mm ∧ s.ss = t.ss ∧ s.us = t.us := by
  obtain ⟨_, a1, a2, a3, a4, a5, a6, a7, a8⟩ := hs
  obtain ⟨_, b1, b2, b3, b4, b5, b6, b7, b8⟩ := ht
  unfold DT.timeMicros at h
  omega

/-- adding whole days to a valid datetime: the ordinal moves by `n`, the time of day stays -/
theorem addDays_ok (t r : DT) (n : Int) (ht : t.Valid) (h : t.addDays n = .ok r) :
    r.Valid ∧ r.ordinal = t.ordinal + n ∧ r.timeMicros = t.timeMicros ∧
    r.hh = t.hh ∧ r.mm = t.mm ∧ r.ss = t.ss ∧ r.us = t.us := by
  unfold DT.addDays DT.addMicros at h
  simp only [] at h
  split at h
  · contradiction
  · rename_i hr
    injection h with h
    have hx : DT.minMicros ≤ t.toMicros + n * DT.usPerDay ∧ t.toMicros + n * DT.usPerDay ≤ DT.maxMicros := by omega
    have hv := DT.ofMicros_valid _ hx.1 hx.2
    have hm := DT.toMicros_ofMicros (t.toMicros + n * DT.usPerDay) (by unfold DT.minMicros at hx; omega)
    rw [h] at hv hm
    have r1 := DT.timeMicros_range r hv
    have r2 := DT.timeMicros_range t ht
    have ho : r.ordinal = t.ordinal + n ∧ r.timeMicros = t.timeMicros := by
      unfold DT.toMicros DT.usPerDay at *
      omega
    exact ⟨hv, ho.1, ho.2, time_fields_of_timeMicros r t hv ht ho.2⟩

end RDP
