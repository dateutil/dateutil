/-
  Proofs/ZonesWall.lean — what the model's wall-clock queries compute on a coherent WF zone, by
  index: both folds' utcoffset, is_ambiguous, datetime_exists, resolve_imaginary inside a gap.
-/
import DateutilVerif.Proofs.ZonesCount

namespace TZ
open Spec

section
variable {z : TzFile} {b s : TType} (hc : Coherent z b s)
include hc

theorem Coherent.wallOf_len (f : Bool) : (wallOf z f).length = z.utc.length := by
  cases f
  · exact hc.w0_len
  · exact hc.w1_len

/-- `utcoffset` of a wall reading is the offset of the segment the fold's list selects -/
theorem Coherent.utcoffset_wall (w : Int) (f : Bool)
    (hcov : Covered z s (bisectRight (wallOf z f) w)) :
    utcoffset z ⟨w, f⟩ = .ok (Bo z b (bisectRight (wallOf z f) w)) := by
  have hk : bisectRight (wallOf z f) w ≤ z.utc.length := by
    rw [← hc.wallOf_len f]; exact bisectRight_le _ _
  have h : findTtinfo z ⟨w, f⟩ = some (ttOf z b s (bisectRight (wallOf z f) w)) := by
    unfold findTtinfo; rw [hc.findLastWall_eq]; exact hc.getTtinfo_eq _ hk
  rw [hc.utcoffset_eq _ _ h, hc.ttOf_off _ hk hcov]

/-- `fromutc` adds the offset of the instant's segment -/
theorem Coherent.fromutc_wall (t : Int) (hcov : Covered z s (bisectRight z.utc t)) :
    ∃ f, fromutc z t = .ok ⟨t + Bo z b (bisectRight z.utc t), f⟩ := by
  have h := hc.fromutc_eq t
  rw [hc.ttOf_off _ (bisectRight_le _ _) hcov] at h
  exact ⟨_, h⟩

/-- the public `is_ambiguous(dt)` -/
theorem Coherent.isAmbiguous_none (w : Int) :
    isAmbiguousIdx z w none =
      if bisectRight z.wall1 w = bisectRight z.wall0 w then false
      else isAmbiguousIdx z w (some ((bisectRight z.wall1 w : Int) - 1)) := by
  unfold isAmbiguousIdx
  rw [hc.not_empty]
  simp only [Bool.false_eq_true, if_false]
  by_cases h : bisectRight z.wall1 w = bisectRight z.wall0 w
  · rw [if_pos h]; simp [h]
  · rw [if_neg h]
    have : ((bisectRight z.wall1 w : Int) - 1 == (bisectRight z.wall0 w : Int) - 1) = false := by
      simp; omega
    rw [this]; rfl

end

section
variable {z : TzFile} {b s : TType} (hc : Coherent z b s) (hwf : WFz z b)
include hc hwf

/-- **is_ambiguous ⇔ the two folds select different segments** -/
theorem Coherent.isAmbiguous_eq (w : Int) :
    isAmbiguous z w = decide (bisectRight z.wall1 w ≠ bisectRight z.wall0 w) := by
  unfold isAmbiguous
  rw [hc.isAmbiguous_none w]
  have hkn : bisectRight z.wall0 w ≤ z.utc.length := by rw [← hc.w0_len]; exact bisectRight_le _ _
  have hk1 := hc.count_w1_eq hwf w
  obtain ⟨k1, k2⟩ := (hc.count_w0 hwf w _ hkn).mp rfl
  by_cases hP : bisectRight z.wall0 w < z.utc.length ∧ Lo z b (bisectRight z.wall0 w) ≤ w
  · rw [if_pos hP] at hk1
    rw [if_neg (by omega), hk1, hc.isAmbiguousIdx_eq w _ (by omega)]
    have h2 := k2 hP.1
    have h3 := hP.2
    simp only [Nat.add_sub_cancel, Hi, Lo] at h2 h3 ⊢
    rw [A_eq_Bo z b]
    rw [show decide (bisectRight z.wall0 w + 1 ≠ bisectRight z.wall0 w) = true from by simp]
    simp only [Bool.and_eq_true, decide_eq_true_eq]
    refine ⟨by omega, ⟨by omega, by omega⟩, by omega⟩
  · rw [if_neg hP] at hk1
    rw [if_pos hk1]; simp [hk1]

/-- a pre-image's segment reads `w` -/
theorem Coherent.pre_reads (w t : Int) (hp : w = t + Bo z b (bisectRight z.utc t)) :
    (0 < bisectRight z.utc t → Lo z b (bisectRight z.utc t - 1) ≤ w) ∧
    (bisectRight z.utc t < z.utc.length → w < Hi z b (bisectRight z.utc t)) := by
  obtain ⟨c1, c2⟩ := (hc.count_utc hwf t _ (bisectRight_le _ _)).mp rfl
  generalize bisectRight z.utc t = c at *
  refine ⟨fun h0 => ?_, fun hn => ?_⟩
  · have := c1 h0
    have e : c - 1 + 1 = c := by omega
    simp only [Lo, e]; omega
  · have := c2 hn
    simp only [Hi]; omega

/-- `w` has a pre-image iff it is not inside the gap in front of its fold=0 segment -/
theorem Coherent.hasPre_iff (w : Int) :
    (∃ t, w = t + Bo z b (bisectRight z.utc t)) ↔
      (bisectRight z.wall0 w = 0 ∨ Lo z b (bisectRight z.wall0 w - 1) ≤ w) := by
  have hkn : bisectRight z.wall0 w ≤ z.utc.length := by rw [← hc.w0_len]; exact bisectRight_le _ _
  obtain ⟨k1, k2⟩ := (hc.count_w0 hwf w _ hkn).mp rfl
  constructor
  · intro ⟨t, hp⟩
    obtain ⟨r1, _⟩ := hc.pre_reads hwf w t hp
    rcases hc.pre_seg hwf w t hp with e | e
    · rw [e] at r1
      by_cases h0 : bisectRight z.wall0 w = 0
      · exact Or.inl h0
      · exact Or.inr (r1 (by omega))
    · rw [e] at r1
      have hcn := bisectRight_le z.utc t
      by_cases h0 : bisectRight z.wall0 w = 0
      · exact Or.inl h0
      · right
        have := r1 (by omega)
        simp only [Nat.add_sub_cancel] at this
        have m := hc.lo_mono hwf (bisectRight z.wall0 w - 1) (bisectRight z.wall0 w) (by omega) (by omega)
        omega
  · intro h
    refine ⟨w - Bo z b (bisectRight z.wall0 w), ?_⟩
    rw [hc.seg_pre hwf w _ hkn (fun h0 => by rcases h with h | h; omega; exact h) k2]
    omega

/-- **datetime_exists**, for either fold, is the index condition that `hasPre_iff` equates with having a pre-image -/
theorem Coherent.exists_eq (w : Int) (f : Bool)
    (hcov0 : Covered z s (bisectRight z.wall0 w)) (hcov1 : Covered z s (bisectRight z.wall1 w)) :
    datetimeExists z.ops ⟨w, f⟩ =
      .ok (decide (bisectRight z.wall0 w = 0 ∨ Lo z b (bisectRight z.wall0 w - 1) ≤ w)) := by
  have hkn : bisectRight z.wall0 w ≤ z.utc.length := by rw [← hc.w0_len]; exact bisectRight_le _ _
  have hk1 := hc.count_w1_eq hwf w
  obtain ⟨k1, k2⟩ := (hc.count_w0 hwf w _ hkn).mp rfl
  have hcovf : Covered z s (bisectRight (wallOf z f) w) := by cases f <;> assumption
  unfold datetimeExists TzFile.ops
  simp only [hc.utcoffset_wall w f hcovf, bind, Except.bind]
  by_cases hpre : bisectRight z.wall0 w = 0 ∨ Lo z b (bisectRight z.wall0 w - 1) ≤ w
  · -- the selected segment reads w
    have hseg : bisectRight z.utc (w - Bo z b (bisectRight (wallOf z f) w)) = bisectRight (wallOf z f) w := by
      cases f with
      | false =>
          show bisectRight z.utc (w - Bo z b (bisectRight z.wall0 w)) = bisectRight z.wall0 w
          exact hc.seg_pre hwf w _ hkn (fun h0 => by rcases hpre with h | h; omega; exact h) k2
      | true =>
          show bisectRight z.utc (w - Bo z b (bisectRight z.wall1 w)) = bisectRight z.wall1 w
          by_cases hP : bisectRight z.wall0 w < z.utc.length ∧ Lo z b (bisectRight z.wall0 w) ≤ w
          · rw [if_pos hP] at hk1
            rw [hk1]
            apply hc.seg_pre hwf w _ (by omega)
            · intro _; simpa using hP.2
            · intro hn
              have := hc.hi_step hwf _ hn
              have := k2 hP.1
              omega
          · rw [if_neg hP] at hk1
            rw [hk1]
            exact hc.seg_pre hwf w _ hkn (fun h0 => by rcases hpre with h | h; omega; exact h) k2
    obtain ⟨f', hf'⟩ := hc.fromutc_wall (w - Bo z b (bisectRight (wallOf z f) w)) (by rw [hseg]; exact hcovf)
    rw [hf', hseg]
    simp only [pure, Except.pure, decide_eq_true hpre]
    refine congrArg Except.ok ?_
    rw [Int.sub_add_cancel, beq_self_eq_true]
  · -- inside a gap: the instant found is earlier and does not read w
    have hk0 : 0 < bisectRight z.wall0 w := by omega
    have hlt : w < Lo z b (bisectRight z.wall0 w - 1) := by omega
    have hnP : ¬ (bisectRight z.wall0 w < z.utc.length ∧ Lo z b (bisectRight z.wall0 w) ≤ w) := by
      intro ⟨a, c⟩
      have := hc.lo_mono hwf (bisectRight z.wall0 w - 1) (bisectRight z.wall0 w) (by omega) a
      omega
    rw [if_neg hnP] at hk1
    have hkf : bisectRight (wallOf z f) w = bisectRight z.wall0 w := by
      cases f
      · rfl
      · exact hk1
    rw [hkf]
    -- the instant lies strictly before transition k0-1, hence in an earlier (covered) segment
    have hearly : bisectRight z.utc (w - Bo z b (bisectRight z.wall0 w)) < z.utc.length := by
      have hle := bisectRight_le z.utc (w - Bo z b (bisectRight z.wall0 w))
      by_cases e : bisectRight z.utc (w - Bo z b (bisectRight z.wall0 w)) = z.utc.length
      · exfalso
        obtain ⟨c1, _⟩ := (hc.count_utc hwf _ _ hle).mp rfl
        rw [e] at c1
        have a := c1 hc.npos
        have m := hc.utc_sorted hwf
        have e2 : bisectRight z.wall0 w - 1 + 1 = bisectRight z.wall0 w := by omega
        simp only [Lo, e2] at hlt
        by_cases e3 : bisectRight z.wall0 w - 1 = z.utc.length - 1
        · rw [e3] at hlt; simp only [U] at a hlt; omega
        · have := m (bisectRight z.wall0 w - 1) (z.utc.length - 1) (by omega) (by omega)
          simp only [U] at a hlt; omega
      · omega
    obtain ⟨f', hf'⟩ := hc.fromutc_wall (w - Bo z b (bisectRight z.wall0 w)) (Or.inl hearly)
    rw [hf']
    simp only [pure, Except.pure, decide_eq_false hpre]
    congr 1
    simp only [beq_eq_false_iff_ne, ne_eq]
    intro heq
    apply hpre
    exact (hc.hasPre_iff hwf w).mp ⟨w - Bo z b (bisectRight z.wall0 w), by omega⟩

/-- **resolve_imaginary inside a gap** (after the D-C05g repair: the gap is measured by a UTC round trip).
    `w` lies in the gap opened by transition `k-1` (`k` = fold-0 count); the previous transition is at least one gap
    width earlier (UTC) and the next change takes effect (wall clock) at least one gap width after the gap ends.
    Then the result is `w` moved forward by the gap width — ANY width — and it has a pre-image. -/
theorem Coherent.resolve_gap (w : Int) (f : Bool)
    (hk0 : 0 < bisectRight z.wall0 w) (hgap : w < Lo z b (bisectRight z.wall0 w - 1))
    (hnext : bisectRight z.wall0 w < z.utc.length →
      Lo z b (bisectRight z.wall0 w - 1) + (Lo z b (bisectRight z.wall0 w - 1) - Hi z b (bisectRight z.wall0 w - 1))
        ≤ Hi z b (bisectRight z.wall0 w))
    (hprev : 1 < bisectRight z.wall0 w →
      U z (bisectRight z.wall0 w - 2) + (Lo z b (bisectRight z.wall0 w - 1) - Hi z b (bisectRight z.wall0 w - 1))
        ≤ U z (bisectRight z.wall0 w - 1))
    (hcov : Covered z s (bisectRight z.wall0 w)) :
    resolveImaginary z.ops ⟨w, f⟩ =
      .ok ⟨w + (Bo z b (bisectRight z.wall0 w) - Bo z b (bisectRight z.wall0 w - 1)), false⟩ ∧
    ∃ t, w + (Bo z b (bisectRight z.wall0 w) - Bo z b (bisectRight z.wall0 w - 1))
          = t + Bo z b (bisectRight z.utc t) := by
  have hkn : bisectRight z.wall0 w ≤ z.utc.length := by rw [← hc.w0_len]; exact bisectRight_le _ _
  obtain ⟨k1, k2⟩ := (hc.count_w0 hwf w _ hkn).mp rfl
  have hk1 := hc.count_w1_eq hwf w
  have hnP : ¬ (bisectRight z.wall0 w < z.utc.length ∧ Lo z b (bisectRight z.wall0 w) ≤ w) := by
    intro ⟨a, c⟩
    have := hc.lo_mono hwf (bisectRight z.wall0 w - 1) (bisectRight z.wall0 w) (by omega) a
    omega
  rw [if_neg hnP] at hk1
  have hex := hc.exists_eq hwf w f hcov (by rw [hk1]; exact hcov)
  have hfalse : ¬ (bisectRight z.wall0 w = 0 ∨ Lo z b (bisectRight z.wall0 w - 1) ≤ w) := by omega
  rw [decide_eq_false hfalse] at hex
  -- the offset read for w (either fold) is the NEW one
  have hkf : bisectRight (wallOf z f) w = bisectRight z.wall0 w := by cases f <;> simp [wallOf, hk1]
  have ho : utcoffset z ⟨w, f⟩ = .ok (Bo z b (bisectRight z.wall0 w)) := by
    have := hc.utcoffset_wall w f (by rw [hkf]; exact hcov)
    rw [hkf] at this; exact this
  -- the round trip lands in the segment BEFORE the transition
  have hhi := k1 hk0
  have e1 : bisectRight z.wall0 w - 1 + 1 = bisectRight z.wall0 w := by omega
  have hcnt : bisectRight z.utc (w - Bo z b (bisectRight z.wall0 w)) = bisectRight z.wall0 w - 1 := by
    rw [hc.count_utc hwf _ _ (by omega)]
    refine ⟨fun h0 => ?_, fun _ => ?_⟩
    · have := hprev (by omega)
      have e : bisectRight z.wall0 w - 1 - 1 = bisectRight z.wall0 w - 2 := by omega
      simp only [Lo, Hi, e1] at this hhi ⊢
      rw [e]; omega
    · simp only [Lo, e1] at hgap; omega
  obtain ⟨f', hfu⟩ := hc.fromutc_wall (w - Bo z b (bisectRight z.wall0 w)) (by rw [hcnt]; exact Or.inl (by omega))
  rw [hcnt] at hfu
  have hpos : 0 < Bo z b (bisectRight z.wall0 w) - Bo z b (bisectRight z.wall0 w - 1) := by
    simp only [Lo, Hi, e1] at hgap hhi; omega
  refine ⟨?_, ?_⟩
  · unfold resolveImaginary
    simp only [hex, bind, Except.bind, pure, Except.pure, Bool.false_eq_true, if_false]
    have e2 : (TzFile.ops z).utcoffset = utcoffset z := rfl
    have e3 : (TzFile.ops z).fromutc = fromutc z := rfl
    simp only [e2, e3, ho, hfu]
    congr 2
    unfold Py.iabs
    split <;> omega
  · refine ⟨w + (Bo z b (bisectRight z.wall0 w) - Bo z b (bisectRight z.wall0 w - 1))
              - Bo z b (bisectRight z.wall0 w), ?_⟩
    rw [hc.seg_pre hwf _ _ hkn]
    · omega
    · intro _
      simp only [Lo, Hi, e1] at hhi ⊢
      omega
    · intro hn
      have := hnext hn
      simp only [Lo, Hi, e1] at this hgap hhi ⊢
      omega

end

end TZ
