/-
  Proofs/RRuleNthEMonthly.lean — MONTHLY with nth BYDAY TOGETHER with BYEASTER (nth members only = outside D-C01a;
  offsets −80..250, years 1583..4099 = complement of D-C01d): both computed masks are present and the filter is
  `simpleOk ∧ nth clause ∧ Easter clause`, i.e. `dateOk` (Proofs/RRuleBridge.lean, `nth_filtered`).
-/
import DateutilVerif.Proofs.RRuleNthMonthly
import DateutilVerif.Proofs.RRuleEasterYearly

namespace RRule
open Cal

/-- MONTHLY, BYDAY of nth weekdays only, BYEASTER offsets −80..250 -/
structure NthEMArgs (a : Args) : Prop where
  freq : a.freq = 1
  interval : 1 ≤ a.interval
  valid : a.dtstart.Valid
  byweekno : a.byweekno = none
  monthday_nz : ∀ x ∈ a.bymonthday.getD [], x ≠ 0
  weekdays : ∃ l, a.byweekday = some l ∧ l ≠ [] ∧ ∀ w ∈ l, (0 ≤ w.1 ∧ w.1 ≤ 6) ∧ w.2 ≠ 0
  easter : ∃ el, a.byeaster = some el ∧ el ≠ [] ∧ ∀ o ∈ el, -80 ≤ o ∧ o ≤ 250

/-- the same argument set without BYEASTER -/
def stripEas (a : Args) : Args := { a with byeaster := none }

variable {a : Args} {r : Rule} {y : Int} {info : Info}

/-- both computed masks: nth BYDAY members only, BYEASTER, no BYWEEKNO -/
structure NthERule (r : Rule) : Prop where
  byweekno : truthy r.byweekno = false
  byeaster : truthy r.byeaster = true
  byweekday : r.byweekday = none

theorem nthERule_of (D : DateFields a r) (hf : a.freq = 0 ∨ a.freq = 1) (hw : NthOnly a) (hwn : a.byweekno = none)
    (he : ∃ el, a.byeaster = some el ∧ el ≠ [] ∧ ∀ o ∈ el, -80 ≤ o ∧ o ≤ 250) : NthERule r :=
  ⟨D.weekno_off hwn, (easter_rule D he).2, by rw [D.byweekday]; exact (nwl_facts hf hw).2.2.2.1⟩

/-- "the model state at the start of period `k`" -/
structure NthEGood (a : Args) (r : Rule) (k : Nat) (st : State) : Prop where
  facts : YearFacts r st.cur.year st.info
  month : 1 ≤ st.cur.month ∧ st.cur.month ≤ 12
  timeset : st.timeset = Spec.RRule.timesOf a none none none
  idx : st.cur.year * 12 + (st.cur.month - 1) = a.dtstart.y * 12 + (a.dtstart.m - 1) + k * a.interval
  masks : ∃ nmask emask, st.info.nwdaymask = some nmask ∧ (nmask.length : Int) = st.info.yearlen ∧
    (∀ j : Int, 0 ≤ j → j < st.info.yearlen →
      Py.getIdx nmask j = .ok (if ∃ wn ∈ nwlOf (stripEas a), marks st.info (daysBeforeMonth st.cur.year st.cur.month)
          (daysBeforeMonth st.cur.year st.cur.month + daysInMonth st.cur.year st.cur.month - 1) j wn then 1 else 0)) ∧
    st.info.eastermask = some emask ∧ st.info.yearlen ≤ (emask.length : Int) ∧
    (∀ j : Int, 0 ≤ j → j < st.info.yearlen →
      Py.getIdx emask j =
        .ok (if (st.info.yearordinal + j - Spec.RRule.easterOrd st.cur.year) ∈ eastersOf a then 1 else 0))

/-- what `rebuild` establishes here: the nth-weekday mask of the month and the Easter mask of the year -/
def NthEInv (a : Args) (y m : Int) (info : Info) : Prop := NthMInv (stripEas a) y m info ∧ EasterMarks a y info

theorem ne_filter (na : NthEMArgs a) (h : construct a = .ok r) : PeriodFilter a r 1583 4099 (NthEInv a) monthDays where
  lo := by omega
  hi := by omega
  rebuild := fun y m hy1 hy2 hm1 hm12 => by
    have D := construct_dateFields h
    obtain ⟨n, hn, hN⟩ := nthM_build D na.freq na.weekdays (by omega : 1 ≤ y) (by omega : y ≤ 9999) hm1 hm12
    obtain ⟨e, he, hE⟩ := eastermaskOf_in D na.easter hy1 hy2
    exact ⟨_, rebuild_eq r m (by omega) (by omega) (wnomaskOf_off (D.weekno_off na.byweekno) ..) hn he, hN _ _, hE _ _⟩
  filtered := fun {y m info i} f inv hi =>
    have D := construct_dateFields h
    have hy := monthDays_year f hi
    nth_filtered D (monthdayArg_nz na.monthday_nz na.valid) (nwl_facts (Or.inr na.freq) na.weekdays).2.2.2.1 f i
      hy.1 hy.2 inv.1.marked (fun _ => nthM_part na.freq na.weekdays f hi) (weekno_miss_off D na.byweekno ..)
      (easter_miss_on D na.easter f inv.2.marked hy.1 hy.2 hy.2)

/-- the state invariant of the MONTHLY refinement, read for this family -/
theorem ne_good (na : NthEMArgs a) {k : Nat} {st : State} (g : PeriodGood (NthEInv a) a r k st) : NthEGood a r k st := by
  obtain ⟨⟨nm, a1, a2, a3⟩, em, b1, b2, b3⟩ := g.inv
  exact ⟨g.facts, g.month, g.timeset, g.monthly na.freq, nm, em, a1, a2, a3, b1, b2, b3⟩

/-- **`iter_eq_spec`, MONTHLY with nth weekdays and BYEASTER** (nth members only; offsets −80..250, years 1583..4099) -/
theorem iter_eq_spec_monthly_nth_easter (na : NthEMArgs a) (h : construct a = .ok r) (n : Nat)
    (hlo : 1583 ≤ a.dtstart.y) (hm : (a.dtstart.y * 12 + (a.dtstart.m - 1) + n * a.interval) / 12 ≤ 4099) :
    (iter r n).1 = Spec.RRule.occ a n := by
  exact monthly_refines h na.freq na.valid (ne_filter na h) n hlo hm

-- an NthEMArgs instance: the Friday before Easter as "a 2nd or 3rd or 4th Friday of its month"
example : NthEMArgs { freq := 1, dtstart := ⟨2024, 1, 1, 9, 0, 0, 0⟩, byweekday := some [(4, 2), (4, 3), (4, 4)],
                      byeaster := some [-2] } :=
  ⟨rfl, by decide, by decide, rfl, by intro x hx; simp at hx, ⟨[(4, 2), (4, 3), (4, 4)], rfl, by decide, by decide⟩,
   ⟨[-2], rfl, by decide, by decide⟩⟩

end RRule
