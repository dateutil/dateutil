/-
  Proofs/RRuleEDaily.lean — DAILY with BYEASTER (complement of D-C01d: offsets −80..250, visited days inside
  1583..4099): `iter_eq_spec_daily_filter` over the day filter of Proofs/RRuleEFilter.lean.
-/
import DateutilVerif.Proofs.RRuleEFilter

namespace RRule
open Cal

/-- DAILY argument sets with BYEASTER on the complement of D-C01d, no BYWEEKNO -/
structure DailyEArgs (a : Args) : Prop where
  freq : a.freq = 3
  interval : 1 ≤ a.interval
  valid : a.dtstart.Valid
  byweekno : a.byweekno = none
  monthday_nz : ∀ x ∈ a.bymonthday.getD [], x ≠ 0
  easter : ∃ el, a.byeaster = some el ∧ el ≠ [] ∧ ∀ o ∈ el, -80 ≤ o ∧ o ≤ 250

variable {a : Args} {r : Rule}

/-- "the model state at the start of period `k`": `DayGood` over the filter of `ERule`s (`daily_easter_good`) -/
structure DailyEGood (a : Args) (r : Rule) (k : Nat) (st : State) : Prop where
  facts : YearFacts r st.cur.year st.info
  inv : EInv r st.info
  valid : ValidYMD st.cur.year st.cur.month st.cur.day
  ord : curOrd st.cur = Spec.RRule.startOrd a + k * a.interval
  timeset : st.timeset = Spec.RRule.timesOf a none none none

theorem daily_easter_good {h : construct a = .ok r} {hf hi hv hw he hz} {k : Nat} {st : State}
    (hg : DayGood (eFilter h hf hi hv hw he hz) k st) : DailyEGood a r k st :=
  ⟨hg.facts, hg.inv, hg.valid, hg.ord, hg.timeset⟩

/-- **`iter_eq_spec`, DAILY with BYEASTER** on the complement of D-C01d (offsets −80..250), every visited day inside
    1583..4099 (where C19 ties `easter.easter` to Meeus/Jones/Butcher): INTERVAL ≥ 1, a valid start, any BYMONTH /
    BYMONTHDAY (non-zero) / BYYEARDAY / BYDAY / BYHOUR / BYMINUTE / BYSECOND / BYSETPOS, any COUNT / UNTIL, no BYWEEKNO:
    exactly the specification's recurrence set. -/
theorem iter_eq_spec_daily_easter (ea : DailyEArgs a) (h : construct a = .ok r) (n : Nat)
    (hlo : 1583 ≤ a.dtstart.y)
    (hn : Spec.RRule.startOrd a + n * a.interval ≤ Cal.toOrdinal 4099 12 31) :
    (iter r n).1 = Spec.RRule.occ a n :=
  iter_eq_spec_daily_filter
    (eFilter h (by rw [ea.freq]; omega) ea.interval ea.valid ea.byweekno ea.easter ea.monthday_nz) h ea.freq
    ea.interval ea.valid n hlo hn

example : DailyEArgs { freq := 3, dtstart := ⟨2024, 1, 1, 10, 0, 0, 0⟩, byeaster := some [0, 1] } :=
  { freq := rfl, interval := by decide, valid := by decide, byweekno := rfl,
    monthday_nz := by intro x hx; simp at hx,
    easter := ⟨[0, 1], rfl, by simp, by intro o ho; simp at ho; omega⟩ }

end RRule
