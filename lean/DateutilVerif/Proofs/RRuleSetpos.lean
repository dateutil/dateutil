/-
  Proofs/RRuleSetpos.lean — BYSETPOS.  The model picks position `pos` through
  `divmod(pos − 1, len(timeset))` / `divmod(pos, len(timeset))` into (surviving days, time set) with
  Python's negative indexing; the specification indexes the flat candidate list (1-based, negative
  from the end).  Both pick the same instant (or none), for every non-zero position.  With that, a whole range of
  days at once: the results of a period whose day set is an index range on which the BY-filter is a predicate `P`
  are the dates of the range passing `P`, each expanded by the time set, under BYSETPOS
  (`periodResults_range_P`); and the specification's `sel` in the same shape (`sel_span_sp`).
-/
import DateutilVerif.Proofs.RRuleFilter
import DateutilVerif.Proofs.RRuleMonoCal
import DateutilVerif.Proofs.RRuleTimes
import DateutilVerif.Proofs.RRuleRefine

namespace RRule
open Cal

theorem expandDays_ok (yo : Int) (ts : List HMS) : ∀ (days : List Int),
    (∀ i ∈ days, 1 ≤ yo + i ∧ yo + i ≤ maxOrdinal) →
    expandDays yo ts days = (days.flatMap (fun i => ts.map (mkInst (yo + i))), none) := by
  intro days
  induction days with
  | nil => intro _; rfl
  | cons i is ih =>
    intro hb
    have hi := hb i (List.mem_cons_self ..)
    unfold expandDays checkOrd
    rw [if_pos hi]
    dsimp only
    rw [ih (fun j hj => hb j (List.mem_cons_of_mem _ hj))]
    rfl

theorem intRange_shift (c a b : Int) : (intRange a b).map (fun i => c + i) = intRange (c + a) (c + b) := by
  unfold intRange
  rw [List.map_map]
  have : (c + b - (c + a)).toNat = (b - a).toNat := by omega
  rw [this]
  apply List.map_congr_left
  intro k _; simp only [Function.comp]; omega

theorem sel_bounds (ts : List HMS) (lo hi : Int) (p : Int → Bool) (x : Inst)
    (hx : x ∈ ((intRange lo hi).filter p).flatMap (fun o => ts.map (mkInst o))) : lo ≤ x.ord ∧ x.ord < hi := by
  simp only [List.mem_flatMap, List.mem_filter, List.mem_map] at hx
  obtain ⟨o, ⟨ho, _⟩, _, _, rfl⟩ := hx
  exact (mem_intRange _ _ _).mp ho

theorem year_end_le (y : Int) (hy : y ≤ 9999) : toOrdinal y 1 1 + daysInYear y ≤ maxOrdinal + 1 := by
  rw [← toOrdinal_next_year]
  have := year_start_mono (y + 1) 10000 (by omega)
  have e : toOrdinal 10000 1 1 = maxOrdinal + 1 := by decide
  omega

/-- the flat candidate list of a period: surviving days × time set -/
def flatOf (yo : Int) (ts : List HMS) (days : List Int) : List Inst :=
  days.flatMap (fun i => ts.map (mkInst (yo + i)))

theorem flatOf_cons (yo : Int) (ts : List HMS) (i : Int) (is : List Int) :
    flatOf yo ts (i :: is) = ts.map (mkInst (yo + i)) ++ flatOf yo ts is := rfl

theorem flatOf_length (yo : Int) (ts : List HMS) : ∀ (days : List Int),
    (flatOf yo ts days).length = days.length * ts.length := by
  intro days
  induction days with
  | nil => simp [flatOf]
  | cons i is ih =>
    rw [flatOf_cons, List.length_append, List.length_map, ih, List.length_cons, Nat.add_mul]; omega

theorem flatOf_get (yo : Int) (ts : List HMS) : ∀ (days : List Int) (q rem : Nat) (hq : q < days.length)
    (hr : rem < ts.length),
    (flatOf yo ts days)[q * ts.length + rem]? = some (mkInst (yo + days[q]) ts[rem]) := by
  intro days
  induction days with
  | nil => intro q rem hq; simp at hq
  | cons i is ih =>
    intro q rem hq hr
    rw [flatOf_cons]
    cases q with
    | zero =>
      rw [Nat.zero_mul, Nat.zero_add, List.getElem?_append_left (by rw [List.length_map]; exact hr),
          List.getElem?_map, List.getElem?_eq_getElem hr]
      rfl
    | succ q' =>
      have hq' : q' < is.length := by simpa using hq
      rw [List.getElem?_append_right (by rw [List.length_map, Nat.succ_mul]; omega), List.length_map]
      have e : (q' + 1) * ts.length + rem - ts.length = q' * ts.length + rem := by
        rw [Nat.succ_mul]; omega
      rw [e, ih q' rem hq' hr]
      rfl

/-- the specification's pick: 1-based position, negative from the end -/
def specPick (c : List Inst) (pos : Int) : Option Inst :=
  if pos > 0 then c[(pos - 1).toNat]?
  else if pos < 0 ∧ (c.length : Int) + pos ≥ 0 then c[((c.length : Int) + pos).toNat]?
  else none

theorem getIdx_nat {α} (l : List α) (k : Nat) (h : k < l.length) : Py.getIdx l (k : Int) = .ok l[k] := by
  unfold Py.getIdx
  dsimp only
  rw [if_neg (show ¬ ((k : Int) < 0) by omega), if_neg (by omega), Int.toNat_natCast, List.getElem?_eq_getElem h]

theorem getIdx_nat_err {α} (l : List α) (k : Nat) (h : l.length ≤ k) : Py.getIdx l (k : Int) = .error .IndexError := by
  unfold Py.getIdx
  dsimp only
  rw [if_neg (show ¬ ((k : Int) < 0) by omega), if_pos (by omega)]

theorem getIdx_neg {α} (l : List α) (q : Int) (hq : q < 0) (j : Nat) (hj : (j : Int) = q + l.length) (h : j < l.length) :
    Py.getIdx l q = .ok l[j] := by
  unfold Py.getIdx
  dsimp only
  rw [if_pos hq, if_neg (by omega)]
  have : (q + (l.length : Int)).toNat = j := by omega
  rw [this, List.getElem?_eq_getElem h]

theorem getIdx_neg_err {α} (l : List α) (q : Int) (hq : q + l.length < 0) : Py.getIdx l q = .error .IndexError := by
  unfold Py.getIdx
  dsimp only
  rw [if_pos (show q < 0 by omega), if_pos (by omega)]

theorem divmod_nat (n T : Nat) (hT : 0 < T) :
    Py.divmod (n : Int) (T : Int) = (((n / T : Nat) : Int), ((n % T : Nat) : Int)) := by
  unfold Py.divmod
  rw [Py.fdiv_pos _ (by omega), Py.fmod_pos _ (by omega), Int.natCast_ediv, Int.natCast_emod]

/-- **one position**: the model's selection is the specification's pick in the flat list -/
theorem selectPos_eq (yo : Int) (days : List Int) (ts : List HMS) (hT : 0 < ts.length)
    (hord : ∀ i ∈ days, 1 ≤ yo + i ∧ yo + i ≤ maxOrdinal) (pos : Int) (hp : pos ≠ 0) :
    selectPos yo days ts pos = .ok (specPick (flatOf yo ts days) pos) := by
  have hlen := flatOf_length yo ts days
  unfold selectPos specPick
  dsimp only
  by_cases hpos : pos > 0
  · rw [if_neg (by omega), if_pos hpos]
    obtain ⟨n, hn⟩ : ∃ n : Nat, pos - 1 = (n : Int) := ⟨(pos - 1).toNat, by omega⟩
    rw [hn, divmod_nat n _ hT, Int.toNat_natCast]
    dsimp only
    by_cases hq : n / ts.length < days.length
    · have hr : n % ts.length < ts.length := Nat.mod_lt _ hT
      rw [getIdx_nat days _ hq, getIdx_nat ts _ hr]
      dsimp only
      unfold checkOrd
      rw [if_pos (hord _ (List.getElem_mem hq))]
      dsimp only
      have e : n = n / ts.length * ts.length + n % ts.length := (Nat.div_add_mod' n ts.length).symm
      conv => rhs; rw [e]
      rw [flatOf_get yo ts days _ _ hq hr]
      rfl
    · rw [getIdx_nat_err days _ (by omega)]
      dsimp only
      have : days.length * ts.length ≤ n := (Nat.le_div_iff_mul_le hT).mp (by omega)
      rw [List.getElem?_eq_none (by rw [hlen]; exact this)]
  · have hneg : pos < 0 := by omega
    rw [if_pos hneg, if_neg hpos]
    have hd := divmod_spec pos (ts.length : Int) (by omega)
    generalize Py.divmod pos (ts.length : Int) = dm at hd
    obtain ⟨q, rem⟩ := dm
    dsimp only at hd ⊢
    have hq : q < 0 := by
      by_cases c : q < 0
      · exact c
      · exfalso
        have : 0 ≤ q * (ts.length : Int) := Int.mul_nonneg (by omega) (by omega)
        omega
    obtain ⟨remn, hremn⟩ : ∃ k : Nat, rem = (k : Int) := ⟨rem.toNat, by omega⟩
    subst hremn
    have hr : remn < ts.length := by omega
    have hsum : ((flatOf yo ts days).length : Int) + pos = (q + days.length) * ts.length + remn := by
      rw [hlen, Int.add_mul]; push_cast; omega
    by_cases hj : 0 ≤ q + (days.length : Int)
    · obtain ⟨j, hjn⟩ : ∃ j : Nat, (j : Int) = q + days.length := ⟨(q + days.length).toNat, by omega⟩
      have hjl : j < days.length := by omega
      rw [getIdx_neg days q hq j hjn hjl, getIdx_nat ts _ hr]
      dsimp only
      unfold checkOrd
      rw [if_pos (hord _ (List.getElem_mem hjl))]
      dsimp only
      have hnn : (0 : Int) ≤ (q + days.length) * ts.length + remn := by
        rw [← hjn]; exact Int.add_nonneg (Int.mul_nonneg (by omega) (by omega)) (by omega)
      rw [if_pos ⟨hneg, by rw [hsum]; exact hnn⟩, hsum, ← hjn]
      have : ((j : Int) * (ts.length : Int) + (remn : Int)).toNat = j * ts.length + remn := by
        have : (j : Int) * (ts.length : Int) + (remn : Int) = ((j * ts.length + remn : Nat) : Int) := by push_cast; rfl
        rw [this, Int.toNat_natCast]
      rw [this, flatOf_get yo ts days _ _ hjl hr]
      rfl
    · rw [getIdx_neg_err days q (by omega)]
      dsimp only
      have hlt : (q + (days.length : Int)) * (ts.length : Int) + (remn : Int) < 0 := by
        have h1 : (q + (days.length : Int)) * (ts.length : Int) ≤ (-1) * (ts.length : Int) :=
          Int.mul_le_mul_of_nonneg_right (by omega) (by omega)
        omega
      rw [if_neg (by rw [hsum]; omega)]

theorem secs_inj (x y : Inst) (hx : InstOk x) (hy : InstOk y) (h : x.secs = y.secs) : x = y := by
  obtain ⟨ox, hx', mx, sx⟩ := x
  obtain ⟨oy, hy', my, sy⟩ := y
  unfold InstOk ValidHMS at hx hy
  unfold Inst.secs at h
  dsimp only at hx hy h
  have : ox = oy ∧ hx' = hy' ∧ mx = my ∧ sx = sy := by omega
  obtain ⟨e1, e2, e3, e4⟩ := this
  subst e1; subst e2; subst e3; subst e4; rfl

theorem insertInst_subset (x y : Inst) : ∀ (l : List Inst), y ∈ Spec.RRule.insertInst x l → y = x ∨ y ∈ l := by
  intro l
  induction l with
  | nil => intro h; simp [Spec.RRule.insertInst] at h; exact Or.inl h
  | cons z zs ih =>
    intro h
    unfold Spec.RRule.insertInst at h
    split at h
    · rcases List.mem_cons.mp h with h | h
      · exact Or.inr (h ▸ List.mem_cons_self ..)
      · rcases ih h with h | h
        · exact Or.inl h
        · exact Or.inr (List.mem_cons_of_mem _ h)
    · split at h
      · exact Or.inr h
      · rcases List.mem_cons.mp h with h | h
        · exact Or.inl h
        · exact Or.inr h

theorem mem_insertInst (x y : Inst) (hx : InstOk x) : ∀ (l : List Inst), (∀ z ∈ l, InstOk z) →
    (y ∈ Spec.RRule.insertInst x l ↔ y = x ∨ y ∈ l) := by
  intro l
  induction l with
  | nil => intro _; simp [Spec.RRule.insertInst]
  | cons z zs ih =>
    intro hok
    unfold Spec.RRule.insertInst
    split
    · rw [List.mem_cons, ih (fun w hw => hok w (List.mem_cons_of_mem _ hw)), List.mem_cons]
      constructor
      · rintro (h | h | h)
        · exact Or.inr (Or.inl h)
        · exact Or.inl h
        · exact Or.inr (Or.inr h)
      · rintro (h | h | h)
        · exact Or.inr (Or.inl h)
        · exact Or.inl h
        · exact Or.inr (Or.inr h)
    · split
      · rename_i heq
        have : z = x := secs_inj z x (hok z (List.mem_cons_self ..)) hx (by simpa using heq)
        subst this
        constructor
        · exact fun h => Or.inr h
        · rintro (h | h)
          · subst h; exact List.mem_cons_self ..
          · exact h
      · simp only [List.mem_cons]

theorem insertInst_sorted (x : Inst) : ∀ (l : List Inst), l.Pairwise secsLt →
    (Spec.RRule.insertInst x l).Pairwise secsLt := by
  intro l
  induction l with
  | nil => intro _; simp [Spec.RRule.insertInst]
  | cons z zs ih =>
    intro hs
    rw [List.pairwise_cons] at hs
    unfold Spec.RRule.insertInst
    split
    · rename_i hlt
      rw [List.pairwise_cons]
      refine ⟨?_, ih hs.2⟩
      intro y hy
      rcases insertInst_subset x y zs hy with h | h
      · subst h; exact hlt
      · exact hs.1 y h
    · rename_i hnlt
      split
      · exact List.pairwise_cons.mpr hs
      · rename_i hne
        rw [List.pairwise_cons]
        have hxz : x.secs < z.secs := by
          have h1 : ¬ z.secs < x.secs := hnlt
          have h2 : ¬ z.secs = x.secs := by simpa using hne
          omega
        refine ⟨?_, List.pairwise_cons.mpr hs⟩
        intro y hy
        rcases List.mem_cons.mp hy with h | h
        · subst h; exact hxz
        · have := hs.1 y h; unfold secsLt at this ⊢; omega

theorem foldInsert_spec : ∀ (l : List Inst), (∀ z ∈ l, InstOk z) →
    (l.foldr Spec.RRule.insertInst []).Pairwise secsLt ∧
    (∀ y, y ∈ l.foldr Spec.RRule.insertInst [] ↔ y ∈ l) := by
  intro l
  induction l with
  | nil => intro _; simp
  | cons x xs ih =>
    intro hok
    obtain ⟨h1, h2⟩ := ih (fun z hz => hok z (List.mem_cons_of_mem _ hz))
    simp only [List.foldr_cons]
    refine ⟨insertInst_sorted x _ h1, ?_⟩
    intro y
    rw [mem_insertInst x y (hok x (List.mem_cons_self ..)) _
        (fun z hz => hok z (List.mem_cons_of_mem _ ((h2 z).mp hz))), h2, List.mem_cons]

/-- BYSETPOS applied to a candidate list (the body of the specification's `selOf`) -/
def applySetpos (sp : Option (List Int)) (c : List Inst) : List Inst :=
  match sp with
  | some (p :: ps) => ((p :: ps).filterMap (specPick c)).foldr Spec.RRule.insertInst []
  | _ => c

theorem selOf_eq (a : Args) (c : List Inst) : Spec.RRule.selOf a c = applySetpos a.bysetpos c := by
  unfold Spec.RRule.selOf applySetpos
  rcases a.bysetpos with _ | (_ | ⟨p, ps⟩) <;> rfl

theorem specPick_mem (c : List Inst) (pos : Int) (x : Inst) (h : specPick c pos = some x) : x ∈ c := by
  unfold specPick at h
  split at h
  · exact List.mem_of_getElem? h
  · split at h
    · exact List.mem_of_getElem? h
    · cases h

/-- **the BYSETPOS list**: the model's `poslist` is the specification's selection from the flat
    candidate list, for every list of non-zero positions -/
theorem buildPoslist_eq (yo : Int) (days : List Int) (ts : List HMS) (hts : TsOk ts) (hT : 0 < ts.length)
    (hord : ∀ i ∈ days, 1 ≤ yo + i ∧ yo + i ≤ maxOrdinal) (p : Int) (ps : List Int)
    (hnz : ∀ q ∈ p :: ps, q ≠ 0) :
    buildPoslist yo days ts (p :: ps) = .ok (applySetpos (some (p :: ps)) (flatOf yo ts days)) := by
  have hcok : ∀ x ∈ flatOf yo ts days, InstOk x := by
    intro x hx
    unfold flatOf at hx
    simp only [List.mem_flatMap, List.mem_map] at hx
    obtain ⟨i, _, t, ht, rfl⟩ := hx
    exact hts.2 t ht
  -- the accumulation loop never fails and collects exactly the picks
  have hloop : ∀ (sp : List Int) (acc : List Inst), (∀ q ∈ sp, q ≠ 0) → acc.Nodup →
      ∃ res, poslistLoop yo days ts sp acc = .ok res ∧ res.Nodup ∧
        ∀ x, x ∈ res ↔ x ∈ acc ∨ ∃ q ∈ sp, specPick (flatOf yo ts days) q = some x := by
    intro sp
    induction sp with
    | nil => intro acc _ hnd; exact ⟨acc, rfl, hnd, by simp⟩
    | cons q qs ih =>
      intro acc hz hnd
      unfold poslistLoop
      rw [selectPos_eq yo days ts hT hord q (hz q (List.mem_cons_self ..))]
      cases hpick : specPick (flatOf yo ts days) q with
      | none =>
        dsimp only
        obtain ⟨res, h1, h2, h3⟩ := ih acc (fun w hw => hz w (List.mem_cons_of_mem _ hw)) hnd
        refine ⟨res, h1, h2, ?_⟩
        intro x; rw [h3]
        constructor
        · rintro (h | ⟨w, hw, hx⟩)
          · exact Or.inl h
          · exact Or.inr ⟨w, List.mem_cons_of_mem _ hw, hx⟩
        · rintro (h | ⟨w, hw, hx⟩)
          · exact Or.inl h
          · rcases List.mem_cons.mp hw with rfl | hw
            · rw [hpick] at hx; cases hx
            · exact Or.inr ⟨w, hw, hx⟩
      | some y =>
        dsimp only
        have hnd' : (if acc.contains y then acc else acc ++ [y]).Nodup := by
          split
          · exact hnd
          · rename_i hc
            rw [List.nodup_append]
            refine ⟨hnd, by simp, ?_⟩
            intro a ha b hb
            simp at hb; subst hb
            intro heq; subst heq
            exact hc (List.contains_iff_mem.mpr ha)
        obtain ⟨res, h1, h2, h3⟩ := ih _ (fun w hw => hz w (List.mem_cons_of_mem _ hw)) hnd'
        refine ⟨res, h1, h2, ?_⟩
        intro x; rw [h3]
        have hacc : x ∈ (if acc.contains y then acc else acc ++ [y]) ↔ x ∈ acc ∨ x = y := by
          split
          · rename_i hc
            constructor
            · exact fun h => Or.inl h
            · rintro (h | h)
              · exact h
              · subst h; exact List.contains_iff_mem.mp hc
          · simp
        rw [hacc]
        constructor
        · rintro ((h | h) | ⟨w, hw, hx⟩)
          · exact Or.inl h
          · subst h; exact Or.inr ⟨q, List.mem_cons_self .., hpick⟩
          · exact Or.inr ⟨w, List.mem_cons_of_mem _ hw, hx⟩
        · rintro (h | ⟨w, hw, hx⟩)
          · exact Or.inl (Or.inl h)
          · rcases List.mem_cons.mp hw with rfl | hw
            · rw [hpick] at hx; injection hx with hx; exact Or.inl (Or.inr hx.symm)
            · exact Or.inr ⟨w, hw, hx⟩
  obtain ⟨res, h1, h2, h3⟩ := hloop (p :: ps) [] hnz List.nodup_nil
  unfold buildPoslist
  rw [h1]
  dsimp only
  congr 1
  unfold applySetpos
  dsimp only
  have hresok : ∀ x ∈ res, InstOk x := by
    intro x hx
    rcases (h3 x).mp hx with h | ⟨w, _, hx⟩
    · simp at h
    · exact hcok x (specPick_mem _ _ _ hx)
  have hfm : ∀ z ∈ (p :: ps).filterMap (specPick (flatOf yo ts days)), InstOk z := by
    intro z hz
    simp only [List.mem_filterMap] at hz
    obtain ⟨w, _, hx⟩ := hz
    exact hcok z (specPick_mem _ _ _ hx)
  obtain ⟨f1, f2⟩ := foldInsert_spec _ hfm
  apply sorted_ext strictInst
  · exact sortBy_pairwise strictInst res hresok h2
  · exact f1.imp (by intro a b hab; simpa [ltInst, secsLt] using hab)
  · intro x
    rw [mem_sortBy, h3, f2, List.mem_filterMap]
    simp

theorem applySetpos_subset (sp : Option (List Int)) (c : List Inst) : ∀ x ∈ applySetpos sp c, x ∈ c := by
  intro x hx
  unfold applySetpos at hx
  split at hx
  · rename_i p ps
    have : ∀ (l : List Inst), (∀ z ∈ l, z ∈ c) → ∀ y ∈ l.foldr Spec.RRule.insertInst [], y ∈ c := by
      intro l
      induction l with
      | nil => intro _ y hy; simp at hy
      | cons z zs ih =>
        intro hz y hy
        simp only [List.foldr_cons] at hy
        rcases insertInst_subset z y _ hy with h | h
        · subst h; exact hz _ (List.mem_cons_self ..)
        · exact ih (fun w hw => hz w (List.mem_cons_of_mem _ hw)) y h
    apply this _ _ x hx
    intro z hz
    simp only [List.mem_filterMap] at hz
    obtain ⟨w, _, hw⟩ := hz
    exact specPick_mem _ _ _ hw
  · exact hx

variable {r : Rule} {y : Int} {info : Info} {i0 i1 : Int}

theorem filterDays_P (P : Int → Bool) : ∀ (ds : List Int),
    (∀ i ∈ ds, dayFiltered r info i = .ok (!P i)) →
    ∃ fl, filterDays r info ds = .ok (ds.filter P, fl) := by
  intro ds
  induction ds with
  | nil => intro _; exact ⟨false, rfl⟩
  | cons i is ih =>
    intro hb
    obtain ⟨fl, hfl⟩ := ih (fun j hj => hb j (List.mem_cons_of_mem _ hj))
    unfold filterDays
    rw [hb i (List.mem_cons_self ..), hfl]
    dsimp only
    by_cases c : P i = true
    · simp only [c, Bool.not_true, Bool.false_eq_true, ↓reduceIte, List.filter_cons_of_pos]
      exact ⟨fl, rfl⟩
    · have c' : P i = false := by simpa using c
      simp only [c', Bool.not_false, ↓reduceIte]
      rw [List.filter_cons_of_neg (by simp [c'])]
      exact ⟨true, rfl⟩

/-- the results of a period over the index range `[i0, i1)` when the filter is `¬P (yo + i)` there -/
theorem periodResults_range_P (st : State) (P : Int → Bool)
    (hfil : ∀ i, i0 ≤ i → i < i1 → dayFiltered r st.info i = .ok (!P (st.info.yearordinal + i)))
    (hnz : ∀ q ∈ r.bysetpos.getD [], q ≠ 0) (hts : TsOk st.timeset)
    (hds : dayset r st.info st.cur = .ok (intRange i0 i1))
    (hlo : 1 ≤ st.info.yearordinal + i0) (hhi : st.info.yearordinal + i1 ≤ maxOrdinal + 1) :
    ∃ fl, periodResults r st = .ok
      (applySetpos r.bysetpos
        (((intRange (st.info.yearordinal + i0) (st.info.yearordinal + i1)).filter P).flatMap
          (fun o => st.timeset.map (mkInst o))), none, fl) := by
  obtain ⟨fl, hfl⟩ := filterDays_P (r := r) (info := st.info) (fun i => P (st.info.yearordinal + i)) (intRange i0 i1)
    (by intro i hi; have := (mem_intRange _ _ _).mp hi; exact hfil i this.1 this.2)
  refine ⟨fl, ?_⟩
  have hord : ∀ i ∈ (intRange i0 i1).filter (fun i => P (st.info.yearordinal + i)),
      1 ≤ st.info.yearordinal + i ∧ st.info.yearordinal + i ≤ maxOrdinal := by
    intro i hi
    have := (mem_intRange _ _ _).mp (List.mem_filter.mp hi).1
    omega
  have hflat : flatOf st.info.yearordinal st.timeset
      ((intRange i0 i1).filter (fun i => P (st.info.yearordinal + i))) =
      ((intRange (st.info.yearordinal + i0) (st.info.yearordinal + i1)).filter P).flatMap
        (fun o => st.timeset.map (mkInst o)) := by
    unfold flatOf
    rw [← intRange_shift, List.filter_map, List.flatMap_map]
    rfl
  unfold periodResults
  rw [hds]; dsimp only
  rw [hfl]; dsimp only
  by_cases hc : (truthy r.bysetpos && !st.timeset.isEmpty) = true
  · rw [if_pos hc]
    simp only [Bool.and_eq_true, Bool.not_eq_true', List.isEmpty_eq_false_iff] at hc
    obtain ⟨hsp, hne⟩ := hc
    cases hb : r.bysetpos with
    | none => rw [hb] at hsp; simp [truthy] at hsp
    | some l =>
      cases l with
      | nil => rw [hb] at hsp; simp [truthy] at hsp
      | cons p ps =>
        rw [hb] at hnz
        simp only [Option.getD_some]
        rw [buildPoslist_eq _ _ _ hts (List.length_pos_iff.mpr hne) hord p ps hnz, hflat]
  · rw [if_neg hc]
    rw [expandDays_ok _ _ _ hord]
    have hflat' : ((intRange i0 i1).filter (fun i => P (st.info.yearordinal + i))).flatMap
        (fun i => st.timeset.map (mkInst (st.info.yearordinal + i))) =
        ((intRange (st.info.yearordinal + i0) (st.info.yearordinal + i1)).filter P).flatMap
          (fun o => st.timeset.map (mkInst o)) := hflat
    rw [hflat']
    dsimp only
    congr 2
    unfold applySetpos
    split
    · rename_i p ps hb
      have hte : st.timeset = [] := by
        rw [hb] at hc
        simpa [truthy] using hc
      rw [hte]
      have hnil : ∀ (l : List Int), l.flatMap (fun o => ([].map (mkInst o) : List Inst)) = [] := by
        intro l; induction l with
        | nil => rfl
        | cons a as ih => rw [List.flatMap_cons, ih]; rfl
      rw [hnil]
      have hpick : ∀ q, specPick [] q = none := by
        intro q; unfold specPick
        split
        · rfl
        · split <;> rfl
      have : (p :: ps).filterMap (specPick []) = [] := by
        apply List.filterMap_eq_nil_iff.mpr
        intro q _; exact hpick q
      rw [this]; rfl
    · rfl

/-- the specification's `sel` of period `k` in the same shape -/
theorem sel_span_sp (a : Args) (k : Nat) (lo hi : Int)
    (hsp : Spec.RRule.periodSpan a (k * a.interval) = (lo, hi, none, none, none)) :
    Spec.RRule.sel a (k : Int) =
      applySetpos a.bysetpos (((intRange lo hi).filter (Spec.RRule.dateOk a)).flatMap
        (fun o => (Spec.RRule.timesOf a none none none).map (mkInst o))) := by
  unfold Spec.RRule.sel
  rw [selOf_eq]
  unfold Spec.RRule.cand Spec.RRule.candAt
  rw [hsp]
  rfl

/-- the time set of a calendar-frequency rule is a strictly increasing list of valid wall times -/
theorem construct_timeset_ok (a : Args) (r : Rule) (h : construct a = .ok r) (hf : a.freq < 4) :
    TsOk (r.timeset.getD []) := by
  obtain ⟨sp, bh, bm, bs, ts, h1, h2, h3, h4, h5, rfl⟩ := construct_ok a r h
  have n2 := normUnit_nodup _ _ _ _ _ _ _ h2
  have n3 := normUnit_nodup _ _ _ _ _ _ _ h3
  have n4 := normUnit_nodup _ _ _ _ _ _ _ h4
  dsimp only
  unfold timesetOf at h5
  rw [if_neg (by omega)] at h5
  split at h5
  · rename_i t ht
    injection h5 with h5; subst h5
    exact (buildTimeset_ok _ _ _ t n2 n3 n4 ht).1
  · cases h5

end RRule
