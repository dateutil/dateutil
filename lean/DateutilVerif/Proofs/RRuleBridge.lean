/-
  Proofs/RRuleBridge.lean — from the constructor's normalised state back to the argument set.  The specification's
  `dateOk` is a conjunction of four parts (BYMONTH / BYMONTHDAY / BYYEARDAY; BYWEEKNO; BYDAY; BYEASTER).  For every rule
  whose date-level fields are the constructor's normalisation of the arguments (`DateFields`: any constructed rule,
  at any frequency, defaults from the start included), the model's calendar predicate `simpleOk` is the first part
  together with the BYDAY part when every BYDAY member is read as a plain weekday (`simpleOk_plain`), and the first
  part alone when every member is an nth weekday (`simpleOk_nth`); the remaining parts are what the computed masks
  have to supply.
-/
import DateutilVerif.Proofs.RRuleFilter
import DateutilVerif.Proofs.RRuleConstruct
import DateutilVerif.Proofs.RRuleRefine
import DateutilVerif.Proofs.RRuleTimes

namespace RRule
open Cal

/-- WEEKLY / DAILY argument sets without BYWEEKNO / BYEASTER -/
structure DWArgs (a : Args) : Prop where
  freq23 : a.freq = 2 ∨ a.freq = 3
  interval : 1 ≤ a.interval
  valid : a.dtstart.Valid
  byweekno : a.byweekno = none
  byeaster : a.byeaster = none
  monthday_nz : ∀ x ∈ a.bymonthday.getD [], x ≠ 0

structure DailyArgs (a : Args) : Prop extends DWArgs a where
  freq : a.freq = 3

variable {a : Args} {r : Rule}

/-- rule and argument set agree on what the cuts look at, whatever the arguments -/
theorem construct_cuts (h : construct a = .ok r) : CutsAgree a r := by
  obtain ⟨_, _, _, _, hc, hu, hd, _⟩ := construct_fields a r h
  exact ⟨hd, hu, hc⟩

/-- the BYMONTH, BYMONTHDAY and BYYEARDAY conjuncts of `dateOk` -/
def calPart (a : Args) (ord : Int) : Bool :=
  ((Spec.RRule.months a).isEmpty || (Spec.RRule.months a).contains (fromOrdinal ord).2.1) &&
  ((Spec.RRule.monthdays a).isEmpty || (Spec.RRule.monthdays a).contains (fromOrdinal ord).2.2 ||
    (Spec.RRule.monthdays a).contains
      ((fromOrdinal ord).2.2 - daysInMonth (fromOrdinal ord).1 (fromOrdinal ord).2.1 - 1)) &&
  (match a.byyearday with
   | some (x :: xs) => (x :: xs).contains (ord - toOrdinal (fromOrdinal ord).1 1 1 + 1) ||
       (x :: xs).contains (ord - toOrdinal (fromOrdinal ord).1 1 1 + 1 - daysInYear (fromOrdinal ord).1 - 1)
   | _ => true)

def weeknoPart (a : Args) (ord : Int) : Bool :=
  match a.byweekno with
  | some (x :: xs) => (x :: xs).contains (Spec.RRule.weekOf (Spec.RRule.wkst a) ord).1 ||
      (x :: xs).contains ((Spec.RRule.weekOf (Spec.RRule.wkst a) ord).1 - (Spec.RRule.weekOf (Spec.RRule.wkst a) ord).2 - 1)
  | _ => true

def weekdayPart (a : Args) (ord : Int) : Bool :=
  (Spec.RRule.weekdays a).isEmpty ||
    (Spec.RRule.weekdays a).any (fun wn => wn.1 == weekdayOfOrd ord &&
      (wn.2 == 0 || a.freq > 1 || Spec.RRule.nthOk a ord (fromOrdinal ord).1 (fromOrdinal ord).2.1 wn.2))

def easterPart (a : Args) (ord : Int) : Bool :=
  match a.byeaster with
  | some (x :: xs) => (x :: xs).contains (ord - Spec.RRule.easterOrd (fromOrdinal ord).1)
  | _ => true

theorem dateOk_parts (a : Args) (ord : Int) :
    Spec.RRule.dateOk a ord = (calPart a ord && weeknoPart a ord && weekdayPart a ord && easterPart a ord) := rfl
/-- the date-level fields of `r` are the constructor's normalisation of those of `a` -/
structure DateFields (a : Args) (r : Rule) : Prop where
  bymonth : r.bymonth = bymonthOf a
  bymonthday : r.bymonthday = bymonthdayOf a
  bynmonthday : r.bynmonthday = bynmonthdayOf a
  byyearday : r.byyearday = a.byyearday.map sortedSet
  byweekday : r.byweekday = byweekdayOf a
  bynweekday : r.bynweekday = bynweekdayOf a
  byweekno : r.byweekno = a.byweekno.map sortedSet
  byeaster : r.byeaster = a.byeaster.map (sortBy ltInt)
  wkst : r.wkst = a.wkst.getD 0
  freq : r.freq = a.freq

theorem construct_dateFields (h : construct a = .ok r) : DateFields a r := by
  obtain ⟨sp, bh, bm, bs, ts, _, _, _, _, _, rfl⟩ := construct_ok a r h
  exact ⟨rfl, rfl, rfl, rfl, rfl, rfl, rfl, rfl, rfl, rfl⟩

theorem month_clause (l : Option (List Int)) (m : Int) :
    (!truthy (l.map sortedSet) || memO m (l.map sortedSet)) =
    ((l.getD []).isEmpty || (l.getD []).contains m) := by
  cases l with
  | none => rfl
  | some l =>
    simp only [Option.map_some, Option.getD_some, truthy_eq_not_isEmpty, memO, Bool.not_not,
      isEmpty_sortedSet, contains_sortedSet]

theorem yearday_clause (l : Option (List Int)) (u v : Int) :
    (!truthy (l.map sortedSet) || memO u (l.map sortedSet) || memO v (l.map sortedSet)) =
    (match l with
     | some (x :: xs) => (x :: xs).contains u || (x :: xs).contains v
     | _ => true) := by
  cases l with
  | none => rfl
  | some l =>
    cases l with
    | nil => rfl
    | cons x xs =>
      have ht : truthy (some (sortedSet (x :: xs))) = true := by
        rw [truthy_eq_not_isEmpty, isEmpty_sortedSet]; rfl
      simp only [Option.map_some, ht, memO, contains_sortedSet, Bool.not_true, Bool.false_or]

/-- BYMONTHDAY clause for an arbitrary (defaulted or supplied) list without zeros -/
theorem monthday_clause_core (a : Args) (hnz : ∀ x ∈ (monthdayArg a).getD [], x ≠ 0)
    (d e : Int) (hd : 0 < d) (he : e < 0) :
    (!(!(bymonthdayOf a).isEmpty || !(bynmonthdayOf a).isEmpty) ||
      (bymonthdayOf a).contains d || (bynmonthdayOf a).contains e) =
    (((monthdayArg a).getD []).isEmpty || ((monthdayArg a).getD []).contains d ||
      ((monthdayArg a).getD []).contains e) := by
  unfold bymonthdayOf bynmonthdayOf
  cases hl : monthdayArg a with
  | none => rfl
  | some l =>
    rw [hl] at hnz
    simp only [Option.getD_some] at hnz ⊢
    have hpos : ∀ x, x ∈ sortBy ltInt ((dedup [] l).filter (· > 0)) ↔ x ∈ l ∧ 0 < x := by
      intro x; rw [mem_sortBy, List.mem_filter, mem_dedup]; simp
    have hneg : ∀ x, x ∈ sortBy ltInt ((dedup [] l).filter (· < 0)) ↔ x ∈ l ∧ x < 0 := by
      intro x; rw [mem_sortBy, List.mem_filter, mem_dedup]; simp
    have hc1 : (sortBy ltInt ((dedup [] l).filter (· > 0))).contains d = l.contains d := by
      rw [Bool.eq_iff_iff]; simp only [List.contains_iff_mem, hpos]; constructor
      · exact fun h => h.1
      · exact fun h => ⟨h, hd⟩
    have hc2 : (sortBy ltInt ((dedup [] l).filter (· < 0))).contains e = l.contains e := by
      rw [Bool.eq_iff_iff]; simp only [List.contains_iff_mem, hneg]; constructor
      · exact fun h => h.1
      · exact fun h => ⟨h, he⟩
    rw [hc1, hc2]
    cases l with
    | nil => rfl
    | cons x xs =>
      have hx : x ≠ 0 := hnz x (by simp)
      have : (sortBy ltInt ((dedup [] (x :: xs)).filter (· > 0))).isEmpty = false ∨
             (sortBy ltInt ((dedup [] (x :: xs)).filter (· < 0))).isEmpty = false := by
        by_cases hp : 0 < x
        · left
          have := (hpos x).mpr ⟨by simp, hp⟩
          cases hq : sortBy ltInt ((dedup [] (x :: xs)).filter (· > 0)) with
          | nil => rw [hq] at this; simp at this
          | cons _ _ => rfl
        · right
          have := (hneg x).mpr ⟨by simp, by omega⟩
          cases hq : sortBy ltInt ((dedup [] (x :: xs)).filter (· < 0)) with
          | nil => rw [hq] at this; simp at this
          | cons _ _ => rfl
      rcases this with h | h <;> simp [h]

theorem months_eq (a : Args) : Spec.RRule.months a =
    ((if noDayParts a && a.freq == 0 && a.bymonth.isNone then some [a.dtstart.m] else a.bymonth).getD []) := by
  have hnd : Spec.RRule.noDayParts a = noDayParts a := rfl
  unfold Spec.RRule.months; rw [hnd]
  cases hb : a.bymonth with
  | some l => simp
  | none => by_cases c : (noDayParts a && a.freq == 0) = true <;> simp [c]

theorem monthdays_eq (a : Args) : Spec.RRule.monthdays a = (monthdayArg a).getD [] := by
  have hnd : Spec.RRule.noDayParts a = noDayParts a := rfl
  unfold Spec.RRule.monthdays monthdayArg; rw [hnd]; split <;> rfl

theorem weekdays_eq (a : Args) : Spec.RRule.weekdays a = (weekdayArg a).getD [] := by
  have hnd : Spec.RRule.noDayParts a = noDayParts a := rfl
  unfold Spec.RRule.weekdays weekdayArg; rw [hnd]; split <;> rfl

/-- only WEEKLY has a default weekday -/
theorem weekdayArg_of_ne2 (h : a.freq ≠ 2) : weekdayArg a = a.byweekday := by
  unfold weekdayArg; simp [h]

/-- no zero in the month days the constructor works with (the default is the start's day) -/
theorem monthdayArg_nz (hnz : ∀ x ∈ a.bymonthday.getD [], x ≠ 0) (hv : a.dtstart.Valid) :
    ∀ x ∈ (monthdayArg a).getD [], x ≠ 0 := by
  unfold monthdayArg
  split
  · intro x hx
    unfold DT.Valid ValidDate ValidYMD at hv
    simp at hx; subst hx; omega
  · exact hnz

/-- the three table-backed clauses without weekday: rule against arguments -/
theorem calPart_eq (D : DateFields a r) (hnz : ∀ x ∈ (monthdayArg a).getD [], x ≠ 0) (ord : Int) (ho : 1 ≤ ord) :
    ((!truthy r.bymonth || memO (fromOrdinal ord).2.1 r.bymonth) &&
     (!(!r.bymonthday.isEmpty || !r.bynmonthday.isEmpty) ||
        r.bymonthday.contains (fromOrdinal ord).2.2 ||
        r.bynmonthday.contains ((fromOrdinal ord).2.2 -
          daysInMonth (fromOrdinal ord).1 (fromOrdinal ord).2.1 - 1)) &&
     (!truthy r.byyearday ||
        memO (ord - toOrdinal (fromOrdinal ord).1 1 1 + 1) r.byyearday ||
        memO (ord - toOrdinal (fromOrdinal ord).1 1 1 + 1 - daysInYear (fromOrdinal ord).1 - 1) r.byyearday)) =
    calPart a ord := by
  obtain ⟨_, hv, _⟩ := toOrdinal_fromOrdinal ord ho
  obtain ⟨_, _, hd1, hd2⟩ := hv
  unfold calPart
  rw [D.bymonth, D.bymonthday, D.bynmonthday, D.byyearday, months_eq, monthdays_eq]
  unfold bymonthOf
  rw [month_clause, monthday_clause_core a hnz _ _ (by omega) (by omega)]
  rcases a.byyearday with _ | (_ | ⟨x, xs⟩)
  · rfl
  · rfl
  · rw [yearday_clause (some (x :: xs))]

/-- the BYDAY clause when every member is read as a plain weekday (no nth part, or FREQ above MONTHLY) -/
theorem weekdayPart_plain (D : DateFields a r) (hpl : ∀ w ∈ (weekdayArg a).getD [], w.2 = 0 ∨ a.freq > 1) (ord : Int) :
    (!truthy r.byweekday || memO (weekdayOfOrd ord) r.byweekday) = weekdayPart a ord := by
  unfold weekdayPart
  rw [D.byweekday, weekdays_eq]
  unfold byweekdayOf
  cases hl : weekdayArg a with
  | none => rfl
  | some l =>
    rw [hl] at hpl
    simp only [Option.getD_some] at hpl ⊢
    have hkeep : ∀ w ∈ l, (w.2 == 0 || decide (a.freq > 1)) = true := by
      intro w hw; rcases hpl w hw with h | h <;> simp [h]
    have hplain : ∀ x, x ∈ plainWeekdays a l ↔ x ∈ l.map (·.1) := by
      intro x; unfold plainWeekdays; rw [mem_dedup, List.filter_eq_self.mpr hkeep]
    have hany : ∀ (l' : List (Int × Int)), (∀ w ∈ l', (w.2 == 0 || decide (a.freq > 1)) = true) →
        l'.any (fun wn => wn.1 == weekdayOfOrd ord && (wn.2 == 0 || decide (a.freq > 1) ||
          Spec.RRule.nthOk a ord (fromOrdinal ord).1 (fromOrdinal ord).2.1 wn.2)) =
        (l'.map (·.1)).contains (weekdayOfOrd ord) := by
      intro l'
      induction l' with
      | nil => intro _; rfl
      | cons w ws ih =>
        intro hz
        rw [List.any_cons, List.map_cons, List.contains_cons, ih (fun w hw => hz w (List.mem_cons_of_mem _ hw)),
          hz w (List.mem_cons_self ..), Bool.true_or, Bool.and_true]
        congr 1
        rw [Bool.eq_iff_iff]; simp only [beq_iff_eq]; exact eq_comm
    rw [hany l hkeep]
    by_cases he : (plainWeekdays a l).isEmpty = true
    · rw [if_pos he]
      have : l.isEmpty = true := by
        cases l with
        | nil => rfl
        | cons w ws =>
          have := (hplain w.1).mpr (by simp)
          cases hp : plainWeekdays a (w :: ws) with
          | nil => rw [hp] at this; simp at this
          | cons _ _ => rw [hp] at he; simp at he
      simp [truthy, this]
    · rw [if_neg he]
      have hne : l.isEmpty = false := by
        cases l with
        | nil => exact absurd (by rfl) he
        | cons w ws => rfl
      have ht : truthy (some (sortBy ltInt (plainWeekdays a l))) = true := by
        rw [truthy_eq_not_isEmpty, isEmpty_of_mem_iff _ (plainWeekdays a l) (fun x => mem_sortBy ltInt x _)]
        simpa using he
      simp only [ht, hne, memO, Bool.not_true, Bool.false_or]
      rw [Bool.eq_iff_iff]
      simp only [List.contains_iff_mem, mem_sortBy, hplain]

/-- **bridge, plain BYDAY**: on every date, the model's calendar predicate of the rule is the BYMONTH / BYMONTHDAY /
    BYYEARDAY / BYDAY part of the specification's `dateOk` -/
theorem simpleOk_plain (D : DateFields a r) (hnz : ∀ x ∈ (monthdayArg a).getD [], x ≠ 0)
    (hpl : ∀ w ∈ (weekdayArg a).getD [], w.2 = 0 ∨ a.freq > 1) (ord : Int) (ho : 1 ≤ ord) :
    simpleOk r ord = (calPart a ord && weekdayPart a ord) := by
  rw [← calPart_eq D hnz ord ho, ← weekdayPart_plain D hpl ord]
  unfold simpleOk
  generalize (!truthy r.bymonth || _) = c1
  generalize (!truthy r.byweekday || _) = c2
  generalize (!(!r.bymonthday.isEmpty || !r.bynmonthday.isEmpty) || _ || _) = c3
  generalize (!truthy r.byyearday || _ || _) = c4
  cases c1 <;> cases c2 <;> cases c3 <;> cases c4 <;> rfl

/-- … hence, with the BYWEEKNO and BYEASTER conjuncts, `dateOk` -/
theorem dateOk_plain (D : DateFields a r) (hnz : ∀ x ∈ (monthdayArg a).getD [], x ≠ 0)
    (hpl : ∀ w ∈ (weekdayArg a).getD [], w.2 = 0 ∨ a.freq > 1) (ord : Int) (ho : 1 ≤ ord) :
    Spec.RRule.dateOk a ord = (simpleOk r ord && weeknoPart a ord && easterPart a ord) := by
  rw [dateOk_parts, simpleOk_plain D hnz hpl ord ho]
  generalize calPart a ord = c1
  generalize weekdayPart a ord = c2
  generalize weeknoPart a ord = c3
  cases c1 <;> cases c2 <;> cases c3 <;> rfl

/-- … and when the constructor keeps no plain weekday (`byweekdayOf a = none`: BYDAY absent or, at YEARLY / MONTHLY, nth
    members only — `nwl_facts`): the BYDAY part is left to the nth mask -/
theorem simpleOk_nth (D : DateFields a r) (hnz : ∀ x ∈ (monthdayArg a).getD [], x ≠ 0) (hwd : byweekdayOf a = none)
    (ord : Int) (ho : 1 ≤ ord) : simpleOk r ord = calPart a ord := by
  rw [← calPart_eq D hnz ord ho]
  unfold simpleOk
  rw [D.byweekday, hwd]
  generalize (!truthy r.bymonth || _) = c1
  generalize (!(!r.bymonthday.isEmpty || !r.bynmonthday.isEmpty) || _ || _) = c3
  generalize (!truthy r.byyearday || _ || _) = c4
  cases c1 <;> cases c3 <;> cases c4 <;> rfl

theorem dateOk_nth (D : DateFields a r) (hnz : ∀ x ∈ (monthdayArg a).getD [], x ≠ 0) (hwd : byweekdayOf a = none)
    (ord : Int) (ho : 1 ≤ ord) :
    Spec.RRule.dateOk a ord = (simpleOk r ord && weekdayPart a ord && weeknoPart a ord && easterPart a ord) := by
  rw [dateOk_parts, simpleOk_nth D hnz hwd ord ho]
  generalize calPart a ord = c1
  generalize weekdayPart a ord = c2
  generalize weeknoPart a ord = c3
  cases c1 <;> cases c2 <;> cases c3 <;> rfl

theorem weeknoPart_none (h : a.byweekno = none) (ord : Int) : weeknoPart a ord = true := by
  unfold weeknoPart; rw [h]

theorem easterPart_none (h : a.byeaster = none) (ord : Int) : easterPart a ord = true := by
  unfold easterPart; rw [h]

/-- plain BYDAY members leave no nth weekday to the mask -/
theorem bynweekday_plain (hpl : ∀ w ∈ (weekdayArg a).getD [], w.2 = 0 ∨ a.freq > 1) :
    truthy (bynweekdayOf a) = false := by
  unfold bynweekdayOf
  cases hl : weekdayArg a with
  | none => rfl
  | some l =>
    rw [hl] at hpl
    dsimp only
    have hnth : nthWeekdays a l = [] := by
      unfold nthWeekdays
      have : l.filter (fun w => !(w.2 == 0 || decide (a.freq > 1))) = [] := by
        apply List.filter_eq_nil_iff.mpr
        intro w hw
        rcases hpl w hw with h | h <;> simp [h]
      rw [this]; rfl
    rw [hnth]
    split <;> rfl

theorem simpleRule_of (D : DateFields a r) (hw : a.byweekno = none) (he : a.byeaster = none)
    (hpl : ∀ w ∈ (weekdayArg a).getD [], w.2 = 0 ∨ a.freq > 1) : SimpleRule r :=
  ⟨by rw [D.byweekno, hw]; rfl, by rw [D.bynweekday]; exact bynweekday_plain hpl, by rw [D.byeaster, he]; rfl⟩

/-- without BYWEEKNO and BYEASTER the calendar predicate is the whole of `dateOk` -/
theorem simpleOk_eq_dateOk (D : DateFields a r) (hnz : ∀ x ∈ (monthdayArg a).getD [], x ≠ 0)
    (hw : a.byweekno = none) (he : a.byeaster = none)
    (hpl : ∀ w ∈ (weekdayArg a).getD [], w.2 = 0 ∨ a.freq > 1) (ord : Int) (ho : 1 ≤ ord) :
    simpleOk r ord = Spec.RRule.dateOk a ord := by
  rw [dateOk_plain D hnz hpl ord ho, weeknoPart_none hw, easterPart_none he, Bool.and_true, Bool.and_true]

variable {y : Int} {info : Info}

/-- **the filter of a rule with plain BYDAY**: when the two optional masks miss an index exactly where the BYWEEKNO /
    BYEASTER part of `dateOk` fails, the BY-filter is `dateOk` -/
theorem plain_filtered (D : DateFields a r) (hnz : ∀ x ∈ (monthdayArg a).getD [], x ≠ 0)
    (hpl : ∀ w ∈ (weekdayArg a).getD [], w.2 = 0 ∨ a.freq > 1) (f : YearFacts r y info) (i : Int) (h0 : 0 ≤ i)
    (h1 : i < info.yearlen + 7) (hnw : info.nwdaymask = none)
    (hw : maskMiss (truthy r.byweekno) info.wnomask i = .ok (!weeknoPart a (info.yearordinal + i)))
    (he : maskMiss (truthy r.byeaster) info.eastermask i = .ok (!easterPart a (info.yearordinal + i))) :
    dayFiltered r info i = .ok (!Spec.RRule.dateOk a (info.yearordinal + i)) := by
  have hpos := f.ord_pos
  rw [dayFiltered_eq f i h0 h1 hw (nthMiss_none hnw i) he,
    dateOk_plain D hnz hpl _ (by rw [f.yearordinal]; omega)]
  simp only [Bool.not_false, Bool.and_true, Bool.not_not]

/-- **the filter of a rule whose BYDAY is nth weekdays only**: the nth-weekday mask marks `P`, which among the dates
    passing the calendar predicate is the BYDAY part of `dateOk` -/
theorem nth_filtered (D : DateFields a r) (hnz : ∀ x ∈ (monthdayArg a).getD [], x ≠ 0) (hwd : byweekdayOf a = none)
    (f : YearFacts r y info) (i : Int) (h0 : 0 ≤ i) (h1 : i < info.yearlen) {P : Int → Prop} [DecidablePred P]
    (hm : Marked info.nwdaymask info.yearlen P)
    (hP : simpleOk r (info.yearordinal + i) = true → (P i ↔ weekdayPart a (info.yearordinal + i) = true))
    (hw : maskMiss (truthy r.byweekno) info.wnomask i = .ok (!weeknoPart a (info.yearordinal + i)))
    (he : maskMiss (truthy r.byeaster) info.eastermask i = .ok (!easterPart a (info.yearordinal + i))) :
    dayFiltered r info i = .ok (!Spec.RRule.dateOk a (info.yearordinal + i)) := by
  have hpos := f.ord_pos
  rw [dayFiltered_eq f i h0 (by omega) hw (nthMiss_marked hm h0 h1) he,
    dateOk_nth D hnz hwd _ (by rw [f.yearordinal]; omega)]
  simp only [Bool.not_not]
  cases hs : simpleOk r (info.yearordinal + i) with
  | false => simp only [Bool.false_and]
  | true =>
    have : decide (P i) = weekdayPart a (info.yearordinal + i) := by
      rw [Bool.eq_iff_iff, decide_eq_true_eq]; exact hP hs
    rw [this]
    generalize weekdayPart a (info.yearordinal + i) = c2
    generalize weeknoPart a (info.yearordinal + i) = c3
    cases c2 <;> cases c3 <;> rfl

theorem DateFields.weekno_off (D : DateFields a r) (h : a.byweekno = none) : truthy r.byweekno = false := by
  rw [D.byweekno, h]; rfl

theorem DateFields.easter_off (D : DateFields a r) (h : a.byeaster = none) : truthy r.byeaster = false := by
  rw [D.byeaster, h]; rfl

/-- an absent BYWEEKNO / BYEASTER consults no mask and constrains nothing -/
theorem weekno_miss_off (D : DateFields a r) (h : a.byweekno = none) (o : Option (List Int)) (i ord : Int) :
    maskMiss (truthy r.byweekno) o i = .ok (!weeknoPart a ord) := by
  rw [weeknoPart_none h, maskMiss_off (D.weekno_off h)]; rfl

theorem easter_miss_off (D : DateFields a r) (h : a.byeaster = none) (o : Option (List Int)) (i ord : Int) :
    maskMiss (truthy r.byeaster) o i = .ok (!easterPart a ord) := by
  rw [easterPart_none h, maskMiss_off (D.easter_off h)]; rfl

theorem DWArgs.gt1 (da : DWArgs a) : a.freq > 1 := by rcases da.freq23 with h | h <;> omega

theorem DWArgs.monthdayArg_nz (da : DWArgs a) : ∀ x ∈ (monthdayArg a).getD [], x ≠ 0 :=
  RRule.monthdayArg_nz da.monthday_nz da.valid

end RRule
