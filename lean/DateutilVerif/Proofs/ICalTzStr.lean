/-
  Proofs/ICalTzStr.lean — a VTIMEZONE whose two components carry yearly `BYMONTH;BYDAY=nWD` rules
  answers, at every wall time of a cycle and either fold, like the tzstr zone of the same rules.
-/
import DateutilVerif.Proofs.OnsetsCycle
import DateutilVerif.Properties.C08

namespace Onsets
open ICal

/-- the POSIX spec with the same two rules -/
def specOf (rs re : YRule) (stdOff dstOff : Int) : Posix.Spec :=
  { stdOff := stdOff, dstOff := dstOff, startRule := .M rs.m rs.w rs.d, startTime := rs.tod,
    endRule := .M re.m re.w re.d, endTime := re.tod }

/-- the VTIMEZONE's components: STANDARD (end rule) first, DAYLIGHT (start rule) second, with the
    first `N` years of onsets -/
def compsOf (rs re : YRule) (stdOff dstOff y0 : Int) (N : Nat) : List ZComp :=
  [{ tzoffsetfrom := dstOff, tzoffsetto := stdOff, isdst := false, onsets := re.onsets y0 N },
   { tzoffsetfrom := stdOff, tzoffsetto := dstOff, isdst := true, onsets := rs.onsets y0 N }]

/-- the iCalendar side: inside the cycle of year `y0 + j` the zone follows the interval semantics -/
theorem ical_cycle (rs re : YRule) (stdOff dstOff y0 : Int) (N j : Nat) (w : Int) (fold : Bool)
    (hvs : rs.Valid) (hve : re.Valid) (hy0 : 1 ≤ y0) (hj : j + 1 < N) (hsav : stdOff < dstOff)
    (hts : 0 ≤ rs.tod) (hte : re.tod < 86400)
    (hord : rs.onset y0 j + (dstOff - stdOff) < re.onset y0 j)
    (hord' : rs.onset y0 (j + 1) + (dstOff - stdOff) ≤ re.onset y0 (j + 1))
    (hw1 : rs.onset y0 j ≤ w) (hw2 : w < rs.onset y0 (j + 1)) :
    utcoffset (compsOf rs re stdOff dstOff y0 N) w fold =
      (if cycleIsDst (re.onset y0 j - (dstOff - stdOff)) (dstOff - stdOff) w fold then dstOff else stdOff) ∧
    dst (compsOf rs re stdOff dstOff y0 N) w fold =
      (if cycleIsDst (re.onset y0 j - (dstOff - stdOff)) (dstOff - stdOff) w fold then dstOff - stdOff else 0) := by
  obtain ⟨c1, c2, H1, H2, H3⟩ := cycle_hyps rs re y0 N j (dstOff - stdOff) hvs hve hy0 hj (by omega) hts hte hord hord'
  have := two_comp_cycle (re.onsets y0 N) (rs.onsets y0 N) stdOff dstOff (rs.onset y0 j)
    (re.onset y0 j - (dstOff - stdOff)) (rs.onset y0 (j + 1)) w fold hsav c1 c2 hw1 hw2 H1 H2 H3
  exact ⟨this.2.1, this.2.2⟩

/-- `tzrangebase`'s closed form (shifted by `k`) inside the cycle, in the year of `on` -/
theorem closed_same_year (on off sav w k dstO stdO : Int) (fold : Bool) (h1 : on < off) (hw : on ≤ w) :
    (if TZ.RangeZone.naiveIsdst (w - k) (on - k, off - k) then dstO
     else if (decide (off - k ≤ w - k) && decide (w - k < off - k + sav)) then (if fold then stdO else dstO)
     else stdO) = (if cycleIsDst off sav w fold then dstO else stdO) := by
  unfold TZ.RangeZone.naiveIsdst cycleIsDst
  have h1' : on - k < off - k := by omega
  have d1 : on - k ≤ w - k := by omega
  simp only [h1', if_true, d1, decide_true, Bool.true_and]
  by_cases a : w < off
  · have a' : w - k < off - k := by omega
    simp [a, a']
  · have a' : ¬ w - k < off - k := by omega
    have a2 : off - k ≤ w - k := by omega
    by_cases c : w < off + sav
    · have c' : w - k < off - k + sav := by omega
      cases fold <;> simp [a, a', a2, c, c']
    · have c' : ¬ w - k < off - k + sav := by omega
      simp [a, a', a2, c, c']

/-- … and in the following year before that year's start: standard time -/
theorem closed_next_year (nOn nOff off sav w k dstO stdO : Int) (fold : Bool) (hn : nOn < nOff)
    (hw1 : off + sav ≤ w) (hw2 : w < nOn) (hsav : 0 < sav) :
    (if TZ.RangeZone.naiveIsdst (w - k) (nOn - k, nOff - k) then dstO
     else if (decide (nOff - k ≤ w - k) && decide (w - k < nOff - k + sav)) then (if fold then stdO else dstO)
     else stdO) = (if cycleIsDst off sav w fold then dstO else stdO) := by
  unfold TZ.RangeZone.naiveIsdst cycleIsDst
  have h1' : nOn - k < nOff - k := by omega
  have d1 : ¬ nOn - k ≤ w - k := by omega
  have d2 : ¬ nOff - k ≤ w - k := by omega
  have a : ¬ w < off := by omega
  have c : ¬ w < off + sav := by omega
  simp [h1', d1, d2, a, c]

/-- the tzstr side: the same interval semantics, from the pair of the wall-clock year -/
theorem tzstr_cycle (rs re : YRule) (stdOff dstOff y0 : Int) (N j : Nat) (w : Int) (fold : Bool)
    (z : TzStr.Zone) (hz : C08.IsZoneOf (specOf rs re stdOff dstOff) z)
    (hvs : rs.Valid) (hve : re.Valid) (hy0 : 2 ≤ y0) (hyN : y0 + j + 1 ≤ 9998) (hsav : stdOff < dstOff)
    (hts : 0 ≤ rs.tod) (hts2 : rs.tod < 86400)
    (hte0 : 0 ≤ re.tod - (dstOff - stdOff)) (hte : re.tod - (dstOff - stdOff) < 86400) (hte2 : re.tod < 86400)
    (hord : rs.onset y0 j + (dstOff - stdOff) < re.onset y0 j)
    (hord' : rs.onset y0 (j + 1) + (dstOff - stdOff) < re.onset y0 (j + 1))
    (hw1 : rs.onset y0 j ≤ w) (hw2 : w < rs.onset y0 (j + 1)) :
    (TZ.ofTzStr z).utcoffset ⟨w - TZ.epochShift, fold⟩ =
      .ok (if cycleIsDst (re.onset y0 j - (dstOff - stdOff)) (dstOff - stdOff) w fold then dstOff else stdOff) := by
  have hvr1 : C08.ValidRule (specOf rs re stdOff dstOff).startRule := by
    obtain ⟨a, b, c⟩ := hvs; exact ⟨a.1, a.2, b.1, b.2, c.1, c.2⟩
  have hvr2 : C08.ValidRule (specOf rs re stdOff dstOff).endRule := by
    obtain ⟨a, b, c⟩ := hve; exact ⟨a.1, a.2, b.1, b.2, c.1, c.2⟩
  have hir : C08.InRangeTimes (specOf rs re stdOff dstOff) := ⟨⟨hts, hts2⟩, ⟨hte0, hte⟩⟩
  have hstd : (TZ.ofTzStr z).stdOff = stdOff := hz.2.1
  have hdst : (TZ.ofTzStr z).dstOff = dstOff := hz.2.2.1
  have hsv : (TZ.ofTzStr z).saving = dstOff - stdOff := by unfold TZ.RangeZone.saving; rw [hstd, hdst]
  have pair : ∀ k : Nat, 2 ≤ y0 + k → y0 + k ≤ 9998 →
      (TZ.ofTzStr z).transitions (y0 + k) =
        some (rs.onset y0 k - TZ.epochShift, re.onset y0 k - (dstOff - stdOff) - TZ.epochShift) := by
    intro k h1 h2
    rw [C08.range_transitions _ z hz (y0 + k) h1 h2 hvr1 hvr2 hir]
    have e1 : Posix.startUtc (specOf rs re stdOff dstOff) (y0 + k) + (specOf rs re stdOff dstOff).stdOff
        = rs.onset y0 k := by
      simp only [Posix.startUtc, specOf, YRule.onset, Onsets.onset, YRule.tod]; omega
    have e2 : Posix.endUtc (specOf rs re stdOff dstOff) (y0 + k) + (specOf rs re stdOff dstOff).stdOff
        = re.onset y0 k - (dstOff - stdOff) := by
      simp only [Posix.endUtc, specOf, YRule.onset, Onsets.onset, YRule.tod]; omega
    rw [e1, e2]
  obtain ⟨a1, _, _⟩ := rule_in_year (y0 + j) rs.m rs.w rs.d (by omega) hvs.1 hvs.2.1 hvs.2.2
  obtain ⟨_, b2, _⟩ := rule_in_year (y0 + j) re.m re.w re.d (by omega) hve.1 hve.2.1 hve.2.2
  obtain ⟨_, c2, _⟩ := rule_in_year (y0 + (j + 1 : Nat)) rs.m rs.w rs.d (by omega) hvs.1 hvs.2.1 hvs.2.2
  have ecast : y0 + ((j + 1 : Nat) : Int) = y0 + j + 1 := by omega
  rw [ecast] at c2
  have hon : rs.onset y0 j = Posix.ruleOrdinal (y0 + j) (.M rs.m rs.w rs.d) * 86400 + rs.tod := rfl
  have hoff : re.onset y0 j = Posix.ruleOrdinal (y0 + j) (.M re.m re.w re.d) * 86400 + re.tod := rfl
  have hnext : rs.onset y0 (j + 1) = Posix.ruleOrdinal (y0 + j + 1) (.M rs.m rs.w rs.d) * 86400 + rs.tod := by
    show Posix.ruleOrdinal (y0 + ((j + 1 : Nat) : Int)) _ * 86400 + _ = _; rw [ecast]; rfl
  have hys := TZ.ys_ge (y0 + j) (by omega)
  have hm1 := Cal.year_start_mono (y0 + j + 1) (y0 + j + 1 + 1) (by omega)
  have hge : 86400 ≤ w - TZ.epochShift + TZ.epochShift := by unfold TZ.ys at hys; omega
  have hsvp : 0 < dstOff - stdOff := by omega
  by_cases hyr : w < TZ.ys (y0 + j + 1)
  · have hy : TZ.yearOf (w - TZ.epochShift) = y0 + j := by
      rw [TZ.yearOf_iff _ _ hge]; unfold TZ.ys at *; exact ⟨by omega, by omega⟩
    have htr : (TZ.ofTzStr z).transitions (TZ.yearOf ((⟨w - TZ.epochShift, fold⟩ : TZ.Wall).wall)) =
        some (rs.onset y0 j - TZ.epochShift, re.onset y0 j - (dstOff - stdOff) - TZ.epochShift) := by
      show (TZ.ofTzStr z).transitions (TZ.yearOf (w - TZ.epochShift)) = _
      rw [hy]; exact pair j (by omega) (by omega)
    rw [TZ.RangeZone.utcoffset_eq (TZ.ofTzStr z) ⟨w - TZ.epochShift, fold⟩ _ _ hz.1 htr, hstd, hdst, hsv]
    refine congrArg Except.ok ?_
    exact closed_same_year _ _ _ w TZ.epochShift dstOff stdOff fold (by omega) hw1
  · have hy : TZ.yearOf (w - TZ.epochShift) = y0 + j + 1 := by
      rw [TZ.yearOf_iff _ _ hge]; unfold TZ.ys at *; exact ⟨by omega, by omega⟩
    have hp := pair (j + 1) (by omega) (by omega)
    rw [ecast] at hp
    have htr : (TZ.ofTzStr z).transitions (TZ.yearOf ((⟨w - TZ.epochShift, fold⟩ : TZ.Wall).wall)) =
        some (rs.onset y0 (j + 1) - TZ.epochShift, re.onset y0 (j + 1) - (dstOff - stdOff) - TZ.epochShift) := by
      show (TZ.ofTzStr z).transitions (TZ.yearOf (w - TZ.epochShift)) = _
      rw [hy]; exact hp
    rw [TZ.RangeZone.utcoffset_eq (TZ.ofTzStr z) ⟨w - TZ.epochShift, fold⟩ _ _ hz.1 htr, hstd, hdst, hsv]
    refine congrArg Except.ok ?_
    apply closed_next_year _ _ _ _ w TZ.epochShift dstOff stdOff fold (by omega) _ hw2 hsvp
    unfold TZ.ys at hyr; omega

end Onsets
