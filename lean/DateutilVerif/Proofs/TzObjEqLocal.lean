/- Proofs/TzObjEqLocal.lean — `tzlocal._naive_is_dst/is_ambiguous/_isdst/utcoffset/dst/tzname` TRANSLATED from tz/tz.py
   (Generated/TzObjKernels.lean) equal the tzlocal model of Model/Zones.lean (`localNaiveIsdst`, `localIsAmbiguous`,
   `localIsdst`, `localZone`); `time.localtime(u).tm_isdst` and `time.timezone` are the named primitives
   `ObjPy.localtimeIsdst` / `ObjPy.timeTimezone`. -/
import DateutilVerif.Generated.TzObjKernels
import DateutilVerif.Proofs.TzGenEqGeneric
set_option linter.unusedSimpArgs false
namespace TzGen
open TZ Py DtPy ObjPy

theorem local_naive_eq (z : RangeZone) (w f : Int) (fold att : Bool) (h0 : 0 ≤ f) (h1 : f < M) :
    Gen.tzlocal_naiveIsDst z (D w f fold att) = .ok (b2i (localNaiveIsdst z w)) := by
  unfold Gen.tzlocal_naiveIsDst
  rw [ts_eq]
  have : ((D w f fold att).us + tsOfInt (timeTimezone z)) / M + z.stdOff = w := by
    unfold D tsOfInt timeTimezone M at *; simp only; omega
  simp only [Except.bind, localtimeIsdst, this]

theorem subSaved (z : RangeZone) (w f : Int) (fold att : Bool) :
    DtPy.addTd (D w f fold att) (-(tdSeconds z.saving)) = D (w - z.saving) f false att := by
  simp only [DtPy.addTd, tdSeconds, D]; congr 1; rw [Int.sub_mul]; omega

theorem b2i_ne (a b : Bool) : (b2i a ≠ b2i b) ↔ a ≠ b := by cases a <;> cases b <;> simp [b2i]
theorem b2i_ne0 (a : Bool) : (b2i a ≠ 0) ↔ a = true := by cases a <;> simp [b2i]

theorem local_isAmbiguous_eq (z : RangeZone) (w f : Int) (fold att : Bool) (h0 : 0 ≤ f) (h1 : f < M) :
    Gen.tzlocal_isAmbiguous z (D w f fold att) = .ok (localIsAmbiguous z w) := by
  unfold Gen.tzlocal_isAmbiguous localIsAmbiguous
  rw [local_naive_eq z w f fold att h0 h1]
  simp only [Except.bind, subSaved, local_naive_eq z (w - z.saving) f false att h0 h1, b2i_ne, b2i_ne0]
  cases localNaiveIsdst z w <;> cases localNaiveIsdst z (w - z.saving) <;> simp

theorem local_isdst_eq (z : RangeZone) (w f : Int) (fold att fn : Bool) (h0 : 0 ≤ f) (h1 : f < M) :
    Gen.tzlocal_isdst z (D w f fold att) fn = .ok (b2i (localIsdst z ⟨w, fold⟩)) := by
  unfold Gen.tzlocal_isdst localIsdst
  rw [local_naive_eq z w f fold att h0 h1, local_isAmbiguous_eq z w f fold att h0 h1]
  cases z.hasdst <;> cases localIsAmbiguous z w <;> cases fold <;> simp [Except.bind, foldOf, D, b2i]

theorem local_utcoffset_eq (z : RangeZone) (w f : Int) (fold att : Bool) (h0 : 0 ≤ f) (h1 : f < M) :
    Gen.tzlocal_utcoffset z (D w f fold att) = .ok (tdSeconds ((localZone z).utcoffset ⟨w, fold⟩)) := by
  unfold Gen.tzlocal_utcoffset localZone
  rw [local_isdst_eq z w f fold att true h0 h1]
  cases h : localIsdst z ⟨w, fold⟩ <;> simp [Except.bind, b2i, h]

theorem local_dst_eq (z : RangeZone) (w f : Int) (fold att : Bool) (h0 : 0 ≤ f) (h1 : f < M) :
    Gen.tzlocal_dst z (D w f fold att) = .ok (tdSeconds ((localZone z).dst ⟨w, fold⟩)) := by
  unfold Gen.tzlocal_dst localZone
  rw [local_isdst_eq z w f fold att true h0 h1]
  cases h : localIsdst z ⟨w, fold⟩ <;> simp [Except.bind, b2i, tdSeconds, RangeZone.saving, Int.sub_mul, h]

theorem local_tzname_eq (z : RangeZone) (w f : Int) (fold att : Bool) (h0 : 0 ≤ f) (h1 : f < M) :
    Gen.tzlocal_tzname z (D w f fold att) = .ok (if localIsdst z ⟨w, fold⟩ then z.dstAbbr else z.stdAbbr) := by
  unfold Gen.tzlocal_tzname
  rw [local_isdst_eq z w f fold att true h0 h1]
  cases h : localIsdst z ⟨w, fold⟩ <;> simp [Except.bind, b2i, DtPy.lgetR, h]

/-- the decorator's inner function: ValueError unless `dt.tzinfo is self`, then the wrapped method (the
    `isinstance(dt, datetime)` test is statically true for a datetime) -/
theorem validate_eq (g : Dt → R Dt) (d : Dt) :
    Gen.validateFromutcInputs g d = if d.attached then g d else .error .ValueError := by
  unfold Gen.validateFromutcInputs
  cases d.attached <;> simp

theorem validate_attached (g : Dt → R Dt) (s f : Int) (fold : Bool) :
    Gen.validateFromutcInputs g (D s f fold true) = g (D s f fold true) := by
  rw [validate_eq]; rfl

theorem validate_detached (g : Dt → R Dt) (s f : Int) (fold : Bool) :
    Gen.validateFromutcInputs g (D s f fold false) = .error .ValueError := by
  rw [validate_eq]; rfl
end TzGen
