/-
  Proofs/RRuleLists.lean — membership / order facts for the small list helpers of the model
  (`insertBy`, `sortBy`, `dedup`, `sortedSet`, `intRange`).
-/
import DateutilVerif.Model.RRule

namespace RRule

theorem mem_insertBy {α} (lt : α → α → Bool) (x y : α) (l : List α) :
    y ∈ insertBy lt x l ↔ y = x ∨ y ∈ l := by
  induction l with
  | nil => simp [insertBy]
  | cons z zs ih =>
    unfold insertBy
    split
    · simp only [List.mem_cons, ih]; constructor <;> (intro h; rcases h with h | h | h <;> simp [h])
    · simp only [List.mem_cons]

theorem mem_sortBy {α} (lt : α → α → Bool) (y : α) (l : List α) : y ∈ sortBy lt l ↔ y ∈ l := by
  unfold sortBy
  induction l with
  | nil => simp
  | cons z zs ih => simp only [List.foldr_cons, mem_insertBy, ih, List.mem_cons]

theorem mem_dedup_aux {α} [BEq α] [LawfulBEq α] (y : α) : ∀ (l acc : List α),
    y ∈ dedup acc l ↔ y ∈ acc ∨ y ∈ l := by
  intro l
  induction l with
  | nil => intro acc; simp [dedup]
  | cons z zs ih =>
    intro acc
    unfold dedup
    split
    · rename_i hc
      rw [ih]
      have hz : z ∈ acc := List.contains_iff_mem.mp hc
      constructor
      · intro h; rcases h with h | h
        · exact Or.inl h
        · exact Or.inr (List.mem_cons_of_mem _ h)
      · intro h; rcases h with h | h
        · exact Or.inl h
        · rcases List.mem_cons.mp h with h | h
          · subst h; exact Or.inl hz
          · exact Or.inr h
    · rw [ih]
      simp only [List.mem_cons]
      constructor
      · intro h; rcases h with (h | h) | h
        · exact Or.inr (Or.inl h)
        · exact Or.inl h
        · exact Or.inr (Or.inr h)
      · intro h; rcases h with h | h | h
        · exact Or.inl (Or.inr h)
        · exact Or.inl (Or.inl h)
        · exact Or.inr h

theorem mem_dedup {α} [BEq α] [LawfulBEq α] (y : α) (l : List α) : y ∈ dedup [] l ↔ y ∈ l := by
  rw [mem_dedup_aux]; simp

theorem mem_sortedSet (y : Int) (l : List Int) : y ∈ sortedSet l ↔ y ∈ l := by
  unfold sortedSet; rw [mem_sortBy, mem_dedup]

theorem contains_sortedSet (y : Int) (l : List Int) : (sortedSet l).contains y = l.contains y := by
  rw [Bool.eq_iff_iff]; simp only [List.contains_iff_mem, mem_sortedSet]

theorem isEmpty_of_mem_iff {α} (l l' : List α) (h : ∀ x, x ∈ l ↔ x ∈ l') : l.isEmpty = l'.isEmpty := by
  cases l with
  | nil =>
    cases l' with
    | nil => rfl
    | cons b bs => exact absurd ((h b).mpr (List.mem_cons_self ..)) (by simp)
  | cons a as =>
    cases l' with
    | nil => exact absurd ((h a).mp (List.mem_cons_self ..)) (by simp)
    | cons b bs => rfl

theorem isEmpty_sortedSet (l : List Int) : (sortedSet l).isEmpty = l.isEmpty :=
  isEmpty_of_mem_iff _ _ (fun x => mem_sortedSet x l)

theorem truthy_eq_not_isEmpty {α} (l : List α) : truthy (some l) = !l.isEmpty := by
  cases l <;> rfl

theorem mem_intRange (a b x : Int) : x ∈ intRange a b ↔ a ≤ x ∧ x < b := by
  unfold intRange
  simp only [List.mem_map, List.mem_range]
  constructor
  · rintro ⟨k, hk, rfl⟩; omega
  · intro h; exact ⟨(x - a).toNat, by omega, by omega⟩

theorem length_intRange (a b : Int) : (intRange a b).length = (b - a).toNat := by simp [intRange]

theorem divmod_spec (a b : Int) (hb : 0 < b) :
    (Py.divmod a b).1 * b + (Py.divmod a b).2 = a ∧ 0 ≤ (Py.divmod a b).2 ∧ (Py.divmod a b).2 < b := by
  unfold Py.divmod
  dsimp only
  rw [Py.fdiv_pos a hb, Py.fmod_pos a hb]
  have h1 := Int.ediv_mul_add_emod a b
  have h2 := Int.emod_nonneg a (by omega : b ≠ 0)
  have h3 := Int.emod_lt_of_pos a hb
  exact ⟨h1, h2, h3⟩

end RRule
