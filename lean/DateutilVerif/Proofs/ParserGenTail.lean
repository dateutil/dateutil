/-
  Proofs/ParserGenTail.lean — `parser.parse` from the `_parse` call to the return, re-translated from /repo's
  parser/_parser.py (Generated/ParserOps.lean: `Gen.P.parseTail`: the two ParserError raises, `_build_naive` and
  `_build_tzaware` each wrapped `except ValueError → ParserError`, the `ignoretz` branch `ret.replace(tzinfo=None)`, the
  `fuzzy_with_tokens` return) = `PM.parseA` (the model of `parse` for any default, Model/Parser.lean).
  `_build_tzaware` itself is a named stand-in (`PPy.buildTzawareStandIn` = the hand model's cascade).
-/
import DateutilVerif.Proofs.ParserGenParse
import DateutilVerif.Proofs.ParserGenNaive

namespace PGen
open PM Py

theorem parseTail_eq (cls : Char → CClass) (info : Info) (fuel : Nat) (tznames : List Token) (timestr : List Char) (dflt : DT)
    (ignoretz : Bool) (tzi : TzInfos) (df yf : Option Bool) (fz fwt : Bool)
    (hc : 100 ≤ info.century) (hf : (PM.lex cls timestr).length ≤ fuel) :
    Gen.P.parseTail fuel cls tznames info timestr dflt ignoretz tzi df yf fz fwt =
      PM.parseA cls info { dayfirst := df, yearfirst := yf, fuzzy := fz, fuzzyWithTokens := fwt, ignoretz := ignoretz }
        tznames tzi dflt timestr := by
  unfold Gen.P.parseTail PM.parseA PM.parseResultA PM.finalTz
  rw [parse_eq cls info fuel timestr df yf fz fwt hc hf]
  have hopt : PM.parseTokens cls info { dayfirst := df, yearfirst := yf, fuzzy := fz, fuzzyWithTokens := fwt, ignoretz := ignoretz }
      (PM.lex cls timestr) =
      PM.parseTokens cls info { dayfirst := df, yearfirst := yf, fuzzy := fz, fuzzyWithTokens := fwt } (PM.lex cls timestr) := rfl
  rw [hopt]
  cases PM.parseTokens cls info { dayfirst := df, yearfirst := yf, fuzzy := fz, fuzzyWithTokens := fwt } (PM.lex cls timestr) with
  | error e => rfl
  | ok r =>
    cases r with
    | none => simp [bind_ok, bind_eq, throw_eq]; rfl
    | some p =>
      obtain ⟨res, sk⟩ := p
      simp only [bind_ok, bind_eq, Option.map_some, Option.bind_some, PPy.optRes, buildNaive_eq]
      by_cases h0 : res.len = 0
      · simp [h0, bind_ok, bind_err, throw_eq]
      · cases hn : PM.buildNaive res dflt with
        | error e => cases e <;> simp [h0, bind_ok, bind_err, throw_eq, pure_eq]
        | ok naive =>
          cases ignoretz
          · cases hz : PM.buildTzaware tznames tzi res with
            | error e => cases e <;> cases fwt <;> simp [h0, hz, bind_ok, bind_err, pure_eq, PPy.buildTzawareStandIn]
            | ok z => cases z <;> cases fwt <;> simp [h0, hz, bind_ok, pure_eq, PPy.buildTzawareStandIn]
          · cases fwt <;> simp [h0, bind_ok, pure_eq]

end PGen
