/-
  Proofs/RRuleConstruct.lean — what `construct` (the model of `rrule.__init__`) copies, which defaults it takes
  from the start, when it demotes nth weekdays, and the inputs it rejects with ValueError.
-/
import DateutilVerif.Model.RRule

namespace RRule

/-- decomposition of a successful construction -/
theorem construct_ok (a : Args) (r : Rule) (h : construct a = .ok r) :
    ∃ sp bh bm bs ts,
      normBysetpos a = .ok sp ∧
      normUnit a.freq 4 a.interval a.dtstart.hh a.byhour 24 = .ok bh ∧
      normUnit a.freq 5 a.interval a.dtstart.mm a.byminute 60 = .ok bm ∧
      normUnit a.freq 6 a.interval a.dtstart.ss a.bysecond 60 = .ok bs ∧
      timesetOf a bh bm bs = .ok ts ∧
      r = { freq := a.freq, interval := a.interval, wkst := a.wkst.getD 0,
            dtstart := { a.dtstart with us := 0 }, tz := a.tz, count := a.count, untilDT := a.untilDT,
            bysetpos := sp, bymonth := bymonthOf a, bymonthday := bymonthdayOf a,
            bynmonthday := bynmonthdayOf a, byyearday := a.byyearday.map sortedSet,
            byeaster := a.byeaster.map (sortBy ltInt), byweekno := a.byweekno.map sortedSet,
            byweekday := byweekdayOf a, bynweekday := bynweekdayOf a,
            byhour := bh, byminute := bm, bysecond := bs, timeset := ts } := by
  unfold construct at h
  split at h
  · cases h
  unfold constructBody at h
  cases h1 : normBysetpos a with
  | error e => rw [h1] at h; cases h
  | ok sp =>
    cases h2 : normUnit a.freq 4 a.interval a.dtstart.hh a.byhour 24 with
    | error e => rw [h1, h2] at h; cases h
    | ok bh =>
      cases h3 : normUnit a.freq 5 a.interval a.dtstart.mm a.byminute 60 with
      | error e => rw [h1, h2, h3] at h; cases h
      | ok bm =>
        cases h4 : normUnit a.freq 6 a.interval a.dtstart.ss a.bysecond 60 with
        | error e => rw [h1, h2, h3, h4] at h; cases h
        | ok bs =>
          cases h5 : timesetOf a bh bm bs with
          | error e =>
            rw [h1, h2, h3, h4] at h
            simp only [bind, Except.bind] at h
            rw [h5] at h; cases h
          | ok ts =>
            rw [h1, h2, h3, h4] at h
            simp only [bind, Except.bind] at h
            rw [h5] at h
            simp only [pure, Except.pure] at h
            injection h with h
            exact ⟨sp, bh, bm, bs, ts, rfl, rfl, rfl, rfl, h5, h.symm⟩

/-- what the constructor copies / derives without any failure path -/
theorem construct_fields (a : Args) (r : Rule) (h : construct a = .ok r) :
    r.freq = a.freq ∧ r.interval = a.interval ∧ r.wkst = a.wkst.getD 0 ∧ r.tz = a.tz ∧
    r.count = a.count ∧ r.untilDT = a.untilDT ∧ r.dtstart = { a.dtstart with us := 0 } ∧
    r.bymonth = bymonthOf a ∧ r.bymonthday = bymonthdayOf a ∧ r.bynmonthday = bynmonthdayOf a ∧
    r.byweekday = byweekdayOf a ∧ r.bynweekday = bynweekdayOf a := by
  obtain ⟨sp, bh, bm, bs, ts, _, _, _, _, _, rfl⟩ := construct_ok a r h
  exact ⟨rfl, rfl, rfl, rfl, rfl, rfl, rfl, rfl, rfl, rfl, rfl, rfl⟩

/-- whole seconds: the start is stripped of its microseconds -/
theorem construct_dtstart_us (a : Args) (r : Rule) (h : construct a = .ok r) : r.dtstart.us = 0 := by
  rw [(construct_fields a r h).2.2.2.2.2.2.1]

/-- **defaults, YEARLY**: with no day-level part and no BYMONTH, the month and the month day are the start's -/
theorem construct_default_yearly (a : Args) (r : Rule) (h : construct a = .ok r)
    (hn : noDayParts a = true) (hf : a.freq = 0) (hm : a.bymonth = none) (hd : 0 < a.dtstart.d) :
    r.bymonth = some [a.dtstart.m] ∧ r.bymonthday = [a.dtstart.d] ∧ r.bynmonthday = [] ∧
    r.byweekday = none ∧ r.bynweekday = none := by
  obtain ⟨_, _, _, _, _, _, _, hbm, hbd, hbn, hw, hnw⟩ := construct_fields a r h
  have hwd : a.byweekday = none := by
    unfold noDayParts at hn; simp at hn; exact hn.1.2
  refine ⟨?_, ?_, ?_, ?_, ?_⟩
  · rw [hbm]; simp [bymonthOf, hn, hf, hm, sortedSet, dedup, sortBy, insertBy]
  · rw [hbd]; simp [bymonthdayOf, monthdayArg, hn, hf, dedup, sortBy, insertBy, hd]
  · rw [hbn]
    have hneg : decide (a.dtstart.d < 0) = false := by simp; omega
    simp [bynmonthdayOf, monthdayArg, hn, hf, dedup, sortBy, List.filter, hneg]
  · rw [hw]; simp [byweekdayOf, weekdayArg, hn, hf, hwd]
  · rw [hnw]; simp [bynweekdayOf, weekdayArg, hn, hf, hwd]

theorem construct_default_monthly (a : Args) (r : Rule) (h : construct a = .ok r)
    (hn : noDayParts a = true) (hf : a.freq = 1) (hd : 0 < a.dtstart.d) :
    r.bymonth = a.bymonth.map sortedSet ∧ r.bymonthday = [a.dtstart.d] ∧ r.bynmonthday = [] := by
  obtain ⟨_, _, _, _, _, _, _, hbm, hbd, hbn, _, _⟩ := construct_fields a r h
  refine ⟨?_, ?_, ?_⟩
  · rw [hbm]; simp [bymonthOf, hn, hf]
  · rw [hbd]; simp [bymonthdayOf, monthdayArg, hn, hf, dedup, sortBy, insertBy, hd]
  · rw [hbn]
    have hneg : decide (a.dtstart.d < 0) = false := by simp; omega
    simp [bynmonthdayOf, monthdayArg, hn, hf, dedup, sortBy, List.filter, hneg]

/-- **defaults, WEEKLY**: the weekday of the start -/
theorem construct_default_weekly (a : Args) (r : Rule) (h : construct a = .ok r)
    (hn : noDayParts a = true) (hf : a.freq = 2) :
    r.byweekday = some [a.dtstart.weekday] ∧ r.bynweekday = none ∧ r.bymonthday = [] ∧ r.bynmonthday = [] := by
  obtain ⟨_, _, _, _, _, _, _, _, hbd, hbn, hw, hnw⟩ := construct_fields a r h
  have hmd : a.bymonthday = none := by
    unfold noDayParts at hn; simp at hn; exact hn.1.1.2
  refine ⟨?_, ?_, ?_, ?_⟩
  · rw [hw]; simp [byweekdayOf, weekdayArg, hn, hf, plainWeekdays, dedup, sortBy, insertBy]
  · rw [hnw]; simp [bynweekdayOf, weekdayArg, hn, hf, plainWeekdays, nthWeekdays, dedup]
  · rw [hbd]; simp [bymonthdayOf, monthdayArg, hn, hf, hmd]
  · rw [hbn]; simp [bynmonthdayOf, monthdayArg, hn, hf, hmd]

/-- **nth weekdays are demoted to plain ones above MONTHLY** -/
theorem construct_nth_demoted (a : Args) (r : Rule) (h : construct a = .ok r) (hf : a.freq > 1) :
    r.bynweekday = none ∨ r.bynweekday = some [] := by
  obtain ⟨_, _, _, _, _, _, _, _, _, _, _, hnw⟩ := construct_fields a r h
  rw [hnw]
  unfold bynweekdayOf
  have hnil : ∀ l, nthWeekdays a l = [] := by
    intro l; unfold nthWeekdays
    have : l.filter (fun w => !(w.2 == 0 || decide (a.freq > 1))) = [] := by
      apply List.filter_eq_nil_iff.mpr; intro w _; simp [hf]
    rw [this]; rfl
  split
  · left; rfl
  · rename_i l _
    simp only [hnil l]
    split
    · right; rfl
    · left; simp

/-- **ValueError class 1**: a BYSETPOS member that is 0 or outside −366..366 -/
theorem construct_bysetpos_ValueError (a : Args) (l : List Int) (p : Int) (hl : a.bysetpos = some l)
    (hp : p ∈ l) (hbad : p = 0 ∨ p < -366 ∨ 366 < p) : construct a = .error .ValueError := by
  have : normBysetpos a = .error .ValueError := by
    unfold normBysetpos; rw [hl]; dsimp only
    have : validBysetpos l = false := by
      unfold validBysetpos
      rw [Bool.eq_false_iff]; intro hall
      have := List.all_eq_true.mp hall p hp
      simp at this
      omega
    rw [this]; rfl
  unfold construct; split
  · rfl
  · unfold constructBody; rw [this]; rfl

/-- `__construct_byset` raises exactly when no member is reachable -/
theorem constructByset_error (interval start base : Int) (l : List Int)
    (h : ∀ x ∈ l, ¬ ((Int.gcd interval base : Int) = 1 ∨ Py.fmod (x - start) (Int.gcd interval base : Int) = 0)) :
    constructByset interval start l base = .error .ValueError := by
  unfold constructByset
  have : l.filter (fun num => ((Int.gcd interval base : Nat) : Int) == 1 ||
      Py.fmod (num - start) ((Int.gcd interval base : Nat) : Int) == 0) = [] := by
    apply List.filter_eq_nil_iff.mpr
    intro x hx; have := h x hx; simp at this ⊢; omega
  simp only [this]; rfl

/-- **ValueError class 2**: HOURLY with a BYHOUR none of whose members is reachable from the start's
    hour in steps of INTERVAL (mod 24); likewise MINUTELY/BYMINUTE and SECONDLY/BYSECOND below -/
theorem construct_byhour_unreachable (a : Args) (l : List Int) (hf : a.freq = 4) (hl : a.byhour = some l)
    (hsp : ∃ sp, normBysetpos a = .ok sp)
    (h : ∀ x ∈ l, ¬ ((Int.gcd a.interval 24 : Int) = 1 ∨ Py.fmod (x - a.dtstart.hh) (Int.gcd a.interval 24 : Int) = 0)) :
    construct a = .error .ValueError := by
  obtain ⟨sp, hsp⟩ := hsp
  have : normUnit a.freq 4 a.interval a.dtstart.hh a.byhour 24 = .error .ValueError := by
    unfold normUnit; rw [hl, hf]; simp only [beq_self_eq_true, ↓reduceIte]
    rw [constructByset_error _ _ _ _ h]
  unfold construct; split
  · rfl
  · unfold constructBody; rw [hsp, this]; rfl

theorem normBysetpos_ok (a : Args) (sp : Option (List Int)) (h : normBysetpos a = .ok sp) :
    sp = a.bysetpos ∧ ∀ q ∈ a.bysetpos.getD [], q ≠ 0 := by
  unfold normBysetpos at h
  split at h
  · rename_i hn; injection h with h; subst h; rw [hn]; exact ⟨rfl, by simp⟩
  · rename_i l hl
    split at h
    · rename_i hv
      injection h with h; subst h
      rw [hl]
      refine ⟨rfl, ?_⟩
      intro q hq
      simp only [Option.getD_some] at hq
      unfold validBysetpos at hv
      have := List.all_eq_true.mp hv q hq
      intro h0; subst h0; simp at this
    · cases h

/-- **INTERVAL must be positive**: the constructor accepts only `interval ≥ 1` … -/
theorem construct_interval_pos (a : Args) (r : Rule) (h : construct a = .ok r) : 1 ≤ a.interval := by
  unfold construct at h
  split at h
  · cases h
  · omega

/-- … and raises ValueError otherwise, whatever the other arguments are -/
theorem construct_interval_ValueError (a : Args) (h : a.interval < 1) : construct a = .error .ValueError := by
  unfold construct; rw [if_pos h]

/-- the constructor keeps BYSETPOS as given, and accepts it only without a zero -/
theorem construct_bysetpos (a : Args) (r : Rule) (h : construct a = .ok r) :
    r.bysetpos = a.bysetpos ∧ ∀ q ∈ a.bysetpos.getD [], q ≠ 0 := by
  obtain ⟨sp, bh, bm, bs, ts, h1, _, _, _, _, rfl⟩ := construct_ok a r h
  exact normBysetpos_ok a sp h1

end RRule
