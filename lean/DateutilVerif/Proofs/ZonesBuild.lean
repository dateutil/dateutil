/-
  Proofs/ZonesBuild.lean — `build r` is a coherent zone whose transition objects agree with the
  raw types on everything but `dstoffset`; bridge from `Spec.typeAt` (last transition ≤ t, by
  filtering) to the bisect index.
-/
import DateutilVerif.Proofs.Zones

namespace TZ
open Spec

/-- equal up to `dstoffset` -/
def Rel (a b : TType) : Prop :=
  a.off = b.off ∧ a.isdst = b.isdst ∧ a.abbr = b.abbr ∧ a.isstd = b.isstd ∧ a.isgmt = b.isgmt

theorem Rel.refl (a : TType) : Rel a a := ⟨rfl, rfl, rfl, rfl, rfl⟩
theorem Rel.trans {a b c : TType} (h1 : Rel a b) (h2 : Rel b c) : Rel a c := by
  obtain ⟨a1, a2, a3, a4, a5⟩ := h1; obtain ⟨b1, b2, b3, b4, b5⟩ := h2
  exact ⟨a1.trans b1, a2.trans b2, a3.trans b3, a4.trans b4, a5.trans b5⟩

inductive RelL : List TType → List TType → Prop
  | nil : RelL [] []
  | cons {a b l l'} : Rel a b → RelL l l' → RelL (a :: l) (b :: l')

theorem RelL.refl : ∀ l, RelL l l
  | [] => .nil
  | a :: l => .cons (Rel.refl a) (RelL.refl l)

theorem RelL.trans {l1 l2 l3 : List TType} (h1 : RelL l1 l2) (h2 : RelL l2 l3) : RelL l1 l3 := by
  induction h1 generalizing l3 with
  | nil => cases h2; exact .nil
  | cons hab _ ih => cases h2 with
    | cons hbc t => exact .cons (hab.trans hbc) (ih t)

theorem relL_mapIdx_from (i : Nat) (d : Int) : ∀ (l : List TType) (k : Nat),
    RelL l (l.mapIdx (fun j t => if j + k = i then { t with dstoff := d } else t)) := by
  intro l
  induction l with
  | nil => intro k; exact .nil
  | cons a l ih =>
      intro k
      rw [List.mapIdx_cons]
      refine .cons ?_ ?_
      · by_cases h : 0 + k = i
        · rw [if_pos h]; exact ⟨rfl, rfl, rfl, rfl, rfl⟩
        · rw [if_neg h]; exact Rel.refl a
      · have := ih (k + 1)
        have e : (fun j t => if j + 1 + k = i then ({ t with dstoff := d } : TType) else t)
               = (fun j t => if j + (k + 1) = i then ({ t with dstoff := d } : TType) else t) := by
          funext j t; congr 1; apply propext; omega
        simpa [e, Function.comp_def] using this

theorem relL_mapIdx (i : Nat) (d : Int) (l : List TType) :
    RelL l (l.mapIdx (fun j t => if j = i then { t with dstoff := d } else t)) :=
  relL_mapIdx_from i d l 0

theorem relL_applyAssign : ∀ (asg : List (Nat × Option Int)) (types : List TType),
    RelL types (applyAssign types asg) := by
  intro asg
  induction asg with
  | nil => intro types; exact RelL.refl _
  | cons a rest ih =>
      intro types
      obtain ⟨i, od⟩ := a
      cases od with
      | none => exact ih types
      | some d =>
          unfold applyAssign
          exact (relL_mapIdx i d types).trans (ih _)

theorem RelL.length {l l' : List TType} (h : RelL l l') : l.length = l'.length := by
  induction h with
  | nil => rfl
  | cons _ _ ih => simp [ih]

theorem RelL.getD {l l' : List TType} (h : RelL l l') (i : Nat) :
    Rel (l.getD i default) (l'.getD i default) := by
  induction h generalizing i with
  | nil => simp; exact Rel.refl _
  | cons hab _ ih => cases i with
    | zero => simpa using hab
    | succ k => simpa using ih k

def RelO : Option TType → Option TType → Prop
  | some a, some b => Rel a b
  | none, none => True
  | _, _ => False

theorem RelL.find {l l' : List TType} (h : RelL l l') :
    RelO (l.find? (fun t => t.isdst == 0)) (l'.find? (fun t => t.isdst == 0)) := by
  induction h with
  | nil => simp [RelO]
  | @cons a b l l' hab _ ih =>
      simp only [List.find?_cons]
      rw [← hab.2.1]
      cases h0 : (a.isdst == 0) with
      | true => exact hab
      | false => exact ih

theorem RelL.head {l l' : List TType} (h : RelL l l') : RelO l.head? l'.head? := by
  cases h with
  | nil => simp [RelO]
  | cons hab _ => simpa [RelO] using hab

theorem relL_final (r : Raw) : RelL r.types (finalTypes r) := relL_applyAssign _ _

theorem dstLoop_length : ∀ (l : List (Int × Int)) (st : LoopSt), (dstLoop st l).length = l.length := by
  intro l
  induction l with
  | nil => intro st; rfl
  | cons a l ih => intro st; obtain ⟨o, d⟩ := a; simp [dstLoop, ih]

theorem scanStdDst_some : ∀ (l : List TType) (std dst : Option TType),
    (l ≠ [] ∨ std.isSome ∨ dst.isSome) → (scanStdDst l std dst).1.isSome := by
  intro l
  induction l with
  | nil =>
      intro std dst h
      rcases h with h | h | h
      · exact absurd rfl h
      · cases std <;> cases dst <;> simp_all [scanStdDst]
      · cases std <;> cases dst <;> simp_all [scanStdDst]
  | cons a l ih =>
      intro std dst _
      unfold scanStdDst
      cases hs : std with
      | some sv =>
          cases hd : dst with
          | some dv => simp
          | none =>
              by_cases h1 : a.isdst = 0
              · simp [h1]; exact ih _ _ (Or.inr (Or.inl rfl))
              · simp [h1]
      | none =>
          by_cases h1 : a.isdst = 0
          · cases hd : dst with
            | some dv => simp [h1]
            | none => simp [h1]; exact ih _ _ (Or.inr (Or.inl rfl))
          · cases hd : dst with
            | some dv => simp [h1]; exact ih _ _ (Or.inr (Or.inr rfl))
            | none => simp [h1]; exact ih _ _ (Or.inr (Or.inr rfl))

theorem zip_map_map {α β γ} (f : α → β) (g : α → γ) : ∀ l : List α,
    (l.map f).zip (l.map g) = l.map (fun x => (f x, g x))
  | [] => rfl
  | a :: l => by simp [zip_map_map f g l]

theorem relO_some_left {o : Option TType} {b : TType} (h : RelO o (some b)) :
    ∃ a, o = some a ∧ Rel a b := by
  cases o with
  | none => exact absurd h (by simp [RelO])
  | some a => exact ⟨a, rfl, h⟩

/-- **`build r` is coherent and inherits WF** (for a table with at least one transition) -/
theorem build_coherent (r : Raw) (hwf : Spec.wf r = true) (hne : r.trans ≠ []) :
    ∃ b s f, firstType r = some f ∧ Rel f b ∧ Coherent (build r) b s ∧ WFz (build r) b := by
  simp only [Spec.wf, Bool.and_eq_true, Bool.not_eq_true'] at hwf
  obtain ⟨⟨_, hty⟩, hgo⟩ := hwf
  have hrel := relL_final r
  have hlen := hrel.length
  have htne : (finalTypes r).isEmpty = false := by
    cases h : finalTypes r with
    | nil => rw [h] at hlen; cases h2 : r.types with
      | nil => simp [h2] at hty
      | cons a l => simp [h2] at hlen
    | cons a l => rfl
  have hune : (r.trans.map (fun p => p.1)).isEmpty = false := by
    cases h : r.trans with
    | nil => exact absurd h hne
    | cons a l => rfl
  have hbef : (build r).before =
      (match (finalTypes r).find? (fun t => t.isdst == 0) with
       | some t => some t
       | none => (finalTypes r).head?) := by
    simp only [build, assemble, htne, hune, Bool.or_self, Bool.false_eq_true, if_false]
    rfl
  -- `ttinfo_before` is chosen from the final types the way `Spec.firstType` chooses from the raw ones
  have hrelo : RelO (firstType r) (build r).before := by
    rw [hbef]; unfold firstType
    have h1 := hrel.find; have h2 := hrel.head
    cases ha : (r.types.find? fun t => t.isdst == 0) with
    | none =>
        cases hb' : ((finalTypes r).find? fun t => t.isdst == 0) with
        | none => exact h2
        | some y => rw [ha, hb'] at h1; exact absurd h1 (by simp [RelO])
    | some x =>
        cases hb' : ((finalTypes r).find? fun t => t.isdst == 0) with
        | none => rw [ha, hb'] at h1; exact absurd h1 (by simp [RelO])
        | some y => rw [ha, hb'] at h1; exact h1
  obtain ⟨b, hb⟩ : ∃ b, (build r).before = some b := by
    rw [hbef]
    cases (finalTypes r).find? (fun t => t.isdst == 0) with
    | some t => exact ⟨t, rfl⟩
    | none => cases h : finalTypes r with
      | nil => rw [h] at htne; simp at htne
      | cons a l => exact ⟨a, rfl⟩
  rw [hb] at hrelo
  obtain ⟨f, hf, hfb⟩ := relO_some_left hrelo
  have hstd : (build r).std.isSome := by
    simp only [build, assemble]
    cases h : finalTypes r with
    | nil => rw [h] at htne; simp at htne
    | cons a l =>
        simp only [hune, Bool.false_eq_true, if_false]
        apply scanStdDst_some
        left
        cases h2 : r.trans with
        | nil => exact absurd h2 hne
        | cons p q => simp
  obtain ⟨s, hs⟩ := Option.isSome_iff_exists.mp hstd
  have hwall : ((build r).wall0, (build r).wall1) =
      wallLists b.off (build r).utc ((build r).tts.map (fun (t : TType) => t.off)) := by
    have : (build r).before = some b := hb
    simp only [build, assemble] at this ⊢
    simp only [this]
  refine ⟨b, s, f, hf, hfb, ⟨hb, hs, ?_, ?_, ?_, ?_, ?_⟩, ?_⟩
  · simp [build, assemble]
  · simp [build, assemble, dstLoop_length]
  · simp only [build, assemble, List.length_map]
    cases h2 : r.trans with
    | nil => exact absurd h2 hne
    | cons p q => simp
  · exact congrArg Prod.fst hwall
  · exact congrArg Prod.snd hwall
  · unfold WFz
    -- the zone's (instant, offset after) pairs are the spec's timeline: `dstoffset` is all the dstoffset loop changes
    have e : (build r).utc.zip ((build r).tts.map (fun (t : TType) => t.off)) = timeline r := by
      simp only [build, assemble, timeline, List.map_map]
      rw [zip_map_map]
      apply List.map_congr_left
      intro p _
      simp only [Function.comp]
      rw [(hrel.getD p.2).1]
    rw [e, ← hfb.1]
    rw [hf] at hgo
    exact hgo

theorem boundary_cons_succ {a : Int} {l : List Int} {x : Int} {k : Nat}
    (h : Boundary (a :: l) x (k + 1)) : a ≤ x ∧ Boundary l x k := by
  obtain ⟨h0, h1, h2⟩ := h
  refine ⟨by simpa using h1 0 (by omega), by simpa using h0, ?_, ?_⟩
  · intro i hi; simpa using h1 (i + 1) (by omega)
  · intro i hi hn; simpa using h2 (i + 1) (by omega) (by simpa using hn)

theorem boundary_cons_zero {a : Int} {l : List Int} {x : Int}
    (h : Boundary (a :: l) x 0) : x < a ∧ Boundary l x 0 := by
  obtain ⟨_, _, h2⟩ := h
  refine ⟨by simpa using h2 0 (by omega) (by simp), by omega, ?_, ?_⟩
  · intro i hi; omega
  · intro i hi hn; simpa using h2 (i + 1) (by omega) (by simpa using hn)

theorem filter_le_eq_take : ∀ (l : List (Int × Nat)) (t : Int) (c : Nat),
    Boundary (l.map (fun p => p.1)) t c → l.filter (fun p => decide (p.1 ≤ t)) = l.take c := by
  intro l
  induction l with
  | nil => intro t c _; simp
  | cons a l ih =>
      intro t c hb
      cases c with
      | zero =>
          obtain ⟨h1, h2⟩ := boundary_cons_zero (by simpa using hb)
          have := ih t 0 h2
          simp only [List.take_zero] at this ⊢
          rw [List.filter_cons, this]
          simp; omega
      | succ k =>
          obtain ⟨h1, h2⟩ := boundary_cons_succ (by simpa using hb)
          rw [List.filter_cons, ih t k h2]
          simp [h1]

theorem getLast?_take {α} (l : List α) (c : Nat) (h0 : 0 < c) (hc : c ≤ l.length) :
    (l.take c).getLast? = l[c - 1]? := by
  rw [List.getLast?_eq_getElem?, List.length_take, List.getElem?_take]
  have : min c l.length = c := by omega
  rw [this, if_pos (by omega)]

theorem getD_map_lt {α β} (g : α → β) (l : List α) (i : Nat) (h : i < l.length) (d : β) (d' : α) :
    (l.map g).getD i d = g (l.getD i d') := by
  simp [List.getD, List.getElem?_eq_getElem h]

theorem trans_type_lt (r : Raw) (hwf : Spec.wf r = true) (i : Nat) (hi : i < r.trans.length) :
    (r.trans.getD i default).2 < r.types.length := by
  simp only [Spec.wf, Bool.and_eq_true] at hwf
  have hall := hwf.1.1
  simp only [Raw.ok, List.all_eq_true, decide_eq_true_eq] at hall
  apply hall
  rw [List.getD_eq_getElem?_getD, List.getElem?_eq_getElem hi]
  simp

/-- the spec's "type of the last transition ≤ t" is, up to `dstoffset`, the transition object the
    model selects for the bisect index (before the last transition) -/
theorem typeAt_rel (r : Raw) (hwf : Spec.wf r = true) {b s f : TType}
    (hf : firstType r = some f) (hfb : Rel f b) (hc : Coherent (build r) b s) (hw : WFz (build r) b)
    (t : Int) (hlt : bisectRight (build r).utc t < (build r).utc.length) :
    ∃ ty, typeAt r t = some ty ∧ Rel ty (ttOf (build r) b s (bisectRight (build r).utc t)) := by
  have hb := bisectRight_spec t (hc.utc_sorted hw)
  have hutc : (build r).utc = r.trans.map (fun p => p.1) := rfl
  have hn : (build r).utc.length = r.trans.length := by simp [hutc]
  unfold typeAt ttOf
  rw [if_neg (by omega)]
  rw [filter_le_eq_take r.trans t _ (by rw [← hutc]; exact hb)]
  by_cases h0 : bisectRight (build r).utc t = 0
  · rw [h0, if_pos rfl]
    simp only [List.take_zero, List.getLast?_nil]
    exact ⟨f, hf, hfb⟩
  · rw [if_neg h0]
    have hc1 : bisectRight (build r).utc t - 1 < r.trans.length := by omega
    rw [getLast?_take _ _ (by omega) (by omega), getElem?_eq_some_getD hc1 default]
    simp only
    have hok := trans_type_lt r hwf _ hc1
    rw [getElem?_eq_some_getD hok default]
    refine ⟨_, rfl, ?_⟩
    have : (build r).tts.getD (bisectRight (build r).utc t - 1) default
        = (finalTypes r).getD (r.trans.getD (bisectRight (build r).utc t - 1) default).2 default := by
      show (r.trans.map _).getD _ _ = _
      rw [getD_map_lt _ _ _ hc1 default default]
    rw [this]
    exact (relL_final r).getD _

theorem bisect_lt_of_lt_last (r : Raw) {b s : TType} (hc : Coherent (build r) b s)
    (hw : WFz (build r) b) (t u : Int) (hlast : lastTime r = some u) (h : t < u) :
    bisectRight (build r).utc t < (build r).utc.length := by
  have hb := bisectRight_spec t (hc.utc_sorted hw)
  have hutc : (build r).utc = r.trans.map (fun p => p.1) := rfl
  have hle := bisectRight_le (build r).utc t
  have hpos := hc.npos
  by_cases e : bisectRight (build r).utc t = (build r).utc.length
  · have h1 := hb.2.1 ((build r).utc.length - 1) (by omega)
    have : (build r).utc.getD ((build r).utc.length - 1) 0 = u := by
      unfold lastTime at hlast
      rw [hutc, List.getD_eq_getElem?_getD, ← List.getLast?_eq_getElem?, List.getLast?_map, ]
      cases hl : r.trans.getLast? with
      | none => rw [hl] at hlast; simp at hlast
      | some p => rw [hl] at hlast; simp at hlast; simp [hlast]
    omega
  · omega

/-- before the last transition `u`, converting `t` adds the offset of the data's type in force (`Spec.typeAt`), and the
    converted datetime reports that type's offset and abbreviation -/
theorem lookup_before_last (r : Raw) (hwf : Spec.wf r = true) (t u : Int)
    (hlast : lastTime r = some u) (h2 : t < u) :
    ∃ w ty, fromutc (build r) t = .ok w ∧ typeAt r t = some ty ∧ w.wall = t + ty.off ∧
      utcoffset (build r) w = .ok ty.off ∧ tzname (build r) w = .ok (some ty.abbr) := by
  have hne : r.trans ≠ [] := by
    intro h; simp [lastTime, h] at hlast
  obtain ⟨b, s, f, hf, hfb, hc, hw⟩ := build_coherent r hwf hne
  have hlt := bisect_lt_of_lt_last r hc hw t u hlast h2
  obtain ⟨w, hw1, hw2, hw3⟩ := hc.findTtinfo_fromutc hw t (Or.inl hlt)
  obtain ⟨ty, hty, hrel⟩ := typeAt_rel r hwf hf hfb hc hw t hlt
  refine ⟨w, ty, hw1, hty, ?_, ?_, ?_⟩
  · rw [hw2, hrel.1]
  · rw [hc.utcoffset_eq w _ hw3, hrel.1]
  · rw [hc.tzname_eq w _ hw3, hrel.2.2.1]

/-- the zone answers `ttinfo_std` from the last transition on; that is the data's answer exactly
    when `ttinfo_std` is the last transition's type -/
def LastStd (z : TzFile) : Prop := z.std = some (z.tts.getD (z.utc.length - 1) default)

theorem covered_of (r : Raw) {b s : TType} (hc : Coherent (build r) b s) (hw : WFz (build r) b)
    (t : Int) (h : (∃ u, lastTime r = some u ∧ t < u) ∨ LastStd (build r)) :
    Covered (build r) s (bisectRight (build r).utc t) := by
  rcases h with ⟨u, h1, h2⟩ | h
  · exact Or.inl (bisect_lt_of_lt_last r hc hw t u h1 h2)
  · right
    unfold LastStd at h
    rw [hc.hs] at h
    exact Option.some.inj h

end TZ
