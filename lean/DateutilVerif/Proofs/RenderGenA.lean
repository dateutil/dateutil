/-
  Proofs/RenderGenA.lean — all-numeric dates with `/` or `-`, with and without `HH:MM:SS` (templates `us_slash`, `eu_slash`,
  `yf_slash`, `us_dash_date`, `iso_date` of C02).  Per template: the lexing of the rendering; then (`rend_*`) the token scan
  over its tokens with any suffix behind them and the finish; from these the theorem for every offset suffix and the theorem
  for a sentence around it.
-/
import DateutilVerif.Proofs.RenderSentence
import DateutilVerif.Proofs.RenderFin

namespace PM
open Py PT

def core_us_slash (t : DT) : List Token :=
  [dtok [t.m.toNat / 10, t.m.toNat], ['/'], dtok [t.d.toNat / 10, t.d.toNat], ['/'], y4 t.y.toNat, [' '], dtok [t.hh.toNat / 10, t.hh.toNat], [':'], dtok [t.mm.toNat / 10, t.mm.toNat], [':'], dtok [t.ss.toNat / 10, t.ss.toNat]]

theorem lex_us_slash (cls : Char → CClass) [AsciiOK cls] (t : DT) (rest : List Char) (he : NumEnds cls rest) :
    scan cls .init (str_us_slash t rest) = core_us_slash t ++ scan cls .init rest := by
  unfold str_us_slash core_us_slash
  rw [lex_pad2 cls _ _ (numEnds_ascii cls _ _ (by decide)),
      lex_punct cls '/' _ (by decide),
      lex_pad2 cls _ _ (numEnds_ascii cls _ _ (by decide)),
      lex_punct cls '/' _ (by decide),
      lex_pad4 cls _ _ (numEnds_sp cls _),
      lex_sp,
      lex_pad2 cls _ _ (numEnds_ascii cls _ _ (by decide)),
      lex_punct cls ':' _ (by decide),
      lex_pad2 cls _ _ (numEnds_ascii cls _ _ (by decide)),
      lex_punct cls ':' _ (by decide),
      lex_pad2 cls _ _ he]
  rfl

theorem rend_us_slash (cls : Char → CClass) [AsciiOK cls] (yf : Bool) (year century : Int) (o : Opts) (tznames : List Token) (tzi : TzInfos)
    (ho : StrictOpts o tzi) (hdf : o.dayfirst.getD false = false) (hyf : o.yearfirst.getD yf = false) (t dflt : DT) (ht : t.Valid) :
    Rendering cls false yf year century o tznames tzi dflt (str_us_slash t) (core_us_slash t) (NumEnds cls) (fun _ => True)
      ({ t with us := 0 }) := by
  have N := dtNums ht
  refine ⟨fun rest => by simp [str_us_slash], lex_us_slash cls t, _, _, [5], rfl, rfl, rfl, rfl, fun fz suf _ =>
    run_date3_hms (l := core_us_slash t ++ suf) (by rfl) (Or.inr (Or.inl rfl)) (Or.inl rfl) N.m N.d N.y (by decide) (by decide)
      (by decide) (Or.inl (by decide)) N.hh N.mm (parsems_num N.ss (by decide)) (by decide) (by have := N.bmm; omega), ?_⟩
  refine finish_t yf year century o tznames tzi dflt ht _ _ t.y.toNat _ ?_ (convertyear_full _ ht _ (Or.inl rfl)) rfl rfl (Or.inl rfl)
    ho.tz1 ?_ (valid_fields ht (valid_hh ht) (valid_mm ht) (valid_ss ht) ⟨by decide, by decide⟩)
  · rw [hdf, hyf]; exact resolve_mdY _ _ _ _ N.bm.2
  · simp only [fieldOr, N.eh, N.emi, N.es]; rfl

theorem tpl_us_slash (cls : Char → CClass) [AsciiOK cls] (yf : Bool) (year century : Int) (o : Opts) (tznames : List Token) (tzi : TzInfos)
    (ho : StrictOpts o tzi) (hdf : o.dayfirst.getD false = false) (hyf : o.yearfirst.getD yf = false) (t dflt : DT) (ht : t.Valid) (_hdv : dflt.Valid) (off : Off) (hoff : off.Dom) :
    parse cls (Info.default false yf year century) o tznames tzi dflt (str_us_slash t off.render) =
      .ok { dt := { t with us := 0 }, tz := offZone o tznames off, tokens := none } :=
  (rend_us_slash cls yf year century o tznames tzi ho hdf hyf t dflt ht).tpl ho off hoff (numEnds_off cls off) trivial

/-- C15, **a sentence containing one date**: any number of filler words, `us_slash`, any number of filler words -/
theorem sentence_us_slash (cls : Char → CClass) [AsciiOK cls] (yf : Bool) (year century : Int) (o : Opts) (tznames : List Token) (tzi : TzInfos)
    (hf : (o.fuzzy || o.fuzzyWithTokens) = true) (htz1 : tzi.applies none = false) (htz2 : tzi.applies (some ['U', 'T', 'C']) = false)
    (hdf : o.dayfirst.getD false = false) (hyf : o.yearfirst.getD yf = false) (t dflt : DT) (ht : t.Valid) (_hdv : dflt.Valid) (lead ws : List Token) (hlead : ∀ w ∈ lead, fillerWord w = true) (hws : ∀ w ∈ ws, fillerWord w = true) :
    SentenceAnswer cls (Info.default false yf year century) o tznames tzi dflt (leadChars lead ++ str_us_slash t (fillerChars ws)) ({ t with us := 0 })
      (leadToks lead).length ((leadToks lead).length + 11) :=
  (rend_us_slash cls yf year century { o with fuzzy := false, fuzzyWithTokens := false } tznames tzi ⟨rfl, rfl, htz1, htz2⟩ hdf hyf t dflt ht).sentence
    hf lead ws hlead hws (numEnds_filler cls ws) trivial

def core_eu_slash (t : DT) : List Token :=
  [dtok [t.d.toNat / 10, t.d.toNat], ['/'], dtok [t.m.toNat / 10, t.m.toNat], ['/'], y4 t.y.toNat, [' '], dtok [t.hh.toNat / 10, t.hh.toNat], [':'], dtok [t.mm.toNat / 10, t.mm.toNat], [':'], dtok [t.ss.toNat / 10, t.ss.toNat]]

theorem lex_eu_slash (cls : Char → CClass) [AsciiOK cls] (t : DT) (rest : List Char) (he : NumEnds cls rest) :
    scan cls .init (str_eu_slash t rest) = core_eu_slash t ++ scan cls .init rest := by
  unfold str_eu_slash core_eu_slash
  rw [lex_pad2 cls _ _ (numEnds_ascii cls _ _ (by decide)),
      lex_punct cls '/' _ (by decide),
      lex_pad2 cls _ _ (numEnds_ascii cls _ _ (by decide)),
      lex_punct cls '/' _ (by decide),
      lex_pad4 cls _ _ (numEnds_sp cls _),
      lex_sp,
      lex_pad2 cls _ _ (numEnds_ascii cls _ _ (by decide)),
      lex_punct cls ':' _ (by decide),
      lex_pad2 cls _ _ (numEnds_ascii cls _ _ (by decide)),
      lex_punct cls ':' _ (by decide),
      lex_pad2 cls _ _ he]
  rfl

theorem rend_eu_slash (cls : Char → CClass) [AsciiOK cls] (yf : Bool) (year century : Int) (o : Opts) (tznames : List Token) (tzi : TzInfos)
    (ho : StrictOpts o tzi) (hdf : o.dayfirst.getD false = true) (hyf : o.yearfirst.getD yf = false) (t dflt : DT) (ht : t.Valid) :
    Rendering cls false yf year century o tznames tzi dflt (str_eu_slash t) (core_eu_slash t) (NumEnds cls) (fun _ => True)
      ({ t with us := 0 }) := by
  have N := dtNums ht
  refine ⟨fun rest => by simp [str_eu_slash], lex_eu_slash cls t, _, _, [5], rfl, rfl, rfl, rfl, fun fz suf _ =>
    run_date3_hms (l := core_eu_slash t ++ suf) (by rfl) (Or.inr (Or.inl rfl)) (Or.inl rfl) N.d N.m N.y (by decide) (by decide)
      (by decide) (Or.inl (by decide)) N.hh N.mm (parsems_num N.ss (by decide)) (by decide) (by have := N.bmm; omega), ?_⟩
  refine finish_t yf year century o tznames tzi dflt ht _ _ t.y.toNat _ ?_ (convertyear_full _ ht _ (Or.inl rfl)) rfl rfl (Or.inl rfl)
    ho.tz1 ?_ (valid_fields ht (valid_hh ht) (valid_mm ht) (valid_ss ht) ⟨by decide, by decide⟩)
  · rw [hdf, hyf]; exact resolve_dmY _ _ _ _ N.bd.2 N.bm.2
  · simp only [fieldOr, N.eh, N.emi, N.es]; rfl

theorem tpl_eu_slash (cls : Char → CClass) [AsciiOK cls] (yf : Bool) (year century : Int) (o : Opts) (tznames : List Token) (tzi : TzInfos)
    (ho : StrictOpts o tzi) (hdf : o.dayfirst.getD false = true) (hyf : o.yearfirst.getD yf = false) (t dflt : DT) (ht : t.Valid) (_hdv : dflt.Valid) (off : Off) (hoff : off.Dom) :
    parse cls (Info.default false yf year century) o tznames tzi dflt (str_eu_slash t off.render) =
      .ok { dt := { t with us := 0 }, tz := offZone o tznames off, tokens := none } :=
  (rend_eu_slash cls yf year century o tznames tzi ho hdf hyf t dflt ht).tpl ho off hoff (numEnds_off cls off) trivial

/-- C15, **a sentence containing one date**: any number of filler words, `eu_slash`, any number of filler words -/
theorem sentence_eu_slash (cls : Char → CClass) [AsciiOK cls] (yf : Bool) (year century : Int) (o : Opts) (tznames : List Token) (tzi : TzInfos)
    (hf : (o.fuzzy || o.fuzzyWithTokens) = true) (htz1 : tzi.applies none = false) (htz2 : tzi.applies (some ['U', 'T', 'C']) = false)
    (hdf : o.dayfirst.getD false = true) (hyf : o.yearfirst.getD yf = false) (t dflt : DT) (ht : t.Valid) (_hdv : dflt.Valid) (lead ws : List Token) (hlead : ∀ w ∈ lead, fillerWord w = true) (hws : ∀ w ∈ ws, fillerWord w = true) :
    SentenceAnswer cls (Info.default false yf year century) o tznames tzi dflt (leadChars lead ++ str_eu_slash t (fillerChars ws)) ({ t with us := 0 })
      (leadToks lead).length ((leadToks lead).length + 11) :=
  (rend_eu_slash cls yf year century { o with fuzzy := false, fuzzyWithTokens := false } tznames tzi ⟨rfl, rfl, htz1, htz2⟩ hdf hyf t dflt ht).sentence
    hf lead ws hlead hws (numEnds_filler cls ws) trivial

def core_yf_slash (t : DT) : List Token :=
  [y4 t.y.toNat, ['/'], dtok [t.m.toNat / 10, t.m.toNat], ['/'], dtok [t.d.toNat / 10, t.d.toNat], [' '], dtok [t.hh.toNat / 10, t.hh.toNat], [':'], dtok [t.mm.toNat / 10, t.mm.toNat], [':'], dtok [t.ss.toNat / 10, t.ss.toNat]]

theorem lex_yf_slash (cls : Char → CClass) [AsciiOK cls] (t : DT) (rest : List Char) (he : NumEnds cls rest) :
    scan cls .init (str_yf_slash t rest) = core_yf_slash t ++ scan cls .init rest := by
  unfold str_yf_slash core_yf_slash
  rw [lex_pad4 cls _ _ (numEnds_ascii cls _ _ (by decide)),
      lex_punct cls '/' _ (by decide),
      lex_pad2 cls _ _ (numEnds_ascii cls _ _ (by decide)),
      lex_punct cls '/' _ (by decide),
      lex_pad2 cls _ _ (numEnds_sp cls _),
      lex_sp,
      lex_pad2 cls _ _ (numEnds_ascii cls _ _ (by decide)),
      lex_punct cls ':' _ (by decide),
      lex_pad2 cls _ _ (numEnds_ascii cls _ _ (by decide)),
      lex_punct cls ':' _ (by decide),
      lex_pad2 cls _ _ he]
  rfl

theorem rend_yf_slash (cls : Char → CClass) [AsciiOK cls] (yf : Bool) (year century : Int) (o : Opts) (tznames : List Token) (tzi : TzInfos)
    (ho : StrictOpts o tzi) (hdf : o.dayfirst.getD false = false) (t dflt : DT) (ht : t.Valid) :
    Rendering cls false yf year century o tznames tzi dflt (str_yf_slash t) (core_yf_slash t) (NumEnds cls) (fun _ => True)
      ({ t with us := 0 }) := by
  have N := dtNums ht
  refine ⟨fun rest => by simp [str_yf_slash], lex_yf_slash cls t, _, _, [5], rfl, rfl, rfl, rfl, fun fz suf _ =>
    run_date3_hms (l := core_yf_slash t ++ suf) (by rfl) (Or.inr (Or.inl rfl)) (Or.inl rfl) N.y N.m N.d (by decide) (by decide)
      (by decide) (Or.inr (Or.inr (by decide))) N.hh N.mm (parsems_num N.ss (by decide)) (by decide) (by have := N.bmm; omega), ?_⟩
  refine finish_t yf year century o tznames tzi dflt ht _ _ t.y.toNat _ ?_ (convertyear_full _ ht _ (Or.inl rfl)) rfl rfl (Or.inl rfl)
    ho.tz1 ?_ (valid_fields ht (valid_hh ht) (valid_mm ht) (valid_ss ht) ⟨by decide, by decide⟩)
  · rw [hdf]; exact resolve_Ymd _ _ _ _ _
  · simp only [fieldOr, N.eh, N.emi, N.es]; rfl

theorem tpl_yf_slash (cls : Char → CClass) [AsciiOK cls] (yf : Bool) (year century : Int) (o : Opts) (tznames : List Token) (tzi : TzInfos)
    (ho : StrictOpts o tzi) (hdf : o.dayfirst.getD false = false) (t dflt : DT) (ht : t.Valid) (_hdv : dflt.Valid) (off : Off) (hoff : off.Dom) :
    parse cls (Info.default false yf year century) o tznames tzi dflt (str_yf_slash t off.render) =
      .ok { dt := { t with us := 0 }, tz := offZone o tznames off, tokens := none } :=
  (rend_yf_slash cls yf year century o tznames tzi ho hdf t dflt ht).tpl ho off hoff (numEnds_off cls off) trivial

/-- C15, **a sentence containing one date**: any number of filler words, `yf_slash`, any number of filler words -/
theorem sentence_yf_slash (cls : Char → CClass) [AsciiOK cls] (yf : Bool) (year century : Int) (o : Opts) (tznames : List Token) (tzi : TzInfos)
    (hf : (o.fuzzy || o.fuzzyWithTokens) = true) (htz1 : tzi.applies none = false) (htz2 : tzi.applies (some ['U', 'T', 'C']) = false)
    (hdf : o.dayfirst.getD false = false) (t dflt : DT) (ht : t.Valid) (_hdv : dflt.Valid) (lead ws : List Token) (hlead : ∀ w ∈ lead, fillerWord w = true) (hws : ∀ w ∈ ws, fillerWord w = true) :
    SentenceAnswer cls (Info.default false yf year century) o tznames tzi dflt (leadChars lead ++ str_yf_slash t (fillerChars ws)) ({ t with us := 0 })
      (leadToks lead).length ((leadToks lead).length + 11) :=
  (rend_yf_slash cls yf year century { o with fuzzy := false, fuzzyWithTokens := false } tznames tzi ⟨rfl, rfl, htz1, htz2⟩ hdf t dflt ht).sentence
    hf lead ws hlead hws (numEnds_filler cls ws) trivial

def core_us_dash_date (t : DT) : List Token :=
  [dtok [t.m.toNat / 10, t.m.toNat], ['-'], dtok [t.d.toNat / 10, t.d.toNat], ['-'], y4 t.y.toNat]

theorem lex_us_dash_date (cls : Char → CClass) [AsciiOK cls] (t : DT) (rest : List Char) (he : NumEnds cls rest) :
    scan cls .init (str_us_dash_date t rest) = core_us_dash_date t ++ scan cls .init rest := by
  unfold str_us_dash_date core_us_dash_date
  rw [lex_pad2 cls _ _ (numEnds_ascii cls _ _ (by decide)),
      lex_punct cls '-' _ (by decide),
      lex_pad2 cls _ _ (numEnds_ascii cls _ _ (by decide)),
      lex_punct cls '-' _ (by decide),
      lex_pad4 cls _ _ he]
  rfl

theorem tpl_us_dash_date (cls : Char → CClass) [AsciiOK cls] (yf : Bool) (year century : Int) (o : Opts) (tznames : List Token) (tzi : TzInfos)
    (ho : StrictOpts o tzi) (hdf : o.dayfirst.getD false = false) (hyf : o.yearfirst.getD yf = false) (t dflt : DT) (ht : t.Valid) (hdv : dflt.Valid) :
    parse cls (Info.default false yf year century) o tznames tzi dflt (str_us_dash_date t []) =
      .ok { dt := { t with hh := dflt.hh, mm := dflt.mm, ss := dflt.ss, us := dflt.us }, tz := .naive, tokens := none } := by
  have N := dtNums ht
  refine tpl_date cls _ o tznames tzi ho.fz ho.fwt dflt _ (core_us_dash_date t) _ _ _ _
    (by simpa [scan_init_nil] using lex_us_dash_date cls t [] trivial)
    (loop_sep3_num (fuel := 0) (l := core_us_dash_date t) (by rfl) (Or.inl rfl) N.m N.d N.y (by decide) (by decide) (by decide) rfl
      (Or.inl (by decide)) (by rfl) (hmsOf_num N.m)) ?_
  refine finish_t yf year century o tznames tzi dflt ht _ _ t.y.toNat _ ?_ (convertyear_full _ ht _ (Or.inl rfl)) rfl rfl (Or.inl rfl)
    ho.tz1 rfl (valid_fields ht (valid_hh hdv) (valid_mm hdv) (valid_ss hdv) (valid_us hdv))
  rw [hdf, hyf]; exact resolve_mdY _ _ _ _ N.bm.2

def core_iso_date (t : DT) : List Token :=
  [y4 t.y.toNat, ['-'], dtok [t.m.toNat / 10, t.m.toNat], ['-'], dtok [t.d.toNat / 10, t.d.toNat]]

theorem lex_iso_date (cls : Char → CClass) [AsciiOK cls] (t : DT) (rest : List Char) (he : NumEnds cls rest) :
    scan cls .init (str_iso_date t rest) = core_iso_date t ++ scan cls .init rest := by
  unfold str_iso_date core_iso_date
  rw [lex_pad4 cls _ _ (numEnds_ascii cls _ _ (by decide)),
      lex_punct cls '-' _ (by decide),
      lex_pad2 cls _ _ (numEnds_ascii cls _ _ (by decide)),
      lex_punct cls '-' _ (by decide),
      lex_pad2 cls _ _ he]
  rfl

theorem tpl_iso_date (cls : Char → CClass) [AsciiOK cls] (yf : Bool) (year century : Int) (o : Opts) (tznames : List Token) (tzi : TzInfos)
    (ho : StrictOpts o tzi) (hdf : o.dayfirst.getD false = false) (t dflt : DT) (ht : t.Valid) (hdv : dflt.Valid) :
    parse cls (Info.default false yf year century) o tznames tzi dflt (str_iso_date t []) =
      .ok { dt := { t with hh := dflt.hh, mm := dflt.mm, ss := dflt.ss, us := dflt.us }, tz := .naive, tokens := none } := by
  have N := dtNums ht
  refine tpl_date cls _ o tznames tzi ho.fz ho.fwt dflt _ (core_iso_date t) _ _ _ _
    (by simpa [scan_init_nil] using lex_iso_date cls t [] trivial)
    (loop_sep3_num (fuel := 0) (l := core_iso_date t) (by rfl) (Or.inl rfl) N.y N.m N.d (by decide) (by decide) (by decide) rfl
      (Or.inr (Or.inr (by decide))) (by rfl) (hmsOf_num N.y)) ?_
  refine finish_t yf year century o tznames tzi dflt ht _ _ t.y.toNat _ ?_ (convertyear_full _ ht _ (Or.inl rfl)) rfl rfl (Or.inl rfl)
    ho.tz1 rfl (valid_fields ht (valid_hh hdv) (valid_mm hdv) (valid_ss hdv) (valid_us hdv))
  rw [hdf]; exact resolve_Ymd _ _ _ _ _

end PM
