/-
  Proofs/RRuleNthYearly.lean — YEARLY with nth weekdays counted inside the year ("the 20th Monday
  of the year", "the last Sunday of the year"; no BYMONTH): the mask, the bridge and the period filter.
-/
import DateutilVerif.Proofs.RRuleNthMonthly

namespace RRule
open Cal

variable {r : Rule} {y : Int} {info : Info}

/-- **the nth-weekday mask of a YEARLY rule without BYMONTH**: one range, the whole year -/
theorem nwdaymask_yearly (f : YearFacts r y info) (hf : r.freq = 0) (hbm : truthy r.bymonth = false)
    (nwl : List (Int × Int)) (hne : nwl ≠ [])
    (hnw : r.bynweekday = some nwl) (hok : ∀ wn ∈ nwl, (0 ≤ wn.1 ∧ wn.1 ≤ 6) ∧ wn.2 ≠ 0) (month : Int) :
    ∃ mask, buildNwdaymask r info.yearlen info.mrange info.wdaymask month = .ok (some mask) ∧
      (mask.length : Int) = info.yearlen ∧
      ∀ j : Int, 0 ≤ j → j < info.yearlen →
        Py.getIdx mask j = .ok (if ∃ wn ∈ nwl, marks info 0 (info.yearlen - 1) j wn then 1 else 0) := by
  have hyl := f.yearlen
  have hylen : 365 ≤ info.yearlen ∧ info.yearlen ≤ 366 := by rw [hyl]; unfold daysInYear; split <;> omega
  unfold buildNwdaymask
  rw [hnw]
  cases nwl with
  | nil => exact absurd rfl hne
  | cons nw0 nws =>
    simp only [bind, Except.bind]
    rw [if_pos (by simp [hf]), hbm]
    have hlen0 : ((List.replicate info.yearlen.toNat (0 : Int)).length : Int) = info.yearlen := by
      rw [List.length_replicate]; omega
    obtain ⟨mask, h1, hl2, h3⟩ := markNth_fold f 0 (info.yearlen - 1) (by omega) (by omega) (nw0 :: nws) _ hlen0 hok
    simp only [pure, Except.pure, List.isEmpty_cons, Bool.false_eq_true, ↓reduceIte, List.foldlM_cons,
      List.foldlM_nil, bind, Except.bind] at h1 ⊢
    rw [h1]
    refine ⟨mask, rfl, by rw [hl2]; exact hlen0, ?_⟩
    intro j hj0 hj1
    rw [h3 j hj0 hj1]
    split
    · rfl
    · rw [getIdx_int _ j hj0 (by rw [hlen0]; exact hj1)]
      simp

/-- YEARLY argument sets whose BYDAY members are all nth weekdays, counted inside the year -/
structure NthYArgs (a : Args) : Prop where
  freq : a.freq = 0
  interval : 1 ≤ a.interval
  valid : a.dtstart.Valid
  byweekno : a.byweekno = none
  byeaster : a.byeaster = none
  monthday_nz : ∀ x ∈ a.bymonthday.getD [], x ≠ 0
  bymonth : a.bymonth = none
  weekdays : ∃ l, a.byweekday = some l ∧ l ≠ [] ∧ ∀ w ∈ l, (0 ≤ w.1 ∧ w.1 ≤ 6) ∧ w.2 ≠ 0

variable {a : Args}

/-- "marked by the pair `wn` inside the year" is the specification's nth-weekday test, for the day with index `i` of
    the year, whenever the specification counts inside the year -/
theorem marks_year_iff (a : Args) (f : YearFacts r y info) {i : Int} (h0 : 0 ≤ i) (h1 : i < info.yearlen)
    (hout : (a.freq == 1 || (a.freq == 0 && !(Spec.RRule.months a).isEmpty)) = false)
    (hf1 : ¬ a.freq > 1) (wn : Int × Int) (hn0 : wn.2 ≠ 0) :
    marks info 0 (info.yearlen - 1) i wn ↔
    (wn.1 == weekdayOfOrd (info.yearordinal + i) &&
      (wn.2 == 0 || decide (a.freq > 1) || Spec.RRule.nthOk a (info.yearordinal + i)
        (fromOrdinal (info.yearordinal + i)).1 (fromOrdinal (info.yearordinal + i)).2.1 wn.2)) = true := by
  have hfo := date_of_yday y i f.year_lo h0 (by rw [← f.yearlen]; exact h1)
  rw [← f.yearordinal] at hfo
  have hlast : toOrdinal y 12 31 = info.yearordinal + (info.yearlen - 1) := by
    have := year_hi_next y
    rw [toOrdinal_next_year, ← f.yearordinal, ← f.yearlen] at this
    omega
  have hfd : decide (a.freq > 1) = false := by simp [hf1]
  unfold marks nthAt Spec.RRule.nthOk
  rw [hfo]
  simp only [hout, Bool.false_eq_true, ↓reduceIte, hlast, ← f.yearordinal, hfd, Bool.or_false, Bool.and_eq_true,
    beq_iff_eq, Bool.or_eq_true]
  constructor
  · rintro ⟨_, _, hw, hn⟩
    refine ⟨hw.symm, Or.inr ?_⟩
    split at hn
    · rename_i hp; rw [if_pos hp]; simp only [beq_iff_eq]; omega
    · rename_i hp; rw [if_neg hp]; simp only [beq_iff_eq]; omega
  · rintro ⟨hw, hn | hn⟩
    · exact absurd hn hn0
    · refine ⟨by omega, by omega, hw.symm, ?_⟩
      split
      · rename_i hp; rw [if_pos hp] at hn; simp only [beq_iff_eq] at hn; omega
      · rename_i hp; rw [if_neg hp] at hn; simp only [beq_iff_eq] at hn; omega

/-- "the model state at the start of period `k`" -/
structure NthYGood (a : Args) (r : Rule) (k : Nat) (st : State) : Prop where
  facts : YearFacts r st.cur.year st.info
  timeset : st.timeset = Spec.RRule.timesOf a none none none
  year : st.cur.year = a.dtstart.y + k * a.interval
  mask : ∃ mask, st.info.nwdaymask = some mask ∧ (mask.length : Int) = st.info.yearlen ∧
    ∀ j : Int, 0 ≤ j → j < st.info.yearlen →
      Py.getIdx mask j = .ok (if ∃ wn ∈ nwlOf a, marks st.info 0 (st.info.yearlen - 1) j wn then 1 else 0)

/-- what `rebuild` establishes for a YEARLY rule with nth weekdays and no BYMONTH: the nth-weekday mask marks the nth
    weekdays of the year -/
def NthYInv (a : Args) (_y _m : Int) (info : Info) : Prop :=
  NthMarks info (fun j => ∃ wn ∈ nwlOf a, marks info 0 (info.yearlen - 1) j wn)

/-- without BYMONTH the specification counts nth weekdays inside the year -/
theorem months_none (hm : a.bymonth = none) (hnd : noDayParts a = false) : Spec.RRule.months a = [] := by
  have : Spec.RRule.noDayParts a = noDayParts a := rfl
  unfold Spec.RRule.months; rw [hm]; simp [this, hnd]

/-- the YEARLY nth-weekday mask inside `rebuild`, for nth-only BYDAY without BYMONTH -/
theorem nthY_build (D : DateFields a r) (hf : a.freq = 0) (hw : NthOnly a) (hm : a.bymonth = none) (hy1 : 1 ≤ y)
    (hy2 : y ≤ 9999) (m : Int) :
    ∃ n, buildNwdaymask r (baseInfo y).yearlen (baseInfo y).mrange (baseInfo y).wdaymask m = .ok n ∧ ∀ w e,
      NthYInv a y m { baseInfo y with wnomask := w, nwdaymask := n, eastermask := e } := by
  obtain ⟨hne, _, hok, _, hnw⟩ := nwl_facts (Or.inl hf) hw
  have hbm : truthy r.bymonth = false := by
    rw [D.bymonth]; unfold bymonthOf; rw [hw.noDay, hm]; rfl
  obtain ⟨mask, n1, n2, n3⟩ := nwdaymask_yearly (baseInfo_facts r y hy1 hy2) (by rw [D.freq, hf]) hbm _ hne
    (by rw [D.bynweekday]; exact hnw) hok m
  exact ⟨_, n1, fun _ _ => ⟨mask, rfl, n2, n3⟩⟩

/-- on the days of the year the marks are the BYDAY part of `dateOk` -/
theorem nthY_part (hf : a.freq = 0) (hw : NthOnly a) (hm : a.bymonth = none) (f : YearFacts r y info) {m i : Int}
    (hi : yearDays y m info i) :
    (∃ wn ∈ nwlOf a, marks info 0 (info.yearlen - 1) i wn) ↔ weekdayPart a (info.yearordinal + i) = true :=
  weekdayPart_nth (Or.inl hf) hw _ _ (marks_year_iff a f hi.1 hi.2
    (by rw [months_none hm hw.noDay, hf]; rfl) (by rw [hf]; omega))

theorem nthy_filter (na : NthYArgs a) (h : construct a = .ok r) : PeriodFilter a r 1 9999 (NthYInv a) yearDays where
  lo := by omega
  hi := by omega
  rebuild := fun y m hy1 hy2 _ _ => by
    have D := construct_dateFields h
    obtain ⟨n, hn, hN⟩ := nthY_build D na.freq na.weekdays na.bymonth hy1 hy2 m
    exact ⟨_, rebuild_eq r m hy1 hy2 (wnomaskOf_off (D.weekno_off na.byweekno) ..) hn
      (eastermaskOf_off (D.easter_off na.byeaster) ..), hN _ _⟩
  filtered := fun {y m info i} f inv hi =>
    have D := construct_dateFields h
    nth_filtered D (monthdayArg_nz na.monthday_nz na.valid) (nwl_facts (Or.inl na.freq) na.weekdays).2.2.2.1 f i
      hi.1 hi.2 inv.marked (fun _ => nthY_part na.freq na.weekdays na.bymonth f hi) (weekno_miss_off D na.byweekno ..)
      (easter_miss_off D na.byeaster ..)

/-- the state invariant of the YEARLY refinement, read for this family -/
theorem nthy_good (na : NthYArgs a) {k : Nat} {st : State} (g : PeriodGood (NthYInv a) a r k st) : NthYGood a r k st :=
  ⟨g.facts, g.timeset, g.yearly na.freq, g.inv⟩

/-- **`iter_eq_spec`, YEARLY with nth weekdays counted inside the year.**  FREQ=YEARLY, INTERVAL ≥ 1, a
    valid start, no BYMONTH, BYDAY consisting of nth weekdays only (`MO(+20)`, `SU(-1)`, any magnitude
    up to ±53 and beyond), any BYYEARDAY / BYHOUR / BYMINUTE / BYSECOND / BYSETPOS, any COUNT / UNTIL, no
    BYMONTHDAY / BYWEEKNO / BYEASTER: exactly the specification's recurrence set. -/
theorem iter_eq_spec_yearly_nth (na : NthYArgs a) (h : construct a = .ok r) (n : Nat)
    (hy : a.dtstart.y + n * a.interval ≤ 9999) :
    (iter r n).1 = Spec.RRule.occ a n := by
  have hv := na.valid
  unfold DT.Valid ValidDate at hv
  exact yearly_refines h na.freq na.valid (nthy_filter na h) n hv.1.1 hy

end RRule
