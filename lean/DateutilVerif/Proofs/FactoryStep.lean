/-
  Proofs/FactoryStep.lean — one thread step: guarantee to the others, own invariant, global invariant.

  The lemmas about `tstep … = some (g', th')` go through the branches of `tstep` as `tstep_mono`
  (Proofs/FactoryInv.lean) does; the goals left for individual treatment are named by their pc.
-/
import DateutilVerif.Proofs.FactoryInv

namespace Fact

variable {kd : Kind} {res : Key → Res} {t : Tid} {g g' : Glob} {th th' : Thread}

theorem tstep_guar (hT : TI kd res t g th) (h : tstep kd res t g th = some (g', th')) : Guar kd t g g' := by
  obtain ⟨hn, hi, hs⟩ := tstep_mono h
  obtain ⟨hl, hk, -, -, -, hp⟩ := hT
  revert h
  fun_cases tstep kd res t g th <;> intro h <;> cases h <;> rw [‹th.pc = _›] at hl hk <;>
    first
    -- maps, size, epoch and lock untouched
    | exact ⟨fun _ => .inl rfl, fun _ => ⟨rfl, rfl, rfl, .inl rfl⟩, .inl, hn, hi, hs⟩
    -- the free lock is taken
    | exact ⟨fun _ => .inl rfl, fun _ => ⟨rfl, rfl, rfl, .inr ⟨‹g.lock = none›, rfl⟩⟩, fun _ => .inl rfl, hn, hi, hs⟩
    -- under the lock (`hl.mp rfl`), the weak map untouched: the lock is kept, or released
    | exact ⟨fun _ => .inl rfl, (absurd (hl.mp rfl) ·), .inl, hn, hi, hs⟩
    | exact ⟨fun _ => .inl rfl, (absurd (hl.mp rfl) ·), fun _ => .inr rfl, hn, hi, hs⟩
    | refine ⟨?_, (absurd (hl.mp rfl) ·), .inl, hn, hi, hs⟩
  -- the weak map changes: `setdefault` and `__setitem__` fill an empty entry, `cache_clear` is gettz's
  all_goals try
    simp only [‹th.pc = _›, pcInv] at hp
    intro k
    by_cases hkk : k = th.key
    · exact .inr (.inl ⟨hkk ▸ hp.1, hl.mp rfl⟩)
    · exact .inl (upd_other _ _ _ _ hkk)
  exact fun _ => .inr (.inr ⟨hk, hl.mp rfl⟩)

theorem tstep_control (hl : inLocked th.pc = true ↔ g.lock = some t) (hk : kindOK kd th.pc)
    (h : tstep kd res t g th = some (g', th')) :
    (inLocked th'.pc = true ↔ g'.lock = some t) ∧ kindOK kd th'.pc := by
  revert h
  fun_cases tstep kd res t g th <;> intro h <;> cases h <;> rw [‹th.pc = _›] at hl hk <;> dsimp only <;>
    (try split) <;> simp_all +decide [inLocked, kindOK]

/-- each local of the successor is `none`, an old local, the id just allocated, a weak entry or a shared object -/
theorem tstep_bounds (hG : GI kd g) (hil : ∀ i, th.inst = some i → i < g.next)
    (htl : ∀ i, th.tmp = some i → i < g.next) (hsl : ∀ i, th.seen = some i → i < g.next)
    (h : tstep kd res t g th = some (g', th')) :
    (∀ i, th'.inst = some i → i < g'.next) ∧ (∀ i, th'.tmp = some i → i < g'.next) ∧
      (∀ i, th'.seen = some i → i < g'.next) := by
  have hn := (tstep_mono h).1
  have hsh : ∀ {sl i}, g.shared.lookup sl = some i → i < g.next := fun h =>
    hG.initedLt _ (hG.sharedInited _ (lookup_mem h))
  have hsh' : ∀ {i}, (if kd = .gettz then (res th.key).slot?.bind fun sl => g.shared.lookup sl else none) = some i →
      i < g.next := fun h => by
    split at h
    · obtain ⟨sl, -, hs⟩ := Option.bind_eq_some_iff.mp h
      exact hsh hs
    · cases h
  revert h
  fun_cases tstep kd res t g th <;> intro h <;> cases h <;>
    exact ⟨fun i hi => by
        first
        | exact Nat.lt_of_lt_of_le (hil i hi) hn
        | exact hG.weakLt _ i hi
        | cases hi <;> first | exact htl _ ‹_› | exact hsl _ ‹_› | exact hsh ‹_›,
      fun i hi => by
        first
        | exact Nat.lt_of_lt_of_le (htl i hi) hn
        | cases hi <;> first | exact Nat.lt_succ_self _ | exact hsh' ‹_›,
      fun i hi => by
        first
        | exact Nat.lt_of_lt_of_le (hsl i hi) hn
        | exact hG.weakLt _ i hi
        | cases hi⟩

theorem tstep_pcInv (hG : GI kd g) (hp : pcInv res g th) (h : tstep kd res t g th = some (g', th')) :
    pcInv res g' th' := by
  revert h
  fun_cases tstep kd res t g th <;> intro h <;> cases h <;> (try rw [pcInv_ite]) <;>
    simp only [pcInv, ‹th.pc = _›] at hp ⊢
  · cases kd <;> trivial                                               -- idle: a call starts
  · exact hG.lenFree ‹_›                                               -- lAcq
  · exact ⟨fun _ h => h, id, hp⟩                                       -- lGet
  · exact pcInv_test hp                                                -- lTest
  · exact hp.2                                                         -- lAlloc: the constructor raises
  · exact ⟨hp.1, hp.2, _, rfl⟩                                         -- lAlloc
  next i hi => exact ⟨hp.1, hp.2.1, i, hi, List.mem_cons_self⟩         -- lInit
  · exact ⟨hp.1, hp.2.1, hp.2.2, hp.1⟩                                 -- lSdRead
  next hs => rw [hp.2.2.2] at hs; cases hs                             -- lSdWrite: `seen` is `none`
  · exact ⟨⟨_, rfl, upd_same ..⟩, hp.2.1⟩                              -- lSdWrite
  · exact ⟨hp.1, Nat.le_trans (touch_length_le ..) (Nat.succ_le_succ hp.2)⟩   -- xTouch
  · split                                                              -- xLen
    next hlen => exact ⟨hp.1, hp.2, fun h => by rw [h] at hlen; cases hlen⟩
    next hlen => exact ⟨hp.1, Nat.le_of_not_gt hlen⟩
  next hs => exact ⟨hp.1, Nat.le_of_succ_le_succ (by simpa [hs] using hp.2.1)⟩   -- xEvict
  · exact hG.lenFree ‹_›                                               -- gAcq
  · exact ⟨fun _ h => h, id, hp⟩                                       -- gGet
  · exact pcInv_test hp                                                -- gTest
  next hr => exact ⟨hp.1, hp.2, (absurd hr ·)⟩                         -- gAlloc: `None`
  · exact hp.2                                                         -- gAlloc: `nocache` raises
  next hl => exact ⟨hp.1, hp.2, fun _ => ⟨_, rfl, hG.sharedInited _ (lookup_mem hl)⟩⟩   -- gAlloc: a shared object
  next hr _ => exact ⟨hp.1, hp.2, ⟨_, rfl⟩, by rw [hr]; nofun⟩         -- gAlloc: the shared slot is still empty
  next hr _ _ => exact ⟨hp.1, hp.2, ⟨_, rfl⟩, hr⟩                      -- gAlloc: a new zone
  · exact ⟨hp.1, hp.2.1, fun _ => ⟨_, rfl, List.mem_cons_self⟩⟩        -- gInit
  · split                                                              -- gCheck
    next hc =>
      refine ⟨hp.1, hp.2.1, hp.2.2 fun hn => ?_⟩
      rw [hn] at hc; simp [Res.slot?] at hc
    · exact hp.2.1
  next i hi => exact ⟨⟨i, hi, upd_same ..⟩, hp.2.1⟩                    -- gStore
  · split                                                              -- sLoop
    next hlen => exact ⟨hp, fun h => by rw [h] at hlen; cases hlen⟩
    next hlen => exact hp ▸ Nat.le_of_not_gt hlen
  · exact hp.1                                                         -- sPop
  · exact Nat.zero_le _                                                -- cStrong
  · exact ⟨_, rfl⟩                                                     -- fAlloc
  · split                                                              -- uTest
    · trivial
    next hn => exact fun h => hn (Option.isNone_iff_eq_none.mpr h)
  · exact ⟨_, rfl⟩                                                     -- uAlloc
  next i hi => exact ⟨i, hi, List.mem_cons_self⟩                       -- uInit
  · nofun                                                              -- uStore

theorem tstep_ti (hG : GI kd g) (hT : TI kd res t g th) (h : tstep kd res t g th = some (g', th')) :
    TI kd res t g' th' :=
  have hc := tstep_control hT.lockIff hT.kind h
  have hb := tstep_bounds hG hT.instLt hT.tmpLt hT.seenLt h
  ⟨hc.1, hc.2, hb.1, hb.2.1, hb.2.2, tstep_pcInv hG hT.pc h⟩

theorem tstep_gi (hG : GI kd g) (hT : TI kd res t g th) (h : tstep kd res t g th = some (g', th')) :
    GI kd g' := by
  obtain ⟨hl, hk, hil, htl, -, hp⟩ := hT
  revert h
  fun_cases tstep kd res t g th <;> intro h <;> cases h <;>
    first
    | exact hG
    | exact hG.setLog _
    | exact hG.alloc
    | exact hG.acquire t
    | simp only [‹th.pc = _›, pcInv] at hl hk hp
  -- what is left changes the maps or the size, or releases the lock: statements under the lock
  all_goals try have hL : g.lock ≠ none := fun hn => by rw [hl.mp rfl] at hn; cases hn
  next i hi => exact hG.init (htl i hi) none                                            -- lInit
  next i hi _ =>                                                                        -- lSdWrite
    obtain ⟨hw, -, ⟨_, hi', hin⟩, -⟩ := hp
    cases hi.symm.trans hi'
    exact hG.setWeak hw hin (htl i hi)
  next i hi => exact hG.setStrong (touch_snd_lt hG.strongLt (hil i hi)) (absurd · hL)   -- xTouch
  next hs => exact hG.setStrong (fun e he => hG.strongLt e (hs ▸ List.mem_cons_of_mem _ he)) (absurd · hL)   -- xEvict
  next i hi =>                                                                          -- xRel
    obtain ⟨⟨_, hi', hw⟩, hlen⟩ := hp
    cases hi.symm.trans hi'
    exact (hG.release hlen).addHeld ⟨_, i, _, _, _⟩ rfl (fun _ => hw) (hil i hi)
  · exact (hG.release hp).setLog _                                                      -- xRelX
  next i hi => exact hG.init (htl i hi) _                                               -- gInit
  next i hi =>                                                                          -- gStore
    obtain ⟨hw, -, _, hi', hin⟩ := hp
    cases hi.symm.trans hi'
    exact hG.setWeak hw hin (hil i hi)
  · exact hG.release hp                                                                 -- gRelE
  · exact hG.setCap _ hL                                                                -- sSet
  next hs => exact hG.setStrong (fun e he => hG.strongLt e (hs ▸ List.mem_cons_of_mem _ he)) (absurd · hL)   -- sPop
  · exact hG.release hp                                                                 -- sRel
  · exact hG.resetWeak                                                                  -- cWeak
  · exact hG.setStrong nofun (absurd · hL)                                              -- cStrong
  · exact hG.release hp                                                                 -- cRel
  next i hi => exact hG.init (htl i hi) _                                               -- fInit
  next i hi => exact hG.init (htl i hi) none                                            -- uInit
  next i hi => exact hG.setSingle (htl i hi)                                            -- uStore
  next i hi => exact (hG.addHeld ⟨_, i, _, _, _⟩ rfl (absurd hk) (hG.singleLt i hi)).setLog _   -- uRet


theorem ti_transfer {t' : Tid} {th2 : Thread} (hT : TI kd res t' g th2)
    (hlock : g'.lock = some t' ↔ g.lock = some t')
    (hkeep : g.lock = some t' → g'.strong = g.strong ∧ g'.cap = g.cap)
    (hsome : ∀ i, th2.inst = some i → g.weak th2.key = some i → g.lock = some t' →
              g'.weak th2.key = some i)
    (hnone : g.weak th2.key = none → g.lock = some t' → g'.weak th2.key = none)
    (gx : g.next ≤ g'.next) (gi : ∀ i ∈ g.inited, i ∈ g'.inited) (gs : g.single ≠ none → g'.single ≠ none) :
    TI kd res t' g' th2 := by
  obtain ⟨hl, hk, hil, htl, hsl, hp⟩ := hT
  refine ⟨by rw [hlock]; exact hl, hk, fun i h => Nat.lt_of_lt_of_le (hil i h) gx,
          fun i h => Nat.lt_of_lt_of_le (htl i h) gx, fun i h => Nat.lt_of_lt_of_le (hsl i h) gx, ?_⟩
  cases hpc : th2.pc <;> simp only [hpc, pcInv] at hp ⊢
  -- outside the critical sections the assertions only speak of finished constructions and the singleton slot
  case fInit | uInit => exact hp
  case uStore => exact hp.imp fun i h => ⟨h.1, gi i h.2⟩
  case uRet => exact gs hp
  -- inside, the strong cache and its size are the thread's own, and so is the weak entry of its key
  all_goals
    have hL : g.lock = some t' := hl.mp (by rw [hpc]; rfl)
    obtain ⟨e1, e2⟩ := hkeep hL
    simp only [e1, e2]
  case lGet | xRelX | gGet | gRelE | sLoop | sPop | sRel | cRel => exact hp
  case lTest | gTest => exact ⟨fun i hi => hsome i hi (hp.1 i hi) hL, fun hn => hnone (hp.2.1 hn) hL, hp.2.2⟩
  case lAlloc | lInit | gAlloc | gInit => exact ⟨hnone hp.1 hL, hp.2⟩
  case lSdRead | gStore => exact ⟨hnone hp.1 hL, hp.2.1, hp.2.2.imp fun i h => ⟨h.1, gi i h.2⟩⟩
  case lSdWrite => exact ⟨hnone hp.1 hL, hp.2.1, hp.2.2.1.imp fun i h => ⟨h.1, gi i h.2⟩, hp.2.2.2⟩
  case gCheck => exact ⟨hnone hp.1 hL, hp.2.1, fun hr => (hp.2.2 hr).imp fun i h => ⟨h.1, gi i h.2⟩⟩
  case xTouch | xLen | xEvict | xRel => exact ⟨hp.1.imp fun i h => ⟨h.1, hsome i h.1 h.2 hL⟩, hp.2⟩

theorem ti_stable {t' : Tid} {th2 : Thread} (hT : TI kd res t' g th2) (hne : t ≠ t') (hGu : Guar kd t g g') :
    TI kd res t' g' th2 := by
  have hnl : g.lock = some t' → g.lock ≠ some t := fun h => by rw [h]; exact fun h => hne (Option.some.inj h).symm
  refine ti_transfer hT ?_ (fun h => ⟨(hGu.noLock (hnl h)).1, (hGu.noLock (hnl h)).2.1⟩)
    (fun i _ hki hc => (hGu.weak_eq (hnl hc) _).trans hki) (fun hkn hc => (hGu.weak_eq (hnl hc) _).trans hkn)
    hGu.next hGu.inited hGu.single
  -- `t` neither takes the lock from `t'` nor hands it over
  by_cases h : g.lock = some t
  · have h1 : g.lock ≠ some t' := by rw [h]; exact fun h => hne (Option.some.inj h)
    rcases hGu.hasLock h with h' | h' <;> rw [h']
    · exact ⟨fun h => absurd (Option.some.inj h) hne, (absurd · h1)⟩
    · exact ⟨nofun, (absurd · h1)⟩
  · obtain ⟨_, _, _, h' | ⟨h1, h2⟩⟩ := hGu.noLock h
    · rw [h']
    · rw [h1, h2]
      exact ⟨fun h => absurd (Option.some.inj h) hne, nofun⟩


theorem tstep_sw (hF : g.lock = none → SW g) (hS : TS g th) (hT : TI kd res t g th)
    (h : tstep kd res t g th = some (g', th')) : TS g' th' ∧ (g'.lock = none → SW g') := by
  obtain ⟨hl, -, -, -, -, hp⟩ := hT
  unfold TS at hS ⊢
  revert h
  fun_cases tstep kd res t g th <;> intro h <;> cases h <;> rw [‹th.pc = _›] at hl hS <;>
    first
    -- outside the critical sections, before and after
    | exact ⟨(absurd · Bool.false_ne_true), hF⟩
    -- the free lock is taken
    | exact ⟨fun _ _ => hF ‹_›, (absurd · (Option.some_ne_none t))⟩
    -- inside: the maps stay as they are …
    | exact ⟨fun _ _ => hS rfl (by decide), fun _ => hS rfl (by decide)⟩
    -- … or one of them changes, and the lock is kept
    | (have hL : g.lock ≠ none := fun hn => by rw [hl.mp rfl] at hn; cases hn
       refine ⟨fun _ _ => ?_, (absurd · hL)⟩
       simp only [‹th.pc = _›, pcInv] at hp)
    | skip
  · cases kd <;> exact ⟨(absurd · Bool.false_ne_true), hF⟩                       -- idle: a call starts
  · exact ⟨fun h => by (rw [‹th.pc = _›] at h; cases h), hF⟩                     -- idle: no `set_cache_size` in this class
  · exact ⟨fun h => by (rw [‹th.pc = _›] at h; cases h), hF⟩                     -- idle: no `cache_clear`
  · exact sw_upd (hS rfl (by decide)) hp.1                                       -- lSdWrite
  next i hi _ _ =>                                                               -- xTouch
    obtain ⟨⟨_, hi', hw⟩, -⟩ := hp
    cases hi.symm.trans hi'
    exact sw_touch (hS rfl (by decide)) hw
  next hs _ _ => exact (hS rfl (by decide)).tail hs                              -- xEvict
  · exact sw_upd (hS rfl (by decide)) hp.1                                       -- gStore
  next hs _ _ => exact (hS rfl (by decide)).tail hs                              -- sPop
  next hne => exact absurd rfl hne                                               -- cWeak: the exempted pc follows
  · exact nofun                                                                  -- cStrong
  · split <;> exact ⟨(absurd · Bool.false_ne_true), hF⟩                          -- uTest


theorem ts_stable {t' : Tid} {th2 : Thread} (hS : TS g th2) (hT : TI kd res t' g th2) (hne : t ≠ t')
    (hGu : Guar kd t g g') : TS g' th2 := by
  intro hin hnc e he
  have hnl : g.lock ≠ some t := by rw [hT.lockIff.mp hin]; exact fun h => hne (Option.some.inj h).symm
  rw [hGu.weak_eq hnl]
  exact hS hin hnc e ((hGu.noLock hnl).1 ▸ he)

end Fact
