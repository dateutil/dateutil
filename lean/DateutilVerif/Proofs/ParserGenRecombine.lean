/-
  Proofs/ParserGenRecombine.lean — `parser._recombine_skipped` re-translated from /repo's parser/_parser.py
  (Generated/ParserOps.lean: `Gen.P.recombineSkipped`, its `for i, idx in enumerate(sorted(skipped_idxs))` loop a recursion
  over the sorted list) = `PM.recombineSkipped` (Model/Parser.lean), for every token list and every list of indices
  (any order, repeats, out of range).
-/
import DateutilVerif.Proofs.ParserGenNum

namespace PGen
open PM Py

theorem getIdx_last (r : List Token) (last : Token) : PPy.toksAt (r ++ [last]) (-1) = .ok last := by
  unfold PPy.toksAt Py.getIdx
  have h1 : ((-1 : Int) < 0) := by omega
  simp only [h1, if_true, List.length_append, List.length_singleton]
  have h2 : ¬ ((-1 : Int) + ((r.length + 1 : Nat) : Int) < 0 ∨ (-1 : Int) + ((r.length + 1 : Nat) : Int) ≥ ((r.length + 1 : Nat) : Int)) := by
    omega
  simp only [h2, if_false]
  have h3 : ((-1 : Int) + ((r.length + 1 : Nat) : Int)).toNat = r.length := by omega
  rw [h3]
  simp

theorem toksAt_nil_last : PPy.toksAt ([] : List Token) (-1) = .error .IndexError := by
  unfold PPy.toksAt Py.getIdx; simp

theorem getIdx_nat (l : List Nat) (k : Nat) (h : k < l.length) : Py.getIdx l ((k : Nat) : Int) = .ok l[k] := by
  unfold Py.getIdx
  have h1 : ¬ ((k : Int) < 0) := by omega
  have h2 : ¬ ((k : Int) < 0 ∨ (k : Int) ≥ (l.length : Int)) := by omega
  simp only [h1, if_false]
  simp [h]

theorem tokAt_err (l : List Token) (k : Nat) (e : PyErr) (h : PM.tokAt l k = .error e) : e = .IndexError := by
  unfold PM.tokAt at h
  split at h
  · cases h
  · injection h with h; exact h.symm

theorem recombine_loop_eq (info : Info) (tokens : List Token) (skipped : List Nat) :
    ∀ (items : List Nat) (i : Nat) (acc : List Token), i + items.length ≤ skipped.length →
      Gen.P.recombineSkipped_loop info skipped tokens items i acc = PM.recombineSkipped.go tokens skipped items i acc := by
  intro items
  induction items with
  | nil => intro i acc _; rfl
  | cons idx rest ih =>
    intro i acc hlen
    simp only [List.length_cons] at hlen
    rw [Gen.P.recombineSkipped_loop, PM.recombineSkipped.go]
    have hrec := fun acc' => ih (i + 1) acc' (by omega)
    by_cases hi : i > 0
    · have hk : i - 1 < skipped.length := by omega
      have e1 : (i : Int) - (1 : Int) = ((i - 1 : Nat) : Int) := by omega
      have hcond : (((idx : Int) - (1 : Int)) = ((skipped[i - 1] : Nat) : Int)) ↔
          ((skipped[i - 1]?).map (· + 1) = some idx) := by
        rw [List.getElem?_eq_getElem hk]
        simp only [Option.map_some, Option.some.injEq]
        omega
      simp only [hi, if_true, e1, getIdx_nat skipped (i - 1) hk, bind_ok, true_and, bind_eq, toksAt_eq]
      by_cases hc : (((idx : Int) - (1 : Int)) = ((skipped[i - 1] : Nat) : Int))
      · have hc' := hcond.mp hc
        simp only [hc, hc', decide_true, if_true]
        cases hr : acc.reverse with
        | nil =>
          have : acc = [] := by simpa using hr
          subst this
          simp only [toksAt_nil_last, bind_err]
          cases ht : PM.tokAt tokens idx with
          | error e => have := tokAt_err _ _ _ ht; subst this; rfl
          | ok t => rfl
        | cons last revInit =>
          have hacc : acc = revInit.reverse ++ [last] := by
            have := congrArg List.reverse hr
            simpa using this
          rw [hacc, getIdx_last]
          simp only [bind_ok]
          cases ht : PM.tokAt tokens idx with
          | error e => rfl
          | ok t =>
            simp only [bind_ok, PPy.toksSetLast, List.reverse_append, List.reverse_cons, List.reverse_nil, List.nil_append,
              List.reverse_reverse, List.singleton_append, hrec]
      · have hc' : ¬ ((skipped[i - 1]?).map (· + 1) = some idx) := fun h => hc (hcond.mpr h)
        simp only [hc, hc', decide_false, if_false, Bool.false_eq_true]
        cases ht : PM.tokAt tokens idx with
        | error e => rfl
        | ok t => simp only [bind_ok, hrec]
    · simp only [hi, if_false, bind_ok, false_and, Bool.false_eq_true, bind_eq, toksAt_eq]
      cases ht : PM.tokAt tokens idx with
      | error e => rfl
      | ok t => simp only [bind_ok, hrec]

/-- `parser._recombine_skipped` = `PM.recombineSkipped` -/
theorem recombineSkipped_eq (info : Info) (tokens : List Token) (skipped : List Nat) :
    Gen.P.recombineSkipped info tokens skipped = PM.recombineSkipped tokens skipped := by
  unfold Gen.P.recombineSkipped PM.recombineSkipped PPy.sortedNat
  simp only [bind_ok_id]
  exact recombine_loop_eq info tokens skipped _ 0 [] (by simp [List.length_mergeSort])

end PGen
