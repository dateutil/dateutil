/- Proofs/IsoSoundTime.lean — inversion of the `_parse_isotime` loop: every accepting path reconstructs a time
   form, its fields and (through `parseTzstr_sound`) an offset form. -/
import DateutilVerif.Proofs.IsoSoundDate
namespace Iso
open Cal IsoSpec Py

/-- how the loop ends once the numeric components are read: at the end of the string, or at a zone
    designator that `_parse_tzstr` accepts -/
def TailRes (r : Bytes) (c c' : TComps) : Prop :=
  (r = [] ∧ c' = c) ∨ (∃ tz, r ≠ [] ∧ parseTzstr r true = .ok tz ∧ c' = { c with tz := some tz })

/-- an iteration that ends the loop: the input is exhausted or a zone designator follows -/
theorem loop_ends (k : Nat) (hk : k ≠ 0) (ks : List Nat) (r : Bytes) (hs : Bool) (c c' : TComps)
    (hend : r = [] ∨ isTzStart r = true) (h : timeLoop (k :: ks) r hs c = .ok (c', [])) : TailRes r c c' := by
  unfold timeLoop at h
  by_cases hr : r = []
  · rw [if_pos hr] at h; cases h; exact Or.inl ⟨hr, rfl⟩
  · rw [if_neg hr, if_pos (hend.resolve_left hr), if_neg hk] at h
    cases hp : parseTzstr r true with
    | error e => rw [hp] at h; cases h
    | ok tz => rw [hp] at h; cases h; exact Or.inr ⟨tz, hr, hp, rfl⟩

/-- an iteration that reads a two-digit component: what the separator bookkeeping left is the printing of a number
    and the loop goes on behind it -/
theorem loop_digits (k : Nat) (hk : k < 3) (ks : List Nat) (r : Bytes) (hs : Bool) (c c' : TComps)
    (hr : r ≠ []) (htz : isTzStart r = false) (h : timeLoop (k :: ks) r hs c = .ok (c', [])) :
    ∃ r1 hs1 n, sepStep k r hs = .ok (r1, hs1) ∧ n < 100 ∧ r1 = pad2 n ++ r1.drop 2 ∧
      timeLoop ks (r1.drop 2) hs1 (setComp c k n) = .ok (c', []) := by
  unfold timeLoop at h
  rw [if_neg hr, if_neg (by simp [htz])] at h
  cases hss : sepStep k r hs with
  | error e => rw [hss] at h; cases h
  | ok p =>
    obtain ⟨r1, hs1⟩ := p
    rw [hss] at h
    simp only [] at h
    rw [if_pos hk] at h
    cases hd : parseDigits (r1.take 2) 2 with
    | error e => rw [hd] at h; cases h
    | ok v =>
      obtain ⟨n, hn, rfl, e⟩ := take_digits2 _ v hd
      rw [hd] at h
      exact ⟨r1, hs1, n, rfl, hn, e, h⟩

theorem step0_inv (ks : List Nat) (r : Bytes) (hs : Bool) (c c' : TComps) (hr : r ≠ [])
    (h : timeLoop (0 :: ks) r hs c = .ok (c', [])) :
    ∃ (n : Nat), n < 100 ∧ r = pad2 n ++ r.drop 2 ∧
      timeLoop ks (r.drop 2) hs { c with h := n } = .ok (c', []) := by
  by_cases htz : isTzStart r = true
  · unfold timeLoop at h; rw [if_neg hr, if_pos htz, if_pos rfl] at h; cases h
  · obtain ⟨r1, hs1, n, hss, hn, e, h⟩ := loop_digits 0 (by decide) ks r hs c c' hr (by simpa using htz) h
    cases hss
    exact ⟨n, hn, e, h⟩

/-- the minute: after an optional colon, which sets `has_sep` -/
theorem step1_inv (ks : List Nat) (r : Bytes) (c c' : TComps)
    (h : timeLoop (1 :: ks) r false c = .ok (c', [])) :
    TailRes r c c' ∨
    ∃ (ext : Bool) (n : Nat) (rest : Bytes), n < 100 ∧ r = colon ext ++ (pad2 n ++ rest) ∧
      timeLoop ks rest ext { c with m := n } = .ok (c', []) := by
  by_cases hend : r = [] ∨ isTzStart r = true
  · exact Or.inl (loop_ends 1 (by decide) ks r false c c' hend h)
  · obtain ⟨r1, hs1, n, hss, hn, e, h⟩ :=
      loop_digits 1 (by decide) ks r false c c' (fun hr => hend (Or.inl hr)) (by simpa using fun ht => hend (Or.inr ht)) h
    refine Or.inr ?_
    unfold sepStep at hss
    by_cases hcol : r.take 1 = [cColon]
    · rw [if_pos ⟨rfl, hcol⟩] at hss; cases hss
      exact ⟨true, n, _, hn, (take1_eq_cons hcol).trans (congrArg (cColon :: ·) e), h⟩
    · rw [if_neg (fun hc => hcol hc.2), if_neg (fun hc => absurd hc.1 (by decide))] at hss; cases hss
      exact ⟨false, n, _, hn, e, h⟩

/-- the second: after a colon exactly if `has_sep` -/
theorem step2_inv (ext : Bool) (ks : List Nat) (r : Bytes) (c c' : TComps)
    (h : timeLoop (2 :: ks) r ext c = .ok (c', [])) :
    TailRes r c c' ∨
    ∃ (n : Nat) (rest : Bytes), n < 100 ∧ r = colon ext ++ (pad2 n ++ rest) ∧
      timeLoop ks rest ext { c with s := n } = .ok (c', []) := by
  by_cases hend : r = [] ∨ isTzStart r = true
  · exact Or.inl (loop_ends 2 (by decide) ks r ext c c' hend h)
  · obtain ⟨r1, hs1, n, hss, hn, e, h⟩ :=
      loop_digits 2 (by decide) ks r ext c c' (fun hr => hend (Or.inl hr)) (by simpa using fun ht => hend (Or.inr ht)) h
    refine Or.inr ?_
    unfold sepStep at hss
    rw [if_neg (fun hc => absurd hc.1 (by decide))] at hss
    cases ext
    · rw [if_neg (fun hc => absurd hc.2 (by decide))] at hss; cases hss
      exact ⟨n, _, hn, e, h⟩
    · rw [if_pos ⟨rfl, rfl⟩] at hss
      by_cases hcol : r.take 1 = [cColon]
      · rw [if_neg (not_not_intro hcol)] at hss; cases hss
        exact ⟨n, _, hn, (take1_eq_cons hcol).trans (congrArg (cColon :: ·) e), h⟩
      · rw [if_pos hcol] at hss; cases hss

theorem takeWhile_split (p : Nat → Bool) (l : List Nat) :
    l = l.takeWhile p ++ l.drop (l.takeWhile p).length ∧ (l.takeWhile p).all p = true := by
  induction l with
  | nil => simp
  | cons a t ih =>
    by_cases hp : p a = true
    · simp only [List.takeWhile_cons_of_pos hp, List.length_cons, List.drop_succ_cons, List.cons_append,
        List.all_cons, hp, Bool.true_and]
      exact ⟨congrArg _ ih.1, ih.2⟩
    · simp [List.takeWhile_cons_of_neg hp]

theorem matchFraction_inv (r ds rest : Bytes) (h : matchFraction r = some (ds, rest)) :
    ∃ mark, (mark = 46 ∨ mark = 44) ∧ r = mark :: (ds ++ rest) ∧ ds ≠ [] ∧ ds.all isDigit = true := by
  cases r with
  | nil => simp [matchFraction] at h
  | cons b t =>
    simp only [matchFraction] at h
    by_cases hb : b = cDot ∨ b = cComma
    · rw [if_pos hb] at h
      by_cases hd : t.takeWhile isDigit = []
      · simp [hd] at h
      · simp only [hd, if_false, Option.some.injEq, Prod.mk.injEq] at h
        obtain ⟨rfl, rfl⟩ := h
        have sp := takeWhile_split isDigit t
        exact ⟨b, by simpa [cDot, cComma] using hb, by rw [← sp.1], hd, sp.2⟩
    · rw [if_neg hb] at h; cases h

/-- iterations 4 and 5 read nothing: with input left that is not a zone designator the loop
    ends with that input unused -/
theorem idle_nontz (ks : List Nat) (hk : ∀ k ∈ ks, 4 ≤ k) (r : Bytes) (hs : Bool) (c c' : TComps)
    (rest : Bytes) (hr : r ≠ []) (htz : isTzStart r = false)
    (h : timeLoop ks r hs c = .ok (c', rest)) : rest = r := by
  induction ks with
  | nil => unfold timeLoop at h; cases h; rfl
  | cons k ks ih =>
    have hk4 : 4 ≤ k := hk k (by simp)
    unfold timeLoop at h
    rw [if_neg hr, if_neg (by simp [htz])] at h
    have h1 : ¬ (k = 1) := by omega
    have h2 : ¬ (k = 2) := by omega
    have h3 : ¬ (k < 3) := by omega
    have h4 : ¬ (k = 3) := by omega
    simp [sepStep, h1, h2, h3, h4] at h
    exact ih (fun k hk' => hk k (by simp [hk'])) h

theorem idle_inv (ks : List Nat) (hk : ∀ k ∈ ks, 4 ≤ k) (r : Bytes) (hs : Bool) (c c' : TComps)
    (h : timeLoop ks r hs c = .ok (c', [])) : TailRes r c c' := by
  by_cases hend : r = [] ∨ isTzStart r = true
  · cases ks with
    | nil => unfold timeLoop at h; cases h; exact Or.inl ⟨rfl, rfl⟩
    | cons k ks => exact loop_ends k (by have := hk k (by simp); omega) ks r hs c c' hend h
  · have := idle_nontz ks hk r hs c c' [] (fun hr => hend (Or.inl hr)) (by simpa using fun ht => hend (Or.inr ht)) h
    exact absurd (Or.inl this.symm) hend

/-- `int(us_str) * 10**(6 - len(us_str))` for `us_str = group(1)[:6]` -/
def usOf (ds : Bytes) : Int := ((digitsVal (ds.take 6) * 10 ^ (6 - (ds.take 6).length) : Nat) : Int)

theorem step3_inv (ks : List Nat) (hk : ∀ k ∈ ks, 4 ≤ k) (r : Bytes) (hs : Bool) (c c' : TComps)
    (h : timeLoop (3 :: ks) r hs c = .ok (c', [])) :
    TailRes r c c' ∨
    (∃ mark ds rest, (mark = 46 ∨ mark = 44) ∧ r = mark :: (ds ++ rest) ∧ ds ≠ [] ∧ ds.all isDigit = true ∧
      TailRes rest { c with us := usOf ds } c') := by
  by_cases hend : r = [] ∨ isTzStart r = true
  · exact Or.inl (loop_ends 3 (by decide) ks r hs c c' hend h)
  have hr : r ≠ [] := fun hr => hend (Or.inl hr)
  have htz : isTzStart r = false := by simpa using fun ht => hend (Or.inr ht)
  have hss : sepStep 3 r hs = .ok (r, hs) := by
    unfold sepStep
    rw [if_neg (fun hc => absurd hc.1 (by decide)), if_neg (fun hc => absurd hc.1 (by decide))]
  unfold timeLoop at h
  rw [if_neg hr, if_neg (by simp [htz]), hss] at h
  simp only [Nat.lt_irrefl, if_false, if_true] at h
  cases hm : matchFraction r with
  | none =>
    rw [hm] at h
    exact absurd (Or.inl (idle_nontz ks hk r hs c c' [] hr htz h).symm) hend
  | some p =>
    obtain ⟨ds, rest⟩ := p
    rw [hm] at h
    obtain ⟨mark, hmk, er, hne, hd⟩ := matchFraction_inv r ds rest hm
    exact Or.inr ⟨mark, ds, rest, hmk, er, hne, hd, idle_inv ks hk rest hs _ c' h⟩

/-- the components as the spec shows them -/
def shownComps (tf : TimeForm) (xt : Fields) : TComps :=
  { h := (timeShown tf xt).1, m := (timeShown tf xt).2.1, s := (timeShown tf xt).2.2.1,
    us := (timeShown tf xt).2.2.2 }

/-- what the time scanner has established about the numeric part -/
def TimeScan (tf : TimeForm) (xt : Fields) : Prop :=
  tf ≠ .none ∧ xt.hh < 100 ∧ xt.mm < 100 ∧ xt.ss < 100 ∧
  (tf.hasFrac = true → xt.frac ≠ [] ∧ ∀ d ∈ xt.frac, d ≤ 9)

theorem timeLoop_inv (s : Bytes) (c' : TComps) (hl : ¬ s.length < 2)
    (h : timeLoop [0, 1, 2, 3, 4, 5] s false {} = .ok (c', [])) :
    ∃ (tf : TimeForm) (xt : Fields) (r : Bytes), TimeScan tf xt ∧ s = renderTime tf xt ++ r ∧
      TailRes r (shownComps tf xt) c' := by
  have hs0 : s ≠ [] := by intro e; subst e; simp at hl
  obtain ⟨n0, hn0, e0, h⟩ := step0_inv _ s false {} c' hs0 h
  generalize s.drop 2 = r1 at h e0
  rcases step1_inv _ r1 _ c' h with hT | ⟨ext, n1, r2, hn1, e1, h⟩
  · exact ⟨.h, { year := 0, hh := n0 }, r1, ⟨by simp, hn0, by simp, by simp, by simp [TimeForm.hasFrac]⟩,
      by rw [e0]; rfl, hT⟩
  rcases step2_inv ext _ r2 _ c' h with hT | ⟨n2, r3, hn2, e2, h⟩
  · refine ⟨hmForm ext, { year := 0, hh := n0, mm := n1 }, r2,
      ⟨by cases ext <;> simp [hmForm], hn0, hn1, by simp, by cases ext <;> simp [hmForm, TimeForm.hasFrac]⟩, ?_, ?_⟩
    · rw [renderTime_hmForm, e0, e1]; simp
    · cases ext <;> exact hT
  rcases step3_inv [4, 5] (by intro k hk; simp at hk; omega) r3 _ _ c' h with hT | ⟨mark, ds, rest, hmk, e3, hne, hd, hT⟩
  · refine ⟨hmsForm ext, { year := 0, hh := n0, mm := n1, ss := n2 }, r3,
      ⟨by cases ext <;> simp [hmsForm], hn0, hn1, hn2, by cases ext <;> simp [hmsForm, TimeForm.hasFrac]⟩, ?_, ?_⟩
    · rw [renderTime_hmsForm, e0, e1, e2]; simp
    · cases ext <;> exact hT
  · obtain ⟨hmd, h9⟩ := map_dch_sub ds hd
    have hcm : fracMark (decide (mark = 44)) = mark := by rcases hmk with rfl | rfl <;> simp [fracMark]
    refine ⟨hmsfForm ext (decide (mark = 44)), { year := 0, hh := n0, mm := n1, ss := n2, frac := ds.map (· - 48) },
      rest, ⟨by cases ext <;> simp [hmsfForm], hn0, hn1, hn2, fun _ => ⟨by simpa using hne, h9⟩⟩, ?_, ?_⟩
    · rw [renderTime_hmsfForm, e0, e1, e2, e3]; simp [hcm, hmd]
    · have e : shownComps (hmsfForm ext (decide (mark = 44)))
          { year := 0, hh := n0, mm := n1, ss := n2, frac := ds.map (· - 48) } =
          { h := n0, m := n1, s := n2, us := usOf ds } := by
        have := fracMicros_eq (ds.map (· - 48)) h9
        rw [hmd] at this
        cases ext <;>
          simp only [shownComps, hmsfForm, timeShown, TimeForm.hasM, TimeForm.hasS, TimeForm.hasFrac, if_true, ← this,
            usOf] <;> simp
      rw [e]; exact hT

theorem tailRes_off (r : Bytes) (c c' : TComps) (hc : c.tz = none) (h : TailRes r c c') :
    ∃ (o : OffForm) (xo : Fields), offWF o xo = true ∧ r = renderOff o xo ∧
      c' = { c with tz := offDenote o xo } := by
  rcases h with ⟨rfl, rfl⟩ | ⟨tz, _, hp, rfl⟩
  · refine ⟨.naive, { year := 0 }, rfl, rfl, ?_⟩
    cases c'; simp at hc; subst hc; rfl
  · obtain ⟨o, xo, ho, hw, er, hv⟩ := parseTzstr_sound r true tz hp
    exact ⟨o, xo, hw, er, by rw [offDenote_eq o xo ho, hv]⟩

theorem parseIsotime_inv (s : Bytes) (c : TComps) (h : parseIsotime s = .ok c) :
    ∃ (tf : TimeForm) (xt : Fields) (o : OffForm) (xo : Fields), TimeScan tf xt ∧ offWF o xo = true ∧
      s = renderTime tf xt ++ renderOff o xo ∧
      c = { shownComps tf xt with tz := offDenote o xo } ∧
      (c.h = 24 → c.m = 0 ∧ c.s = 0 ∧ c.us = 0) := by
  unfold parseIsotime at h
  by_cases hl : s.length < 2
  · rw [if_pos hl] at h; cases h
  rw [if_neg hl] at h
  cases hloop : timeLoop [0, 1, 2, 3, 4, 5] s false {} with
  | error e => simp [hloop] at h
  | ok p =>
    obtain ⟨c1, rest⟩ := p
    simp only [hloop] at h
    by_cases hrest : rest = []
    · subst hrest
      rw [if_neg (fun hn => hn rfl)] at h
      by_cases h24 : c1.h = 24 ∧ (c1.m ≠ 0 ∨ c1.s ≠ 0 ∨ c1.us ≠ 0)
      · rw [if_pos h24] at h; cases h
      · rw [if_neg h24] at h
        cases h
        obtain ⟨tf, xt, r, hscan, es, hT⟩ := timeLoop_inv s c hl hloop
        obtain ⟨o, xo, hw, er, hc⟩ := tailRes_off r _ c rfl hT
        exact ⟨tf, xt, o, xo, hscan, hw, by rw [es, er], hc, fun hh => by omega⟩
    · rw [if_pos hrest] at h; cases h
end Iso
