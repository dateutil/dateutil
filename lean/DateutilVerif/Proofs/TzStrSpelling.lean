/-
  Proofs/TzStrSpelling.lean — the spellings of a TZ string covered by `tzstr_render`, as a datatype;
  `render`, the token list, and `tokens (render sp) = tokenList sp`.
-/
import DateutilVerif.Proofs.TzStrTokens

namespace TzStr

/-- a digit token and the value `int()` gives it -/
structure Num where
  tok : String
  val : Int

def Num.Ok (n : Num) : Prop := pyInt n.tok = some n.val

/-- the three spellings of an offset magnitude -/
inductive OffSp where
  | h (n : Num)                          -- `h` / `hh`
  | hhmm (t : String) (a b : Int)        -- four digits
  | colon (a b : Num)                    -- `hh:mm`

structure Off where
  sign : Option Bool                     -- `some true` = "+", `some false` = "-"
  sp : OffSp

inductive RuleSp where
  | M (m w d : Num)
  | J (n : Num)
  | N (n : Num)

inductive TimeSp where
  | h (n : Num)
  | hhmm (t : String) (a b : Int)
  | hm (a b : Num)
  | hms (a b c : Num)

structure Spelling where
  std : String
  stdOff : Off
  dst : String
  dstOff : Option Off
  startRule : RuleSp
  startTime : Option TimeSp
  endRule : RuleSp
  endTime : Option TimeSp

abbrev Chunk := CK × List Char

def numC (n : Num) : Chunk := (.digit, n.tok.toList)
def pC (c : Char) : Chunk := (.punct, [c])

def OffSp.chunks : OffSp → List Chunk
  | .h n => [numC n]
  | .hhmm t _ _ => [(.digit, t.toList)]
  | .colon a b => [numC a, pC ':', numC b]

def signChunks : Option Bool → List Chunk
  | none => []
  | some true => [(.other, ['+'])]
  | some false => [(.other, ['-'])]

def Off.chunks (o : Off) : List Chunk := signChunks o.sign ++ o.sp.chunks

def RuleSp.chunks : RuleSp → List Chunk
  | .M m w d => [(.alpha, ['M']), numC m, pC '.', numC w, pC '.', numC d]
  | .J n => [(.alpha, ['J']), numC n]
  | .N n => [numC n]

def TimeSp.body : TimeSp → List Chunk
  | .h n => [numC n]
  | .hhmm t _ _ => [(.digit, t.toList)]
  | .hm a b => [numC a, pC ':', numC b]
  | .hms a b c => [numC a, pC ':', numC b, pC ':', numC c]

def timeChunks : Option TimeSp → List Chunk
  | none => []
  | some t => (.other, ['/']) :: t.body

def optOffChunks : Option Off → List Chunk
  | none => []
  | some o => o.chunks

def Spelling.chunks (sp : Spelling) : List Chunk :=
  (.alpha, sp.std.toList) :: (sp.stdOff.chunks ++ ((.alpha, sp.dst.toList) :: (optOffChunks sp.dstOff ++
    (pC ',' :: (sp.startRule.chunks ++ (timeChunks sp.startTime ++
      (pC ',' :: (sp.endRule.chunks ++ timeChunks sp.endTime))))))))

def toksOf (cs : List Chunk) : List String := cs.map (fun p => String.ofList p.2)

/-- the string -/
def render (sp : Spelling) : String := String.ofList (sp.chunks.map (·.2)).flatten
/-- its tokens -/
def tokenList (sp : Spelling) : List String := toksOf sp.chunks

def IsAlpha (s : String) : Prop := s.toList ≠ [] ∧ ∀ c ∈ s.toList, ck c = .alpha
def IsDig (s : String) : Prop := s.toList ≠ [] ∧ ∀ c ∈ s.toList, ck c = .digit

def OffSp.Ok : OffSp → Prop
  | .h n => n.Ok ∧ n.tok.length ≤ 2
  | .hhmm t a b => IsDig t ∧ t.length = 4 ∧ pyInt (strTake t 2) = some a ∧ pyInt (strDrop t 2) = some b
  | .colon a b => a.Ok ∧ b.Ok ∧ a.tok.length ≠ 4 ∧ a.tok.length ≤ 2 ∧ b.tok.length ≤ 2     -- `hh:mm`

/-- the day numbers are what the `ydayidx` scan of `relativedelta` accepts (1..366 for `Jn`, 0..365 for `n`, wider than POSIX);
    an `Mm.w.d` rule needs no range: `_delta` builds a relativedelta from any three numbers -/
def RuleSp.Ok : RuleSp → Prop
  | .M m w d => m.Ok ∧ w.Ok ∧ d.Ok
  | .J n => n.Ok ∧ 1 ≤ n.val ∧ n.val ≤ 366
  | .N n => n.Ok ∧ n.val ≤ 365

def TimeSp.Ok : TimeSp → Prop
  | .h n => n.Ok ∧ n.tok.length ≤ 2
  | .hhmm t a b => IsDig t ∧ t.length = 4 ∧ pyInt (strTake t 2) = some a ∧ pyInt (strDrop t 2) = some b
  | .hm a b => a.Ok ∧ b.Ok ∧ a.tok.length ≠ 4
  | .hms a b c => a.Ok ∧ b.Ok ∧ c.Ok ∧ a.tok.length ≠ 4

def optOk {α} (p : α → Prop) : Option α → Prop
  | none => True
  | some x => p x

theorem digit_toNat (c : Char) (h : '0' ≤ c ∧ c ≤ '9') : 48 ≤ c.toNat ∧ c.toNat ≤ 57 := by
  have a := h.1; have b := h.2
  simp only [Char.le_def, UInt32.le_iff_toNat_le] at a b
  have e0 : ('0' : Char).val.toNat = 48 := by decide
  have e9 : ('9' : Char).val.toNat = 57 := by decide
  rw [e0] at a; rw [e9] at b
  exact ⟨a, b⟩

theorem digit_cases (c : Char) (h : '0' ≤ c ∧ c ≤ '9') :
    c ∈ ['0', '1', '2', '3', '4', '5', '6', '7', '8', '9'] := by
  obtain ⟨a, b⟩ := digit_toNat c h
  have key : ∀ n : Fin 10, Char.ofNat (48 + n.val) ∈ ['0', '1', '2', '3', '4', '5', '6', '7', '8', '9'] := by decide
  have := key ⟨c.toNat - 48, by omega⟩
  rwa [show 48 + (c.toNat - 48) = c.toNat by omega, Char.ofNat_toNat] at this

/-- digits ⇒ class digit -/
theorem ck_digit_of (c : Char) (h : '0' ≤ c ∧ c ≤ '9') : ck c = .digit := by
  have := digit_cases c h
  simp only [List.mem_cons, List.not_mem_nil, or_false] at this
  rcases this with e|e|e|e|e|e|e|e|e|e <;> subst e <;> decide
theorem Num.isDig (n : Num) (h : n.Ok) : IsDig n.tok := by
  unfold Num.Ok pyInt at h
  by_cases hd : isDigits n.tok = true
  · unfold isDigits at hd
    simp only [Bool.and_eq_true, Bool.not_eq_true', List.all_eq_true, decide_eq_true_eq] at hd
    refine ⟨?_, fun c hc => ck_digit_of c (hd.2 c hc)⟩
    intro e
    have h1 := hd.1
    have : n.tok = "" := by rw [← String.ofList_toList (s := n.tok), e]
    rw [this] at h1; simp at h1
  · simp [hd] at h

structure WellFormed (sp : Spelling) : Prop where
  std : IsAlpha sp.std
  dst : IsAlpha sp.dst
  stdOff : sp.stdOff.sp.Ok
  dstOff : optOk (fun o : Off => o.sp.Ok) sp.dstOff
  startRule : sp.startRule.Ok
  startTime : optOk TimeSp.Ok sp.startTime
  endRule : sp.endRule.Ok
  endTime : optOk TimeSp.Ok sp.endTime

/-! ### the chunk list of a spelling is good -/

def lastIs (k : CK) (a : List Chunk) : Prop := ∀ x, a.getLast? = some x → x.1 = k
def headNot (k : CK) (b : List Chunk) : Prop := ∀ y, b.head? = some y → y.1 ≠ k

theorem good_cons (k : CK) (cs : List Char) (b : List Chunk) (h : Homog k cs) (hb : GoodChunks b)
    (hx : k = .punct ∨ headNot k b) : GoodChunks ((k, cs) :: b) := by
  cases b with
  | nil => exact h
  | cons q r =>
      obtain ⟨k', cs'⟩ := q
      refine ⟨h, ?_, hb⟩
      rcases hx with e | e
      · exact Or.inr e
      · exact Or.inl (fun e2 => e (k', cs') rfl e2.symm)

theorem good_append (k : CK) : ∀ (a b : List Chunk), GoodChunks a → GoodChunks b → lastIs k a → headNot k b →
    GoodChunks (a ++ b) := by
  intro a
  induction a with
  | nil => intro b _ hb _ _; exact hb
  | cons p t ih =>
      intro b ha hb hl hh
      obtain ⟨kp, cp⟩ := p
      cases t with
      | nil =>
          have e : kp = k := hl (kp, cp) rfl
          subst e
          exact good_cons kp cp b ha hb (Or.inr hh)
      | cons q r =>
          obtain ⟨kq, cq⟩ := q
          have hrec := ih b ha.2.2 hb (by intro x hx; exact hl x (by simpa using hx)) hh
          exact ⟨ha.1, ha.2.1, hrec⟩

theorem homog_dig (t : String) (h : IsDig t) : Homog .digit t.toList := ⟨h.1, h.2, by intro e; cases e⟩
theorem homog_alpha (t : String) (h : IsAlpha t) : Homog .alpha t.toList := ⟨h.1, h.2, by intro e; cases e⟩
theorem homog_num (n : Num) (h : n.Ok) : Homog .digit (numC n).2 := homog_dig _ (n.isDig h)
theorem homog_p (c : Char) (h : ck c = .punct) : Homog .punct [c] :=
  ⟨by simp, by intro x hx; simp at hx; rw [hx]; exact h, fun _ => rfl⟩
theorem homog_o (c : Char) (h : ck c = .other) : Homog .other [c] :=
  ⟨by simp, by intro x hx; simp at hx; rw [hx]; exact h, by intro e; cases e⟩
theorem homog_a (c : Char) (h : ck c = .alpha) : Homog .alpha [c] :=
  ⟨by simp, by intro x hx; simp at hx; rw [hx]; exact h, by intro e; cases e⟩

theorem getLast?_append_ne {α} (a b : List α) (h : b ≠ []) : (a ++ b).getLast? = b.getLast? := by
  cases b with
  | nil => exact absurd rfl h
  | cons x t =>
      rw [List.getLast?_append]
      have : (x :: t).getLast? = some ((x :: t).getLast (by simp)) := List.getLast?_eq_getLast (by simp)
      rw [this]; rfl

/-- digit chunks separated by ":" — the shape of every offset magnitude and time of day -/
def DigRun (L : List Chunk) : Prop :=
  GoodChunks L ∧ lastIs .digit L ∧ headNot .alpha L ∧ headNot .other L ∧ L ≠ []

theorem digRun_one (cs : List Char) (h : Homog .digit cs) : DigRun [(.digit, cs)] :=
  ⟨h, by intro x hx; simp at hx; rw [← hx], by intro y hy; simp at hy; rw [← hy]; simp,
    by intro y hy; simp at hy; rw [← hy]; simp, by simp⟩

theorem digRun_colon (cs : List Char) (h : Homog .digit cs) (L : List Chunk) (hL : DigRun L) :
    DigRun ((.digit, cs) :: pC ':' :: L) := by
  obtain ⟨g, l, _, _, ne⟩ := hL
  refine ⟨good_cons .digit cs _ h (good_cons .punct [':'] _ (homog_p ':' (by decide)) g (Or.inl rfl))
      (Or.inr (by intro y hy; simp [pC] at hy; rw [← hy]; simp)), ?_,
    by intro y hy; simp at hy; rw [← hy]; simp, by intro y hy; simp at hy; rw [← hy]; simp, by simp⟩
  intro x hx
  rw [show ((CK.digit, cs) :: pC ':' :: L) = [(CK.digit, cs), pC ':'] ++ L from rfl, getLast?_append_ne _ _ ne] at hx
  exact l x hx

theorem offsp_good (o : OffSp) (h : o.Ok) : DigRun o.chunks := by
  cases o with
  | h n => exact digRun_one _ (homog_num n h.1)
  | hhmm t a b => exact digRun_one _ (homog_dig t h.1)
  | colon a b => exact digRun_colon _ (homog_num a h.1) _ (digRun_one _ (homog_num b h.2.1))

theorem off_good (o : Off) (h : o.sp.Ok) :
    GoodChunks o.chunks ∧ lastIs .digit o.chunks ∧ headNot .alpha o.chunks ∧ o.chunks ≠ [] := by
  obtain ⟨g, l, hd, hdig, ne⟩ := offsp_good o.sp h
  unfold Off.chunks
  cases hs : o.sign with
  | none => simpa [signChunks] using ⟨g, l, hd, ne⟩
  | some bsign =>
      have hl' : lastIs .digit (signChunks (some bsign) ++ o.sp.chunks) := by
        intro x hx
        rw [getLast?_append_ne _ _ ne] at hx
        exact l x hx
      cases bsign with
      | true =>
          refine ⟨good_cons .other ['+'] _ (homog_o '+' (by decide)) g (Or.inr hdig), hl', ?_, by simp [signChunks]⟩
          intro y hy; simp [signChunks] at hy; rw [← hy]; simp
      | false =>
          refine ⟨good_cons .other ['-'] _ (homog_o '-' (by decide)) g (Or.inr hdig), hl', ?_, by simp [signChunks]⟩
          intro y hy; simp [signChunks] at hy; rw [← hy]; simp

theorem rule_good (r : RuleSp) (h : r.Ok) : GoodChunks r.chunks ∧ lastIs .digit r.chunks ∧ r.chunks ≠ [] := by
  cases r with
  | M m w d =>
      refine ⟨⟨homog_a 'M' (by decide), Or.inl (by simp [numC]), homog_num m h.1, Or.inl (by simp [numC, pC]),
        homog_p '.' (by decide), Or.inr rfl, homog_num w h.2.1, Or.inl (by simp [numC, pC]),
        homog_p '.' (by decide), Or.inr rfl, homog_num d h.2.2⟩,
        by intro x hx; simp [RuleSp.chunks, numC] at hx; rw [← hx], by simp [RuleSp.chunks]⟩
  | J n =>
      exact ⟨⟨homog_a 'J' (by decide), Or.inl (by simp [numC]), homog_num n h.1⟩,
        by intro x hx; simp [RuleSp.chunks, numC] at hx; rw [← hx], by simp [RuleSp.chunks]⟩
  | N n =>
      exact ⟨homog_num n h.1, by intro x hx; simp [RuleSp.chunks, numC] at hx; rw [← hx], by simp [RuleSp.chunks]⟩

theorem body_good (t : TimeSp) (h : t.Ok) : DigRun t.body := by
  cases t with
  | h n => exact digRun_one _ (homog_num n h.1)
  | hhmm t a b => exact digRun_one _ (homog_dig t h.1)
  | hm a b => exact digRun_colon _ (homog_num a h.1) _ (digRun_one _ (homog_num b h.2.1))
  | hms a b c =>
      exact digRun_colon _ (homog_num a h.1) _ (digRun_colon _ (homog_num b h.2.1) _ (digRun_one _ (homog_num c h.2.2.1)))

/-- optional `/time` in front of something that does not start with a digit -/
theorem time_then (t : Option TimeSp) (h : optOk TimeSp.Ok t) (rest : List Chunk) (hr : GoodChunks rest)
    (hd : headNot .digit rest) :
    GoodChunks (timeChunks t ++ rest) ∧ headNot .digit (timeChunks t ++ rest) := by
  cases t with
  | none => exact ⟨hr, hd⟩
  | some t =>
      obtain ⟨g, l, _, ho, ne⟩ := body_good t h
      have g2 := good_append .digit t.body rest g hr l hd
      refine ⟨good_cons .other ['/'] _ (homog_o '/' (by decide)) g2 (Or.inr ?_), ?_⟩
      · intro y hy
        cases hb : t.body with
        | nil => exact absurd hb ne
        | cons q r => rw [hb] at hy; simp at hy; rw [← hy]; exact ho q (by rw [hb]; rfl)
      · intro y hy; simp [timeChunks] at hy; rw [← hy]; simp

theorem comma_head (k : CK) (hk : k ≠ .punct) (rest : List Chunk) : headNot k (pC ',' :: rest) := by
  intro y hy; simp [pC] at hy; rw [← hy]; exact fun e => hk e.symm

/-- **the chunk list of a well-formed spelling is good** -/
theorem chunks_good (sp : Spelling) (h : WellFormed sp) : GoodChunks sp.chunks := by
  unfold Spelling.chunks
  obtain ⟨g5, h5⟩ := time_then sp.endTime h.endTime [] trivial (by intro y hy; simp at hy)
  simp only [List.append_nil] at g5 h5
  obtain ⟨gr2, lr2, _⟩ := rule_good sp.endRule h.endRule
  have g4 := good_append .digit _ _ gr2 g5 lr2 h5
  have g3 := good_cons .punct [','] _ (homog_p ',' (by decide)) g4 (Or.inl rfl)
  obtain ⟨g2, h2⟩ := time_then sp.startTime h.startTime _ g3 (comma_head .digit (by decide) _)
  obtain ⟨gr1, lr1, _⟩ := rule_good sp.startRule h.startRule
  have g1 := good_append .digit _ _ gr1 g2 lr1 h2
  have g0 := good_cons .punct [','] _ (homog_p ',' (by decide)) g1 (Or.inl rfl)
  have gy : GoodChunks (optOffChunks sp.dstOff ++ (pC ',' :: (sp.startRule.chunks ++ (timeChunks sp.startTime ++
      (pC ',' :: (sp.endRule.chunks ++ timeChunks sp.endTime)))))) ∧
      headNot .alpha (optOffChunks sp.dstOff ++ (pC ',' :: (sp.startRule.chunks ++ (timeChunks sp.startTime ++
      (pC ',' :: (sp.endRule.chunks ++ timeChunks sp.endTime)))))) := by
    cases hd : sp.dstOff with
    | none => exact ⟨g0, comma_head .alpha (by decide) _⟩
    | some o =>
        have ho : o.sp.Ok := by have := h.dstOff; rw [hd] at this; exact this
        obtain ⟨go, lo, hho, neo⟩ := off_good o ho
        refine ⟨good_append .digit _ _ go g0 lo (comma_head .digit (by decide) _), ?_⟩
        intro y hy
        cases hc : o.chunks with
        | nil => exact absurd hc neo
        | cons q r => simp [optOffChunks, hc] at hy; rw [← hy]; exact hho q (by rw [hc]; rfl)
  have gz := good_cons .alpha sp.dst.toList _ (homog_alpha _ h.dst) gy.1 (Or.inr gy.2)
  obtain ⟨gso, lso, hso, neso⟩ := off_good sp.stdOff h.stdOff
  have gw := good_append .digit _ _ gso gz lso (by intro y hy; simp at hy; rw [← hy]; simp)
  refine good_cons .alpha sp.std.toList _ (homog_alpha _ h.std) gw (Or.inr ?_)
  intro y hy
  cases hc : sp.stdOff.chunks with
  | nil => exact absurd hc neso
  | cons q r => simp [hc] at hy; rw [← hy]; exact hso q (by rw [hc]; rfl)

/-- **the tokenizer on a rendered spelling** -/
theorem tokens_render (sp : Spelling) (h : WellFormed sp) : tokens (render sp) = tokenList sp :=
  tokens_chunks sp.chunks (chunks_good sp h)

end TzStr
