/-
  Proofs/ParserFuzzySyn.lean — the run hypothesis of `fuzzy_extends_strict_partial` follows from a condition a
  user can check on the text: at most one token of the lexed text is an AM/PM word.
-/
import DateutilVerif.Proofs.ParserFuzzy
import DateutilVerif.Proofs.ParserTotal
import DateutilVerif.Proofs.ParserWrites

namespace PM
open Py

/-- which tokens are AM/PM words -/
def ampFlags (info : Info) (l : List Token) : List Bool := l.map (fun t => (info.ampmOf t).isSome)

/-- number of AM/PM words among the tokens -/
def ampmCount (info : Info) (l : List Token) : Nat := (ampFlags info l).count true

theorem ampFlags_set (info : Info) (l : List Token) (k : Nat) (t : Token)
    (hold : ∀ x, l[k]? = some x → (info.ampmOf x).isSome = (info.ampmOf t).isSome) :
    ampFlags info (l.set k t) = ampFlags info l := by
  unfold ampFlags
  rw [List.map_set]
  apply List.ext_getElem?
  intro j
  by_cases hj : j = k
  · subst hj
    cases hl : l[j]? with
    | none =>
      have : l.length ≤ j := by simpa [List.getElem?_eq_none_iff] using hl
      simp [this]
    | some x =>
      obtain ⟨hlt, hx⟩ := List.getElem?_eq_some_iff.mp hl
      have := hold x hl
      simp [hlt]
      rw [hx]; exact this.symm
  · simp [Ne.symm hj]

/-- two flagged positions force a count of at least two -/
theorem count_two (fl : List Bool) (j i : Nat) (hji : j < i) (hj : fl[j]? = some true) (hi : fl[i]? = some true) :
    2 ≤ fl.count true := by
  have hi' : i < fl.length := (List.getElem?_eq_some_iff.mp hi).1
  have hsplit : fl = fl.take i ++ fl.drop i := (List.take_append_drop i fl).symm
  have h1 : 1 ≤ (fl.take i).count true := by
    have : true ∈ fl.take i := by
      rw [List.mem_iff_getElem?]
      exact ⟨j, by rw [List.getElem?_take]; simp [hji, hj]⟩
    exact List.count_pos_iff.mpr this
  have h2 : 1 ≤ (fl.drop i).count true := by
    have : true ∈ fl.drop i := by
      rw [List.mem_iff_getElem?]
      exact ⟨0, by rw [List.getElem?_drop]; simpa using hi⟩
    exact List.count_pos_iff.mpr this
  rw [hsplit, List.count_append]
  omega

theorem okR_of_goodR {α} {P : α → Prop} {r : R α} (h : GoodR P r) : OkR P r := by
  cases r with
  | ok a => exact .ok h
  | error e => exact .err trivial

attribute [local irreducible] Sat

/-- what one strict iteration can do to the token list and to the AM/PM flag -/
theorem parseStep_track (cls : Char → CClass) (info : Info) (hplus : info.ampmOf ['+'] = none) (hminus : info.ampmOf ['-'] = none)
    (lenL i : Nat) (st : PState) (r : Nat × PState) (hst : st.ymd.WF) (h : parseStep cls info false lenL i st = .ok r) :
    ampFlags info r.2.l = ampFlags info st.l ∧
    (r.2.res.ampm.isSome = true → st.res.ampm.isSome = true ∨ ((st.l[i]?).bind info.ampmOf).isSome = true) := by
  revert r h
  refine OkR.elim ?_
  -- an arm that leaves `l` and the flag as they were
  have keep : ∀ {x : R (Nat × PState)}, OkR (fun r => r.2.l = st.l ∧ r.2.res.ampm = st.res.ampm) x →
      OkR (fun r => ampFlags info r.2.l = ampFlags info st.l ∧
        (r.2.res.ampm.isSome = true → st.res.ampm.isSome = true ∨ ((st.l[i]?).bind info.ampmOf).isSome = true)) x :=
    fun hx => Sat.mono hx (fun a ha => ⟨by rw [ha.1], fun hs => Or.inl (ha.2 ▸ hs)⟩) (fun _ _ => trivial)
  unfold parseStep
  refine Sat.bind (tokAt_sat _ _) fun li hli => Sat.ite' (fun _ => ?_) fun _ => ?_
  · exact Sat.bind (okR_of_goodR (parseNumericToken_good cls info false st.l i st.ymd hst st.res)) fun x hx =>
      keep (.ok ⟨rfl, hx.2.2⟩)
  split
  · exact keep (Sat.ok ⟨rfl, rfl⟩)
  split
  · exact keep (Sat.mono (stepMonth_keeps _ _ _ _ _ _) (fun _ h => ⟨h.1, by rw [h.2]⟩) (fun _ _ => trivial))
  split
  · rename_i ap hap
    refine Sat.mono (stepAmpm_l _ _ _ _) (fun a ha => ⟨by rw [ha], fun _ => Or.inr ?_⟩) (fun _ _ => trivial)
    rw [hli, Option.bind_some, hap]; rfl
  refine Sat.ite' (fun _ => ?_) fun _ => Sat.ite' (fun _ => keep (stepTzoffset_keeps _ _ _ _ _ _)) fun _ =>
    Sat.ite' (fun _ => Sat.err trivial) fun _ => keep (Sat.ok ⟨rfl, rfl⟩)
  -- zone name, possibly flipping the following sign token
  refine Sat.ok ?_
  unfold stepTzname
  dsimp only
  split
  · rename_i l1 hl1
    split
    · rename_i hsign
      refine ⟨ampFlags_set _ _ _ _ fun x hx => ?_, fun hs => Or.inl hs⟩
      have hx1 : st.l[i + 1]? = some l1 := by
        split at hl1
        · exact hl1
        · cases hl1
      rw [hx1] at hx
      cases hx
      rcases hsign with rfl | rfl <;> simp [hplus, hminus]
    · exact ⟨rfl, fun hs => Or.inl hs⟩
  · exact ⟨rfl, fun hs => Or.inl hs⟩

theorem flag_at (info : Info) (l : List Token) (i : Nat) :
    (((l[i]?).bind info.ampmOf).isSome = true) ↔ (ampFlags info l)[i]? = some true := by
  unfold ampFlags
  rw [List.getElem?_map]
  cases l[i]? <;> simp

/-- along the strict scan of a text with at most one AM/PM word, no second marker is ever met -/
theorem smr_of_count (cls : Char → CClass) (info : Info) (hinfo : info.WF) (hplus : info.ampmOf ['+'] = none)
    (hminus : info.ampmOf ['-'] = none) (lenL : Nat) (L0 : List Token) (hc : ampmCount info L0 ≤ 1) :
    ∀ (fuel i skip : Nat) (st : PState), i + fuel = lenL → StWF lenL st → ampFlags info st.l = ampFlags info L0 →
      (st.res.ampm.isSome = true → ∃ j, j < i ∧ (ampFlags info L0)[j]? = some true) →
      singleMarkerRun cls info lenL fuel i skip st = true := by
  intro fuel
  induction fuel with
  | zero => intro i skip st _ _ _ _; rfl
  | succ n ih =>
    intro i skip st hi hwf hfl hseen
    cases skip with
    | succ k =>
      unfold singleMarkerRun
      exact ih (i + 1) k st (by omega) hwf hfl (fun hs => let ⟨j, hj, hf⟩ := hseen hs; ⟨j, by omega, hf⟩)
    | zero =>
      unfold singleMarkerRun
      have hno : NoSecondMarker info st i := by
        unfold NoSecondMarker
        cases ha : st.res.ampm with
        | none => exact Or.inl rfl
        | some a =>
          right
          obtain ⟨j, hj, hf⟩ := hseen (by simp [ha])
          cases hb : (st.l[i]?).bind info.ampmOf with
          | none => rfl
          | some b =>
            exfalso
            have h1 : (ampFlags info L0)[i]? = some true := by
              rw [← hfl]; exact (flag_at info st.l i).mp (by simp [hb])
            have := count_two _ j i hj hf h1
            unfold ampmCount at hc
            omega
      simp only [hno, decide_true, Bool.true_and]
      have hgood := parseStep_good cls info hinfo false lenL i (by omega) st hwf
      cases hs : parseStep cls info false lenL i st with
      | error e => rfl
      | ok r =>
        rw [hs] at hgood
        have hwf' : StWF lenL r.2 := hgood
        obtain ⟨t1, t2⟩ := parseStep_track cls info hplus hminus lenL i st r hwf.ymd hs
        obtain ⟨adv, st'⟩ := r
        refine ih (i + 1) adv st' (by omega) hwf' (t1.trans hfl) ?_
        intro hsome
        rcases t2 hsome with h | h
        · obtain ⟨j, hj, hf⟩ := hseen h
          exact ⟨j, by omega, hf⟩
        · exact ⟨i, by omega, by rw [← hfl]; exact (flag_at info st.l i).mp h⟩

/-- **a condition on the text**: at most one token of the lexed text is an AM/PM word (and `+`, `-` are not AM/PM
    words of this parserinfo) ⇒ the strict scan never meets a second AM/PM marker -/
theorem singleMarkerRun_of_count (cls : Char → CClass) (info : Info) (hinfo : info.WF) (hplus : info.ampmOf ['+'] = none)
    (hminus : info.ampmOf ['-'] = none) (l : List Token) (hc : ampmCount info l ≤ 1) :
    SingleMarkerRun cls info l.length l.length 0 0 { l := l } := by
  unfold SingleMarkerRun
  exact smr_of_count cls info hinfo hplus hminus l.length l hc l.length 0 0 { l := l } (by omega)
    ⟨Ymd.WF_empty, rfl, (by intro i hi; simp at hi), (by intro w hw; simp at hw)⟩ rfl (by intro h; simp at h)

end PM
