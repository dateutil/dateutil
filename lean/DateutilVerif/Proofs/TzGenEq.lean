/- Proofs/TzGenEq.lean — the tzfile lookup functions TRANSLATED from tz/tz.py (Generated/TzKernels.lean, regenerated on
   every run) equal the hand model of Model/Zones.lean on every coherent zone, for datetimes with microseconds. -/
import DateutilVerif.Generated.TzKernels
import DateutilVerif.Proofs.Zones
set_option linter.unusedSimpArgs false
namespace TzGen
open TZ Py DtPy

/-- a datetime whose naive reading is `s` whole seconds plus `f` microseconds -/
def D (s f : Int) (fold att : Bool) : Dt := { us := s * M + f, fold, attached := att }

theorem cmp_lt (s f a : Int) (h0 : 0 ≤ f) (h1 : f < M) : (s * M + f < tsOfInt a) ↔ s < a := by
  unfold tsOfInt M at *; omega

theorem bisectGo_eq (l : List Int) (s f : Int) (h0 : 0 ≤ f) (h1 : f < M) (fuel lo hi : Nat) :
    DtPy.bisectGo l (s * M + f) fuel lo hi = TZ.bisectGo l s fuel lo hi := by
  induction fuel generalizing lo hi with
  | zero => rfl
  | succ n ih =>
    unfold DtPy.bisectGo TZ.bisectGo
    by_cases hlt : lo < hi
    · simp only [hlt, if_true, cmp_lt s f _ h0 h1]
      split <;> exact ih _ _
    · simp only [hlt, if_false]

theorem bisectRight_eq (l : List Int) (s f : Int) (h0 : 0 ≤ f) (h1 : f < M) :
    DtPy.bisectRight l (s * M + f) = (TZ.bisectRight l s : Int) := by
  unfold DtPy.bisectRight TZ.bisectRight; rw [bisectGo_eq l s f h0 h1]

theorem ts_eq (d : Dt) : Gen.datetimeToTimestamp d = .ok d.us := by
  simp [Gen.datetimeToTimestamp, totalSeconds, subDt, naive, EPOCH]

theorem isEmpty_iff (l : List Int) : (l.isEmpty = true) ↔ l = [] := by cases l <;> simp

theorem findLast_utc_eq (z : TzFile) (s f : Int) (fold att : Bool) (h0 : 0 ≤ f) (h1 : f < M) :
    Gen.tzfile_findLastTransition z (D s f fold att) true = .ok (findLastUtc z s) := by
  unfold Gen.tzfile_findLastTransition findLastUtc
  by_cases he : z.transList = []
  · simp [he]
  · have : z.transList.isEmpty = false := List.isEmpty_eq_false_iff.mpr he
    simp only [he, ne_eq, not_false_eq_true, not_true_eq_false, if_false, ts_eq, Except.bind, if_true, this,
      Bool.false_eq_true, D, bisectRight_eq _ s f h0 h1]

theorem findLast_wall_eq (z : TzFile) (s f : Int) (fold att : Bool) (h0 : 0 ≤ f) (h1 : f < M) :
    Gen.tzfile_findLastTransition z (D s f fold att) false = .ok (findLastWall z ⟨s, fold⟩) := by
  unfold Gen.tzfile_findLastTransition findLastWall
  by_cases he : z.transList = []
  · simp [he]
  · have : z.transList.isEmpty = false := List.isEmpty_eq_false_iff.mpr he
    cases fold <;>
      simp [he, ts_eq, Except.bind, this, D, bisectRight_eq _ s f h0 h1, wallList, foldOf, wallOf]


theorem lgetR_nat {α} (l : List α) (i : Nat) (x : α) (h : l[i]? = some x) : DtPy.lgetR l (i : Int) = .ok x := by
  unfold DtPy.lgetR
  have : ¬ ((i : Int) < 0) := by omega
  simp [this, h]

section
variable {z : TzFile} {b s0 : TType} (hc : Coherent z b s0)
include hc

/-- `_get_ttinfo` for the indices the lookups produce (`None`, or `-1 ≤ idx < len`) -/
theorem getTtinfo_some_eq (c : Nat) (hcn : c ≤ z.utc.length) :
    Gen.tzfile_getTtinfo z (some ((c : Int) - 1)) = .ok (getTtinfo z (some ((c : Int) - 1))) := by
  unfold Gen.tzfile_getTtinfo getTtinfo
  have hl := hc.ntl; have ht := hc.ntts
  simp only [hl]
  by_cases h1 : z.utc.length ≤ c
  · have h1' : ((c : Int) - 1 + 1 ≥ (z.utc.length : Int)) := by omega
    rw [if_pos h1', if_pos h1']
  · have h1' : ¬ ((c : Int) - 1 + 1 ≥ (z.utc.length : Int)) := by omega
    rw [if_neg h1', if_neg h1']
    by_cases h2 : ((c : Int) - 1 < 0)
    · rw [if_pos h2, if_pos h2]
    · rw [if_neg h2, if_neg h2]
      have e : ((c : Int) - 1) = ((c - 1 : Nat) : Int) := by omega
      have hx : z.tts[c - 1]? = some (z.tts.getD (c - 1) default) :=
        getElem?_eq_some_getD (by omega) default
      rw [e, lgetR_nat _ _ _ hx]
      simp only [Except.bind, Int.toNat_natCast, hx]

omit hc in
theorem getTtinfo_none_eq : Gen.tzfile_getTtinfo z none = .ok (getTtinfo z none) := by
  simp [Gen.tzfile_getTtinfo, getTtinfo]

theorem findTtinfo_eq (s f : Int) (fold att : Bool) (h0 : 0 ≤ f) (h1 : f < M) :
    Gen.tzfile_findTtinfo z (D s f fold att) = .ok (findTtinfo z ⟨s, fold⟩) := by
  unfold Gen.tzfile_findTtinfo Gen.tzfile_resolveAmbiguousTime findTtinfo
  rw [findLast_wall_eq z s f fold att h0 h1, hc.findLastWall_eq]
  simp only [Except.bind]
  have hle : TZ.bisectRight (wallOf z fold) s ≤ z.utc.length := by
    have := TZ.bisectRight_le (wallOf z fold) s
    have l0 := hc.w0_len; have l1 := hc.w1_len
    cases fold <;> simp [wallOf] at this ⊢ <;> omega
  exact getTtinfo_some_eq hc _ hle

theorem utcoffset_eq (s f : Int) (fold att : Bool) (h0 : 0 ≤ f) (h1 : f < M) :
    Gen.tzfile_utcoffset z (D s f fold att) = (TZ.utcoffset z ⟨s, fold⟩).map (· * M) := by
  unfold Gen.tzfile_utcoffset TZ.utcoffset
  rw [findTtinfo_eq hc s f fold att h0 h1, hc.hs]
  simp only [ne_eq, reduceCtorEq, not_false_eq_true, not_true_eq_false, if_false, Except.bind]
  cases findTtinfo z ⟨s, fold⟩ <;> simp [DtPy.attr, Except.map, tdSeconds]

theorem tzname_eq (s f : Int) (fold att : Bool) (h0 : 0 ≤ f) (h1 : f < M) :
    Gen.tzfile_tzname z (D s f fold att) = TZ.tzname z ⟨s, fold⟩ := by
  unfold Gen.tzfile_tzname TZ.tzname
  rw [findTtinfo_eq hc s f fold att h0 h1, hc.hs]
  simp only [ne_eq, reduceCtorEq, not_false_eq_true, not_true_eq_false, or_false, if_false, Except.bind]
  cases findTtinfo z ⟨s, fold⟩ <;> simp [DtPy.attr]

theorem dst_eq (s f : Int) (fold att : Bool) (h0 : 0 ≤ f) (h1 : f < M) :
    Gen.tzfile_dst z (D s f fold att) = (TZ.dst z ⟨s, fold⟩).map (· * M) := by
  unfold Gen.tzfile_dst TZ.dst
  cases hd : z.dst with
  | none => simp [Except.map]
  | some d =>
    rw [findTtinfo_eq hc s f fold att h0 h1]
    simp only [ne_eq, reduceCtorEq, not_false_eq_true, not_true_eq_false, if_false, Except.bind]
    cases findTtinfo z ⟨s, fold⟩ with
    | none => simp [DtPy.attr, Except.map]
    | some tt =>
      by_cases hi : tt.isdst = 0 <;> simp [DtPy.attr, Except.map, tdSeconds, hi]
end


theorem cmp_le (s f a : Int) (h0 : 0 ≤ f) (h1 : f < M) : (tsOfInt a ≤ s * M + f) ↔ a ≤ s := by
  have h1' : f < 1000000 := h1
  show a * 1000000 ≤ s * 1000000 + f ↔ a ≤ s
  omega

theorem wallList1 (z : TzFile) : DtPy.wallList z 1 = .ok z.wall1 := by simp [DtPy.wallList]
theorem wallList0 (z : TzFile) : DtPy.wallList z 0 = .ok z.wall0 := by simp [DtPy.wallList]

section
variable {z : TzFile} {b s0 : TType} (hc : Coherent z b s0)
include hc

theorem offsetBefore_eq (i : Nat) (hi : i < z.utc.length) :
    Gen.tzfile_offsetBefore z (i : Int) = .ok (Bo z b i) := by
  unfold Gen.tzfile_offsetBefore Bo
  by_cases h0 : i = 0
  · subst h0; simp [hc.hb, DtPy.attr, Except.bind]
  · have hx : z.tts[i - 1]? = some (z.tts.getD (i - 1) default) :=
      getElem?_eq_some_getD (by have := hc.ntts; omega) default
    have e : ((i : Int) - 1) = ((i - 1 : Nat) : Int) := by omega
    rw [if_pos (by omega), e, lgetR_nat _ _ _ hx]
    simp [Except.bind, h0, A]

/-- the ambiguity test at a transition index that exists -/
theorem isAmb_at (s f : Int) (fold att : Bool) (h0 : 0 ≤ f) (h1 : f < M) (c : Nat) (hcn : c ≤ z.utc.length) :
    Gen.tzfile_isAmbiguous z (D s f fold att) (some ((c : Int) - 1)) =
      .ok (isAmbiguousIdx z s (some ((c : Int) - 1))) := by
  rw [hc.isAmbiguousIdx_eq s c hcn]
  unfold Gen.tzfile_isAmbiguous
  have hne : z.transList ≠ [] := by
    intro e; have := hc.not_empty; simp [e] at this
  simp only [hne, ne_eq, not_false_eq_true, not_true_eq_false, if_false, ts_eq, Except.bind]
  by_cases hc0 : c = 0
  · subst hc0; simp
  · have hlt : ¬ ((c : Int) - 1 < 0) := by omega
    have e : ((c : Int) - 1) = ((c - 1 : Nat) : Int) := by omega
    have x1 : z.wall1[c - 1]? = some (z.wall1.getD (c - 1) 0) := getElem?_eq_some_getD (by rw [hc.w1_len]; omega) 0
    have x0 : z.wall0[c - 1]? = some (z.wall0.getD (c - 1) 0) := getElem?_eq_some_getD (by rw [hc.w0_len]; omega) 0
    have xt : z.tts[c - 1]? = some (z.tts.getD (c - 1) default) := getElem?_eq_some_getD (by rw [hc.ntts]; omega) default
    simp only [hlt, if_false, e, wallList1, wallList0, lgetR_nat _ _ _ x1, lgetR_nat _ _ _ x0, lgetR_nat _ _ _ xt,
      offsetBefore_eq hc (c - 1) (by omega), D, cmp_le s f _ h0 h1, cmp_lt s f _ h0 h1,
      hc.w0_get (c - 1) (by omega), hc.w1_get (c - 1) (by omega), A, Hi]
    have hpos : decide (0 < c) = true := by simp; omega
    rw [hpos]
    rw [if_neg (show ¬ (((c - 1 : Nat) : Int) < 0) by omega)]
    by_cases a1 : U z (c - 1) + min (Bo z b (c - 1)) (z.tts.getD (c - 1) default).off ≤ s <;>
    by_cases a2 : s < U z (c - 1) + Bo z b (c - 1) <;>
    by_cases a3 : Bo z b (c - 1) > (z.tts.getD (c - 1) default).off <;>
      simp only [a1, a2, a3, decide_true, decide_false] <;> rfl
end


section
variable {z : TzFile} {b s0 : TType} (hc : Coherent z b s0)
include hc

/-- the public `is_ambiguous(dt)` -/
theorem isAmb_none (s f : Int) (fold att : Bool) (h0 : 0 ≤ f) (h1 : f < M) :
    Gen.tzfile_isAmbiguous z (D s f fold att) none = .ok (TZ.isAmbiguous z s) := by
  have hne : z.transList ≠ [] := by
    intro e; have := hc.not_empty; simp [e] at this
  have hc1 : TZ.bisectRight z.wall1 s ≤ z.utc.length := by
    have := TZ.bisectRight_le z.wall1 s; rw [hc.w1_len] at this; exact this
  have key := isAmb_at hc s f fold att h0 h1 (TZ.bisectRight z.wall1 s) hc1
  have hmodel : TZ.isAmbiguous z s =
      (if ((TZ.bisectRight z.wall1 s : Int) - 1 == (TZ.bisectRight z.wall0 s : Int) - 1) = true then false
       else isAmbiguousIdx z s (some ((TZ.bisectRight z.wall1 s : Int) - 1))) := by
    unfold TZ.isAmbiguous isAmbiguousIdx
    simp only [hc.not_empty, Bool.false_eq_true, if_false]
  rw [hmodel]
  unfold Gen.tzfile_isAmbiguous at key ⊢
  simp only [hne, ne_eq, not_false_eq_true, not_true_eq_false, if_false, ts_eq, Except.bind, wallList1, wallList0, D,
    bisectRight_eq _ s f h0 h1] at key ⊢
  by_cases heq : (TZ.bisectRight z.wall1 s : Int) - 1 = (TZ.bisectRight z.wall0 s : Int) - 1
  · simp [heq]
  · have : ((TZ.bisectRight z.wall1 s : Int) - 1 == (TZ.bisectRight z.wall0 s : Int) - 1) = false := by
      simp [heq]
    simp only [heq, if_false, this, Bool.false_eq_true]
    exact key

theorem fromutc_eq (s f : Int) (h0 : 0 ≤ f) (h1 : f < M) :
    Gen.tzfile_fromutc z (D s f false true) =
      (TZ.fromutc z s).map fun w => D w.wall f w.fold true := by
  have hle : TZ.bisectRight z.utc s ≤ z.utc.length := TZ.bisectRight_le z.utc s
  unfold Gen.tzfile_fromutc
  rw [findLast_utc_eq z s f false true h0 h1, hc.findLastUtc_eq, hc.fromutc_eq]
  simp only [D, not_true_eq_false, if_false, Bool.true_eq_false, Except.bind, getTtinfo_some_eq hc _ hle,
    hc.getTtinfo_eq _ hle, DtPy.attr]
  have hdt : DtPy.addTd { us := s * M + f, fold := false, attached := true } (tdSeconds (ttOf z b s0 (TZ.bisectRight z.utc s)).off)
      = D (s + (ttOf z b s0 (TZ.bisectRight z.utc s)).off) f false true := by
    simp only [DtPy.addTd, tdSeconds, D, M]; congr 1; omega
  rw [hdt, isAmb_at hc _ f false true h0 h1 _ hle]
  simp only [Except.map, DtPy.enfold, D, b2i]
  cases isAmbiguousIdx z (s + (ttOf z b s0 (TZ.bisectRight z.utc s)).off) (some ((TZ.bisectRight z.utc s : Int) - 1)) <;> simp
end
end TzGen
