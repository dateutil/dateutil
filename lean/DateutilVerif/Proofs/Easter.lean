/-
  Proofs/Easter.lean — the three methods of `Gen.easter` against the references of
  Spec/Easter.lean, by arithmetic: every method ends in the same two lines, which turn a day count
  `p` into the month and day of "28 March + p"; what is left is to compare day counts.
-/
import DateutilVerif.Proofs.EasterDefs
import DateutilVerif.Proofs.Calendar

namespace C19
open Gen Spec

/-- The last two lines of `easter` (easter.py: `d = 1 + (p + 27 + (p + 6)//40) % 31`, `m = 3 + (p + 26)//30`). -/
def marchPlus (p : Int) : Int × Int := (3 + (p + 26) / 30, 1 + (p + 27 + (p + 6) / 40) % 31)

/-- `marchPlus p` is the month and day of 28 March + `p` days, up to 31 May. -/
theorem marchPlus_cases {p : Int} (h1 : -6 ≤ p) (h2 : p ≤ 63) :
    (p ≤ 3 ∧ marchPlus p = (3, 28 + p)) ∨ (4 ≤ p ∧ p ≤ 33 ∧ marchPlus p = (4, p - 3)) ∨
      (34 ≤ p ∧ marchPlus p = (5, p - 33)) := by
  unfold marchPlus
  by_cases c1 : p ≤ 3
  · exact .inl ⟨c1, by congr 1 <;> omega⟩
  by_cases c2 : p ≤ 33
  · exact .inr (.inl ⟨by omega, c2, by congr 1 <;> omega⟩)
  · exact .inr (.inr ⟨by omega, by congr 1 <;> omega⟩)

theorem marchPlus_valid (y : Int) {p : Int} (h1 : -6 ≤ p) (h2 : p ≤ 63) :
    Cal.ValidYMD y (marchPlus p).1 (marchPlus p).2 := by
  unfold Cal.ValidYMD
  rcases marchPlus_cases h1 h2 with ⟨h, e⟩ | ⟨h, h', e⟩ | ⟨h, e⟩ <;> rw [e] <;>
    simp [Cal.daysInMonth] <;> omega

theorem julianToOrdinal_after_feb (y m d : Int) (hm : 2 < m) :
    julianToOrdinal y m d = 365 * y + y / 4 - 367 + Cal.dbmTable m + d := by
  have hl : (y - 1) / 4 + (if julianIsLeap y then 1 else 0) = y / 4 := by
    unfold julianIsLeap; split <;> simp_all <;> omega
  have hc : (decide (m > 2) && julianIsLeap y) = julianIsLeap y := by simp [hm]
  unfold julianToOrdinal
  rw [hc]; omega

/-- 28 March + `p` is after February, and is day `87 + p` of a common year -/
theorem marchPlus_yday {p : Int} (h1 : -6 ≤ p) (h2 : p ≤ 63) :
    2 < (marchPlus p).1 ∧ Cal.dbmTable (marchPlus p).1 + (marchPlus p).2 = 87 + p := by
  rcases marchPlus_cases h1 h2 with ⟨h, e⟩ | ⟨h, h', e⟩ | ⟨h, e⟩ <;> rw [e] <;>
    refine ⟨by simp, ?_⟩ <;> simp [Cal.dbmTable] <;> omega

theorem toOrdinal_marchPlus (y : Int) {p : Int} (h1 : -6 ≤ p) (h2 : p ≤ 63) :
    Cal.toOrdinal y (marchPlus p).1 (marchPlus p).2 = 365 * y + y / 4 - y / 100 + y / 400 - 278 + p := by
  have ⟨hm, hd⟩ := marchPlus_yday h1 h2
  rw [Cal.toOrdinal_after_feb y _ _ hm]; omega

theorem julianToOrdinal_marchPlus (y : Int) {p : Int} (h1 : -6 ≤ p) (h2 : p ≤ 63) :
    julianToOrdinal y (marchPlus p).1 (marchPlus p).2 = 365 * y + y / 4 - 280 + p := by
  have ⟨hm, hd⟩ := marchPlus_yday h1 h2
  rw [julianToOrdinal_after_feb y _ _ hm]; omega

/-- The last line of both of Meeus' algorithms: 22 March + `n`, as a day count from 28 March. -/
theorem meeus_tail {n : Int} (h1 : 0 ≤ n) (h2 : n ≤ 39) :
    ((n + 114) / 31, (n + 114) % 31 + 1) = marchPlus (n - 6) := by
  unfold marchPlus; congr 1 <;> omega

/-- The day count `i - j` of `easter` for `method < 3`. -/
def julianP (y : Int) : Int :=
  (19 * (y % 19) + 15) % 30 - (y + y / 4 + (19 * (y % 19) + 15) % 30) % 7

theorem easter_julian (y : Int) : easter y 1 = .ok (y, marchPlus (julianP y + 0)) := rfl

theorem julianP_bounds (y : Int) : -6 ≤ julianP y ∧ julianP y ≤ 28 := by
  unfold julianP
  -- `(19 g + 15) % 30 = 29` has no solution with `0 ≤ g < 19`
  have : (19 * (y % 19) + 15) % 30 ≤ 28 := by
    have := Int.emod_nonneg y (b := 19) (by decide)
    have := Int.emod_lt_of_pos y (b := 19) (by decide)
    generalize y % 19 = g at *
    omega
  omega

theorem meeusJulian_eq (y : Int) : meeusJulian y = marchPlus (julianP y) := by
  have e : (19 * (y % 19) + 15) % 30 + (2 * (y % 4) + 4 * (y % 7) - (19 * (y % 19) + 15) % 30 + 34) % 7 - 6 =
      julianP y := by
    unfold julianP; omega
  have := julianP_bounds y
  rw [← e, ← meeus_tail (by omega) (by omega)]
  rfl

/-- 28 March + `julianP y` of the Julian calendar is a Sunday. -/
theorem julianP_sunday (y : Int) : Cal.weekdayOfOrd (365 * y + y / 4 - 280 + julianP y) = 6 := by
  unfold Cal.weekdayOfOrd julianP; omega

/-- **C19 (julian)**: `easter(y, 1)` is Meeus' Julian Easter, a Sunday of the Julian calendar between 22 March and
    25 April — for every integer year (the documented range starts at 326 for historical, not arithmetical, reasons). -/
theorem julianOK_all (y : Int) : julianOK y = true := by
  have hb := julianP_bounds y
  have hs := julianP_sunday y
  rw [← julianToOrdinal_marchPlus y hb.1 (by omega)] at hs
  unfold julianOK julianWeekday
  rw [easter_julian, Int.add_zero, meeusJulian_eq]
  rcases marchPlus_cases hb.1 (by omega) with ⟨h, e⟩ | ⟨h, h', e⟩ | ⟨h, e⟩ <;> rw [e] at hs ⊢ <;>
    simp [hs] <;> omega

/-- `h` of `easter` for method 3 (the age of the moon on 22 March, before the two corrections). -/
def westH (y : Int) : Int :=
  (y / 100 - y / 100 / 4 - (8 * (y / 100) + 13) / 25 + 19 * (y % 19) + 15) % 30

/-- `i` of `easter` for method 3. -/
def westI (y : Int) : Int :=
  westH y - westH y / 28 * (1 - westH y / 28 * Py.fdiv 29 (westH y + 1) * ((21 - y % 19) / 11))

/-- The day count `i - j` of `easter` for method 3. -/
def westP (y : Int) : Int := westI y - (y + y / 4 + westI y + 2 - y / 100 + y / 100 / 4) % 7

theorem easter_western (y : Int) : easter y 3 = .ok (y, marchPlus (westP y + 0)) := rfl

theorem westH_bounds (y : Int) : 0 ≤ westH y ∧ westH y ≤ 29 := by
  unfold westH; omega

/-- The product in `i` spells out the two corrections: 29 becomes 28, and 28 becomes 27 when the
    golden number is above 11. -/
theorem westI_eq (y : Int) :
    westI y = if westH y = 29 ∨ (westH y = 28 ∧ 11 ≤ y % 19) then westH y - 1 else westH y := by
  unfold westI
  have hh := westH_bounds y
  generalize westH y = h at *
  rw [Py.fdiv_pos _ (by omega)]
  by_cases h29 : h = 29
  · subst h29; simp
  by_cases h28 : h = 28
  · subst h28
    have : (21 - y % 19) / 11 = if 11 ≤ y % 19 then 0 else 1 := by split <;> omega
    rw [this]; split <;> simp [*]
  · have : h / 28 = 0 := by omega
    simp [this, h29, h28]

theorem westP_bounds (y : Int) : -6 ≤ westP y ∧ westP y ≤ 28 := by
  have := westH_bounds y
  have := westI_eq y
  unfold westP
  split at this <;> omega

/-- Meeus/Jones/Butcher leave `h` alone and subtract a week at the end (`m`) in exactly the cases
    in which `easter` lowers `i`; `l` is `6 - j` up to that week. -/
theorem mjb_count (y h i : Int) (hh : 0 ≤ h ∧ h ≤ 29)
    (hi : i = if h = 29 ∨ (h = 28 ∧ 11 ≤ y % 19) then h - 1 else h) :
    h + (32 + 2 * (y / 100 % 4) + 2 * (y % 100 / 4) - h - y % 100 % 4) % 7
      - 7 * ((y % 19 + 11 * h +
          22 * ((32 + 2 * (y / 100 % 4) + 2 * (y % 100 / 4) - h - y % 100 % 4) % 7)) / 451)
    = i - (y + y / 4 + i + 2 - y / 100 + y / 100 / 4) % 7 + 6 := by
  generalize hl : (32 + 2 * (y / 100 % 4) + 2 * (y % 100 / 4) - h - y % 100 % 4) % 7 = l
  generalize hj : (y + y / 4 + i + 2 - y / 100 + y / 100 / 4) % 7 = j
  have hjl : (j + l - (i - h)) % 7 = 6 := by omega
  have hl' : 0 ≤ l ∧ l ≤ 6 := by omega
  have hj' : 0 ≤ j ∧ j ≤ 6 := by omega
  have hg : 0 ≤ y % 19 ∧ y % 19 ≤ 18 := by omega
  clear hl hj
  generalize y % 19 = g at *
  have hjl' : j + l - (i - h) = 6 ∨ j + l - (i - h) = 13 := by omega
  clear hjl
  split at hi
  · by_cases h6 : l = 6
    · have : (g + 11 * h + 22 * l) / 451 = 1 := by omega
      omega
    · have : (g + 11 * h + 22 * l) / 451 = 0 := by omega
      omega
  · have : (g + 11 * h + 22 * l) / 451 = 0 := by omega
    omega

theorem mjb_eq (y : Int) : mjb y = marchPlus (westP y) := by
  -- the two spellings of the lunar correction in `h`
  have hh : (19 * (y % 19) + y / 100 - y / 100 / 4 - (y / 100 - (y / 100 + 8) / 25 + 1) / 3 + 15) % 30 =
      westH y := by
    have : (y / 100 - (y / 100 + 8) / 25 + 1) / 3 = (8 * (y / 100) + 13) / 25 := by omega
    unfold westH; omega
  have hc := mjb_count y (westH y) (westI y) (westH_bounds y) (westI_eq y)
  have hb := westP_bounds y
  unfold westP at hb ⊢
  rw [← Int.add_sub_cancel (_ - _) 6, ← hc, ← meeus_tail (by omega) (by omega)]
  simp only [mjb, hh]

/-- 28 March + `westP y` is a Sunday. -/
theorem westP_sunday (y : Int) :
    Cal.weekdayOfOrd (365 * y + y / 4 - y / 100 + y / 400 - 278 + westP y) = 6 := by
  have : y / 100 / 4 = y / 400 := by omega
  unfold Cal.weekdayOfOrd westP; omega

/-- **C19 (western)**: `easter(y, 3)` is the Meeus/Jones/Butcher date, a valid Gregorian date, a Sunday between
    22 March and 25 April — for every integer year (the documented 1583..4099 is where the Gregorian rule is in use). -/
theorem westernOK_all (y : Int) : westernOK y = true := by
  have hb := westP_bounds y
  have hv := marchPlus_valid y hb.1 (by omega : westP y ≤ 63)
  have hs := westP_sunday y
  rw [← toOrdinal_marchPlus y hb.1 (by omega)] at hs
  unfold westernOK Cal.weekday
  rw [easter_western, Int.add_zero, mjb_eq]
  rcases marchPlus_cases hb.1 (by omega) with ⟨h, e⟩ | ⟨h, h', e⟩ | ⟨h, e⟩ <;> rw [e] at hs hv ⊢ <;>
    simp [hs, hv] <;> omega

/-- `e` of `easter` for method 2: the days the Gregorian calendar is ahead of the Julian one — 10 from the reform
    (1582) to 1699, one more in every century year that is not a leap year, which is the `y > 1600` term. -/
def orthE (y : Int) : Int :=
  if y > 1600 then 10 + y / 100 - 16 - (y / 100 - 16) / 4 else 10

theorem easter_orthodox (y : Int) : easter y 2 = .ok (y, marchPlus (julianP y + orthE y)) := rfl

/-- `e` is the true distance `y/100 - y/400 - 2` exactly from 1500 on (in the 1400s the calendars are 9 days apart
    and the constant 10 is wrong); it stays ≤ 35 up to 4999, and from 5000 on `julianP y + e` can pass 63 = 31 May,
    where `marchPlus` stops being a date. -/
theorem orthE_eq {y : Int} (h1 : 1500 ≤ y) (h2 : y ≤ 4999) :
    orthE y = y / 100 - y / 400 - 2 ∧ 10 ≤ orthE y ∧ orthE y ≤ 35 := by
  unfold orthE; split <;> omega

/-- **C19 (orthodox)**: `easter(y, 2)` is a valid Gregorian date, the same day as Meeus' Julian Easter, and a Sunday —
    on 1500..4999, the years for which `orthE_eq` holds (the documented range is 1583..4099). -/
theorem orthodoxOK_of_range {y : Int} (h1 : 1500 ≤ y) (h2 : y ≤ 4999) : orthodoxOK y = true := by
  have hb := julianP_bounds y
  have ⟨he, he1, he2⟩ := orthE_eq h1 h2
  have hv := marchPlus_valid y (by omega : -6 ≤ julianP y + orthE y) (by omega)
  have ho := toOrdinal_marchPlus y (by omega : -6 ≤ julianP y + orthE y) (by omega)
  have hj := julianToOrdinal_marchPlus y hb.1 (by omega)
  have hs := julianP_sunday y
  have hoj : Cal.toOrdinal y (marchPlus (julianP y + orthE y)).1 (marchPlus (julianP y + orthE y)).2 =
      julianToOrdinal y (marchPlus (julianP y)).1 (marchPlus (julianP y)).2 := by omega
  rw [← hj] at hs
  unfold orthodoxOK Cal.weekday
  rw [easter_orthodox, meeusJulian_eq]
  simp [hv, hoj, hs]

end C19
