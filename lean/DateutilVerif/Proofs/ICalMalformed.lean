/-
  Proofs/ICalMalformed.lean — the malformed-definition classes of `tzical._parse_rfc` on the model (`ICal.stepCore` and its
  pieces `beginComp / closeZone / closeComp / compProp / zoneProp`) and the error kinds of the whole parser.

  The parser's pieces are nests of `if`s whose leaves return a state or raise; what is proved of them here (and of the TZID
  dictionary in Properties/C17Get.lean) has the form "every state returned satisfies `P`, every error raised satisfies `Q`"
  (`Py.Sat`), and is shown leaf by leaf along the nest.
-/
import DateutilVerif.Proofs.ICalRfc
import DateutilVerif.Proofs.PySat

namespace ICalRfc
open ICal Py

def LibVE (lib : RRuleLib) : Prop := ∀ l e, lib l = .error e → e = .ValueError

/-- ValueError, or whatever `rrulestr` raised -/
def Raises (lib : RRuleLib) (e : PyErr) : Prop := e = .ValueError ∨ ∃ l, lib l = .error e

-- `pyInt` opaque, as in `TzGen.parseOffset_eq`
attribute [local irreducible] ICal.pyInt in
theorem parseOffset_sat (s : List Char) : Sat (parseOffset s) (fun _ => True) (· = .ValueError) := by
  have hint : ∀ x, Sat (match pyInt x with | some v => .ok v | none => .error .ValueError : R Int) (fun _ => True)
      (· = .ValueError) := by
    intro x; split
    · exact .ok trivial
    · exact .err rfl
  unfold parseOffset
  cases strip s with
  | nil => exact .err rfl
  | cons c rest =>
    dsimp only
    exact .ite (.bind (hint _) fun _ _ => .bind (hint _) fun _ _ => .ok trivial)
      (.ite (.bind (hint _) fun _ _ => .bind (hint _) fun _ _ => .bind (hint _) fun _ _ => .ok trivial) (.err rfl))

theorem compRules_sat (lib : RRuleLib) (l : List (List Char)) : Sat (compRules lib l) (fun _ => True) (Raises lib) := by
  unfold compRules
  refine .ite (.ok trivial) ?_
  cases h : lib l with
  | error e => exact .err (.inr ⟨l, h⟩)
  | ok _ => exact .ok trivial

theorem beginComp_sat (st : PState) (v : List Char) : Sat (beginComp st v) (·.vtz = st.vtz) (· = .ValueError) :=
  .ite (.ok rfl) (.err rfl)

theorem closeZone_sat (st : PState) : Sat (closeZone st) (fun st' => ∃ v, st'.vtz = putVtz st.vtz v) (· = .ValueError) :=
  .ite (.err rfl) (.ite (.err rfl) (.ite (.err rfl) (.ok ⟨_, rfl⟩)))

theorem closeComp_sat (lib : RRuleLib) (st : PState) (v : List Char) :
    Sat (closeComp lib st v) (·.vtz = st.vtz) (Raises lib) := by
  unfold closeComp
  refine .ite (.err (.inl rfl)) ?_
  split
  · cases h : compRules lib st.rrulelines with
    | error e => exact .err ((compRules_sat lib _).of_err h)
    | ok _ => exact .ok rfl
  · exact .err (.inl rfl)

/-- the names `compProp` accepts besides DTSTART -/
def OtherCompProp (name : List Char) : Prop :=
  name = lit "RRULE" ∨ name = lit "RDATE" ∨ name = lit "EXRULE" ∨ name = lit "EXDATE" ∨ name = lit "TZOFFSETFROM" ∨
  name = lit "TZOFFSETTO" ∨ name = lit "TZNAME" ∨ name = lit "COMMENT"

/-- what a property line leaves alone: everything of the zone, and — DTSTART apart — that no DTSTART was seen -/
def CompKept (st : PState) (name : List Char) (st' : PState) : Prop :=
  st'.vtz = st.vtz ∧ st'.comptype = st.comptype ∧ st'.invtz = st.invtz ∧ st'.tzid = st.tzid ∧ st'.comps = st.comps ∧
    (name ≠ lit "DTSTART" → st'.founddtstart = st.founddtstart)

theorem compProp_sat (st : PState) (line name : List Char) (parms : List (List Char)) (v : List Char) :
    Sat (compProp st line name parms v) (CompKept st name) (· = .ValueError) := by
  have hoff : ∀ f : Int → PState, (∀ x, CompKept st name (f x)) →
      Sat (match parseOffset v with | .ok x => .ok (f x) | .error e => .error e) (CompKept st name) (· = .ValueError) := by
    intro f hf
    cases h : parseOffset v with
    | ok x => exact .ok (hf x)
    | error e => exact .err ((parseOffset_sat v).of_err h)
  have same : ∀ {st' : PState}, st'.vtz = st.vtz → st'.comptype = st.comptype → st'.invtz = st.invtz → st'.tzid = st.tzid →
      st'.comps = st.comps → st'.founddtstart = st.founddtstart → CompKept st name st' :=
    fun h1 h2 h3 h4 h5 h6 => ⟨h1, h2, h3, h4, h5, fun _ => h6⟩
  unfold compProp
  by_cases hn : (name == lit "DTSTART") = true
  · rw [if_pos hn]
    exact .ite (.ok ⟨rfl, rfl, rfl, rfl, rfl, fun h => absurd (by simpa using hn) h⟩) (.err rfl)
  · rw [if_neg hn]
    exact .ite (.ok (same rfl rfl rfl rfl rfl rfl)) (.ite (.ite (.err rfl) (hoff _ fun _ => same rfl rfl rfl rfl rfl rfl))
      (.ite (.ite (.err rfl) (hoff _ fun _ => same rfl rfl rfl rfl rfl rfl))
        (.ite (.ite (.err rfl) (.ok (same rfl rfl rfl rfl rfl rfl))) (.ite (.ok (same rfl rfl rfl rfl rfl rfl)) (.err rfl)))))

theorem zoneProp_sat (st : PState) (name : List Char) (parms : List (List Char)) (v : List Char) :
    Sat (zoneProp st name parms v) (·.vtz = st.vtz) (· = .ValueError) :=
  .ite (.ite (.err rfl) (.ok rfl)) (.ite (.ok rfl) (.err rfl))

/-- a line leaves `_vtz` alone or (END:VTIMEZONE) registers one zone -/
def VtzStep (st st' : PState) : Prop := st'.vtz = st.vtz ∨ ∃ v, st'.vtz = putVtz st.vtz v

theorem stepCore_sat (lib : RRuleLib) (st : PState) (line name : List Char) (parms : List (List Char)) (value : List Char) :
    Sat (stepCore lib st line name parms value) (VtzStep st) (Raises lib) :=
  .ite (.ite ((beginComp_sat _ _).mono (fun _ => .inl) fun _ => .inl)
      (.ite (.ite ((closeZone_sat _).mono (fun _ => .inr) fun _ => .inl)
          (.ite ((closeComp_sat lib _ _).mono (fun _ => .inl) fun _ h => h) (.err (.inl rfl))))
        (.ite ((compProp_sat _ _ _ _ _).mono (fun _ h => .inl h.1) fun _ => .inl)
          ((zoneProp_sat _ _ _ _).mono (fun _ => .inl) fun _ => .inl))))
    (.ite (.ok (.inl rfl)) (.ok (.inl rfl)))

theorem stepLineW_sat (lib : RRuleLib) (st : PState) (line : List Char) :
    Sat (stepLineW lib st line) (VtzStep st) (Raises lib) := by
  unfold stepLineW
  refine .ite (.ok (.inl rfl)) ?_
  split
  · exact .err (.inl rfl)
  · exact stepCore_sat lib _ _ _ _ _

/-- **only ValueError**: the parser raises ValueError or what `rrulestr` raised -/
theorem parseRfcW_raises (lib : RRuleLib) (text : List Char) : Sat (parseRfcW lib text) (fun _ => True) (Raises lib) := by
  unfold parseRfcW
  refine .ite (.err (.inl rfl)) ?_
  cases h : (unfold (splitLines text)).foldlM (stepLineW lib) {} with
  | ok st => exact .ok trivial
  | error e =>
    exact .err ((Sat.foldlM (P := fun _ => True) _ _ _ trivial fun s a _ _ =>
      (stepLineW_sat lib s a).mono (fun _ _ => trivial) fun _ h => h).of_err h)

/-- a line after the split: (raw line, upper-cased NAME, parameters, value) -/
abbrev PLine := List Char × List Char × List (List Char) × List Char

def stepP (lib : RRuleLib) (st : PState) (p : PLine) : R PState := stepCore lib st p.1 p.2.1 p.2.2.1 p.2.2.2

/-- inside an open component `kind` in which no DTSTART has been seen -/
def OpenNoStart (kind : List Char) (st : PState) : Prop :=
  st.invtz = true ∧ st.comptype = some kind ∧ st.founddtstart = false

theorem kind_facts (kind : List Char) (hk : kind = lit "STANDARD" ∨ kind = lit "DAYLIGHT") :
    ICal.truthy (some kind) = true ∧ (kind == lit "VTIMEZONE") = false := by
  rcases hk with rfl | rfl <;> decide

theorem other_not_special (name : List Char) (h : OtherCompProp name) :
    (name == lit "BEGIN") = false ∧ (name == lit "END") = false ∧ name ≠ lit "DTSTART" := by
  rcases h with rfl | rfl | rfl | rfl | rfl | rfl | rfl | rfl <;> decide

theorem end_rejected (lib : RRuleLib) (kind : List Char) (hk : kind = lit "STANDARD" ∨ kind = lit "DAYLIGHT") (st : PState)
    (h : OpenNoStart kind st) (l1 : List Char) (pm1 : List (List Char)) :
    stepP lib st (l1, lit "END", pm1, kind) = .error .ValueError := by
  obtain ⟨h1, h2, h3⟩ := h
  have e1 : (lit "END" == lit "BEGIN") = false := by decide
  have e2 := (kind_facts kind hk).2
  simp [stepP, stepCore, h1, e1, e2, h2, closeComp, h3]

theorem other_step (lib : RRuleLib) (kind : List Char) (hk : kind = lit "STANDARD" ∨ kind = lit "DAYLIGHT") (st : PState)
    (h : OpenNoStart kind st) (p : PLine) (hp : OtherCompProp p.2.1) :
    Sat (stepP lib st p) (OpenNoStart kind) (fun _ => True) := by
  obtain ⟨h1, h2, h3⟩ := h
  obtain ⟨n1, n2, n3⟩ := other_not_special _ hp
  have ht : ICal.truthy st.comptype = true := by rw [h2]; exact (kind_facts kind hk).1
  have e : stepP lib st p = compProp st p.1 p.2.1 p.2.2.1 p.2.2.2 := by
    simp [stepP, stepCore, h1, n1, n2, ht]
  rw [e]
  exact (compProp_sat st _ _ _ _).mono (fun st' ⟨_, k2, k3, _, _, k1⟩ => ⟨by rw [k3, h1], by rw [k2, h2], by rw [k1 n3, h3]⟩)
    fun _ _ => trivial

/-- **a component with recurrence / offset / name lines but no DTSTART is rejected**, from any state inside a VTIMEZONE, whatever the
    lines are (any number, any order, any values), at the latest at its END line -/
theorem component_without_dtstart (lib : RRuleLib) (st : PState) (kind : List Char)
    (hk : kind = lit "STANDARD" ∨ kind = lit "DAYLIGHT") (hin : st.invtz = true)
    (l0 l1 : List Char) (pm0 pm1 : List (List Char)) (ps : List PLine) (hps : ∀ p ∈ ps, OtherCompProp p.2.1) :
    ∃ e, ((l0, lit "BEGIN", pm0, kind) :: (ps ++ [(l1, lit "END", pm1, kind)])).foldlM (stepP lib) st = .error e := by
  obtain ⟨st0, hb, h0⟩ : ∃ st0, stepP lib st (l0, lit "BEGIN", pm0, kind) = .ok st0 ∧ OpenNoStart kind st0 :=
    ⟨{ st with comptype := some kind, founddtstart := false, tzoffsetfrom := none, tzoffsetto := none, rrulelines := [],
               tzname := none },
     by rcases hk with rfl | rfl <;> simp [stepP, stepCore, hin, beginComp], hin, rfl, rfl⟩
  rw [List.foldlM_cons, hb]
  show ∃ e, (ps ++ _).foldlM (stepP lib) st0 = .error e
  rw [List.foldlM_append]
  -- the property lines keep the component open without DTSTART (or fail); then END is rejected
  have hbody := Sat.foldlM (Q := fun _ => True) (stepP lib) ps st0 h0 fun s p hp hs => other_step lib kind hk s hs p (hps p hp)
  cases h : ps.foldlM (stepP lib) st0 with
  | error e => exact ⟨e, rfl⟩
  | ok st' => exact ⟨.ValueError, by simp [bind, Except.bind, end_rejected lib kind hk st' (hbody.of_ok h) l1 pm1]⟩

end ICalRfc
