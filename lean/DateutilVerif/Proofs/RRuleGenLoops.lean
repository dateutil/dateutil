/-
  Proofs/RRuleGenLoops.lean — the loops of the re-translated `_iterinfo.rebuild` (Generated/RRuleKernels.lean:
  one auxiliary function per `for`) against the recursions / folds of the hand model (`markWeek`, `wnoStep`,
  `markNth`, the easter offsets, the BYMONTH ranges).
-/
import DateutilVerif.Generated.RRuleKernels
import DateutilVerif.Proofs.RRuleLists

namespace RRuleGen
open RRule RrPy

/-- a computed mask stored in its slot -/
def okSome (x : Py.R (List Int)) : Py.R (Option (List Int)) :=
  match x with
  | .ok m => .ok (some m)
  | .error e => .error e

@[simp] theorem okSome_ok (m : List Int) : okSome (.ok m) = .ok (some m) := rfl
@[simp] theorem okSome_error (e : Py.PyErr) : okSome (.error e) = .error e := rfl

@[simp] theorem ok_bind {α β} (a : α) (f : α → Py.R β) : (Except.ok a : Py.R α).bind f = f a := rfl
@[simp] theorem error_bind {α β} (e : Py.PyErr) (f : α → Py.R β) : (Except.error e : Py.R α).bind f = .error e := rfl

theorem okSome_bind_left {β} (x : Py.R (List Int)) (k : Option (List Int) → Py.R β) :
    (okSome x).bind k = x.bind fun v => k (some v) := by cases x <;> rfl

theorem okSome_bind {α} (x : Py.R α) (k : α → Py.R (List Int)) :
    okSome (x.bind k) = x.bind fun v => okSome (k v) := by cases x <;> rfl

theorem setItem_eq_setIdx (l : List Int) (i v : Int) : RrPy.setItem l i v = RRule.setIdx l i v := rfl

theorem setItemO_some (l : List Int) (i v : Int) : RrPy.setItemO (some l) i v = okSome (RRule.setIdx l i v) := by
  simp only [RrPy.setItemO, setItem_eq_setIdx]
  cases RRule.setIdx l i v <;> rfl

/-- the week-marking loop (`for j in range(7): mask[i] = 1; i += 1; if wdaymask[i] == wkst: break`) -/
theorem markWeek_loop (loop : List Int → Option (List Int) → Int → Py.R (Option (List Int)))
    (wdaymask : List Int) (wkst : Int)
    (hnil : ∀ m i, loop [] m i = .ok m)
    (hcons : ∀ j rest m i, loop (j :: rest) m i =
      (RrPy.setItemO m i 1).bind fun m' => (Py.getIdx wdaymask (i + 1)).bind fun t =>
        if t = wkst then .ok m' else loop rest m' (i + 1))
    (l : List Int) (mask : List Int) (i : Int) :
    loop l (some mask) i = okSome (markWeek wdaymask wkst l.length mask i) := by
  induction l generalizing mask i with
  | nil => simp [hnil, markWeek]
  | cons j rest ih =>
    simp only [hcons, setItemO_some, List.length_cons, markWeek]
    cases RRule.setIdx mask i 1 with
    | error e => rfl
    | ok m' =>
      simp only [okSome_ok, Except.bind]
      cases Py.getIdx wdaymask (i + 1) with
      | error e => rfl
      | ok t =>
        simp only [Except.bind]
        by_cases h : t = wkst
        · simp [h]
        · simp [h, ih]

theorem rebuild_loop2_eq (r : Rule) (wdaymask l mask : List Int) (i : Int) :
    Gen.rebuild_loop2 r wdaymask l (some mask) i = okSome (markWeek wdaymask r.wkst l.length mask i) :=
  markWeek_loop (Gen.rebuild_loop2 r wdaymask) wdaymask r.wkst (fun _ _ => rfl) (fun _ _ _ _ => rfl) l mask i

theorem rebuild_loop3_eq (r : Rule) (wdaymask l mask : List Int) (i : Int) :
    Gen.rebuild_loop3 r wdaymask l (some mask) i = okSome (markWeek wdaymask r.wkst l.length mask i) :=
  markWeek_loop (Gen.rebuild_loop3 r wdaymask) wdaymask r.wkst (fun _ _ => rfl) (fun _ _ _ _ => rfl) l mask i

/-- a loop `for x in l: mask = step(mask, x)` (with `continue` = keep the mask) is the model's `foldlM` -/
theorem foldlM_loop {α} (loop : List α → Option (List Int) → Py.R (Option (List Int)))
    (step : List Int → α → Py.R (List Int))
    (hnil : ∀ m, loop [] m = .ok m)
    (hcons : ∀ x rest mask, loop (x :: rest) (some mask) =
      (step mask x).bind fun m' => loop rest (some m'))
    (l : List α) (mask : List Int) :
    loop l (some mask) = okSome (l.foldlM step mask) := by
  induction l generalizing mask with
  | nil => simp [hnil, pure, Except.pure]
  | cons x rest ih =>
    simp only [hcons, List.foldlM_cons, bind]
    cases step mask x with
    | error e => rfl
    | ok m' => simp only [Except.bind, ih]

/-- the BYWEEKNO loop -/
theorem rebuild_loop1_eq (r : Rule) (firstwkst no1wkst numweeks : Int) (wdaymask l mask : List Int) :
    Gen.rebuild_loop1 r firstwkst no1wkst numweeks wdaymask l (some mask) =
      okSome (l.foldlM (wnoStep wdaymask r.wkst no1wkst numweeks (if no1wkst ≠ firstwkst then 7 - firstwkst else 0)) mask) := by
  apply foldlM_loop
  · intro m; rfl
  · intro n rest mask
    simp only [Gen.rebuild_loop1, wnoStep, bind, pure, Except.pure]
    have e1 : n + (numweeks + 1) = n + numweeks + 1 := by omega
    by_cases hn : n < 0
    · by_cases h2 : 0 < n + numweeks + 1 ∧ n + numweeks + 1 ≤ numweeks
      · by_cases h3 : n + numweeks + 1 > 1 <;> by_cases h4 : no1wkst = firstwkst <;>
          simp [hn, e1, h2, h3, h4, rebuild_loop2_eq, length_intRange, okSome_bind_left] <;> (intro hc; omega)
      · simp [hn, e1, h2, Except.bind]
    · by_cases h2 : 0 < n ∧ n ≤ numweeks
      · by_cases h3 : n > 1 <;> by_cases h4 : no1wkst = firstwkst <;>
          simp [hn, h2, h3, h4, rebuild_loop2_eq, length_intRange, okSome_bind_left] <;> (intro hc; omega)
      · simp [hn, h2, Except.bind]

/-- `for i in range(no1wkst): self.wnomask[i] = 1` -/
theorem rebuild_loop4_eq (l mask : List Int) :
    Gen.rebuild_loop4 l (some mask) = okSome (l.foldlM (fun mask i => setIdx mask i 1) mask) := by
  apply foldlM_loop
  · intro m; rfl
  · intro i rest mask
    simp only [Gen.rebuild_loop4, setItemO_some, bind, okSome_bind_left]

/-- `for offset in rr._byeaster: self.eastermask[eyday+offset] = 1` -/
theorem rebuild_loop8_eq (eyday : Int) (l mask : List Int) :
    Gen.rebuild_loop8 eyday l (some mask) = okSome (l.foldlM (fun mask off => setIdx mask (eyday + off) 1) mask) := by
  apply foldlM_loop
  · intro m; rfl
  · intro i rest mask
    simp only [Gen.rebuild_loop8, setItemO_some, bind, okSome_bind_left]

/-- `for wday, n in rr._bynweekday` inside one `(first, last)` range -/
theorem rebuild_loop7_eq (first last : Int) (wdaymask : List Int) (l : List (Int × Int)) (mask : List Int) :
    Gen.rebuild_loop7 first last wdaymask l (some mask) = okSome (l.foldlM (markNth wdaymask first last) mask) := by
  apply foldlM_loop
  · intro m; rfl
  · intro wn rest mask
    obtain ⟨wday, n⟩ := wn
    simp only [Gen.rebuild_loop7, markNth, bind, pure, Except.pure]
    by_cases hn : n < 0
    · simp only [hn, if_true]
      by_cases h1 : last + (n + 1) * 7 < first
      · simp [h1]
      · simp only [h1, if_false]
        cases Py.getIdx wdaymask (last + (n + 1) * 7) with
        | error e => rfl
        | ok w =>
          simp only [ok_bind, Py.fmod_pos _ (by decide : (0 : Int) < 7)]
          by_cases h2 : first ≤ last + (n + 1) * 7 - (w - wday) % 7 ∧ last + (n + 1) * 7 - (w - wday) % 7 ≤ last
          · simp [h2, setItemO_some, okSome_bind_left]
          · simp [h2]
    · simp only [hn, if_false]
      by_cases h1 : first + (n - 1) * 7 > last
      · simp [h1]
      · simp only [h1, if_false]
        cases Py.getIdx wdaymask (first + (n - 1) * 7) with
        | error e => rfl
        | ok w =>
          simp only [ok_bind, Py.fmod_pos _ (by decide : (0 : Int) < 7)]
          by_cases h2 : first ≤ first + (n - 1) * 7 + (7 - w + wday) % 7 ∧ first + (n - 1) * 7 + (7 - w + wday) % 7 ≤ last
          · simp [h2, setItemO_some, okSome_bind_left]
          · simp [h2]

/-- the model's treatment of one element of `ranges` (`for first, last in ranges: last -= 1; for wday, n in …`) -/
def rangeStep (wdaymask : List Int) (nwl : List (Int × Int)) (mask : List Int) (rg : List Int) : Py.R (List Int) :=
  match rg with
  | [first, last] => nwl.foldlM (markNth wdaymask first (last - 1)) mask
  | _ => throw Py.PyErr.ValueError

theorem rebuild_loop6_eq (r : Rule) (nwl : List (Int × Int)) (hn : r.bynweekday = some nwl) (wdaymask : List Int)
    (ranges : List (List Int)) (mask : List Int) :
    Gen.rebuild_loop6 r wdaymask ranges (some mask) = okSome (ranges.foldlM (rangeStep wdaymask nwl) mask) := by
  apply foldlM_loop
  · intro m; rfl
  · intro rg rest mask
    simp only [Gen.rebuild_loop6, hn, RrPy.iterO, bind, rangeStep]
    match rg with
    | [] => rfl
    | [_] => rfl
    | [first, last] => simp only [RrPy.unpack2, ok_bind, rebuild_loop7_eq, okSome_bind_left]
    | _ :: _ :: _ :: _ => rfl

/-- `for month in rr._bymonth: ranges.append(self.mrange[month-1:month+1])`; `month` keeps the last member -/
theorem rebuild_loop5_eq (mrange : List Int) (l : List Int) (month : Int) (ranges : List (List Int)) :
    Gen.rebuild_loop5 mrange l month ranges =
      (l.mapM (fun m => Py.slice mrange (some (m - 1)) (some (m + 1)) none)).bind fun sl =>
        .ok (l.getLast?.getD month, ranges ++ sl) := by
  induction l generalizing month ranges with
  | nil => simp [Gen.rebuild_loop5, pure, Except.pure]
  | cons m rest ih =>
    simp only [Gen.rebuild_loop5, List.mapM_cons, bind, pure, Except.pure]
    cases Py.slice mrange (some (m - 1)) (some (m + 1)) none with
    | error e => rfl
    | ok sl =>
      simp only [ok_bind, ih]
      cases List.mapM (fun m => Py.slice mrange (some (m - 1)) (some (m + 1)) none) rest with
      | error e => rfl
      | ok sls =>
        simp only [ok_bind, List.append_assoc, List.singleton_append]
        cases rest with
        | nil => simp
        | cons a b =>
          simp only [List.getLast?_cons_cons]
          cases h : (a :: b).getLast? with
          | none => simp at h
          | some v => simp

end RRuleGen
