/- Proofs/Encode.lean — byte-level round-trip lemmas for `Spec.encode` / `TZ.decode`. -/
import DateutilVerif.Spec.Zones

namespace TZ
open Spec

theorem toNat_ofNat (k : Nat) : (UInt8.ofNat k).toNat = k % 256 := by
  simp [UInt8.toNat_ofNat']

theorem recomb (u : Nat) (h : u < 4294967296) :
    (((u / 16777216 % 256) * 256 + (u / 65536 % 256)) * 256 + (u / 256 % 256)) * 256 + (u % 256) = u := by omega

/-- the unsigned 32-bit value written by `be32` -/
def u32 (x : Int) : Nat := (if x < 0 then x + 4294967296 else x).toNat

theorem be32_eq (x : Int) : be32 x =
    [UInt8.ofNat (u32 x / 16777216 % 256), UInt8.ofNat (u32 x / 65536 % 256),
     UInt8.ofNat (u32 x / 256 % 256), UInt8.ofNat (u32 x % 256)] := rfl

theorem be32s_bytes (x : Int) (h1 : -2147483648 ≤ x) (h2 : x < 2147483648) :
    be32s (UInt8.ofNat (u32 x / 16777216 % 256)) (UInt8.ofNat (u32 x / 65536 % 256))
      (UInt8.ofNat (u32 x / 256 % 256)) (UInt8.ofNat (u32 x % 256)) = x := by
  have hu : u32 x < 4294967296 := by unfold u32; split <;> omega
  have hr := recomb (u32 x) hu
  unfold be32s be32u
  simp only [toNat_ofNat, Nat.mod_mod]
  have hr' : (((((u32 x / 16777216 % 256 : Nat) : Int) * 256 + ((u32 x / 65536 % 256 : Nat) : Int)) * 256
      + ((u32 x / 256 % 256 : Nat) : Int)) * 256 + ((u32 x % 256 : Nat) : Int)) = (u32 x : Int) := by
    omega
  rw [hr']
  have hx : (u32 x : Int) = if x < 0 then x + 4294967296 else x := by
    unfold u32; split <;> omega
  rw [hx]
  by_cases hneg : x < 0
  · simp only [hneg, if_true]; split <;> omega
  · simp only [hneg, if_false]; split <;> omega

theorem be32List_cons4 (a b c d : UInt8) (rest : List UInt8) :
    be32List (a :: b :: c :: d :: rest) = (be32List rest).map (be32s a b c d :: ·) := by
  rw [be32List]

theorem be32s_be32 (x : Int) (h1 : -2147483648 ≤ x) (h2 : x < 2147483648) (rest : List UInt8) :
    be32List (be32 x ++ rest) = (be32List rest).map (x :: ·) := by
  rw [be32_eq]
  simp only [List.cons_append, List.nil_append]
  rw [be32List_cons4, be32s_bytes x h1 h2]

theorem s8_u8 (x : Int) (h1 : -128 ≤ x) (h2 : x < 128) : s8 (u8 x) = x := by
  simp only [s8, u8, toNat_ofNat]
  split <;> split <;> omega

theorem readN_app (a b : List UInt8) (n : Int) (h : n = a.length) : readN (a ++ b) n = (a, b) := by
  subst h
  unfold readN
  rw [if_neg (by omega)]
  simp

def In32 (x : Int) : Prop := -2147483648 ≤ x ∧ x < 2147483648

theorem be32_length (x : Int) : (be32 x).length = 4 := rfl

theorem be32List_flatMap {α} (g : α → Int) : ∀ (l : List α), (∀ p ∈ l, In32 (g p)) →
    be32List (l.flatMap (fun p => be32 (g p))) = some (l.map g) ∧
    (l.flatMap (fun p => be32 (g p))).length = 4 * l.length := by
  intro l
  induction l with
  | nil => intro _; exact ⟨rfl, rfl⟩
  | cons a l ih =>
      intro h
      obtain ⟨h1, h2⟩ := ih (fun p hp => h p (by simp [hp]))
      have ha := h a (by simp)
      refine ⟨?_, ?_⟩
      · rw [List.flatMap_cons, be32s_be32 _ ha.1 ha.2, h1]; rfl
      · rw [List.flatMap_cons, List.length_append, h2, be32_length, List.length_cons]; omega

theorem readLongs_app {α} (g : α → Int) (l : List α) (rest : List UInt8) (h : ∀ p ∈ l, In32 (g p)) :
    readLongs (l.flatMap (fun p => be32 (g p)) ++ rest) l.length = .ok (l.map g, rest) := by
  obtain ⟨h1, h2⟩ := be32List_flatMap g l h
  unfold readLongs
  by_cases h0 : l.length = 0
  · have : l = [] := List.eq_nil_of_length_eq_zero h0
    subst this; simp
  · have e : ((l.length : Int) == 0) = false := by apply beq_eq_false_iff_ne.mpr; omega
    rw [e]
    simp only [Bool.false_eq_true, if_false]
    rw [if_neg (by omega), readN_app _ _ _ (by rw [h2]; omega)]
    simp only [h2, h1]
    rw [if_neg (by simp; omega)]

theorem readBytes_app (a rest : List UInt8) : readBytes (a ++ rest) a.length = .ok (a, rest) := by
  unfold readBytes
  by_cases h0 : a.length = 0
  · have : a = [] := List.eq_nil_of_length_eq_zero h0
    subst this; simp
  · have e : ((a.length : Int) == 0) = false := by apply beq_eq_false_iff_ne.mpr; omega
    rw [e]
    simp only [Bool.false_eq_true, if_false]
    rw [if_neg (by omega), readN_app _ _ _ rfl]
    simp

def TypeOK (t : TType) : Prop :=
  In32 t.off ∧ -128 ≤ t.isdst ∧ t.isdst < 128 ∧ t.dstoff = 0 ∧ ∀ c ∈ t.abbr, c ≠ 0 ∧ c < 128

/-- the record `encode` writes for a type and its abbreviation index -/
def recBytes (p : TType × Nat) : List UInt8 := be32 p.1.off ++ [u8 p.1.isdst, UInt8.ofNat p.2]
/-- … and what `struct.unpack(">lbB")` reads back -/
def recOf (p : TType × Nat) : Int × Int × Int := (p.1.off, s8 (u8 p.1.isdst), ((UInt8.ofNat p.2).toNat : Int))

theorem readTtinfo_app : ∀ (l : List (TType × Nat)) (rest : List UInt8), (∀ p ∈ l, In32 p.1.off) →
    readTtinfo l.length (l.flatMap recBytes ++ rest) = .ok (l.map recOf, rest) := by
  intro l
  induction l with
  | nil => intro rest _; rfl
  | cons a l ih =>
      intro rest h
      have ha := h a (by simp)
      have := ih rest (fun p hp => h p (by simp [hp]))
      rw [List.flatMap_cons, List.length_cons]
      have hb : recBytes a = [UInt8.ofNat (u32 a.1.off / 16777216 % 256), UInt8.ofNat (u32 a.1.off / 65536 % 256),
          UInt8.ofNat (u32 a.1.off / 256 % 256), UInt8.ofNat (u32 a.1.off % 256), u8 a.1.isdst, UInt8.ofNat a.2] := by
        simp [recBytes, be32_eq]
      rw [hb]
      simp only [List.cons_append, List.nil_append, List.append_assoc]
      rw [readTtinfo, this]
      simp only [bind, Except.bind, List.map_cons, recOf, be32s_bytes _ ha.1 ha.2]

theorem abbrBlock_append (a b : List TType) : abbrBlock (a ++ b) = abbrBlock a ++ abbrBlock b := by
  simp [abbrBlock]

theorem takeWhile_nonzero (a rest : List UInt8) (h : ∀ c ∈ a, c ≠ 0) :
    (a ++ 0 :: rest).takeWhile (· != 0) = a := by
  induction a with
  | nil => simp
  | cons x l ih =>
      have hx := h x (by simp)
      simp only [List.cons_append, List.takeWhile_cons]
      rw [if_pos (by simpa using hx), ih (fun c hc => h c (by simp [hc]))]

/-- slicing the table at a type's start index gives back its abbreviation -/
theorem abbrAt_block (pre rest : List UInt8) (a : List UInt8) (h : ∀ c ∈ a, c ≠ 0) :
    abbrAt (pre ++ (a ++ [0]) ++ rest) (pre.length : Int) = a := by
  have hd : (pre ++ (a ++ [0]) ++ rest).drop pre.length = a ++ 0 :: rest := by
    rw [List.append_assoc, List.drop_left]; simp
  have hl : pre.length ≤ (pre ++ (a ++ [0]) ++ rest).length := by simp
  generalize pre ++ (a ++ [0]) ++ rest = T at hd hl
  unfold abbrAt
  simp only
  have e : ((pre.length : Int)).toNat = pre.length := by omega
  rw [if_neg (show ¬ ((pre.length : Int) < 0) from by omega),
    if_neg (show ¬ ((pre.length : Int) > (T.length : Int)) from by omega), e, hd]
  have : (a ++ 0 :: rest).any (· == 0) = true := by simp
  rw [if_pos this, takeWhile_nonzero a rest h]

theorem flagAt_map (done : List TType) (t : TType) (ts : List TType) (g : TType → Bool) :
    flagAt ((done ++ t :: ts).map (fun t => if g t then (1 : UInt8) else 0)) done.length = g t := by
  unfold flagAt
  rw [List.map_append, List.getElem?_append_right (by simp)]
  simp
  cases g t <;> simp

/-- lines 613-625 applied to what `encode` wrote give the types back -/
theorem mkTypesFrom_spec : ∀ (ts done : List TType), (∀ t ∈ done ++ ts, TypeOK t) →
    (abbrBlock (done ++ ts)).length ≤ 256 →
    mkTypesFrom (abbrBlock (done ++ ts))
      ((done ++ ts).map (fun t => if t.isstd then (1 : UInt8) else 0))
      ((done ++ ts).map (fun t => if t.isgmt then (1 : UInt8) else 0))
      done.length ((ts.zip (abbrIdx (abbrBlock done).length ts)).map recOf) = ts := by
  intro ts
  induction ts with
  | nil => intro done _ _; rfl
  | cons t ts ih =>
      intro done hok hlen
      have ht := hok t (by simp)
      obtain ⟨_, hd1, hd2, hd0, habbr⟩ := ht
      have hk : (abbrBlock done).length < 256 := by
        rw [abbrBlock_append] at hlen
        simp only [abbrBlock, List.flatMap_cons, List.length_append, List.length_cons] at hlen ⊢
        omega
      simp only [abbrIdx, List.zip_cons_cons, List.map_cons, mkTypesFrom, recOf]
      have e1 : (((UInt8.ofNat (abbrBlock done).length).toNat : Nat) : Int) = ((abbrBlock done).length : Int) := by
        simp only [toNat_ofNat]; omega
      have e2 : abbrBlock (done ++ t :: ts) = abbrBlock done ++ (t.abbr ++ [0]) ++ abbrBlock ts := by
        simp [abbrBlock]
      have ih' := ih (done ++ [t]) (by simpa using hok) (by simpa using hlen)
      have e3 : (abbrBlock (done ++ [t])).length = (abbrBlock done).length + t.abbr.length + 1 := by
        simp [abbrBlock]; omega
      rw [e3] at ih'
      simp only [List.append_assoc, List.cons_append, List.nil_append, List.length_append,
        List.length_cons, List.length_nil] at ih'
      congr 1
      rw [e1, e2, abbrAt_block _ _ _ (fun c hc => (habbr c hc).1), s8_u8 _ hd1 hd2,
        flagAt_map done t ts (fun t => t.isstd), flagAt_map done t ts (fun t => t.isgmt)]
      cases t; dsimp only at hd0; subst hd0; rfl

end TZ
