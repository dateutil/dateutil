/-
  Proofs/RenderClockFinal.lean — `YYYY-MM-DD H:MM AM|PM` (family 5) and `YYYY-MM-DD HHhMMmSSs` (family 6) of C02.
-/
import DateutilVerif.Proofs.RenderGenE
import DateutilVerif.Proofs.RenderIsoFinal

namespace PM
open Py PT

section
variable (cls : Char → CClass) [AsciiOK cls]

theorem parse_ampm (yf : Bool) (year century : Int) (o : Opts) (tznames : List Token) (tzi : TzInfos)
    (ho : PlainOpts o tzi) (dflt : DT) (hdv : dflt.Valid) (t : DT) (ht : t.Valid) :
    parse cls (Info.default false yf year century) o tznames tzi dflt (renderAmpm t) =
      .ok { dt := { t with ss := dflt.ss, us := dflt.us }, tz := .naive, tokens := none } := by
  have N := dtNums ht
  have hq := h12_bounds t.hh.toNat
  obtain ⟨nh, hnh, hH⟩ := isNum_dayTok (h12 t.hh.toNat) (by omega)
  have hAP := apWord_ok cls false yf year century t.hh.toNat
  -- the AM/PM word
  have hAPlex : scan cls .init (apWord t.hh.toNat) = [apWord t.hh.toNat] := by
    have := lex_alpha cls (apWord t.hh.toNat) [] (apWord_alpha _) (wordEnds_nil cls)
    simpa [scan_init_nil] using this
  have hlex : scan cls .init (renderAmpm t) =
      isoDateTokens t.y.toNat t.m.toNat t.d.toNat [' '] ++
        [dayTok (h12 t.hh.toNat), [':'], dtok [t.mm.toNat / 10, t.mm.toNat], [' '], apWord t.hh.toNat] := by
    obtain ⟨k, ks, e2, _, _⟩ := hH
    have e1 : dec12 (h12 t.hh.toNat) = dtok (k :: ks) := by
      rw [← e2]; unfold dec12 dayTok; split <;> rfl
    have e : renderAmpm t = pad4 t.y.toNat ++ ['-'] ++ pad2 t.m.toNat ++ ['-'] ++ pad2 t.d.toNat ++ [' '] ++
        (dtok (k :: ks) ++ (':' :: (pad2 t.mm.toNat ++ (' ' :: apWord t.hh.toNat)))) := by
      simp [renderAmpm, isoDate, e1]
    rw [e, lex_isoDate cls _ _ _ ' ' (Or.inr rfl), lex_dtok cls _ _ _ (numEnds_ascii cls _ _ (by decide)),
        lex_punct cls ':' _ (by decide), lex_pad2 cls _ _ (numEnds_ascii cls _ _ (by decide)), lex_sp, hAPlex, e2]
  refine tpl_date cls _ o tznames tzi ho.fz ho.fwt dflt _ _
    { hour := some t.hh.toNat, minute := some t.mm.toNat, ampm := some (if t.hh.toNat < 12 then 0 else 1) }
    { vals := [t.y.toNat, t.m.toNat, t.d.toNat], century := true, yIdx := some 0 } [5, 9] _ hlex ?_ ?_
  · refine (run_date3_hm (fuel := 2) (by rfl) (fun h => by cases h) (Or.inl rfl) (Or.inl rfl) N.y N.m N.d (by decide) (by decide) (by decide)
      (Or.inr (Or.inr (by decide))) hH N.mm (by omega) (by have := N.bmm; omega)).trans ?_
    refine (loop_sp (by rfl)).trans ?_
    exact loop_ampm (by rfl) hAP rfl hq.2 rfl (adjustAmpm_h12 _ N.bh)
  · refine finish_t yf year century o tznames tzi dflt ht _ _ t.y.toNat _ (by rw [ho.df]; exact resolve_Ymd _ _ _ _ _)
      (convertyear_full _ ht _ (Or.inl rfl)) rfl rfl (Or.inl rfl) ho.tz1 ?_
      (valid_fields ht (valid_hh ht) (valid_mm ht) (valid_ss hdv) (valid_us hdv))
    simp only [fieldOr, N.eh, N.emi]

theorem parse_hmsLetters (yf : Bool) (year century : Int) (o : Opts) (tznames : List Token) (tzi : TzInfos)
    (ho : PlainOpts o tzi) (dflt : DT) (t : DT) (ht : t.Valid) :
    parse cls (Info.default false yf year century) o tznames tzi dflt (renderHmsLetters t) =
      .ok { dt := { t with us := 0 }, tz := .naive, tokens := none } := by
  -- the template `hms_letters` without a suffix
  have hs : StrictOpts o tzi := ⟨ho.fz, ho.fwt, ho.tz1, ho.tz2⟩
  have := (rend_hms_letters cls yf year century o tznames tzi hs ho.df t dflt ht).tpl hs .naive trivial (wordEnds_nil cls) trivial
  simpa [str_hms_letters, renderHmsLetters, isoDate, Off.render, offZone_naive] using this

end
end PM
