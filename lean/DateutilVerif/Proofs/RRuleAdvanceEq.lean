/-
  Proofs/RRuleAdvanceEq.lean — `advance` frequency by frequency: the branch of the `if r.freq == …`
  chain that a given frequency selects, so that proofs about one frequency start from a small term
  (`split` on the unfolded `advance` is slow: every `split` re-traverses all seven branches).
-/
import DateutilVerif.Model.RRule

namespace RRule

variable (r : Rule) (st : State) (filtered : Bool)

theorem advance_yearly_eq (hf : r.freq = 0) :
    advance r st filtered =
      if st.cur.year + r.interval > 9999 then .error .maxYear
      else match rebuild r (st.cur.year + r.interval) st.cur.month with
        | .error e => .error (.error e)
        | .ok info => .ok { st with cur := { st.cur with year := st.cur.year + r.interval }, info := info } := by
  unfold advance
  simp only [hf]
  rfl

theorem advance_monthly_eq (hf : r.freq = 1) :
    advance r st filtered =
      if st.cur.month + r.interval > 12 then
        let dm := Py.divmod (st.cur.month + r.interval) 12
        let month' := if dm.2 == 0 then 12 else dm.2
        let year' := if dm.2 == 0 then st.cur.year + dm.1 - 1 else st.cur.year + dm.1
        if year' > 9999 then .error .maxYear
        else match rebuild r year' month' with
          | .error e => .error (.error e)
          | .ok info => .ok { st with cur := { st.cur with year := year', month := month' }, info := info }
      else match rebuild r st.cur.year (st.cur.month + r.interval) with
        | .error e => .error (.error e)
        | .ok info => .ok { st with cur := { st.cur with month := st.cur.month + r.interval }, info := info } := by
  unfold advance
  simp only [hf]
  rfl

theorem advance_weekly_eq (hf : r.freq = 2) :
    advance r st filtered =
      fixDay r { st with cur := { st.cur with
        day := if r.wkst > st.cur.weekday then st.cur.day + (-(st.cur.weekday + 1 + (6 - r.wkst)) + r.interval * 7)
               else st.cur.day + (-(st.cur.weekday - r.wkst) + r.interval * 7),
        weekday := r.wkst } } true := by
  unfold advance
  simp only [hf]
  rfl

theorem advance_daily_eq (hf : r.freq = 3) :
    advance r st filtered = fixDay r { st with cur := { st.cur with day := st.cur.day + r.interval } } true := by
  unfold advance
  simp only [hf]
  rfl

theorem advance_hourly_eq (hf : r.freq = 4) :
    advance r st filtered =
      let hour0 := if filtered then st.cur.hour + Py.fdiv (23 - st.cur.hour) r.interval * r.interval else st.cur.hour
      match (if truthy r.byhour then modDistance r.interval (r.byhour.getD []) 24 24 0 hour0
             else some (Py.divmod (hour0 + r.interval) 24)) with
      | none => .error (.error .TypeError)
      | some (ndays, hour) =>
        match gettimeset r hour st.cur.minute st.cur.second with
        | .error e => .error (.error e)
        | .ok ts =>
          fixDay r { st with cur := { st.cur with day := if ndays ≠ 0 then st.cur.day + ndays else st.cur.day,
                                                  hour := hour }, timeset := ts } (ndays ≠ 0) := by
  unfold advance
  simp only [hf]
  rfl

theorem advance_minutely_eq (hf : r.freq = 5) :
    advance r st filtered =
      let minute0 := if filtered then
          st.cur.minute + Py.fdiv (1439 - (st.cur.hour * 60 + st.cur.minute)) r.interval * r.interval
        else st.cur.minute
      match minutelyLoop r (Py.fdiv 1440 ((Int.gcd r.interval 1440 : Nat) : Int)).toNat minute0 st.cur.hour
          st.cur.day false with
      | .error s => .error s
      | .ok (minute, hour, day, fixday) =>
        match gettimeset r hour minute st.cur.second with
        | .error e => .error (.error e)
        | .ok ts =>
          fixDay r { st with cur := { st.cur with day := day, hour := hour, minute := minute }, timeset := ts }
            fixday := by
  unfold advance
  simp only [hf]
  rfl

theorem advance_secondly_eq (hf : r.freq = 6) :
    advance r st filtered =
      let second0 := if filtered then
          st.cur.second +
            Py.fdiv (86399 - (st.cur.hour * 3600 + st.cur.minute * 60 + st.cur.second)) r.interval * r.interval
        else st.cur.second
      match secondlyLoop r (Py.fdiv 86400 ((Int.gcd r.interval 86400 : Nat) : Int)).toNat second0 st.cur.minute
          st.cur.hour st.cur.day false with
      | .error s => .error s
      | .ok (second, minute, hour, day, fixday) =>
        match gettimeset r hour minute second with
        | .error e => .error (.error e)
        | .ok ts =>
          fixDay r { st with cur := { st.cur with day := day, hour := hour, minute := minute, second := second },
                             timeset := ts } fixday := by
  unfold advance
  simp only [hf]
  rfl

theorem advance_other_eq (hf : r.freq < 0 ∨ 6 < r.freq) :
    advance r st filtered = .error (.error .KeyError) := by
  unfold advance
  dsimp only
  rw [if_neg, if_neg, if_neg, if_neg, if_neg, if_neg, if_neg] <;> simp only [beq_iff_eq] <;> omega

end RRule
