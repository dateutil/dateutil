/-
  Proofs/ParserGenYmd.lean — the methods of `_ymd` re-translated from /repo's parser/_parser.py on every run
  (Generated/ParserOps.lean, translator harness/translate_parser.py, primitives Model/ParserPy.lean) are EQUAL to the
  hand-written model (Model/Parser.lean: `PM.Ymd.*`) that the C02 / C14 / C15 theorems are stated about.
  An edit of the source that changes the behaviour of a translated method changes Generated/ParserOps.lean and the
  corresponding `*_eq` theorem here stops checking (or the translation itself fails with a named construct).
-/
import DateutilVerif.Proofs.ParserGenMonad
import DateutilVerif.Proofs.Calendar

namespace PGen
open PM Py

theorem natOfInt_nat (k : Nat) : PPy.natOfInt (k : Int) = .ok k := by
  unfold PPy.natOfInt; simp

/-- `len(self) - 1` right after the append is the index of the new member: never negative -/
theorem natOfInt_len (l : List Nat) (n : Nat) :
    PPy.natOfInt (((l ++ [n]).length : Int) - (1 : Int)) = .ok l.length := by
  unfold PPy.natOfInt
  have : (((l ++ [n]).length : Int) - (1 : Int)) = (l.length : Int) := by
    rw [List.length_append]; simp
  rw [this]; simp

/-- the tail of the translated `append` (after the century rule): the three label arms -/
def labelArms (self : Ymd) (label : Label) : R Ymd :=
  Except.bind (if (label = PM.Label.M) then
    Except.bind (if ((decide (self.mIdx ≠ none)) = true) then .error .ValueError else .ok ()) (fun _ =>
      Except.bind (PPy.natOfInt ((self.vals.length : Int) - (1 : Int))) (fun n_2 =>
        let self := { self with mIdx := (some n_2) }
        .ok self))
    else
    Except.bind (if (label = PM.Label.D) then
      Except.bind (if ((decide (self.dIdx ≠ none)) = true) then .error .ValueError else .ok ()) (fun _ =>
        Except.bind (PPy.natOfInt ((self.vals.length : Int) - (1 : Int))) (fun n_3 =>
          let self := { self with dIdx := (some n_3) }
          .ok self))
      else
      Except.bind (if (label = PM.Label.Y) then
        Except.bind (if ((decide (self.yIdx ≠ none)) = true) then .error .ValueError else .ok ()) (fun _ =>
          Except.bind (PPy.natOfInt ((self.vals.length : Int) - (1 : Int))) (fun n_4 =>
            let self := { self with yIdx := (some n_4) }
            .ok self))
        else
        .ok self) (fun j_5 =>
        let self := j_5
        .ok self)) (fun j_6 =>
      let self := j_6
      .ok self)) (fun j_7 =>
    let self := j_7
    .ok self)

/-- the label arms on the state right after `vals ++ [n]` = the `match label` of the model's `appendCore` -/
theorem labelArms_eq (s : Ymd) (c : Bool) (n : Nat) (label : Label) :
    labelArms { s with vals := s.vals ++ [n], century := c } label =
      (match label with
       | .M => if s.mIdx.isSome then .error .ValueError
               else .ok { s with vals := s.vals ++ [n], century := c, mIdx := some s.vals.length }
       | .D => if s.dIdx.isSome then .error .ValueError
               else .ok { s with vals := s.vals ++ [n], century := c, dIdx := some s.vals.length }
       | .Y => if s.yIdx.isSome then .error .ValueError
               else .ok { s with vals := s.vals ++ [n], century := c, yIdx := some s.vals.length }
       | .none => .ok { s with vals := s.vals ++ [n], century := c }) := by
  unfold labelArms
  cases label
  · simp [bind_ok]
  · cases hy : s.yIdx <;> simp [bind_ok, bind_err, natOfInt_nat]
  · cases hm : s.mIdx <;> simp [bind_ok, bind_err, natOfInt_nat]
  · cases hd : s.dIdx <;> simp [bind_ok, bind_err, natOfInt_nat]

/-- `_ymd.append(int)` = `PM.Ymd.appendNat` -/
theorem appendNat_eq (cls : Char → CClass) (self : Ymd) (val : Nat) (label : Label) :
    Gen.P.ymd_appendNat cls self val label = self.appendNat val label := by
  unfold Gen.P.ymd_appendNat
  change Except.bind _ (fun (j : Ymd × Label) => labelArms { j.1 with vals := j.1.vals ++ [val] } j.2) = _
  unfold PM.Ymd.appendNat PM.Ymd.appendCore
  by_cases h : val > 100
  · cases label <;> simp [h, bind_ok, bind_err, labelArms_eq]
  · cases label <;> simp [h, bind_ok, labelArms_eq]

/-- `_ymd.append(Decimal)` = `PM.Ymd.appendDec` -/
theorem appendDec_eq (cls : Char → CClass) (self : Ymd) (val : Dec) (label : Label) :
    Gen.P.ymd_appendDec cls self val label = self.appendDec val label := by
  unfold Gen.P.ymd_appendDec
  change Except.bind _ (fun (j : Ymd × Label) => labelArms { j.1 with vals := j.1.vals ++ [PM.Dec.toNat val] } j.2) = _
  unfold PM.Ymd.appendDec PM.Ymd.appendCore
  cases h : val.gtNat 100
  · cases label <;> simp [bind_ok, labelArms_eq]
  · cases label <;> simp [bind_ok, bind_err, labelArms_eq]

/-- `_ymd.append(str)` = `PM.Ymd.appendTok` -/
theorem appendTok_eq (cls : Char → CClass) (self : Ymd) (val : Token) (label : Label) :
    Gen.P.ymd_appendTok cls self val label = self.appendTok cls val label := by
  unfold Gen.P.ymd_appendTok
  change Except.bind _ (fun (j : Ymd × Label) => Except.bind (PM.pyInt cls val) (fun i =>
    labelArms { j.1 with vals := j.1.vals ++ [i] } j.2)) = _
  unfold PM.Ymd.appendTok PM.Ymd.appendCore
  cases hv : PM.pyInt cls val with
  | error e =>
    cases hd : isDigitTok cls val <;> by_cases hl : val.length > 2 <;>
      cases label <;> simp [hl, bind_ok, bind_err]
  | ok n =>
    cases hd : isDigitTok cls val <;> by_cases hl : val.length > 2 <;>
      cases label <;> simp [hl, bind_ok, bind_err, labelArms_eq]

/-- `_ymd.append(str(n), label)` for an int `n ≥ 0` (the text of a year `convertyear` returned) = the model's
    `appendCore` on the number: the century rule looks at the LENGTH of the decimal text -/
theorem appendIntStr_eq (cls : Char → CClass) (self : Ymd) (n : Int) (label : Label) (hn : 0 ≤ n) :
    Gen.P.ymd_appendIntStr cls self n label = self.appendCore (PPy.intStrLen n > 2) (.ok n.toNat) label := by
  unfold Gen.P.ymd_appendIntStr
  change Except.bind _ (fun (j : Ymd × Label) => Except.bind (PPy.natOfInt n) (fun i =>
    labelArms { j.1 with vals := j.1.vals ++ [i] } j.2)) = _
  unfold PM.Ymd.appendCore
  have hnat : PPy.natOfInt n = .ok n.toNat := by
    unfold PPy.natOfInt; simp; omega
  generalize PPy.intStrLen n = len
  by_cases hl : len > 2 <;>
    cases label <;> simp [hl, hn, hnat, bind_ok, bind_err, labelArms_eq, PPy.intStrIsDigit]

theorem monthrange_nonneg {y m n : Int} (h : PM.monthrange y m = .ok n) : 0 ≤ n := by
  unfold PM.monthrange at h
  split at h
  · have := Cal.daysInMonth_bounds y m
    injection h with h; omega
  · cases h

theorem decLeInt_eq (v : Dec) (n : Int) (h : 0 ≤ n) : PPy.decLeInt v n = v.leNat n.toNat := by
  unfold PPy.decLeInt; simp; omega

/-- `1 <= value <= monthrange(y, m)[1]`, the upper bound evaluated only when the lower one holds -/
theorem dayTest_eq (v : Dec) (y m : Int) :
    ((if v.geNat 1 = true then Except.bind (PM.monthrange y m) fun dim => Except.ok (PPy.decLeInt v dim)
        else Except.ok false).bind fun b => (Except.ok b : R Bool))
      = (if v.geNat 1 = true then (fun a => v.leNat a.toNat) <$> PM.monthrange y m else pure false) := by
  cases hg : v.geNat 1
  · rfl
  · simp only [if_true]
    cases hm : PM.monthrange y m with
    | error e => rfl
    | ok n =>
      have := decLeInt_eq v n (monthrange_nonneg hm)
      show Except.ok (PPy.decLeInt v n) = Except.ok (v.leNat n.toNat)
      rw [this]

/-- `_ymd.could_be_day` = `PM.Ymd.couldBeDay` -/
theorem couldBeDay_eq (self : Ymd) (v : Dec) : Gen.P.ymd_couldBeDay self v = self.couldBeDay v := by
  unfold Gen.P.ymd_couldBeDay PM.Ymd.couldBeDay
  cases hd : self.dIdx with
  | some d => simp
  | none =>
    cases hm : self.mIdx with
    | none => simp
    | some mi =>
      cases hy : self.yIdx with
      | none =>
        simp only [PPy.optNat, bind_ok]
        cases hx : self.at mi with
        | error e => simp [bind_err]; rfl
        | ok month => simp [bind_ok]; exact dayTest_eq v _ _
      | some yi =>
        simp only [PPy.optNat, bind_ok]
        cases hx : self.at mi with
        | error e => simp [bind_err]; rfl
        | ok month =>
          cases hz : self.at yi with
          | error e => simp [bind_err, bind_ok]; rfl
          | ok year => simp [bind_ok]; exact dayTest_eq v _ _

theorem strids_eq (s : Ymd) :
    PPy.optEntry 'y' s.yIdx ++ PPy.optEntry 'm' s.mIdx ++ PPy.optEntry 'd' s.dIdx = s.strids := by
  unfold PM.Ymd.strids PPy.optEntry
  cases s.yIdx <;> cases s.mIdx <;> cases s.dIdx <;> rfl

theorem strids_len (s : Ymd) : s.strids.length = s.nlab := by
  unfold PM.Ymd.strids PM.Ymd.nlab
  cases s.yIdx <;> cases s.mIdx <;> cases s.dIdx <;> rfl

theorem at_nil (c : Bool) (d m y : Option Nat) (i : Int) :
    PM.Ymd.at ⟨[], c, d, m, y⟩ i = .error .IndexError := by
  unfold PM.Ymd.at Py.getIdx; simp

theorem at_zero (a : Nat) (r : List Nat) (c : Bool) (d m y : Option Nat) : PM.Ymd.at ⟨a :: r, c, d, m, y⟩ 0 = .ok a := by
  simp [PM.Ymd.at, Py.getIdx]
theorem at_one (a b : Nat) (r : List Nat) (c : Bool) (d m y : Option Nat) : PM.Ymd.at ⟨a :: b :: r, c, d, m, y⟩ 1 = .ok b := by
  simp [PM.Ymd.at, Py.getIdx]; omega
theorem at_two (a b e : Nat) (r : List Nat) (c : Bool) (d m y : Option Nat) :
    PM.Ymd.at ⟨a :: b :: e :: r, c, d, m, y⟩ 2 = .ok e := by
  simp [PM.Ymd.at, Py.getIdx]; omega

/-- `_ymd.resolve_ymd` = `PM.Ymd.resolve` (given the same for `_resolve_from_stridxs`): with the
    members written out every look-up is a value, and both sides normalise to the same decision tree -/
theorem resolveYmd_eq_of (self : Ymd) (yf df : Bool)
    (hs : Gen.P.ymd_resolveFromStridxs self self.strids = self.resolveFromStridxs) :
    Gen.P.ymd_resolveYmd self yf df = self.resolve yf df := by
  unfold Gen.P.ymd_resolveYmd PM.Ymd.resolve
  simp only [strids_eq, strids_len]
  by_cases hc : (self.vals.length = self.nlab ∧ self.nlab > 0) ∨ (self.vals.length = 3 ∧ self.nlab = 2)
  · simp only [hc, if_true, hs, bind_ok_id]
  · simp only [hc, if_false]
    unfold PM.Ymd.resolveRest
    clear hs hc
    rcases self with ⟨vals, c, d, m, y⟩
    match vals with
    | [] =>
      simp only [at_nil, List.length_nil, gt_iff_lt, Nat.not_lt_zero, if_false, Nat.reduceEqDiff, false_or, and_false,
        bind_ok, pure_eq]
    | [a] =>
      simp only [at_zero, bind_ok, List.length_cons, List.length_nil, Nat.reduceAdd, Nat.reduceEqDiff, Nat.reduceLT,
        if_false, and_false, if_true, gt_iff_lt, Nat.lt_irrefl, bind_eq, pure_eq, or_false, false_or, decide_eq_true_eq,
        bind_ite, bind_assoc]
      cases m <;> simp [PPy.optNat, bind_ok]
    | [a, b] =>
      simp only [at_zero, at_one, PPy.unpack2, bind_ok, List.length_cons, List.length_nil, Nat.reduceAdd,
        Nat.reduceEqDiff, Nat.reduceLT, if_false, false_or, if_true, gt_iff_lt, bind_eq, pure_eq, true_or, and_true,
        ite_and_ok, Bool.and_eq_true, decide_eq_true_eq, bind_ite, bind_assoc]
      cases m <;> simp [PPy.optNat, bind_ok]
    | [a, b, c] =>
      simp only [at_zero, at_one, at_two, PPy.unpack3, bind_ok, List.length_cons, List.length_nil, Nat.reduceAdd,
        Nat.reduceEqDiff, if_false, false_or, and_false, if_true, gt_iff_lt, Nat.lt_irrefl, bind_eq, pure_eq, ite_and_ok,
        ite_or_ok, Bool.and_eq_true, Bool.or_eq_true, decide_eq_true_eq, bind_ite, bind_assoc]
    | a :: b :: c :: e :: r =>
      simp [bind_err]; rfl

end PGen
