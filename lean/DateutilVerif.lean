import DateutilVerif.Audit.C01
import DateutilVerif.Audit.C02
import DateutilVerif.Audit.C03
import DateutilVerif.Audit.C04
import DateutilVerif.Audit.C05
import DateutilVerif.Audit.C06
import DateutilVerif.Audit.C07
import DateutilVerif.Audit.C08
import DateutilVerif.Audit.C09
import DateutilVerif.Audit.C10
import DateutilVerif.Audit.C11
import DateutilVerif.Audit.C12
import DateutilVerif.Audit.C13
import DateutilVerif.Audit.C14
import DateutilVerif.Audit.C15
import DateutilVerif.Audit.C16
import DateutilVerif.Audit.C17
import DateutilVerif.Audit.C18
import DateutilVerif.Audit.C19
import DateutilVerif.Audit.C20
import DateutilVerif.Base.Calendar
import DateutilVerif.Base.Py
import DateutilVerif.Base.Time
import DateutilVerif.Base.Wire
import DateutilVerif.Generated.Easter
import DateutilVerif.Generated.FactoryPrograms
import DateutilVerif.Generated.GettzNocache
import DateutilVerif.Generated.IsoKernels
import DateutilVerif.Generated.ParserKernels
import DateutilVerif.Generated.ParserOps
import DateutilVerif.Generated.RDKernels
import DateutilVerif.Generated.RDOps
import DateutilVerif.Generated.RRBaseCache
import DateutilVerif.Generated.RRBaseQueries
import DateutilVerif.Generated.RRuleKernels
import DateutilVerif.Generated.RRuleStrKernels
import DateutilVerif.Generated.RSetMerge
import DateutilVerif.Generated.ReplaceProgram
import DateutilVerif.Generated.Tables
import DateutilVerif.Generated.TzFixedKernels
import DateutilVerif.Generated.TzHelpKernels
import DateutilVerif.Generated.TzKernels
import DateutilVerif.Generated.TzLoadKernels
import DateutilVerif.Generated.TzObjKernels
import DateutilVerif.Generated.TzRfcKernels
import DateutilVerif.Generated.TzifKernels
import DateutilVerif.Generated.WdOps
import DateutilVerif.Model.BytesPy
import DateutilVerif.Model.Cache
import DateutilVerif.Model.CacheNested
import DateutilVerif.Model.CachePy
import DateutilVerif.Model.DtPy
import DateutilVerif.Model.Factory
import DateutilVerif.Model.FactoryIR
import DateutilVerif.Model.GettzResolve
import DateutilVerif.Model.GzPy
import DateutilVerif.Model.HelpPy
import DateutilVerif.Model.ICal
import DateutilVerif.Model.IsoParser
import DateutilVerif.Model.IsoTypes
import DateutilVerif.Model.Lexer
import DateutilVerif.Model.LoadPy
import DateutilVerif.Model.MergePy
import DateutilVerif.Model.ObjPy
import DateutilVerif.Model.Parser
import DateutilVerif.Model.ParserPy
import DateutilVerif.Model.Queries
import DateutilVerif.Model.RDHistory
import DateutilVerif.Model.RDPy
import DateutilVerif.Model.RDScale
import DateutilVerif.Model.RDTypes
import DateutilVerif.Model.RRule
import DateutilVerif.Model.RRuleReplace
import DateutilVerif.Model.RRuleSet
import DateutilVerif.Model.RRuleStr
import DateutilVerif.Model.RRuleTypes
import DateutilVerif.Model.Reduce
import DateutilVerif.Model.RelativeDelta
import DateutilVerif.Model.ReplacePy
import DateutilVerif.Model.RfcPy
import DateutilVerif.Model.RrPy
import DateutilVerif.Model.ScanPy
import DateutilVerif.Model.StrPy
import DateutilVerif.Model.TZif
import DateutilVerif.Model.TzRange
import DateutilVerif.Model.TzStr
import DateutilVerif.Model.TzifPy
import DateutilVerif.Model.WdPy
import DateutilVerif.Model.Zones
import DateutilVerif.Ops.Base
import DateutilVerif.Ops.CacheOps
import DateutilVerif.Ops.Factory
import DateutilVerif.Ops.GettzGen
import DateutilVerif.Ops.ICal
import DateutilVerif.Ops.IsoParser
import DateutilVerif.Ops.NestedOps
import DateutilVerif.Ops.Parser
import DateutilVerif.Ops.ParserGen
import DateutilVerif.Ops.QueryOps
import DateutilVerif.Ops.RRule
import DateutilVerif.Ops.RRuleGen
import DateutilVerif.Ops.RRuleStr
import DateutilVerif.Ops.RRuleStrGen
import DateutilVerif.Ops.RSetOps
import DateutilVerif.Ops.ReduceOps
import DateutilVerif.Ops.RelativeDelta
import DateutilVerif.Ops.ReplaceOps
import DateutilVerif.Ops.ScanOps
import DateutilVerif.Ops.TzGen
import DateutilVerif.Ops.TzHelpGen
import DateutilVerif.Ops.TzLoadGen
import DateutilVerif.Ops.TzObjGen
import DateutilVerif.Ops.TzStr
import DateutilVerif.Ops.TzifGen
import DateutilVerif.Ops.Weekday
import DateutilVerif.Ops.Zones
import DateutilVerif.Proofs.Bisect
import DateutilVerif.Proofs.CacheGlobal
import DateutilVerif.Proofs.CacheInv
import DateutilVerif.Proofs.CacheNested
import DateutilVerif.Proofs.CacheNestedInit
import DateutilVerif.Proofs.CacheNestedProgress
import DateutilVerif.Proofs.CacheNestedStep
import DateutilVerif.Proofs.CacheSolo
import DateutilVerif.Proofs.CacheStep
import DateutilVerif.Proofs.Calendar
import DateutilVerif.Proofs.DecodeEncode
import DateutilVerif.Proofs.Easter
import DateutilVerif.Proofs.EasterDefs
import DateutilVerif.Proofs.Encode
import DateutilVerif.Proofs.EqData
import DateutilVerif.Proofs.FactoryInv
import DateutilVerif.Proofs.FactoryLive
import DateutilVerif.Proofs.FactoryRank
import DateutilVerif.Proofs.FactoryReach
import DateutilVerif.Proofs.FactorySim
import DateutilVerif.Proofs.FactorySingle
import DateutilVerif.Proofs.FactoryStep
import DateutilVerif.Proofs.FactoryTerm
import DateutilVerif.Proofs.GenericICal
import DateutilVerif.Proofs.GenericZone
import DateutilVerif.Proofs.GettzGenEq
import DateutilVerif.Proofs.GettzResolve
import DateutilVerif.Proofs.ICal
import DateutilVerif.Proofs.ICalMalformed
import DateutilVerif.Proofs.ICalRfc
import DateutilVerif.Proofs.ICalTzStr
import DateutilVerif.Proofs.Islice
import DateutilVerif.Proofs.IsoDatetime
import DateutilVerif.Proofs.IsoDigits
import DateutilVerif.Proofs.IsoErrors
import DateutilVerif.Proofs.IsoGenEq
import DateutilVerif.Proofs.IsoGenLoop
import DateutilVerif.Proofs.IsoRender
import DateutilVerif.Proofs.IsoRenderDate
import DateutilVerif.Proofs.IsoRenderTime
import DateutilVerif.Proofs.IsoReview
import DateutilVerif.Proofs.IsoScan
import DateutilVerif.Proofs.IsoSound
import DateutilVerif.Proofs.IsoSoundDate
import DateutilVerif.Proofs.IsoSoundTime
import DateutilVerif.Proofs.IsoTzSound
import DateutilVerif.Proofs.IsoWeek
import DateutilVerif.Proofs.LexDot3
import DateutilVerif.Proofs.LexRender
import DateutilVerif.Proofs.LexSeg
import DateutilVerif.Proofs.LexerBound
import DateutilVerif.Proofs.ListSet
import DateutilVerif.Proofs.LocalZone
import DateutilVerif.Proofs.MergePy
import DateutilVerif.Proofs.OnsetsCycle
import DateutilVerif.Proofs.OnsetsLastLE
import DateutilVerif.Proofs.ParserFuzzy
import DateutilVerif.Proofs.ParserFuzzySyn
import DateutilVerif.Proofs.ParserGenHms
import DateutilVerif.Proofs.ParserGenInit
import DateutilVerif.Proofs.ParserGenLoop
import DateutilVerif.Proofs.ParserGenMonad
import DateutilVerif.Proofs.ParserGenNaive
import DateutilVerif.Proofs.ParserGenNum
import DateutilVerif.Proofs.ParserGenParse
import DateutilVerif.Proofs.ParserGenRecombine
import DateutilVerif.Proofs.ParserGenSmall
import DateutilVerif.Proofs.ParserGenStep
import DateutilVerif.Proofs.ParserGenStrids
import DateutilVerif.Proofs.ParserGenTail
import DateutilVerif.Proofs.ParserGenTzinfo
import DateutilVerif.Proofs.ParserGenYmd
import DateutilVerif.Proofs.ParserIso
import DateutilVerif.Proofs.ParserIsoRun
import DateutilVerif.Proofs.ParserIsoTok
import DateutilVerif.Proofs.ParserTotal
import DateutilVerif.Proofs.ParserWrites
import DateutilVerif.Proofs.PySat
import DateutilVerif.Proofs.Queries
import DateutilVerif.Proofs.QueryStops
import DateutilVerif.Proofs.RDAlgebra
import DateutilVerif.Proofs.RDApply
import DateutilVerif.Proofs.RDDiff
import DateutilVerif.Proofs.RDFix
import DateutilVerif.Proofs.RDGenEq
import DateutilVerif.Proofs.RDScale
import DateutilVerif.Proofs.RDYearday
import DateutilVerif.Proofs.RRuleAdvance
import DateutilVerif.Proofs.RRuleAdvanceEq
import DateutilVerif.Proofs.RRuleAmbient
import DateutilVerif.Proofs.RRuleBridge
import DateutilVerif.Proofs.RRuleConstruct
import DateutilVerif.Proofs.RRuleConstructSet
import DateutilVerif.Proofs.RRuleConstructSetIter
import DateutilVerif.Proofs.RRuleDaily
import DateutilVerif.Proofs.RRuleDailyW
import DateutilVerif.Proofs.RRuleDayFilter
import DateutilVerif.Proofs.RRuleDayset
import DateutilVerif.Proofs.RRuleDropInterval
import DateutilVerif.Proofs.RRuleEDaily
import DateutilVerif.Proofs.RRuleEFilter
import DateutilVerif.Proofs.RRuleEaster
import DateutilVerif.Proofs.RRuleEasterYearly
import DateutilVerif.Proofs.RRuleEmit
import DateutilVerif.Proofs.RRuleFilter
import DateutilVerif.Proofs.RRuleGenCached
import DateutilVerif.Proofs.RRuleGenDaysets
import DateutilVerif.Proofs.RRuleGenHelpers
import DateutilVerif.Proofs.RRuleGenInit
import DateutilVerif.Proofs.RRuleGenInitAll
import DateutilVerif.Proofs.RRuleGenInitWhole
import DateutilVerif.Proofs.RRuleGenLoops
import DateutilVerif.Proofs.RRuleGenRebuild
import DateutilVerif.Proofs.RRuleGenUse
import DateutilVerif.Proofs.RRuleHourly
import DateutilVerif.Proofs.RRuleHourlyBy
import DateutilVerif.Proofs.RRuleInterleave
import DateutilVerif.Proofs.RRuleLists
import DateutilVerif.Proofs.RRuleMasks
import DateutilVerif.Proofs.RRuleMinutely
import DateutilVerif.Proofs.RRuleMinutelyBH
import DateutilVerif.Proofs.RRuleMinutelyBHM
import DateutilVerif.Proofs.RRuleMinutelyBy
import DateutilVerif.Proofs.RRuleModDistance
import DateutilVerif.Proofs.RRuleMono
import DateutilVerif.Proofs.RRuleMonoAll
import DateutilVerif.Proofs.RRuleMonoCal
import DateutilVerif.Proofs.RRuleMonoSub
import DateutilVerif.Proofs.RRuleMonoThm
import DateutilVerif.Proofs.RRuleMonthlyE
import DateutilVerif.Proofs.RRuleMonthlyW
import DateutilVerif.Proofs.RRuleNth
import DateutilVerif.Proofs.RRuleNthBridge
import DateutilVerif.Proofs.RRuleNthEMonthly
import DateutilVerif.Proofs.RRuleNthEYM
import DateutilVerif.Proofs.RRuleNthEYearly
import DateutilVerif.Proofs.RRuleNthFilter
import DateutilVerif.Proofs.RRuleNthMonthly
import DateutilVerif.Proofs.RRuleNthWMonthly
import DateutilVerif.Proofs.RRuleNthWYM
import DateutilVerif.Proofs.RRuleNthWYearly
import DateutilVerif.Proofs.RRuleNthYM
import DateutilVerif.Proofs.RRuleNthYearly
import DateutilVerif.Proofs.RRuleOrig
import DateutilVerif.Proofs.RRulePeriod
import DateutilVerif.Proofs.RRuleRefine
import DateutilVerif.Proofs.RRuleRefineSkip
import DateutilVerif.Proofs.RRuleReplaceOrig
import DateutilVerif.Proofs.RRuleSecondly
import DateutilVerif.Proofs.RRuleSecondlyBHM
import DateutilVerif.Proofs.RRuleSecondlyBS
import DateutilVerif.Proofs.RRuleSet
import DateutilVerif.Proofs.RRuleSetSpec
import DateutilVerif.Proofs.RRuleSetpos
import DateutilVerif.Proofs.RRuleSorted
import DateutilVerif.Proofs.RRuleStrByDay
import DateutilVerif.Proofs.RRuleStrDate
import DateutilVerif.Proofs.RRuleStrDispatch
import DateutilVerif.Proofs.RRuleStrFold
import DateutilVerif.Proofs.RRuleStrGen
import DateutilVerif.Proofs.RRuleStrGenRule
import DateutilVerif.Proofs.RRuleStrGenStr
import DateutilVerif.Proofs.RRuleStrGenWDay
import DateutilVerif.Proofs.RRuleStrMalformed
import DateutilVerif.Proofs.RRuleStrOpts
import DateutilVerif.Proofs.RRuleStrOrder
import DateutilVerif.Proofs.RRuleStrRound
import DateutilVerif.Proofs.RRuleStrRule
import DateutilVerif.Proofs.RRuleStrSet
import DateutilVerif.Proofs.RRuleStrText
import DateutilVerif.Proofs.RRuleStrTzid
import DateutilVerif.Proofs.RRuleStrWhole
import DateutilVerif.Proofs.RRuleSubGrid
import DateutilVerif.Proofs.RRuleSubHourly
import DateutilVerif.Proofs.RRuleSubMinutely
import DateutilVerif.Proofs.RRuleSubSecondly
import DateutilVerif.Proofs.RRuleSubStep
import DateutilVerif.Proofs.RRuleSubTimes
import DateutilVerif.Proofs.RRuleSupported
import DateutilVerif.Proofs.RRuleTables
import DateutilVerif.Proofs.RRuleTimes
import DateutilVerif.Proofs.RRuleValid
import DateutilVerif.Proofs.RRuleWFilter
import DateutilVerif.Proofs.RRuleWeekly
import DateutilVerif.Proofs.RRuleWeeklyE
import DateutilVerif.Proofs.RRuleWeeklyW
import DateutilVerif.Proofs.RRuleWeekno
import DateutilVerif.Proofs.RRuleWeeknoEYearly
import DateutilVerif.Proofs.RRuleWeeknoMask
import DateutilVerif.Proofs.RRuleWeeknoYearly
import DateutilVerif.Proofs.RRuleYM
import DateutilVerif.Proofs.RSetHistory
import DateutilVerif.Proofs.RSetHistoryInv
import DateutilVerif.Proofs.Range
import DateutilVerif.Proofs.RangeZone
import DateutilVerif.Proofs.RenderBase
import DateutilVerif.Proofs.RenderClockFinal
import DateutilVerif.Proofs.RenderCompact
import DateutilVerif.Proofs.RenderCompactFrac
import DateutilVerif.Proofs.RenderCtimeOff
import DateutilVerif.Proofs.RenderFin
import DateutilVerif.Proofs.RenderFinish
import DateutilVerif.Proofs.RenderFrame
import DateutilVerif.Proofs.RenderGenA
import DateutilVerif.Proofs.RenderGenB
import DateutilVerif.Proofs.RenderGenC
import DateutilVerif.Proofs.RenderGenD
import DateutilVerif.Proofs.RenderGenE
import DateutilVerif.Proofs.RenderGenF
import DateutilVerif.Proofs.RenderGenG
import DateutilVerif.Proofs.RenderHmsFrac
import DateutilVerif.Proofs.RenderIsoFinal
import DateutilVerif.Proofs.RenderIsoX
import DateutilVerif.Proofs.RenderMonFinal
import DateutilVerif.Proofs.RenderNum
import DateutilVerif.Proofs.RenderPrep
import DateutilVerif.Proofs.RenderSchema
import DateutilVerif.Proofs.RenderSentence
import DateutilVerif.Proofs.RenderStep
import DateutilVerif.Proofs.RenderSuffix
import DateutilVerif.Proofs.RenderTac
import DateutilVerif.Proofs.RenderWords
import DateutilVerif.Proofs.ScanPy
import DateutilVerif.Proofs.SpecPre
import DateutilVerif.Proofs.Time
import DateutilVerif.Proofs.TzGenEq
import DateutilVerif.Proofs.TzGenEqGeneric
import DateutilVerif.Proofs.TzGenEqRange
import DateutilVerif.Proofs.TzObjEqICal
import DateutilVerif.Proofs.TzObjEqLocal
import DateutilVerif.Proofs.TzObjEqStr
import DateutilVerif.Proofs.TzStr
import DateutilVerif.Proofs.TzStrAbbr
import DateutilVerif.Proofs.TzStrBounds
import DateutilVerif.Proofs.TzStrBridge
import DateutilVerif.Proofs.TzStrCanon
import DateutilVerif.Proofs.TzStrDefs
import DateutilVerif.Proofs.TzStrNoRule
import DateutilVerif.Proofs.TzStrNoRuleDefs
import DateutilVerif.Proofs.TzStrParseAbbr
import DateutilVerif.Proofs.TzStrParseAll
import DateutilVerif.Proofs.TzStrParseFacts
import DateutilVerif.Proofs.TzStrParseGate
import DateutilVerif.Proofs.TzStrParseOff
import DateutilVerif.Proofs.TzStrParseRule
import DateutilVerif.Proofs.TzStrRange
import DateutilVerif.Proofs.TzStrRender
import DateutilVerif.Proofs.TzStrSpelling
import DateutilVerif.Proofs.TzStrTokens
import DateutilVerif.Proofs.TzStrWk
import DateutilVerif.Proofs.TzifGenBuild
import DateutilVerif.Proofs.TzifGenEq
import DateutilVerif.Proofs.YearlyOnsets
import DateutilVerif.Proofs.Zones
import DateutilVerif.Proofs.ZonesBuild
import DateutilVerif.Proofs.ZonesCount
import DateutilVerif.Proofs.ZonesFold
import DateutilVerif.Proofs.ZonesRaw
import DateutilVerif.Proofs.ZonesWall
import DateutilVerif.Properties.C01
import DateutilVerif.Properties.C02
import DateutilVerif.Properties.C03
import DateutilVerif.Properties.C04
import DateutilVerif.Properties.C05
import DateutilVerif.Properties.C06
import DateutilVerif.Properties.C07
import DateutilVerif.Properties.C08
import DateutilVerif.Properties.C08Abbr
import DateutilVerif.Properties.C08NoRule
import DateutilVerif.Properties.C08Pure
import DateutilVerif.Properties.C09
import DateutilVerif.Properties.C10
import DateutilVerif.Properties.C11
import DateutilVerif.Properties.C12
import DateutilVerif.Properties.C13
import DateutilVerif.Properties.C14
import DateutilVerif.Properties.C15
import DateutilVerif.Properties.C16
import DateutilVerif.Properties.C17
import DateutilVerif.Properties.C17Get
import DateutilVerif.Properties.C17Malformed
import DateutilVerif.Properties.C18
import DateutilVerif.Properties.C18Init
import DateutilVerif.Properties.C18Resolve
import DateutilVerif.Properties.C19
import DateutilVerif.Properties.C20
import DateutilVerif.Properties.ParserGen
import DateutilVerif.Properties.RRuleGen
import DateutilVerif.Properties.TzFixedEqGen
import DateutilVerif.Properties.TzFixedGen
import DateutilVerif.Properties.TzGen
import DateutilVerif.Properties.TzHelpGen
import DateutilVerif.Properties.TzLoadGen
import DateutilVerif.Properties.TzObjGen
import DateutilVerif.Properties.TzifGen
import DateutilVerif.Spec.Easter
import DateutilVerif.Spec.IsoForms
import DateutilVerif.Spec.ParserSentence
import DateutilVerif.Spec.ParserTemplates
import DateutilVerif.Spec.ParserTemplatesGen
import DateutilVerif.Spec.Posix
import DateutilVerif.Spec.Queries
import DateutilVerif.Spec.RRule
import DateutilVerif.Spec.RRuleSet
import DateutilVerif.Spec.RRuleSupported
import DateutilVerif.Spec.RSetHistory
import DateutilVerif.Spec.RelativeDelta
import DateutilVerif.Spec.Zones
